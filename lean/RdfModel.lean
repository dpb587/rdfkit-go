-- Root of the `RdfModel` library: imports every module so `lake build` checks everything.
import RdfModel.Model.Rune
import RdfModel.Model.Description
import RdfModel.Spec.GraphIso
import RdfModel.Props.C17
import RdfModel.Props.C19
import RdfModel.Props.C17Facts
import RdfModel.Props.C19Facts

import RdfModel.Props.C12
import RdfModel.Props.C12Facts
import RdfModel.Props.C12Wrap
import RdfModel.Props.C12WrapResolve
import RdfModel.Props.C12WrapDrop
import RdfModel.Props.C12WrapTables
import RdfModel.Props.IriUnify
import RdfModel.Model.RdfJson
import RdfModel.Props.C01RJ
import RdfModel.Model.BlankNodes
import RdfModel.Props.C14
import RdfModel.Props.C14Locks
import RdfModel.Props.C13
import RdfModel.Props.C13Facts
import RdfModel.Props.C20
import RdfModel.Props.C20Facts
import RdfModel.Props.C20Float
import RdfModel.Props.C20FloatFacts
import RdfModel.Props.C20Time
import RdfModel.Model.TurtleTokens
import RdfModel.Spec.TurtlePrinter
import RdfModel.Props.C02Tokens
import RdfModel.Props.C02TokensTables
import RdfModel.Props.C07Tables
import RdfModel.Props.C07Tokens
import RdfModel.Props.C08Tokens
import RdfModel.Props.C16
import RdfModel.Props.C16Ttl
import RdfModel.Props.C16TtlDoc
import RdfModel.Props.C16TtlDocO
import RdfModel.Props.C16TtlDocOSites
import RdfModel.Props.C16Opts
import RdfModel.Props.C05Latch
import RdfModel.Props.C06Sites
import RdfModel.Props.C09
import RdfModel.Props.C09Facts
import RdfModel.Props.C03
import RdfModel.Props.C03Tables
import RdfModel.Props.C03Relabel
import RdfModel.Props.C04
import RdfModel.Props.C04Tables
import RdfModel.Props.C04Facts
import RdfModel.Model.TurtleDoc
import RdfModel.Props.C05Ttl
import RdfModel.Props.C06Ttl
import RdfModel.Props.C07Ttl
import RdfModel.Props.C15Ttl
import RdfModel.Model.Pipe
import RdfModel.Props.C18
import RdfModel.Props.C18Targets
import RdfModel.Props.C18TargetsEx
import RdfModel.Props.C18Table
import RdfModel.Props.C11
import RdfModel.Props.C11Facts
import RdfModel.Props.C11Md
import RdfModel.Props.C11Ra
import RdfModel.Props.C11RaCompose
import RdfModel.Spec.RdfaPatterns
import RdfModel.Spec.MicrodataPatterns
import RdfModel.Props.C09Findings
import RdfModel.Props.C09Rfc
import RdfModel.Props.C09Dec
import RdfModel.Props.C09Dec2
import RdfModel.Props.C10
import RdfModel.Props.C10Facts
import RdfModel.Props.C10D
import RdfModel.Props.C10Ctx
import RdfModel.Props.C04Heap
import RdfModel.Model.TurtleEncoder
import RdfModel.Props.C02Doc
import RdfModel.Props.C02DocNest
import RdfModel.Spec.TurtleAbstract
import RdfModel.Props.C08Doc
import RdfModel.Props.C07Doc
import RdfModel.Props.C04History
import RdfModel.Props.C05NQ
import RdfModel.Props.C07NQ
