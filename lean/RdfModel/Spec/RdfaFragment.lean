/-
  RdfModel.Spec.RdfaFragment — RDFa Core 1.1 (§7.4 CURIE and IRI processing, §7.5 sequence) with the
  HTML+RDFa 1.1 §3.1 additional rules 7 (@property together with @rel/@rev) and 8 (head/body), as a
  denotation over abstract element trees (`Spec.HtmlTree`), and a writer from graphs to trees with
  markup choices.

  Written from the two W3C Recommendations, independent of the Go code. One reading is fixed here and
  documented: step 8 of §7.5 ("new subject … different from the parent object") is read as
  "different from the parent *subject*", which is what the W3C test suite requires (rdfa.info test 0226:
  a `@property @inlist` child of `<span rel resource>` starts its own list under the resource).

  Fragment (what the trees may contain): @about @resource @href @src @typeof @property @rel @rev @content
  @datatype @inlist @prefix @vocab @lang on any element; `html`/`head`/`body` as the root skeleton.
  Not in the fragment: xmlns: declarations, xml:lang, xml:base, <base>, <time>/@datetime, rdf:XMLLiteral and
  rdf:HTML literals, the `rdfa:copy` pattern expansion, processor-graph triples.

  Blank nodes of the output: `named l` for `_:l` in the document, `anon n` for the n-th blank node the
  processor makes itself.  Core-only, executable: the driver runs `denote` and `write`.
-/
import RdfModel.Spec.HtmlTree
import RdfModel.Spec.RFC3986
import RdfModel.Model.Description
namespace RdfModel.Spec.Rdfa
open RdfModel RdfModel.Spec.Html RdfModel.Desc

inductive BId where
  | named (l : Str)
  | anon (n : Nat)
  deriving DecidableEq, Repr, Inhabited

abbrev T := Term BId
abbrev Tr := Triple BId

def rdfType : Str := asc "http://www.w3.org/1999/02/22-rdf-syntax-ns#type"
def rdfFirst : Str := asc "http://www.w3.org/1999/02/22-rdf-syntax-ns#first"
def rdfRest : Str := asc "http://www.w3.org/1999/02/22-rdf-syntax-ns#rest"
def rdfNil : Str := asc "http://www.w3.org/1999/02/22-rdf-syntax-ns#nil"
def rdfXMLLiteral : Str := asc "http://www.w3.org/1999/02/22-rdf-syntax-ns#XMLLiteral"
def rdfHTML : Str := asc "http://www.w3.org/1999/02/22-rdf-syntax-ns#HTML"
def usesVocabulary : Str := asc "http://www.w3.org/ns/rdfa#usesVocabulary"
/-- the default prefix mapping of RDFa Core (`:next`) -/
def xhv : Str := asc "http://www.w3.org/1999/xhtml/vocab#"

/-- the part of the evaluation context that turns attribute values into terms -/
structure Env where
  base : Str
  /-- IRI mappings, most recent declaration first; prefixes are stored in lower case -/
  prefixes : List (Str × Str)
  /-- local default vocabulary -/
  vocab : Option Str
  /-- term mappings -/
  terms : List (Str × Str)
  deriving Repr, DecidableEq

/-! ### §7.4 CURIE and IRI processing -/

def isAlpha (c : Nat) : Bool := (65 ≤ c && c ≤ 90) || (97 ≤ c && c ≤ 122)
def isDigit (c : Nat) : Bool := 48 ≤ c && c ≤ 57
/-- NCNameStartChar (non-ASCII code points are all admitted: simplification of the XML ranges) -/
def isNameStart (c : Nat) : Bool := isAlpha c || c == 95 || 0x80 ≤ c
def isNameChar (c : Nat) : Bool := isNameStart c || isDigit c || c == 45 || c == 46
def isNCName : Str → Bool
  | [] => false
  | c :: r => isNameStart c && r.all isNameChar
/-- term ::= NCNameStartChar termChar*,  termChar ::= NameChar | '/' -/
def isTerm : Str → Bool
  | [] => false
  | c :: r => isNameStart c && r.all (fun x => isNameChar x || x == 47)

/-- RFC 3986 §5.2 reference resolution against the document base -/
def resolveRef (base ref : Str) : Str := RFC3986.resolve base ref

inductive CurieRes where
  | notCurie            -- the value is not a CURIE in this context
  | term (t : T)
  deriving Repr, DecidableEq

/-- §7.4.2: `prefix:reference` with a prefix in scope; `_:label`; `:reference` (default prefix). -/
def curie (E : Env) (s : Str) : CurieRes :=
  match splitColon s with
  | none => .notCurie
  | some (p, r) =>
    if p = [0x5f] then .term (.bnode (.named r))
    else if p = [] then .term (.iri (xhv ++ r))
    else if isNCName p then
      match alookup (toLowerAscii p) E.prefixes with
      | some ns => .term (.iri (ns ++ r))
      | none => .notCurie
    else .notCurie

/-- `[…]` -/
def safeInner : Str → Option Str
  | 0x5b :: rest =>
    match rest.reverse with
    | 0x5d :: mid => some mid.reverse
    | _ => none
  | _ => none

/-- SafeCURIEorCURIEorIRI (@about, @resource): `none` = the value is ignored -/
def resSCI (E : Env) (v : Str) : Option T :=
  match safeInner v with
  | some inner =>
    match curie E inner with
    | .term t => if inner = [] then none else some t
    | .notCurie => none
  | none =>
    match curie E v with
    | .term t => some t
    | .notCurie => some (.iri (resolveRef E.base v))

/-- IRI (@href, @src) -/
def resIRI (E : Env) (v : Str) : Option T := some (.iri (resolveRef E.base v))

def lookupCI (k : Str) : List (Str × Str) → Option Str
  | [] => none
  | (k', v) :: rest => if toLowerAscii k' = toLowerAscii k then some v else lookupCI k rest

/-- TERMorCURIEorAbsIRI (@property, @rel, @rev, @typeof, @datatype): `none` = ignored -/
def resTCA (E : Env) (v : Str) : Option Str :=
  match splitColon v with
  | none =>
    if isTerm v then
      match E.vocab with
      | some voc => some (voc ++ v)
      | none =>
        match alookup v E.terms with
        | some i => some i
        | none => lookupCI v E.terms
    else none
  | some _ =>
    match curie E v with
    | .term (.iri i) => some i
    | .term _ => none
    | .notCurie => some v

/-- the IRIs of a space-separated TERMorCURIEorAbsIRI list -/
def resTCAs (E : Env) (v : Str) : List Str := (fields v).filterMap (resTCA E)

/-! ### §7.5 -/

inductive Incomplete where
  | fwd (p : Str)
  | bwd (p : Str)
  | lst (p : Str)
  deriving Repr, DecidableEq

/-- list mapping: predicate ↦ items, in order of first use -/
abbrev LM := List (Str × List T)

def lmAdd (lm : LM) (p : Str) (x : T) : LM :=
  match lm with
  | [] => [(p, [x])]
  | (q, xs) :: rest => if q = p then (q, xs ++ [x]) :: rest else (q, xs) :: lmAdd rest p x

/-- make sure `p` has a (possibly empty) list -/
def lmTouch (lm : LM) (p : Str) : LM :=
  match lm with
  | [] => [(p, [])]
  | (q, xs) :: rest => if q = p then (q, xs) :: rest else (q, xs) :: lmTouch rest p

structure Ctx where
  env : Env
  parentSubject : T
  parentObject : T
  incomplete : List Incomplete
  lang : Option Str
  deriving Repr, DecidableEq

/-- step 3: `@prefix="p: iri q: iri"`; later declarations win; prefixes are lower-cased; `_` is not declarable -/
def prefixDecls : List Str → List (Str × Str)
  | p :: i :: rest =>
    match p.reverse with
    | 0x3a :: pr =>
      let name := toLowerAscii pr.reverse
      if name = [] || name = [0x5f] then prefixDecls rest else prefixDecls rest ++ [(name, i)]
    | _ => prefixDecls rest
  | _ => []

def plainLit (lex : Str) (lang : Option Str) : T :=
  match lang with
  | some l => .lit lex rdfLangString (some l)
  | none => .lit lex xsdString none

def fresh (n : Nat) : T := .bnode (.anon n)

/-- the results of steps 5 and 6 -/
structure Subj where
  newSubject : Option T
  cor : Option T
  typed : Option T
  skip : Bool
  next : Nat
  deriving Repr, DecidableEq

def orElse {α : Type} (a b : Option α) : Option α := match a with | some x => some x | none => b

/-- steps 5 and 6. `root`: the element is the root element; `hb`: it is `head` or `body` (HTML+RDFa rule 8);
    `hasRel`: @rel or @rev is present (after HTML+RDFa rule 7). -/
def subjStep (E : Env) (root hb hasRel : Bool) (a : Attrs) (parentObject : T) (n : Nat) : Subj :=
  let about := a.about.bind (resSCI E)
  let res3 := orElse (a.resource.bind (resSCI E)) (orElse (a.href.bind (resIRI E)) (a.src.bind (resIRI E)))
  let dflt : T := if root then .iri (resolveRef E.base []) else parentObject
  if hasRel then
    -- step 6
    let ns := about.getD dflt
    match res3 with
    | some o =>
      { newSubject := some ns, cor := some o,
        typed := if a.typeof.isSome then (if about.isSome then some ns else some o) else none,
        skip := false, next := n }
    | none =>
      if a.typeof.isSome && about.isNone then
        { newSubject := some ns, cor := some (fresh n), typed := some (fresh n), skip := false, next := n + 1 }
      else
        { newSubject := some ns, cor := none,
          typed := if a.typeof.isSome then some ns else none, skip := false, next := n }
  else if a.property.isSome && a.content.isNone && a.datatype.isNone then
    -- step 5.1
    let ns := about.getD dflt
    if a.typeof.isSome then
      if about.isSome || root then
        { newSubject := some ns, cor := none, typed := some ns, skip := false, next := n }
      else
        match res3 with
        | some o => { newSubject := some ns, cor := some o, typed := some o, skip := false, next := n }
        | none => { newSubject := some ns, cor := some (fresh n), typed := some (fresh n), skip := false, next := n + 1 }
    else { newSubject := some ns, cor := none, typed := none, skip := false, next := n }
  else
    -- step 5.2
    match orElse about res3 with
    | some s => { newSubject := some s, cor := none, typed := if a.typeof.isSome then some s else none, skip := false, next := n }
    | none =>
      if root || hb then
        { newSubject := some dflt, cor := none, typed := if a.typeof.isSome then some dflt else none, skip := false, next := n }
      else if a.typeof.isSome then
        { newSubject := some (fresh n), cor := none, typed := some (fresh n), skip := false, next := n + 1 }
      else
        { newSubject := some parentObject, cor := none, typed := none, skip := a.property.isNone, next := n }

/-- HTML+RDFa rule 7: with @property on the element, @rel/@rev values that are terms are dropped; an attribute
    left without values is treated as absent -/
def filterRel (hasProperty : Bool) (v : Option Str) : Option Str :=
  match v with
  | none => none
  | some s =>
    if hasProperty then
      let kept := (fields s).filter (fun t => (splitColon t).isSome)
      if kept.isEmpty then none else some (kept.foldr (fun t acc => t ++ (if acc.isEmpty then [] else 32 :: acc)) [])
    else some s

/-- step 11: the current property value (`none`: cannot happen in the fragment) -/
def propertyValue (E : Env) (a : Attrs) (hasRel : Bool) (typed : Option T) (lang : Option Str) (txt : Str) : T :=
  let lex := a.content.getD txt
  match a.datatype with
  | some d =>
    match (if d = [] then none else resTCA E d) with
    | some dt => .lit lex dt none
    | none => plainLit lex lang
  | none =>
    match a.content with
    | some c => plainLit c lang
    | none =>
      let res3 := orElse (a.resource.bind (resSCI E)) (orElse (a.href.bind (resIRI E)) (a.src.bind (resIRI E)))
      match (if hasRel then none else res3) with
      | some o => o
      | none =>
        match (if a.typeof.isSome && a.about.isNone then typed else none) with
        | some t => t
        | none => plainLit txt lang

/-- step 12 -/
def complete (parentSubject ns : T) : List Incomplete → LM → List Tr × LM
  | [], lm => ([], lm)
  | .fwd p :: rest, lm => let r := complete parentSubject ns rest lm; (⟨parentSubject, p, ns⟩ :: r.1, r.2)
  | .bwd p :: rest, lm => let r := complete parentSubject ns rest lm; (⟨ns, p, parentSubject⟩ :: r.1, r.2)
  | .lst p :: rest, lm => complete parentSubject ns rest (lmAdd lm p ns)

/-- step 14 for one list: `s p (items)` with fresh cells `anon n`, `anon (n+1)`, … -/
def listCells : Nat → List T → List Tr
  | _, [] => []
  | n, [x] => [⟨fresh n, rdfFirst, x⟩, ⟨fresh n, rdfRest, .iri rdfNil⟩]
  | n, x :: y :: rest => ⟨fresh n, rdfFirst, x⟩ :: ⟨fresh n, rdfRest, fresh (n + 1)⟩ :: listCells (n + 1) (y :: rest)

def emitLists (s : T) : LM → Nat → List Tr × Nat
  | [], n => ([], n)
  | (p, []) :: rest, n => let r := emitLists s rest n; (⟨s, p, .iri rdfNil⟩ :: r.1, r.2)
  | (p, x :: xs) :: rest, n =>
    let r := emitLists s rest (n + (x :: xs).length)
    (listCells n (x :: xs) ++ ⟨s, p, fresh n⟩ :: r.1, r.2)

/-- result of processing: triples in document order, the (possibly extended) list mapping of the context,
    the blank-node counter -/
structure Res where
  out : List Tr
  lm : LM
  next : Nat
  deriving Repr

/-- what steps 1–12 compute for one element, before its children are looked at -/
structure Local where
  /-- triples of steps 2, 7, 9, 11, 12 -/
  out : List Tr
  /-- the context's list mapping after step 12 -/
  lmCtx : LM
  /-- the local list mapping after step 12 -/
  lmLoc : LM
  /-- evaluation context for the children (step 13) -/
  kid : Ctx
  skip : Bool
  /-- step 8 made a new list mapping -/
  freshLM : Bool
  /-- new subject (or the parent subject when there is none): the subject of step 14 -/
  ns : T
  next : Nat
  deriving Repr

/-- steps 1–12 for an element with tag `tag`, attributes `a` and text content `txt` -/
def elemLocal (C : Ctx) (lm : LM) (n : Nat) (tag : Tag) (a : Attrs) (txt : Str) : Local :=
    let root := tag == .html
    let hb := tag == .head || tag == .body
    -- step 2
    let vocab' : Option Str :=
      match a.vocab with
      | none => C.env.vocab
      | some v => if v = [] then none else some v
    let out2 : List Tr :=
      match a.vocab with
      | some v => if v = [] then [] else [⟨.iri (resolveRef C.env.base []), usesVocabulary, .iri v⟩]
      | none => []
    -- step 3
    let prefixes' := (match a.pfx with | some p => prefixDecls (fields p) | none => []) ++ C.env.prefixes
    -- step 4
    let lang' : Option Str := match a.lang with | some l => (if l = [] then none else some l) | none => C.lang
    let E : Env := { C.env with prefixes := prefixes', vocab := vocab' }
    -- HTML+RDFa rule 7
    let rel := filterRel a.property.isSome a.rel
    let rev := filterRel a.property.isSome a.rev
    let hasRel := rel.isSome || rev.isSome
    -- steps 5, 6
    let S := subjStep E root hb hasRel a C.parentObject n
    -- step 7
    let out7 : List Tr :=
      match S.typed, a.typeof with
      | some t, some ty => (resTCAs E ty).map (fun i => ⟨t, rdfType, .iri i⟩)
      | _, _ => []
    -- step 8
    let freshLM : Bool := match S.newSubject with | some s => s != C.parentSubject | none => false
    let lm0 : LM := if freshLM then [] else lm
    let ns : T := S.newSubject.getD C.parentSubject
    let rels := match rel with | some r => resTCAs E r | none => []
    let revs := match rev with | some r => resTCAs E r | none => []
    -- steps 9, 10
    let r9 : List Tr × LM × Option T × List Incomplete × Nat :=
      match S.cor with
      | some o =>
        if a.inlist.isSome then
          (revs.map (fun p => ⟨o, p, ns⟩), rels.foldl (fun m p => lmAdd m p o) lm0, some o, [], S.next)
        else
          (rels.map (fun p => ⟨ns, p, o⟩) ++ revs.map (fun p => ⟨o, p, ns⟩), lm0, some o, [], S.next)
      | none =>
        if hasRel then
          let inc := (if a.inlist.isSome then rels.map Incomplete.lst else rels.map Incomplete.fwd) ++ revs.map Incomplete.bwd
          ([], (if a.inlist.isSome then rels.foldl lmTouch lm0 else lm0), some (fresh S.next), inc, S.next + 1)
        else ([], lm0, none, [], S.next)
    let out9 := r9.1
    let lm9 := r9.2.1
    let cor := r9.2.2.1
    let inc := r9.2.2.2.1
    let n9 := r9.2.2.2.2
    -- step 11
    let r11 : List Tr × LM :=
      match a.property with
      | none => ([], lm9)
      | some pv =>
        let v := propertyValue E a hasRel S.typed lang' txt
        let ps := resTCAs E pv
        if a.inlist.isSome then ([], ps.foldl (fun m p => lmAdd m p v) lm9)
        else (ps.map (fun p => ⟨ns, p, v⟩), lm9)
    let out11 := r11.1
    let lm11 := r11.2
    -- step 12 (the pending lists live in the list mapping of the context)
    let r12 : List Tr × LM × LM :=
      if !S.skip && S.newSubject.isSome then
        if freshLM then
          let r := complete C.parentSubject ns C.incomplete lm
          (r.1, r.2, lm11)
        else
          let r := complete C.parentSubject ns C.incomplete lm11
          (r.1, r.2, r.2)
      else (([] : List Tr), lm, lm11)
    -- step 13
    let kid : Ctx :=
      if S.skip then { C with env := E, lang := lang' }
      else
        { env := E, parentSubject := ns,
          parentObject := (match cor with | some o => o | none => ns),
          incomplete := inc, lang := lang' }
    { out := if S.skip then out2 else out2 ++ out7 ++ out9 ++ out11 ++ r12.1,
      lmCtx := r12.2.1, lmLoc := r12.2.2, kid := kid, skip := S.skip, freshLM := freshLM, ns := ns, next := n9 }

mutual
/-- §7.5 for one node. `lm` is the list mapping of the evaluation context. -/
def procNode (C : Ctx) (lm : LM) (n : Nat) : Tree → Res
  | .text _ => { out := [], lm := lm, next := n }
  | .elem tag a kids =>
    let L := elemLocal C lm n tag a (textOfList kids)
    if L.skip then
      -- step 13, skip element: the children see the context's own list mapping
      let rk := procKids L.kid lm L.next kids
      { out := L.out ++ rk.out, lm := rk.lm, next := rk.next }
    else
      let rk := procKids L.kid L.lmLoc L.next kids
      if L.freshLM then
        -- step 14: the lists made at or below this element
        let r14 := emitLists L.ns rk.lm rk.next
        { out := L.out ++ rk.out ++ r14.1, lm := L.lmCtx, next := r14.2 }
      else
        { out := L.out ++ rk.out, lm := rk.lm, next := rk.next }
def procKids (C : Ctx) (lm : LM) (n : Nat) : List Tree → Res
  | [] => { out := [], lm := lm, next := n }
  | k :: ks =>
    let r1 := procNode C lm n k
    let r2 := procKids C r1.lm r1.next ks
    { out := r1.out ++ r2.out, lm := r2.lm, next := r2.next }
end

def dropFragment (s : Str) : Str := s.takeWhile (· != 0x23)

/-- The graph an HTML+RDFa document denotes. `base`: the document base; `prefixes`, `terms`: the initial context. -/
def denote (base : Str) (prefixes terms : List (Str × Str)) (doc : Tree) : List Tr :=
  let b := dropFragment base
  let C : Ctx := { env := { base := b, prefixes := prefixes, vocab := none, terms := terms },
                   parentSubject := .iri (resolveRef b []), parentObject := .iri (resolveRef b []),
                   incomplete := [], lang := none }
  let r := procNode C [] 0 doc
  r.out ++ (emitLists (.iri (resolveRef b [])) r.lm r.next).1


/-! ## Writer: graph → HTML+RDFa tree, with markup choices

  The writer covers a graph by *blocks*, each the markup of the next one, two or three triples. A block comes
  from a candidate builder driven by the choices (`build`, arbitrary — the pattern library used by the
  harness is `Pat.build`, Spec/RdfaPatterns.lean). A candidate is kept only if running the §7.5 sequence on it, in the
  context the block will stand in, yields exactly its triples (translation validation: `validBlock`); otherwise the
  writer falls back to the canonical one-element markup of a single triple (`canon`). The round-trip theorem
  (Props/C11.lean) therefore holds for every `build`, and rests on: the canonical block is right for every
  expressible triple, and blocks compose. -/

section Writer
variable {β : Type}

def bnodeRef (l : Str) : Str := 0x5f :: 0x3a :: l

/-- how a subject/object resource is spelt in @about/@resource when nothing shorter is chosen -/
def refOf (lbl : β → Str) : Term β → Option Str
  | .iri i => some i
  | .bnode b => some (bnodeRef (lbl b))
  | .lit _ _ _ => none

def sigma (lbl : β → Str) : β → BId := fun b => .named (lbl b)

/-- canonical markup of one triple: `<span about property content [datatype] lang>` for a literal object,
    `<span about rel resource>` otherwise -/
def canon (lbl : β → Str) (t : Triple β) : Tree :=
  match t.o with
  | .lit lex dt lang =>
    .elem .span { about := refOf lbl t.s, property := some t.p, content := some lex,
                  datatype := (if lang.isSome || dt == xsdString then none else some dt),
                  lang := some (lang.getD []) } []
  | o => .elem .span { about := refOf lbl t.s, rel := some t.p, resource := refOf lbl o } []

def expect (lbl : β → Str) (ts : List (Triple β)) : List Tr := ts.map (Triple.map (sigma lbl))

/-- does the block, standing among the children of an element whose child context is `C` (empty list
    mapping, counter `n`), denote exactly `exp`, leaving the list mapping as it was? (The counter may move: a
    hanging @rel makes a blank node even when no triple ever mentions it.) -/
def validBlock (C : Ctx) (n : Nat) (blk : Tree) (exp : List Tr) : Bool :=
  let r := procNode C [] n blk
  r.out.isPerm exp && r.lm == []

variable {κ : Type}

/-- cover the triples by blocks: choice `c` proposes markup for the next `take c + 1` triples; a proposal that
    does not validate is replaced by the canonical blocks of the same triples. `n`: the processor's blank-node
    counter when it reaches the block. -/
def writeBlocks (lbl : β → Str) (C : Ctx) (take : κ → Nat) (build : κ → List (Triple β) → Tree) :
    Nat → List κ → List (Triple β) → List Tree
  | _, _, [] => []
  | n, [], t :: ts => canon lbl t :: writeBlocks lbl C take build n [] ts
  | n, c :: cs, t :: ts =>
    let chunk := (t :: ts).take (take c + 1)
    let cand := build c chunk
    if validBlock C n cand (expect lbl chunk) then
      cand :: writeBlocks lbl C take build (procNode C [] n cand).next cs (ts.drop (take c))
    else
      chunk.map (canon lbl) ++ writeBlocks lbl C take build n cs (ts.drop (take c))
termination_by _ _ ts => ts.length
decreasing_by
  all_goals simp_wf
  all_goals (try (have := List.length_drop (i := take c) (l := ts))) <;> omega

/-- what the writer requires of a subject / object IRI, a predicate and a literal in the environment `E` of
    the blocks: written out in full they denote themselves -/
def okRes (E : Env) : Term β → Bool
  | .iri i => resSCI E i == some (.iri i)
  | .bnode _ => true
  | .lit _ _ _ => false

def okPred (E : Env) (p : Str) : Bool := resTCAs E p == [p]

def okObj (E : Env) : Term β → Bool
  | .iri i => resSCI E i == some (.iri i)
  | .bnode _ => true
  | .lit _ dt lang =>
    match lang with
    | some l => dt == rdfLangString && l != []
    | none => dt == xsdString ||
        (dt != rdfLangString && dt != rdfXMLLiteral && dt != rdfHTML && dt != [] && resTCA E dt == some dt)

/-- the graph can be written in RDFa under `E`: subjects are IRIs or blank nodes, and every IRI, written out in
    full, is read back as itself (it is absolute, its scheme is not a prefix in scope, it has no whitespace) -/
def expressible (E : Env) (g : List (Triple β)) : Bool :=
  g.all (fun t => okRes E t.s && okPred E t.p && okObj E t.o)

/-- the skeleton `<html prefix lang><head/><body prefix lang>` -/
structure Skel where
  htmlPfx : Option Str := none
  htmlLang : Option Str := none
  bodyPfx : Option Str := none
  bodyLang : Option Str := none
  deriving Repr, DecidableEq

def skelAttrs (p l : Option Str) : Attrs := { pfx := p, lang := l }

def langOf (l : Option Str) (inherited : Option Str) : Option Str :=
  match l with | some x => (if x = [] then none else some x) | none => inherited

def declsOf (p : Option Str) : List (Str × Str) := match p with | some v => prefixDecls (fields v) | none => []

/-- evaluation context of the children of `body` under skeleton `sk` -/
def bodyCtx (base : Str) (prefixes terms : List (Str × Str)) (sk : Skel) : Ctx :=
  let b := dropFragment base
  { env := { base := b, prefixes := declsOf sk.bodyPfx ++ (declsOf sk.htmlPfx ++ prefixes), vocab := none, terms := terms },
    parentSubject := .iri (resolveRef b []), parentObject := .iri (resolveRef b []), incomplete := [],
    lang := langOf sk.bodyLang (langOf sk.htmlLang none) }

def docOf (sk : Skel) (blocks : List Tree) : Tree :=
  .elem .html (skelAttrs sk.htmlPfx sk.htmlLang)
    [.elem .head {} [], .elem .body (skelAttrs sk.bodyPfx sk.bodyLang) blocks]

/-- The writer. `sk`: skeleton choice (dropped when the graph would not be expressible under its prefix
    declarations); `cs`: block choices. -/
def write (base : Str) (prefixes terms : List (Str × Str)) (lbl : β → Str) (take : κ → Nat)
    (build : Ctx → κ → List (Triple β) → Tree) (sk : Skel) (cs : List κ) (g : List (Triple β)) : Tree :=
  let sk' := if expressible (bodyCtx base prefixes terms sk).env g then sk else {}
  let C := bodyCtx base prefixes terms sk'
  docOf sk' (writeBlocks lbl C take (build C) 0 cs g)

end Writer

end RdfModel.Spec.Rdfa
