/-
  RdfModel.Model.TurtleOffsets — the token producers of encoding/turtle and encoding/trig
  (`Model.TurtleTokens`, namespace `Ttl`) once more, now with the text-offset bookkeeping of the Go
  code (decoder_offsets_util.go: `commit`, `commitForTextOffsetRange`, `getTextOffset`,
  `newOffsetError`; rune buffer offset `RuneBuffer.o`).  `Model.TurtleTokens` deliberately ignores that
  bookkeeping; `Props/C16Ttl.lean` proves that this model refines it (erasure), that every consumed
  rune is committed exactly once, and that the reported range delimits exactly the token.

  Scope: the seven token producers only (produceIRIREF, produceString, producePNAME_NS,
  producePrefixedName, produceBlankNode, produceLANGTAG, produceNumericLiteral).  The statement layer
  is instrumented in `Model.TurtleDocOffsets`, which calls these producers.

  Input: decoded runes `(code point, byte size)` as `RuneBuffer.NextRune` yields them (`TW.RP`), the
  first one being the rune `r0` the Go caller has already read and passes as argument; `s` is the
  bookkeeping state *before* that read (so the producer model starts with `s.read r0`).  `[]` = the
  caller's `NextRune` failed (no producer is called; the hook returns the reader's error unwrapped).

  State, histories, ranges and error offsets are those of `Model.NQOffsets` (`NQO.S`: rune buffer byte
  offset + writer history; `NQO.SRange`; `NQO.EOff` with `S.offErr` = `newOffsetError`, which is the
  same function in all four decoder packages).

  Flags (both `false` = the repaired code, which is what the driver runs):
    * `legacy`  — `produceString` before patch c16x-1 (DESIGN D18): after an empty string `""` followed
      by another rune, that rune is handed back to the buffer *and* committed; after `""` at the end
      of the input only the opening quote is committed.
    * `labelOnly` — `produceBlankNode` before patch c16x-2: the reported range starts after the `_:`
      (which is committed separately) instead of at it.
  `trig` selects the one place where the two packages report different error offsets
  (`producePNAME_NS` without a `:`).
-/
import RdfModel.Model.TurtleTokens
import RdfModel.Model.NQOffsets
namespace RdfModel.TtlO
open RdfModel RdfModel.TW RdfModel.NQO

abbrev End := Ttl.End
abbrev EClass := Ttl.EClass
abbrev Tables := Ttl.Tables
abbrev SState := Ttl.SState

/-- Result of an instrumented producer: value, the token's `Offsets` field, bookkeeping state and
    remaining input; or an error class with the offset attached to the error; or a Go panic. -/
inductive RO (α : Type) where
  | ok (v : α) (rg : Option SRange) (s : S) (rest : List RP)
  | err (e : EClass) (o : EOff)
  | panic
  deriving Repr

/-- Forget the bookkeeping: what `Model.TurtleTokens` returns. -/
def RO.erase {α : Type} : RO α → Ttl.Res α
  | .ok v _ _ rest => .ok v (runes rest)
  | .err e _ => .err e
  | .panic => .panic

/-- `commitForTextOffsetRange(tok)` in state `s` with `rest` left: the common successful exit. -/
def done {α : Type} (v : α) (s : S) (tok : Chunk) (rest : List RP) : RO α :=
  .ok v (s.range tok) (s.commit tok) rest

/-! ## produceIRIREF -/

/-- Body of `produceIRIREF`. `unc` is Go's `uncommitted` (reversed): every rune read since and
    including the `<` (inside an escape also the `\`, `u`/`U` and hex digits read so far). -/
def scanIRIREF (T : Tables) (e : End) : SState → S → List RP → List Nat → Chunk → RO (List Nat)
  | .hex _ _, _, [], _, _ => .err e.cls .none            -- decodeUCHAR: `R_UCHAR.Err(err)`, no offset
  | .body, s, [], _, unc => .err e.cls (s.offErr unc.reverse 0)
  | .esc, s, [], _, unc => .err e.cls (s.offErr unc.reverse 0)
  | .body, s, c :: rest, acc, unc =>
    if c.1 = 0x3e then done (goString acc.reverse) (s.read c) (c :: unc).reverse rest
    else if c.1 = 0x5c then scanIRIREF T e .esc (s.read c) rest acc (c :: unc)
    else if Ttl.iriForbidden c.1 then .err .syntax ((s.read c).offErr unc.reverse c.2)
    else scanIRIREF T e .body (s.read c) rest (c.1 :: acc) (c :: unc)
  | .esc, s, c :: rest, acc, unc =>
    if c.1 = 0x75 then scanIRIREF T e (.hex Ttl.uchar4Maxs 0) (s.read c) rest acc (c :: unc)
    else if c.1 = 0x55 then scanIRIREF T e (.hex Ttl.uchar8Maxs 0) (s.read c) rest acc (c :: unc)
    else .err .syntax ((s.read c).offErr unc.reverse c.2)
  | .hex [] _, _, _ :: _, _, _ => .err .syntax .none
  | .hex (m :: ms) v, s, c :: rest, acc, unc =>
    match lookup T.hexDec 0 c.1 with
    | 0 => .err .syntax ((s.read c).offErr unc.reverse c.2)
    | d + 1 =>
      if d > m then .err .syntax .none                   -- ExceedsMaxUnicodePointErr, no offset
      else match ms with
        | [] => scanIRIREF T e .body (s.read c) rest ((v * 16 + d) :: acc) (c :: unc)
        | _ :: _ => scanIRIREF T e (.hex ms (v * 16 + d)) (s.read c) rest acc (c :: unc)

def produceIRIREF (T : Tables) (e : End) (s : S) : List RP → RO (List Nat)
  | [] => .err e.cls .none
  | c :: rest =>
    if c.1 = 0x3c then scanIRIREF T e .body (s.read c) rest [] [c]
    else .err .syntax ((s.read c).offErr [] c.2)

/-! ## produceString -/

/-- Loop of `produceString` (label START_DELIMITER_DONE). A reader error right after a `\` is
    reported with `uncommitted` *without* that backslash (`unc.drop 1`), as the Go code does. -/
def scanString (T : Tables) (e : End) (delim : Nat) (triple : Bool) :
    SState → S → List RP → List Nat → Chunk → RO (List Nat)
  | .hex _ _, _, [], _, _ => .err e.cls .none
  | .body, s, [], _, unc => .err e.cls (s.offErr unc.reverse 0)
  | .esc, s, [], _, unc => .err e.cls (s.offErr (unc.drop 1).reverse 0)
  | .body, s, c :: rest, acc, unc =>
    if c.1 = 0x22 ∨ c.1 = 0x27 then
      if c.1 = delim then
        if !triple then done (goString acc.reverse) (s.read c) (c :: unc).reverse rest
        else match rest with
          | [] => .err e.cls ((s.read c).offErr (c :: unc).reverse 0)
          | c1 :: r1 =>
            if c1.1 = delim then
              match r1 with
              | [] => .err e.cls (((s.read c).read c1).offErr (c1 :: c :: unc).reverse 0)
              | c2 :: r2 =>
                if c2.1 = delim then
                  done (goString acc.reverse) (((s.read c).read c1).read c2) (c2 :: c1 :: c :: unc).reverse r2
                else scanString T e delim triple .body (s.read c) rest (c.1 :: acc) (c :: unc)   -- BacktrackRunes(r1, r2)
            else scanString T e delim triple .body (s.read c) rest (c.1 :: acc) (c :: unc)       -- BacktrackRunes(r1)
      else scanString T e delim triple .body (s.read c) rest (c.1 :: acc) (c :: unc)
    else if c.1 = 0x5c then scanString T e delim triple .esc (s.read c) rest acc (c :: unc)
    else scanString T e delim triple .body (s.read c) rest (c.1 :: acc) (c :: unc)
  | .esc, s, c :: rest, acc, unc =>
    if c.1 = 0x75 then scanString T e delim triple (.hex Ttl.uchar4Maxs 0) (s.read c) rest acc (c :: unc)
    else if c.1 = 0x55 then scanString T e delim triple (.hex Ttl.uchar8Maxs 0) (s.read c) rest acc (c :: unc)
    else match Ttl.echarDecode c.1 with
      | some d => scanString T e delim triple .body (s.read c) rest (d :: acc) (c :: unc)
      | none => .err .syntax ((s.read c).offErr unc.reverse c.2)
  | .hex [] _, _, _ :: _, _, _ => .err .syntax .none
  | .hex (m :: ms) v, s, c :: rest, acc, unc =>
    match lookup T.hexDec 0 c.1 with
    | 0 => .err .syntax ((s.read c).offErr unc.reverse c.2)
    | d + 1 =>
      if d > m then .err .syntax .none
      else match ms with
        | [] => scanString T e delim triple .body (s.read c) rest ((v * 16 + d) :: acc) (c :: unc)
        | _ :: _ => scanString T e delim triple (.hex ms (v * 16 + d)) (s.read c) rest acc (c :: unc)

def produceString (T : Tables) (e : End) (legacy : Bool) (s : S) : List RP → RO (List Nat)
  | [] => .err e.cls .none
  | q :: rest =>
    if q.1 = 0x22 ∨ q.1 = 0x27 then
      match rest with
      | [] => .err e.cls ((s.read q).offErr [q] 0)
      | c1 :: r1 =>
        if c1.1 = q.1 then
          match r1 with
          | [] =>
            (match e with
              | .eof => done [] ((s.read q).read c1) (if legacy then [q] else [q, c1]) []   -- `""` at the end of input
              | .ioerr => .err .io (((s.read q).read c1).offErr [q, c1] 0))
          | c2 :: r2 =>
            if c2.1 = q.1 then scanString T e q.1 true .body (((s.read q).read c1).read c2) r2 [] [c2, c1, q]
            else done [] ((s.read q).read c1) (if legacy then [q, c1, c2] else [q, c1]) (c2 :: r2)  -- BacktrackRunes(r1)
        else scanString T e q.1 false .body (s.read q) (c1 :: r1) [] [q]                    -- BacktrackRunes(r0)
    else .err .syntax ((s.read q).offErr [] q.2)

/-! ## produceLANGTAG -/

/-- DONE of `produceLANGTAG`. `a0` is the `@`, `tagRev` the tag (reversed); the terminating rune has
    been handed back. Commits `@`, then the tag for its range. -/
def langDone (s : S) (a0 : RP) (tagRev : Chunk) (rest : List RP) : RO (List Nat) :=
  match tagRev with
  | [] => .ok (goString []) ((s.commit [a0]).range []) ((s.commit [a0]).commit []) rest   -- not reachable (callers test)
  | l :: more =>
    if l.1 = 0x2d then .err .syntax (s.offErr (a0 :: more.reverse) l.2)
    else .ok (goString (runes tagRev.reverse)) ((s.commit [a0]).range tagRev.reverse)
            ((s.commit [a0]).commit tagRev.reverse) rest

def langSecondary (e : End) (a0 : RP) : S → List RP → Chunk → RO (List Nat)
  | s, [], tagRev =>
    (match e with
      | .eof => langDone s a0 tagRev []
      | .ioerr => .err .io (s.offErr (a0 :: tagRev.reverse) 0))
  | s, c :: rest, tagRev =>
    if Ttl.isAlpha c.1 || Ttl.isDigit c.1 then langSecondary e a0 (s.read c) rest (c :: tagRev)
    else if c.1 = 0x2d then
      (if (runes tagRev).head? = some 0x2d then .err .syntax ((s.read c).offErr (a0 :: tagRev.reverse) c.2)
       else langSecondary e a0 (s.read c) rest (c :: tagRev))
    else langDone s a0 tagRev (c :: rest)

def langPrimary (e : End) (a0 : RP) : S → List RP → Chunk → RO (List Nat)
  | s, [], tagRev =>
    (match e with
      | .eof => if tagRev.isEmpty then .err .eof (s.offErr [a0] 0) else langDone s a0 tagRev []
      | .ioerr => .err .io (s.offErr (a0 :: tagRev.reverse) 0))
  | s, c :: rest, tagRev =>
    if Ttl.isAlpha c.1 then langPrimary e a0 (s.read c) rest (c :: tagRev)
    else if c.1 = 0x2d then
      (if tagRev.isEmpty then .err .syntax ((s.read c).offErr [a0] c.2)
       else langSecondary e a0 (s.read c) rest (c :: tagRev))
    else if tagRev.isEmpty then .err .syntax ((s.read c).offErr [a0] c.2)
    else langDone s a0 tagRev (c :: rest)

def produceLANGTAG (e : End) (s : S) : List RP → RO (List Nat)
  | [] => .err e.cls .none
  | c :: rest =>
    if c.1 = 0x40 then langPrimary e c (s.read c) rest []
    else .err .syntax ((s.read c).offErr [] c.2)

/-! ## produceBlankNode -/

/-- The token's range: from the `_:` (history `h0` before it was committed) to the end of the label;
    `labelOnly`: the range `commitForTextOffsetRange(label)` returned, unchanged. -/
def bnRange (labelOnly : Bool) (h0 : Option Hist) (r : Option SRange) : Option SRange :=
  if labelOnly then r
  else match h0, r with
    | some h, some x => some (h, x.2)
    | _, _ => none

/-- DONE of `produceBlankNode`; `labRev` is the label read (reversed), `h0` the writer history before
    the `_:` was committed. -/
def bnDone (T : Tables) (labelOnly : Bool) (h0 : Option Hist) (s : S) (labRev : Chunk) (rest : List RP) :
    RO (List Nat) :=
  match labRev with
  | [] => .panic                       -- `uncommitted[len(uncommitted)-1]` on an empty slice
  | l :: more =>
    let s' := if l.1 = 0x2e then s.unread l else s
    let lab := if l.1 = 0x2e then more else labRev
    let rest' := if l.1 = 0x2e then l :: rest else rest
    match lab with
    | [] => .ok [] (bnRange labelOnly h0 (s'.range [])) (s'.commit []) rest'   -- not reachable: the first rune is never '.'
    | z :: more' =>
      if !more'.isEmpty && !inRanges T.pnChars z.1 then .err .syntax (s'.offErr more'.reverse z.2)
      else .ok (goString (runes lab.reverse)) (bnRange labelOnly h0 (s'.range lab.reverse))
              (s'.commit lab.reverse) rest'

def bnLoop (T : Tables) (e : End) (labelOnly : Bool) (h0 : Option Hist) : S → List RP → Chunk → RO (List Nat)
  | s, [], labRev =>
    (match e with
      | .eof => bnDone T labelOnly h0 s labRev []
      | .ioerr => .err .io (s.offErr labRev.reverse 0))
  | s, c :: rest, labRev =>
    if inRanges T.pnChars c.1 || c.1 = 0x2e then bnLoop T e labelOnly h0 (s.read c) rest (c :: labRev)
    else bnDone T labelOnly h0 s labRev (c :: rest)

/-- `produceBlankNode`. A failing read right after `_` is reported as an unexpected rune with an
    empty ignored rune (Go passes the zero `DecodedRune`). -/
def produceBlankNode (T : Tables) (e : End) (labelOnly : Bool) (s : S) : List RP → RO (List Nat)
  | [] => .err e.cls .none
  | c0 :: r0 =>
    if c0.1 ≠ 0x5f then .err .syntax ((s.read c0).offErr [] c0.2)
    else match r0 with
      | [] => .err .syntax ((s.read c0).offErr [c0] 0)
      | c1 :: r1 =>
        if c1.1 ≠ 0x3a then .err .syntax (((s.read c0).read c1).offErr [c0] c1.2)
        else match r1 with
          | [] => .err e.cls (((s.read c0).read c1).offErr [c0, c1] 0)
          | c2 :: r2 =>
            if inRanges T.pnCharsU c2.1 || Ttl.isDigit c2.1 then
              bnLoop T e labelOnly s.doc ((((s.read c0).read c1).read c2).commit [c0, c1]) r2 [c2]
            else .err .syntax ((((s.read c0).read c1).read c2).offErr [c0, c1] c2.2)

/-! ## produceNumericLiteral -/

/-- DONE of `produceNumericLiteral`; `acc` is `uncommitted` (reversed). -/
def numDone (s : S) (acc : Chunk) (k : Option Ttl.NumKind) (rest : List RP) : RO (Ttl.NumKind × List Nat) :=
  match acc with
  | [] => .panic
  | l :: more =>
    if l.1 = 0x2e then
      done (.integer, goString (runes more.reverse)) (s.unread l) more.reverse (l :: rest)  -- BacktrackRunes('.')
    else if l.1 = 0x2d ∨ l.1 = 0x2b ∨ l.1 = 0x65 ∨ l.1 = 0x45 then .err .syntax (s.offErr more.reverse l.2)
    else done (k.getD .integer, goString (runes acc.reverse)) s acc.reverse rest

def scanNum (e : End) : Ttl.NState → Option Ttl.NumKind → S → List RP → Chunk → RO (Ttl.NumKind × List Nat)
  | .exp0, _, s, [], acc => .err e.cls (s.offErr acc.reverse 0)
  | .sign, k, s, [], acc => (match e with | .eof => numDone s acc k [] | .ioerr => .err .io (s.offErr acc.reverse 0))
  | .int, k, s, [], acc => (match e with | .eof => numDone s acc k [] | .ioerr => .err .io (s.offErr acc.reverse 0))
  | .exp, k, s, [], acc => (match e with | .eof => numDone s acc k [] | .ioerr => .err .io (s.offErr acc.reverse 0))
  | .sign, k, s, c :: rest, acc =>
    if Ttl.isDigit c.1 then scanNum e .sign k (s.read c) rest (c :: acc)
    else if c.1 = 0x2e then scanNum e .int (some .decimal) (s.read c) rest (c :: acc)
    else if c.1 = 0x65 ∨ c.1 = 0x45 then scanNum e .exp0 (some .double) (s.read c) rest (c :: acc)
    else numDone s acc k (c :: rest)
  | .int, k, s, c :: rest, acc =>
    if Ttl.isDigit c.1 then scanNum e .int k (s.read c) rest (c :: acc)
    else if c.1 = 0x65 ∨ c.1 = 0x45 then scanNum e .exp0 (some .double) (s.read c) rest (c :: acc)
    else numDone s acc k (c :: rest)
  | .exp0, k, s, c :: rest, acc =>
    if c.1 = 0x2d ∨ c.1 = 0x2b ∨ Ttl.isDigit c.1 then scanNum e .exp k (s.read c) rest (c :: acc)
    else .err .syntax ((s.read c).offErr acc.reverse c.2)
  | .exp, k, s, c :: rest, acc =>
    if Ttl.isDigit c.1 then scanNum e .exp k (s.read c) rest (c :: acc)
    else numDone s acc k (c :: rest)

def produceNumericLiteral (e : End) (s : S) : List RP → RO (Ttl.NumKind × List Nat)
  | [] => .err e.cls .none
  | c :: rest =>
    if c.1 = 0x2d ∨ c.1 = 0x2b ∨ Ttl.isDigit c.1 then scanNum e .sign none (s.read c) rest [c]
    else if c.1 = 0x2e then scanNum e .int (some .decimal) (s.read c) rest [c]
    else .err .syntax ((s.read c).offErr [] c.2)

/-! ## producePNAME_NS, producePrefixedName -/

/-- Loop of `producePNAME_NS`. Without a `:` the turtle copy hands the offending rune back and
    reports a trailing `.` (offset before it) or the missing colon; the trig copy reports the
    offending rune directly (offset after everything read). -/
def pnameNsLoop (T : Tables) (e : End) (trig : Bool) : S → List RP → List Nat → Chunk → RO (List Nat)
  | s, [], _, unc => .err e.cls (s.offErr unc.reverse 0)
  | s, c :: rest, acc, unc =>
    if c.1 = 0x3a then done (goString acc.reverse) (s.read c) (c :: unc).reverse rest
    else if inRanges T.pnChars c.1 || c.1 = 0x2e then pnameNsLoop T e trig (s.read c) rest (c.1 :: acc) (c :: unc)
    else if trig then .err .syntax ((s.read c).offErr unc.reverse c.2)
    else match unc with
      | l :: more =>
        if !more.isEmpty && l.1 = 0x2e then .err .syntax (s.offErr more.reverse l.2)
        else .err .syntax (s.offErr unc.reverse 0)
      | [] => .err .syntax (s.offErr [] 0)

def producePNAME_NS (T : Tables) (e : End) (trig : Bool) (s : S) : List RP → RO (List Nat)
  | [] => .err e.cls .none
  | c :: rest =>
    if c.1 = 0x3a then done [] (s.read c) [c] rest
    else if inRanges T.pnCharsBase c.1 then pnameNsLoop T e trig (s.read c) rest [c.1] [c]
    else .err .syntax ((s.read c).offErr [] c.2)

/-- PN_LOCAL_DONE: a final unescaped `.` is handed back. The rune handed back is the last raw rune
    (`unc` head), which is that `.`; its code point is written out so that erasure holds outright. -/
def localDone (s : S) (acc : List Nat) (lastEsc : Bool) (unc : Chunk) (rest : List RP) : RO (List Nat) :=
  match acc with
  | [] => .panic
  | l :: more =>
    if l = 0x2e && !lastEsc then
      let u := unc.headD (0x2e, 1)
      done (goString more.reverse) (s.unread u) (unc.drop 1).reverse ((0x2e, u.2) :: rest)
    else done (goString acc.reverse) s unc.reverse rest

/-- The PN_LOCAL part of `producePrefixedName`; `unc` is `uncommitted` (reversed), which starts
    empty: the namespace part has been committed by `producePNAME_NS`. Inside `%hh` / `\x` the
    runes read so far are already on `unc`. -/
def scanLocal (T : Tables) (e : End) : Ttl.LState → S → List RP → List Nat → Bool → Chunk → RO (List Nat)
  | .first, s, [], _, _, unc => (match e with | .eof => done [] s unc.reverse [] | .ioerr => .err .io (s.offErr [] 0))
  | .body, s, [], acc, le, unc => (match e with | .eof => localDone s acc le unc [] | .ioerr => .err .io (s.offErr unc.reverse 0))
  | .pct1, s, [], _, _, unc => .err e.cls (s.offErr unc.reverse 0)
  | .pct2 _, s, [], _, _, unc => .err e.cls (s.offErr unc.reverse 0)
  | .esc, s, [], _, _, unc => .err e.cls (s.offErr unc.reverse 0)
  | .first, s, c :: rest, acc, le, unc =>
    if inRanges T.pnCharsU c.1 || c.1 = 0x3a || Ttl.isDigit c.1 then scanLocal T e .body (s.read c) rest (c.1 :: acc) false (c :: unc)
    else if c.1 = 0x25 then scanLocal T e .pct1 (s.read c) rest acc le (c :: unc)
    else if c.1 = 0x5c then scanLocal T e .esc (s.read c) rest acc le (c :: unc)
    else done [] s unc.reverse (c :: rest)
  | .body, s, c :: rest, acc, le, unc =>
    if inRanges T.pnChars c.1 || c.1 = 0x2e || c.1 = 0x3a then scanLocal T e .body (s.read c) rest (c.1 :: acc) false (c :: unc)
    else if c.1 = 0x25 then scanLocal T e .pct1 (s.read c) rest acc le (c :: unc)
    else if c.1 = 0x5c then scanLocal T e .esc (s.read c) rest acc le (c :: unc)
    else localDone s acc le unc (c :: rest)
  | .pct1, s, c :: rest, acc, le, unc =>
    if lookup T.hexDec 0 c.1 = 0 then .err .syntax ((s.read c).offErr unc.reverse c.2)
    else scanLocal T e (.pct2 c.1) (s.read c) rest acc le (c :: unc)
  | .pct2 h, s, c :: rest, acc, _, unc =>
    if lookup T.hexDec 0 c.1 = 0 then .err .syntax ((s.read c).offErr unc.reverse c.2)
    else scanLocal T e .body (s.read c) rest (c.1 :: h :: 0x25 :: acc) false (c :: unc)
  | .esc, s, c :: rest, acc, _, unc =>
    if Ttl.isLocalEsc c.1 then scanLocal T e .body (s.read c) rest (c.1 :: acc) true (c :: unc)
    else .err .syntax ((s.read c).offErr unc.reverse c.2)

/-- `TextOffsetRange{From: namespaceToken.Offsets.From, Until: cr.Until}`. -/
def span : Option SRange → Option SRange → Option SRange
  | some a, some b => some (a.1, b.2)
  | _, _ => none

def producePrefixedName (T : Tables) (e : End) (trig : Bool) (s : S) (inp : List RP) : RO (List Nat × List Nat) :=
  match producePNAME_NS T e trig s inp with
  | .err c o => .err c o
  | .panic => .panic
  | .ok ns rgNs s1 rest =>
    match scanLocal T e .first s1 rest [] false [] with
    | .ok loc rgLoc s2 rest' => .ok (ns, loc) (span rgNs rgLoc) s2 rest'
    | .err c o => .err c o
    | .panic => .panic

end RdfModel.TtlO
