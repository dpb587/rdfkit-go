/-
  RdfModel.Model.RdfXmlDecoder — executable model of /repo/encoding/rdfxml/decoder.go (+ decoder_ectx.go,
  decoder_literal_util.go) over an ABSTRACT XML TOKEN STREAM, text-offset capture OFF.

  Input.  The values `encoding/xml`'s `Decoder.Token()` yields (the decoder only ever calls `Token`, never
  `RawToken`; namespaces are therefore already translated: element/attribute names are (namespace IRI,
  local), `xml:` is the XML namespace IRI, `xmlns:p="…"` arrives as `{Space:"xmlns", Local:"p"}`,
  `xmlns="…"` as `{Space:"", Local:"xmlns"}`, an unbound prefix stays in `Space`), followed by a
  terminator: clean `io.EOF`, an `*xml.SyntaxError`, or a reader error.  The XML text layer is outside.

  Shape.  The Go code is a recursive-descent parser whose only loop construct is
  `for { token, err := d.tokenNext(); … }`.  The model is its defunctionalisation: one `Frame` per
  activation record that sits in such a loop, `step` = the code executed between two `tokenNext()`
  calls (same case splits, same order of checks), `run` = structural recursion over the token list —
  so the number of steps is exactly the number of tokens read.

      Go function (loop)                          frame
      decodeRoot                                  (empty stack)
      decodeRDF                                   Frame.rdf
      processNodeElt → processChildren_PropertyEltList   Frame.props … (ret := .node s)
      processParseTypeResourcePropertyElt → processChildren_PropertyEltList   Frame.props … (ret := .resource)
      processPropertyElt (the loop after the parseType switch)            Frame.pelt
      processParseTypeLiteralPropertyElt → xmlRender                      Frame.lit
      processParseTypeCollectionPropertyElt                               Frame.coll

  Explicit outcomes.  `Res.panic` wherever Go would panic: the unchecked type assertions
  `ot.triple.Object.(rdf.SubjectValue)` and `eSubject.(rdf.IRI)`, the indexings
  `d.statements[len(d.statements)-1]` / `[len-2]`, and the nil dereference in `ResolveIRI("")` should
  `Base.Parse("")` fail.  Errors are a small enum `E` (the harness maps Go's messages onto it).
  On an error the Go decoder yields NO statement (`Next` returns false right after `parseAll`); the model
  still reports the statements appended so far (`Result.err e emitted`) so that well-formedness can be
  stated for them as well.

  Parameters (`Params`), not modelled here:
    * `resolve base ref`  = `(*iri.ParsedIRI).Parse(ref)` then `.String()`  (`none` = Parse error);
      the driver uses `Spec.RFC3986.resolve` (property C12 is about the difference)
    * `parseOK s`         = `iri.ParseIRI(s)` succeeds (only used for `xml:base`)
    * `render content`    = what `xmlRender` produces for the tokens between a `parseType="Literal"`
      start tag and its end tag, i.e. `encoding/xml`'s *Encoder* fed with these tokens (`none` = an
      `EncodeToken`/`Flush` error on that token sequence).  The encoder (namespace prefix invention,
      escaping) is too entangled with `encoding/xml` to model; the harness supplies its graph.
  Also outside: listeners (base / prefix directives, warnings) — pure observers; `CurrentContainer`;
  everything about text offsets (the `inspectxml` path).

  `validateID` is `RX.isNCName` (the regular expression `reXmlNamespaceName` minus ':'; tied by the T1
  table of Gen/RdfXmlFacts.lean, theorems `C09.gen_id_start`, `gen_id_char`, `gen_validateID` of Props/C09Facts.lean).

  Not nil-able here although nil-able in Go, with the reason: `ParentSubject`, `ParentPredicate`,
  `ParentContainerIndex` are assigned on every path before `processPropertyElt` reads them (both callers of
  `processChildren_PropertyEltList` set subject and counter; `processPropertyElt` sets the predicate in
  both branches of its `rdf:li` test); they are fields of the frames.  The harness prints a nil term of
  the real decoder as `nil`, so a path that emitted one would show as a disagreement.

  Core-only imports: linked into the driver.
-/
import RdfModel.Spec.RdfXmlFragment
namespace RdfModel.RXD
open RdfModel RdfModel.Desc RdfModel.RX

/-! ## Tokens, terminator, results -/

inductive Tok where
  | start (ns name : Str) (attrs : List Attr)
  | end_ (ns name : Str)
  | chars (s : Str)
  | comment (s : Str)
  | procInst (target inst : Str)
  | directive (s : Str)
  deriving Repr, DecidableEq, Inhabited

/-- how the token stream ends: `io.EOF`, `*xml.SyntaxError`, any other reader error -/
inductive Fin where
  | eof | syntax | io
  deriving Repr, DecidableEq, Inhabited

inductive E where
  | xmlSyntax          -- tokenizer: *xml.SyntaxError
  | io                 -- tokenizer: reader error
  | eofInside          -- io.EOF returned inside an element (cannot come from encoding/xml, which reports a syntax error)
  | directive          -- ErrDirectivesNotSupported
  | elementNotAllowed  -- ElementNotAllowedError
  | attrNotAllowed     -- AttributeNotAllowedError
  | invalidName        -- InvalidNameError
  | duplicateName      -- DuplicateScopedNameError
  | multipleNames      -- "multiple name attributes found"
  | unexpectedAttr     -- decodeRDF: "unexpected attr"
  | parseBase          -- "parse base"
  | resourceOnLiteral  -- "rdf:resource cannot be used for a literal type"
  | alreadyFound       -- "already found property value"
  | datatypeNeedsLang  -- "datatype requires a language tag"
  | render             -- "render xml: write token / flush"
  deriving Repr, DecidableEq, Inhabited

inductive Result where
  | ok (ts : List T)
  /-- `emitted`: what had been appended to `d.statements` (not observable through `Next`) -/
  | err (e : E) (emitted : List T)
  | panic
  deriving Repr, DecidableEq, Inhabited

structure Params where
  resolve : Str → Str → Option Str
  parseOK : Str → Bool
  render : List Tok → Option Str

/-! ## State -/

/-- the part of `evaluationContext` that is inherited: `Base` (nil = `none`), `Language`, and the identity
    of the `UsedIDs` map (a fresh map is allocated by every `xml:base`) -/
structure Ctx where
  base : Option Str
  lang : Option Str
  used : Nat
  deriving Repr, DecidableEq, Inhabited

/-- decoder-global state: blank node counter, next map identity, contents of all `UsedIDs` maps,
    `d.statements` (newest first) -/
structure St where
  next : Nat
  maps : Nat
  used : List (Nat × Str)
  out : List T
  deriving Repr, DecidableEq, Inhabited

def St.init : St := { next := 0, maps := 1, used := [], out := [] }
def Ctx.init (base : Option Str) : Ctx := { base := base, lang := none, used := 0 }

def St.emit (st : St) (t : T) : St := { st with out := t :: st.out }

/-- `NewBlankNode()` -/
def St.fresh (st : St) : Term BN × St := (.bnode (.gen st.next), { st with next := st.next + 1 })

/-- outcome of a piece of straight-line code -/
inductive Res (α : Type) where
  | ok (a : α) (st : St)
  | fail (e : E) (st : St)
  | panic
  deriving Repr

/-! ## decoder_ectx.go -/

def dropFragment (s : Str) : Str := s.takeWhile (· ≠ cHash)

inductive RIRI where
  | ok (v : Str)
  | panic

/-- `evaluationContext.ResolveIRI` -/
def resolveIRI (P : Params) (ctx : Ctx) (v : Str) : RIRI :=
  match ctx.base with
  | none => .ok v
  | some b =>
    if v = [] then
      -- vURL, _ = ectx.Base.Parse(""); vURL.DropFragment()
      match P.resolve b [] with
      | none => .panic
      | some r => .ok (dropFragment r)
    else
      match P.resolve b v with
      | none => .ok v
      | some r => .ok r

/-! ## processCommonAttr -/

def xmlnsSpace : Str := asc "xmlns"

structure Common where
  ctx : Ctx
  rdfAttrs : List Attr
  others : List Attr

def commonLoop (P : Params) : List Attr → Ctx → List Attr → List Attr → St → Res Common
  | [], ctx, ra, oa, st => .ok ⟨ctx, ra.reverse, oa.reverse⟩ st
  | a :: rest, ctx, ra, oa, st =>
    if a.ns = rdfNS then commonLoop P rest ctx (a :: ra) oa st
    else if a.ns = xmlNS then
      if a.name = n_lang then
        commonLoop P rest { ctx with lang := if a.val = [] then none else some a.val } ra oa st
      else if a.name = n_base then
        match resolveIRI P ctx a.val with
        | .panic => .panic
        | .ok b =>
          if P.parseOK b then
            commonLoop P rest { ctx with base := some b, used := st.maps } ra oa { st with maps := st.maps + 1 }
          else .fail .parseBase st
      else commonLoop P rest ctx ra oa st
    else if a.ns = xmlnsSpace then commonLoop P rest ctx ra oa st
    else if a.ns = [] ∧ a.name = xmlnsSpace then commonLoop P rest ctx ra oa st
    else commonLoop P rest ctx ra (a :: oa) st

def processCommonAttr (P : Params) (ctx : Ctx) (attrs : List Attr) (st : St) : Res Common :=
  commonLoop P attrs ctx [] [] st

/-! ## shared pieces -/

def mkLitCtx (lex : Str) (ctx : Ctx) : Term BN := mkLit lex ctx.lang

/-- `addReify(ectx, id, d.statements[len(d.statements)-1-i])` -/
def addReify (P : Params) (ctx : Ctx) (id : Str) (i : Nat) (st : St) : Res Unit :=
  match st.out[i]? with
  | none => .panic
  | some t =>
    match resolveIRI P ctx (cHash :: id) with
    | .panic => .panic
    | .ok idr =>
      .ok () { st with out := ⟨.iri idr, rdfObject, t.o⟩ :: ⟨.iri idr, rdfPredicate, .iri t.p⟩ ::
                               ⟨.iri idr, rdfSubject, t.s⟩ :: ⟨.iri idr, rdfType, .iri rdfStatement⟩ :: st.out }

def optReify (P : Params) (ctx : Ctx) (id : Option Str) (i : Nat) (st : St) : Res Unit :=
  match id with
  | none => .ok () st
  | some v => addReify P ctx v i st

/-- `for _, attr := range rdfAttrList { case ID: d.addReify(ectx, attr.Value, d.statements[len-1]) }`
    (parseType Literal / Resource) -/
def reifyEachID (P : Params) (ctx : Ctx) : List Attr → St → Res Unit
  | [], st => .ok () st
  | a :: rest, st =>
    if a.name = n_ID then
      match addReify P ctx a.val 0 st with
      | .ok _ st1 => reifyEachID P ctx rest st1
      | .fail e st1 => .fail e st1
      | .panic => .panic
    else reifyEachID P ctx rest st

/-- the `switch tokenT.Name` lists -/
def nodeNameForbidden (ns name : Str) : Bool := ns = rdfNS && badNodeName name
def propNameForbidden (ns name : Str) : Bool := ns = rdfNS && badPropName name

/-! ## Frames -/

inductive Ret where
  /-- `processNodeElt` returns `eSubject` to its caller -/
  | node (s : Term BN)
  /-- `processParseTypeResourcePropertyElt` returns to `processChildren_PropertyEltList` -/
  | resource
  deriving Repr, DecidableEq, Inhabited

inductive Frame where
  | rdf (ctx : Ctx)
  /-- `processChildren_PropertyEltList(ectx)`: `subj` = ParentSubject, `li` = *ParentContainerIndex -/
  | props (ctx : Ctx) (subj : Term BN) (li : Nat) (ret : Ret)
  /-- loop of `processPropertyElt`; `child` = name of the node element being processed (becomes `found`) -/
  | pelt (ctx nodeCtx : Ctx) (subj : Term BN) (pred : Str) (attrs : List Attr) (rdfID : Option Str)
         (found : Str) (chars : Str) (child : Str)
  /-- `xmlRender` inside `processParseTypeLiteralPropertyElt`; `content` newest first -/
  | lit (ctx : Ctx) (subj : Term BN) (pred : Str) (rdfAttrs : List Attr) (depth : Nat) (content : List Tok)
  | coll (ctx : Ctx) (subj : Term BN) (pred : Str) (rdfID : Option Str) (last : Option (Term BN))
  deriving Repr, DecidableEq, Inhabited

inductive Step where
  | cont (stk : List Frame) (st : St)
  | fail (e : E) (st : St)
  | panic
  deriving Repr

/-! ## processNodeElt (up to the call of processChildren_PropertyEltList) -/

/-- first loop over `rdfAttrList`: subject and name attributes; returns (eSubject, number of name attributes) -/
def subjLoop (P : Params) (ctx : Ctx) : List Attr → Option (Term BN) → Nat → St → Res (Option (Term BN) × Nat)
  | [], s, n, st => .ok (s, n) st
  | a :: rest, s, n, st =>
    if a.name = n_ID then
      if !isNCName a.val then .fail .invalidName st else
      match resolveIRI P ctx (cHash :: a.val) with
      | .panic => .panic
      | .ok r =>
        let es : Term BN := .iri r
        if st.used.contains (ctx.used, a.val) then
          -- DuplicateScopedNameError{Name: string(eSubject.(rdf.IRI))}
          match es with
          | .iri _ => .fail .duplicateName st
          | _ => .panic
        else subjLoop P ctx rest (some es) (n + 1) { st with used := (ctx.used, a.val) :: st.used }
    else if a.name = n_nodeID then
      if !isNCName a.val then .fail .invalidName st else
      subjLoop P ctx rest (some (.bnode (.named a.val))) (n + 1) st
    else if a.name = n_about then
      match resolveIRI P ctx a.val with
      | .panic => .panic
      | .ok r => subjLoop P ctx rest (some (.iri r)) (n + 1) st
    else subjLoop P ctx rest s n st

def nodeAttrForbidden : List Str := [n_RDF, n_resource, n_bagID, n_parseType, n_aboutEach, n_aboutEachPrefix, n_li]

/-- second loop over `rdfAttrList`: rdf:type statements, reserved names, the rest joins `otherAttrList` -/
def nodeRdfLoop (P : Params) (ctx : Ctx) (s : Term BN) : List Attr → List Attr → St → Res (List Attr)
  | [], extra, st => .ok extra.reverse st
  | a :: rest, extra, st =>
    if a.name = n_ID ∨ a.name = n_nodeID ∨ a.name = n_about then nodeRdfLoop P ctx s rest extra st
    else if a.name = n_type then
      match resolveIRI P ctx a.val with
      | .panic => .panic
      | .ok r => nodeRdfLoop P ctx s rest extra (st.emit ⟨s, rdfType, .iri r⟩)
    else if nodeAttrForbidden.contains a.name then .fail .attrNotAllowed st
    else nodeRdfLoop P ctx s rest (a :: extra) st

def litAttrLoop (ctx : Ctx) (s : Term BN) : List Attr → St → St
  | [], st => st
  | a :: rest, st => litAttrLoop ctx s rest (st.emit ⟨s, a.ns ++ a.name, mkLitCtx a.val ctx⟩)

/-- `if eSubject == nil { eSubject = NewBlankNode() }` -/
def subjOrFresh (s? : Option (Term BN)) (st : St) : Term BN × St :=
  match s? with
  | some s => (s, st)
  | none => st.fresh

/-- `processNodeElt` from its start to the call of `processChildren_PropertyEltList`; yields the frame to push -/
def nodeEntry (P : Params) (ctx : Ctx) (ns name : Str) (attrs : List Attr) (st : St) : Res Frame :=
  match processCommonAttr P ctx attrs st with
  | .panic => .panic
  | .fail e st1 => .fail e st1
  | .ok c st1 =>
    match subjLoop P c.ctx c.rdfAttrs none 0 st1 with
    | .panic => .panic
    | .fail e st2 => .fail e st2
    | .ok (s?, n) st2 =>
      if n > 1 then .fail .multipleNames st2 else
      let s := (subjOrFresh s? st2).1
      let st3 := (subjOrFresh s? st2).2
      let st4 := if ns = rdfNS ∧ name = n_Description then st3 else st3.emit ⟨s, rdfType, .iri (ns ++ name)⟩
      match nodeRdfLoop P c.ctx s c.rdfAttrs [] st4 with
      | .panic => .panic
      | .fail e st5 => .fail e st5
      | .ok extra st5 =>
        .ok (.props c.ctx s 0 (.node s)) (litAttrLoop c.ctx s (c.others ++ extra) st5)

/-! ## processPropertyElt (up to its loop) -/

structure PInfo where
  pt : Str := []
  rdfID : Option Str := none
  rdfResource : Option Str := none

/-- the loop over `startElement.Attr` -/
def peltAttrLoop : List Attr → PInfo → Option PInfo
  | [], i => some i
  | a :: rest, i =>
    if a.ns = rdfNS ∧ a.name = n_ID then
      if !isNCName a.val then none else peltAttrLoop rest { i with rdfID := some a.val }
    else if a.ns = rdfNS ∧ a.name = n_resource then peltAttrLoop rest { i with rdfResource := some a.val }
    else if a.ns = rdfNS ∧ a.name = n_parseType then
      if a.val = n_Literal ∨ a.val = n_Resource ∨ a.val = n_Collection then peltAttrLoop rest { i with pt := a.val }
      else peltAttrLoop rest { i with pt := n_Literal }
    else peltAttrLoop rest i

/-- `processParseTypeCollectionPropertyElt`: `rdfID = &attr.Value` for every rdf:ID (last wins) -/
def lastID : List Attr → Option Str → Option Str
  | [], r => r
  | a :: rest, r => if a.name = n_ID then lastID rest (some a.val) else lastID rest r

/-- `processPropertyElt` from its start to the first `tokenNext()` of whichever loop it ends up in.
    `li` is `*ectx.ParentContainerIndex`; returns the new counter value and the frame to push. -/
def peltEntry (P : Params) (ctx : Ctx) (subj : Term BN) (li : Nat) (ns name : Str) (attrs : List Attr) (st : St) :
    Res (Nat × Frame) :=
  match peltAttrLoop attrs {} with
  | none => .fail .invalidName st
  | some i =>
    if i.pt = n_Literal ∧ i.rdfResource.isSome then .fail .resourceOnLiteral st else
    -- rdf:li: *ectx.ParentContainerIndex + 1 and fmt.Sprintf("%s_%d", …); otherwise Space + Local
    let li1 := propLi ns name li
    let pred := propPred ns name li
    if i.pt = n_Literal then
      match processCommonAttr P ctx attrs st with
      | .panic => .panic
      | .fail e st1 => .fail e st1
      | .ok c st1 => .ok (li1, .lit c.ctx subj pred c.rdfAttrs 0 []) st1
    else if i.pt = n_Resource then
      match processCommonAttr P ctx attrs st with
      | .panic => .panic
      | .fail e st1 => .fail e st1
      | .ok c st1 =>
        match reifyEachID P c.ctx c.rdfAttrs (st1.fresh.2.emit ⟨subj, pred, st1.fresh.1⟩) with
        | .panic => .panic
        | .fail e st3 => .fail e st3
        | .ok _ st3 => .ok (li1, .props c.ctx st1.fresh.1 0 .resource) st3
    else if i.pt = n_Collection then
      match processCommonAttr P ctx attrs st with
      | .panic => .panic
      | .fail e st1 => .fail e st1
      | .ok c st1 => .ok (li1, .coll c.ctx subj pred (lastID c.rdfAttrs none) none) st1
    else
      match processCommonAttr P ctx attrs st with
      | .panic => .panic
      | .fail e st1 => .fail e st1
      | .ok c st1 => .ok (li1, .pelt ctx c.ctx subj pred attrs i.rdfID [] [] []) st1

/-! ## processPropertyElt: `case xml.EndElement` -/

/-- literal property element: the loop over `rdfAttrList` looking for rdf:datatype -/
def datatypeLoop (P : Params) (ctx : Ctx) : List Attr → Option Str → St → Res (Option Str)
  | [], dt, st => .ok dt st
  | a :: rest, dt, st =>
    if a.name = n_datatype then
      match resolveIRI P ctx a.val with
      | .panic => .panic
      | .ok r =>
        if r = rdfLangString ∨ r = rdfDirLangString then .fail .datatypeNeedsLang st
        else datatypeLoop P ctx rest (some r) st
    else datatypeLoop P ctx rest dt st

structure EInfo where
  resource : Option Str := none
  nodeID : Option Str := none
  datatype : Bool := false
  rdfProp : Bool := false
  names : Nat := 0

/-- empty property element: the classification loop over `rdfAttrList` -/
def emptyLoop : List Attr → EInfo → Option EInfo
  | [], i => some i
  | a :: rest, i =>
    if a.name = n_ID then emptyLoop rest i
    else if a.name = n_resource then emptyLoop rest { i with resource := some a.val, names := i.names + 1 }
    else if a.name = n_nodeID then
      if !isNCName a.val then none else emptyLoop rest { i with nodeID := some a.val, names := i.names + 1 }
    else if a.name = n_datatype then emptyLoop rest { i with datatype := true }
    else emptyLoop rest { i with rdfProp := true }

def emptyAttrForbidden : List Str :=
  [n_RDF, n_about, n_parseType, n_Description, n_li, n_aboutEach, n_aboutEachPrefix, n_bagID]

/-- `ot.triple.Object.(rdf.SubjectValue)` -/
def asSubject (o : Term BN) : Option (Term BN) :=
  match o with
  | .lit _ _ _ => none
  | t => some t

/-- empty property element: `for _, attr := range append(rdfAttrList, otherAttrList...)` -/
def emptyAttrLoop (P : Params) (ctx : Ctx) (o : Term BN) : List Attr → St → Res Unit
  | [], st => .ok () st
  | a :: rest, st =>
    if a.ns = rdfNS ∧ (a.name = n_ID ∨ a.name = n_resource ∨ a.name = n_nodeID ∨ a.name = n_datatype) then
      emptyAttrLoop P ctx o rest st
    else if a.ns = rdfNS ∧ a.name = n_type then
      match asSubject o with
      | none => .panic
      | some s =>
        match resolveIRI P ctx a.val with
        | .panic => .panic
        | .ok r => emptyAttrLoop P ctx o rest (st.emit ⟨s, rdfType, .iri r⟩)
    else if a.ns = rdfNS ∧ emptyAttrForbidden.contains a.name then .fail .attrNotAllowed st
    else
      match asSubject o with
      | none => .panic
      | some s => emptyAttrLoop P ctx o rest (st.emit ⟨s, a.ns ++ a.name, mkLitCtx a.val ctx⟩)

/-- empty property element: the object from rdf:resource, rdf:nodeID, or a new blank node -/
def emptyObject (P : Params) (ctx : Ctx) (i : EInfo) (st : St) : Res (Term BN) :=
  match i.resource with
  | some r =>
    match resolveIRI P ctx r with
    | .panic => .panic
    | .ok v => .ok (.iri v) st
  | none =>
    match i.nodeID with
    | some n => .ok (.bnode (.named n)) st
    | none => .ok st.fresh.1 st.fresh.2

/-- `case xml.EndElement` of the loop of `processPropertyElt` -/
def peltEnd (P : Params) (ctx : Ctx) (subj : Term BN) (pred : Str) (attrs : List Attr) (rdfID : Option Str)
    (found chars : Str) (st : St) : Res Unit :=
  if found ≠ [] then .ok () st
  else if chars ≠ [] then
    match processCommonAttr P ctx attrs st with
    | .panic => .panic
    | .fail e st1 => .fail e st1
    | .ok c st1 =>
      match datatypeLoop P c.ctx c.rdfAttrs none st1 with
      | .panic => .panic
      | .fail e st2 => .fail e st2
      | .ok dt st2 =>
        let o : Term BN := match dt with
          | some d => .lit chars d none
          | none => mkLitCtx chars c.ctx
        optReify P c.ctx rdfID 0 (st2.emit ⟨subj, pred, o⟩)
  else
    match processCommonAttr P ctx attrs st with
    | .panic => .panic
    | .fail e st1 => .fail e st1
    | .ok c st1 =>
      match emptyLoop c.rdfAttrs {} with
      | none => .fail .invalidName st1
      | some i =>
        if i.names > 1 then .fail .multipleNames st1 else
        if c.others = [] ∧ i.rdfProp = false ∧ i.resource = none ∧ i.nodeID = none ∧ i.datatype = false then
          optReify P c.ctx rdfID 0 (st1.emit ⟨subj, pred, mkLitCtx [] c.ctx⟩)
        else
          match emptyObject P c.ctx i st1 with
          | .panic => .panic
          | .fail e st2 => .fail e st2
          | .ok o st2 =>
            match emptyAttrLoop P c.ctx o (c.rdfAttrs ++ c.others) st2 with
            | .panic => .panic
            | .fail e st3 => .fail e st3
            | .ok _ st3 => optReify P c.ctx rdfID 0 (st3.emit ⟨subj, pred, o⟩)

/-! ## returns -/

/-- `processNodeElt` has returned `s`: what the caller does with it, then the caller's loop goes on.
    Callers: `decodeRoot` (empty stack) and `decodeRDF` ignore it; `processPropertyElt` and
    `processParseTypeCollectionPropertyElt` use it.  (`props` / `lit` frames never call `processNodeElt`;
    for them the stack is left alone.) -/
def nodeReturn (P : Params) (s : Term BN) (stk : List Frame) (st : St) : Step :=
  match stk with
  | .pelt ctx nctx subj pred attrs rdfID _ chars child :: below =>
    match optReify P nctx rdfID 0 (st.emit ⟨subj, pred, s⟩) with
    | .panic => .panic
    | .fail e st1 => .fail e st1
    | .ok _ st1 => .cont (.pelt ctx nctx subj pred attrs rdfID child chars child :: below) st1
  | .coll ctx subj pred rdfID last :: below =>
    let cell := st.fresh.1
    let st1 := st.fresh.2
    match last with
    | none =>
      match optReify P ctx rdfID 1 ((st1.emit ⟨subj, pred, cell⟩).emit ⟨cell, RX.rdfFirst, s⟩) with
      | .panic => .panic
      | .fail e st2 => .fail e st2
      | .ok _ st2 => .cont (.coll ctx subj pred rdfID (some cell) :: below) st2
    | some l =>
      .cont (.coll ctx subj pred rdfID (some cell) :: below) ((st1.emit ⟨l, RX.rdfRest, cell⟩).emit ⟨cell, RX.rdfFirst, s⟩)
  | _ => .cont stk st

/-- a `props` frame is popped -/
def propsReturn (P : Params) (ret : Ret) (below : List Frame) (st : St) : Step :=
  match ret with
  | .resource => .cont below st
  | .node s => nodeReturn P s below st

/-- entering `processNodeElt` from a frame: push the new `props` frame -/
def callNode (P : Params) (ctx : Ctx) (ns name : Str) (attrs : List Attr) (stk : List Frame) (st : St) : Step :=
  match nodeEntry P ctx ns name attrs st with
  | .panic => .panic
  | .fail e st1 => .fail e st1
  | .ok f st1 => .cont (f :: stk) st1

/-! ## one token -/

def step (P : Params) (ctx0 : Ctx) (stk : List Frame) (st : St) (tok : Tok) : Step :=
  match stk with
  | [] =>
    -- decodeRoot
    match tok with
    | .directive _ => .fail .directive st
    | .start ns name attrs =>
      if ns = rdfNS ∧ name = n_RDF then
        -- decodeRDF
        match processCommonAttr P ctx0 attrs st with
        | .panic => .panic
        | .fail e st1 => .fail e st1
        | .ok c st1 => if c.rdfAttrs ≠ [] then .fail .unexpectedAttr st1 else .cont [.rdf c.ctx] st1
      else callNode P ctx0 ns name attrs [] st
    | _ => .cont [] st
  | .rdf ctx :: below =>
    match tok with
    | .start ns name attrs =>
      if nodeNameForbidden ns name then .fail .elementNotAllowed st
      else callNode P ctx ns name attrs stk st
    | .end_ _ _ => .cont below st
    | _ => .cont stk st
  | .props ctx subj li ret :: below =>
    -- processChildren_PropertyEltList
    match tok with
    | .start ns name attrs =>
      if propNameForbidden ns name then .fail .elementNotAllowed st else
      match peltEntry P ctx subj li ns name attrs st with
      | .panic => .panic
      | .fail e st1 => .fail e st1
      | .ok (li1, f) st1 => .cont (f :: .props ctx subj li1 ret :: below) st1
    | .end_ _ _ => propsReturn P ret below st
    | _ => .cont stk st
  | .pelt ctx nctx subj pred attrs rdfID found chars child :: below =>
    match tok with
    | .end_ _ _ =>
      match peltEnd P ctx subj pred attrs rdfID found chars st with
      | .panic => .panic
      | .fail e st1 => .fail e st1
      | .ok _ st1 => .cont below st1
    | .start ns name cattrs =>
      if found ≠ [] then .fail .alreadyFound st
      else if nodeNameForbidden ns name then .fail .elementNotAllowed st
      else callNode P nctx ns name cattrs (.pelt ctx nctx subj pred attrs rdfID found chars (ns ++ name) :: below) st
    | .chars s => .cont (.pelt ctx nctx subj pred attrs rdfID found (chars ++ s) child :: below) st
    | _ => .cont stk st
  | .lit ctx subj pred rdfAttrs depth content :: below =>
    -- xmlRender
    match tok with
    | .end_ ns name =>
      if depth = 0 then
        match P.render content.reverse with
        | none => .fail .render st
        | some lex =>
          match reifyEachID P ctx rdfAttrs (st.emit ⟨subj, pred, .lit lex rdfXMLLiteral none⟩) with
          | .panic => .panic
          | .fail e st1 => .fail e st1
          | .ok _ st1 => .cont below st1
      else
        if (P.render (.end_ ns name :: content).reverse).isNone then .fail .render st
        else .cont (.lit ctx subj pred rdfAttrs (depth - 1) (.end_ ns name :: content) :: below) st
    | .start ns name cattrs =>
      if (P.render (tok :: content).reverse).isNone then .fail .render st
      else .cont (.lit ctx subj pred rdfAttrs (depth + 1) (.start ns name cattrs :: content) :: below) st
    | t =>
      if (P.render (t :: content).reverse).isNone then .fail .render st
      else .cont (.lit ctx subj pred rdfAttrs depth (t :: content) :: below) st
  | .coll ctx subj pred rdfID last :: below =>
    match tok with
    | .start ns name attrs =>
      if nodeNameForbidden ns name then .fail .elementNotAllowed st
      else callNode P ctx ns name attrs stk st
    | .end_ _ _ =>
      match last with
      | none =>
        match optReify P ctx rdfID 0 (st.emit ⟨subj, pred, .iri RX.rdfNil⟩) with
        | .panic => .panic
        | .fail e st1 => .fail e st1
        | .ok _ st1 => .cont below st1
      | some l => .cont below (st.emit ⟨l, RX.rdfRest, .iri RX.rdfNil⟩)
    | _ => .cont stk st

/-! ## the whole stream -/

/-- `tokenNext()` returned an error -/
def finish (stk : List Frame) (st : St) (fin : Fin) : Result :=
  match fin with
  | .syntax => .err .xmlSyntax st.out.reverse
  | .io => .err .io st.out.reverse
  | .eof =>
    match stk with
    | [] => .ok st.out.reverse          -- decodeRoot: errors.Is(err, io.EOF) → return nil
    | _ => .err .eofInside st.out.reverse

def run (P : Params) (ctx0 : Ctx) : List Frame → St → List Tok → Fin → Result
  | stk, st, [], fin => finish stk st fin
  | stk, st, tok :: rest, fin =>
    match step P ctx0 stk st tok with
    | .panic => .panic
    | .fail e st1 => .err e st1.out.reverse
    | .cont stk1 st1 => run P ctx0 stk1 st1 rest fin

/-- `parseAll` with `SetDefaultBase(base)` (`none` = no default base). `base` is the CONFIGURED string:
    `DecoderConfig.newDecoder` (decoder_config.go) only parses it (`d.baseURL = ParseIRI(*defaultBase)`, a parse
    error is `NewDecoder`'s error, outside `Result`) and hands it on unchanged — no normalisation of an empty
    path, of an empty query or of a trailing '#'. T3 (`rxd.dec <base> …`, go/cmd/c09 `-mode dec`) sends the
    configured default base, drawn also from those boundary shapes, so any rewriting of it in `newDecoder`
    is a model/code disagreement. -/
def decode (P : Params) (base : Option Str) (toks : List Tok) (fin : Fin) : Result :=
  run P (Ctx.init base) [] St.init toks fin

/-- what `Next`/`Triple`/`Err` let a caller observe -/
def observe : Result → Option (Except E (List T))
  | .ok ts => some (.ok ts)
  | .err e _ => some (.error e)
  | .panic => none

end RdfModel.RXD
