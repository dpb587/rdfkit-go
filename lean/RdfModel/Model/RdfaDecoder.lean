/-
  RdfModel.Model.RdfaDecoder — function-by-function executable model of the Go RDFa decoder
  /repo/encoding/htmlrdfa (decoder.go, decoder_ectx.go, decoder_config.go, decoder_html_util.go) over an ABSTRACT DOM
  TREE: what golang.org/x/net/html hands to the decoder after parsing (node type, namespace, DataAtom name, Data,
  attribute list in document order with namespace, children).  The HTML5 tokenizer / tree builder is outside.
  The tree type, the Go string functions (`strings.Fields`, `strings.TrimSpace`, the `^\s+` / `^[^\s]+` token loop)
  and `collectTextContent` are shared with the Microdata model (Model/MicrodataDecoder.lean: `Mdd.Node`, `Mdd.fields`,
  `Mdd.trimSpace`, `Mdd.typeTokens`, `Mdd.textContent`).

  Strings are Go strings: lists of BYTES (possibly ill-formed UTF-8).

  Go                                                     here
  ------------------------------------------------------ ------------------------------------------------------
  DecoderConfig.newDecoder (document base)               `decode` (first lines): `Env.parseBase` of DocumentInfo.BaseURL
  Decoder.Next (first call) → walkNode(ectx, root)       `decode`
  Decoder.walkNode                                       `walk` / `walkKids` (structural recursion: no fuel)
    doctype / <html version> profile detection            `detectProfile`, `htmlInit`
    <base href>                                           `baseElem`
    attribute scan                                        `scanAttrs`
    step 2 (@vocab)                                       `stepVocab`
    step 3 (@prefix, xmlns:)                              `prefixEntries`, `pmAddAll`
    step 4 (@lang, xml:lang)                              `stepLang`
    HTML+RDFa rule 7 (filterNonCURIENonURI)               `filterRel`
    steps 5, 6                                            `step5`, `step6`
    step 7 (typeof loop, two regexps)                     `stepTypeof`
    step 8                                                `step8`
    steps 9, 10                                           `step9`, `step10`
    step 11                                               `propertyValue`, `step11`
    step 12                                               `step12`
    step 13                                               `childCtx`
    step 14                                               `flushLists`  (Go ranges over a map: see `St.unordered`)
    rdfa:copy / rdfa:Pattern                              `copyStep`    (in-memory dataset + simplequery as a join)
  resolveIRI (decoder_ectx.go)                           `resolveIRI`
  iri.PrefixManager (Clone/AddPrefixMappings/Expand)     `pmAddAll` (`aset`), `alookup` (last write wins; exact-match lookup)
  evaluationContext.TermMappings (ONE shared Go map)     `St.terms`
  globalEvaluationContext (shared pointer)               `St.profile`, `St.foundBase`, `St.special`
  map[rdf.IRI]*listMappingBuilder, shared by reference   heap `St.maps` (map id ↦ insertion-ordered pred ↦ list id) and
                                                          heap `St.lists` (list id ↦ items); `*listMappingBuilder`
                                                          pointer equality = equality of list ids
  blanknodes.StringFactory                               counter `St.nextBn` + label map `St.labels`
  *string DefaultVocabulary compared BY POINTER with     `Vocab.host` | `Vocab.other v`
    Global.HostDefaultVocabulary
  iri.ParseIRI / ParsedIRI.Parse / ResolveReference /    parameters `Env.parseBase`, `Env.resolve`, `Env.xmlBase`; a
    String / DropFragment                                 *ParsedIRI is represented by its String()
  strings.ToLower                                        parameter `Env.lower`
  xsdobject.MapDuration/DateTime/Date/Time/GYearMonth/   parameter `Env.timeMaps`, tried in order
    GYear
  Decoder.xmlRender (x/net/html renderer + regexp)       parameter `Env.xmlRender` (node identity ↦ string | error)
  Decoder.htmlRender (x/net/html renderer)               parameter `Env.htmlRender` (node identity ↦ string | error); the
                                                          model follows the code AFTER patch c11ra-1-fix-rdf-html-literal
                                                          (before it the rdf:HTML branch was shadowed and unreachable)
  text offsets, container resources                      outside the model (they do not influence the triples)

  Outcomes where Go would crash or emit a nil term are explicit:
    `Bad.panic`   a failing `x.(rdf.SubjectValue)` assertion on a nil interface (head/body rule 8 with a nil parent
                  object), a nil term reaching the property-copying dataset;
    `Bad.nilTerm` a statement or list item with a nil subject / object would be appended (the model stops recording
                  there; Props/C11Ra proves it never happens);
    `Bad.err`     walkNode returned an error (xml / html render): Next returns false with Err set and NO statement is yielded.

  `St.asks` is a ghost log of the oracle calls that depend on run-time bases (used by the driver to detect a missing
  table entry); nothing reads it.
  `St.unordered` records that Go's result ORDER was decided by map iteration (step 14 flushing ≥ 2 lists of one
  element; property copying with ≥ 2 query results): the model then fixes one order and the tie compares graphs.
  Core-only, executable.
-/
import RdfModel.Model.MicrodataDecoder
namespace RdfModel.Rdfad
open RdfModel RdfModel.Desc
open RdfModel.Mdd (Node Attr Bytes Subj fields trimSpace typeTokens textContent)

/-! ## constants -/
def rdfNs : Bytes := asc "http://www.w3.org/1999/02/22-rdf-syntax-ns#"
def rdfType : Bytes := asc "http://www.w3.org/1999/02/22-rdf-syntax-ns#type"
def rdfFirst : Bytes := asc "http://www.w3.org/1999/02/22-rdf-syntax-ns#first"
def rdfRest : Bytes := asc "http://www.w3.org/1999/02/22-rdf-syntax-ns#rest"
def rdfNil : Bytes := asc "http://www.w3.org/1999/02/22-rdf-syntax-ns#nil"
def rdfXMLLiteral : Bytes := asc "http://www.w3.org/1999/02/22-rdf-syntax-ns#XMLLiteral"
def rdfHTML : Bytes := asc "http://www.w3.org/1999/02/22-rdf-syntax-ns#HTML"
def usesVocabulary : Bytes := asc "http://www.w3.org/ns/rdfa#usesVocabulary"
def rdfaCopy : Bytes := asc "http://www.w3.org/ns/rdfa#copy"
def rdfaPattern : Bytes := asc "http://www.w3.org/ns/rdfa#Pattern"
def xhv : Bytes := asc "http://www.w3.org/1999/xhtml/vocab#"

/-- w3_2011_rdfacontext_rdfa11_TermMappings -/
def terms11 : List (Bytes × Bytes) :=
  [(asc "describedby", asc "http://www.w3.org/2007/05/powder-s#describedby"),
   (asc "license", asc "http://www.w3.org/1999/xhtml/vocab#license"),
   (asc "role", asc "http://www.w3.org/1999/xhtml/vocab#role")]

/-- w3_2011_rdfacontext_xhtmlrdfa11_TermMappings (every value is xhv ++ key) -/
def xhtmlTermNames : List String :=
  ["alternate", "appendix", "cite", "bookmark", "contents", "chapter", "copyright", "first", "glossary", "help", "icon",
   "index", "last", "license", "meta", "next", "prev", "previous", "section", "start", "stylesheet", "subsection", "top",
   "up", "p3pv1"]
def termsXhtml : List (Bytes × Bytes) := xhtmlTermNames.map (fun s => (asc s, xhv ++ asc s))

/-- htmlIgnoredLinkRels, as `rel/atom` keys -/
def ignoredLinkRels : List Bytes :=
  ["alternate/form", "canonical/a", "canonical/area", "canonical/form", "author/form", "bookmark/link", "bookmark/form",
   "dns-prefetch/link", "dns-prefetch/a", "dns-prefetch/area", "dns-prefetch/form", "expect/link", "expect/a",
   "expect/area", "expect/form", "external/link", "external/a", "external/area", "external/form", "icon/link", "icon/a",
   "icon/area", "icon/form", "manifest/link", "manifest/a", "manifest/area", "manifest/form", "modulepreload/link",
   "modulepreload/a", "modulepreload/area", "modulepreload/form", "nofollow/link", "nofollow/a", "nofollow/area",
   "nofollow/form", "noopener/link", "noopener/a", "noopener/area", "noopener/form", "noreferrer/link", "noreferrer/a",
   "noreferrer/area", "noreferrer/form", "opener/link", "opener/a", "opener/area", "opener/form", "pingback/link",
   "pingback/a", "pingback/area", "pingback/form", "preconnect/link", "preconnect/a", "preconnect/area",
   "preconnect/form", "prefetch/link", "prefetch/a", "prefetch/area", "prefetch/form", "preload/link", "preload/a",
   "preload/area", "preload/form", "privacy-policy/form", "stylesheet/link", "stylesheet/a", "stylesheet/area",
   "stylesheet/form", "tag/link", "tag/form", "terms-of-service/form"].map asc

/-! HtmlProcessingProfile bit patterns -/
def pUnspecified : Nat := 0
def pXHTML1 : Nat := 0b110
def pXHTML5 : Nat := 0b1110
def isActive (p : Nat) : Bool := p / 2 % 2 == 1
def isXHTML1 (p : Nat) : Bool := p == pXHTML1
def isXHTML (p : Nat) : Bool := p == pXHTML1 || p == pXHTML5

/-! ## byte-string helpers -/

def hasPrefix (p : Bytes) : Bytes → Bool
  | s => p.isPrefixOf s

def hasSuffix (p s : Bytes) : Bool := p.reverse.isPrefixOf s.reverse

def hasInfix (p : Bytes) : Bytes → Bool
  | [] => p.isEmpty
  | c :: r => p.isPrefixOf (c :: r) || hasInfix p r

/-- strings.SplitN(v, ":", 2): `none` = one part -/
def splitColon : Bytes → Option (Bytes × Bytes)
  | [] => none
  | c :: rest =>
    if c = 0x3a then some ([], rest)
    else match splitColon rest with
      | some (a, b) => some (c :: a, b)
      | none => none

/-- strings.ContainsAny(s, "/?#") -/
def containsPathish (s : Bytes) : Bool := s.any (fun c => c == 0x2f || c == 0x3f || c == 0x23)

def alookup {α : Type} (k : Bytes) : List (Bytes × α) → Option α
  | [] => none
  | (k', v) :: rest => if k' = k then some v else alookup k rest

/-- insert or replace, keeping the position of an existing key (Go map assignment; order = first insertion) -/
def aset {α : Type} (k : Bytes) (v : α) : List (Bytes × α) → List (Bytes × α)
  | [] => [(k, v)]
  | (k', v') :: rest => if k' = k then (k, v) :: rest else (k', v') :: aset k v rest

/-- PrefixManager.AddPrefixMappings: last write wins -/
def pmAddAll (pm : List (Bytes × Bytes)) : List (Bytes × Bytes) → List (Bytes × Bytes)
  | [] => pm
  | (p, e) :: rest => pmAddAll (aset p e pm) rest

/-! ## terms, statements, state -/

abbrev Obj := Term Nat

structure Stmt where
  s : Subj
  p : Bytes
  o : Obj
  deriving Repr, DecidableEq, Inhabited

inductive Bad where
  | panic
  | nilTerm
  | err
  deriving Repr, DecidableEq, Inhabited

/-- `*string` default vocabulary, compared by pointer with the host default in resolveIRI -/
inductive Vocab where
  | host
  | other (v : Bytes)
  deriving Repr, DecidableEq, Inhabited

def Vocab.str : Vocab → Bytes
  | .host => xhv
  | .other v => v

inductive Incomplete where
  | lst (listId : Nat)
  | fwd (p : Bytes)
  | rev (p : Bytes)
  deriving Repr, DecidableEq, Inhabited

structure Env where
  /-- iri.ParseIRI(v), DropFragment, String(); `none` = parse error -/
  parseBase : Bytes → Option Bytes
  /-- base.ResolveReference(ParseIRI(v)).String(); `none` = ParseIRI error -/
  xmlBase : Bytes → Bytes → Option Bytes
  /-- base.Parse(ref).String(); `none` = error -/
  resolve : Bytes → Bytes → Option Bytes
  /-- strings.ToLower -/
  lower : Bytes → Bytes
  /-- MapDuration, MapDateTime, MapDate, MapTime, MapGYearMonth, MapGYear: lexical form and datatype -/
  timeMaps : List (Bytes → Option (Bytes × Bytes))
  /-- Decoder.xmlRender of the node with this identity; `none` = error -/
  xmlRender : Nat → Option Bytes
  /-- Decoder.htmlRender of the node with this identity; `none` = error -/
  htmlRender : Nat → Option Bytes

structure Cfg where
  /-- DecoderConfig.htmlProcessingProfile (0 = unset) -/
  profile : Nat := 0
  /-- DecoderConfig.defaultVocabulary -/
  defaultVocab : Option Bytes := none
  /-- the host default prefixes (DecoderConfig.defaultPrefixes or the widely-used initial context) -/
  prefixes : List (Bytes × Bytes) := []
  /-- DocumentInfo.BaseURL -/
  base : Bytes := []

structure St where
  nextBn : Nat := 0
  /-- StringFactory: label ↦ node -/
  labels : List (Bytes × Nat) := []
  /-- BlankNodeSpecialSpecific -/
  special : Option Nat := none
  profile : Nat := 0
  foundBase : Bool := false
  terms : List (Bytes × Bytes) := []
  maps : List (List (Bytes × Nat)) := []
  lists : List (List Obj) := []
  /-- v.statements, oldest first -/
  out : List Stmt := []
  asks : List (Nat × Bytes × Bytes) := []
  unordered : Bool := false
  bad : Option Bad := none
  deriving Repr, Inhabited

def St.fail (st : St) (b : Bad) : St := { st with bad := (match st.bad with | some x => some x | none => some b) }

/-- append a statement; a nil subject or object is the explicit outcome `nilTerm` -/
def St.emit (st : St) (s : Option Subj) (p : Bytes) (o : Option Obj) : St :=
  match s, o with
  | some s, some o => { st with out := st.out ++ [⟨s, p, o⟩] }
  | _, _ => st.fail .nilTerm

def St.fresh (st : St) : Nat × St := (st.nextBn, { st with nextBn := st.nextBn + 1 })

def St.ask (st : St) (k : Nat) (a b : Bytes) : St := { st with asks := (k, a, b) :: st.asks }

def St.getMap (st : St) (i : Nat) : List (Bytes × Nat) := st.maps.getD i []
def St.getList (st : St) (i : Nat) : List Obj := st.lists.getD i []
def St.newMap (st : St) : Nat × St := (st.maps.length, { st with maps := st.maps ++ [[]] })
def St.newList (st : St) : Nat × St := (st.lists.length, { st with lists := st.lists ++ [[]] })
def St.setMap (st : St) (i : Nat) (m : List (Bytes × Nat)) : St := { st with maps := st.maps.set i m }
/-- `l.Objects = append(l.Objects, x)`; a nil item is the explicit outcome `nilTerm` -/
def St.pushList (st : St) (i : Nat) (x : Option Obj) : St :=
  match x with
  | some x => { st with lists := st.lists.set i (st.getList i ++ [x]) }
  | none => st.fail .nilTerm

/-- `if _, known := listMapping[p]; !known { listMapping[p] = &listMappingBuilder{} }`; returns the list id -/
def St.ensureList (st : St) (mapId : Nat) (p : Bytes) : Nat × St :=
  match alookup p (st.getMap mapId) with
  | some l => (l, st)
  | none =>
    let (l, st) := st.newList
    (l, st.setMap mapId (aset p l (st.getMap mapId)))

/-- evaluationContext (by value) -/
structure Ctx where
  base : Bytes
  parentSubject : Option Subj := none
  parentObject : Option Subj := none
  incomplete : List Incomplete := []
  listMapping : Nat
  language : Option Bytes := none
  prefixes : List (Bytes × Bytes)
  vocab : Vocab := .host
  deriving Repr, Inhabited

/-! ## resolveIRI -/

def lookupCI (E : Env) (lv : Bytes) : List (Bytes × Bytes) → Option Bytes
  | [] => none
  | (k, v) :: rest => if E.lower k = lv then some v else lookupCI E lv rest

def isSafeCurie (v : Bytes) : Bool := v.head? == some 0x5b && v.getLast? == some 0x5d

/-- the `_:` branch: `_:` alone is ONE special node, `_:label` goes through the string factory -/
def bnodeRef (st : St) (value : Bytes) : Option Subj × St :=
  if value = [0x5f, 0x3a] then
    match st.special with
    | some k => (some (.bn k), st)
    | none => (some (.bn st.nextBn), { st.fresh.2 with special := some st.nextBn })
  else
    match alookup (value.drop 2) st.labels with
    | some k => (some (.bn k), st)
    | none => (some (.bn st.nextBn), { st.fresh.2 with labels := (value.drop 2, st.nextBn) :: st.labels })

/-- `baseURL.Parse(value)` when there is a base (and `cond` holds); the call is logged -/
def tryResolve (E : Env) (st : St) (base : Option Bytes) (cond : Bool) (value : Bytes) : Option Bytes × St :=
  match base with
  | some b => if cond then (E.resolve b value, st.ask 2 b value) else (none, st)
  | none => (none, st)

/-- the `len(valueSplit) == 1` branch -/
def resolvePlain (E : Env) (st : St) (value : Bytes) (base : Option Bytes) (dv : Option Vocab) (allowTerms : Bool) :
    Option Subj × St :=
  let r := tryResolve E st base true value
  match r.1 with
  | some x => (some (.iri x), r.2)
  | none =>
    match (match dv with | some (.other v) => some v | _ => none) with
    | some v => (some (.iri (v ++ value)), r.2)
    | none =>
      if allowTerms then
        match alookup value r.2.terms with
        | some i => (some (.iri i), r.2)
        | none => ((lookupCI E (E.lower value) r.2.terms).map Subj.iri, r.2)
      else (none, r.2)

/-- the `prefix:reference` branch -/
def resolveCurie (E : Env) (st : St) (prefixes : List (Bytes × Bytes)) (value p ref : Bytes) (base : Option Bytes)
    (dv : Option Vocab) : Option Subj × St :=
  match alookup p prefixes with
  | some e => (some (.iri (e ++ ref)), st)
  | none =>
    let r := tryResolve E st base (containsPathish p) value
    match r.1 with
    | some x => (some (.iri x), r.2)
    | none =>
      match (if p.isEmpty then dv else none) with
      | some v => (some (.iri (v.str ++ ref)), r.2)
      | none => (some (.iri value), r.2)

def unbracket (value : Bytes) : Bytes := if isSafeCurie value then (value.drop 1).dropLast else value

def resolveIRI (E : Env) (st : St) (prefixes : List (Bytes × Bytes)) (value : Bytes) (base : Option Bytes)
    (dv : Option Vocab) (allowSafe allowTerms : Bool) : Option Subj × St :=
  if value.isEmpty then (base.map Subj.iri, st)
  else if isSafeCurie value && allowSafe && (unbracket value).isEmpty then (none, st)
  else if hasPrefix [0x5f, 0x3a] (unbracket value) then bnodeRef st (unbracket value)
  else
    match splitColon (unbracket value) with
    | none => resolvePlain E st (unbracket value) base dv allowTerms
    | some (p, ref) => resolveCurie E st prefixes (unbracket value) p ref base dv

/-- `resolveIRI(…).(rdf.IRI)` -/
def resolveAsIRI (E : Env) (st : St) (prefixes : List (Bytes × Bytes)) (value : Bytes) (dv : Option Vocab)
    (allowTerms : Bool) : Option Bytes × St :=
  match resolveIRI E st prefixes value none dv false allowTerms with
  | (some (.iri v), st) => (some v, st)
  | (_, st) => (none, st)

/-- the IRIs of a token list, in order (tokens that do not resolve to an IRI are skipped) -/
def resolveTokens (E : Env) (prefixes : List (Bytes × Bytes)) (dv : Option Vocab) (allowTerms : Bool) :
    List Bytes → St → List Bytes × St
  | [], st => ([], st)
  | t :: ts, st =>
    let (r, st) := resolveAsIRI E st prefixes t dv allowTerms
    let (rs, st) := resolveTokens E prefixes dv allowTerms ts st
    (match r with | some v => v :: rs | none => rs, st)

/-! ## attribute scan -/

structure A where
  prefixAttr : Bytes := []
  about : Option Bytes := none
  content : Option Bytes := none
  datatype : Option Bytes := none
  datetime : Option Bytes := none
  href : Option Bytes := none
  inlist : Option Bytes := none
  lang : Option Bytes := none
  langXml : Option Bytes := none
  property : Option Bytes := none
  rel : Option Bytes := none
  resource : Option Bytes := none
  rev : Option Bytes := none
  src : Option Bytes := none
  typeof : Option Bytes := none
  vocab : Option Bytes := none
  entries : List (Bytes × Bytes) := []
  localBase : Bytes := []
  asks : List (Nat × Bytes × Bytes) := []
  deriving Repr, Inhabited

def kXmlns : Bytes := asc "xmlns:"

def scanAttrs (E : Env) (xhtml : Bool) : List Attr → A → A
  | [], acc => acc
  | a :: rest, acc =>
    if a.ns ≠ [] then scanAttrs E xhtml rest acc
    else if a.key = asc "about" then scanAttrs E xhtml rest { acc with about := some a.val }
    else if a.key = asc "content" then scanAttrs E xhtml rest { acc with content := some a.val }
    else if a.key = asc "datetime" then scanAttrs E xhtml rest { acc with datetime := some a.val }
    else if a.key = asc "datatype" then scanAttrs E xhtml rest { acc with datatype := some a.val }
    else if a.key = asc "href" then scanAttrs E xhtml rest { acc with href := some a.val }
    else if a.key = asc "inlist" then scanAttrs E xhtml rest { acc with inlist := some a.val }
    else if a.key = asc "lang" then scanAttrs E xhtml rest { acc with lang := some a.val }
    else if a.key = asc "prefix" then scanAttrs E xhtml rest { acc with prefixAttr := a.val }
    else if a.key = asc "property" then scanAttrs E xhtml rest { acc with property := some a.val }
    else if a.key = asc "rel" then scanAttrs E xhtml rest { acc with rel := some a.val }
    else if a.key = asc "resource" then scanAttrs E xhtml rest { acc with resource := some a.val }
    else if a.key = asc "rev" then scanAttrs E xhtml rest { acc with rev := some a.val }
    else if a.key = asc "src" then scanAttrs E xhtml rest { acc with src := some a.val }
    else if a.key = asc "typeof" then scanAttrs E xhtml rest { acc with typeof := some a.val }
    else if a.key = asc "vocab" then scanAttrs E xhtml rest { acc with vocab := some a.val }
    else if a.key = asc "xml:base" then
      if xhtml then
        let acc := { acc with asks := (1, acc.localBase, a.val) :: acc.asks }
        match E.xmlBase acc.localBase a.val with
        | some b => scanAttrs E xhtml rest { acc with localBase := b }
        | none => scanAttrs E xhtml rest acc
      else scanAttrs E xhtml rest acc
    else if a.key = asc "xml:lang" then
      if xhtml then scanAttrs E xhtml rest { acc with langXml := some a.val } else scanAttrs E xhtml rest acc
    else if hasPrefix kXmlns a.key then
      let name := E.lower (a.key.drop 6)
      if name.isEmpty then scanAttrs E xhtml rest acc
      else if name.head? == some 0x5f then scanAttrs E xhtml rest acc
      else scanAttrs E xhtml rest { acc with entries := acc.entries ++ [(name, a.val)] }
    else scanAttrs E xhtml rest acc

/-- step 3, the @prefix pairs (`fields` has even length) -/
def prefixPairs (E : Env) : List Bytes → List (Bytes × Bytes)
  | p :: i :: rest =>
    let t := E.lower p
    if !hasSuffix [0x3a] t then prefixPairs E rest
    else if t.head? == some 0x5f then prefixPairs E rest
    else if t.length == 1 then prefixPairs E rest
    else (t.dropLast, i) :: prefixPairs E rest
  | _ => []

def prefixEntries (E : Env) (attr : Bytes) : List (Bytes × Bytes) :=
  if attr.isEmpty then []
  else
    let fs := fields (trimSpace attr)
    if fs.length % 2 != 0 then [] else prefixPairs E fs

/-! ## the steps of walkNode -/

/-- rdfa-in-html rule 5 (doctype) -/
def detectProfile (data : Bytes) : Nat :=
  if hasInfix (asc "//DTD XHTML+RDFa 1.0//") data && hasInfix (asc "\"http://www.w3.org/MarkUp/DTD/xhtml-rdfa-1.dtd\"") data then pXHTML1
  else if hasInfix (asc "//DTD XHTML+RDFa 1.1//") data && hasInfix (asc "\"http://www.w3.org/MarkUp/DTD/xhtml-rdfa-2.dtd\"") data then pXHTML1
  else pXHTML5

/-- the first un-namespaced attribute named `key` (`for … { if … { …; break } }`) -/
def firstAttr (key : Bytes) : List Attr → Option Bytes
  | [] => none
  | a :: rest => if a.ns = [] ∧ a.key = key then some a.val else firstAttr key rest

def versionProfile (attrs : List Attr) : Nat :=
  match firstAttr (asc "version") attrs with
  | some v =>
    if v = asc "HTML+RDFa 1.0" || v = asc "XHTML+RDFa 1.0" || v = asc "HTML+RDFa 1.1" || v = asc "XHTML+RDFa 1.1" then pXHTML1
    else pXHTML5
  | none => pXHTML5

/-- maps.Copy into the shared TermMappings map -/
def addTerms (ts : List (Bytes × Bytes)) : List (Bytes × Bytes) → List (Bytes × Bytes)
  | [] => ts
  | (k, v) :: rest => addTerms (aset k v ts) rest

/-- the `else if n.DataAtom == atom.Html` block -/
def htmlInit (cfg : Cfg) (n : Node) (ctx : Ctx) (st : St) : Ctx × St :=
  let st := if st.profile == pUnspecified then { st with profile := versionProfile n.attrs } else st
  if isActive st.profile then
    let st := { st with terms := addTerms st.terms terms11 }
    let st := if st.profile == pXHTML1 then { st with terms := addTerms st.terms termsXhtml } else st
    let v : Vocab := match cfg.defaultVocab with | some d => .other d | none => .host
    ({ ctx with vocab := v }, st)
  else (ctx, st)

/-- the `if n.DataAtom == atom.Base` block -/
def baseElem (E : Env) (n : Node) (ctx : Ctx) (st : St) : Ctx × St :=
  if st.foundBase then (ctx, st)
  else
    match firstAttr (asc "href") n.attrs with
    | none => (ctx, st)
    | some h =>
      let st := st.ask 0 h []
      match E.parseBase h with
      | none => (ctx, st)
      | some b => ({ ctx with base := b }, { st with foundBase := true })

/-- the locals of walkNode that later steps read -/
structure L where
  skip : Bool := false
  newSubject : Option Subj := none
  cor : Option Subj := none
  typed : Option Subj := none
  prefixes : List (Bytes × Bytes) := []
  incompl : List Incomplete := []
  listMapping : Nat := 0
  lang : Option Bytes := none
  vocab : Vocab := .host
  base : Bytes := []
  rel : Option Bytes := none
  rev : Option Bytes := none
  relValid : Bool := false
  deriving Repr, Inhabited

/-- step 2 -/
def stepVocab (E : Env) (ctx : Ctx) (a : A) (l : L) (st : St) : L × St :=
  match a.vocab with
  | none => (l, st)
  | some v =>
    if v.isEmpty then ({ l with vocab := .host }, st)
    else
      match resolveAsIRI E st l.prefixes v (some l.vocab) true with
      | (some i, st) => ({ l with vocab := .other i }, st.emit (some (.iri ctx.base)) usesVocabulary (some (.iri i)))
      | (none, st) => (l, st)

/-- step 4 -/
def stepLang (active : Bool) (a : A) (cur : Option Bytes) : Option Bytes :=
  match (if active then a.langXml else none) with
  | some x => if x.isEmpty then none else some x
  | none =>
    match a.lang with
    | some x => if x.isEmpty then none else some x
    | none => cur

def joinSp : List Bytes → Bytes
  | [] => []
  | [x] => x
  | x :: y :: rest => x ++ 0x20 :: joinSp (y :: rest)

/-- filterNonCURIENonURI applied to @rel / @rev when @property is present -/
def filterRel (E : Env) (prefixes : List (Bytes × Bytes)) (v : Option Bytes) (st : St) : Option Bytes × St :=
  match v with
  | none => (none, st)
  | some s =>
    let (rs, st) := resolveTokens E prefixes none false (fields (trimSpace s)) st
    let j := joinSp (rs.map (fun r => 0x5b :: r ++ [0x5d]))
    (if j.isEmpty then none else some j, st)

def isHeadBody (n : Node) : Bool := n.atom = asc "head" || n.atom = asc "body"

/-- `x.(rdf.SubjectValue)` on the parent object: a nil interface panics -/
def assertParentObject (ctx : Ctx) (st : St) : Option Subj × St :=
  match ctx.parentObject with
  | some s => (some s, st)
  | none => (none, st.fail .panic)

def res (E : Env) (st : St) (l : L) (v : Bytes) (safe : Bool) : Option Subj × St :=
  resolveIRI E st l.prefixes v (some l.base) (some l.vocab) safe true

/-- `if attr != nil { if s := resolveIRI(*attr, …); s != nil { … } }` -/
def resOpt (E : Env) (st : St) (l : L) (v : Option Bytes) (safe : Bool) : Option Subj × St :=
  match v with
  | some v => res E st l v safe
  | none => (none, st)

/-- `if x == nil { x = f() }` with the state threaded -/
def orElseSt (r : Option Subj × St) (f : St → Option Subj × St) : Option Subj × St :=
  match r with
  | (some s, st) => (some s, st)
  | (none, st) => f st

/-- first non-nil of @resource (SafeCURIE allowed), @href, @src — each tried only while the result is still nil -/
def res3 (E : Env) (a : A) (l : L) (st : St) : Option Subj × St :=
  orElseSt (resOpt E st l a.resource true) (fun st =>
    orElseSt (resOpt E st l a.href false) (fun st => resOpt E st l a.src false))

/-- the `if attrResource … else if attrHref … else if attrSrc` chain of step 5 option 1 (only the FIRST present
    attribute is looked at) -/
def res3First (E : Env) (a : A) (l : L) (st : St) : Option Subj × St :=
  match a.resource with
  | some v => res E st l v true
  | none =>
    match a.href with
    | some v => res E st l v false
    | none => resOpt E st l a.src false

def freshBn (st : St) : Option Subj × St := (some (.bn st.nextBn), st.fresh.2)

/-- the fall-backs for a new subject that no attribute gave: rule 8 (head/body), the root, the parent object -/
def inheritSubject (E : Env) (active isRoot : Bool) (n : Node) (ctx : Ctx) (l : L) (st : St) : Option Subj × St :=
  if active && isHeadBody n then assertParentObject ctx st
  else if isRoot then res E st l [] false
  else (ctx.parentObject, st)

/-- step 5 option 1: @property without @content / @datatype -/
def step5a (E : Env) (active isRoot : Bool) (n : Node) (ctx : Ctx) (a : A) (l : L) (st : St) : L × St :=
  match resOpt E st l a.about true with
  | (aboutRes, st) =>
    match orElseSt (aboutRes, st) (inheritSubject E active isRoot n ctx l) with
    | (ns, st) =>
      let l := { l with newSubject := ns }
      if a.typeof.isSome then
        if a.about.isSome && aboutRes.isSome then ({ l with typed := ns }, st)
        else if isRoot then
          match res E st l [] false with
          | (t, st) => ({ l with typed := t }, st)
        else
          match orElseSt (res3First E a l st) freshBn with
          | (t, st) => ({ l with typed := t, cor := t }, st)
      else (l, st)

/-- step 5 option 2 -/
def step5b (E : Env) (active isRoot : Bool) (n : Node) (ctx : Ctx) (a : A) (l : L) (st : St) : L × St :=
  match orElseSt (resOpt E st l a.about true) (res3 E a l) with
  | (some s, st) =>
    ({ l with newSubject := some s, typed := if a.typeof.isSome then some s else l.typed }, st)
  | (none, st) =>
    if active && isHeadBody n then
      match assertParentObject ctx st with
      | (ns, st) => ({ l with newSubject := ns, typed := if a.typeof.isSome then ns else l.typed }, st)
    else if isRoot then
      match res E st l [] false with
      | (ns, st) => ({ l with newSubject := ns, typed := if a.typeof.isSome then ns else l.typed }, st)
    else if a.typeof.isSome then
      match freshBn st with
      | (ns, st) => ({ l with newSubject := ns, typed := ns }, st)
    else
      match ctx.parentObject with
      | some s => ({ l with newSubject := some s, skip := a.property.isNone }, st)
      | none => (l, st)

/-- step 5 (no @rel/@rev after rule 7) -/
def step5 (E : Env) (active isRoot : Bool) (n : Node) (ctx : Ctx) (a : A) (l : L) (st : St) : L × St :=
  if a.property.isSome && a.content.isNone && a.datatype.isNone then step5a E active isRoot n ctx a l st
  else step5b E active isRoot n ctx a l st

/-- step 6 (@rel or @rev present after rule 7) -/
def step6 (E : Env) (isRoot : Bool) (ctx : Ctx) (a : A) (l : L) (st : St) : L × St :=
  match resOpt E st l a.about true with
  | (aboutRes, st) =>
    let typed0 : Option Subj := if a.typeof.isSome then aboutRes else none
    match orElseSt (aboutRes, st) (fun st => if isRoot then res E st l [] false else (ctx.parentObject, st)) with
    | (ns, st) =>
      let l := { l with newSubject := ns, typed := typed0 }
      match res3 E a l st with
      | (cor, st) =>
        match (if a.typeof.isSome && a.about.isNone then orElseSt (cor, st) freshBn else (cor, st)) with
        | (cor, st) =>
          ({ l with cor := cor, typed := if a.typeof.isSome && a.about.isNone && typed0.isNone then cor else typed0 }, st)

def emitTypes (typed : Subj) : List Bytes → St → St
  | [], st => st
  | i :: is, st => emitTypes typed is (st.emit (some typed) rdfType (some (.iri i)))

/-- step 7 -/
def stepTypeof (E : Env) (a : A) (l : L) (st : St) : St :=
  match l.typed, a.typeof with
  | some t, some ty =>
    let (is, st) := resolveTokens E l.prefixes (some l.vocab) true (typeTokens ty) st
    emitTypes t is st
  | _, _ => st

def subjEq (a b : Subj) : Bool := a == b

/-- step 8 -/
def step8 (ctx : Ctx) (l : L) (st : St) : L × St :=
  match l.newSubject with
  | some s =>
    if (match ctx.parentSubject with | some p => !(subjEq p s) | none => true) then
      ({ l with listMapping := st.newMap.1 }, st.newMap.2)
    else (l, st)
  | none => (l, st)

/-- the `htmlIgnoredLinkRels` filter on one @rel token -/
def relIgnored (E : Env) (profile : Nat) (n : Node) (tok : Bytes) : Bool :=
  isActive profile && !isXHTML1 profile &&
    (n.atom = asc "form" || n.atom = asc "a" || n.atom = asc "area" || n.atom = asc "link") &&
    ignoredLinkRels.contains (E.lower tok ++ 0x2f :: n.atom)

def relTokens (E : Env) (profile : Nat) (n : Node) (rel : Bytes) : List Bytes :=
  (fields (trimSpace rel)).filter (fun t => !relIgnored E profile n t)

def emitEach (f : Bytes → St → St) : List Bytes → St → St
  | [], st => st
  | p :: ps, st => emitEach f ps (f p st)

/-- `if _, known := listMapping[p]; !known {…}; listMapping[p].Objects = append(…, v)` -/
def pushTo (mapId : Nat) (v : Option Obj) (p : Bytes) (st : St) : St :=
  (st.ensureList mapId p).2.pushList (st.ensureList mapId p).1 v

/-- step 9, `if attrInlist != nil && attrRel != nil` -/
def step9a (E : Env) (n : Node) (a : A) (o : Subj) (l : L) (st : St) : L × St :=
  match a.inlist, l.rel with
  | some _, some rel =>
    let r := resolveTokens E l.prefixes (some l.vocab) true (relTokens E st.profile n rel) st
    ({ l with relValid := l.relValid || !r.1.isEmpty }, emitEach (pushTo l.listMapping (some o.term)) r.1 r.2)
  | _, _ => (l, st)

/-- step 9, `if attrRel != nil && attrInlist == nil` -/
def step9b (E : Env) (n : Node) (a : A) (o : Subj) (l : L) (st : St) : L × St :=
  match l.rel, a.inlist with
  | some rel, none =>
    let r := resolveTokens E l.prefixes (some l.vocab) true (relTokens E st.profile n rel) st
    ({ l with relValid := l.relValid || !r.1.isEmpty },
     emitEach (fun p st => st.emit l.newSubject p (some o.term)) r.1 r.2)
  | _, _ => (l, st)

/-- step 9, `if attrRev != nil` -/
def step9c (E : Env) (o : Subj) (l : L) (st : St) : L × St :=
  match l.rev with
  | some rev =>
    let r := resolveTokens E l.prefixes (some l.vocab) true (fields (trimSpace rev)) st
    (l, emitEach (fun p st => st.emit (some o) p (l.newSubject.map Subj.term)) r.1 r.2)
  | none => (l, st)

/-- step 9 (current object resource present) -/
def step9 (E : Env) (n : Node) (a : A) (l : L) (o : Subj) (st : St) : L × St :=
  let r1 := step9a E n a o l st
  let r2 := step9b E n a o r1.1 r1.2
  step9c E o r2.1 r2.2

def addIncompleteLists (mapId : Nat) : List Bytes → St → List Incomplete × St
  | [], st => ([], st)
  | p :: ps, st =>
    let e := st.ensureList mapId p
    let r := addIncompleteLists mapId ps e.2
    (.lst e.1 :: r.1, r.2)

def step10rel (E : Env) (n : Node) (a : A) (l : L) (st : St) : L × St :=
  match l.rel with
  | some rel =>
    let r := resolveTokens E l.prefixes (some l.vocab) true (relTokens E st.profile n rel) st
    let inc : List Incomplete × St :=
      if a.inlist.isSome then addIncompleteLists l.listMapping r.1 r.2 else (r.1.map Incomplete.fwd, r.2)
    ({ l with incompl := l.incompl ++ inc.1, relValid := l.relValid || !r.1.isEmpty }, inc.2)
  | none => (l, st)

def step10rev (E : Env) (l : L) (st : St) : L × St :=
  match l.rev with
  | some rev =>
    let r := resolveTokens E l.prefixes (some l.vocab) true (fields (trimSpace rev)) st
    ({ l with incompl := l.incompl ++ r.1.map Incomplete.rev }, r.2)
  | none => (l, st)

/-- step 10 (no current object resource, @rel or @rev present) -/
def step10 (E : Env) (n : Node) (a : A) (l : L) (st : St) : L × St :=
  let r1 := step10rel E n a { l with cor := some (.bn st.nextBn) } st.fresh.2
  step10rev E r1.1 r1.2

def firstMap (v : Bytes) : List (Bytes → Option (Bytes × Bytes)) → Obj
  | [] => .lit v xsdString none
  | f :: fs => match f v with | some (lex, dt) => .lit lex dt none | none => firstMap v fs

/-- `resolveIRI(*attrDatatype, …).(rdf.IRI)` with the two language-string datatypes treated as unresolved -/
def datatypeIRI (E : Env) (a : A) (l : L) (st : St) : Bytes × St :=
  match a.datatype with
  | some d =>
    (match resolveAsIRI E st l.prefixes d (some l.vocab) true with
     | (some i, st) => (if i = rdfLangString || i = rdfDirLangString then [] else i, st)
     | (none, st) => ([], st))
  | none => ([], st)

/-- the last branch of step 11's chain: no @content, no @datatype (or rdf:HTML shadowed): a resource or the text -/
def valueResource (E : Env) (n : Node) (a : A) (l : L) (st : St) : Option Obj × St :=
  match (if !l.relValid && l.rev.isNone then res3 E a l st else (none, st)) with
  | (some s, st) => (some s.term, st)
  | (none, st) =>
    if a.typeof.isSome && a.about.isNone then (l.typed.map Subj.term, st)
    else (some (.lit (textContent n) xsdString none), st)

/-- step 11: the current property value before the language is applied; outer `none` = xml render error -/
def propertyValue (E : Env) (active : Bool) (n : Node) (a : A) (l : L) (st : St) : Option (Option Obj) × St :=
  match datatypeIRI E a l st with
  | (dt, st) =>
    if active && n.atom = asc "time" && a.content.isNone then
      let v := match a.datetime with | some d => d | none => textContent n
      (some (some (if !dt.isEmpty then .lit v dt none else firstMap v E.timeMaps)), st)
    else if a.datatype.isSome && !dt.isEmpty && dt ≠ rdfXMLLiteral && dt ≠ rdfHTML then
      (some (some (.lit (match a.content with | some c => c | none => textContent n) dt none)), st)
    else if a.datatype.isSome && dt.isEmpty then
      (some (some (.lit (match a.content with | some c => c | none => textContent n) xsdString none)), st)
    else if a.datatype.isSome && dt = rdfXMLLiteral then
      match E.xmlRender n.id with
      | some s => (some (some (.lit s rdfXMLLiteral none)), st)
      | none => (none, st)
    else if a.datatype.isSome && dt = rdfHTML then
      match E.htmlRender n.id with
      | some s => (some (some (.lit s rdfHTML none)), st)
      | none => (none, st)
    else
      match a.content with
      | some c => (some (some (.lit c xsdString none)), st)
      | none =>
        match valueResource E n a l st with
        | (v, st) => (some v, st)

def applyLang (lang : Option Bytes) (v : Option Obj) : Option Obj :=
  match lang, v with
  | some lg, some (.lit lex dt _) => if dt = xsdString then some (.lit lex rdfLangString (some lg)) else v
  | _, _ => v

/-- step 11 -/
def step11 (E : Env) (active : Bool) (n : Node) (a : A) (l : L) (st : St) : St :=
  match a.property with
  | none => st
  | some pv =>
    match propertyValue E active n a l st with
    | (none, st) => st.fail .err
    | (some v, st) =>
      let r := resolveTokens E l.prefixes (some l.vocab) true (fields (trimSpace pv)) st
      if a.inlist.isSome then emitEach (pushTo l.listMapping (applyLang l.lang v)) r.1 r.2
      else emitEach (fun p st => st.emit l.newSubject p (applyLang l.lang v)) r.1 r.2

/-- step 12 -/
def step12 (ctx : Ctx) (l : L) (st : St) : St :=
  match l.newSubject with
  | some s =>
    if l.skip then st
    else
      ctx.incomplete.foldl (fun st i =>
        match i with
        | .lst id => st.pushList id (some s.term)
        | .fwd p => st.emit ctx.parentSubject p (some s.term)
        | .rev p => st.emit (some s) p (ctx.parentSubject.map Subj.term)) st
  | none => st

/-- step 13: the evaluation context of the children -/
def childCtx (ctx : Ctx) (l : L) : Ctx :=
  if l.skip then { ctx with language := l.lang, prefixes := l.prefixes, vocab := l.vocab }
  else
    let ps := match l.newSubject with | some s => some s | none => ctx.parentSubject
    { base := l.base,
      parentSubject := ps,
      parentObject := (match l.cor with | some o => some o | none => ps),
      incomplete := l.incompl, listMapping := l.listMapping, language := l.lang, prefixes := l.prefixes,
      vocab := l.vocab }

/-- the rdf:first / rdf:rest cells of one list; `cells` = the blank nodes made for the items -/
def listCells : List Nat → List Obj → St → St
  | [], _, st => st
  | _, [], st => st
  | [c], x :: _, st => (st.emit (some (.bn c)) rdfFirst (some x)).emit (some (.bn c)) rdfRest (some (.iri rdfNil))
  | c :: d :: cs, x :: xs, st =>
    listCells (d :: cs) xs ((st.emit (some (.bn c)) rdfFirst (some x)).emit (some (.bn c)) rdfRest (some (.bnode d)))

def freshN : Nat → St → List Nat × St
  | 0, st => ([], st)
  | k + 1, st => (st.nextBn :: (freshN k st.fresh.2).1, (freshN k st.fresh.2).2)

/-- step 14 for the entries of the local list mapping that the context's mapping does not share -/
def flushLists (parentMap : List (Bytes × Nat)) (subj : Option Subj) : List (Bytes × Nat) → St → St
  | [], st => st
  | (p, id) :: rest, st =>
    if alookup p parentMap = some id then flushLists parentMap subj rest st
    else if (st.getList id).isEmpty then flushLists parentMap subj rest (st.emit subj p (some (.iri rdfNil)))
    else
      let c := freshN (st.getList id).length st
      flushLists parentMap subj rest ((listCells c.1 (st.getList id) c.2).emit subj p (c.1.head?.map Term.bnode))

def flushCount (parentMap : List (Bytes × Nat)) (m : List (Bytes × Nat)) : Nat :=
  (m.filter (fun e => alookup e.1 parentMap != some e.2)).length

/-! ### property copying (rdfa-in-html 3.5) -/

def patternStmt (t : Stmt) : Bool := t.p = rdfType && t.o = .iri rdfaPattern

/-- the simplequery join `?subject rdfa:copy ?target . ?target rdf:type rdfa:Pattern . ?target ?predicate ?object`
    over the (deduplicated) statements: (subject, target, predicate, object) -/
def copyBindings (ds : List Stmt) : List (Subj × Subj × Bytes × Obj) :=
  ds.flatMap (fun c =>
    if c.p = rdfaCopy then
      ds.flatMap (fun ty =>
        if ty.s.term = c.o && patternStmt ty then
          ds.filterMap (fun t => if t.s.term = c.o then some (c.s, t.s, t.p, t.o) else none)
        else [])
    else [])

def copyStep (st : St) : St :=
  let bs := copyBindings st.out.eraseDups
  let added : List Stmt :=
    bs.filterMap (fun b => if b.2.2.1 = rdfType && b.2.2.2 = .iri rdfaPattern then none else some ⟨b.1, b.2.2.1, b.2.2.2⟩)
  let all := st.out ++ added
  let keep (t : Stmt) : Bool :=
    if t.p = rdfaCopy then !(bs.any (fun b => b.1 = t.s && b.2.1.term = t.o))
    else if patternStmt t then !(bs.any (fun b => b.2.1 = t.s))
    else !(bs.any (fun b => b.2.1 = t.s && b.2.2.1 = t.p && b.2.2.2 = t.o))
  { st with out := all.filter keep, unordered := st.unordered || bs.length ≥ 2 }

/-! ## walkNode -/

/-- profile detection (doctype, <html version>) and <base href> -/
def pre (E : Env) (cfg : Cfg) (n : Node) (ctx : Ctx) (st : St) : Ctx × St :=
  let c : Ctx × St :=
    if n.typ = 5 && st.profile == pUnspecified then (ctx, { st with profile := detectProfile n.data })
    else if n.atom = asc "html" then htmlInit cfg n ctx st
    else (ctx, st)
  if n.atom = asc "base" then baseElem E n c.1 c.2 else c

def locals0 (ctx : Ctx) (a : A) : L :=
  { prefixes := ctx.prefixes, listMapping := ctx.listMapping, lang := ctx.language, vocab := ctx.vocab,
    base := a.localBase, rel := a.rel, rev := a.rev }

/-- steps 3 and 4 -/
def step34 (E : Env) (active : Bool) (a : A) (l : L) : L :=
  let entries := a.entries ++ prefixEntries E a.prefixAttr
  { l with prefixes := if entries.isEmpty then l.prefixes else pmAddAll l.prefixes entries,
           lang := stepLang active a l.lang }

/-- rdfa-in-html rule 7 -/
def rule7 (E : Env) (a : A) (l : L) (st : St) : L × St :=
  if a.property.isSome then
    let r := filterRel E l.prefixes l.rel st
    let v := filterRel E l.prefixes l.rev r.2
    ({ l with rel := r.1, rev := v.1 }, v.2)
  else (l, st)

def step56 (E : Env) (active isRoot : Bool) (n : Node) (ctx : Ctx) (a : A) (l : L) (st : St) : L × St :=
  if l.rel.isNone && l.rev.isNone then step5 E active isRoot n ctx a l st else step6 E isRoot ctx a l st

def step910 (E : Env) (n : Node) (a : A) (l : L) (st : St) : L × St :=
  match l.cor with
  | some o => step9 E n a l o st
  | none => if l.rel.isSome || l.rev.isSome then step10 E n a l st else (l, st)

/-- everything walkNode does before it recurses into the children: (context after profile/base handling, locals,
    state) -/
def enter (E : Env) (cfg : Cfg) (isRoot : Bool) (n : Node) (ctx : Ctx) (st : St) : Ctx × L × St :=
  let c := pre E cfg n ctx st
  let a := scanAttrs E (isXHTML c.2.profile) n.attrs { localBase := c.1.base }
  let st := { c.2 with asks := a.asks ++ c.2.asks }
  let active := isActive st.profile
  let r2 := stepVocab E c.1 a (locals0 c.1 a) st
  let r7 := rule7 E a (step34 E active a r2.1) r2.2
  let r6 := step56 E active isRoot n c.1 a r7.1 r7.2
  let r8 := step8 c.1 r6.1 (stepTypeof E a r6.1 r6.2)
  let r9 := step910 E n a r8.1 r8.2
  (c.1, r9.1, step12 c.1 r9.1 (step11 E active n a r9.1 r9.2))

/-- steps 14 and property copying, after the children -/
def leave (isRoot : Bool) (ctx : Ctx) (l : L) (st : St) : St :=
  let pm := st.getMap ctx.listMapping
  let m := st.getMap l.listMapping
  let st := if flushCount pm m ≥ 2 then { st with unordered := true } else st
  let st := flushLists pm l.newSubject m st
  if isRoot && isActive st.profile then copyStep st else st

mutual
/-- Decoder.walkNode. Once `bad` is set nothing more is recorded (Go has crashed or returned the error). -/
def walk (E : Env) (cfg : Cfg) (isRoot : Bool) (ctx : Ctx) (st : St) : Node → St
  | .mk i t ns atm d as ks =>
    if st.bad.isSome then st
    else
      let e := enter E cfg isRoot (Node.mk i t ns atm d as ks) ctx st
      if e.2.2.bad.isSome then e.2.2
      else
        let st' := walkKids E cfg (t == 2) (childCtx e.1 e.2.1) e.2.2 ks
        if st'.bad.isSome then st' else leave isRoot e.1 e.2.1 st'
/-- `for c := n.FirstChild; c != nil; c = c.NextSibling`; `parentDoc`: the parent is a DocumentNode -/
def walkKids (E : Env) (cfg : Cfg) (parentDoc : Bool) (ctx : Ctx) (st : St) : List Node → St
  | [] => st
  | k :: ks => walkKids E cfg parentDoc ctx (walk E cfg (parentDoc && k.typ == 3) ctx st k) ks
end

inductive Outcome where
  /-- the statements Next yields, in order; `unordered`: Go's order depended on map iteration -/
  | ok (stmts : List Stmt) (unordered : Bool)
  /-- NewDecoder failed (document base does not parse) -/
  | newErr
  /-- Next returned false at once with Err set -/
  | err
  | panic
  | nilTerm
  deriving Repr, DecidableEq, Inhabited

def initSt (cfg : Cfg) : St := { profile := cfg.profile, maps := [[]] }

def initCtx (cfg : Cfg) (base : Bytes) : Ctx :=
  { base := base, listMapping := 0, prefixes := cfg.prefixes,
    vocab := match cfg.defaultVocab with | some d => .other d | none => .host }

/-- the final state of NewDecoder + the first Next on document `doc` -/
def run (E : Env) (cfg : Cfg) (doc : Node) : Option St :=
  let base : Option Bytes := if cfg.base.isEmpty then some [] else E.parseBase cfg.base
  match base with
  | none => none
  | some b => some (walk E cfg true (initCtx cfg b) (initSt cfg) (Mdd.relabel doc))

def decode (E : Env) (cfg : Cfg) (doc : Node) : Outcome :=
  match run E cfg doc with
  | none => .newErr
  | some st =>
    match st.bad with
    | some .panic => .panic
    | some .nilTerm => .nilTerm
    | some .err => .err
    | none => .ok st.out st.unordered

end RdfModel.Rdfad
