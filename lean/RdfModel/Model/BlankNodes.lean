/-
  RdfModel.Model.BlankNodes — executable model of blank-node identity in rdfkit-go (property C14).

  Go code followed, function by function:
    rdf/blank_node.go                    BlankNode.TermEquals                    → `termEquals`
    rdf/blank_node_factory.go            bn.EqualsBlankNodeIdentifier, bnF       → `Ident.equals`, `fresh (.bnf i)`
    rdf/blank_node_factory_default.go    bnDefault, defaultBlankNodeFactory      → `Ident.equals`, `fresh .dflt`
    rdf/blanknodes/string_factory.go     bnString, bnStringF, stringIdentifierProvider → `.bnString`, `fresh (.strf j)`, `getLabel (.pass ..)`
    rdf/blanknodes/int64_string_provider.go                                      → `getLabel (.int64 i)`
    rdf/blanknodes/uuid_string_provider.go   (with the D15 repair: the stored value is returned) → `getLabel (.uuid i)`
    rdf/blanknodes/mapper.go                                                     → `mapNode`
    rdfio/rdfiotypes/encoder.go          PropagateDecoderPipeBlankNodeStringProvider → `Op.propagate`

  Conventions.
  * Go pointers (`*bnF`, `*bnStringF`, `*int64StringProvider`, …) are allocation indices into the lists
    of the `State`; pointer equality is index equality.
  * `int64` counters are `Nat` (assumption recorded in props/C14.json: fewer than 2^63 calls per counter).
  * Strings are byte lists (`Bytes`); Go string `==` is list equality.
  * A Go `map[K]V` is an association list; lookup is by Go's interface `==`, which for the three
    identifier struct types is field-wise equality, i.e. `DecidableEq` on `Option Ident`.
  * UUIDs: `crypto/rand` + `uuid.NewV7FromReader` are a process-global abstract stream `U : Nat → Bytes`
    (the canonical 36-character text of the k-th UUID drawn); `State.uuidPos` is how many were drawn.
  * `fmt.Sprintf(format, x)` is modelled for formats that contain exactly one `%`, directly followed by a
    verb that prints the value plainly (`%d`/`%v` for int64, `%s`/`%v` for UUID); any other format gives
    `Out.unsupported` (outside the model; the state is still updated as Go does before formatting).
  * Every API call is one `step` (atomicity: T2 `Gen/LockFacts.lean` + Go memory model, see DESIGN C14).
  Core-only imports.
-/
namespace RdfModel.BN

abbrev Bytes := List Nat

/-- `rdf.BlankNodeIdentifier` implementations of the repository. -/
inductive Ident where
  /-- `rdf.bn{v, s}`; `f` = allocation index of the `*bnF` in `s` -/
  | bn (f : Nat) (v : Nat)
  /-- `rdf.bnDefault{v}` -/
  | bnDefault (v : Nat)
  /-- `blanknodes.bnString{v, s}`; `f` = allocation index of the `*bnStringF` -/
  | bnString (f : Nat) (v : Bytes)
  deriving DecidableEq, Repr, Inhabited

/-- `rdf.BlankNode`; `none` is the zero value (nil `Identifier`). -/
abbrev Node := Option Ident

/-- `EqualsBlankNodeIdentifier` of the three types: type assertion on `other`, then field comparison. -/
def Ident.equals : Ident → Ident → Bool
  | .bn f v, .bn g w => g == f && w == v     -- otherT.s == bni.s && otherT.v == bni.v
  | .bn _ _, _ => false                          -- !ok
  | .bnDefault v, .bnDefault w => w == v
  | .bnDefault _, _ => false
  | .bnString f v, .bnString g w => g == f && w == v
  | .bnString _ _, _ => false

/-- `BlankNode.TermEquals` restricted to blank-node arguments (other term kinds give false). -/
def termEquals (t a : Node) : Bool :=
  match t with
  | none => false                       -- t.Identifier == nil
  | some ti =>
    match a with
    | none => false                     -- aBlankNode.Identifier == nil
    | some ai => ti.equals ai

/-- values of interface type `rdf.BlankNodeFactory` that the repository can produce -/
inductive FactoryRef where
  | dflt                 -- rdf.DefaultBlankNodeFactory
  | bnf (i : Nat)        -- *bnF
  | strf (j : Nat)       -- *bnStringF
  deriving DecidableEq, Repr, Inhabited

/-- values of interface type `blanknodes.StringProvider` -/
inductive ProvRef where
  | int64 (i : Nat)                               -- *int64StringProvider
  | uuid (i : Nat)                                -- *uuidStringProvider
  | pass (scope : Nat) (fallback : ProvRef)       -- stringIdentifierProvider{scope, fallback} (a value type)
  deriving DecidableEq, Repr, Inhabited

/-- Go map lookup. -/
def assoc {α β : Type} [DecidableEq α] (k : α) : List (α × β) → Option β
  | [] => none
  | (k', v) :: rest => if k' = k then some v else assoc k rest

structure Int64Prov where
  format : Bytes
  /-- `value.Load() + 1`: what the next `value.Add(1)` returns (initially 0: `Store(-1)`) -/
  next : Nat
  known : List (Node × Nat)
  deriving Repr, DecidableEq

structure UuidProv where
  format : Bytes
  /-- value: position in the UUID stream of the stored `uuid.UUID` -/
  known : List (Node × Nat)
  deriving Repr, DecidableEq

structure Mapper where
  factory : FactoryRef
  known : List (Node × Ident)
  deriving Repr, DecidableEq

structure State where
  /-- `rdf.DefaultBlankNodeFactory.a` (process-global) -/
  dfltCtr : Nat
  /-- `bnF.a` of every allocated `*bnF`, by allocation index -/
  bnfs : List Nat
  /-- every allocated `*bnStringF`: allocation index of its `anon` `*bnF` -/
  strfs : List Nat
  int64s : List Int64Prov
  uuids : List UuidProv
  mappers : List Mapper
  /-- number of UUIDs drawn so far (process-global source) -/
  uuidPos : Nat
  deriving Repr, DecidableEq

/-- process start, with the default factory's counter at an arbitrary value -/
def init (d : Nat := 0) : State :=
  { dfltCtr := d, bnfs := [], strfs := [], int64s := [], uuids := [], mappers := [], uuidPos := 0 }

inductive Op where
  | newFactory                                        -- rdf.NewBlankNodeFactory()
  | newStringFactory                                  -- blanknodes.NewStringFactory()
  | newBlankNode (f : FactoryRef)                     -- f.NewBlankNode()   (rdf.NewBlankNode() = .dflt)
  | newStringBlankNode (j : Nat) (label : Bytes)      -- (*bnStringF j).NewStringBlankNode(label)
  | newInt64Provider (format : Bytes)                 -- blanknodes.NewInt64StringProvider(format)
  | newUUIDProvider (format : Bytes)                  -- blanknodes.NewUUIDStringProvider(format, _)
  | getStringProvider (j : Nat) (fallback : ProvRef)  -- (*bnStringF j).GetStringProvider(fallback)
  | getLabel (p : ProvRef) (n : Node)                 -- p.GetBlankNodeString(n)
  | newMapper (f : Option FactoryRef)                 -- blanknodes.NewFactoryMapper(f)   (none = nil)
  | mapNode (m : Nat) (n : Node)                      -- (*factoryMapper m).MapBlankNode(n)
  | propagate (h : Option FactoryRef)                 -- rdfiotypes.PropagateDecoderPipeBlankNodeStringProvider(&DecoderHandle{DecoderBlankNodes: h})
  | termEquals (a b : Node)                           -- a.TermEquals(b)
  deriving DecidableEq, Repr, Inhabited

inductive Out where
  | factory (f : FactoryRef)
  | prov (p : ProvRef)
  | noProv                     -- nil StringProvider
  | mapper (m : Nat)
  | node (n : Node)
  | label (l : Bytes)
  | bool (b : Bool)
  | unsupported                -- format string outside the modelled fragment of fmt.Sprintf
  | bad                        -- dangling handle: cannot be expressed in Go
  deriving DecidableEq, Repr, Inhabited

/-- ASCII helper -/
def asc (s : String) : Bytes := s.toList.map Char.toNat

/-- `%d` of a non-negative int64 -/
def decimal (n : Nat) : Bytes := (Nat.toDigits 10 n).map Char.toNat

/-- Split a format at its only `%` (byte 37), which must be followed by one of `verbs`. -/
def splitVerb (verbs : List Nat) : Bytes → Option (Bytes × Bytes)
  | [] => none
  | c :: rest =>
    if c = 37 then
      match rest with
      | v :: suf => if v ∈ verbs ∧ 37 ∉ suf then some ([], suf) else none
      | [] => none
    else
      match splitVerb verbs rest with
      | some (pre, suf) => some (c :: pre, suf)
      | none => none

/-- `fmt.Sprintf(format, x)` where `arg` is the plain rendering of `x`. -/
def sprintf1 (format : Bytes) (verbs : List Nat) (arg : Bytes) : Out :=
  match splitVerb verbs format with
  | some (pre, suf) => .label (pre ++ arg ++ suf)
  | none => .unsupported

def int64Verbs : List Nat := [100, 118]   -- %d %v
def uuidVerbs : List Nat := [115, 118]    -- %s %v

/-- `f.NewBlankNode()`: one `a.Add(1)`; `none` for a dangling handle. -/
def fresh (s : State) : FactoryRef → Option (State × Ident)
  | .dflt => some ({ s with dfltCtr := s.dfltCtr + 1 }, .bnDefault (s.dfltCtr + 1))
  | .bnf i =>
    match s.bnfs[i]? with
    | some c => some ({ s with bnfs := s.bnfs.set i (c + 1) }, .bn i (c + 1))
    | none => none
  | .strf j =>
    match s.strfs[j]? with
    | some a =>       -- bnf.anon.NewBlankNode()
      match s.bnfs[a]? with
      | some c => some ({ s with bnfs := s.bnfs.set a (c + 1) }, .bn a (c + 1))
      | none => none
    | none => none

/-- `GetBlankNodeString` of the three provider types. -/
def getLabel (U : Nat → Bytes) (s : State) : ProvRef → Node → State × Out
  | .int64 i, n =>
    match s.int64s[i]? with
    | none => (s, .bad)
    | some p =>
      match assoc n p.known with
      | some index => (s, sprintf1 p.format int64Verbs (decimal index))
      | none =>
        let index := p.next       -- sp.value.Add(1)
        ({ s with int64s := s.int64s.set i { p with next := p.next + 1, known := (n, index) :: p.known } },
         sprintf1 p.format int64Verbs (decimal index))
  | .uuid i, n =>
    match s.uuids[i]? with
    | none => (s, .bad)
    | some p =>
      match assoc n p.known with
      | some pos => (s, sprintf1 p.format uuidVerbs (U pos))
      | none =>
        let pos := s.uuidPos      -- uuid.NewV7FromReader(rand.Reader)
        ({ s with uuidPos := s.uuidPos + 1, uuids := s.uuids.set i { p with known := (n, pos) :: p.known } },
         sprintf1 p.format uuidVerbs (U pos))
  | .pass scope fallback, n =>
    match n with
    | some (.bnString f v) => if f = scope then (s, .label v) else getLabel U s fallback n
    | _ => getLabel U s fallback n

def validFactory (s : State) : FactoryRef → Bool
  | .dflt => true
  | .bnf i => i < s.bnfs.length
  | .strf j => j < s.strfs.length

/-- `MapBlankNode` -/
def mapNode (s : State) (m : Nat) (n : Node) : State × Out :=
  match s.mappers[m]? with
  | none => (s, .bad)
  | some mp =>
    match assoc n mp.known with
    | some mapped => (s, .node (some mapped))
    | none =>
      match fresh s mp.factory with
      | none => (s, .bad)
      | some (s', id) =>
        ({ s' with mappers := s'.mappers.set m { mp with known := (n, id) :: mp.known } }, .node (some id))

def step (U : Nat → Bytes) (s : State) : Op → State × Out
  | .newFactory =>
    ({ s with bnfs := s.bnfs ++ [0] }, .factory (.bnf s.bnfs.length))
  | .newStringFactory =>
    ({ s with bnfs := s.bnfs ++ [0], strfs := s.strfs ++ [s.bnfs.length] }, .factory (.strf s.strfs.length))
  | .newBlankNode f =>
    match fresh s f with
    | some (s', id) => (s', .node (some id))
    | none => (s, .bad)
  | .newStringBlankNode j l =>
    if j < s.strfs.length then
      if l = [] then            -- len(identifier) == 0
        match fresh s (.strf j) with
        | some (s', id) => (s', .node (some id))
        | none => (s, .bad)
      else (s, .node (some (.bnString j l)))
    else (s, .bad)
  | .newInt64Provider format =>
    ({ s with int64s := s.int64s ++ [{ format := if format = [] then asc "b%d" else format, next := 0, known := [] }] },
     .prov (.int64 s.int64s.length))
  | .newUUIDProvider format =>
    ({ s with uuids := s.uuids ++ [{ format := if format = [] then asc "%s" else format, known := [] }] },
     .prov (.uuid s.uuids.length))
  | .getStringProvider j fallback =>
    if j < s.strfs.length then (s, .prov (.pass j fallback)) else (s, .bad)
  | .getLabel p n => getLabel U s p n
  | .newMapper f =>
    let f' := f.getD .dflt      -- if m.factory == nil { m.factory = rdf.DefaultBlankNodeFactory }
    if validFactory s f' then
      ({ s with mappers := s.mappers ++ [{ factory := f', known := [] }] }, .mapper s.mappers.length)
    else (s, .bad)
  | .mapNode m n => mapNode s m n
  | .propagate h =>
    match h with
    | some (.strf j) =>         -- the only StringProviderProvider
      if j < s.strfs.length then
        ({ s with uuids := s.uuids ++ [{ format := asc "%s", known := [] }] }, .prov (.pass j (.uuid s.uuids.length)))
      else (s, .bad)
    | some f => if validFactory s f then (s, .noProv) else (s, .bad)
    | none => (s, .noProv)      -- h == nil || h.DecoderBlankNodes == nil
  | .termEquals a b => (s, .bool (termEquals a b))

/-- a history: the operations with their results (the final state is `exec`) -/
def trace (U : Nat → Bytes) : State → List Op → List (Op × Out)
  | _, [] => []
  | s, op :: ops => (op, (step U s op).2) :: trace U (step U s op).1 ops

def exec (U : Nat → Bytes) (s : State) (ops : List Op) : State :=
  ops.foldl (fun s op => (step U s op).1) s

/-! ### Operations whose arguments refer to earlier results (what a Go program can write; the driver's input) -/

inductive Arg where
  | res (k : Nat)     -- the result of operation k of this history
  | nil               -- nil / zero value
  | dflt              -- rdf.DefaultBlankNodeFactory (factory positions only)
  deriving DecidableEq, Repr, Inhabited

/-- a label argument: a literal, or the label returned by operation k -/
inductive LArg where
  | lit (l : Bytes)
  | res (k : Nat)
  deriving DecidableEq, Repr, Inhabited

inductive ROp where
  | newFactory | newStringFactory
  | newBlankNode (f : Arg)
  | newStringBlankNode (f : Arg) (label : LArg)
  | newInt64Provider (format : Bytes)
  | newUUIDProvider (format : Bytes)
  | getStringProvider (f : Arg) (fallback : Arg)
  | getLabel (p : Arg) (n : Arg)
  | newMapper (f : Arg)
  | mapNode (m : Arg) (n : Arg)
  | propagate (f : Arg)
  | termEquals (a b : Arg)
  deriving DecidableEq, Repr, Inhabited

def argFactory (outs : List Out) : Arg → Option FactoryRef
  | .dflt => some .dflt
  | .res k => match outs[k]? with | some (.factory f) => some f | _ => none
  | .nil => none

def argStrf (outs : List Out) (a : Arg) : Option Nat :=
  match argFactory outs a with | some (.strf j) => some j | _ => none

def argNode (outs : List Out) : Arg → Option Node
  | .nil => some none
  | .res k => match outs[k]? with | some (.node n) => some n | _ => none
  | .dflt => none

def argProv (outs : List Out) : Arg → Option ProvRef
  | .res k => match outs[k]? with | some (.prov p) => some p | _ => none
  | _ => none

def argLabel (outs : List Out) : LArg → Option Bytes
  | .lit l => some l
  | .res k => match outs[k]? with | some (.label l) => some l | _ => none

def argMapper (outs : List Out) : Arg → Option Nat
  | .res k => match outs[k]? with | some (.mapper m) => some m | _ => none
  | _ => none

/-- resolve references against the results so far; `none` = ill-typed reference -/
def resolve (outs : List Out) : ROp → Option Op
  | .newFactory => some .newFactory
  | .newStringFactory => some .newStringFactory
  | .newBlankNode f => (argFactory outs f).map .newBlankNode
  | .newStringBlankNode f l => do
      let j ← argStrf outs f
      let l ← argLabel outs l
      pure (.newStringBlankNode j l)
  | .newInt64Provider fmt => some (.newInt64Provider fmt)
  | .newUUIDProvider fmt => some (.newUUIDProvider fmt)
  | .getStringProvider f fb => do
      let j ← argStrf outs f
      let p ← argProv outs fb
      pure (.getStringProvider j p)
  | .getLabel p n => do
      let p ← argProv outs p
      let n ← argNode outs n
      pure (.getLabel p n)
  | .newMapper f =>
      match f with
      | .nil => some (.newMapper none)
      | _ => (argFactory outs f).map (fun x => .newMapper (some x))
  | .mapNode m n => do
      let m ← argMapper outs m
      let n ← argNode outs n
      pure (.mapNode m n)
  | .propagate f =>
      match f with
      | .nil => some (.propagate none)
      | _ => (argFactory outs f).map (fun x => .propagate (some x))
  | .termEquals a b => do
      let a ← argNode outs a
      let b ← argNode outs b
      pure (.termEquals a b)

/-- run a referential history from state `s`; `acc` = resolved history so far (in order) -/
def runRefs (U : Nat → Bytes) : State → List (Op × Out) → List ROp → Option (List (Op × Out))
  | _, acc, [] => some acc
  | s, acc, r :: rs =>
    match resolve (acc.map Prod.snd) r with
    | none => none
    | some op => runRefs U (step U s op).1 (acc ++ [(op, (step U s op).2)]) rs

/-- equality classes of the node results: each node result gets the index of the first earlier class
    whose representative it `termEquals`, or a new class -/
def classOf (reps : List Node) (n : Node) : Nat :=
  match reps.findIdx? (fun r => termEquals r n) with
  | some k => k
  | none => reps.length

def classify : List Node → List Out → List (Option Nat)
  | _, [] => []
  | reps, .node n :: rest =>
    let k := classOf reps n
    some k :: classify (if k = reps.length then reps ++ [n] else reps) rest
  | reps, _ :: rest => none :: classify reps rest

/-- the UUID text the driver uses for the k-th drawn UUID: `<Uk>` -/
def driverU (k : Nat) : Bytes := asc "<U" ++ decimal k ++ asc ">"

end RdfModel.BN
