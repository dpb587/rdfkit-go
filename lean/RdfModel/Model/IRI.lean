/-
  RdfModel.Model.IRI — executable model of /repo/iri/parsed_iri.go, over bytes (`List Nat`).

  Modelled (hand translation, function by function):
    * `resolvePath`      the function duplicated from net/url (`strings.Cut` loop, `strings.Builder`,
                         `first` flag, trailing-slash and double-slash fix-ups)        — proved about, T3
    * `reclassify`       the block of `ParseIRI` that moves `Path` into `Opaque`       — T3 (`iri.reclass`)
    * `forceFragment`    `strings.HasSuffix(s, "#")`                                   — T3 (`iri.reclass`)
    * `stringFix`        `ParsedIRI.String()` after `u.String()`: raw path / raw fragment substitution
                         (`strings.Replace(…, 1)`) and the forced empty fragment       — T3 (`iri.string`)
  Outside this file (for the ops `iri.*` of T3 parameters supplied by the real net/url; modelled in
  Model/GoUrlFull.lean and Model/ParsedIRI.lean): `url.Parse`, `URL.String`, `URL.EscapedPath`,
  `URL.EscapedFragment`, `URL.setPath`, and the body of `ResolveReference` that shuffles `url.URL` fields around
  them. Their composition is tied to `Spec.RFC3986` by the end-to-end ops `iri.parse` / `iri.resolve` and, on a
  sub-language, by the theorems of Props/C12Wrap*.lean.

  Core-only; does not import the spec.
-/
namespace RdfModel.IRI

abbrev Str := List Nat

/-- `strings.Cut(s, "/")`: `(before, some after)` when found, `(s, none)` otherwise. -/
def cutSlash : Str → Str × Option Str
  | [] => ([], none)
  | c :: rest =>
    if c = 0x2f then ([], some rest)
    else let r := cutSlash rest; (c :: r.1, r.2)

/-- `strings.LastIndexByte(s, '/')` / `strings.LastIndex(s, "/")`; `none` is `-1`. -/
def lastIndexSlash : Str → Option Nat
  | [] => none
  | c :: rest =>
    match lastIndexSlash rest with
    | some i => some (i + 1)
    | none => if c = 0x2f then some 0 else none

/-- `base[:strings.LastIndex(base, "/")+1]` -/
def uptoLastSlash (base : Str) : Str :=
  match lastIndexSlash base with
  | some i => base.take (i + 1)
  | none => []

/-- first assignment of `resolvePath`: the string whose dot segments are then processed -/
def fullPath (base ref : Str) : Str :=
  if ref = [] then base
  else if ref.head? ≠ some 0x2f then uptoLastSlash base ++ ref
  else ref

/-- One pass of the `for found { … }` loop body; returns the new `dst` and `first`. -/
def rpBody (elem dst : Str) (first : Bool) : Str × Bool :=
  if elem = [0x2e] then (dst, false)                       -- "." : first = false; continue
  else if elem = [0x2e, 0x2e] then
    let str := dst.drop 1                                   -- dst.String()[1:]
    match lastIndexSlash str with
    | none => ([0x2f], true)                                -- Reset; WriteByte('/'); first = true
    | some i => (0x2f :: str.take i, first)                 -- Reset; WriteByte('/'); WriteString(str[:index])
  else ((if first then dst else dst ++ [0x2f]) ++ elem, false)

/-- The loop: `elem, remaining, found = strings.Cut(remaining, "/")` until not found.
    Returns the final `dst` and the last `elem`. `fuel = |remaining| + 1` always suffices. -/
def rpLoop : Nat → Str → Str → Bool → Str × Str
  | 0, _, dst, _ => (dst, [])
  | fuel + 1, remaining, dst, first =>
    let c := cutSlash remaining
    let b := rpBody c.1 dst first
    match c.2 with
    | some rest => rpLoop fuel rest b.1 b.2
    | none => (b.1, c.1)

/-- the two fix-ups after the loop -/
def rpFinish (r : Str × Str) : Str :=
  let dst := if r.2 = [0x2e] ∨ r.2 = [0x2e, 0x2e] then r.1 ++ [0x2f] else r.1
  match dst with
  | _ :: 0x2f :: _ => dst.drop 1                          -- len(r) > 1 && r[1] == '/'
  | _ => dst

/-- `resolvePath(base, ref string) string` -/
def resolvePath (base ref : Str) : Str :=
  let full := fullPath base ref
  if full = [] then []
  else rpFinish (rpLoop (full.length + 1) full [0x2f] true)

/-! ### `ParseIRI` around `url.Parse` -/

/-- the fields of `url.URL` that `ParseIRI` reads or writes -/
structure URL where
  scheme : Str
  opaq : Str
  host : Str
  path : Str
  rawPath : Str
deriving DecidableEq, Repr

def sHttp : Str := [0x68, 0x74, 0x74, 0x70]
def sHttps : Str := [0x68, 0x74, 0x74, 0x70, 0x73]
def sFile : Str := [0x66, 0x69, 0x6c, 0x65]

/-- `ParseIRI` after a successful `url.Parse`: returns the rewritten URL and `isOpaque`. -/
def reclassify (u : URL) : URL × Bool :=
  if u.scheme ≠ [] ∧ u.scheme ≠ sHttp ∧ u.scheme ≠ sHttps ∧ u.scheme ≠ sFile ∧ u.host = [] ∧ u.opaq = [] then
    if u.path ≠ [] then
      ({ u with opaq := (if u.path.head? = some 0x2f then u.path.drop 1 else u.path), path := [], rawPath := [] }, true)
    else ({ u with opaq := [] }, true)
  else (u, false)

/-- `strings.HasSuffix(s, "#")` -/
def forceFragment (s : Str) : Bool := s.getLast? = some 0x23

/-! ### `ParsedIRI.String()` -/

/-- `strings.Replace(s, old, new, 1)` (for `old = ""` Go inserts `new` at the front) -/
def replaceFirst (s old new : Str) : Str :=
  if old.isPrefixOf s then new ++ s.drop old.length
  else match s with
    | [] => []
    | c :: rest => c :: replaceFirst rest old new

def containsHash (s : Str) : Bool := s.contains 0x23

/-- `String()` given `s = u.String()`, `u.EscapedPath()`, `u.RawPath`, `u.EscapedFragment()`,
    `u.RawFragment` and the `forceFragment` flag. -/
def stringFix (s escapedPath rawPath escapedFragment rawFragment : Str) (force : Bool) : Str :=
  let s := if rawPath ≠ [] then replaceFirst s escapedPath rawPath else s
  if rawFragment ≠ [] then replaceFirst s (0x23 :: escapedFragment) (0x23 :: rawFragment)
  else if force ∧ !containsHash s then s ++ [0x23]
  else s

end RdfModel.IRI
