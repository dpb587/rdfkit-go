/-
  RdfModel.Model.IriUnify — the glue that puts the consumers of `net/url` / `iri.ParsedIRI` on the ONE model
  that is tied exactly to the code (Model/GoUrlFull.lean + Model/ParsedIRI.lean, T3 ops `piri.*`):

    * `fullAbsOk` / `fullOk`   acceptance of `url.Parse` (+ `IsAbs`) read off the full model
    * `urlOk`                  the `urlOk` parameter of the N-Triples / N-Quads decoders as the driver now
                               instantiates it: runes → `string(runes)` (UTF-8) → `fullAbsOk`; on the single
                               class the full model declines (`PErr.unmodelled`: '%' inside an IP literal) the
                               acceptance model Model/GoUrl.lean answers (zones are modelled there)
    * `relativizeCode`         `ParseBaseIRI(b)` then `RelativizeIRI(v)` (iri/base_iri.go) with NOTHING
                               abstracted: `original = ParsedIRI.String()` of the base, the five indices from
                               `PIRI.baseIndices` (which runs the model of `Parse("/")`, `Parse("./")`), the
                               candidate by the index arithmetic of `relativizeIRI` (`candidateCode`: as
                               `Prefix.candidate`, every slice expression with its explicit `.panic`
                               outcome, with the two bounds guards of patches/c13-fix-relativize-bounds.patch:
                               bases such as "http:/a/b" print shorter than their own directory
                               "http:///a/"), and the verification step by `rb.parsed.Parse(rel)` / `String()` =
                               `PIRI.ParsedIRI.parseRef` / `str` — the resolver the Go code calls, instead of
                               `Prefix.goResolve` (RFC 3986 plus two measured deviations, valid on a domain).

  Tied by T3 ops `iriu.url` and `iriu.rel` (go/cmd/iriu), exact agreement on every input (no domain
  restriction). Core-only.
-/
import RdfModel.Model.Rune
import RdfModel.Model.GoUrl
import RdfModel.Model.ParsedIRI
import RdfModel.Model.Prefix
namespace RdfModel.IriUnify
open RdfModel RdfModel.GoUrlFull RdfModel.PIRI
open RdfModel.Prefix (BaseIRI Outcome)

/-! ### acceptance -/

/-- `url.Parse(s)` succeeds and `IsAbs()`, by the full model; `unmodelled` counts as "no" -/
def fullAbsOk (s : Str) : Bool :=
  match parse s with
  | .ok u => u.isAbs
  | .error _ => false

/-- `url.Parse(s)` succeeds, by the full model -/
def fullOk (s : Str) : Bool :=
  match parse s with
  | .ok _ => true
  | .error _ => false

/-- the full model declines (`'%'` between `[` and `]`) -/
def fullUnmodelled (s : Str) : Bool :=
  match parse s with
  | .error .unmodelled => true
  | _ => false

/-- acceptance on bytes: the full model, falling back to the acceptance model where the full model declines -/
def absOkBytes (s : Str) : Bool :=
  match parse s with
  | .ok u => u.isAbs
  | .error .unmodelled => GoUrl.parseAbsOk s
  | .error _ => false

/-- the `urlOk` parameter of the NT/NQ decoders (argument: the runes of `string(decoded)`) -/
def urlOk (rs : List Nat) : Bool := absOkBytes (utf8Encode rs)

/-! ### `RelativizeIRI` over the exact resolver -/

/-- `NewBaseIRI(parsed)`; `none` = the nil dereference of `baseRoot.String()` (never reached:
    `C12W.parseRef_no_panic` and "/" , "./" always parse) -/
def newBaseIRICode (p : ParsedIRI) : Option BaseIRI :=
  match baseIndices p with
  | none => none
  | some ix =>
    some { original := p.str
           root := (match ix.root, ix.directory with
             | some r, some d => some (r, d)
             | _, _ => none)
           resourceIndex := ix.resource
           queryIndex := ix.query
           fragmentIndex := ix.fragment }

/-- the last resort of `relativizeIRI`: `v[rb.rootIndex-1:]` -/
def rootRelative (rootIndex : Nat) (v : Str) : Outcome :=
  if rootIndex = 0 ∨ v.length < rootIndex - 1 then .panic
  else .some (v.drop (rootIndex - 1))

/-- the part of `relativizeIRI` after the `rb.original == v` test, for an absolute base -/
def candidateAbs (rb : BaseIRI) (rootIndex directoryIndex : Nat) (v : Str) : Outcome :=
  let n := rb.original.length
  -- if len(v) > rb.resourceIndex && strings.HasPrefix(v, rb.original[0:rb.resourceIndex]) { switch v[rb.resourceIndex] … }
  let sw : Option Outcome :=
    if rb.resourceIndex < v.length then
      if n < rb.resourceIndex then some .panic
      else if (rb.original.take rb.resourceIndex).isPrefixOf v then
        if v[rb.resourceIndex]? = some 0x23 then
          -- case '#': if len(v) >= rb.directoryIndex { return v[rb.directoryIndex:], true }
          (if directoryIndex ≤ v.length then some (.some (v.drop directoryIndex)) else Option.none)
        else if v[rb.resourceIndex]? = some 0x3f then some (.some (v.drop rb.resourceIndex))
        else Option.none
      else Option.none
    else Option.none
  match sw with
  | some o => o
  | Option.none =>
    -- if len(v) >= rb.directoryIndex && strings.HasPrefix(rb.original, v[:rb.directoryIndex])
    if directoryIndex ≤ v.length ∧ (v.take directoryIndex).isPrefixOf rb.original = true then
      let rel := v.drop directoryIndex
      if rel = [] ∨ rel.head? = some 0x3f ∨ rel.head? = some 0x23 then .some ([0x2e, 0x2f] ++ rel) else .some rel
    else
      rootRelative rootIndex v

/-- `(*BaseIRI).relativizeIRI`: the candidate reference -/
def candidateCode (rb : BaseIRI) (v : Str) : Outcome :=
  let n := rb.original.length
  let first : Option Str :=
    if n < v.length ∧ rb.fragmentIndex = Option.none ∧ rb.original.isPrefixOf v = true then
      if v[n]? = some 0x23 then some (v.drop n)
      else if rb.queryIndex = Option.none ∧ v[n]? = some 0x3f then some (v.drop n)
      else Option.none
    else Option.none
  match first with
  | some r => .some r
  | Option.none =>
    match rb.root with
    | Option.none => .none
    | some (rootIndex, directoryIndex) =>
      if ¬ (rb.original.take (min rootIndex n)).isPrefixOf v = true then .none
      else if rb.original = v then .some []
      else candidateAbs rb rootIndex directoryIndex v

/-- `(*BaseIRI).RelativizeIRI` with `rb.parsed = p`: the candidate, the "//" refusal and, for an absolute
    base, `resolved, err := rb.parsed.Parse(rel); if err != nil || resolved.String() != v { return "", false }` -/
def relativizeP (p : ParsedIRI) (rb : BaseIRI) (v : Str) : Outcome :=
  match candidateCode rb v with
  | .some rel =>
    if [0x2f, 0x2f].isPrefixOf rel = true then .none
    else if rb.root.isSome then
      match p.parseRef rel with
      | .ok t => if t.str = v then .some rel else .none
      | .err _ => .none
      | .panic => .panic
    else .some rel
  | o => o

inductive RelRes where
  | badBase (e : PErr)          -- `ParseBaseIRI` returns the error of `url.Parse`
  | basePanic                   -- `NewBaseIRI` panics
  | res (o : Outcome)
deriving DecidableEq, Repr

/-- `ParseBaseIRI(b)` then `RelativizeIRI(v)` -/
def relativizeCode (b v : Str) : RelRes :=
  match parseIRI b with
  | .error e => .badBase e
  | .ok p =>
    match newBaseIRICode p with
    | none => .basePanic
    | some rb => .res (relativizeP p rb v)

end RdfModel.IriUnify
