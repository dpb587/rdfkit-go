/-
  RdfModel.Model.JsonLdEncoder — executable model of /repo/encoding/jsonld/encoder.go and
  encoder_config.go (as repaired by patches/c10-enc-*.patch), on top of Model.Description (the
  resource-list builder and its export) and Model.Prefix (PrefixManager, UsagePrefixMapper, BaseIRI).

    newEncoder      prefix table filtered by isPrefixTerm, base parsed by ParseBaseIRI
    AddQuad         DatasetResourceListBuilder.Add
    Close           export of the default graph's builder, buildResource per exported resource,
                    single item or {"@graph": [...]}, "@context" with "@base" and the used prefixes
    buildResource   the recursive construction of one node object

  Conventions
  * The result is the JSON *value* handed to encoding/json (the text layer is outside the model):
    `map[string]any` becomes a member list (order = construction order here; encoding/json sorts the
    names, the harness compares modulo member order), `json.Number(lex)` becomes `Json.int` when `lex`
    is an integer literal and `Json.dbl lex` otherwise (the harness compares numbers by value).
  * Go map iteration orders are parameters: `ord` = order in which `ExportResources` yields subjects.
    With `buffered` the items and multi-valued properties are sorted by their serialisation; the order
    of array elements does not matter to what the document denotes and is ignored by the model.
  * Strings of the configuration (base, prefixes) are Go strings; the Prefix model works on UTF-8 bytes
    (lengths and prefix tests are byte-wise in Go), IRIs of terms are code points: conversions are
    explicit (`utf8Encode` / `utf8Decode`).
  * Named graphs are dropped by the encoder ("TODO multi-graph support"); the model does the same.
  Core-only, executable.
-/
import RdfModel.Model.Description
import RdfModel.Model.Prefix
import RdfModel.Spec.JsonLdFragment
namespace RdfModel.JLEnc
open RdfModel RdfModel.Desc RdfModel.JL

/-- EncoderConfig: base, prefixes, buffered, blank node labels (`bnStringProvider`) -/
structure Cfg (β : Type) where
  base : Option Str
  prefixes : List (Str × Str)
  buffered : Bool
  label : β → Str

/-- `reKeywordForm` -/
def keywordForm (s : Str) : Bool := isKeywordForm s

/-- `isPrefixTerm(mapping)` -/
def isPrefixTerm (m : Str × Str) : Bool :=
  !(m.1 = [] || m.1 = [cUnderscore] || m.1.contains cColon || m.1.contains cSlash || keywordForm m.1) &&
  endsGenDelim m.2

/-- the encoder's state that matters: the prefix manager (on bytes) and the base; the used prefixes are
    threaded through `buildStmt` … `buildRoots` as a list -/
structure Enc where
  pm : Prefix.PM
  base : Option Prefix.BaseIRI

def mkEnc {β : Type} (cfg : Cfg β) : Enc :=
  { pm := Prefix.new Prefix.mergeSorter
      ((cfg.prefixes.filter isPrefixTerm).map fun m => ⟨utf8Encode m.1, utf8Encode m.2⟩)
    base := cfg.base.map fun b => Prefix.newBaseIRI (utf8Encode b) }

/-- `UsagePrefixMapper.CompactPrefix` on code points: the compact form and the prefix marked as used -/
def compactPrefix (E : Enc) (v : Str) : Option (Str × Str) :=
  (Prefix.compact E.pm (utf8Encode v)).map fun pr => (utf8Decode pr.pfx, utf8Decode pr.reference)

/-- `compactVocabIRI`: result and newly used prefix -/
def compactVocabIRI (E : Enc) (v : Str) : Str × List Str :=
  match compactPrefix E v with
  | some (p, r) => if r.take 2 = [cSlash, cSlash] then (v, [p]) else (p ++ [cColon] ++ r, [p])
  | none => (v, [])

/-- `compactDocumentIRI` (as repaired by c10-enc-5-rel-colon, commit ed9c0d1: a relative reference with a
    colon after its first character is not written; Go tests bytes, `rel[min(1,len):]`, which agrees with
    dropping the first code point since continuation bytes are never `:`) -/
def compactDocumentIRI (E : Enc) (v : Str) : Str × List Str :=
  match compactPrefix E v with
  | some (p, r) =>
    if r.take 2 ≠ [cSlash, cSlash] then (p ++ [cColon] ++ r, [p])
    else
      match E.base with
      | some b =>
        match Prefix.relativizeB b (utf8Encode v) with
        | .some rel => if keywordForm (utf8Decode rel) || colonAfterFirst (utf8Decode rel) then (v, [p]) else (utf8Decode rel, [p])
        | _ => (v, [p])
      | none => (v, [p])
  | none =>
    match E.base with
    | some b =>
      match Prefix.relativizeB b (utf8Encode v) with
      | .some rel => if keywordForm (utf8Decode rel) || colonAfterFirst (utf8Decode rel) then (v, []) else (utf8Decode rel, [])
      | _ => (v, [])
    | none => (v, [])

/-- `reNativeInteger`: `-?(0|[1-9][0-9]{0,14})` -/
def isNativeInteger (lex : Str) : Bool :=
  let ds := match lex with | 0x2d :: r => r | r => r
  match ds with
  | [0x30] => true
  | d :: rest => 0x31 ≤ d && d ≤ 0x39 && rest.all isDigit && rest.length ≤ 14
  | [] => false

/-- `(0|[1-9][0-9]*)` at the start: the rest after it -/
def dropIntPart : Str → Option Str
  | 0x30 :: r => some r
  | d :: r => if 0x31 ≤ d && d ≤ 0x39 then some (r.dropWhile isDigit) else none
  | [] => none

/-- `reNativeDouble` and the length bound: `-?(0|[1-9][0-9]*)(\.[0-9]+)?([eE][+-]?[0-9]{1,2})?`, ≤ 30 characters -/
def isNativeDouble (lex : Str) : Bool :=
  lex.length ≤ 30 &&
  (let body := match lex with | 0x2d :: r => r | r => r
   match dropIntPart body with
   | none => false
   | some r1 =>
     let r2 : Option Str :=
       match r1 with
       | 0x2e :: f => if (f.takeWhile isDigit) = [] then none else some (f.dropWhile isDigit)
       | r => some r
     match r2 with
     | none => false
     | some [] => true
     | some (e :: r3) =>
       if e = 0x65 || e = 0x45 then
         let ds := match r3 with
           | 0x2b :: r => r
           | 0x2d :: r => r
           | r => r
         ds ≠ [] && ds.length ≤ 2 && ds.all isDigit
       else false)

def parseDigits (ds : Str) : Nat := ds.foldl (fun a c => a * 10 + (c - 0x30)) 0

/-- `json.Number(lex)` as a JSON value of the model -/
def numberOf (lex : Str) : Json :=
  if isNativeInteger lex then
    match lex with
    | 0x2d :: r => .int (-(Int.ofNat (parseDigits r)))
    | r => .int (Int.ofNat (parseDigits r))
  else .dbl lex

/-- the literal branch of buildResource: value and used prefixes -/
def literalValue (E : Enc) (lex dt : Str) (lang : Option Str) : Json × List Str :=
  if dt = xsdString then (.str lex, [])
  else if (dt = xsdInteger && isNativeInteger lex) || (dt = xsdDouble && isNativeDouble lex) then (numberOf lex, [])
  else if dt = xsdBoolean && lex = asc "true" then (.bool true, [])
  else if dt = xsdBoolean && lex = asc "false" then (.bool false, [])
  else
    let t := compactVocabIRI E dt
    match (if dt = rdfLangString then lang else none) with
    | some l => (.obj [(kValue, .str lex), (kLanguage, .str l)], t.2)
    | none => (.obj [(kValue, .str lex), (kType, .str t.1)], t.2)

/-- `graphProperties[key] = append(graphProperties[key], v)` -/
def addProp (props : List (Str × List Json)) (k : Str) (v : Json) : List (Str × List Json) :=
  alUpd [] (fun l => l ++ [v]) props k

/-- the final loop over graphProperties: one value as is, several as an array -/
def propMembers (props : List (Str × List Json)) : List (Str × Json) :=
  props.filterMap fun e =>
    match e.2 with
    | [] => none
    | [v] => some (e.1, v)
    | vs => some (e.1, .arr vs)

variable {β : Type} [DecidableEq β]

mutual
/-- one iteration of the statement loop of buildResource: member name, value, used prefixes -/
def buildStmt (E : Enc) (label : β → Str) : Stmt β → List Str → Str × Json × List Str
  | .obj p (.iri v), used =>
    if p = rdfType then
      let t := compactVocabIRI E v
      (kType, .str t.1, used ++ t.2)
    else
      let t := compactDocumentIRI E v
      let k := compactVocabIRI E p
      (k.1, .obj [(kId, .str t.1)], used ++ t.2 ++ k.2)
  | .obj p (.bnode b), used =>
    let k := compactVocabIRI E p
    (k.1, .obj [(kId, .str ([cUnderscore, cColon] ++ label b))], used ++ k.2)
  | .obj p (.lit lex dt lang), used =>
    let v := literalValue E lex dt lang
    let k := compactVocabIRI E p
    (k.1, v.1, used ++ v.2 ++ k.2)
  | .anon p l, used =>
    -- buildResource(builder, statementT.AnonResource, false): an AnonResource has no subject
    let inner := buildStmts E label l [] used
    let k := compactVocabIRI E p
    (k.1, .obj (propMembers inner.1), inner.2 ++ k.2)
/-- the statement loop of buildResource: properties so far, used prefixes so far -/
def buildStmts (E : Enc) (label : β → Str) : List (Stmt β) → List (Str × List Json) → List Str →
    List (Str × List Json) × List Str
  | [], props, used => (props, used)
  | st :: rest, props, used =>
    let r := buildStmt E label st used
    buildStmts E label rest (addProp props r.1 r.2.1) r.2.2
end

/-- `buildResource(builder, resource, true)` for an exported (root) resource -/
def buildRoot (E : Enc) (label : β → Str) (B : Builder β) (r : Resource β) (used : List Str) : Json × List Str :=
  match r with
  | .anon st =>
    let inner := buildStmts E label st [] used
    (.obj (propMembers inner.1), inner.2)
  | .subject none st =>
    let inner := buildStmts E label st [] used
    (.obj (propMembers inner.1), inner.2)
  | .subject (some (.iri v)) st =>
    let inner := buildStmts E label st [] used
    let t := compactDocumentIRI E v
    (.obj ((kId, .str t.1) :: propMembers inner.1), inner.2 ++ t.2)
  | .subject (some (.bnode b)) st =>
    let inner := buildStmts E label st [] used
    if B.refCount b > 0 then (.obj ((kId, .str ([cUnderscore, cColon] ++ label b)) :: propMembers inner.1), inner.2)
    else (.obj (propMembers inner.1), inner.2)
  | .subject (some (.lit _ _ _)) st =>
    -- unreachable: rdf.SubjectValue is never a literal
    let inner := buildStmts E label st [] used
    (.obj (propMembers inner.1), inner.2)

def buildRoots (E : Enc) (label : β → Str) (B : Builder β) : List (Resource β) → List Str → List Json × List Str
  | [], used => ([], used)
  | r :: rs, used =>
    let a := buildRoot E label B r used
    let b := buildRoots E label B rs a.2
    (a.1 :: b.1, b.2)

def dedupStr : List Str → List Str
  | [] => []
  | a :: l => a :: (dedupStr l).filter (· ≠ a)

/-- `Close`: the value handed to `json.Encoder.Encode`; `ord` = iteration order of the default graph's
    subject map in the first pass of the repaired `ExportResources` (patch fix-c17-export-cycles), `ord2` in
    the second pass (which picks one node of every cycle of once-referenced blank nodes).
    `none` = deeper than the fuel (does not happen: the `inlined` set bounds the depth by the number of
    blank nodes; kept total). -/
def encode (cfg : Cfg β) (d : List (DQuad β)) (ord ord2 : List (Term β)) : Option Json :=
  let E := mkEnc cfg
  let D := dbuild d
  let hasDefault := D.graphNames.contains none
  let B := D.builder none
  match (if hasDefault then B.exportResourcesV Opts.default ord ord2 (d.length + 1) else some []) with
  | none => none
  | some rs =>
    let items := buildRoots E cfg.label B rs []
    let used := dedupStr items.2
    let ctxMembers : List (Str × Json) :=
      (match cfg.base with
       | some b => [(kBase, .str b)]
       | none => []) ++
      used.filterMap fun p =>
        (Prefix.expand E.pm ⟨utf8Encode p, []⟩).map fun e => (p, .str (utf8Decode e))
    let ctx : List (Str × Json) := if ctxMembers = [] then [] else [(kContext, .obj ctxMembers)]
    match items.1 with
    | [.obj ms] => some (.obj (ms ++ ctx))
    | js => some (.obj ((kGraph, .arr js) :: ctx))

/-- the subjects of the default graph in insertion order: the iteration order the driver uses -/
def defaultOrd (d : List (DQuad β)) : List (Term β) := ((dbuild d).builder none).subjects

end RdfModel.JLEnc
