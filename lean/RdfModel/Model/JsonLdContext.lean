/-
  RdfModel.Model.JsonLdContext — executable model of the JSON-LD context machinery of /repo
  (encoding/jsonld/internal/jsonldinternal), function by function, as coded:

    * `iriExpandBody` (steps 1–5) + `iriExpandRest` (6–9: `suppressCyclic`, `expandTail`) / `iriExpandStr` / `iriExpand`
                                                       algorithm_iri_expansion.go  `algorithmIRIExpansion.Call`
    * `ctdBody` (with one function per step: `typeTermStep`, `normalizeValue`, `protectedStep`, `typeStep`,
      `reverseStep`, `iriStep`, `containerStep`, `containerTypeStep`, `indexExpand`, `languageStep`, `directionStep`,
      `nestStep`, `prefixStep`, `keysStep`) / `ctd`    algorithm_create_term_definition.go `algorithmCreateTermDefinition.Call`
    * `processBody` / `processItem` / `processObj` (`versionStep`, `importStep`, `baseStep`, `vocabStep`, `langStep`,
      `dirStep`, `propagateStep`, `termsStep`) / `processCtx`
                                                       algorithm_context_processing.go `algorithmContextProcessing.Call`
    * `Context`, `Core`, `TermDef`, `clone`, `TermDef.equals`   context.go, term_definition.go

  Conventions
    * strings are the BYTES of the Go strings (`Str = List Nat`); JSON values are `JL.Json` with objects as
      key-sorted member lists without duplicates (the representation of `inspectjson.ObjectValue.Members`,
      a Go map; the hook renders it that way). A number is `.dbl "1.1E0"` iff its float64 value is 1.1.
    * a Go map is its key-sorted association list (`mset`/`mdel`/`mget`); `defined` is an association list.
    * the three algorithms are mutually recursive in Go; here every algorithm is a non-recursive `…Body`
      taking the other algorithms as callbacks, and the mutual block `iriExpandStr`/`ctd`/`processCtx`
      ties the knot by structural recursion on a fuel counter (one unit per Go call of `.Call()`).
      Running out of fuel is the explicit outcome `fuel`; `fuelFor` is the amount the driver supplies
      (proved sufficient: Props/C10Ctx.ctx_fuel_sufficient).
    * CreateTermDefinition mutates the active context and `defined` in place and IRI expansion continues
      after a suppressed `cyclic IRI mapping` error, so an error outcome carries the mutated state.
    * `iri.ParsedIRI` is a parameter (`IriOps P`): `ParseIRI`, `IsAbs`, `ResolveReference`, `String`, and
      `url.Parse(v)` succeeding with `IsAbs()`; the driver instantiates it with Model/ParsedIRI.lean.
    * remote contexts (a string as a context) and `@import` with a string value are `unmodelled`.
    * a stored term definition always has an IRI mapping in Go (every path of steps 13–18 assigns one
      before the definition is stored), so `TermDef.iri` is not optional; the branch `definition.IRI == nil`
      of step 25.3 is dead code. An expanded IRI stored in a context is never an `ExpandedIRIasRawValue`
      (IRI expansion of a string never yields one), so stored mappings have type `SIri`; `EIri` adds it.
    * text offsets, the inverse context (always reset to nil) are outside the model.
  Core-only, executable, total.
-/
import RdfModel.Spec.JsonLdFragment
import RdfModel.Model.StrOrd
namespace RdfModel.JLC
open RdfModel RdfModel.JL

/-! ## Data types -/

/-- `contextProcessor.processingMode`: an unvalidated string, compared with the two constants only -/
inductive Mode where
  | v10 | v11 | other
  deriving DecidableEq, Repr, Inhabited

/-- the error codes (`jsonldtype.ErrorCode`) these algorithms return; `plain…` = a `fmt.Errorf` error -/
inductive Err where
  | cyclicIRIMapping | invalidTermDefinition | keywordRedefinition | invalidAtProtectedValue
  | invalidTypeMapping | invalidReverseProperty | invalidIRIMapping | invalidKeywordAlias
  | invalidContainerMapping | invalidScopedContext | invalidLanguageMapping | invalidBaseDirection
  | invalidAtNestValue | invalidAtPrefixValue | protectedTermRedefinition | invalidContextNullification
  | invalidLocalContext | invalidAtVersionValue | processingModeConflict | invalidContextEntry
  | invalidAtImportValue | invalidBaseIRI | invalidVocabMapping | invalidDefaultLanguage
  | invalidAtPropagateValue | plainPrefixType | plainVocabType
  deriving DecidableEq, Repr, Inhabited

/-- `ExpandedIRI` values that IRI expansion of a string yields and contexts store -/
inductive SIri where
  | nil                 -- ExpandedIRIasNil
  | kw (k : Str)        -- ExpandedIRIasKeyword
  | iri (v : Str)       -- ExpandedIRIasIRI
  | bnode (v : Str)     -- ExpandedIRIasBlankNode (the whole string, with `_:`)
  deriving DecidableEq, Repr, Inhabited

/-- `ExpandedIRI` -/
inductive EIri where
  | s (e : SIri)
  | raw (j : Json)      -- ExpandedIRIasRawValue
  deriving Repr, Inhabited

structure TermDef where
  iri : SIri
  iriValue : Option (Option Str)       -- IRIValue: nil | null | string
  pfx : Bool
  prot : Bool
  reverse : Bool
  baseURL : Option Str                 -- BaseURL, by its String() (all these algorithms use of it)
  context : Option Json
  container : List Str                 -- nil and empty are not distinguished by the code
  direction : Option (Option Str)
  index : Option Str
  language : Option (Option Str)
  nest : Option Str
  typeMapping : Option SIri
  typeValue : Option Str
  deriving Repr, Inhabited

/-- `(*TermDefinition).Equals` on two non-nil definitions: every field but Context and the source values -/
def TermDef.equals (d d2 : TermDef) : Bool :=
  d.iri == d2.iri && d.pfx == d2.pfx && d.prot == d2.prot && d.reverse == d2.reverse &&
  d.baseURL == d2.baseURL && d.container == d2.container && d.direction == d2.direction &&
  d.index == d2.index && d.language == d2.language && d.nest == d2.nest && d.typeMapping == d2.typeMapping

abbrev TermMap := List (Str × TermDef)

/-- the fields of `Context` (without the previous context and the processor) -/
structure Core (P : Type) where
  terms : TermMap
  base : Option P
  baseValue : Option Str
  origBase : Option P
  vocab : Option SIri
  vocabValue : Option Str
  lang : Option Str
  dir : Option Str
  deriving Repr, Inhabited

/-- a `*Context` with its chain of previous contexts (`PreviousContext`, then its `PreviousContext`, …) -/
structure Context (P : Type) where
  core : Core P
  prev : List (Core P)
  deriving Repr, Inhabited

def Context.initial {P : Type} (base : Option P) : Context P :=
  { core := { terms := [], base, baseValue := none, origBase := base, vocab := none, vocabValue := none,
              lang := none, dir := none }, prev := [] }

/-- `(*Context).clone`: a new map with the same entries; every field copied except
    `VocabularyMappingValue`, which the function does not mention -/
def Context.clone {P : Type} (c : Context P) : Context P :=
  { core := { terms := c.core.terms, base := c.core.base, baseValue := c.core.baseValue,
              origBase := c.core.origBase, vocab := c.core.vocab, vocabValue := none,
              lang := c.core.lang, dir := c.core.dir },
    prev := c.prev }

/-! ## Go maps -/

def mget {α : Type} (k : Str) (m : List (Str × α)) : Option α := m.lookup k

def mdel {α : Type} (k : Str) (m : List (Str × α)) : List (Str × α) := m.filter (fun e => e.1 != k)

def mset {α : Type} (k : Str) (v : α) : List (Str × α) → List (Str × α)
  | [] => [(k, v)]
  | (k', v') :: r =>
    if k = k' then (k, v) :: r
    else if strLt k k' then (k, v) :: (k', v') :: r
    else (k', v') :: mset k v r

/-! ## parsed IRIs as a parameter -/

inductive PR (P : Type) where
  | ok (p : P)
  | err
  | unmodelled
  | panic
  deriving Repr

inductive AbsR where
  | yes | no | unmodelled | panic
  deriving DecidableEq, Repr

structure IriOps (P : Type) where
  parse : Str → PR P                  -- iri.ParseIRI
  isAbs : P → Bool                    -- (*ParsedIRI).IsAbs
  resolve : P → P → Option P          -- (*ParsedIRI).ResolveReference; none = panic
  str : P → Str                       -- (*ParsedIRI).String
  goAbs : Str → AbsR                  -- url.Parse(v) without error and IsAbs()

/-! ## outcomes -/

structure St (P : Type) where
  ctx : Context P
  defined : List (Str × Bool)

/-- outcome of an algorithm that works on the state in place -/
inductive Res (P : Type) (α : Type) where
  | ok (a : α) (s : St P)
  | err (e : Err) (s : St P)
  | panic
  | unmodelled
  | fuel

/-- outcome of Context Processing -/
inductive Out (α : Type) where
  | ok (a : α)
  | err (e : Err)
  | panic
  | unmodelled
  | fuel
  deriving Repr

def Res.bind {P α β : Type} (r : Res P α) (f : α → St P → Res P β) : Res P β :=
  match r with
  | .ok a s => f a s
  | .err e s => .err e s
  | .panic => .panic
  | .unmodelled => .unmodelled
  | .fuel => .fuel

def Res.ofExcept {P α : Type} (s : St P) : Except Err α → Res P α
  | .ok a => .ok a s
  | .error e => .err e s

/-! ## strings -/

def kReverse := asc "@reverse"
def kIndex := asc "@index"
def kNest := asc "@nest"
def kPrefix := asc "@prefix"
def kProtected := asc "@protected"
def kPropagate := asc "@propagate"
def kDirection := asc "@direction"
def kImport := asc "@import"
def kJson := asc "@json"
def kNone := asc "@none"

/-- `hasIRIScheme` -/
def hasIRIScheme (s : Str) : Bool := isScheme s

/-- `isIRI(processingMode, v)` (util.go) -/
def isIRI (mode : Mode) (v : Str) : Bool :=
  match splitColon v with
  | none => false
  | some (p, _) =>
    if p.head? == some cUnderscore then false
    else if mode == Mode.v11 then !(v.contains 0x20) && hasIRIScheme p
    else true

def isKw (e : SIri) (k : Str) : Bool := e == .kw k

/-! ## IRI Expansion -/

/-- steps 7–9 of IRI expansion -/
def expandTail {P : Type} (ops : IriOps P) (c : Core P) (st : St P) (s : Str) (docRel vocab : Bool) : Res P SIri :=
  match (if vocab then c.vocab else none) with
  | some (.iri t) => .ok (.iri (t ++ s)) st
  | some (.bnode t) => .ok (.bnode (t ++ s)) st
  | _ =>
    match (if docRel then c.base else none) with
    | some b =>
      match ops.parse s with
      | .ok r =>
        match ops.resolve b r with
        | some p => .ok (.iri (ops.str p)) st
        | none => .panic
      | .err => .ok (.iri s) st
      | .unmodelled => .unmodelled
      | .panic => .panic
    | none => .ok (.iri s) st

/-- the suppression of a `cyclic IRI mapping` error of a nested Create Term Definition (steps 3 and 6.3 as
    coded): processing goes on with the state the failed call left behind -/
def suppressCyclic {P : Type} (keep : St P → Bool) : Res P Unit → Res P Unit
  | .err e st' => if e == .cyclicIRIMapping && keep st' then .ok () st' else .err e st'
  | r => r

/-- steps 6–9 of IRI expansion -/
def iriExpandRest {P : Type} (ops : IriOps P) (ctdCb : St P → Str → Res P Unit)
    (loc : Option (List (Str × Json))) (st : St P) (s : Str) (docRel vocab : Bool) : Res P SIri :=
  match (if colonAfterFirst s then splitColon s else none) with
  | some (p, suf) =>
    if p == [cUnderscore] then .ok (.bnode s) st                            -- 6.2
    else if suf.take 2 == [cSlash, cSlash] then .ok (.iri s) st
    else
      -- 6.3
      let r63 : Res P Unit :=
        match loc with
        | some ms =>
          if hasKey p ms && !(mget p st.defined == some true) then
            suppressCyclic (fun st' => !(mget p st'.defined == some false)) (ctdCb st p)
          else .ok () st
        | none => .ok () st
      r63.bind fun _ st =>
      -- 6.4
      match (match mget p st.ctx.core.terms with
             | some d => if d.pfx then (match d.iri with
                | .iri t => some (SIri.iri (t ++ suf))
                | .bnode t => some (SIri.bnode (t ++ suf))
                | _ => none) else none
             | none => none) with
      | some e => .ok e st
      | none =>
        if hasIRIScheme p then .ok (.iri s) st                              -- 6.5
        else expandTail ops st.ctx.core st s docRel vocab
  | none => expandTail ops st.ctx.core st s docRel vocab

/-- `algorithmIRIExpansion.Call` for a string value. `ctdCb st term` = Create Term Definition for a
    member `term` of the local context `loc` (defaults: no base URL, not protected, no override). -/
def iriExpandBody {P : Type} (ops : IriOps P) (ctdCb : St P → Str → Res P Unit)
    (loc : Option (List (Str × Json))) (st : St P) (s : Str) (docRel vocab : Bool) : Res P SIri :=
  if isKeyword s then .ok (.kw s) st                                            -- 1
  else if isKeywordForm s then .ok .nil st                                      -- 2
  else
    -- 3
    let r3 : Res P Unit :=
      match loc with
      | some ms =>
        if hasKey s ms && !(mget s st.defined == some true) then
          suppressCyclic (fun st' => mget s st'.defined == some false) (ctdCb st s)
        else .ok () st
      | none => .ok () st
    r3.bind fun _ st =>
    -- 4, 5
    match mget s st.ctx.core.terms with
    | some d =>
      (match d.iri with
       | .kw _ => .ok d.iri st
       | .nil => .ok d.iri st
       | _ => if vocab then .ok d.iri st else iriExpandRest ops ctdCb loc st s docRel vocab)
    | none => iriExpandRest ops ctdCb loc st s docRel vocab

/-! ## Create Term Definition -/

/-- the part of a term definition computed by steps 12–18 -/
structure IriPart where
  iri : SIri
  iriValue : Option (Option Str)
  pfx : Bool

def genDelims : List Nat := [0x3a, 0x2f, 0x3f, 0x23, 0x5b, 0x5d, 0x40]

/-- "contains a colon anywhere but as the first or last character, or a slash": as coded, a term of
    length ≤ 1 is searched as a whole -/
def hasColonOrSlash (term : Str) : Bool :=
  (if term.length > 1 then (term.drop 1).dropLast else term).contains cColon || term.contains cSlash

/-- step 14.2.5 -/
def prefixFlag145 (mode : Mode) (term : Str) (simple : Bool) (iri : SIri) : Bool :=
  if mode == Mode.v10 then true
  else if !hasColonOrSlash term && simple then
    match iri with
    | .iri t => (match t.getLast? with | some c => genDelims.contains c | none => false)
    | .bnode _ => true
    | _ => false
  else false

/-- step 19: the container mapping -/
def containerStep (mode : Mode) (vo : List (Str × Json)) : Except Err (List Str) :=
  match getKey kContainer vo with
  | none => .ok []
  | some (.str c) =>
    if [asc "@graph", asc "@id", asc "@type"].contains c then
      if mode == Mode.v10 then .error .invalidContainerMapping else .ok [c]
    else if [asc "@index", asc "@language", asc "@list", asc "@set"].contains c then .ok [c]
    else .error .invalidContainerMapping
  | some (.arr xs) =>
    if mode == Mode.v10 then .error .invalidContainerMapping else
    let all7 := [asc "@graph", asc "@id", asc "@index", asc "@language", asc "@list", asc "@set", asc "@type"]
    match xs.mapM (fun x => match x with
        | .str c => if all7.contains c then some c else none
        | _ => none) with
    | none => .error .invalidContainerMapping
    | some cs =>
      let u := cs.eraseDups
      if u.length == 0 then .error .invalidContainerMapping
      else if u.length == 1 then .ok cs
      else if u.contains (asc "@set") then
        if u.all (fun c => [asc "@set", asc "@index", asc "@graph", asc "@id", asc "@type", asc "@language"].contains c)
        then .ok cs else .error .invalidContainerMapping
      else if u.contains (asc "@graph") then
        let hasId := u.contains (asc "@id")
        let hasIndex := u.contains (asc "@index")
        if hasId && hasIndex then .error .invalidContainerMapping
        else if !hasId && !hasIndex then .error .invalidContainerMapping
        else if u.length > 2 && !(u.all (fun c => [asc "@graph", asc "@id", asc "@index"].contains c))
        then .error .invalidContainerMapping
        else .ok cs
      else .ok cs
  | some _ => .error .invalidContainerMapping

/-- step 19.4 -/
def containerTypeStep (cont : List Str) (tm : Option SIri) : Except Err (Option SIri) :=
  if cont.contains kType then
    let tm := match tm with | none => some (SIri.kw kId) | x => x
    if tm != some (.kw kId) && tm != some (.kw kVocab) then .error .invalidTypeMapping else .ok tm
  else .ok tm

/-- step 22 -/
def languageStep (vo : List (Str × Json)) : Except Err (Option (Option Str)) :=
  match getKey kLanguage vo with
  | none => .ok none
  | some v =>
    if hasKey kType vo then .ok none else
    match v with
    | .null => .ok (some none)
    | .str s => .ok (some (some s))
    | _ => .error .invalidLanguageMapping

/-- step 23 -/
def directionStep (vo : List (Str × Json)) : Except Err (Option (Option Str)) :=
  match getKey kDirection vo with
  | none => .ok none
  | some .null => .ok (some none)
  | some (.str s) => if s != asc "ltr" && s != asc "rtl" then .error .invalidBaseDirection else .ok (some (some s))
  | some _ => .error .invalidBaseDirection

/-- step 24 -/
def nestStep (mode : Mode) (vo : List (Str × Json)) : Except Err (Option Str) :=
  match getKey kNest vo with
  | none => .ok none
  | some v =>
    if mode == Mode.v10 then .error .invalidTermDefinition else
    match v with
    | .str s => if isKeywordForm s && s != kNest then .error .invalidAtNestValue else .ok (some s)
    | _ => .error .invalidAtNestValue

/-- step 25: the prefix flag after the `@prefix` entry -/
def prefixStep (mode : Mode) (term : Str) (vo : List (Str × Json)) (iri : SIri) (pfx : Bool) : Except Err Bool :=
  match getKey kPrefix vo with
  | none => .ok pfx
  | some v =>
    if mode == Mode.v10 then .error .invalidTermDefinition
    else if term.contains cColon || term.contains cSlash then .error .invalidTermDefinition
    else match v with
      | .bool true => (match iri with | .kw _ => .error .invalidTermDefinition | _ => .ok true)
      | .bool false => .ok false
      | _ => .error .invalidAtPrefixValue

def allowedDefKeys : List Str :=
  [kId, kReverse, kContainer, kContext, kDirection, kIndex, kLanguage, kNest, kPrefix, kProtected, kType]

/-- step 26 -/
def keysStep (vo : List (Str × Json)) : Except Err Unit :=
  if vo.all (fun m => allowedDefKeys.contains m.1) then .ok () else .error .invalidTermDefinition

/-- step 11 -/
def protectedStep (mode : Mode) (vo : List (Str × Json)) (dflt : Bool) : Except Err Bool :=
  match getKey kProtected vo with
  | none => .ok dflt
  | some v =>
    if mode == Mode.v10 then .error .invalidTermDefinition else
    match v with
    | .bool b => .ok b
    | _ => .error .invalidAtProtectedValue

/-- step 4 for the term `@type` -/
def typeTermStep (mode : Mode) (value : Json) : Except Err Unit :=
  if mode == Mode.v10 then .error .keywordRedefinition else
  match value with
  | .obj ms =>
    match (match getKey kContainer ms with
           | some (.str c) => if c == kSet then some 1 else none
           | some _ => none
           | none => some 0) with
    | none => .error .keywordRedefinition
    | some n =>
      let valid := n + (if hasKey kProtected ms then 1 else 0)
      if valid == 0 || ms.length != valid then .error .keywordRedefinition else .ok ()
  | _ => .error .keywordRedefinition

/-- steps 7–9: the definition as a map, and *simple term* -/
def normalizeValue (value : Json) : Except Err (List (Str × Json) × Bool) :=
  match value with
  | .null => .ok ([(kId, .null)], false)
  | .str s => .ok ([(kId, .str s)], true)
  | .obj ms => .ok (ms, false)
  | _ => .error .invalidTermDefinition

/-- step 12: the type mapping -/
def typeStep {P : Type} (mode : Mode) (expand : St P → Str → Bool → Res P SIri) (vo : List (Str × Json)) (st : St P) :
    Res P (Option SIri × Option Str) :=
  match getKey kType vo with
  | none => .ok (none, none) st
  | some (.str t) =>
    (expand st t true).bind fun e st =>
      match e with
      | .kw k =>
        if (k == kJson || k == kNone) && mode == Mode.v10 then .err .invalidTypeMapping st
        else if k != kId && k != kJson && k != kNone && k != kVocab then .err .invalidTypeMapping st
        else .ok (some e, some t) st
      | .iri v => if !isIRI mode v then .err .invalidTypeMapping st else .ok (some e, some t) st
      | _ => .err .invalidTypeMapping st
  | some _ => .err .invalidTypeMapping st

/-- step 20.2 (also used by the `@reverse` path): the `@index` value expands to an IRI -/
def indexExpand {P : Type} (mode : Mode) (expand : St P → Str → Bool → Res P SIri) (v : Json) (st : St P) : Res P Str :=
  match v with
  | .str s =>
    (expand st s true).bind fun e st =>
      match e with
      | .iri i => if !isIRI mode i then .err .invalidTermDefinition st else .ok s st
      | _ => .err .invalidTermDefinition st
  | _ => .err .invalidTermDefinition st

/-- step 13: `@reverse`; the early `return nil` of 13.3 is `.ok () st` with the state unchanged -/
def reverseStep {P : Type} (mode : Mode) (expand : St P → Str → Bool → Res P SIri) (term : Str)
    (vo : List (Str × Json)) (rv : Json) (prot : Bool) (tm : Option SIri × Option Str) (st : St P) : Res P Unit :=
  if hasKey kId vo then .err .invalidReverseProperty st
  else if hasKey kNest vo then .err .invalidReverseProperty st
  else match rv with
    | .str r =>
      if isKeywordForm r then .ok () st else
      (expand st r true).bind fun e st =>
        let okIri : Bool := match e with
          | .iri v => isIRI mode v
          | .bnode _ => true
          | _ => false
        if !okIri then .err .invalidIRIMapping st else
        let cont : Except Err (List Str) :=
          match getKey kContainer vo with
          | none => .ok []
          | some .null => .ok []
          | some (.str c) => if c != kSet && c != kIndex then .error .invalidReverseProperty else .ok [c]
          | some _ => .error .invalidReverseProperty
        match cont with
        | .error er => .err er st
        | .ok cont =>
          let d : TermDef := {
            iri := e, iriValue := some (some r), pfx := false, prot := prot, reverse := true,
            baseURL := none, context := none, container := cont, direction := none, index := none,
            language := none, nest := none, typeMapping := tm.1, typeValue := tm.2 }
          let st : St P := { ctx := { st.ctx with core := { st.ctx.core with terms := mset term d st.ctx.core.terms } },
                             defined := (term, true) :: st.defined }
          match getKey kIndex vo with
          | none => .ok () st
          | some iv =>
            (indexExpand mode expand iv st).bind fun idx st =>
              -- `definition.IndexMapping = &index.Value`: the stored definition is updated through its pointer
              .ok () { st with ctx := { st.ctx with core := { st.ctx.core with
                  terms := match mget term st.ctx.core.terms with
                    | some d' => mset term { d' with index := some idx } st.ctx.core.terms
                    | none => st.ctx.core.terms } } }
    | _ => .err .invalidIRIMapping st

/-- steps 14–18: the IRI mapping and the prefix flag; `none` = the early `return nil` of 14.2.2 -/
def iriStep {P : Type} (mode : Mode) (expand : St P → Str → Bool → Res P SIri) (ctdCb : St P → Str → Res P Unit)
    (loc : List (Str × Json)) (term : Str) (vo : List (Str × Json)) (simple : Bool) (tm : Option SIri)
    (st : St P) : Res P (Option IriPart) :=
  let idv : Option Json :=
    match getKey kId vo with
    | some (.str i) => if i == term then none else some (.str i)
    | x => x
  match idv with
  | some .null => .ok (some { iri := .nil, iriValue := some none, pfx := false }) st     -- 14.1
  | some (.str i) =>
    if !isKeyword i && isKeywordForm i then .ok none st else                           -- 14.2.2
    (expand st i true).bind fun e st =>
      let bad : Option Err :=
        match e with
        | .kw k =>
          if k == kContext then some .invalidKeywordAlias
          else if k == kType && !simple && tm == some (.kw kId) && mode == Mode.v11 then some .invalidIRIMapping
          else none
        | .iri _ => none
        | .bnode _ => none
        | .nil => some .invalidIRIMapping
      match bad with
      | some er => .err er st
      | none =>
        let hcs := hasColonOrSlash term
        let r : Res P Unit :=
          if hcs then
            let st : St P := { st with defined := (term, true) :: st.defined }
            if !(match e with | .kw _ => true | _ => false) && mode != Mode.v10 then
              (expand st term false).bind fun et st =>
                if et != e then .err .invalidIRIMapping st else .ok () st
            else .ok () st
          else .ok () st
        r.bind fun _ st =>
          .ok (some { iri := e, iriValue := some (some i), pfx := prefixFlag145 mode term simple e }) st
  | some _ => .err .invalidIRIMapping st                                                -- 14.2.1
  | none =>
    -- 15
    match (match splitColon term with
           | some (p, suf) => if p.length > 0 then some (p, suf) else none
           | none => none) with
    | some (p, suf) =>
      let r : Res P Unit := if hasKey p loc then ctdCb st p else .ok () st              -- 15.1
      r.bind fun _ st =>
        match mget p st.ctx.core.terms with
        | some pd =>
          (match pd.iri with
           | .iri t => .ok (some { iri := .iri (t ++ suf), iriValue := none, pfx := false }) st
           | _ => .err .plainPrefixType st)
        | none =>
          if (asc "_:").isPrefixOf term then .ok (some { iri := .bnode term, iriValue := none, pfx := false }) st
          else .ok (some { iri := .iri term, iriValue := none, pfx := false }) st
    | none =>
      if term.contains cSlash then                                                      -- 16
        (expand st term false).bind fun e st =>
          match e with
          | .iri t => .ok (some { iri := .iri t, iriValue := none, pfx := false }) st
          | _ => .err .invalidIRIMapping st
      else if term == kType then .ok (some { iri := .kw kType, iriValue := none, pfx := false }) st   -- 17
      else match st.ctx.core.vocab with                                                 -- 18
        | some (.iri t) => .ok (some { iri := .iri (t ++ term), iriValue := none, pfx := false }) st
        | some _ => .err .plainVocabType st
        | none => .err .invalidIRIMapping st

/-- `algorithmCreateTermDefinition.Call`. `expand st s vocab` = IRI expansion with this local context and
    `defined`; `ctdCb` = the recursive call of step 15.1; `nested ctx j` = Context Processing of a scoped
    context `j` on top of `ctx` (override protected, no validation of scoped contexts). -/
def ctdBody {P : Type} (mode : Mode) (expand : St P → Str → Bool → Res P SIri) (ctdCb : St P → Str → Res P Unit)
    (nested : Context P → Json → Out (Context P))
    (loc : List (Str × Json)) (st : St P) (term : Str) (baseStr : Option Str) (protArg overrideProtected : Bool) : Res P Unit :=
  -- 1
  match mget term st.defined with
  | some true => .ok () st
  | some false => .err .cyclicIRIMapping st
  | none =>
  -- 2
  if term == [] then .err .invalidTermDefinition st else
  let st : St P := { st with defined := (term, false) :: st.defined }
  -- 3
  match getKey term loc with
  | none => .panic        -- `valueValue.GetGrammarName()` on a nil interface; every caller checks membership
  | some value =>
  -- 4, 5
  let r45 : Except Err Bool :=      -- true = continue, false = return nil
    if term == kType then (typeTermStep mode value).map fun _ => true
    else if isKeyword term then .error .keywordRedefinition
    else if isKeywordForm term then .ok false
    else .ok true
  match r45 with
  | .error e => .err e st
  | .ok false => .ok () st
  | .ok true =>
  -- 6
  let previous := mget term st.ctx.core.terms
  let st : St P := { st with ctx := { st.ctx with core := { st.ctx.core with terms := mdel term st.ctx.core.terms } } }
  -- 7–9
  match normalizeValue value with
  | .error e => .err e st
  | .ok (vo, simple) =>
  -- 10, 11
  match protectedStep mode vo protArg with
  | .error e => .err e st
  | .ok prot =>
  -- 12
  (typeStep mode expand vo st).bind fun tm st =>
  -- 13
  match getKey kReverse vo with
  | some rv => reverseStep mode expand term vo rv prot tm st
  | none =>
  -- 14–18
  (iriStep mode expand ctdCb loc term vo simple tm.1 st).bind fun ip st =>
  match ip with
  | none => .ok () st
  | some ip =>
  -- 19
  match containerStep mode vo with
  | .error e => .err e st
  | .ok cont =>
  match containerTypeStep cont tm.1 with
  | .error e => .err e st
  | .ok tmap =>
  -- 20
  let r20 : Res P (Option Str) :=
    match getKey kIndex vo with
    | none => .ok none st
    | some iv =>
      if mode == Mode.v10 then .err .invalidTermDefinition st
      else if !cont.contains kIndex then .err .invalidTermDefinition st
      else (indexExpand mode expand iv st).bind fun s st => .ok (some s) st
  r20.bind fun index st =>
  -- 21
  let r21 : Res P (Option Json × Option Str) :=
    match getKey kContext vo with
    | none => .ok (none, none) st
    | some cj =>
      if mode == Mode.v10 then .err .invalidTermDefinition st else
      match nested st.ctx cj with
      | .ok _ => .ok (some cj, baseStr) st
      | .err _ => .err .invalidScopedContext st
      | .panic => .panic
      | .unmodelled => .unmodelled
      | .fuel => .fuel
  r21.bind fun cx st =>
  -- 22–26
  let rest : Except Err (Option (Option Str) × Option (Option Str) × Option Str × Bool) := do
    let language ← languageStep vo
    let direction ← directionStep vo
    let nest ← nestStep mode vo
    let pfx ← prefixStep mode term vo ip.iri ip.pfx
    keysStep vo
    pure (language, direction, nest, pfx)
  match rest with
  | .error e => .err e st
  | .ok (language, direction, nest, pfx) =>
  let d : TermDef := {
    iri := ip.iri, iriValue := ip.iriValue, pfx := pfx, prot := prot, reverse := false,
    baseURL := cx.2, context := cx.1, container := cont, direction := direction, index := index, language := language, nest := nest,
    typeMapping := tmap, typeValue := tm.2 }
  -- 27
  let r27 : Except Err TermDef :=
    match previous with
    | some pd =>
      if !overrideProtected && pd.prot then
        if !({ d with prot := pd.prot }).equals pd then .error .protectedTermRedefinition else .ok pd
      else .ok d
    | none => .ok d
  match r27 with
  | .error e => .err e st
  | .ok d =>
  -- 28
  .ok () { ctx := { st.ctx with core := { st.ctx.core with terms := mset term d st.ctx.core.terms } },
           defined := (term, true) :: st.defined }

/-! ## Context Processing -/

def ctxKeywords : List Str := [kBase, kDirection, kImport, kLanguage, kPropagate, kProtected, kVersion, kVocab]

def Out.bind {α β : Type} (r : Out α) (f : α → Out β) : Out β :=
  match r with
  | .ok a => f a
  | .err e => .err e
  | .panic => .panic
  | .unmodelled => .unmodelled
  | .fuel => .fuel

def Out.ofExcept {α : Type} : Except Err α → Out α
  | .ok a => .ok a
  | .error e => .err e

/-- step 5.5 -/
def versionStep (mode : Mode) (ms : List (Str × Json)) : Out Unit :=
  let verBad : Bool := match getKey kVersion ms with
    | some (.dbl l) => l != lex11
    | some (.int _) => true
    | _ => false
  if verBad then .err .invalidAtVersionValue
  else if hasKey kVersion ms && mode == Mode.v10 then .err .processingModeConflict
  else .ok ()

/-- step 5.6: `@import` (a string value = a remote context: unmodelled) -/
def importStep (mode : Mode) (ms : List (Str × Json)) : Out Unit :=
  match getKey kImport ms with
  | none => .ok ()
  | some v =>
    if mode == Mode.v10 then .err .invalidContextEntry
    else match v with
      | .str _ => .unmodelled
      | _ => .err .invalidAtImportValue

/-- step 5.7 (remote contexts is always empty here) -/
def baseStep {P : Type} (ops : IriOps P) (result : Context P) (ms : List (Str × Json)) : Out (Context P) :=
  match getKey kBase ms with
  | none => .ok result
  | some .null => .ok { result with core := { result.core with base := none, baseValue := none } }
  | some (.str s) =>
    match ops.parse s with
    | .err => .err .invalidBaseIRI
    | .unmodelled => .unmodelled
    | .panic => .panic
    | .ok v =>
      if ops.isAbs v then .ok { result with core := { result.core with base := some v, baseValue := some s } }
      else match result.core.base with
        | some b =>
          (match ops.resolve b v with
           | some r => .ok { result with core := { result.core with base := some r, baseValue := some s } }
           | none => .panic)
        | none => .err .invalidBaseIRI
  | some _ => .err .invalidBaseIRI

/-- the additional JSON-LD 1.0 validation of `@vocab` -/
def vocabPre {P : Type} (ops : IriOps P) (mode : Mode) (s : Str) : Out Unit :=
  if mode == Mode.v10 && !(asc "_:").isPrefixOf s then
    match ops.goAbs s with
    | .yes => .ok ()
    | .no => .err .invalidVocabMapping
    | .unmodelled => .unmodelled
    | .panic => .panic
  else .ok ()

/-- step 5.8 -/
def vocabStep {P : Type} (ops : IriOps P) (mode : Mode) (expandNoLocal : St P → Str → Res P SIri)
    (result : Context P) (ms : List (Str × Json)) : Out (Context P) :=
  match getKey kVocab ms with
  | none => .ok result
  | some .null => .ok { result with core := { result.core with vocab := none, vocabValue := none } }
  | some (.str s) =>
    (vocabPre ops mode s).bind fun _ =>
      match expandNoLocal { ctx := result, defined := [] } s with
      | .ok .nil _ => .ok { result with core := { result.core with vocab := none, vocabValue := none } }
      | .ok (.bnode t) _ => .ok { result with core := { result.core with vocab := some (.bnode t), vocabValue := some s } }
      | .ok (.iri t) _ => .ok { result with core := { result.core with vocab := some (.iri t), vocabValue := some s } }
      | .ok (.kw _) _ => .err .invalidVocabMapping
      | .err e _ => .err e
      | .panic => .panic
      | .unmodelled => .unmodelled
      | .fuel => .fuel
  | some _ => .err .invalidVocabMapping

/-- step 5.9 -/
def langStep {P : Type} (result : Context P) (ms : List (Str × Json)) : Out (Context P) :=
  match getKey kLanguage ms with
  | none => .ok result
  | some .null => .ok { result with core := { result.core with lang := none } }
  | some (.str s) => .ok { result with core := { result.core with lang := some s } }
  | some _ => .err .invalidDefaultLanguage

/-- step 5.10 -/
def dirStep {P : Type} (mode : Mode) (result : Context P) (ms : List (Str × Json)) : Out (Context P) :=
  match getKey kDirection ms with
  | none => .ok result
  | some v =>
    if mode == Mode.v10 then .err .invalidContextEntry else
    match v with
    | .null => .ok { result with core := { result.core with dir := none } }
    | .str s =>
      if s != asc "ltr" && s != asc "rtl" then .err .invalidBaseDirection
      else .ok { result with core := { result.core with dir := some s } }
    | _ => .err .invalidBaseDirection

/-- step 5.11 -/
def propagateStep (mode : Mode) (ms : List (Str × Json)) : Out Unit :=
  match getKey kPropagate ms with
  | none => .ok ()
  | some v =>
    if mode == Mode.v10 then .err .invalidContextEntry else
    match v with
    | .bool _ => .ok ()
    | _ => .err .invalidAtPropagateValue

/-- the keys of step 5.13, in the order of `slices.SortFunc(contextKeys, strings.Compare)` (`ms` is sorted) -/
def termKeys (ms : List (Str × Json)) : List Str := (ms.map (·.1)).filter (fun k => !ctxKeywords.contains k)

/-- steps 5.12, 5.13 -/
def termsStep {P : Type} (ctdCb : St P → Str → Bool → Res P Unit) (result : Context P) (ms : List (Str × Json)) : Out (Context P) :=
  let contextProtected : Bool := match getKey kProtected ms with
    | some (.bool true) => true
    | _ => false
  match (termKeys ms).foldl (fun (acc : Res P Unit) key => acc.bind fun _ st => ctdCb st key contextProtected)
      (.ok () { ctx := result, defined := [] }) with
  | .ok _ st => .ok st.ctx
  | .err e _ => .err e
  | .panic => .panic
  | .unmodelled => .unmodelled
  | .fuel => .fuel

/-- steps 5.5–5.13 for one context definition `ms`; `expandNoLocal` = IRI expansion without a local
    context (document relative, vocab); `ctdCb st key prot` = Create Term Definition -/
def processObj {P : Type} (ops : IriOps P) (mode : Mode)
    (expandNoLocal : St P → Str → Res P SIri) (ctdCb : St P → Str → Bool → Res P Unit)
    (result : Context P) (ms : List (Str × Json)) : Out (Context P) :=
  (versionStep mode ms).bind fun _ =>
  (importStep mode ms).bind fun _ =>
  (baseStep ops result ms).bind fun result =>
  (vocabStep ops mode expandNoLocal result ms).bind fun result =>
  (langStep result ms).bind fun result =>
  (dirStep mode result ms).bind fun result =>
  (propagateStep mode ms).bind fun _ =>
  termsStep ctdCb result ms

/-- one item of the local context array (step 5) -/
def processItem {P : Type} (ops : IriOps P) (mode : Mode)
    (expandNoLocal : St P → Str → Res P SIri) (ctdCb : List (Str × Json) → St P → Str → Bool → Res P Unit)
    (active : Context P) (overrideProtected propagate : Bool) (result : Context P) (item : Json) : Out (Context P) :=
  match item with
  | .null =>
    if !overrideProtected && result.core.terms.any (fun e => e.2.prot) then .err .invalidContextNullification
    else
      .ok { core := (Context.initial active.core.origBase).core,
            prev := if !propagate then result.core :: result.prev else [] }
  | .str _ => .unmodelled
  | .obj ms => processObj ops mode expandNoLocal (ctdCb ms) result ms
  | _ => .err .invalidLocalContext

/-- `algorithmContextProcessing.Call` (remote contexts empty) -/
def processBody {P : Type} (ops : IriOps P) (mode : Mode)
    (expandNoLocal : St P → Str → Res P SIri) (ctdCb : List (Str × Json) → St P → Str → Bool → Res P Unit)
    (active : Context P) (loc : Json) (overrideProtected propagate : Bool) : Out (Context P) :=
  let items := match loc with
    | .arr xs => xs
    | x => [x]
  if items.isEmpty then .ok active else
  -- 1
  let result := active.clone
  -- 2
  let propagate := match loc with
    | .obj ms => (match getKey kPropagate ms with
        | some (.bool b) => b
        | _ => propagate)
    | _ => propagate
  -- 3
  let result := if !propagate && result.prev.isEmpty then { result with prev := active.core :: active.prev } else result
  -- 5
  items.foldl (fun acc item => acc.bind fun result =>
    processItem ops mode expandNoLocal ctdCb active overrideProtected propagate result item) (.ok result)

/-! ## Tying the knot -/

mutual
/-- IRI expansion of a string with the local context `loc` and `defined` in the state -/
def iriExpandStr {P : Type} (ops : IriOps P) (mode : Mode) : Nat → Option (List (Str × Json)) → St P → Str → Bool → Bool → Res P SIri
  | 0, _, _, _, _, _ => .fuel
  | fuel + 1, loc, st, s, docRel, vocab =>
    iriExpandBody ops
      (fun st t => match loc with
        | some ms => ctd ops mode fuel ms st t none false false
        | none => .ok () st)
      loc st s docRel vocab

/-- Create Term Definition -/
def ctd {P : Type} (ops : IriOps P) (mode : Mode) : Nat → List (Str × Json) → St P → Str → Option Str → Bool → Bool → Res P Unit
  | 0, _, _, _, _, _, _ => .fuel
  | fuel + 1, loc, st, term, baseStr, prot, overrideProtected =>
    ctdBody mode
      (fun st s vocab => iriExpandStr ops mode fuel (some loc) st s false vocab)
      (fun st t => ctd ops mode fuel loc st t none false false)
      (fun c j => processCtx ops mode fuel c j baseStr true true)
      loc st term baseStr prot overrideProtected

/-- Context Processing -/
def processCtx {P : Type} (ops : IriOps P) (mode : Mode) : Nat → Context P → Json → Option Str → Bool → Bool → Out (Context P)
  | 0, _, _, _, _, _ => .fuel
  | fuel + 1, active, loc, baseStr, overrideProtected, propagate =>
    processBody ops mode
      (fun st s => iriExpandStr ops mode fuel none st s true true)
      (fun ms st key prot => ctd ops mode fuel ms st key baseStr prot overrideProtected)
      active loc overrideProtected propagate
end

/-- `algorithmIRIExpansion.Call` without a local context, for any JSON value -/
def iriExpand {P : Type} (ops : IriOps P) (mode : Mode) (c : Context P) (v : Json) (docRel vocab : Bool) : Out EIri :=
  match v with
  | .null => .ok (.s .nil)
  | .str s =>
    (match iriExpandStr ops mode 1 none { ctx := c, defined := [] } s docRel vocab with
     | .ok e _ => .ok (.s e)
     | .err e _ => .err e
     | .panic => .panic
     | .unmodelled => .unmodelled
     | .fuel => .fuel)
  | j => .ok (.raw j)

/-! ## fuel -/

mutual
def jsonSize : Json → Nat
  | .arr xs => 1 + jsonSizeList xs
  | .obj ms => 1 + jsonSizeMembers ms
  | _ => 1
def jsonSizeList : List Json → Nat
  | [] => 0
  | x :: xs => jsonSize x + jsonSizeList xs
def jsonSizeMembers : List (Str × Json) → Nat
  | [] => 0
  | (_, v) :: ms => 1 + jsonSize v + jsonSizeMembers ms
end

/-- the fuel the driver supplies for a local context: every nested call of one of the three algorithms
    either defines a not yet defined member of a context definition (two calls per member: the definition
    and the expansion which asked for it) or enters a scoped context, a proper sub-value -/
def fuelFor (loc : Json) : Nat := 3 * jsonSize loc + 4

end RdfModel.JLC
