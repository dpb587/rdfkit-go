/-
  RdfModel.Model.GoUrl — executable model of the *acceptance* behaviour of Go's `net/url.Parse`
  (go1.25) plus `URL.IsAbs`, over code points. Used as the `urlOk` parameter of the decoders when
  the driver runs; theorems never depend on it (they are stated for an arbitrary `urlOk`).
  Tied by correspondence (`nq.url`, `iriu.url` ops) and, since round 3, proved equal to the acceptance of
  the full net/url model (Model/GoUrlFull.lean, which is tied exactly to the code by the `piri.*` ops) on every
  input that model covers: Props/IriUnify.lean `goUrl_accepts_eq_full_partial`. IP literals go through the
  same model of `netip.ParseAddr` as GoUrlFull (`parseAddrIs6`; the earlier stand-alone approximation
  rejected embedded IPv4 such as `[::1.2.3.4]`, which Go accepts); RFC 6874 zones (`%25…`) are modelled
  here (acceptance only) and are the one class GoUrlFull declines (`PErr.unmodelled`).
-/
import RdfModel.Model.GoUrlFull
namespace RdfModel.GoUrl

def isAlphaC (c : Nat) : Bool := (0x61 ≤ c && c ≤ 0x7a) || (0x41 ≤ c && c ≤ 0x5a)
def isDigitC (c : Nat) : Bool := 0x30 ≤ c && c ≤ 0x39
def isHexC (c : Nat) : Bool := isDigitC c || (0x61 ≤ c && c ≤ 0x66) || (0x41 ≤ c && c ≤ 0x46)

/-- `strings.Cut(s, sep)` for a one-rune separator. -/
def cut (sep : Nat) : List Nat → List Nat × Option (List Nat)
  | [] => ([], none)
  | c :: rest =>
    if c = sep then ([], some rest)
    else let (a, b) := cut sep rest; (c :: a, b)

def hasCTL (s : List Nat) : Bool := s.any (fun c => c < 0x20 || c = 0x7f)

/-- `getScheme`: `none` = error ("missing protocol scheme"); `some (scheme, rest)`. -/
def getSchemeAux : List Nat → List Nat → Nat → Option (List Nat × List Nat)
  | whole, [], _ => some ([], whole)
  | whole, c :: rest, i =>
    if isAlphaC c then getSchemeAux whole rest (i + 1)
    else if isDigitC c || c = 0x2b || c = 0x2d || c = 0x2e then
      (if i = 0 then some ([], whole) else getSchemeAux whole rest (i + 1))
    else if c = 0x3a then
      (if i = 0 then none else some (whole.take i, rest))
    else some ([], whole)

def getScheme (s : List Nat) : Option (List Nat × List Nat) := getSchemeAux s s 0

/-- `unescape` well-formedness in the modes that only check `%XX`. -/
def pctOk : List Nat → Bool
  | [] => true
  | 0x25 :: a :: b :: rest => isHexC a && isHexC b && pctOk rest
  | 0x25 :: _ => false
  | _ :: rest => pctOk rest

def hostCharOk (c : Nat) : Bool :=
  c ≥ 0x80 || isAlphaC c || isDigitC c ||
  [0x21, 0x24, 0x26, 0x27, 0x28, 0x29, 0x2a, 0x2b, 0x2c, 0x3b, 0x3d, 0x3a, 0x5b, 0x5d, 0x3c, 0x3e, 0x22,
   0x2d, 0x5f, 0x2e, 0x7e].contains c

def unhexC (c : Nat) : Nat :=
  if isDigitC c then c - 0x30 else if 0x61 ≤ c && c ≤ 0x66 then c - 0x61 + 10 else c - 0x41 + 10

/-- `unescape(s, encodeHost)` succeeds. -/
def hostEscOk : List Nat → Bool
  | [] => true
  | 0x25 :: a :: b :: rest =>
    isHexC a && isHexC b && (unhexC a ≥ 8 || (a = 0x32 && b = 0x35)) && hostEscOk rest
  | 0x25 :: _ => false
  | c :: rest => hostCharOk c && hostEscOk rest

def validOptionalPort : List Nat → Bool
  | [] => true
  | c :: rest => c = 0x3a && rest.all isDigitC

def validUserinfo (s : List Nat) : Bool :=
  s.all (fun r => isAlphaC r || isDigitC r ||
    [0x2d, 0x2e, 0x5f, 0x3a, 0x7e, 0x21, 0x24, 0x26, 0x27, 0x28, 0x29, 0x2a, 0x2b, 0x2c, 0x3b, 0x3d, 0x25, 0x40].contains r)

/-- index of the last occurrence -/
def lastIndexOf (c : Nat) (s : List Nat) : Option Nat :=
  let rec go : List Nat → Nat → Option Nat → Option Nat
    | [], _, acc => acc
    | x :: xs, i, acc => go xs (i + 1) (if x = c then some i else acc)
  go s 0 none

/-- index of the first `"%25"` (`strings.Index(hostname, "%25")`) -/
def indexPct25 : List Nat → Option Nat
  | [] => none
  | c :: rest =>
    if [0x25, 0x32, 0x35].isPrefixOf (c :: rest) then some 0 else (indexPct25 rest).map (· + 1)

/-- `unescape(s, encodeZone)` succeeds: `%XX` must be `%25`, a space, or a byte host mode leaves alone. -/
def zoneEscOk : List Nat → Bool
  | [] => true
  | 0x25 :: a :: b :: rest =>
    isHexC a && isHexC b &&
      ((a = 0x32 && b = 0x35) || unhexC a * 16 + unhexC b = 0x20 ||
        !GoUrlFull.shouldEscape (unhexC a * 16 + unhexC b) .host) && zoneEscOk rest
  | 0x25 :: _ => false
  | c :: rest => hostCharOk c && zoneEscOk rest

/-- The text between `[` and `]` is accepted by `parseHost`: `unescape` (host mode; after the first `%25`
    zone mode) succeeds, `netip.ParseAddr` accepts the result and it is not an IPv4 address.
    `netip.ParseAddr` itself is the model shared with Model/GoUrlFull.lean (`parseAddrIs6`: groups, one `::`,
    embedded IPv4 in the last 32 bits). An accepted address consists of hex digits, `:` and `.` only, so
    a `%XX` escape in the address part (which can only produce a byte ≥ 0x80) is always rejected by
    `ParseAddr`; a zone must be non-empty after its `%`. -/
def ipLiteralOk (hostname : List Nat) : Bool :=
  match indexPct25 hostname with
  | some z =>
    let hp := hostname.take z
    let zp := hostname.drop z
    hostEscOk hp && zoneEscOk zp && !hp.contains 0x25 && zp.length > 3 && GoUrlFull.parseAddrIs6 hp hp
  | none =>
    hostEscOk hostname && !hostname.contains 0x25 && GoUrlFull.parseAddrIs6 hostname hostname

def parseHostOk (host : List Nat) : Bool :=
  match lastIndexOf 0x5b host with
  | some ob =>
    match lastIndexOf 0x5d host with
    | none => false
    | some cb =>
      let colonPort := host.drop (cb + 1)
      validOptionalPort colonPort && hostEscOk colonPort &&
        (let hostname := (host.take cb).drop (ob + 1)
         cb > ob && ipLiteralOk hostname)
  | none =>
    (match lastIndexOf 0x3a host with
      | some i => validOptionalPort (host.drop i)
      | none => true) && hostEscOk host

def parseAuthorityOk (auth : List Nat) : Bool :=
  match lastIndexOf 0x40 auth with
  | none => parseHostOk auth
  | some i =>
    parseHostOk (auth.drop (i + 1)) &&
      (let ui := auth.take i; validUserinfo ui && pctOk ui)

def startsWith (p s : List Nat) : Bool := p.isPrefixOf s

/-- `parse(u, false)` succeeds; returns the scheme when it does. -/
def parseNoFrag (u : List Nat) : Option (List Nat) :=
  if hasCTL u then none
  else if u = [0x2a] then some []
  else match getScheme u with
    | none => none
    | some (scheme, rest0) =>
      let rest := (cut 0x3f rest0).1
      if !startsWith [0x2f] rest then
        if !scheme.isEmpty then some scheme
        else if ((cut 0x2f rest).1).contains 0x3a then none
        else (if pctOk rest then some scheme else none)
      else if (!scheme.isEmpty || !startsWith [0x2f, 0x2f, 0x2f] rest) && startsWith [0x2f, 0x2f] rest then
        let a := rest.drop 2
        let (authority, tail) := cut 0x2f a
        let path := match tail with | some t => 0x2f :: t | none => []
        if parseAuthorityOk authority && pctOk path then some scheme else none
      else if pctOk rest then some scheme else none

/-- `url.Parse(s)` succeeds and `IsAbs()`. -/
def parseAbsOk (s : List Nat) : Bool :=
  let (u, frag) := cut 0x23 s
  match parseNoFrag u with
  | none => false
  | some scheme =>
    (match frag with
      | some f => pctOk f
      | none => true) && !scheme.isEmpty

/-- `url.Parse(s)` succeeds (relative references allowed). -/
def parseOk (s : List Nat) : Bool :=
  let (u, frag) := cut 0x23 s
  match parseNoFrag u with
  | none => false
  | some _ => (match frag with | some f => pctOk f | none => true)

end RdfModel.GoUrl
