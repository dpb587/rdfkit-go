/-
  RdfModel.Model.Pipe — executable model of format conversion through the I/O registry and the
  `rdfkit pipe` command (property C18).

  Go code followed, function by function:
    rdfio/rdfiotypes/registry.go      Registry.ResolveDecoderType / ResolveEncoderType   → `resolveDecoderType`, `resolveEncoderType`
                                      Registry.NewDecoder / NewEncoder (manager lookup)   → `openDecoderType`, `openEncoderType`
    cmd/rdfkit/cmdflags/*.go          EncodingInput.Open / EncodingOutput.Open (fallback)  → `openDecoderType`, `openEncoderType`
    rdfio/fileresource/manager.go     NewReader / NewWriter (name → file name, IRI)         → `fileName`, `fileIRI`
    path/filepath                     Base, Ext (POSIX)                                     → `filepathBase`, `filepathExt`
    rdfio/rdfiotypes/decoder.go       DecoderHandle.GetQuadsDecoder                         → `getQuadsDecoder`
    rdfio/rdfiotypes/encoder.go       EncoderHandle.GetQuadsEncoder,
                                      PropagateDecoderPipeBlankNodeStringProvider           → `getQuadsEncoder`, `pipeProvider`
    encoding/encodingutil/quad_as_triple.go, triples_as_quad.go                             → `quadAsTriple`, `tripleAsQuad`
    cmd/rdfkit/pipecmd/command.go     the decode → adapt → encode loop                      → `pipeStatements`, `labelQuads`, `pipeNQ`
    cmd/rdfkit/cmdflags/encoding_output.go   EncodingOutput.Open (flags → EncoderOptions)     → `OutFlags`, `encoderBase`
    rdfio/rdfiotypes/registry.go      Registry.NewEncoder (`BaseIRI` defaults to `ww.GetIRI()`) → `encoderBase`
    rdfio/rdfiotypes/params.go, kvstrings   LoadAndApplyParams / Collection.ImportStrings    → `splitFirst`, `parseBool`, `importAll`
    encoding/{nquads,ntriples}/…rdfio/encoder.go, encoder_params.go   `ascii`                 → `NQParams`, `nqAscii`, `pipeNQp`
    encoding/rdfjson/rdfjsonrdfio/encoder.go (no parameters)                                  → `rjParamsOK`, `pipeRJ`
    encoding/turtle/turtlerdfio/encoder.go, encoder_params.go   `buffered`, `iris.useBase`,
                                      `iris.usePrefix`, `resources` → `turtle.EncoderConfig`    → `TtlParams`, `ttlPrefixes`, `ttlOptions`, `pipeTtl`
    (the Turtle / RDF-JSON encoders themselves are `Model/TurtleEncoder.lean` (C02) and `Model/RdfJson.lean` (C01))

  Conventions.
  * Go strings are byte lists (`Str`); `strings.ToLower` is modelled for ASCII only (`asciiLower`); T3 feeds
    ASCII names and media types (non-ASCII case folding is outside the model).
  * A Go `map[string]T` is an association list with distinct keys; lookup is `BN.assoc`. Iteration over a map
    (`for fileExt, cti := range r.FileExts`) happens in an order Go does not specify: the order is the explicit
    parameter `ord` (a permutation of the table).
  * Magic-byte resolvers are Go closures over regular expressions (outside the model): the model takes the
    list of their answers on the peeked bytes, in registry order (`magic : Option (List (Option Cti))`,
    `none` = `GetMagicBytes` reported no bytes).
  * Blank nodes, factories and label providers are those of `Model/BlankNodes.lean` (C14). Labels (`BN.Bytes`)
    are read as code-point lists here (`[]rune(label)`; decoders only produce valid UTF-8 labels, for which
    string equality and rune-list equality coincide), because that is what `Model/NQuads.lean` writes.
  Core-only imports.
-/
import RdfModel.Model.Term
import RdfModel.Model.BlankNodes
import RdfModel.Model.NQuads
import RdfModel.Model.TurtleEncoder
import RdfModel.Model.RdfJson
namespace RdfModel.Pipe
open RdfModel

abbrev Str := List Nat
/-- `encoding.ContentTypeIdentifier` -/
abbrev Cti := Str

/-! ## path/filepath (POSIX), strings -/

def asciiLower (s : Str) : Str := s.map (fun c => if 0x41 ≤ c ∧ c ≤ 0x5a then c + 32 else c)

/-- `strings.HasSuffix` -/
def hasSuffix (s suf : Str) : Bool := suf.isSuffixOf s

/-- `strings.TrimPrefix` -/
def trimPrefix (s pre : Str) : Str := if pre.isPrefixOf s then s.drop pre.length else s

def dropTrailingSlashes (rev : Str) : Str := rev.dropWhile (· = 0x2f)

/-- `filepath.Base`: last element of the path; trailing slashes removed first; `.` for the empty path,
    `/` for a path of slashes only. -/
def filepathBase (path : Str) : Str :=
  if path = [] then [0x2e]
  else
    let r := dropTrailingSlashes path.reverse
    let last := (r.takeWhile (· ≠ 0x2f)).reverse
    if last = [] then [0x2f] else last

/-- scan backwards over the final path element for the last dot -/
def extRev : Str → Str → Str
  | [], _ => []
  | c :: rest, acc =>
    if c = 0x2f then []
    else if c = 0x2e then c :: acc
    else extRev rest (c :: acc)

/-- `filepath.Ext`: the suffix beginning at the final dot in the final slash-separated element; empty if
    there is no dot. -/
def filepathExt (path : Str) : Str := extRev path.reverse []

/-! ## The registry -/

/-- The tables of `rdfiotypes.Registry` that type resolution consults. `decoders` / `encoders` are the key
    sets of `DecoderManagers` / `EncoderManagers`. -/
structure Registry where
  aliases : List (Str × Cti)
  mediaTypes : List (Str × Cti)
  fileExts : List (Str × Cti)
  decoders : List Cti
  encoders : List Cti
  deriving Repr, DecidableEq, Inhabited

/-- What `ResolveDecoderType` asks of an `rdfiotypes.Reader`. -/
structure ReaderInfo where
  /-- `GetMediaType()`: `(Type, Subtype)` when ok -/
  mediaType : Option (Str × Str)
  /-- `GetMagicBytes()` ok ⇒ the answers of `MagicBytesResolvers` on the peeked bytes, in order -/
  magic : Option (List (Option Cti))
  /-- `GetFileName()` when ok -/
  fileName : Option Str
  deriving Repr, DecidableEq, Inhabited

/-- `if len(t) > 0 { if cti, ok := r.Aliases[t]; ok {…} else if _, ok := managers[t]; ok {…} }` -/
def resolveByType (aliases : List (Str × Cti)) (managers : List Cti) (t : Str) : Option Cti :=
  if t ≠ [] then
    match BN.assoc t aliases with
    | some cti => some cti
    | none => if t ∈ managers then some t else none
  else none

/-- `r.MediaTypes[strings.ToLower(mt.Type+"/"+mt.Subtype)]` -/
def resolveByMedia (mediaTypes : List (Str × Cti)) (rr : ReaderInfo) : Option Cti :=
  match rr.mediaType with
  | some (ty, sub) => BN.assoc (asciiLower (ty ++ 0x2f :: sub)) mediaTypes
  | none => none

/-- first resolver that answers -/
def firstSome {α : Type} : List (Option α) → Option α
  | [] => none
  | some a :: _ => some a
  | none :: rest => firstSome rest

def resolveByMagic (rr : ReaderInfo) : Option Cti :=
  match rr.magic with
  | some answers => firstSome answers
  | none => none

/-- `for fileExt, cti := range r.FileExts { if strings.HasSuffix(fileNameLower, fileExt) { return cti } }`
    with the map visited in the order `ord`. -/
def resolveByExt (ord : List (Str × Cti)) (rr : ReaderInfo) : Option Cti :=
  match rr.fileName with
  | some fn => (ord.find? (fun e => hasSuffix (asciiLower fn) e.1)).map (·.2)
  | none => none

/-- `Registry.ResolveDecoderType(rr, t)` -/
def resolveDecoderType (reg : Registry) (ord : List (Str × Cti)) (rr : ReaderInfo) (t : Str) : Option Cti :=
  match resolveByType reg.aliases reg.decoders t with
  | some c => some c
  | none =>
    match resolveByMedia reg.mediaTypes rr with
    | some c => some c
    | none =>
      match resolveByMagic rr with
      | some c => some c
      | none => resolveByExt ord rr

/-- `Registry.ResolveEncoderType(ww, t)`; `fileName` = `ww.GetFileName()` when ok.
    Note: exact, case-sensitive lookup of `filepath.Ext(fileName)` (the decoder side lower-cases and
    matches suffixes). -/
def resolveEncoderType (reg : Registry) (fileName : Option Str) (t : Str) : Option Cti :=
  match resolveByType reg.aliases reg.encoders t with
  | some c => some c
  | none =>
    match fileName with
    | some fn => BN.assoc (filepathExt fn) reg.fileExts
    | none => none

/-- `cmdflags.EncodingInput.Open` + `Registry.NewDecoder`: the option builder resolves the type (or takes
    `fallback`), `NewDecoder` resolves the resulting string again and looks the manager up.
    `none` = `ErrUnknownEncoding`. The two resolutions iterate the extension map independently. -/
def openDecoderType (reg : Registry) (ord1 ord2 : List (Str × Cti)) (rr : ReaderInfo) (t : Str) (fallback : Cti) :
    Option Cti :=
  let t1 := (resolveDecoderType reg ord1 rr t).getD fallback
  match resolveDecoderType reg ord2 rr t1 with
  | some c => if c ∈ reg.decoders then some c else none
  | none => none

/-- `cmdflags.EncodingOutput.Open` + `Registry.NewEncoder` -/
def openEncoderType (reg : Registry) (fileName : Option Str) (t : Str) (fallback : Cti) : Option Cti :=
  let t1 := (resolveEncoderType reg fileName t).getD fallback
  match resolveEncoderType reg fileName t1 with
  | some c => if c ∈ reg.encoders then some c else none
  | none => none

/-! ## fileresource: resource name → file name / IRI -/

def filePrefix : Str := RdfModel.asc "file://"

/-- `fp := strings.TrimPrefix(opts.Name, "file://")`; `""`/`"-"` is stdin/stdout (file name `std`),
    otherwise `filepath.Base(fp)`; `GetFileName` is ok iff the name is non-empty. -/
def fileName (std : Str) (name : Str) : Option Str :=
  let fp := trimPrefix name filePrefix
  let fn := if fp = [] ∨ fp = [0x2d] then std else filepathBase fp
  if fn = [] then none else some fn

/-- `GetIRI()` of a file reader/writer (`dev` = `/dev/stdin` or `/dev/stdout`) -/
def fileIRI (dev : Str) (name : Str) : Str :=
  let fp := trimPrefix name filePrefix
  if fp = [] ∨ fp = [0x2d] then filePrefix ++ dev else filePrefix ++ fp

/-! ## Triples/quads adapters -/

inductive Kind where | triples | quads
  deriving Repr, DecidableEq, Inhabited

/-- `QuadAsTripleEncoder.AddQuad`: `AddTriple(ctx, quad.Triple)` — the graph name is dropped, whatever it is. -/
def quadAsTriple {β : Type} (q : Quad β) : Quad β := { q with g := none }

/-- `TripleAsQuadDecoder.Quad()` with `graphName == nil` (as `GetQuadsDecoder` constructs it). A triple is a
    `Quad` whose `g` the triples decoder never sets. -/
def tripleAsQuad {β : Type} (t : Quad β) : Quad β := { t with g := none }

/-- `DecoderHandle.GetQuadsDecoder()` applied to the statements the decoder yields -/
def getQuadsDecoder {β : Type} : Kind → List (Quad β) → List (Quad β)
  | .quads, qs => qs
  | .triples, ts => ts.map tripleAsQuad

/-- `EncoderHandle.GetQuadsEncoder().AddQuad`: what reaches the underlying encoder -/
def getQuadsEncoder {β : Type} : Kind → Quad β → Quad β
  | .quads, q => q
  | .triples, q => quadAsTriple q

/-- The statements handed to the target encoder by the loop of `pipecmd` (`for decoderQuads.Next() { … }`),
    in order. -/
def pipeStatements {β : Type} (src tgt : Kind) (decoded : List (Quad β)) : List (Quad β) :=
  (getQuadsDecoder src decoded).map (getQuadsEncoder tgt)

/-- What the property asks a triples-only target to receive: the default graph. -/
def defaultGraph {β : Type} (qs : List (Quad β)) : List (Quad β) := qs.filter (fun q => q.g.isNone)

/-! ## Blank-node labels -/

open BN in
/-- The label provider an rdfio encoder manager installs: `PropagateDecoderPipeBlankNodeStringProvider(h)`
    if it returns one, else the encoder's own default `NewInt64StringProvider("b%d")`.
    `h` = `DecoderHandle.DecoderBlankNodes` (`none` = nil). -/
def pipeProvider (U : Nat → Bytes) (s : State) (h : Option FactoryRef) : State × Option ProvRef :=
  match step U s (.propagate h) with
  | (s', .prov p) => (s', some p)
  | (s', .noProv) =>
    match step U s' (.newInt64Provider (BN.asc "b%d")) with
    | (s'', .prov p) => (s'', some p)
    | (s'', _) => (s'', none)
  | (s', _) => (s', none)

open BN in
/-- one term through `bnStringProvider.GetBlankNodeString`; `none` = outside the model (`unsupported`/`bad`) -/
def labelTerm (U : Nat → Bytes) (p : ProvRef) (s : State) : Term Node → State × Option (Term Bytes)
  | .iri v => (s, some (.iri v))
  | .lit l d t => (s, some (.lit l d t))
  | .bnode n =>
    match getLabel U s p n with
    | (s', .label l) => (s', some (.bnode l))
    | (s', _) => (s', none)

/-- all four positions labelled ⇒ the labelled quad (`d = some none`: no graph name) -/
def mkQuad (a b c : Option (Term BN.Bytes)) (d : Option (Option (Term BN.Bytes))) : Option (Quad BN.Bytes) :=
  match a, b, c, d with
  | some a, some b, some c, some d => some ⟨a, b, c, d⟩
  | _, _, _, _ => none

open BN in
/-- `AddQuad`/`AddTriple` of the line-based encoders ask for labels in the order subject, object, graph name
    (a predicate is never a blank node in a statement the encoder accepts). -/
def labelQuad (U : Nat → Bytes) (p : ProvRef) (s : State) (q : Quad Node) : State × Option (Quad Bytes) :=
  let r1 := labelTerm U p s q.s
  let r2 := labelTerm U p r1.1 q.p
  let r3 := labelTerm U p r2.1 q.o
  match q.g with
  | none => (r3.1, mkQuad r1.2 r2.2 r3.2 (some none))
  | some g =>
    let r4 := labelTerm U p r3.1 g
    (r4.1, mkQuad r1.2 r2.2 r3.2 (r4.2.map some))

def consOpt {α : Type} : Option α → Option (List α) → Option (List α)
  | some a, some l => some (a :: l)
  | _, _ => none

open BN in
def labelQuads (U : Nat → Bytes) (p : ProvRef) : State → List (Quad Node) → State × Option (List (Quad Bytes))
  | s, [] => (s, some [])
  | s, q :: rest =>
    let r1 := labelQuad U p s q
    let r2 := labelQuads U p r1.1 rest
    (r2.1, consOpt r1.2 r2.2)

/-! ## The pipe into a line-based target (N-Triples / N-Quads) -/

inductive PipeResult where
  | ok (doc : List Nat)
  /-- `write: …`: `AddQuad` returned an error at statement `k`; what was written before stays written -/
  | writeErr (k : Nat) (doc : List Nat)
  | outside
  deriving Repr, DecidableEq, Inhabited

open BN in
/-- the loop of `pipecmd`: label and encode statement by statement; stops at the first statement the
    encoder refuses (`AddQuad` error ⇒ `write: …`, exit status 1) -/
def pipeLoop (T : NQ.Tables) (ascii quads : Bool) (U : Nat → Bytes) (p : ProvRef) :
    Nat → State → List (Quad Node) → List Nat → PipeResult
  | _, _, [], acc => .ok acc
  | k, s, q :: rest, acc =>
    match labelQuad U p s q with
    | (s', some lq) =>
      match NQ.encodeQuad T ascii id quads lq with
      | some line => pipeLoop T ascii quads U p (k + 1) s' rest (acc ++ line)
      | none => .writeErr k acc
    | (_, none) => .outside

open BN in
/-- `rdfkit pipe` with an N-Quads (`quads = true`) or N-Triples (`quads = false`) target:
    `decoded` = the statements the source decoder yields (blank nodes as Go values), `h` = its
    `DecoderBlankNodes`, `src` = whether it is a triples or a quads decoder. -/
def pipeNQ (T : NQ.Tables) (ascii quads : Bool) (U : Nat → Bytes) (s : State) (h : Option FactoryRef)
    (src : Kind) (decoded : List (Quad Node)) : PipeResult :=
  match pipeProvider U s h with
  | (s1, some p) =>
    pipeLoop T ascii quads U p 0 s1 (pipeStatements src (if quads then .quads else .triples) decoded) []
  | (_, none) => .outside

/-! ## `--out-param KEY[=VALUE]` → encoder options

  Conventions of this part: parameter strings, prefix labels, namespaces and base IRIs are code-point lists
  (`[]rune(s)` of a valid UTF-8 Go string; the Go code splits at the ASCII bytes `=` and `:` and compares with ASCII
  keys only, which commutes with UTF-8 decoding), because that is what `Model/TurtleEncoder.lean` works on. -/

/-- `strings.SplitN(raw, sep, 2)`: `(before, some after)` at the first `sep`; `(raw, none)` when there is none -/
def splitFirst (sep : Nat) : List Nat → List Nat × Option (List Nat)
  | [] => ([], none)
  | c :: rest =>
    if c = sep then ([], some rest)
    else let r := splitFirst sep rest; (c :: r.1, r.2)

/-- `strconv.ParseBool` -/
def parseBool (v : List Nat) : Option Bool :=
  if v = RdfModel.asc "1" ∨ v = RdfModel.asc "t" ∨ v = RdfModel.asc "T" ∨ v = RdfModel.asc "true" ∨
     v = RdfModel.asc "TRUE" ∨ v = RdfModel.asc "True" then some true
  else if v = RdfModel.asc "0" ∨ v = RdfModel.asc "f" ∨ v = RdfModel.asc "F" ∨ v = RdfModel.asc "false" ∨
     v = RdfModel.asc "FALSE" ∨ v = RdfModel.asc "False" then some false
  else none

/-- a boolean parameter (`kvref.BoolPtr`): `KEY` alone is `KEY=true` (`GetImpliedValue`); `none` = error -/
def boolParam (v : Option (List Nat)) : Option Bool := parseBool (v.getD (RdfModel.asc "true"))

/-- `Collection.ImportStrings`: the raw strings in order, the first error aborts (`none`) -/
def importAll {P : Type} (f : P → List Nat → Option P) : P → List (List Nat) → Option P
  | p, [] => some p
  | p, raw :: rest =>
    match f p raw with
    | some p' => importAll f p' rest
    | none => none

/-- `nquadsrdfio.encoderParams` / `ntriplesrdfio.encoderParams` -/
structure NQParams where
  ascii : Option Bool := none
  deriving Repr, DecidableEq, Inhabited

def NQParams.import1 (p : NQParams) (raw : List Nat) : Option NQParams :=
  let kv := splitFirst 0x3d raw
  if kv.1 = RdfModel.asc "ascii" then (boolParam kv.2).map (fun b => { p with ascii := some b })
  else none

/-- the `ascii` flag the N-Quads / N-Triples encoder ends up with: `SetASCII(*params.Ascii)` only when the
    parameter was given (`ApplyDefaults` does nothing), else the encoder's own default `false`; `none` =
    `params: …` error -/
def nqAscii (raw : List (List Nat)) : Option Bool :=
  (importAll NQParams.import1 {} raw).map (fun p => p.ascii.getD false)

/-- `rdfjsonrdfio.encoderParams`: an empty collection — every parameter is an `unknown key` error -/
def rjParamsOK (raw : List (List Nat)) : Bool := raw.isEmpty

/-- `turtlerdfio.encoderParams` -/
structure TtlParams where
  buffered : Option Bool := none
  irisUseBase : Option Bool := none
  irisUsePrefixes : List (List Nat) := []
  resources : Option Bool := none
  deriving Repr, DecidableEq, Inhabited

def TtlParams.import1 (p : TtlParams) (raw : List Nat) : Option TtlParams :=
  let kv := splitFirst 0x3d raw
  if kv.1 = RdfModel.asc "buffered" then (boolParam kv.2).map (fun b => { p with buffered := some b })
  else if kv.1 = RdfModel.asc "iris.useBase" then (boolParam kv.2).map (fun b => { p with irisUseBase := some b })
  else if kv.1 = RdfModel.asc "iris.usePrefix" then
    -- `kvref.StringList`: appends; no implied value (`ErrMissingValue`)
    kv.2.map (fun v => { p with irisUsePrefixes := p.irisUsePrefixes ++ [v] })
  else if kv.1 = RdfModel.asc "resources" then (boolParam kv.2).map (fun b => { p with resources := some b })
  else none

/-- `encoderParams.ApplyDefaults` -/
def TtlParams.applyDefaults (p : TtlParams) : TtlParams :=
  { buffered := some (p.buffered.getD true)
    irisUseBase := some (p.irisUseBase.getD true)
    irisUsePrefixes := if p.irisUsePrefixes.isEmpty then [RdfModel.asc "rdfa-context"] else p.irisUsePrefixes
    resources := some (p.resources.getD false) }

/-- the loop over `params.IrisUsePrefixes` in `turtlerdfio.encoder.NewEncoder`; `rdfa` =
    `rdfacontext.AppendWidelyUsedInitialContext(nil)`; `none` = `flag[prefixes]: invalid prefix format` -/
def ttlPrefixes (rdfa : List Prefix.Mapping) : List (List Nat) → List Prefix.Mapping → Option (List Prefix.Mapping)
  | [], acc => some acc
  | p :: rest, acc =>
    if p = RdfModel.asc "rdfa-context" then ttlPrefixes rdfa rest (acc ++ rdfa)
    else if p = RdfModel.asc "none" then ttlPrefixes rdfa rest []
    else
      match splitFirst 0x3a p with
      | (l, some ns) => ttlPrefixes rdfa rest (acc ++ [⟨l, ns⟩])
      | (_, none) => none

/-- `turtlerdfio.encoder.NewEncoder`: parameters → (`turtle.EncoderConfig`, wrap in `BufferedTriplesEncoder`?).
    `base` = `opts.BaseIRI` (see `encoderBase`). `SetBuffered(true)` only when `buffered`; `SetBase` only when
    `iris.useBase`; `SetPrefixes` only for a non-empty list; `bufferedSort` and the directive modes are never
    set by the command. `none` = the command fails with `output: encoder: …`. -/
def ttlOptions (rdfa : List Prefix.Mapping) (raw : List (List Nat)) (base : List Nat) : Option (TtlEnc.Config × Bool) :=
  match importAll TtlParams.import1 {} raw with
  | none => none
  | some p0 =>
    let p := p0.applyDefaults
    match ttlPrefixes rdfa p.irisUsePrefixes [] with
    | none => none
    | some prefixes =>
      some ({ base := if p.irisUseBase = some true then some base else none
              prefixes := prefixes
              buffered := if p.buffered = some true then some true else none },
            p.resources = some true)

/-- `cmdflags.EncodingOutput` (the `--out*` flags of `rdfkit pipe`) -/
structure OutFlags where
  /-- `--out`, `-o` -/
  name : List Nat := []
  /-- `--out-type` -/
  type : List Nat := []
  /-- `--out-base` -/
  base : List Nat := []
  /-- `--out-param` (repeatable) -/
  params : List (List Nat) := []
  deriving Repr, DecidableEq, Inhabited

/-- `EncoderOptions.BaseIRI` as the encoder manager sees it: `--out-base` when non-empty
    (`EncoderOptions.ApplyOptions`), else `ww.GetIRI()` (`Registry.NewEncoder`) — the IRI of the OUTPUT
    resource. The decoder's base (`--in-base` / the input's IRI) is not propagated to the encoder. -/
def encoderBase (f : OutFlags) : List Nat :=
  if f.base ≠ [] then f.base else fileIRI (RdfModel.asc "/dev/stdout") f.name

/-! ## The pipe into Turtle and RDF/JSON -/

/-- a labelled statement as an `rdf.Triple` of `Model/Description.lean` (`none`: a predicate that is not an IRI
    — not constructible in Go, `rdf.PredicateValue`) -/
def toTriple {β : Type} (q : Quad β) : Option (Desc.Triple β) :=
  match q.p with
  | .iri p => some ⟨q.s, p, q.o⟩
  | _ => none

def toTriples {β : Type} : List (Quad β) → Option (List (Desc.Triple β))
  | [] => some []
  | q :: rest => consOpt (toTriple q) (toTriples rest)

/-- the same statement for `Model/RdfJson.lean` -/
def toRJ {β : Type} (q : Quad β) : RJ.Triple β := ⟨q.s, q.p, q.o⟩

inductive OutResult where
  | ok (doc : List Nat)
  /-- `output: encoder: …`: bad parameter, bad prefix format -/
  | openErr
  /-- `write: …` (`AddQuad` returned an error) or an error of `Close` -/
  | writeErr
  /-- Go run-time panic (`RelativizeIRI` on an insane base, see `Prefix.relativizeB`) -/
  | panic
  | outside
  deriving Repr, DecidableEq, Inhabited

def OutResult.ofRes : TtlEnc.Res (List Nat) → OutResult
  | .ok d => .ok d
  | .err => .writeErr
  | .panic => .panic

def OutResult.ofOR : TtlEnc.OR (List Nat) → OutResult
  | some r => OutResult.ofRes r
  | none => .outside

open BN in
/-- `rdfkit pipe` with a **Turtle** target: `raw` = the `--out-param` strings, `base` = `encoderBase`, `mk` = the
    prefix manager built from the prefix list (parameter: see `pipeTtl`), `ord1`/`ord2` = iteration orders of `ExportResources`
    (`resources` only). Code points of the document.
    Labels: the provider is asked in statement order (subject, object) by `AddTriple`. With `resources` the Go
    encoder asks only at `Close`, in writing order and never for a node it inlines as `[ … ]`: the fresh UUID
    texts are then drawn in another order (and fewer of them) — the model's document and Go's agree up to a
    renaming of the fresh texts `U k`; labelled nodes are unaffected. -/
def pipeTtlWith (T : Ttl.Tables) (rdfa : List Prefix.Mapping) (mk : List Prefix.Mapping → Prefix.PM)
    (raw : List (List Nat)) (base : List Nat)
    (ord1 ord2 : List (Term Bytes)) (U : Nat → Bytes) (s : State) (h : Option FactoryRef)
    (src : Kind) (decoded : List (Quad Node)) : OutResult :=
  match ttlOptions rdfa raw base with
  | none => .openErr
  | some (cfg, resources) =>
    match pipeProvider U s h with
    | (s1, some p) =>
      match (labelQuads U p s1 (pipeStatements src .triples decoded)).2 with
      | none => .outside
      | some lqs =>
        match toTriples lqs with
        | none => .outside
        | some ts =>
          let pm := mk cfg.prefixes
          if resources then OutResult.ofOR (TtlEnc.encodeResourcesWith T false cfg pm id ord1 ord2 ts)
          else OutResult.ofRes (TtlEnc.encodePlainWith T cfg pm id ts)
    | (_, none) => .outside

open BN in
/-- … with the manager `iri.NewPrefixManager(cfg.prefixes)` (`S` = the tie-break of its unstable sort) -/
def pipeTtl (T : Ttl.Tables) (rdfa : List Prefix.Mapping) (S : Prefix.Sorter) (raw : List (List Nat)) (base : List Nat)
    (ord1 ord2 : List (Term Bytes)) (U : Nat → Bytes) (s : State) (h : Option FactoryRef)
    (src : Kind) (decoded : List (Quad Node)) : OutResult :=
  pipeTtlWith T rdfa (Prefix.new S) raw base ord1 ord2 U s h src decoded

open BN in
/-- The Turtle pipe with the label ASSIGNMENT as a parameter: `assign` is the function from blank nodes to labels
    that the (stateful) label provider realises over the run. Which fresh UUID text an unlabelled node gets depends
    on the order of first requests — statement order for `AddTriple`, writing order at `Close` with `resources`
    (where inlined nodes get none) — but every such run is `pipeTtlAssign` for SOME assignment; `pipeTtlWith` is
    the instance where the provider is asked in statement order (`Props/C18Targets.lean: pipe_ttl_assign_link`).
    Theorems stated for every admissible `assign` therefore do not depend on the draw order. -/
def pipeTtlAssign (T : Ttl.Tables) (rdfa : List Prefix.Mapping) (mk : List Prefix.Mapping → Prefix.PM)
    (raw : List (List Nat)) (base : List Nat) (ord1 ord2 : List (Term Bytes)) (assign : Node → Bytes)
    (src : Kind) (decoded : List (Quad Node)) : OutResult :=
  match ttlOptions rdfa raw base with
  | none => .openErr
  | some (cfg, resources) =>
    match toTriples ((pipeStatements src .triples decoded).map (Quad.map assign)) with
    | none => .outside
    | some ts =>
      let pm := mk cfg.prefixes
      if resources then OutResult.ofOR (TtlEnc.encodeResourcesWith T false cfg pm id ord1 ord2 ts)
      else OutResult.ofRes (TtlEnc.encodePlainWith T cfg pm id ts)

/-- the `AddTriple` calls of the pipe loop on the RDF/JSON encoder: the first refused statement ends the
    command (`write: …`) -/
def rjAddAll : RJ.State → List (RJ.Triple (List Nat)) → Option RJ.State
  | st, [] => some st
  | st, t :: rest =>
    match RJ.addTriple id st t with
    | some st' => rjAddAll st' rest
    | none => none

inductive RJResult where
  /-- the JSON token stream of the document `Close` marshals (the JSON text layer is outside the model) -/
  | ok (toks : List RJ.Tok)
  | openErr
  | writeErr
  | outside
  deriving Repr, DecidableEq, Inhabited

open BN in
/-- `rdfkit pipe` with an **RDF/JSON** target -/
def pipeRJ (raw : List (List Nat)) (U : Nat → Bytes) (s : State) (h : Option FactoryRef)
    (src : Kind) (decoded : List (Quad Node)) : RJResult :=
  if !rjParamsOK raw then .openErr
  else
    match pipeProvider U s h with
    | (s1, some p) =>
      match (labelQuads U p s1 (pipeStatements src .triples decoded)).2 with
      | none => .outside
      | some lqs =>
        match rjAddAll [] (lqs.map toRJ) with
        | some st => .ok (RJ.encodeTokens st)
        | none => .writeErr
    | (_, none) => .outside

open BN in
/-- `rdfkit pipe` with an N-Quads / N-Triples target and `--out-param`s -/
def pipeNQp (T : NQ.Tables) (quads : Bool) (raw : List (List Nat)) (U : Nat → Bytes) (s : State)
    (h : Option FactoryRef) (src : Kind) (decoded : List (Quad Node)) : Option PipeResult :=
  (nqAscii raw).map (fun ascii => pipeNQ T ascii quads U s h src decoded)

end RdfModel.Pipe
