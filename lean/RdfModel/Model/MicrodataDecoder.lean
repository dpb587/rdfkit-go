/-
  RdfModel.Model.MicrodataDecoder — function-by-function executable model of the Go Microdata decoder
  /repo/encoding/htmlmicrodata (decoder.go, decoder_ectx.go, decoder_config.go, vocabulary_resolver.go) and of the
  part of /repo/encoding/html (document.go: GetNodesByID / indexNodesById) it calls, over an ABSTRACT DOM TREE:
  what golang.org/x/net/html hands to the decoder after parsing (node type, namespace, DataAtom name, Data,
  attribute list in document order with namespace, children).  The HTML5 tokenizer / tree builder is outside.

  Strings are Go strings: lists of BYTES (possibly ill-formed UTF-8).

  Go                                                     here
  ------------------------------------------------------ ------------------------------------------------------
  Decoder.Next (first call) → walk(ectx, root)           `decode`  (fuel = `fuelFor doc`, see Props/C11Md)
  Decoder.walk                                           `walk` (`walkStep`) / `walkKidsWith` / `itemrefsWith`
  attribute scan at the top of walk                      `scanAttrs`
  the `for len(attrVal) > 0` itemtype loop (two regexps) `typeTokens` + `emitTypes` (the `panic("should not have
                                                          found an empty match")` is the explicit `Bad.panic`)
  Decoder.iterateItemprops                               `propNames` (strings.Fields ∘ strings.TrimSpace, the
                                                          `knownItemprops` set, the resolver's error = skip)
  Decoder.parseMicrodataItemvalue                        `itemValue`  (switch on DataAtom, lax @content, textContent)
  Decoder.parseMicrodataItempropAttr                     `findAttr`
  Decoder.collectTextContent                             `textContent`
  itempropAttrString / IRI / Time / Meter                `strLit`, `iriValue`, `firstMap`
  evaluationContext.ResolveURL                           parameter `Env.resolve` (base folded in; `none` = error)
  url.Parse(v) … .String() on an itemtype token          parameter `Env.normType` (identity when Parse fails)
  VocabularyResolver.ResolveMicrodataProperty            parameter `Env.vocab` (`none` = error)
  xsdobject.MapDate/Time/DateTime/GYearMonth/GYear/      parameters `Env.timeMaps` / `Env.meterMaps`, tried in order
    Duration, MapInteger/MapDecimal
  Document.GetNodesByID(id)[0]                           `findId doc id` (first element in tree order whose FIRST
                                                          un-namespaced `id` attribute equals `id`)
  globalEvaluationContext.ResolvedItemscopes             `St.resolved` (keyed by node identity = `Node.id`)
  evaluationContext.RecursedItemrefs                     `Ctx.recursed`
  rdf.NewBlankNodeFactory().NewBlankNode()               counter `St.nextBn`
  laxContentAttribute / Use / Hook                       `Env.lax`, `Env.laxUse`, `Env.hook`; hook calls recorded in
                                                          `St.hooks` (node identities, in call order)
  text offsets, container resources                      outside the model (they do not influence the triples)

  Node identity (`*html.Node` pointer equality, the key of ResolvedItemscopes): the field `Node.id`.  `relabel`
  numbers a tree in document order, so that distinct nodes have distinct identities; `decode` relabels first.
  The walk itself is defined (and the theorems are proved) for arbitrary `id` fields.

  Recursion: Go's `walk` recurses into children and, through `itemref`, into arbitrary other nodes of the document.
  The model takes a depth budget (`fuel`, one unit per nested call); running out is the explicit outcome
  `Bad.outOfFuel`.  `Props/C11Md.mdd_terminates_no_panic` proves the budget `fuelFor doc` is never exhausted.
  Core-only, executable.
-/
import RdfModel.Model.Description
namespace RdfModel.Mdd
open RdfModel RdfModel.Desc

abbrev Bytes := List Nat

structure Attr where
  ns : Bytes
  key : Bytes
  val : Bytes
  deriving Repr, DecidableEq, Inhabited

/-- html.Node. `typ`: 0 ErrorNode, 1 TextNode, 2 DocumentNode, 3 ElementNode, 4 CommentNode, 5 DoctypeNode,
    6 RawNode. `atom` = `n.DataAtom.String()` (empty for atom 0: unknown element names, text, …). -/
inductive Node where
  | mk (id : Nat) (typ : Nat) (ns : Bytes) (atom : Bytes) (data : Bytes) (attrs : List Attr) (kids : List Node)
  deriving Repr, Inhabited

namespace Node
def id : Node → Nat | .mk i _ _ _ _ _ _ => i
def typ : Node → Nat | .mk _ t _ _ _ _ _ => t
def ns : Node → Bytes | .mk _ _ n _ _ _ _ => n
def atom : Node → Bytes | .mk _ _ _ a _ _ _ => a
def data : Node → Bytes | .mk _ _ _ _ d _ _ => d
def attrs : Node → List Attr | .mk _ _ _ _ _ a _ => a
def kids : Node → List Node | .mk _ _ _ _ _ _ k => k
end Node

/-! ## tree utilities -/

mutual
/-- all nodes, in document (pre-)order -/
def subnodes : Node → List Node
  | .mk i t n a d as ks => .mk i t n a d as ks :: subnodesL ks
def subnodesL : List Node → List Node
  | [] => []
  | k :: ks => subnodes k ++ subnodesL ks
end

mutual
def height : Node → Nat
  | .mk _ _ _ _ _ _ ks => heightL ks + 1
def heightL : List Node → Nat
  | [] => 0
  | k :: ks => max (height k) (heightL ks)
end

mutual
/-- number the nodes in document order starting at `n`; returns the next free number -/
def relabelFrom (n : Nat) : Node → Node × Nat
  | .mk _ t ns a d as ks =>
    let (ks', m) := relabelL (n + 1) ks
    (.mk n t ns a d as ks', m)
def relabelL (n : Nat) : List Node → List Node × Nat
  | [] => ([], n)
  | k :: ks =>
    let (k', m) := relabelFrom n k
    let (ks', m') := relabelL m ks
    (k' :: ks', m')
end

def relabel (t : Node) : Node := (relabelFrom 0 t).1

def kId : Bytes := asc "id"

/-- indexNodesById: only the FIRST un-namespaced `id` attribute of an element is indexed (`break`) -/
def firstIdAttr : List Attr → Option Bytes
  | [] => none
  | a :: rest => if a.ns = [] ∧ a.key = kId then some a.val else firstIdAttr rest

def hasId (id : Bytes) (n : Node) : Bool := n.typ == 3 && firstIdAttr n.attrs == some id

/-- `doc.GetNodesByID(id)` reduced to what the decoder uses: the first node, if any -/
def findId (doc : Node) (id : Bytes) : Option Node := (subnodes doc).find? (hasId id)

/-! ## Go string functions (byte level)

  `unicode.IsSpace` holds for U+0009–000D, U+0020, U+0085, U+00A0, U+1680, U+2000–200A, U+2028, U+2029, U+202F,
  U+205F, U+3000.  Go decodes the string rune by rune (an ill-formed byte is U+FFFD of width 1, not a space);
  because the lead bytes of the multi-byte spaces (C2, E1, E2, E3) are never continuation bytes, the decoder
  is positioned on every such lead byte, so matching the byte patterns at every byte offset finds exactly
  the same spaces.  (Tied by T3 on documents with these sequences and with ill-formed UTF-8.) -/

/-- width of the `unicode.IsSpace` rune at the head of `s`; 0 = none -/
def spaceLen : Bytes → Nat
  | [] => 0
  | c :: r =>
    if c == 9 || c == 10 || c == 11 || c == 12 || c == 13 || c == 32 then 1
    else if c == 0xC2 then
      (match r with
       | d :: _ => if d == 0x85 || d == 0xA0 then 2 else 0
       | [] => 0)
    else if c == 0xE1 then
      (match r with
       | d :: e :: _ => if d == 0x9A && e == 0x80 then 3 else 0
       | _ => 0)
    else if c == 0xE2 then
      (match r with
       | d :: e :: _ =>
         if d == 0x80 && ((0x80 ≤ e && e ≤ 0x8A) || e == 0xA8 || e == 0xA9 || e == 0xAF) then 3
         else if d == 0x81 && e == 0x9F then 3 else 0
       | _ => 0)
    else if c == 0xE3 then
      (match r with
       | d :: e :: _ => if d == 0x80 && e == 0x80 then 3 else 0
       | _ => 0)
    else 0

def flush (acc : Bytes) : List Bytes := if acc.isEmpty then [] else [acc.reverse]

/-- strings.Fields: `skip` = remaining bytes of the space rune being consumed, `acc` = current token reversed -/
def fieldsGo : Nat → Bytes → Bytes → List Bytes
  | _, [], acc => flush acc
  | k + 1, _ :: r, acc => fieldsGo k r acc
  | 0, c :: r, acc =>
    let n := spaceLen (c :: r)
    if n = 0 then fieldsGo 0 r (c :: acc) else flush acc ++ fieldsGo (n - 1) r []

def fields (s : Bytes) : List Bytes := fieldsGo 0 s []

/-- strings.TrimLeftFunc(s, unicode.IsSpace) -/
def trimLeftGo : Nat → Bytes → Bytes
  | _, [] => []
  | k + 1, _ :: r => trimLeftGo k r
  | 0, c :: r =>
    let n := spaceLen (c :: r)
    if n = 0 then c :: r else trimLeftGo (n - 1) r

/-- drop trailing spaces: `pend` = the run of space bytes seen since the last non-space byte (reversed) -/
def trimRightGo : Nat → Bytes → Bytes → Bytes
  | _, [], _ => []
  | k + 1, c :: r, pend => trimRightGo k r (c :: pend)
  | 0, c :: r, pend =>
    let n := spaceLen (c :: r)
    if n = 0 then pend.reverse ++ c :: trimRightGo 0 r [] else trimRightGo (n - 1) r (c :: pend)

/-- strings.TrimSpace -/
def trimSpace (s : Bytes) : Bytes := trimRightGo 0 (trimLeftGo 0 s) []

/-- regexp `\s` (RE2): `[\t\n\f\r ]` — no VT, no Unicode spaces -/
def isReSpace (c : Nat) : Bool := c == 9 || c == 10 || c == 12 || c == 13 || c == 32

/-- the itemtype loop's tokens: maximal runs of non-`\s` bytes, in order -/
def typeTokensGo : Bytes → Bytes → List Bytes
  | [], acc => flush acc
  | c :: r, acc => if isReSpace c then flush acc ++ typeTokensGo r [] else typeTokensGo r (c :: acc)

def typeTokens (s : Bytes) : List Bytes := typeTokensGo s []

/-! ## terms, statements, state -/

/-- rdf.SubjectValue as the decoder makes it: `rdf.IRI(string)` or a factory blank node -/
inductive Subj where
  | iri (v : Bytes)
  | bn (k : Nat)
  deriving Repr, DecidableEq, Inhabited

def Subj.term : Subj → Term Nat
  | .iri v => .iri v
  | .bn k => .bnode k

abbrev Stmt := Triple Nat

def rdfType : Bytes := asc "http://www.w3.org/1999/02/22-rdf-syntax-ns#type"

def strLit (v : Bytes) : Term Nat := .lit v xsdString none

inductive Bad where
  | outOfFuel
  | panic
  deriving Repr, DecidableEq, Inhabited

structure St where
  /-- ResolvedItemscopes (newest first) -/
  resolved : List (Nat × Subj) := []
  nextBn : Nat := 0
  /-- w.statements, newest first -/
  out : List Stmt := []
  /-- laxContentAttributeHook calls (node identity), newest first -/
  hooks : List Nat := []
  /-- number of `walk` calls so far -/
  steps : Nat := 0
  /-- number of item expansions (first visits of an itemscope element) so far -/
  expansions : Nat := 0
  /-- number of RecursedItemrefs entries copied so far (`for k, v := range ectx.RecursedItemrefs` before every
      itemref jump: the cost behind the quadratic behaviour listed as C05X-microdata-itemref) -/
  copies : Nat := 0
  bad : Option Bad := none
  deriving Repr, Inhabited

def St.lookup (st : St) (id : Nat) : Option Subj :=
  match st.resolved.find? (fun e => e.1 == id) with
  | some e => some e.2
  | none => none

def St.emit (st : St) (t : Stmt) : St := { st with out := t :: st.out }
def St.fail (st : St) (b : Bad) : St := { st with bad := (match st.bad with | some x => some x | none => some b) }

structure Env where
  resolve : Bytes → Option Bytes
  normType : Bytes → Bytes
  vocab : List Bytes → Bytes → Option Bytes
  timeMaps : List (Bytes → Option (Term Nat))
  meterMaps : List (Bytes → Option (Term Nat))
  lax : Bool
  laxUse : Bool
  hook : Bool

/-- evaluationContext (the parts that matter for the triples) -/
structure Ctx where
  subj : Option Subj := none
  types : List Bytes := []
  recursed : List Bytes := []
  deriving Repr, Inhabited

structure ItemAttrs where
  itemid : Bytes := []
  itemprop : Bytes := []
  itemref : Bytes := []
  itemscope : Bool := false
  itemtype : Bytes := []
  deriving Repr, DecidableEq, Inhabited

def kItemid : Bytes := asc "itemid"
def kItemprop : Bytes := asc "itemprop"
def kItemref : Bytes := asc "itemref"
def kItemscope : Bytes := asc "itemscope"
def kItemtype : Bytes := asc "itemtype"

/-- the `for attrIdx, attr := range n.Attr` switch: later attributes overwrite earlier ones -/
def scanAttrs : List Attr → ItemAttrs → ItemAttrs
  | [], acc => acc
  | a :: rest, acc =>
    if a.ns ≠ [] then scanAttrs rest acc
    else if a.key = kItemid then scanAttrs rest { acc with itemid := a.val }
    else if a.key = kItemprop then scanAttrs rest { acc with itemprop := a.val }
    else if a.key = kItemref then scanAttrs rest { acc with itemref := a.val }
    else if a.key = kItemscope then scanAttrs rest { acc with itemscope := true }
    else if a.key = kItemtype then scanAttrs rest { acc with itemtype := a.val }
    else scanAttrs rest acc

/-- iterateItemprops: the predicates, in order (`known` = knownItemprops) -/
def propNamesGo (E : Env) (types : List Bytes) : List Bytes → List Bytes → List Bytes
  | [], _ => []
  | tok :: rest, known =>
    if tok.isEmpty then propNamesGo E types rest known
    else if known.contains tok then propNamesGo E types rest known
    else
      match E.vocab types tok with
      | none => propNamesGo E types rest (tok :: known)
      | some p => p :: propNamesGo E types rest (tok :: known)

def propNames (E : Env) (types : List Bytes) (attr : Bytes) : List Bytes :=
  propNamesGo E types (fields (trimSpace attr)) []

def emitAll (s : Subj) (o : Term Nat) : List Bytes → St → St
  | [], st => st
  | p :: ps, st => emitAll s o ps (st.emit ⟨s.term, p, o⟩)

/-- parseMicrodataItempropAttr: the first un-namespaced attribute named `key` -/
def findAttr (key : Bytes) : List Attr → Option Bytes
  | [] => none
  | a :: rest => if a.ns ≠ [] then findAttr key rest else if a.key = key then some a.val else findAttr key rest

mutual
/-- collectTextContent -/
def textContent : Node → Bytes
  | .mk _ t _ _ d _ ks => (if t = 1 then d else []) ++ textContentL ks
def textContentL : List Node → Bytes
  | [] => []
  | k :: ks => textContent k ++ textContentL ks
end

/-- itempropAttrIRI -/
def iriValue (E : Env) (v : Bytes) : Term Nat :=
  match E.resolve v with
  | some r => .iri r
  | none => .iri v

/-- the `if mapped, err := Map…(v); err == nil` chains of itempropAttrTime / itempropAttrMeter -/
def firstMap (v : Bytes) : List (Bytes → Option (Term Nat)) → Term Nat
  | [] => strLit v
  | f :: fs => match f v with | some t => t | none => firstMap v fs

inductive ValueKind where
  | content | src | href | data | value | meter | time | other
  deriving Repr, DecidableEq, Inhabited

def kindOfAtom (a : Bytes) : ValueKind :=
  if a = asc "meta" then .content
  else if a = asc "audio" ∨ a = asc "embed" ∨ a = asc "iframe" ∨ a = asc "img" ∨ a = asc "source" ∨ a = asc "track"
          ∨ a = asc "video" then .src
  else if a = asc "a" ∨ a = asc "area" ∨ a = asc "link" then .href
  else if a = asc "object" then .data
  else if a = asc "data" then .value
  else if a = asc "meter" then .meter
  else if a = asc "time" then .time
  else .other

/-- the tail of parseMicrodataItemvalue: lax @content, else textContent. Returns the value and whether the hook
    was called. -/
def laxOrText (E : Env) (n : Node) : Term Nat × Bool :=
  if E.lax then
    match findAttr (asc "content") n.attrs with
    | some v =>
      if E.hook then
        (if !E.laxUse then (strLit (textContent n), true) else (strLit v, true))
      else (strLit v, false)
    | none => (strLit (textContent n), false)
  else (strLit (textContent n), false)

/-- parseMicrodataItemvalue -/
def itemValue (E : Env) (n : Node) : Term Nat × Bool :=
  match kindOfAtom n.atom with
  | .content => (match findAttr (asc "content") n.attrs with | some v => (strLit v, false) | none => (strLit [], false))
  | .src => (match findAttr (asc "src") n.attrs with | some v => (iriValue E v, false) | none => (strLit [], false))
  | .href => (match findAttr (asc "href") n.attrs with | some v => (iriValue E v, false) | none => (strLit [], false))
  | .data => (match findAttr (asc "data") n.attrs with | some v => (iriValue E v, false) | none => (strLit [], false))
  | .value => (match findAttr (asc "value") n.attrs with | some v => (strLit v, false) | none => (strLit [], false))
  | .meter => (match findAttr (asc "value") n.attrs with | some v => (firstMap v E.meterMaps, false) | none => (strLit [], false))
  | .time => (match findAttr (asc "datetime") n.attrs with | some v => (firstMap v E.timeMaps, false) | none => laxOrText E n)
  | .other => laxOrText E n

/-- the itemtype loop: one rdf:type statement per token; returns nextItemtypes. An empty token is Go's
    `panic("should not have found an empty match")`. -/
def emitTypes (E : Env) (s : Subj) : List Bytes → St → List Bytes × St
  | [], st => ([], st)
  | tok :: rest, st =>
    if tok.isEmpty then ([], st.fail .panic)
    else
      let o := E.normType tok
      let (ts, st') := emitTypes E s rest (st.emit ⟨s.term, rdfType, .iri o⟩)
      (o :: ts, st')

/-- subject of an item element -/
def itemSubject (E : Env) (a : ItemAttrs) (resolved : Option Subj) (st : St) : Subj × St :=
  if a.itemid ≠ [] then
    let v := trimSpace a.itemid
    (match E.resolve v with | some r => .iri r | none => .iri v, st)
  else
    match resolved with
    | some s => (s, st)
    | none => (.bn st.nextBn, { st with nextBn := st.nextBn + 1 })

/-- `for c := n.FirstChild; c != nil; c = c.NextSibling { w.walk(ectx, c) }`, `w` = the recursive call -/
def walkKidsWith (w : Ctx → Node → St → St) (ctx : Ctx) (ks : List Node) (st : St) : St :=
  ks.foldl (fun st k => w ctx k st) st

/-- one round of the `for _, itemref := range strings.Fields(...)` loop of an item element `n` -/
def itemrefStep (w : Ctx → Node → St → St) (doc : Node) (ctx : Ctx) (n : Node) (st : St) (ref : Bytes) : St :=
  if ref.isEmpty then st
  else
    match findId doc ref with
    | none => st
    | some target =>
      if target.id = n.id then st
      else if ctx.recursed.contains ref then st
      else w { ctx with recursed := ref :: ctx.recursed } target { st with copies := st.copies + ctx.recursed.length }

def itemrefsWith (w : Ctx → Node → St → St) (doc : Node) (ctx : Ctx) (n : Node) (refs : List Bytes) (st : St) : St :=
  refs.foldl (itemrefStep w doc ctx n) st

/-- the part of `walk` for an element with `itemscope` that has not been reached before -/
def expandItem (E : Env) (w : Ctx → Node → St → St) (doc : Node) (ctx : Ctx) (n : Node) (a : ItemAttrs) (next : Subj)
    (st : St) : St :=
  let r := if a.itemtype ≠ [] then emitTypes E next (typeTokens a.itemtype) st else ([], st)
  let ctx' : Ctx := { ctx with subj := some next, types := r.1 }
  let st1 : St := { r.2 with resolved := (n.id, next) :: r.2.resolved, expansions := r.2.expansions + 1 }
  let st2 := if a.itemref ≠ [] then itemrefsWith w doc ctx' n (fields (trimSpace a.itemref)) st1 else st1
  walkKidsWith w ctx' n.kids st2

/-- the `itemprop` statements of an item element (subject = the enclosing item, object = this item) -/
def linkItem (E : Env) (ctx : Ctx) (a : ItemAttrs) (next : Subj) (st : St) : St :=
  if a.itemprop ≠ [] then
    match ctx.subj with
    | none => st
    | some cur => emitAll cur next.term (propNames E ctx.types a.itemprop) st
  else st

/-- the `itemprop` statements of an element without `itemscope` -/
def propElem (E : Env) (ctx : Ctx) (n : Node) (a : ItemAttrs) (st : St) : St :=
  if a.itemprop ≠ [] then
    match ctx.subj with
    | none => st
    | some cur =>
      let (o, hooked) := itemValue E n
      let st := if hooked then { st with hooks := n.id :: st.hooks } else st
      emitAll cur o (propNames E ctx.types a.itemprop) st
  else st

/-- the `if attrItemscope { … }` branch of `walk`, `st0` = the state on entry -/
def visitItem (E : Env) (w : Ctx → Node → St → St) (doc : Node) (ctx : Ctx) (n : Node) (a : ItemAttrs) (st0 : St) : St :=
  let r := itemSubject E a (st0.lookup n.id) st0
  let stL := linkItem E ctx a r.1 r.2
  match st0.lookup n.id with
  | some _ => stL
  | none => expandItem E w doc ctx n a r.1 stL

/-- the body of Decoder.walk, `w` = the recursive call -/
def walkStep (E : Env) (w : Ctx → Node → St → St) (doc : Node) (ctx : Ctx) (n : Node) (st : St) : St :=
  let st0 : St := { st with steps := st.steps + 1 }
  if n.ns ≠ [] then walkKidsWith w ctx n.kids st0
  else if (scanAttrs n.attrs {}).itemscope then visitItem E w doc ctx n (scanAttrs n.attrs {}) st0
  else walkKidsWith w ctx n.kids (propElem E ctx n (scanAttrs n.attrs {}) st0)

/-- Decoder.walk with a depth budget -/
def walk (E : Env) (doc : Node) : Nat → Ctx → Node → St → St
  | 0, _, _, st => st.fail .outOfFuel
  | fuel + 1, ctx, n, st => walkStep E (walk E doc fuel) doc ctx n st

/-- depth budget that `Props/C11Md.mdd_terminates_no_panic` proves sufficient:
    (number of nodes + 1) · (height + 1) -/
def fuelFor (doc : Node) : Nat := ((subnodes doc).length + 1) * (height doc + 1)

inductive Outcome where
  | ok (stmts : List Stmt) (hooks : List Nat)
  | outOfFuel
  | panic
  deriving Repr, DecidableEq, Inhabited

def finish (st : St) : Outcome :=
  match st.bad with
  | some .panic => .panic
  | some .outOfFuel => .outOfFuel
  | none => .ok st.out.reverse st.hooks.reverse

/-- the state after the first `Next` on an arbitrary (already identified) tree -/
def run (E : Env) (doc : Node) : St := walk E doc (fuelFor doc) {} doc {}

/-- `Decoder.Next` (first call) on the document whose root is `t`: all statements, in emission order -/
def decode (E : Env) (t : Node) : Outcome := finish (run E (relabel t))

/-- DecoderConfig.newDecoder: a non-empty document base URL that does not parse is the only error -/
def newDecoderOk (baseParses : Bytes → Bool) (base : Bytes) : Bool := base.isEmpty || baseParses base

end RdfModel.Mdd
