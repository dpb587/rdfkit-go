/-
  RdfModel.Model.Rdfcanon — executable functional translation of /repo/rdfcanon
  (algorithm_canonicalization.go, algorithm_hash_first_degree_quads.go,
  algorithm_hash_related_blank_node.go, algorithm_hash_n_degree_quads.go, canonicalize.go:
  identifierIssuer, canonicalize_config.go: limits), as repaired by the fixes D8 (related-hash
  input), D9 (issuer-local counter of temporary issuers) and D10 (canonical literal escapes, in
  encoding/nquads, reached through `NQ.writeLiteral` and the regenerated tables).

  Conventions
  * Go maps are association lists.  `blankNodeToQuads` is *iterated* by Go (`for n := range …`,
    step 3): the iteration order is the explicit parameter `ord` applied to the key list (keys in
    first-insertion order).  All other maps are only looked up or have their keys sorted.
  * `slices.SortFunc` is modelled by the stable merge sort.  Go's pdqsort is stable up to 12
    elements (insertion sort) and unspecified among equal keys beyond; equal keys occur only for
    duplicate input quads (final sort) and for tied N-degree hashes (step 5.3), where the relative
    order of tied entries already depends on `ord`.
  * `context.Context` cancellation is outside the model (never cancelled).
  * `maxRecursionDepth` is fuel (`depth + 1` nested calls are allowed: Go tests `< 0`),
    `maxPermutations` a per-group counter; exceeding them yields `.limit` exactly where Go returns
    `ErrMaxRecursionDepthReached` / `ErrMaxIterationsReached`.
  * A literal in subject/graph position or a non-IRI predicate makes Go `panic`: `.panic`.
  * The canonical issuer names identifiers through `blanknodes.NewInt64StringProvider("c14n%d")`
    (`Int64SP`); temporary issuers have no provider and issue `prefix + len(issuedOrder)`.
    A custom `SetBlankNodeStringProvider` is outside the model.
-/
import RdfModel.Model.NQuads
import RdfModel.Model.StrOrd
namespace RdfModel.Rdfcanon
open RdfModel

variable {β : Type} [DecidableEq β]

/-! ## Outcomes -/

inductive Limit where
  | iterations   -- ErrMaxIterationsReached
  | depth        -- ErrMaxRecursionDepthReached
  deriving Repr, DecidableEq

inductive Res (α : Type) where
  | ok (a : α)
  | limit (l : Limit)
  | panic
  deriving Repr

/-- `canonicalize_config.go: newCanonicalizer` -/
structure Limits where
  maxPermutations : Nat
  maxRecursionDepth : Nat
  deriving Repr, DecidableEq

def defaultLimits : Limits := ⟨4096, 512⟩

/-! ## canonicalize_config.go: `CanonicalizeConfig.apply` folded over the option list of `Canonicalize` -/

/-- One `CanonicalizeOption` value: which fields it sets (`SetHashFunc`, `SetBlankNodeStringProvider`,
    `SetBuildCanonicalQuad`). Hash functions and providers are named by numbers. -/
structure CanonOpt where
  hash : Option Nat
  prov : Option Nat
  build : Option Bool
  deriving Repr, DecidableEq

/-- `apply`: a field is overwritten only when the option sets it (`!= nil`). -/
def CanonOpt.apply (o d : CanonOpt) : CanonOpt :=
  { hash := match o.hash with | some h => some h | none => d.hash
    prov := match o.prov with | some p => some p | none => d.prov
    build := match o.build with | some b => some b | none => d.build }

/-- `Canonicalize(ctx, input, options...)`: `c := CanonicalizeConfig{}; for opt { opt.apply(&c) }`. -/
def compileOpts (opts : List CanonOpt) : CanonOpt := opts.foldl (fun d o => o.apply d) ⟨none, none, none⟩

/-- `newCanonicalizer`: the effective hash (`none` = the default `sha256.New`), blank node string provider
    (`none` = the default `c14n%d` int64 provider) and build-canonical-quad flag (default off). -/
def effectiveHash (opts : List CanonOpt) : Option Nat := (compileOpts opts).hash
def effectiveProv (opts : List CanonOpt) : Option Nat := (compileOpts opts).prov
def effectiveBuild (opts : List CanonOpt) : Bool := (compileOpts opts).build.getD false

/-! ## canonicalize.go: identifierIssuer, and the int64 string provider behind the canonical issuer -/

/-- `blanknodes.int64StringProvider`: `next` is `value + 1`. -/
structure Int64SP (β : Type) where
  pfx : Str
  next : Nat
  known : List (β × Nat)

def Int64SP.get (sp : Int64SP β) (b : β) : Str × Int64SP β :=
  match assoc sp.known b with
  | some i => (sp.pfx ++ decimal i, sp)
  | none => (sp.pfx ++ decimal sp.next, { sp with next := sp.next + 1, known := (b, sp.next) :: sp.known })

structure Issuer (β : Type) where
  stringer : Option (Int64SP β)
  pfx : Str
  known : List (β × Str)     -- knownIdentifiers
  order : List β             -- issuedOrder

/-- `GetBlankNodeStringIfKnown` -/
def Issuer.getIfKnown (i : Issuer β) (b : β) : Option Str := assoc i.known b

/-- `GetBlankNodeString` -/
def Issuer.get (i : Issuer β) (b : β) : Str × Issuer β :=
  match i.stringer with
  | none =>
    match assoc i.known b with
    | some id => (id, i)
    | none =>
      let id := i.pfx ++ decimal i.order.length
      (id, { i with order := i.order ++ [b], known := (b, id) :: i.known })
  | some sp =>
    let r := sp.get b
    match assoc i.known b with
    | some _ => (r.1, { i with stringer := some r.2 })
    | none => (r.1, { i with stringer := some r.2, order := i.order ++ [b], known := (b, r.1) :: i.known })

/-- `Clone`: maps and slices are copied, so the clone is the value; the provider pointer is
    shared, which only the canonical issuer has and which is never cloned. -/
def Issuer.clone (i : Issuer β) : Issuer β := i

def c14nPrefix : Str := [0x63, 0x31, 0x34, 0x6e]   -- "c14n" (the prefix of Go's format "c14n%d")
def tempPrefix : Str := [0x62]                     -- "b"
def selfLabel : Str := [0x5f, 0x3a, 0x61]          -- "_:a"
def otherLabel : Str := [0x5f, 0x3a, 0x7a]         -- "_:z"

def newCanonicalIssuer : Issuer β := ⟨some ⟨c14nPrefix, 0, []⟩, [], [], []⟩
def newTemporaryIssuer : Issuer β := ⟨none, tempPrefix, [], []⟩
/-- Go's zero value `identifierIssuer{}` (`var chosenIssuer identifierIssuer`). -/
def zeroIssuer : Issuer β := ⟨none, [], [], []⟩

/-! ## canonicalizationQuad and step 2 of algorithm_canonicalization.go -/

structure CQuad (β : Type) where
  orig : Quad β
  idx : Nat
  sEnc : Str
  sBn : Option β
  pEnc : Str
  oEnc : Str
  oBn : Option β
  gEnc : Str
  gBn : Option β

structure State (β : Type) where
  b2q : List (β × List (CQuad β))     -- blankNodeToQuads
  canon : Issuer β                    -- canonicalIssuer
  all : List (CQuad β)                -- allQuads

/-- The body of the input loop for one quad; `none` = Go panics. -/
def ingestQuad (T : NQ.Tables) (q : Quad β) (idx : Nat) : Option (CQuad β) := do
  let c : CQuad β := ⟨q, idx, [], none, [], [], none, [], none⟩
  let c ← (match q.s with
    | .bnode b => some { c with sBn := some b }
    | .iri v => some { c with sEnc := NQ.writeIRI T false v }
    | .lit .. => none)
  let c ← (match q.p with
    | .iri v => some { c with pEnc := NQ.writeIRI T false v }
    | _ => none)
  let c := (match q.o with
    | .bnode b => { c with oBn := some b }
    | .iri v => { c with oEnc := NQ.writeIRI T false v }
    | .lit l d t => { c with oEnc := NQ.writeLiteral T false l d t })
  match q.g with
  | none => some c
  | some (.bnode b) => some { c with gBn := some b }
  | some (.iri v) => some { c with gEnc := NQ.writeIRI T false v }
  | some (.lit ..) => none

/-- The `append`s to `blankNodeToQuads` for one quad: subject, object, graph name. -/
def indexQuad (m : List (β × List (CQuad β))) (c : CQuad β) : List (β × List (CQuad β)) :=
  let m := match c.sBn with | some b => addToMap m b c | none => m
  let m := match c.oBn with | some b => addToMap m b c | none => m
  match c.gBn with | some b => addToMap m b c | none => m

def ingest (T : NQ.Tables) : List (Quad β) → Nat → State β → Res (State β)
  | [], _, st => .ok st
  | q :: rest, idx, st =>
    match ingestQuad T q idx with
    | none => .panic
    | some c => ingest T rest (idx + 1) { st with b2q := indexQuad st.b2q c, all := st.all ++ [c] }

/-! ## algorithm_hash_first_degree_quads.go -/

def sp : Str := [0x20]
def eol : Str := [0x20, 0x2e, 0x0a]

def firstDegreeLine (input : β) (q : CQuad β) : Str :=
  (if !q.sEnc.isEmpty then q.sEnc else if q.sBn = some input then selfLabel else otherLabel) ++
  sp ++ q.pEnc ++ sp ++
  (if !q.oEnc.isEmpty then q.oEnc else if q.oBn = some input then selfLabel else otherLabel) ++
  (if !q.gEnc.isEmpty then sp ++ q.gEnc
   else if q.gBn = none then []
   else if q.gBn = some input then sp ++ selfLabel else sp ++ otherLabel) ++ eol

def hashFirstDegree (H : Str → Str) (b2q : List (β × List (CQuad β))) (input : β) : Str :=
  H (sortStr ((getList b2q input).map (firstDegreeLine input))).flatten

/-! ## algorithm_hash_related_blank_node.go (after D8) -/

def hashRelated (H : Str → Str) (st : State β) (issuer : Issuer β) (related : β) (q : CQuad β)
    (position : Str) : Str :=
  let input := position
  let input := if position ≠ [0x67] then input ++ q.pEnc else input
  let input :=
    match st.canon.getIfKnown related with
    | some id => input ++ [0x5f, 0x3a] ++ id
    | none =>
      match issuer.getIfKnown related with
      | some id => input ++ [0x5f, 0x3a] ++ id
      | none => input ++ hashFirstDegree H st.b2q related
  H input

/-! ## github.com/cespare/permute: non-recursive Heap's algorithm, in place -/

def swapAt (l : List β) (i j : Nat) : List β :=
  match l[i]?, l[j]? with
  | some a, some b => (l.set i b).set j a
  | _, _ => l

/-- The `for` loop of `Permute()` after the first call: `fuel` bounds the scan over `i`. Returns the
    next arrangement and counter state, or `none` when finished. -/
def heapNext : Nat → List β → List Nat → Nat → Option (List β × List Nat)
  | 0, _, _, _ => none
  | fuel + 1, arr, c, i =>
    if i ≥ arr.length then none
    else
      let ci := c.getD i 0
      if ci < i then
        let k := if i % 2 = 0 then 0 else ci
        some (swapAt arr k i, c.set i (ci + 1))      -- p.i = 0 for the next call
      else heapNext fuel arr (c.set i 0) (i + 1)

/-- The first `n` arrangements produced by successive `Permute()` calls (the first is the slice as
    it stands). -/
def heapPermsFrom : Nat → List β → List Nat → List (List β)
  | 0, _, _ => []
  | n + 1, arr, c =>
    arr :: (match heapNext (arr.length + 1) arr c 0 with
      | none => []
      | some (arr', c') => heapPermsFrom n arr' c')

def heapPerms (n : Nat) (l : List β) : List (List β) :=
  heapPermsFrom n l (List.replicate l.length 0)

/-! ## algorithm_hash_n_degree_quads.go -/

structure NDResult (β : Type) where
  hash : Str
  issuer : Issuer β

/-- `len(chosenPath) > 0 && len(path) >= len(chosenPath) && strings.Compare(path, chosenPath) > 0` -/
def prune (chosen path : Str) : Bool :=
  decide (chosen.length > 0) && decide (path.length ≥ chosen.length) && strLt chosen path

/-- The three `if quad.XBlankNodeIdentifier != nil && != a.identifier { eachComponent(…) }`. -/
def relatedOf (identifier : β) (q : CQuad β) : List (β × Str) :=
  let f := fun (bn : Option β) (pos : Str) =>
    match bn with
    | some b => if b ≠ identifier then [(b, pos)] else []
    | none => []
  f q.sBn [0x73] ++ f q.oBn [0x6f] ++ f q.gBn [0x67]

def hashToRelated (H : Str → Str) (st : State β) (issuer : Issuer β) (identifier : β) :
    List (Str × List β) :=
  (getList st.b2q identifier).foldl (fun h q =>
    (relatedOf identifier q).foldl (fun h cp =>
      addToMap h (hashRelated H st issuer cp.1 q cp.2) cp.1) h) []

/-- `for _, related := range p` (5.4.4). `none` = `goto PERMUTATION_NEXT`. -/
def pathLoop (canon : Issuer β) (chosen : Str) :
    List β → Str × Issuer β × List β → Option (Str × Issuer β × List β)
  | [], st => some st
  | related :: rest, (path, ic, recl) =>
    let st : Str × Issuer β × List β :=
      match canon.getIfKnown related with
      | some id => (path ++ [0x5f, 0x3a] ++ id, ic, recl)
      | none =>
        let recl := if (ic.getIfKnown related).isNone then recl ++ [related] else recl
        let r := ic.get related
        (path ++ [0x5f, 0x3a] ++ r.1, r.2, recl)
    if prune chosen st.1 then none else pathLoop canon chosen rest st

inductive Try (α : Type) where
  | err (l : Limit)
  | skip
  | ok (a : α)

/-- `for _, related := range recursionList` (5.4.5). -/
def recLoop (rec : β → Issuer β → Res (NDResult β)) (chosen : Str) :
    List β → Str → Issuer β → Try (Str × Issuer β)
  | [], path, ic => .ok (path, ic)
  | related :: rest, path, ic =>
    match rec related ic with
    | .limit l => .err l
    | .panic => .err .depth     -- unreachable: the recursive call never panics
    | .ok result =>
      let path := path ++ [0x5f, 0x3a] ++ (ic.get related).1
      let path := path ++ [0x3c] ++ result.hash ++ [0x3e]
      let ic := result.issuer
      if prune chosen path then .skip else recLoop rec chosen rest path ic

/-- `for blankNodeListPermutations.Permute() { … }`; `budget` = `maxPermutations` minus the
    permutations already started. -/
def permLoop (rec : β → Issuer β → Res (NDResult β)) (canon issuer : Issuer β) :
    List (List β) → Nat → Str → Issuer β → Res (Str × Issuer β)
  | [], _, chosenPath, chosenIssuer => .ok (chosenPath, chosenIssuer)
  | _ :: _, 0, _, _ => .limit .iterations
  | p :: ps, budget + 1, chosenPath, chosenIssuer =>
    match pathLoop canon chosenPath p ([], issuer.clone, []) with
    | none => permLoop rec canon issuer ps budget chosenPath chosenIssuer
    | some (path, ic, recl) =>
      match recLoop rec chosenPath recl path ic with
      | .err l => .limit l
      | .skip => permLoop rec canon issuer ps budget chosenPath chosenIssuer
      | .ok (path, ic) =>
        if chosenPath.length = 0 || strLt path chosenPath
        then permLoop rec canon issuer ps budget path ic
        else permLoop rec canon issuer ps budget chosenPath chosenIssuer

/-- `for _, relatedHash := range orderedRelatedHashes`. -/
def groupLoop (rec : β → Issuer β → Res (NDResult β)) (canon : Issuer β) (maxPerm : Nat) :
    List (Str × List β) → Str → Issuer β → Res (Str × Issuer β)
  | [], data, issuer => .ok (data, issuer)
  | (relatedHash, blankNodeList) :: rest, data, issuer =>
    match permLoop rec canon issuer (heapPerms (maxPerm + 1) blankNodeList) maxPerm [] zeroIssuer with
    | .limit l => .limit l
    | .panic => .panic
    | .ok (chosenPath, chosenIssuer) =>
      groupLoop rec canon maxPerm rest (data ++ relatedHash ++ chosenPath) chosenIssuer

/-- `algorithmHashNDegreeQuads.Call`; `fuel = maxRecursionDepth + 1` at the outermost call. -/
def hashNDegree (H : Str → Str) (st : State β) (maxPerm : Nat) :
    Nat → β → Issuer β → Res (NDResult β)
  | 0, _, _ => .limit .depth
  | fuel + 1, identifier, issuer =>
    let h := hashToRelated H st issuer identifier
    match groupLoop (hashNDegree H st maxPerm fuel) st.canon maxPerm (sortByKey h) [] issuer with
    | .limit l => .limit l
    | .panic => .panic
    | .ok (data, issuer) => .ok ⟨H data, issuer⟩

/-! ## algorithm_canonicalization.go steps 3–7 -/

/-- Step 5.2 for one identifier list. -/
def hashPathList (H : Str → Str) (st : State β) (lim : Limits) :
    List β → Res (List (NDResult β))
  | [] => .ok []
  | n :: rest =>
    match st.canon.getIfKnown n with
    | some _ => hashPathList H st lim rest
    | none =>
      let temporary := (newTemporaryIssuer.get n).2
      match hashNDegree H st lim.maxPermutations (lim.maxRecursionDepth + 1) n temporary with
      | .limit l => .limit l
      | .panic => .panic
      | .ok r =>
        match hashPathList H st lim rest with
        | .ok rs => .ok (r :: rs)
        | e => e

def issueAll (canon : Issuer β) (existing : List β) : Issuer β :=
  existing.foldl (fun c e => (c.get e).2) canon

/-- Step 5 over the remaining hashes (sorted). -/
def step5 (H : Str → Str) (lim : Limits) : List (Str × List β) → State β → Res (State β)
  | [], st => .ok st
  | (_, identifierList) :: rest, st =>
    match hashPathList H st lim identifierList with
    | .limit l => .limit l
    | .panic => .panic
    | .ok hpl =>
      let sorted := hpl.mergeSort (fun a b => strLe a.hash b.hash)
      let canon := sorted.foldl (fun c r => issueAll c r.issuer.order) st.canon
      step5 H lim rest { st with canon := canon }

/-- One entry of `Canonicalization.nquads`. -/
structure Line where
  idx : Nat
  encoded : Str
  deriving Repr, DecidableEq

/-- Step 7, one quad: returns the line and the issuer (each `GetBlankNodeString` goes through
    the issuer). -/
def encodeLine (canon : Issuer β) (q : CQuad β) : Line × Issuer β :=
  let bn := fun (c : Issuer β) (b : Option β) =>
    match b with
    | some b => let r := c.get b; ([0x5f, 0x3a] ++ r.1, r.2)
    | none => ([0x5f, 0x3a], c)   -- unreachable: an empty encoding comes with an identifier
  let (s, canon) := if !q.sEnc.isEmpty then (q.sEnc, canon) else bn canon q.sBn
  let (o, canon) := if !q.oEnc.isEmpty then (q.oEnc, canon) else bn canon q.oBn
  let (g, canon) :=
    if !q.gEnc.isEmpty then (sp ++ q.gEnc, canon)
    else match q.gBn with
      | some b => let r := canon.get b; (sp ++ [0x5f, 0x3a] ++ r.1, r.2)
      | none => ([], canon)
  (⟨q.idx, s ++ sp ++ q.pEnc ++ sp ++ o ++ g ++ eol⟩, canon)

def encodeAll : List (CQuad β) → Issuer β → List Line × Issuer β
  | [], canon => ([], canon)
  | q :: rest, canon =>
    let r := encodeLine canon q
    let rs := encodeAll rest r.2
    (r.1 :: rs.1, rs.2)

/-- `*Canonicalization`: the sorted lines and the provider behind `GetBlankNodeIdentifier`. -/
structure Out (β : Type) where
  lines : List Line
  canon : Issuer β

/-- `Canonicalization.WriteTo` -/
def Out.bytes (o : Out β) : Str := (o.lines.map (·.encoded)).flatten

/-- `Canonicalization.GetBlankNodeIdentifier` for a blank node of the input. -/
def Out.identifier (o : Out β) (b : β) : Str := (o.canon.get b).1

/-- The issued identifiers map of the canonical issuer, in issue order. -/
def Out.issued (o : Out β) : List (β × Str) :=
  o.canon.order.map (fun b => (b, (assoc o.canon.known b).getD []))

/-- `Canonicalize` with the default configuration and hash `H`. -/
def canon (T : NQ.Tables) (H : Str → Str) (lim : Limits) (ord : List β → List β)
    (qs : List (Quad β)) : Res (Out β) :=
  match ingest T qs 0 ⟨[], newCanonicalIssuer, []⟩ with
  | .limit l => .limit l
  | .panic => .panic
  | .ok st =>
    -- step 3
    let h2b : List (Str × List β) :=
      (ord (st.b2q.map (·.1))).foldl (fun m n => addToMap m (hashFirstDegree H st.b2q n) n) []
    -- step 4
    let sorted := sortByKey h2b
    let canon := sorted.foldl (fun c e => if e.2.length > 1 then c else
        match e.2 with
        | n :: _ => (c.get n).2
        | [] => c) st.canon
    let remaining := sorted.filter (fun e => e.2.length > 1)
    -- step 5
    match step5 H lim remaining { st with canon := canon } with
    | .limit l => .limit l
    | .panic => .panic
    | .ok st =>
      -- step 7
      let r := encodeAll st.all st.canon
      .ok ⟨r.1.mergeSort (fun a b => strLe a.encoded b.encoded), r.2⟩

end RdfModel.Rdfcanon
