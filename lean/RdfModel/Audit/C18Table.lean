/-
  Audit for C18 (label tables insert-only): axioms used by every theorem of
  Props/C18Table.lean (expected: a subset of {propext, Classical.choice, Quot.sound}).
-/
import RdfModel.Props.C18Table
open RdfModel

#print axioms RdfModel.C18.label_tables_insert_only
#print axioms RdfModel.C18.model_uuid_table_grows
