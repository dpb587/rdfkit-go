/-
  Audit for C03: axioms used by every property theorem of Props/C03.lean and Props/C03Tables.lean
  (expected: a subset of {propext, Classical.choice, Quot.sound}), and the output-shape theorems
  instantiated at the regenerated tables on the non-vacuity witness.
-/
import RdfModel.Props.C03
import RdfModel.Props.C03Tables
import RdfModel.Props.C03Relabel
import RdfModel.Props.C04Facts
open RdfModel RdfModel.C03 RdfModel.C04

#print axioms RdfModel.C03.shape_of_result
#print axioms RdfModel.C03.issued_map_is_renaming
#print axioms RdfModel.C03.line_is_encoded_quad
#print axioms RdfModel.C03.original_index_correct
#print axioms RdfModel.C03.lines_sorted
#print axioms RdfModel.C03.lines_sorted_unique
#print axioms RdfModel.C03.parses_back
#print axioms RdfModel.C03.equal_output_isomorphic
#print axioms RdfModel.C03.first_degree_perm
#print axioms RdfModel.C03.first_degree_rename
#print axioms RdfModel.C03.first_degree_model
#print axioms RdfModel.C03.canon_invariant_simple
#print axioms RdfModel.C03.limit_never_wrong
#print axioms RdfModel.C03.spec_equivariant
#print axioms RdfModel.C03.heapPerms_renamed
#print axioms RdfModel.C03.canon_invariant_relabel
#print axioms RdfModel.C03.canon_invariant_of_order_invariant
#print axioms RdfModel.C03.canon_invariant_unique_partial
#print axioms RdfModel.C03.uniqueHash_of_allDistinct
#print axioms RdfModel.C03.gen_nquads_label
#print axioms RdfModel.C04.facts_loop_control
#print axioms RdfModel.C03.Witness.wf1
#print axioms RdfModel.C03.Witness.two_allDistinct

/-- On the witness dataset with the regenerated tables: any result is strictly sorted and parses back. -/
theorem RdfModel.C03.Witness.sorted_and_parses (H : Str → Str) (out : Rdfcanon.Out Nat)
    (h : Rdfcanon.canon Gen.nquads H Rdfcanon.defaultLimits id C04.Witness.quads = .ok out) :
    (out.lines.map (·.encoded)).Pairwise (fun a b => strLt a b = true) ∧
    ∃ qs' : List (Quad Nat), qs'.Perm C04.Witness.quads ∧
      NQ.run Gen.nquads (fun _ => true) .eof true out.bytes
        = (qs'.map (Quad.map (Proofs.C03.labelOf out)), .clean) := by
  have hs := shape_of_result Gen.nquads gen_nquads_canon H Rdfcanon.defaultLimits id C04.Witness.ordOK_id
    C04.Witness.quads C04.Witness.wf out h
  exact ⟨lines_sorted_unique Gen.nquads C01.gen_nquads_ok gen_nquads_canon gen_nquads_label _ _ out hs
      C04.Witness.wf Witness.wf1 Witness.nodup,
    parses_back Gen.nquads C01.gen_nquads_ok gen_nquads_canon gen_nquads_label _ _ out hs
      C04.Witness.wf Witness.wf1⟩

/-- The simple-case invariance on the two-node witness (identity "hash"): reversing Go's iteration
    order and swapping the two labels does not change the bytes, and a result exists. -/
theorem RdfModel.C03.Witness.two_invariant :
    ∃ out out', Rdfcanon.canon Gen.nquads (fun s => s) Rdfcanon.defaultLimits id Witness.two = .ok out ∧
      Rdfcanon.canon Gen.nquads (fun s => s) ⟨1, 0⟩ List.reverse
        (Witness.two.map (Quad.map (fun n => 1 - n))) = .ok out' ∧ out.bytes = out'.bytes := by
  -- the relabelling need only be injective: use an injective extension of n ↦ 1 - n on {0, 1}
  let σ : Nat → Nat := fun n => if n ≤ 1 then 1 - n else n
  have hσ : Function.Injective σ := by
    intro a b hab
    simp only [σ] at hab
    split at hab <;> split at hab <;> omega
  have hmap : Witness.two.map (Quad.map (fun n => 1 - n)) = Witness.two.map (Quad.map σ) := by
    simp [Witness.two, Quad.map, Term.map, σ, C04.Witness.p]
  rw [hmap]
  obtain ⟨out, out', h1, h2, h3, _⟩ := canon_invariant_simple Gen.nquads gen_nquads_canon (fun s => s) σ hσ
    Witness.two (Witness.two.map (Quad.map σ)) (List.Perm.refl _)
    (by intro q hq; simp only [Witness.two, List.mem_singleton] at hq; subst hq
        exact ⟨trivial, C04.Witness.iri_p, trivial, by intro g hg; cases hg⟩)
    Witness.two_allDistinct Rdfcanon.defaultLimits ⟨1, 0⟩ id List.reverse C04.Witness.ordOK_id
    C04.Witness.ordOK_reverse
  exact ⟨out, out', h1, h2, h3⟩

#print axioms RdfModel.C03.Witness.sorted_and_parses
#print axioms RdfModel.C03.Witness.two_invariant
