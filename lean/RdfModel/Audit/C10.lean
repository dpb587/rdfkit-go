/-
  Audit for C10: axioms used by every theorem of Props/C10.lean (expected: a subset of
  {propext, Classical.choice, Quot.sound}), and the theorems instantiated at the witness.
-/
import RdfModel.Props.C10
import RdfModel.Props.C10Facts
import RdfModel.Proofs.C10Digits
open RdfModel RdfModel.Desc RdfModel.JL RdfModel.JLEnc RdfModel.C10

#print axioms RdfModel.C10.write_denotes
#print axioms RdfModel.C10.writeFlat_denotes
#print axioms RdfModel.C10.forest_certificate
#print axioms RdfModel.C10.encoder_roundtrip_partial
#print axioms RdfModel.C10.usedPrefixes_nodup
#print axioms RdfModel.C10.encoder_context_read
#print axioms RdfModel.C10.encoder_iri_roundtrip
#print axioms RdfModel.C10.encoder_doc_context
#print axioms RdfModel.C10.encoder_statement_read
#print axioms RdfModel.C10.encCert_of_natural_holds
#print axioms RdfModel.C10.encoder_forest_exists
#print axioms RdfModel.C10.encoder_document_read
#print axioms RdfModel.C10.encoder_roundtrip_natural2_partial
#print axioms RdfModel.C10.gen_keywords
#print axioms RdfModel.C10.gen_no_network_imports
#print axioms RdfModel.C10.gen_default_loader_refuses
#print axioms RdfModel.C10.gen_iri_rejected
#print axioms RdfModel.C10.gen_double_condition
#print axioms RdfModel.C10.gen_encoder_constants
#print axioms RdfModel.C10.Witness.wf
#print axioms RdfModel.C10.Witness.validated
#print axioms RdfModel.C10.Witness.cert
#print axioms RdfModel.C10.Witness.natural
#print axioms RdfModel.C10.Witness.natural2

theorem RdfModel.C10.Witness.name_injective : Function.Injective Witness.name :=
  Proofs.C10.natDigits_injective

theorem RdfModel.C10.Witness.name_nonempty : ∀ n, Witness.name n ≠ [] :=
  Proofs.C10.natDigits_ne

/-- the fragment theorem at the witness -/
theorem RdfModel.C10.Witness.denotes :
    ∃ out, toRdf true none (write Witness.name Witness.d Witness.ch) = some out ∧ Spec.IsoQ out Witness.d :=
  write_denotes Witness.name Witness.name_injective Witness.name_nonempty Witness.d Witness.wf Witness.ch

/-- the encoder theorem at the witness -/
theorem RdfModel.C10.Witness.roundtrip :
    ∃ doc out, encode Witness.cfg Witness.d0 (defaultOrd Witness.d0) (defaultOrd Witness.d0) = some doc ∧ toRdf true none doc = some out ∧
      Spec.IsoQ out Witness.d0 :=
  encoder_roundtrip_partial true none Witness.cfg Witness.name_injective Witness.d0 _ _ Witness.cert

#print axioms RdfModel.C10.Witness.denotes
#print axioms RdfModel.C10.Witness.roundtrip

/-- the natural-hypotheses theorem at the witness (non-vacuity of `encoder_roundtrip_natural2_partial`) -/
theorem RdfModel.C10.Witness.roundtrip_natural2 :
    ∃ doc out, encode Witness.cfg Witness.d0 (defaultOrd Witness.d0) (defaultOrd Witness.d0) = some doc ∧
      toRdf false (some (asc "http://other.example/base")) doc = some out ∧ Spec.IsoQ out Witness.d0 :=
  encoder_roundtrip_natural2_partial false _ Witness.cfg Witness.name_injective Witness.name_nonempty Witness.d0
    (defaultOrd Witness.d0) (defaultOrd Witness.d0) (fun _ h => h) (fun _ h => h) Witness.natural.1 Witness.natural.2.2.1
    Witness.natural2.2.1 Witness.natural2.2.2.1 Witness.natural2.2.2.2.1
#print axioms RdfModel.C10.Witness.roundtrip_natural2

/-- `encoder_document_read` at the witness (non-vacuity of its hypotheses) -/
theorem RdfModel.C10.Witness.document_read :
    ∃ doc F, encode Witness.cfg Witness.d0 (defaultOrd Witness.d0) (defaultOrd Witness.d0) = some doc ∧
      encForest Witness.cfg Witness.d0 (defaultOrd Witness.d0) (defaultOrd Witness.d0) = some F ∧
      toRdf true none doc = some (denForest Witness.cfg.label F (encStart F)).1 :=
  encoder_document_read true none Witness.cfg Witness.d0 (defaultOrd Witness.d0) (defaultOrd Witness.d0)
    Witness.name_nonempty (fun _ h => h) (fun _ h => h) Witness.natural.1 Witness.natural.2.2.1
    Witness.natural2.2.1 Witness.natural2.2.2.1
#print axioms RdfModel.C10.Witness.document_read
