/-
  Audit for C05/C06/C15 (N-Triples / N-Quads decoders): axioms used by every theorem of
  Props/C05NQ.lean (expected: a subset of {propext, Classical.choice, Quot.sound}) and non-vacuity
  examples on the regenerated tables.
-/
import RdfModel.Props.C05NQ
import RdfModel.Gen.NQTables
open RdfModel RdfModel.NQ

#print axioms RdfModel.C05NQ.run_fuel_suffices
#print axioms RdfModel.C05NQ.next_shrinks
#print axioms RdfModel.C05NQ.latch
#print axioms RdfModel.C05NQ.next_true_has_current
#print axioms RdfModel.C05NQ.run_emits_wf
#print axioms RdfModel.C05NQ.ioerr_reported
#print axioms RdfModel.C05NQ.done_only_on_blank
#print axioms RdfModel.C05NQ.next_extend
#print axioms RdfModel.C05NQ.prefix_monotone

namespace RdfModel.C05NQ.Witness

/-- Two statements (tagged literal + graph name; blank-node subject), a comment and a blank line. -/
def doc : List Nat :=
  asc "# head\n<http://a/s> <http://a/p> \"x\\n\"@en-US <http://a/g> .\n\n_:b1 <http://a/p> <http://a/o> . # tail\n"

/-- The same document cut inside the second statement (after the predicate). -/
def truncated : List Nat :=
  asc "# head\n<http://a/s> <http://a/p> \"x\\n\"@en-US <http://a/g> .\n\n_:b1 <http://a/p> "

/-- A complete document decodes to its two quads and a clean end. -/
example : run Gen.nquads (fun _ => true) .eof true doc =
    ([⟨.iri (asc "http://a/s"), .iri (asc "http://a/p"), .lit (asc "x\n") rdfLangString (some (asc "en-US")),
        some (.iri (asc "http://a/g"))⟩,
      ⟨.bnode (asc "b1"), .iri (asc "http://a/p"), .iri (asc "http://a/o"), none⟩], .clean) := by
  decide +kernel

/-- A truncated document yields the complete first statement and then an EOF *error*, not a clean end. -/
example : run Gen.nquads (fun _ => true) .eof true truncated =
    ([⟨.iri (asc "http://a/s"), .iri (asc "http://a/p"), .lit (asc "x\n") rdfLangString (some (asc "en-US")),
        some (.iri (asc "http://a/g"))⟩], .error .eof) := by
  decide +kernel

/-- … in accordance with `prefix_monotone` (`truncated` is a prefix of `doc`). -/
example : truncated <+: doc := by decide +kernel

/-- With a reader error at the end, the same truncated input reports the reader's error. -/
example : (run Gen.nquads (fun _ => true) .ioerr true truncated).2 = .error .io := by decide +kernel

end RdfModel.C05NQ.Witness
