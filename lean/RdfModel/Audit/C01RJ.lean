/-
  Audit for the RDF/JSON leg of C01/C05/C06: axioms used by every theorem of Props/C01RJ.lean
  (expected: a subset of {propext, Classical.choice, Quot.sound}), and the round trip instantiated
  on the non-vacuity witness for both versions of the decoder.
-/
import RdfModel.Props.C01RJ
open RdfModel RdfModel.RJ RdfModel.C01RJ
open scoped List

#print axioms RdfModel.C01RJ.rdfjson_roundtrip
#print axioms RdfModel.C01RJ.rdfjson_roundtrip_run
#print axioms RdfModel.C01RJ.relabel_injective
#print axioms RdfModel.C01RJ.rdfjson_output_grammatical
#print axioms RdfModel.C01RJ.rj_no_panic
#print axioms RdfModel.C01RJ.rj_run_no_panic
#print axioms RdfModel.C01RJ.rj_no_panic_legacy
#print axioms RdfModel.C01RJ.rj_legacy_panics
#print axioms RdfModel.C01RJ.rj_legacy_panics_member
#print axioms RdfModel.C01RJ.rj_idx_inv
#print axioms RdfModel.C01RJ.rj_latch
#print axioms RdfModel.C01RJ.rj_accessor
#print axioms RdfModel.C01RJ.rj_run_closed_form
#print axioms RdfModel.C01RJ.rj_emits_wf
#print axioms RdfModel.C01RJ.rj_yields_wf
#print axioms RdfModel.C01RJ.legacy_empty_lang
#print axioms RdfModel.C01RJ.legacy_langString_datatype
#print axioms RdfModel.C01RJ.legacy_empty_datatype
#print axioms RdfModel.C01RJ.legacy_dirLangString
#print axioms RdfModel.C01RJ.Witness.wf
#print axioms RdfModel.C01RJ.Witness.labels_nonempty

/-- The round trip on the witness dataset, for the repaired and the unrepaired decoder. -/
theorem RdfModel.C01RJ.Witness.roundtrip (v : Variant) :
    ∃ out, run v (encodeTokens (addAll Witness.label Witness.triples)) .eof = .finished out none ∧
      out ~ Witness.triples.map (relabel Witness.label) :=
  rdfjson_roundtrip_run v Witness.label Witness.labels_nonempty Witness.triples Witness.wf

#print axioms RdfModel.C01RJ.Witness.roundtrip

/-- …and evaluated: the statements come back grouped by subject key (`_:b0` < `_:b1` < `h:s`). -/
example : run .current (encodeTokens (addAll Witness.label Witness.triples)) .eof
    = .finished
        [ ⟨.bnode (.named [0x62, 0x30]), .iri [0x70], .bnode (.named [0x62, 0x31])⟩,
          ⟨.bnode (.named [0x62, 0x30]), .iri [0x70], .lit [] [0x68, 0x3a, 0x64] none⟩,
          ⟨.bnode (.named [0x62, 0x30]), .iri [0x70], .bnode (.named [0x62, 0x31])⟩,
          ⟨.bnode (.named [0x62, 0x31]), .iri [0x71], .lit [0x78] rdfLangString (some [0x65, 0x6e, 0x2d, 0x55, 0x53])⟩,
          ⟨.iri [0x68, 0x3a, 0x73], .iri [0x70], .lit [0x22, 0x5c, 0x0a, 0x85, 0x1F41B] xsdString none⟩ ] none := by
  decide +kernel
