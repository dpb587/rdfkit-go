/-
  Audit for C07 (decoder side): axioms of every theorem of Props/C07NQ.lean (expected: a subset of
  {propext, Classical.choice, Quot.sound}) and a non-vacuity example.
-/
import RdfModel.Props.C07NQ
open RdfModel RdfModel.NQ

#print axioms RdfModel.C07NQ.next_nt_quad
#print axioms RdfModel.C07NQ.next_nt_done
#print axioms RdfModel.C07NQ.nt_sub_nq
#print axioms RdfModel.C07NQ.nt_statements_default_graph
#print axioms RdfModel.C07NQ.run_congr
#print axioms RdfModel.C07NQ.gen_decoder_tables_equal
#print axioms RdfModel.C07NQ.gen_iriEsc_equal
#print axioms RdfModel.C07NQ.gen_tables_equal
#print axioms RdfModel.C07NQ.gen_writer_tables_differ
#print axioms RdfModel.C07NQ.nt_sub_nq_real

namespace RdfModel.C07NQ.Witness

/-- A two-statement N-Triples document (typed literal with a `\u` escape; blank nodes; a comment). -/
def doc : List Nat :=
  asc "<http://a/s> <http://a/p> \"\\u00e9x\"^^<http://a/dt> . # one\n_:b0 <http://a/p> _:b1 .\n"

def quads : List (Quad (List Nat)) :=
  [⟨.iri (asc "http://a/s"), .iri (asc "http://a/p"), .lit [0xe9, 0x78] (asc "http://a/dt") none, none⟩,
   ⟨.bnode (asc "b0"), .iri (asc "http://a/p"), .bnode (asc "b1"), none⟩]

/-- The hypothesis of `nt_sub_nq_real` holds for it … -/
theorem nt_accepts : run Gen.ntriples (fun _ => true) .eof false doc = (quads, .clean) := by decide +kernel

/-- … and (independently, by evaluation) so does the conclusion. -/
example : run Gen.nquads (fun _ => true) .eof true doc = (quads, .clean) := by decide +kernel

example : run Gen.nquads (fun _ => true) .eof true doc = (quads, .clean) :=
  nt_sub_nq_real _ _ _ _ nt_accepts

/-- The inclusion is strict: a graph label is an N-Triples syntax error and an N-Quads statement. -/
example :
    (run Gen.ntriples (fun _ => true) .eof false (asc "<http://a/s> <http://a/p> <http://a/o> <http://a/g> .\n")).2
      = .error .syntax ∧
    (run Gen.nquads (fun _ => true) .eof true (asc "<http://a/s> <http://a/p> <http://a/o> <http://a/g> .\n")).2
      = .clean := by decide +kernel

end RdfModel.C07NQ.Witness
