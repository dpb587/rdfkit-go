/-
  Audit for the token layer of C02 / C07 / C08 (Turtle, TriG): axioms used by every theorem of
  Props/C02Tokens.lean, Props/C02TokensTables.lean, Props/C07Tables.lean, Props/C07Tokens.lean,
  Props/C08Tokens.lean
  (expected: a subset of {propext, Classical.choice, Quot.sound}), plus the round-trip theorems
  instantiated at the regenerated tables.
-/
import RdfModel.Props.C02Tokens
import RdfModel.Props.C02TokensTables
import RdfModel.Props.C07Tables
import RdfModel.Props.C08Tokens
import RdfModel.Props.C07Tokens
open RdfModel RdfModel.Ttl RdfModel.C02

#print axioms RdfModel.C02.iriref_roundtrip
#print axioms RdfModel.C02.string_roundtrip
#print axioms RdfModel.C02.pname_roundtrip
#print axioms RdfModel.C02.shorthand_sound
#print axioms RdfModel.C02.shorthand_datatypes
#print axioms RdfModel.C02.langtag_roundtrip
#print axioms RdfModel.C02.bnode_roundtrip
#print axioms RdfModel.C02.produceIRIREF_no_panic
#print axioms RdfModel.C02.produceString_no_panic
#print axioms RdfModel.C02.producePNAME_NS_no_panic
#print axioms RdfModel.C02.producePrefixedName_no_panic
#print axioms RdfModel.C02.produceBlankNode_no_panic
#print axioms RdfModel.C02.produceLANGTAG_no_panic
#print axioms RdfModel.C02.produceNumericLiteral_no_panic
#print axioms RdfModel.C02.gen_turtle_ok
#print axioms RdfModel.C02.gen_trig_ok
#print axioms RdfModel.C02.gen_localEsc_consistent
#print axioms RdfModel.C02.d4_witness
#print axioms RdfModel.C02.d5_witness
#print axioms RdfModel.C02.d6_witness
#print axioms RdfModel.C07.tables_agree
#print axioms RdfModel.C07.hexDecode_same
#print axioms RdfModel.C07.nt_iriref_sub_ttl
#print axioms RdfModel.C07.nt_string_sub_ttl
#print axioms RdfModel.C08.decode_print_iriref
#print axioms RdfModel.C08.decode_print_string
#print axioms RdfModel.C08.decode_print_pname
#print axioms RdfModel.C08.decode_print_pname_ns
#print axioms RdfModel.C08.decode_print_numeric
#print axioms RdfModel.C08.decode_print_boolean
#print axioms RdfModel.C08.decode_print_langtag
#print axioms RdfModel.C08.decode_print_bnode

/-- The prefixed-name round trip at the regenerated tables of both packages, on a local name that
    exercises every escaping rule (leading '-', inner '.', '%', ':', '~', final '.'). -/
theorem RdfModel.C02.Witness.pname (e : End) :
    ∃ out, format_PN_LOCAL Gen.turtle (asc "-a.b%c:~d.") = some out ∧
      producePrefixedName Gen.trig e (asc "ex" ++ 0x3a :: (out ++ [0x20, 0x2e])) =
        .ok (asc "ex", asc "-a.b%c:~d.") [0x20, 0x2e] := by
  obtain ⟨out, h1, h2⟩ := pname_roundtrip Gen.trig gen_trig_ok e (asc "ex") (asc "-a.b%c:~d.") [0x20, 0x2e]
    (by decide) (fun c hc => (isScalarB_iff c).1 (List.all_eq_true.1 (by decide : (asc "ex").all isScalarB = true) c hc))
    (fun c hc => (isScalarB_iff c).1 (List.all_eq_true.1 (by decide : (asc "-a.b%c:~d.").all isScalarB = true) c hc))
    (by decide) (by simp only [LocalStop]; decide)
  exact ⟨out, h1, h2⟩

#print axioms RdfModel.C02.Witness.pname
