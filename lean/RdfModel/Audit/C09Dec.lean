/-
  Audit for the RDF/XML decoder model: axioms used by every theorem of Props/C09Dec.lean
  (expected: a subset of {propext, Classical.choice, Quot.sound}).
-/
import RdfModel.Props.C09Dec
open RdfModel RdfModel.RXD RdfModel.C09Dec

#print axioms RdfModel.C09Dec.rxd_no_panic
#print axioms RdfModel.C09Dec.rxd_no_panic_needs_hyp
#print axioms RdfModel.C09Dec.rxd_emits_wf
#print axioms RdfModel.C09Dec.rxd_error_hides_statements
#print axioms RdfModel.C09Dec.rxd_decode_render_leaf
#print axioms RdfModel.C09Dec.rxd_refines_denote_partial
#print axioms RdfModel.C09Dec.rxd_decode_render_striped
#print axioms RdfModel.C09Dec.rxd_refines_denote_striped_partial
#print axioms RdfModel.C09Dec.rxd_decode_write_flat
#print axioms RdfModel.C09Dec.rxd_decode_write_partial
#print axioms RdfModel.C09Dec.rxd_accepts_more
#print axioms RdfModel.C09Dec.emptyRefNoFrag_rfc3986
#print axioms RdfModel.C09Dec.rxd_decode_write_flat_rfc3986
#print axioms RdfModel.C09Dec.Witness.rxd_refines_denote_witness
