/-
  Audit for C18 (Turtle / RDF-JSON targets and the option plumbing): axioms used by every
  theorem of Props/C18Targets.lean (expected: a subset of {propext, Classical.choice, Quot.sound}).
-/
import RdfModel.Props.C18Targets
import RdfModel.Props.C18TargetsEx
open RdfModel

#print axioms RdfModel.C18.cli_param_facts
#print axioms RdfModel.C18.cli_flag_facts
#print axioms RdfModel.C18.ttl_options_shape
#print axioms RdfModel.C18.ttl_options_no_defaults
#print axioms RdfModel.C18.ttl_options_default
#print axioms RdfModel.C18.encoder_base_flag
#print axioms RdfModel.C18.encoder_base_resource
#print axioms RdfModel.C18.pipe_preserves_ttl_plain
#print axioms RdfModel.C18.pipe_preserves_ttl_resources_partial
#print axioms RdfModel.C18.ttl_resources_writer
#print axioms RdfModel.C18.pipe_ttl_assign_link
#print axioms RdfModel.C18.pipe_preserves_ttl_assign
#print axioms RdfModel.C18.pipe_preserves_ttl_resources_holds
#print axioms RdfModel.C18.pipe_preserves_rdfjson
#print axioms RdfModel.C18.pipe_rdfjson_params
#print axioms RdfModel.C18.pipe_preserves_nq_params
#print axioms RdfModel.C18.Example.cfg_ok
#print axioms RdfModel.C18.Example.ttl_roundtrip
#print axioms RdfModel.C18.Example.rj_roundtrip
#print axioms RdfModel.C18.Example.Res.ttl_resources_roundtrip
#print axioms RdfModel.C18.Example.Nest.ttl_resources_full
#print axioms RdfModel.C18.Example.Nest.assign_ok
