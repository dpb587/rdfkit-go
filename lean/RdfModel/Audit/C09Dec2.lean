/-
  Audit of the further theorems about the RDF/XML decoder model: axioms used by every theorem of Props/C09Dec2.lean
  (expected: a subset of {propext, Classical.choice, Quot.sound}).
-/
import RdfModel.Props.C09Dec2
open RdfModel RdfModel.RXD RdfModel.C09Dec2

#print axioms RdfModel.C09Dec2.rxd_decode_render_full_partial
#print axioms RdfModel.C09Dec2.rxd_refines_denote_full_partial
#print axioms RdfModel.C09Dec2.rxd_decode_write_full_partial
#print axioms RdfModel.C09Dec2.rxd_refines_denote_id_conditional
#print axioms RdfModel.C09Dec2.rxd_latch
#print axioms RdfModel.C09Dec2.rxd_next_true_has_triple
#print axioms RdfModel.C09Dec2.rxd_next_no_panic
#print axioms RdfModel.C09Dec2.rxd_ioerr_reported
#print axioms RdfModel.C09Dec2.rxd_truncation_reported
#print axioms RdfModel.C09Dec2.rxd_clean_needs_eof
#print axioms RdfModel.C09Dec2.rxd_cut_inside_root
#print axioms RdfModel.C09Dec2.rxd_deterministic
