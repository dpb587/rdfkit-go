/-
  Audit for C18: axioms used by the theorems of Props/C18.lean; the facts about the data of `namespace Witness`
  (`s0_inv`, `U_inj`, …) are reached through the witness theorems that use them
  (expected: a subset of {propext, Classical.choice, Quot.sound}).
-/
import RdfModel.Props.C18
open RdfModel

#print axioms RdfModel.C18.resolve_priority
#print axioms RdfModel.C18.resolve_encoder_priority
#print axioms RdfModel.C18.resolve_ext_order_irrelevant
#print axioms RdfModel.C18.open_decoder_stable
#print axioms RdfModel.C18.open_encoder_stable
#print axioms RdfModel.C18.registry_unambiguous
#print axioms RdfModel.C18.registry_facts
#print axioms RdfModel.C18.registry_as_expected
#print axioms RdfModel.C18.gen_ext_order_irrelevant
#print axioms RdfModel.C18.gen_open_decoder_stable
#print axioms RdfModel.C18.gen_open_encoder_stable
#print axioms RdfModel.C18.pipe_labels_injective
#print axioms RdfModel.C18.pipe_triples_writes_all_graphs
#print axioms RdfModel.C18.pipe_triples_restricts_default_graph_false
#print axioms RdfModel.C18.pipe_triples_restricts_default_graph_partial
#print axioms RdfModel.C18.pipe_nq_preserves
#print axioms RdfModel.C18.pipe_nt_preserves
#print axioms RdfModel.C18.pipe_codec_preserves_partial
#print axioms RdfModel.C18.pipe_ttl_preserves_partial
#print axioms RdfModel.C18.pipe_rdfjson_preserves_partial
#print axioms RdfModel.C18.Witness.nq_roundtrip
#print axioms RdfModel.C18.extension_decides_witness
#print axioms RdfModel.C18.extension_decides_false
#print axioms RdfModel.C18.extension_decides_partial
#print axioms RdfModel.C18.invalid_label_witness
