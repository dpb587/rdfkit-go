/-
  Property C18, Turtle / RDF-JSON targets: NON-VACUITY of the composition theorems of Props/C18Targets.lean —
  the default command line (`rdfkit pipe -o /tmp/x/out.ttl`, no parameters; and `--out-param resources`) on concrete
  datasets: every hypothesis is discharged (the configuration obligations by `decide` on the regenerated RDFa
  context and Turtle tables), the theorems are instantiated, and the document the model writes is exhibited.
-/
import RdfModel.Props.C18Targets
import RdfModel.Proofs.Asc
namespace RdfModel.C18
open RdfModel RdfModel.Pipe RdfModel.BN
open scoped List

/-! ## Non-vacuity: the default command line on a concrete dataset -/

namespace Example
open Gen.PipeCfgFacts

/-- `rdfkit pipe -o /tmp/x/out.ttl` without any `--out-param`: the encoder base is the output file's IRI -/
def base : List Nat := encoderBase { name := asc "/tmp/x/out.ttl" }

/-- … and this is the configuration the Turtle encoder gets (`ttl_options_default`) -/
def cfg : TtlEnc.Config := { base := some base, prefixes := rdfaContext, buffered := some true }

theorem opt : ttlOptions rdfaContext [] base = some (cfg, false) := ttl_options_default _ _

/-- The configuration obligations of `pipe_preserves_ttl_plain` HOLD for the default command line with the
    regenerated RDFa context (every label PN_PREFIX-like and safe, every namespace of IRI characters and stable
    under the base `file:///tmp/x/out.ttl`, the base itself absolute and a fixed point of the resolver). -/
theorem cfg_ok : C02.ConfigOK C02.docCfg.isSpace Gen.turtle cfg (Prefix.new Prefix.mergeSorter cfg.prefixes) :=
  Proofs.C18.configOK_new _ _ _ cfg (by decide +kernel) (by
    intro b hb
    have : b = base := by simpa [cfg] using hb.symm
    subst this
    decide +kernel)

theorem U_ok (k : Nat) : C02.labelOK Gen.turtle (Witness.U k) = true ∧ C02.Scalars (Witness.U k) := by
  have h2 : ∀ z ∈ List.replicate k 0x75, inRanges Gen.turtle.pnChars z = true := fun z hz => by
    rw [List.eq_of_mem_replicate hz]; decide
  refine ⟨?_, fun c hc => ?_⟩
  · simp only [Witness.U, List.replicate_succ, C02.labelOK, Bool.and_eq_true, List.all_eq_true]
    refine ⟨⟨by decide, fun x hx => by simp [h2 x hx]⟩, ?_⟩
    cases hk : (List.replicate k 0x75).getLast? with
    | none => rfl
    | some z => exact h2 z (List.mem_of_getLast? hk)
  · rw [List.eq_of_mem_replicate hc]
    decide

/-- a quads source: `_:x` (labelled) and an anonymous node; a prefixed name of the RDFa context, a bare integer,
    a relative reference, the document itself (`<>`), a language-tagged literal, a named graph (dropped: D20) -/
def quads : List (Quad (Fin 2)) :=
  [ ⟨.bnode 0, .iri (asc "http://schema.org/name"), .lit (asc "5") (asc "http://www.w3.org/2001/XMLSchema#integer") none,
      some (.iri (asc "http://example.org/g"))⟩,
    ⟨.bnode 1, .iri (asc "file:///tmp/x/p"), .bnode 0, none⟩,
    ⟨.iri base, .iri TtlEnc.rdfType, .lit [0x68, 0xe9] rdfLangString (some (asc "en-GB")), none⟩ ]

def ts : List (Desc.Triple (Fin 2)) :=
  [ ⟨.bnode 0, asc "http://schema.org/name", .lit (asc "5") (asc "http://www.w3.org/2001/XMLSchema#integer") none⟩,
    ⟨.bnode 1, asc "file:///tmp/x/p", .bnode 0⟩,
    ⟨.iri base, TtlEnc.rdfType, .lit [0x68, 0xe9] rdfLangString (some (asc "en-GB"))⟩ ]

theorem hts : Proofs.C18.triplesOf quads = some ts := rfl

theorem ts_ok : ∀ t ∈ ts, C02.TripleOK
    (TtlEnc.ctxOf Gen.turtle cfg (Prefix.new Prefix.mergeSorter cfg.prefixes) (fun _ : Fin 2 => [])) cfg.base t :=
  Proofs.C18.tripleOK_of_stable _ (by decide +kernel)

/-- the label `x` is a Turtle label of scalars, and no UUID text -/
theorem x_scope : (C02.labelOK Gen.turtle (BN.asc "x") = true ∧ C02.Scalars (BN.asc "x")) ∧ ∀ k, BN.asc "x" ≠ Witness.U k :=
  ⟨⟨by decide, by decide⟩, Witness.x_ne_U⟩

theorem scope : ∀ b v, Witness.node b = some (.bnString 0 v) →
    (C02.labelOK Gen.turtle v = true ∧ C02.Scalars v) ∧ ∀ k, v ≠ Witness.U k := by
  intro b v h
  rw [Witness.node_label h]
  exact x_scope

/-- every hypothesis of `pipe_preserves_ttl_plain` holds here: the theorem instantiated -/
theorem ttl_roundtrip (ord1 ord2 : List (Term Bytes)) :
    ∃ (doc : List Nat) (out : List TtlDoc.Stmt) (tr : List (Desc.Triple TtlDoc.BN)),
      pipeTtl Gen.turtle rdfaContext Prefix.mergeSorter [] base ord1 ord2 Witness.U Witness.s0 (some (.strf 0)) .quads
        (quads.map (Quad.map Witness.node)) = .ok doc ∧
      TtlDoc.run C02.docCfg .eof none [] doc = (out, .clean) ∧
      out.map C02.tripleOfStmt = tr.map some ∧ Spec.Iso tr ts :=
  pipe_preserves_ttl_plain Prefix.mergeSorter [] base cfg opt cfg_ok Witness.U Witness.U_inj U_ok Witness.s0 Witness.s0_inv 0
    (by decide) Witness.node Witness.node_inj .quads quads ts hts (by decide) scope ts_ok ord1 ord2

-- a precaution: with the text split by `asc_append` (below) the example elaborates at the default depth as well
set_option maxRecDepth 100000 in
/-- … and this is the document (buffered: sections sorted, only the used prefix declared; the anonymous node
    carries the first UUID text of the process) -/
example : pipeTtl Gen.turtle rdfaContext Prefix.mergeSorter [] base [] [] Witness.U Witness.s0 (some (.strf 0)) .quads
    (quads.map (Quad.map Witness.node)) = .ok (asc (
      "@base <file:///tmp/x/out.ttl> .\n@prefix schema: <http://schema.org/> .\n\n" ++
      "<> a \"h\u00e9\"@en-GB .\n" ++
      "_:u <p> _:x .\n" ++
      "_:x schema:name 5 .\n")) := by
  -- split the expected text first: evaluating `asc` on one long literal is much slower than on its pieces
  simp only [asc_append]
  decide +kernel

theorem rj_scope : ∀ b l, Witness.node b = some (.bnString 0 l) → l ≠ [] ∧ ∀ k, l ≠ Witness.U k := by
  intro b l h
  rw [Witness.node_label h]
  exact ⟨by decide, Witness.x_ne_U⟩

theorem rj_wf : ∀ q ∈ quads, C01RJ.WFTriple (toRJ q) := by
  intro q hq
  simp only [quads, List.mem_cons, List.mem_nil_iff, or_false] at hq
  rcases hq with rfl | rfl | rfl
  · exact ⟨trivial, trivial, asc_ne (t := "") (by simp), asc_ne (by simp), asc_ne (by simp)⟩
  · exact ⟨trivial, trivial, trivial⟩
  · exact ⟨by show RJ.bnPrefix? base = none; decide +kernel, trivial, asc_ne (t := "") (by simp), asc_ne (by simp), rfl,
      asc_ne (t := "") (by simp)⟩

/-- every hypothesis of `pipe_preserves_rdfjson` holds for the same dataset -/
theorem rj_roundtrip (v : RJ.Variant) :
    ∃ (toks : List RJ.Tok) (out : List (RJ.Triple RJ.BNode)),
      pipeRJ [] Witness.U Witness.s0 (some (.strf 0)) .quads (quads.map (Quad.map Witness.node)) = .ok toks ∧
      RJ.parseRoot v toks .eof = .done out .clean ∧ IsoRJ out (quads.map toRJ) :=
  pipe_preserves_rdfjson v Witness.U Witness.U_inj (by intro k; simp [Witness.U]) Witness.s0 Witness.s0_inv 0 (by decide)
    Witness.node Witness.node_inj .quads quads (by decide) rj_scope rj_wf

/-! ### `resources=true`: a dataset on which the export inlines nothing -/

namespace Res

/-- `--out-param resources` -/
def raw : List (List Nat) := [asc "resources"]

theorem opt : ttlOptions rdfaContext raw base = some (cfg, true) := by rfl

/-- one labelled node `_:x`, referenced twice (so never inlined) -/
def node : Unit → Node := fun _ => some (.bnString 0 (BN.asc "x"))

theorem node_inj : Function.Injective node := fun _ _ _ => rfl

def s1 : List Nat := asc "file:///tmp/x/s1"
def s2 : List Nat := asc "http://schema.org/s2"
def q : List Nat := asc "http://xmlns.com/foaf/0.1/knows"

def quads : List (Quad Unit) :=
  [ ⟨.bnode (), .iri (asc "http://schema.org/name"), .lit (asc "5") (asc "http://www.w3.org/2001/XMLSchema#integer") none, none⟩,
    ⟨.iri s1, .iri q, .bnode (), none⟩,
    ⟨.iri s2, .iri q, .bnode (), none⟩,
    ⟨.iri s1, .iri TtlEnc.rdfType, .iri (asc "http://schema.org/Person"), none⟩ ]

def ts : List (Desc.Triple Unit) :=
  [ ⟨.bnode (), asc "http://schema.org/name", .lit (asc "5") (asc "http://www.w3.org/2001/XMLSchema#integer") none⟩,
    ⟨.iri s1, q, .bnode ()⟩, ⟨.iri s2, q, .bnode ()⟩, ⟨.iri s1, TtlEnc.rdfType, .iri (asc "http://schema.org/Person")⟩ ]

/-- the flat resources the export yields (three subjects) -/
def rs : List (Proofs.C02Doc.FlatRes Unit) :=
  [ (.bnode (), [(asc "http://schema.org/name", .lit (asc "5") (asc "http://www.w3.org/2001/XMLSchema#integer") none)]),
    (.iri s1, [(q, .bnode ()), (TtlEnc.rdfType, .iri (asc "http://schema.org/Person"))]),
    (.iri s2, [(q, .bnode ())]) ]

/-- the subject map iterated in insertion order -/
def ord : List (Term Bytes) := [.bnode (BN.asc "x"), .iri s1, .iri s2]

theorem hts : Proofs.C18.triplesOf quads = some ts := rfl

theorem scope : ∀ b v, node b = some (.bnString 0 v) →
    (C02.labelOK Gen.turtle v = true ∧ C02.Scalars v) ∧ ∀ k, v ≠ Witness.U k := by
  intro b v h
  obtain rfl : BN.asc "x" = v := by simpa [node] using h
  exact x_scope

theorem hflat : ∀ σ : Unit → List Nat, Function.Injective σ → (∀ b v, node b = some (.bnString 0 v) → σ b = v) →
    TtlEnc.encodeResourcesWith Gen.turtle false cfg (Prefix.new Prefix.mergeSorter cfg.prefixes) id ord ord
        (ts.map (Desc.Triple.map σ)) =
      TtlEnc.encodeResourceListWith Gen.turtle false cfg (Prefix.new Prefix.mergeSorter cfg.prefixes) σ
        (rs.map (·.toResource)) := by
  intro σ _ hown
  have hσ : σ = fun _ => BN.asc "x" := funext (fun b => hown b _ rfl)
  subst hσ
  decide +kernel

theorem rs_ok : ∀ r ∈ rs, Proofs.C02Doc.FlatOK
    (TtlEnc.ctxOf Gen.turtle cfg (Prefix.new Prefix.mergeSorter cfg.prefixes) (fun _ : Unit => [])) cfg.base r :=
  Proofs.C18.flatOK_of_stable _ (by decide +kernel)

/-- every hypothesis of `pipe_preserves_ttl_resources_partial` holds here -/
theorem ttl_resources_roundtrip :
    ∃ (doc : List Nat) (out : List TtlDoc.Stmt) (tr : List (Desc.Triple TtlDoc.BN)),
      pipeTtl Gen.turtle rdfaContext Prefix.mergeSorter raw base ord ord Witness.U Witness.s0 (some (.strf 0)) .triples
        (quads.map (Quad.map node)) = .ok doc ∧
      TtlDoc.run C02.docCfg .eof none [] doc = (out, .clean) ∧
      out.map C02.tripleOfStmt = tr.map some ∧ Spec.Iso tr ts :=
  pipe_preserves_ttl_resources_partial Prefix.mergeSorter raw base cfg opt cfg_ok Witness.U Witness.U_inj U_ok Witness.s0
    Witness.s0_inv 0 (by decide) node node_inj .triples quads ts hts (fun _ => (by decide : () ∈ nodesOf (quads.map quadAsTriple)))
    scope ord ord rs hflat rs_ok (.cons _ (.cons _ (.swap _ _ _)))

end Res

/-! ### `resources=true`, full theorem: a dataset with an inlined anonymous node -/

namespace Nest

/-- `_:x` (labelled, referenced twice) and an anonymous node referenced once: written as `[ … ]` -/
def quads : List (Quad (Fin 2)) :=
  [ ⟨.bnode 1, .iri (asc "http://xmlns.com/foaf/0.1/knows"), .bnode 0, none⟩,
    ⟨.iri (asc "file:///tmp/x/s"), .iri (asc "http://schema.org/author"), .bnode 1, none⟩,
    ⟨.bnode 0, .iri (asc "http://schema.org/name"), .lit (asc "5") (asc "http://www.w3.org/2001/XMLSchema#integer") none, none⟩,
    ⟨.iri (asc "file:///tmp/x/s"), .iri (asc "http://schema.org/about"), .bnode 0, none⟩ ]

def ts : List (Desc.Triple (Fin 2)) :=
  [ ⟨.bnode 1, asc "http://xmlns.com/foaf/0.1/knows", .bnode 0⟩,
    ⟨.iri (asc "file:///tmp/x/s"), asc "http://schema.org/author", .bnode 1⟩,
    ⟨.bnode 0, asc "http://schema.org/name", .lit (asc "5") (asc "http://www.w3.org/2001/XMLSchema#integer") none⟩,
    ⟨.iri (asc "file:///tmp/x/s"), asc "http://schema.org/about", .bnode 0⟩ ]

theorem hts : Proofs.C18.triplesOf quads = some ts := rfl

theorem ts_ok : ∀ t ∈ ts, C02.TripleOK
    (TtlEnc.ctxOf Gen.turtle cfg (Prefix.new Prefix.mergeSorter cfg.prefixes) (fun _ : Fin 2 => [])) cfg.base t :=
  Proofs.C18.tripleOK_of_stable _ (by decide +kernel)

/-- every hypothesis of the full statement holds here (subject map iterated in insertion order, both loops) -/
theorem ttl_resources_full :
    ∃ (σ : Fin 2 → List Nat) (doc : List Nat) (out : List TtlDoc.Stmt) (tr : List (Desc.Triple TtlDoc.BN)),
      pipeTtl Gen.turtle rdfaContext Prefix.mergeSorter Res.raw base
        (Desc.build (ts.map (Desc.Triple.map σ))).subjects (Desc.build (ts.map (Desc.Triple.map σ))).subjects
        Witness.U Witness.s0 (some (.strf 0)) .triples (quads.map (Quad.map Witness.node)) = .ok doc ∧
      TtlDoc.run C02.docCfg .eof none [] doc = (out, .clean) ∧
      out.map C02.tripleOfStmt = tr.map some ∧ Spec.Iso tr ts :=
  pipe_preserves_ttl_resources_holds (Fin 2) Prefix.mergeSorter Res.raw base cfg Res.opt cfg_ok Witness.U Witness.U_inj U_ok
    Witness.s0 Witness.s0_inv 0 (by decide) Witness.node Witness.node_inj .triples quads ts hts (by decide) scope ts_ok
    (fun σ => (Desc.build (ts.map (Desc.Triple.map σ))).subjects) (fun σ => (Desc.build (ts.map (Desc.Triple.map σ))).subjects)
    (fun _ => List.Perm.refl _) (fun _ => List.Perm.refl _)

-- a precaution, as above
set_option maxRecDepth 100000 in
/-- the document: the anonymous node is inlined (its fresh label `u` is drawn by the model but never written) -/
example : pipeTtl Gen.turtle rdfaContext Prefix.mergeSorter Res.raw base
    [.bnode (BN.asc "u"), .iri (asc "file:///tmp/x/s"), .bnode (BN.asc "x")]
    [.bnode (BN.asc "u"), .iri (asc "file:///tmp/x/s"), .bnode (BN.asc "x")]
    Witness.U Witness.s0 (some (.strf 0)) .triples (quads.map (Quad.map Witness.node)) = .ok (asc (
      "@base <file:///tmp/x/out.ttl> .\n@prefix foaf: <http://xmlns.com/foaf/0.1/> .\n@prefix schema: <http://schema.org/> .\n\n" ++
      "<s>\n\tschema:about _:x ;\n\tschema:author [ foaf:knows _:x ] .\n" ++
      "_:x schema:name 5 .\n")) := by
  simp only [asc_append]
  decide +kernel

/-- the assignment-parametric theorem on the same dataset with ANOTHER admissible assignment (the anonymous node
    labelled `zz`, as if drawn in a different order): hypotheses satisfiable -/
def assign : Node → Bytes
  | some (.bnString _ v) => v
  | _ => BN.asc "zz"

theorem assign_ok : C02.LabelOK Gen.turtle (assign ∘ Witness.node) where
  inj := by
    unfold Function.Injective
    decide
  ok := by decide

example (ord1 ord2 : List (Term Bytes))
    (h1 : ord1.Perm (Desc.build (ts.map (Desc.Triple.map (assign ∘ Witness.node)))).subjects)
    (h2 : ord2.Perm (Desc.build (ts.map (Desc.Triple.map (assign ∘ Witness.node)))).subjects) :
    ∃ (doc : List Nat) (out : List TtlDoc.Stmt) (tr : List (Desc.Triple TtlDoc.BN)),
      pipeTtlAssign Gen.turtle rdfaContext (Prefix.new Prefix.mergeSorter) Res.raw base ord1 ord2 assign .triples
        (quads.map (Quad.map Witness.node)) = .ok doc ∧
      TtlDoc.run C02.docCfg .eof none [] doc = (out, .clean) ∧
      out.map C02.tripleOfStmt = tr.map some ∧ Spec.Iso tr ts :=
  pipe_preserves_ttl_assign Prefix.mergeSorter Res.raw base cfg true Res.opt cfg_ok Witness.node assign assign_ok .triples
    quads ts hts ts_ok ord1 ord2 (fun _ => h1) (fun _ => h2)

end Nest

end Example

end RdfModel.C18
