/-
  Property C09 — what the grammar says on the witnesses of the five defects found in
  encoding/rdfxml/decoder.go (facts about the specification, not about the decoder model of Model/RdfXmlDecoder.lean;
  the behaviour of the Go code on the same documents is replayed by go/cmd/c09 and quoted in the
  known-findings entries / commit messages of patches rx-1 … rx-5).  Document base
  http://base.example/dir/doc, RFC 3986 resolution.
-/
import RdfModel.Props.C09
namespace RdfModel.C09.Findings
open RdfModel RdfModel.Desc RdfModel.RX RdfModel.C09.Witness

def rs := Spec.RFC3986.resolve
def env : Env := ⟨s "http://base.example/dir/doc", none⟩
def subjS : Term BN := .iri (s "http://a/s")
def p : Str := ex ++ s "p"
def q : Str := ex ++ s "q"
def desc (attrs : List Attr) (kids : List Node) : Node := .elem rdfNS n_Description attrs kids
def about : Attr := ⟨rdfNS, n_about, s "http://a/s"⟩
def el (name : String) (attrs : List Attr) (kids : List Node) : Node := .elem ex (s name) attrs kids
def en : Option Str := some (s "en")

/-- C09-xml-lang-empty: `xml:lang=""` removes the language, the literal is a plain `xsd:string`
    (unpatched decoder: datatype rdf:langString with an empty tag).
    `<rdf:Description rdf:about="http://a/s" xml:lang="en"><ex:p xml:lang="">v</ex:p></rdf:Description>` -/
theorem xml_lang_empty :
    denoteDoc rs env (desc [about, ⟨xmlNS, n_lang, s "en"⟩] [el "p" [⟨xmlNS, n_lang, []⟩] [.text (s "v")]])
      = .ok [⟨subjS, p, .lit (s "v") xsdString none⟩] := by rfl

/-- C09-empty-literal-language: an attribute-less empty property element is the empty literal with the
    language in scope (unpatched decoder: plain `""`).
    `<rdf:Description rdf:about="http://a/s" xml:lang="en"><ex:p/></rdf:Description>` -/
theorem empty_literal_language :
    denoteDoc rs env (desc [about, ⟨xmlNS, n_lang, s "en"⟩] [el "p" [] []])
      = .ok [⟨subjS, p, .lit [] rdfLangString en⟩] := by rfl

/-- C09-property-element-scope: `xml:lang` (and `xml:base`) of a property element are in scope for the node
    element it contains (unpatched decoder: `"v"` without tag, `<http://base.example/dir/rel>`).
    `<ex:p xml:lang="en"><rdf:Description ex:q="v"/></ex:p>`,
    `<ex:p xml:base="http://other/x/"><rdf:Description rdf:about="rel"/></ex:p>` -/
theorem property_element_scope_lang :
    denoteDoc rs env (desc [about] [el "p" [⟨xmlNS, n_lang, s "en"⟩] [desc [⟨ex, s "q", s "v"⟩] []]])
      = .ok [⟨subjS, p, .bnode (.gen 0)⟩, ⟨.bnode (.gen 0), q, .lit (s "v") rdfLangString en⟩] := by rfl

theorem property_element_scope_base :
    denoteDoc rs env (desc [about] [el "p" [⟨xmlNS, n_base, s "http://other/x/"⟩]
        [desc [⟨rdfNS, n_about, s "rel"⟩] []]])
      = .ok [⟨subjS, p, .iri (s "http://other/x/rel")⟩] := by rfl

/-- C09-rdf-ns-property-attr: `rdf:type` and the other RDF-namespace names that are propertyAttributeURIs
    are property attributes of an empty property element (unpatched decoder: "attribute not allowed").
    `<ex:p rdf:type="http://a/T"/>`, `<ex:p rdf:value="v"/>` -/
theorem rdf_ns_property_attr_type :
    denoteDoc rs env (desc [about] [el "p" [⟨rdfNS, n_type, s "http://a/T"⟩] []])
      = .ok [⟨subjS, p, .bnode (.gen 0)⟩, ⟨.bnode (.gen 0), rdfType, .iri (s "http://a/T")⟩] := by rfl

theorem rdf_ns_property_attr_value :
    denoteDoc rs env (desc [about] [el "p" [⟨rdfNS, s "value", s "v"⟩] []])
      = .ok [⟨subjS, p, .bnode (.gen 0)⟩, ⟨.bnode (.gen 0), rdfNS ++ s "value", .lit (s "v") xsdString none⟩] := by
  rfl

/-- C09-property-attr-predicate: the predicate of a property attribute is namespace name + local name as
    written (unpatched decoder, on empty property elements only: `http://%C3%A9.example/ns/q`).
    `<ex:p rdf:resource="http://a/o" n:q="v"/>` with `xmlns:n="http://é.example/ns/"` -/
theorem property_attr_predicate :
    denoteDoc rs env (desc [about] [el "p" [⟨rdfNS, n_resource, s "http://a/o"⟩, ⟨s "http://é.example/ns/", s "q", s "v"⟩] []])
      = .ok [⟨subjS, p, .iri (s "http://a/o")⟩,
             ⟨.iri (s "http://a/o"), s "http://é.example/ns/q", .lit (s "v") xsdString none⟩] := by rfl

end RdfModel.C09.Findings
