/-
  Property C16 — captured text offsets, Turtle / TriG TOKEN producers
  (theorems only; proofs in RdfModel/Proofs/C16Ttl{Erase,Scan}.lean).

  Models: `Model.TurtleOffsets` (namespace `TtlO`: the seven token producers of encoding/turtle and
  encoding/trig with Go's commit bookkeeping), `Model.TextWriter` (`TW`, `cursorio.TextWriter`),
  base producers `Model.TurtleTokens` (`Ttl`).  The driver runs `TtlO` (op `offx.tok`); T3 compares it
  with the Go producers through the hook `VerifProduceOffsets` (go/cmd/c16x).

  Conventions.  Input of a producer: decoded runes `(code point, byte size)` as `RuneBuffer.NextRune`
  yields them (an ill-formed byte is `(0xFFFD, 1)`), the first one being the rune the Go caller has
  already read; `s` is the bookkeeping state (rune buffer byte offset, writer history or `none` when
  capture is off) *before* that read.  All theorems hold for every input, both stream endings `e`,
  every table set `T`, both packages (`trig`), capture on or off, any writer history.

  Flags: `legacy` (`produceString` before patch c16x-1, DESIGN D18) and `labelOnly`
  (`produceBlankNode` before patch c16x-2).  Erasure holds for all flag values; commit discipline and
  exact ranges are stated for the repaired code (`legacy = false`; `labelOnly` either way, the range
  then covers the label with or without its `_:`), and refuted for `legacy = true` by a witness.

  NOT covered here: the statement layer: white space and
  comment commits of `scan`, the single-rune commits of `.`, `;`, `,`, `[`, `]`, `(`, `)`, `{`, `}`,
  `a`, `^^`, keyword commits of the directives, `true`/`false`, and how ranges are attached to
  statements.  Those are modelled in `Model.TurtleDocOffsets`; its theorems are in `Props/C16TtlDocO.lean`.  Token re-parsing
  (`Ttl.produceX` on the range's text gives the same value) is not proved (oracle only).
-/
import RdfModel.Props.C16TtlDefs
import RdfModel.Proofs.C16TtlScan
import RdfModel.Gen.TtlTables
namespace RdfModel.C16Ttl
open RdfModel RdfModel.TW RdfModel.NQO RdfModel.TtlO RdfModel.C16

/-! ## 1. Offsets do not change the tokens (erasure)

Forgetting sizes, buffer offset, writer history, range and error offset of an instrumented producer
gives exactly the result of the base producer `Ttl.produceX` (Model/TurtleTokens.lean) on the code
points: same token value, same remaining input, same error class, same panic outcome — for every
state `s`, so in particular with capture on and with capture off. -/

theorem erase_IRIREF (T : Tables) (e : End) (s : S) (inp : List RP) :
    (TtlO.produceIRIREF T e s inp).erase = Ttl.produceIRIREF T e (runes inp) :=
  Proofs.C16Ttl.produceIRIREF_erase T e s inp

theorem erase_String (T : Tables) (e : End) (legacy : Bool) (s : S) (inp : List RP) :
    (TtlO.produceString T e legacy s inp).erase = Ttl.produceString T e (runes inp) :=
  Proofs.C16Ttl.produceString_erase T e legacy s inp

theorem erase_PNAME_NS (T : Tables) (e : End) (trig : Bool) (s : S) (inp : List RP) :
    (TtlO.producePNAME_NS T e trig s inp).erase = Ttl.producePNAME_NS T e (runes inp) :=
  Proofs.C16Ttl.producePNAME_NS_erase T e trig s inp

theorem erase_PrefixedName (T : Tables) (e : End) (trig : Bool) (s : S) (inp : List RP) :
    (TtlO.producePrefixedName T e trig s inp).erase = Ttl.producePrefixedName T e (runes inp) :=
  Proofs.C16Ttl.producePrefixedName_erase T e trig s inp

theorem erase_BlankNode (T : Tables) (e : End) (labelOnly : Bool) (s : S) (inp : List RP) :
    (TtlO.produceBlankNode T e labelOnly s inp).erase = Ttl.produceBlankNode T e (runes inp) :=
  Proofs.C16Ttl.produceBlankNode_erase T e labelOnly s inp

theorem erase_LANGTAG (e : End) (s : S) (inp : List RP) :
    (TtlO.produceLANGTAG e s inp).erase = Ttl.produceLANGTAG e (runes inp) :=
  Proofs.C16Ttl.produceLANGTAG_erase e s inp

theorem erase_NumericLiteral (e : End) (s : S) (inp : List RP) :
    (TtlO.produceNumericLiteral e s inp).erase = Ttl.produceNumericLiteral e (runes inp) :=
  Proofs.C16Ttl.produceNumericLiteral_erase e s inp

/-- In particular turning capture on changes no token (shown for `produceString`; the other six
    follow from their erasure theorem in the same way). -/
theorem capture_irrelevant_String (T : Tables) (e : End) (legacy : Bool) (inp : List RP) :
    (TtlO.produceString T e legacy (S.init true) inp).erase
      = (TtlO.produceString T e legacy (S.init false) inp).erase := by
  rw [erase_String, erase_String]

/-! ## 2. Commit discipline and exact ranges (repaired code)

`Consumed s inp pre body rg s' rest` (Props/C16TtlDefs.lean): the call consumed exactly `pre ++ body`
(`inp = pre ++ body ++ rest`), the rune buffer advanced by exactly that many bytes, the runes
committed to the writer during the call are exactly `pre ++ body` in order — each consumed rune
once, nothing else, so *committed ++ left-in-buffer = input* — and the reported range delimits
exactly `body` (`fr` = history before the call plus `pre`, `un` = plus `body`); no range without a
writer.  Each theorem adds what the token text looks like. -/

/-- IRIREF: one chunk, the whole `<…>`. -/
theorem spec_IRIREF (T : Tables) (e : End) (s : S) (inp : List RP) (v : List Nat)
    (rg : Option SRange) (s' : S) (rest : List RP)
    (h : TtlO.produceIRIREF T e s inp = .ok v rg s' rest) :
    ∃ tok, Consumed s inp [] tok rg s' rest ∧ (runes tok).head? = some 0x3c ∧
      (runes tok).getLast? = some 0x3e ∧ 2 ≤ tok.length := by
  obtain ⟨tok, h1, h2, h3, h4⟩ := (Proofs.C16Ttl.produceIRIREF_scan T e s inp).ok h
  exact ⟨tok, Proofs.C16Ttl.consumed_one h1, h2, h3, h4⟩

/-- String (all four quoting styles): one chunk, from the opening to the closing quote rune. -/
theorem spec_String (T : Tables) (e : End) (s : S) (inp : List RP) (v : List Nat)
    (rg : Option SRange) (s' : S) (rest : List RP)
    (h : TtlO.produceString T e false s inp = .ok v rg s' rest) :
    ∃ tok q, Consumed s inp [] tok rg s' rest ∧ (q = 0x22 ∨ q = 0x27) ∧ (runes tok).head? = some q ∧
      (runes tok).getLast? = some q ∧ 2 ≤ tok.length := by
  obtain ⟨tok, q, h1, h2, h3, h4, h5⟩ := (Proofs.C16Ttl.produceString_scan T e s inp).ok h
  exact ⟨tok, q, Proofs.C16Ttl.consumed_one h1, h2, h3, h4, h5⟩

/-- PNAME_NS: one chunk ending in `:`. -/
theorem spec_PNAME_NS (T : Tables) (e : End) (trig : Bool) (s : S) (inp : List RP) (v : List Nat)
    (rg : Option SRange) (s' : S) (rest : List RP)
    (h : TtlO.producePNAME_NS T e trig s inp = .ok v rg s' rest) :
    ∃ tok, Consumed s inp [] tok rg s' rest ∧ (runes tok).getLast? = some 0x3a := by
  obtain ⟨tok, h1, h2⟩ := (Proofs.C16Ttl.producePNAME_NS_scan T e trig s inp).ok h
  exact ⟨tok, Proofs.C16Ttl.consumed_one h1, h2⟩

/-- PrefixedName: two chunks (namespace part ending in `:`, then the local part); the range runs
    from the start of the first to the end of the second. -/
theorem spec_PrefixedName (T : Tables) (e : End) (trig : Bool) (s : S) (inp : List RP)
    (v : List Nat × List Nat) (rg : Option SRange) (s' : S) (rest : List RP)
    (h : TtlO.producePrefixedName T e trig s inp = .ok v rg s' rest) :
    ∃ ns loc, Consumed s inp [] (ns ++ loc) rg s' rest ∧ (runes ns).getLast? = some 0x3a := by
  obtain ⟨ns, loc, h1, h2⟩ := (Proofs.C16Ttl.producePrefixedName_scan T e trig s inp).ok h
  exact ⟨ns, loc, Proofs.C16Ttl.consumed_two_whole h1, h2⟩

/-- Blank node label (repaired, patch c16x-2): `_:` is committed, then the label; the range covers
    `_:label`, and the decoded label is exactly the text after `_:`. -/
theorem spec_BlankNode (T : Tables) (e : End) (s : S) (inp : List RP) (v : List Nat)
    (rg : Option SRange) (s' : S) (rest : List RP)
    (h : TtlO.produceBlankNode T e false s inp = .ok v rg s' rest) :
    ∃ c0 c1 lab, Consumed s inp [] ([c0, c1] ++ lab) rg s' rest ∧ c0.1 = 0x5f ∧ c1.1 = 0x3a ∧
      v = goString (runes lab) := by
  obtain ⟨c0, c1, lab, h1, h2, h3, h4⟩ := (Proofs.C16Ttl.produceBlankNode_scan T e false s inp).ok h
  exact ⟨c0, c1, lab, Proofs.C16Ttl.consumed_two_whole h1, h2, h3, h4⟩

/-- Blank node label before patch c16x-2: same commits, but the range covers the label only. -/
theorem spec_BlankNode_labelOnly (T : Tables) (e : End) (s : S) (inp : List RP) (v : List Nat)
    (rg : Option SRange) (s' : S) (rest : List RP)
    (h : TtlO.produceBlankNode T e true s inp = .ok v rg s' rest) :
    ∃ c0 c1 lab, Consumed s inp [c0, c1] lab rg s' rest ∧ c0.1 = 0x5f ∧ c1.1 = 0x3a ∧
      v = goString (runes lab) := by
  obtain ⟨c0, c1, lab, h1, h2, h3, h4⟩ := (Proofs.C16Ttl.produceBlankNode_scan T e true s inp).ok h
  exact ⟨c0, c1, lab, Proofs.C16Ttl.consumed_two_body h1, h2, h3, h4⟩

/-- LANGTAG: `@` is committed, then the tag; the range covers the tag only (the decoder's documented
    behaviour: the object range of a literal never includes the tag), and the decoded tag is exactly
    that text. -/
theorem spec_LANGTAG (e : End) (s : S) (inp : List RP) (v : List Nat)
    (rg : Option SRange) (s' : S) (rest : List RP)
    (h : TtlO.produceLANGTAG e s inp = .ok v rg s' rest) :
    ∃ a0 tag, Consumed s inp [a0] tag rg s' rest ∧ a0.1 = 0x40 ∧ v = goString (runes tag) := by
  obtain ⟨a0, tag, h1, h2, h3⟩ := (Proofs.C16Ttl.produceLANGTAG_scan e s inp).ok h
  exact ⟨a0, tag, Proofs.C16Ttl.consumed_two_body h1, h2, h3⟩

/-- NumericLiteral: one chunk, and the lexical form is exactly that text (a final `.` is handed back
    and belongs to neither). -/
theorem spec_NumericLiteral (e : End) (s : S) (inp : List RP) (v : Ttl.NumKind × List Nat)
    (rg : Option SRange) (s' : S) (rest : List RP)
    (h : TtlO.produceNumericLiteral e s inp = .ok v rg s' rest) :
    ∃ tok, Consumed s inp [] tok rg s' rest ∧ v.2 = goString (runes tok) := by
  obtain ⟨tok, h1, h2⟩ := (Proofs.C16Ttl.produceNumericLiteral_scan e s inp).ok h
  exact ⟨tok, Proofs.C16Ttl.consumed_one h1, h2⟩

/-! ## 3. What `Consumed` means for the concrete offsets the API shows -/

/-- **Range positions.** If the writer held the text `before` (everything committed so far) when the
    producer was called, the reported `From`/`Until` are the positions of `body` in the text
    `before ++ pre ++ body`: byte = initial byte + bytes before it (resp. up to its end), line =
    initial line + LFs before it, for *every* cluster counter; and equal to the position computed
    from the text, column included (`TW.posAfter`), whenever that text is `TW.simple` and the
    counter counts one cluster per rune on simple text (`ColsSimple`, e.g. `onePer`). In particular
    `From ≤ Until` in bytes and lines. -/
theorem range_positions (cols : List Nat → Nat) (init : Offset) {s s' : S} {inp pre body rest : List RP}
    {rg : Option SRange} (hc : Consumed s inp pre body rg s' rest) (h : Hist) (hh : s.doc = some h) :
    ∃ fr un, rg = some (fr, un) ∧
      RangeAt cols init (histRunes h ++ pre) body (histOffset cols init fr) (histOffset cols init un) := by
  obtain ⟨fr, un, h1, h2, h3⟩ := hc.range h hh
  exact ⟨fr, un, h1, Proofs.C16.rangeAt_of cols init fr un _ _ h2 (by rw [h3, List.append_assoc])⟩

/-- **Writer position.** After the call the writer's byte offset has advanced by exactly the bytes
    consumed and its line by exactly the LFs consumed (every cluster counter): the writer stays in
    step with the rune buffer. -/
theorem writer_advances (cols : List Nat → Nat) (init : Offset) {s s' : S} {inp pre body rest : List RP}
    {rg : Option SRange} (hc : Consumed s inp pre body rg s' rest) (h : Hist) (hh : s.doc = some h) :
    ∃ h', s'.doc = some h' ∧
      (histOffset cols init h').byte = (histOffset cols init h).byte + size (pre ++ body) ∧
      (histOffset cols init h').line = (histOffset cols init h).line + countLF (pre ++ body) ∧
      s'.bo = s.bo + size (pre ++ body) := by
  obtain ⟨h', h1, h2⟩ := hc.committed h hh
  refine ⟨h', h1, ?_, ?_, hc.bo⟩
  · rw [Proofs.C16.histOffset_byte, Proofs.C16.histOffset_byte, h2, Proofs.C16.size_append]; omega
  · rw [Proofs.C16.histOffset_line, Proofs.C16.histOffset_line, h2, Proofs.C16.countLF_append]; omega

/-- `InStep` is preserved: if the writer was in step with the rune buffer before the call, it is
    afterwards (so the theorems chain over consecutive tokens). -/
theorem inStep_preserved {s s' : S} {inp pre body rest : List RP} {rg : Option SRange}
    (hc : Consumed s inp pre body rg s' rest) (hs : InStep s) : InStep s' := by
  intro h' hh'
  cases hd : s.doc with
  | none => have := hc.capture; simp [hd, hh'] at this
  | some h =>
    obtain ⟨h'', h1, h2⟩ := hc.committed h hd
    rw [hh'] at h1
    cases h1
    rw [h2, Proofs.C16.size_append, hs h hd, hc.bo]

/-! ## 4. Error offsets lie inside the input (repaired code)

`InStep s`: the writer holds exactly what the rune buffer has handed out (true whenever the statement
layer calls a producer).  Then the offset attached to a producer's error refers to a byte position
between the initial byte offset and the initial byte offset + (bytes before the call + bytes of the
input); a bare byte offset (capture off) is at most bytes before + bytes of the input. -/

theorem err_inside_IRIREF (T : Tables) (e : End) (cols : List Nat → Nat) (init : Offset) (s : S)
    (inp : List RP) (c : EClass) (o : EOff) (hs : InStep s)
    (h : TtlO.produceIRIREF T e s inp = .err c o) :
    ErrInside init (s.bo + size inp) (evalEOff cols init o) :=
  Proofs.C16.errInside_of_bound cols init o _ ((Proofs.C16Ttl.produceIRIREF_scan T e s inp).err h hs.pend)

theorem err_inside_String (T : Tables) (e : End) (cols : List Nat → Nat) (init : Offset) (s : S)
    (inp : List RP) (c : EClass) (o : EOff) (hs : InStep s)
    (h : TtlO.produceString T e false s inp = .err c o) :
    ErrInside init (s.bo + size inp) (evalEOff cols init o) :=
  Proofs.C16.errInside_of_bound cols init o _ ((Proofs.C16Ttl.produceString_scan T e s inp).err h hs.pend)

theorem err_inside_PNAME_NS (T : Tables) (e : End) (trig : Bool) (cols : List Nat → Nat) (init : Offset)
    (s : S) (inp : List RP) (c : EClass) (o : EOff) (hs : InStep s)
    (h : TtlO.producePNAME_NS T e trig s inp = .err c o) :
    ErrInside init (s.bo + size inp) (evalEOff cols init o) :=
  Proofs.C16.errInside_of_bound cols init o _ ((Proofs.C16Ttl.producePNAME_NS_scan T e trig s inp).err h hs.pend)

theorem err_inside_PrefixedName (T : Tables) (e : End) (trig : Bool) (cols : List Nat → Nat)
    (init : Offset) (s : S) (inp : List RP) (c : EClass) (o : EOff) (hs : InStep s)
    (h : TtlO.producePrefixedName T e trig s inp = .err c o) :
    ErrInside init (s.bo + size inp) (evalEOff cols init o) :=
  Proofs.C16.errInside_of_bound cols init o _
    ((Proofs.C16Ttl.producePrefixedName_scan T e trig s inp).err h hs.pend)

theorem err_inside_BlankNode (T : Tables) (e : End) (labelOnly : Bool) (cols : List Nat → Nat)
    (init : Offset) (s : S) (inp : List RP) (c : EClass) (o : EOff) (hs : InStep s)
    (h : TtlO.produceBlankNode T e labelOnly s inp = .err c o) :
    ErrInside init (s.bo + size inp) (evalEOff cols init o) :=
  Proofs.C16.errInside_of_bound cols init o _
    ((Proofs.C16Ttl.produceBlankNode_scan T e labelOnly s inp).err h hs.pend)

theorem err_inside_LANGTAG (e : End) (cols : List Nat → Nat) (init : Offset) (s : S)
    (inp : List RP) (c : EClass) (o : EOff) (hs : InStep s)
    (h : TtlO.produceLANGTAG e s inp = .err c o) :
    ErrInside init (s.bo + size inp) (evalEOff cols init o) :=
  Proofs.C16.errInside_of_bound cols init o _ ((Proofs.C16Ttl.produceLANGTAG_scan e s inp).err h hs.pend)

theorem err_inside_NumericLiteral (e : End) (cols : List Nat → Nat) (init : Offset) (s : S)
    (inp : List RP) (c : EClass) (o : EOff) (hs : InStep s)
    (h : TtlO.produceNumericLiteral e s inp = .err c o) :
    ErrInside init (s.bo + size inp) (evalEOff cols init o) :=
  Proofs.C16.errInside_of_bound cols init o _
    ((Proofs.C16Ttl.produceNumericLiteral_scan e s inp).err h hs.pend)

/-! ## 5. The defects, as facts about the model (witnesses)

D18 (`legacy = true`): `"" .` — `produceString` hands the space back to the buffer *and* commits it:
the committed runes plus what is left are one rune more than the input, and the range of the empty
string is three bytes long. -/

def d18 : List RP := (asc "\"\" .").map (fun c => (c, 1))

/-- Commit discipline fails for the unrepaired `produceString`: after the call the writer holds 3
    runes, 2 remain in the buffer, but the input has only 4; the reported range is bytes 0–3. -/
theorem string_discipline_fails_legacy :
    (match TtlO.produceString Gen.turtle .eof true (S.init true) d18 with
      | .ok _ rg s' rest =>
        (s'.doc.map (fun h => (histRunes h).length), rest.length, d18.length,
          rg.map (fun r => ((evalRange onePer zero r).1.byte, (evalRange onePer zero r).2.byte)))
      | _ => (none, 0, 0, none)) = (some 3, 2, 4, some (0, 3)) := by
  decide

/-- … and the repaired code commits exactly the two quotes (range bytes 0–2). -/
example :
    (match TtlO.produceString Gen.turtle .eof false (S.init true) d18 with
      | .ok _ rg s' rest =>
        (s'.doc.map (fun h => (histRunes h).length), rest.length,
          rg.map (fun r => ((evalRange onePer zero r).1.byte, (evalRange onePer zero r).2.byte)))
      | _ => (none, 0, none)) = (some 2, 2, some (0, 2)) := by
  decide

/-- The blank node range before / after patch c16x-2 on `_:b0 `: bytes 2–4 (label) vs 0–4 (token). -/
def bnWitness : List RP := (asc "_:b0 ").map (fun c => (c, 1))

theorem blank_node_range_label_only :
    ((match TtlO.produceBlankNode Gen.turtle .eof true (S.init true) bnWitness with
      | .ok _ rg _ _ => rg.map (fun r => ((evalRange onePer zero r).1.byte, (evalRange onePer zero r).2.byte))
      | _ => none),
     (match TtlO.produceBlankNode Gen.turtle .eof false (S.init true) bnWitness with
      | .ok _ rg _ _ => rg.map (fun r => ((evalRange onePer zero r).1.byte, (evalRange onePer zero r).2.byte))
      | _ => none)) = (some (2, 4), some (0, 4)) := by
  decide

/-! ## Non-vacuity -/

/-- The hypotheses of the `spec_*` theorems are satisfiable: a prefixed name with a two-byte rune, an
    escaped dot and a trailing dot that is handed back; the range is bytes 10–19 of a writer started
    at byte 10, line 2, column 3 — nine bytes but eight columns. -/
def pnameWitness : List RP :=
  (asc "ex:a").map (fun c => (c, 1)) ++ [(0xe9, 2)] ++ (asc "\\.b. ").map (fun c => (c, 1))

example :
    (match TtlO.producePrefixedName Gen.turtle .eof false (S.init true) pnameWitness with
      | .ok v rg s' rest => (v, rg.map (evalRange onePer ⟨10, 2, 3⟩), s'.bo, runes rest)
      | _ => (([], []), none, 0, [])) =
    ((asc "ex", asc "a" ++ [0xe9] ++ asc ".b"), some (⟨10, 2, 3⟩, ⟨19, 2, 11⟩), 9, asc ". ") := by
  decide

/-- `InStep` holds for the initial state (capture on or off), so the `err_inside_*` theorems apply to
    a producer called on a fresh decoder; an error with an offset: `<a b>` fails at the space, the
    offset is byte 2 (the runes read before it). -/
example : InStep (S.init true) ∧ InStep (S.init false) := by
  constructor <;> intro h hh <;> simp [S.init] at hh <;> subst hh <;> rfl

example :
    (match TtlO.produceIRIREF Gen.turtle .eof (S.init true) ((asc "<a b>").map (fun c => (c, 1))) with
      | .err c o => some (c, evalEOff onePer zero o)
      | _ => none) = some (.syntax, .text ⟨2, 0, 2⟩) := by
  decide

end RdfModel.C16Ttl
