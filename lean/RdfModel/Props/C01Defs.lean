/-
  Definitions used by the C01 theorems: table facts (`TablesOK`), well-formedness of the input.
-/
import RdfModel.Model.NQuads
namespace RdfModel.C01
open RdfModel RdfModel.NQ

/-- A rune the decoder's IRI scanner accepts raw (neither rejected, nor `>`, nor `\`). -/
def iriRawOK (c : Nat) : Prop :=
  c > 0x20 ∧ c ≠ 0x3c ∧ c ≠ 0x3e ∧ c ≠ 0x22 ∧ c ≠ 0x7b ∧ c ≠ 0x7d ∧ c ≠ 0x7c ∧ c ≠ 0x5e ∧ c ≠ 0x60 ∧ c ≠ 0x5c

/-- The facts about the regenerated tables (T1) on which the round trip rests. Each is a statement
    over *every* code point; `Props/C01Tables.lean` proves them for the current tables by `decide`
    on the table entries. -/
structure TablesOK (T : Tables) : Prop where
  iri_mode : ∀ a c, lookup (T.iriEsc a) 0 c ≤ 2
  iri_raw : ∀ a c, lookup (T.iriEsc a) 0 c = 0 → iriRawOK c
  iri_u4 : ∀ a c, lookup (T.iriEsc a) 0 c = 1 → c ≤ 0xFFFF
  lit_mode : ∀ a c, lookup (T.litEsc a) 0 c ≤ 3
  lit_raw : ∀ a c, lookup (T.litEsc a) 0 c = 0 → c ≠ 0x22 ∧ c ≠ 0x5c
  lit_echar : ∀ a c, lookup (T.litEsc a) 0 c = 1 → echarDecode (lookup T.echar 0 c) = some c
  lit_u4 : ∀ a c, lookup (T.litEsc a) 0 c = 2 → c ≤ 0xFFFF
  hex : ∀ d, d < 16 → lookup T.hexDec 0 (hexUpper d) = d + 1
  space_sp : inRanges T.space 0x20 = true
  pn_sp : inRanges T.pnChars 0x20 = false
  /-- `.` is not a PN_CHARS rune (else a label ending in `.` would satisfy `labelOK` yet lose its dot). -/
  pn_dot : inRanges T.pnChars 0x2e = false
  /-- the openers `<` and `_` of a graph label are not white space (`afterObject` tests `isSpace` first). -/
  space_lt : inRanges T.space 0x3c = false
  space_us : inRanges T.space 0x5f = false

/-- Facts for the ASCII option, about the `ascii = true` tables only (`iri_mode_a`, `lit_mode_a` are
    `TablesOK.iri_mode`, `lit_mode` at `true`, repeated so that `ascii_output` needs no `TablesOK`). -/
structure TablesAscii (T : Tables) : Prop where
  iri_ascii : ∀ c, c ≤ 0x10FFFF → lookup (T.iriEsc true) 0 c = 0 → c < 0x80
  lit_ascii : ∀ c, c ≤ 0x10FFFF → lookup (T.litEsc true) 0 c = 0 → c < 0x80
  echar_ascii : ∀ c, lookup T.echar 0 c < 0x80
  /-- no escape mode outside the ones the writers handle (any other mode writes the rune raw). -/
  iri_mode_a : ∀ c, lookup (T.iriEsc true) 0 c ≤ 2
  lit_mode_a : ∀ c, lookup (T.litEsc true) 0 c ≤ 3

/-- Extra facts for grammaticality: a raw rune in a literal is never LF or CR, and no label has a line feed. -/
structure TablesGrammar (T : Tables) : Prop where
  lit_raw_eol : ∀ a c, lookup (T.litEsc a) 0 c = 0 → c ≠ 0x0a ∧ c ≠ 0x0d
  /-- LF is in neither label class (else a `labelOK` label could contain a line break). -/
  pnU_lf : inRanges T.pnCharsU 0x0a = false
  pn_lf : inRanges T.pnChars 0x0a = false

/-- Language tag `[a-zA-Z]+ ('-' [a-zA-Z0-9]+)*`, as a Boolean recogniser. -/
def langRest : List Nat → Bool → Bool
  | [], needAlnum => !needAlnum
  | c :: rest, needAlnum =>
    if isAlpha c || isDigit c then langRest rest false
    else if c = 0x2d then (!needAlnum && langRest rest true)
    else false

def langPrim : List Nat → Bool → Bool
  | [], seen => seen
  | c :: rest, seen =>
    if isAlpha c then langPrim rest true
    else if c = 0x2d then (seen && langRest rest true)
    else false

def langOK (t : List Nat) : Bool := langPrim t false

def Scalars (s : List Nat) : Prop := ∀ c ∈ s, IsScalar c

/-- Every rune is a Go-representable code point (`≤ unicode.MaxRune`); weaker than `Scalars`.
    Needed by `ascii_output`: the escape tables are only regenerated over `0 … 0x10FFFF`, outside of
    which `lookup` falls back to mode 0 (= written raw). -/
def RunesInRange (s : List Nat) : Prop := ∀ c ∈ s, c ≤ 0x10FFFF

def TermInRange {β : Type} : Term β → Prop
  | .iri v => RunesInRange v
  | .bnode _ => True
  | .lit l d _ => RunesInRange l ∧ RunesInRange d

def QuadInRange {β : Type} (q : Quad β) : Prop :=
  TermInRange q.s ∧ TermInRange q.p ∧ TermInRange q.o ∧ ∀ g, q.g = some g → TermInRange g

/-- IRI the N-Quads decoder accepts: scalar values only, passes the decoder's `url.Parse`/`IsAbs`. -/
def WFIri (urlOk : List Nat → Bool) (v : List Nat) : Prop := Scalars v ∧ urlOk v = true

/-- Blank node label that survives `captureOpenBlankNode`: `(PN_CHARS_U|[0-9]) ((PN_CHARS|'.')* PN_CHARS)?`. -/
def labelOK (T : Tables) (l : List Nat) : Bool :=
  match l with
  | [] => false
  | c :: rest =>
    (inRanges T.pnCharsU c || isDigit c) &&
    rest.all (fun x => inRanges T.pnChars x || x = 0x2e) &&
    (match rest.getLast? with
      | none => true
      | some z => inRanges T.pnChars z)

structure LabelsOK {β : Type} (T : Tables) (label : β → List Nat) : Prop where
  inj : Function.Injective label
  wf : ∀ b, labelOK T (label b) = true

def WFLit (urlOk : List Nat → Bool) (lex dt : List Nat) (lang : Option (List Nat)) : Prop :=
  Scalars lex ∧ WFIri urlOk dt ∧
  (match lang with
    | some t => dt = rdfLangString ∧ langOK t = true
    | none => dt ≠ rdfLangString ∧ dt ≠ rdfDirLangString)

def WFNode {β : Type} (urlOk : List Nat → Bool) : Term β → Prop
  | .iri v => WFIri urlOk v
  | .bnode _ => True
  | .lit .. => False

def WFObject {β : Type} (urlOk : List Nat → Bool) : Term β → Prop
  | .lit l d t => WFLit urlOk l d t
  | t => WFNode urlOk t

def WFPredicate {β : Type} (urlOk : List Nat → Bool) : Term β → Prop
  | .iri v => WFIri urlOk v
  | _ => False

/-- A well-formed quad (graph name optional). -/
structure WFQuad {β : Type} (urlOk : List Nat → Bool) (q : Quad β) : Prop where
  s : WFNode urlOk q.s
  p : WFPredicate urlOk q.p
  o : WFObject urlOk q.o
  g : ∀ g, q.g = some g → WFNode urlOk g

/-- What a triples-only format keeps of a quad. -/
def Quad.dropGraph {β : Type} (q : Quad β) : Quad β := { q with g := none }

end RdfModel.C01
