/-
  Property C20 — XSD literal mapping accepts only valid lexical forms, canonicalises stably.

  The theorems are about `Model.Xsd` — the functions the driver executes — for an arbitrary fact
  record satisfying the decidable conditions of `C20Defs` (`intFactOK` …); `Props/C20Facts.lean`
  proves those conditions for the facts regenerated from /repo on this run (T2).

  Proved at full strength: whiteSpace collapse; the nine integer types; boolean; hexBinary,
  base64Binary; soundness of decimal, double, float. Proved in part (`_partial`, full statement kept
  as a `def`): string/anyURI (XML `Char` restriction), the value-level clauses of decimal/double/float
  (`Model.Xsd` keeps the exact number read and does not round or format it: strconv's rounding and shortest
  formatting are in `Model.XsdFloat`, their theorems in `Props/C20Float.lean`). The date/time family has its
  theorems in `Props/C20Time.lean`, about `Model.GoTime`; of `Model.Xsd`'s own time functions this file proves
  only `time_layouts_modelled`. Duration is tied by correspondence (T3) and the oracle only. `C20Facts.lean`
  records the known findings as facts about `Model.Xsd`.
-/
import RdfModel.Props.C20Defs
import RdfModel.Proofs.C20Str
namespace RdfModel.C20
open RdfModel RdfModel.Xsd
open RdfModel.Spec.Xsd (Dt IntTy accepts lexOK normalize intLex canonInt boolLex canonBool collapse)

/-- `xsdutil.WhiteSpaceCollapse` (replacer, regexp ` +`, TrimLeft, TrimRight) is the whiteSpace=collapse
    normalisation of XSD, on every byte string. -/
theorem collapse_spec (s : Bytes) : whiteSpaceCollapse s = collapse s :=
  Proofs.C20.collapse_spec s

/-- … and normalising twice changes nothing (used by idempotence below). -/
theorem collapse_idempotent (s : Bytes) : collapse (collapse s) = collapse s :=
  Proofs.C20.collapse_idem s

/-- Soundness: a Map function succeeds only on a string that, after whiteSpace collapse, is in the
    lexical space of its datatype (syntax `[+-]?[0-9]+` and value within the type's bounds), and the
    value returned is the value that lexical form denotes. -/
theorem int_sound (T : IntTy) (f : IntFact) (hf : intFactOK T f = true) (s : Bytes) (v : Int)
    (h : mapInt f s = .ok v) :
    accepts T.dt s = true ∧ intLex (normalize T.dt s) = some v := by
  obtain ⟨h1, h2, h3⟩ := Proofs.C20.mapInt_sound (Proofs.C20.intFactOK_elim hf) h
  refine ⟨?_, by rw [Proofs.C20.normalize_int]; exact h1⟩
  unfold accepts
  rw [Proofs.C20.lexOK_int, Proofs.C20.normalize_int]
  simp [Spec.Xsd.intLexOK, h1, Proofs.C20.inValueSpace_of T v h2 h3]

/-- Completeness on canonical forms: every canonical representation whose value the Go type can
    represent (`goLo T ≤ v ≤ goHi T`: the whole value space, or int64 for xsd:integer) maps to `v`. -/
theorem int_canonical (T : IntTy) (f : IntFact) (hf : intFactOK T f = true) (v : Int)
    (hv : goLo T ≤ v ∧ v ≤ goHi T) : mapInt f (canonInt v) = .ok v :=
  Proofs.C20.mapInt_canon (Proofs.C20.intFactOK_elim hf) hv.1 hv.2

/-- The signed types accept every lexical form of a representable value (leading `+`, zeros, white
    space), not only the canonical one. (The unsigned types refuse `+5` and `-0`: strconv.ParseUint
    takes no sign; those forms are valid XSD but not canonical, so the property allows it.) -/
theorem int_complete_signed (T : IntTy) (f : IntFact) (hf : intFactOK T f = true)
    (hT : expParser T = .parseInt) (s : Bytes) (v : Int)
    (hl : intLex (collapse s) = some v) (hv : goLo T ≤ v ∧ v ≤ goHi T) : mapInt f s = .ok v :=
  (Proofs.C20.mapInt_signed (Proofs.C20.intFactOK_elim hf) hT).2 ⟨hl, hv.1, hv.2⟩

/-- Canonicalisation: the literal of a mapped value carries the canonical representation, which is
    a valid lexical form of the same datatype denoting the same value, and mapping it again gives the
    same value. -/
theorem int_idempotent (T : IntTy) (f : IntFact) (hf : intFactOK T f = true) (s : Bytes) (v : Int)
    (h : mapInt f s = .ok v) :
    lexInt f v = some (canonInt v) ∧ accepts T.dt (canonInt v) = true ∧
    intLex (canonInt v) = some v ∧ mapInt f (canonInt v) = .ok v := by
  have hp := Proofs.C20.intFactOK_elim hf
  obtain ⟨_, h2, h3⟩ := Proofs.C20.mapInt_sound hp h
  have hm := Proofs.C20.mapInt_canon hp h2 h3
  exact ⟨Proofs.C20.lexInt_canon hp h2 h3, (int_sound T f hf _ v hm).1, Proofs.C20.intLex_canon v, hm⟩

/-- TermEquals of a value of the type with any term: true exactly for the literal of that datatype
    whose lexical form is the canonical representation. -/
theorem int_termEquals (T : IntTy) (f : IntFact) (hf : intFactOK T f = true) (v : Int)
    (hv : goLo T ≤ v ∧ v ≤ goHi T) (t : TermArg) :
    termEqualsInt f v t = some (decide (t = .literal (dtIRI T.dt) (canonInt v))) :=
  Proofs.C20.termEqualsInt_spec (Proofs.C20.intFactOK_elim hf) hv.1 hv.2 t

/-- every mapped value is in the representable range, so `int_termEquals` applies to it -/
theorem int_mapped_in_range (T : IntTy) (f : IntFact) (hf : intFactOK T f = true) (s : Bytes) (v : Int)
    (h : mapInt f s = .ok v) : goLo T ≤ v ∧ v ≤ goHi T :=
  (Proofs.C20.mapInt_sound (Proofs.C20.intFactOK_elim hf) h).2

-- the hypotheses are satisfiable: a fact record for xsd:byte, a mapped string, a canonical form
example : intFactOK .byte
    { parser := .parseInt, collapse := true, base := 10, bitSize := 8, goType := ⟨true, 8⟩,
      objFmt := .formatInt, objConv := ⟨true, 64⟩, objBase := 10, eqFmt := .formatInt,
      eqConv := ⟨true, 64⟩, eqBase := 10, datatype := dtIRI .byte, eqDatatypeSame := true } = true := by decide +kernel
example : goLo .byte ≤ -128 ∧ (-128 : Int) ≤ goHi .byte := by decide
example : canonInt (-128) = asc "-128" := by decide
example : intLex (asc "+007") = some 7 := by decide

/-- MapBoolean succeeds exactly on the strings whose collapse is `true`, `false`, `1` or `0`, with the
    value XSD assigns (soundness and completeness, for every lexical form). -/
theorem boolean_map (f : BoolFact) (hf : boolFactOK f = true) (s : Bytes) (v : Bool) :
    mapBool f s = .ok v ↔ boolLex (collapse s) = some v := by
  rw [Proofs.C20.mapBool_spec (Proofs.C20.boolFactOK_elim hf)]
  cases boolLex (collapse s) <;> simp

theorem boolean_sound (f : BoolFact) (hf : boolFactOK f = true) (s : Bytes) (v : Bool)
    (h : mapBool f s = .ok v) : accepts .boolean s = true := by
  have := (boolean_map f hf s v).1 h
  simp [accepts, lexOK, normalize, this]

/-- the literal of a mapped boolean is `true`/`false` (canonical), valid, denotes the same value and
    maps back to it -/
theorem boolean_idempotent (f : BoolFact) (hf : boolFactOK f = true) (v : Bool) :
    lexBool f v = canonBool v ∧ boolLex (canonBool v) = some v ∧ mapBool f (canonBool v) = .ok v := by
  have hp := Proofs.C20.boolFactOK_elim hf
  refine ⟨by cases v <;> simp [lexBool, canonBool, hp.lt, hp.lf], Proofs.C20.boolLex_canon v, ?_⟩
  rw [boolean_map f hf, Proofs.C20.collapse_noWs _ (Proofs.C20.canonBool_noWs v)]
  exact Proofs.C20.boolLex_canon v

theorem boolean_termEquals (f : BoolFact) (hf : boolFactOK f = true) (v : Bool) (t : TermArg) :
    termEqualsBool f v t = some (decide (t = .literal (dtIRI .boolean) (canonBool v))) :=
  Proofs.C20.termEqualsBool_spec (Proofs.C20.boolFactOK_elim hf) v t

example : boolLex (collapse (asc " 1\n")) = some true := by decide

/-- what each string-like Map function does: normalise (collapse, except xsd:string) and, for the
    two binary types, refuse what is outside the lexical space -/
theorem strlike_map (T : StrTy) (f : StrFact) (hf : strFactOK T f = true) (s : Bytes) :
    mapStr f s = if Proofs.C20.strCheck T (normalize T.dt s) then .ok (normalize T.dt s) else .error .syntax :=
  Proofs.C20.mapStr_spec (Proofs.C20.strFactOK_elim hf) s

/-- hexBinary and base64Binary: success ⇔ the string is in the lexical space -/
theorem binary_sound_complete (T : StrTy) (hT : T = .hexBinary ∨ T = .base64Binary) (f : StrFact)
    (hf : strFactOK T f = true) (s : Bytes) :
    (∃ v, mapStr f s = .ok v) ↔ accepts T.dt s = true := by
  have hck : ∀ a, Proofs.C20.strCheck T a = lexOK T.dt a := by
    rcases hT with rfl | rfl <;> intro a <;> rfl
  rw [strlike_map T f hf, hck]
  unfold accepts
  by_cases hc : lexOK T.dt (normalize T.dt s) = true <;> simp [hc]

/-- the full soundness statement for the string-like types -/
def strlike_sound_full : Prop :=
  ∀ (T : StrTy) (f : StrFact), strFactOK T f = true → ∀ s v, mapStr f s = .ok v → accepts T.dt s = true

/-- string and anyURI: the Map functions accept every byte string; the lexical space is the
    sequences of XML `Char` in well-formed UTF-8. What is missing from `strlike_sound_full` is exactly
    that restriction (known finding `string-non-xml-char`). -/
theorem strlike_sound_partial (T : StrTy) (f : StrFact) (hf : strFactOK T f = true) (s v : Bytes)
    (h : mapStr f s = .ok v) (hx : T = .string ∨ T = .anyURI → Spec.Xsd.xmlCharsOK (normalize T.dt s) = true) :
    accepts T.dt s = true := by
  cases T with
  | string => simpa [accepts, lexOK, StrTy.dt] using hx (Or.inl rfl)
  | anyURI => simpa [accepts, lexOK, StrTy.dt] using hx (Or.inr rfl)
  | hexBinary => exact (binary_sound_complete .hexBinary (Or.inl rfl) f hf s).1 ⟨v, h⟩
  | base64Binary => exact (binary_sound_complete .base64Binary (Or.inr rfl) f hf s).1 ⟨v, h⟩

/-- the model really fails the full statement: U+0001 is mapped by MapString -/
theorem strlike_sound_full_fails : ¬ strlike_sound_full := by
  intro h
  have := h .string { collapse := false, lexRE := none, datatype := dtIRI .string, eqDatatypeSame := true }
    (by decide +kernel) [0x01] [0x01] (by decide +kernel)
  revert this; decide +kernel

/-- the mapped value is the normalised string; its literal carries it unchanged, and mapping that
    literal again gives the same value -/
theorem strlike_idempotent (T : StrTy) (f : StrFact) (hf : strFactOK T f = true) (s v : Bytes)
    (h : mapStr f s = .ok v) : v = normalize T.dt s ∧ mapStr f v = .ok v := by
  rw [strlike_map T f hf] at h
  split at h
  · next hc =>
    simp only [Except.ok.injEq] at h
    subst h
    refine ⟨rfl, ?_⟩
    rw [strlike_map T f hf]
    have hn : normalize T.dt (normalize T.dt s) = normalize T.dt s := by
      cases T <;> simp [normalize, StrTy.dt, Proofs.C20.collapse_idem]
    rw [hn, hc]; rfl
  · simp at h

theorem strlike_termEquals (T : StrTy) (f : StrFact) (hf : strFactOK T f = true) (v : Bytes) (t : TermArg) :
    termEqualsStr f v t = some (decide (t = .literal (dtIRI T.dt) v)) :=
  Proofs.C20.termEqualsStr_spec (Proofs.C20.strFactOK_elim hf) v t

example : accepts .base64Binary (asc " AAAA AA== ") = true := by decide
example : accepts .hexBinary (asc "0aF") = false := by decide

/-- Soundness: MapDecimal / MapDouble / MapFloat succeed only on strings of the lexical space of
    their datatype (no exponent, INF, NaN, hexadecimal or underscores for decimal; XSD spellings only
    for double and float). -/
theorem floatfamily_sound (T : FloatTy) (f : FloatFact) (hf : floatFactOK T f = true) (s : Bytes) (v : FVal)
    (h : mapFloat f s = .ok v) : accepts T.dt s = true :=
  Proofs.C20.mapFloat_sound (Proofs.C20.floatFactOK_elim hf) h

theorem decimal_sound (f : FloatFact) (hf : floatFactOK .decimal f = true) (s : Bytes) (v : FVal)
    (h : mapFloat f s = .ok v) : accepts .decimal s = true := floatfamily_sound .decimal f hf s v h
theorem double_sound (f : FloatFact) (hf : floatFactOK .double f = true) (s : Bytes) (v : FVal)
    (h : mapFloat f s = .ok v) : accepts .double s = true := floatfamily_sound .double f hf s v h
theorem float_sound (f : FloatFact) (hf : floatFactOK .float f = true) (s : Bytes) (v : FVal)
    (h : mapFloat f s = .ok v) : accepts .float s = true := floatfamily_sound .float f hf s v h

/-- the completeness / idempotence clauses for the float-valued types, as the property states them:
    every canonical form of a representable value maps; the literal of a mapped value is a valid
    lexical form that maps back to the same value. Stated over `Model.Xsd`, whose `lexFloat` (through `fmtShort`)
    is defined only where the text needs no rounding analysis; the statement over the rounded value is
    `C20F.floatfamily_idempotent_full`. -/
def floatfamily_idempotent_full : Prop :=
  ∀ (T : FloatTy) (f : FloatFact), floatFactOK T f = true → ∀ s v, mapFloat f s = .ok v →
    ∃ l, lexFloat f v = some l ∧ accepts T.dt l = true ∧ mapFloat f l = .ok v

/-- What is proved of it: (a) on a string of the lexical space the Map function is exactly
    strconv.ParseFloat on the collapsed string, so it fails only by a range error; -/
theorem floatfamily_map_partial (T : FloatTy) (f : FloatFact) (hf : floatFactOK T f = true) (s : Bytes)
    (h : accepts T.dt s = true) :
    mapFloat f s = parseFloat (collapse s) (if T = .float then 32 else 64) :=
  (Proofs.C20.mapFloat_spec (Proofs.C20.floatFactOK_elim hf) s).trans (if_pos h)

/-- (b) the special values of double and float are written `INF`, `-INF`, `NaN` (not strconv's `+Inf`),
    which are valid lexical forms that map back to the same value. Finite values need strconv's rounding:
    `C20F.floatfamily_idempotent_partial` (Props/C20Float.lean). -/
theorem floatfamily_special_partial (T : FloatTy) (hT : T = .double ∨ T = .float) (f : FloatFact)
    (hf : floatFactOK T f = true) (v : FVal) (hv : v = .nan ∨ v = .inf false ∨ v = .inf true) :
    ∃ l, lexFloat f v = some l ∧ accepts T.dt l = true ∧ mapFloat f l = .ok v := by
  have hp := Proofs.C20.floatFactOK_elim hf
  have hfm : f.objFmt = .formatDouble := by rw [hp.objFmt]; rcases hT with rfl | rfl <;> rfl
  have key : ∀ l, lexFloat f v = some l → accepts T.dt l = true →
      parseFloat (collapse l) (if T = .float then 32 else 64) = .ok v →
      ∃ l, lexFloat f v = some l ∧ accepts T.dt l = true ∧ mapFloat f l = .ok v :=
    fun l h1 h2 h3 => ⟨l, h1, h2, by rw [floatfamily_map_partial T f hf _ h2]; exact h3⟩
  rcases hv with rfl | rfl | rfl
  · exact key (asc "NaN") (by simp [lexFloat, fmtFloatWith, hfm, fmtShort])
      (by rcases hT with rfl | rfl <;> decide) (by rcases hT with rfl | rfl <;> decide)
  · exact key (asc "INF") (by simp [lexFloat, fmtFloatWith, hfm])
      (by rcases hT with rfl | rfl <;> decide) (by rcases hT with rfl | rfl <;> decide)
  · exact key (asc "-INF") (by simp [lexFloat, fmtFloatWith, hfm])
      (by rcases hT with rfl | rfl <;> decide) (by rcases hT with rfl | rfl <;> decide)

example : accepts .decimal (asc "1e5") = false ∧ accepts .decimal (asc " +1.50 ") = true := by decide
example : accepts .double (asc "+INF") = true ∧ accepts .double (asc "+Inf") = false := by decide

/-- every layout in the facts consists of reference-time elements the model interprets: the model
    never answers "unmodelled" for a date/time Map function (`Model.Xsd.mapTime`; what is accepted and written
    is proved of `Model.GoTime` in Props/C20Time.lean). -/
theorem time_layouts_modelled (T : TimeTy) (f : TimeFact) (hf : timeFactOK T f = true) (s : Bytes) :
    mapTime f s ≠ .error .unmodelled := by
  simp only [timeFactOK, Bool.and_eq_true, List.all_eq_true, Bool.not_eq_true'] at hf
  obtain ⟨⟨⟨⟨⟨_, _⟩, hl⟩, _⟩, _⟩, _⟩ := hf
  unfold mapTime
  have : (f.layouts.any fun l => (layoutToks l).contains .unknown) = false := by
    rw [List.any_eq_false]
    intro l hl'
    rw [hl l hl']
    simp
  simp only [this, Bool.false_eq_true, if_false]
  split <;> simp

end RdfModel.C20
