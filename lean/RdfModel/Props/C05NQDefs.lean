/-
  Definitions used by the C05/C06/C15 N-Triples / N-Quads decoder theorems (`Props/C05NQ.lean`);
  in a file of their own so that the proofs (`Proofs/C05NQScan.lean`) can mention them.
-/
import RdfModel.Model.NQuads
namespace RdfModel.C05NQ
open RdfModel RdfModel.NQ

/-- Subject / graph-name shape: an IRI that passed the absolute-IRI check, or a blank node with a
    non-empty label (an identity). -/
def nodeShape (urlOk : List Nat → Bool) : Term (List Nat) → Prop
  | .iri v => urlOk v = true
  | .bnode l => l ≠ []
  | .lit .. => False

/-- Literal well-formedness of C06: a datatype is always present (`xsd:string`, `rdf:langString`
    or one that passed the IRI check) and a non-empty language tag exactly when the datatype is
    rdf:langString. (The model has no directional tags: the library's N-Triples/N-Quads decoders
    never produce them.) -/
def litOK (urlOk : List Nat → Bool) (dt : List Nat) (lang : Option (List Nat)) : Prop :=
  (dt = xsdString ∨ dt = rdfLangString ∨ urlOk dt = true) ∧
  (dt = rdfLangString ↔ ∃ t, lang = some t ∧ t ≠ []) ∧
  dt ≠ rdfDirLangString   -- the model has no directional tags, so a dirLangString literal could never be well-formed

def objectShape (urlOk : List Nat → Bool) : Term (List Nat) → Prop
  | .lit _ dt lang => litOK urlOk dt lang
  | t => nodeShape urlOk t

structure WFShape (urlOk : List Nat → Bool) (quads : Bool) (q : Quad (List Nat)) : Prop where
  s : nodeShape urlOk q.s
  p : ∃ v, q.p = .iri v ∧ urlOk v = true
  o : objectShape urlOk q.o
  g : ∀ g, q.g = some g → quads = true ∧ nodeShape urlOk g

end RdfModel.C05NQ
