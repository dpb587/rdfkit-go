/-
  Property C16 — captured text offsets, Turtle / TriG STATEMENT LAYER (the theorems, with the inductions over
  `stepsO` and the arithmetic of `range_offsets_inside`; everything else in RdfModel/Proofs/C16TtlDocO*.lean).

  Model: `Model.TurtleDocOffsets` (namespace `TtlDocO`): the statement machine of `Model.TurtleDoc`
  instrumented with the text-offset bookkeeping of encoding/{turtle,trig}/decoder*.go — sized runes,
  rune-buffer byte offset, writer history, `commit` / `commitForTextOffsetRange` at Go's call sites,
  `…Location` fields, ranges captured by closures, the four optional ranges per statement, offsets
  attached to errors.  The driver runs it (op `ttlo.dec`); go/cmd/c16d compares it with both Go
  packages: statements, every range, verdict and error offset (T3).

  Conventions: input = decoded runes `(code point, byte size)` as `RuneBuffer.NextRune` yields them (an
  ill-formed byte is `(0xFFFD, 1)`); `C : CfgO` is any configuration (package flag `trig`, any tables,
  resolver, white-space and PN_CHARS_BASE predicates); `e` the stream ending; `capture` on or off.
-/
import RdfModel.Proofs.C16TtlDocOErase
import RdfModel.Proofs.C16TtlDocOInv
import RdfModel.Proofs.C16TtlDocOErr
import RdfModel.Gen.TtlTables
namespace RdfModel.C16TtlDocO
open RdfModel RdfModel.TW RdfModel.NQO RdfModel.TtlDoc RdfModel.TtlDocO

/-! ## 1. Turning offset capture on never changes the decoded statements (document level)

Forgetting byte sizes, bookkeeping, ranges and error offsets of the instrumented statement machine
gives EXACTLY the statement machine `TtlDoc.run` (Model/TurtleDoc.lean, the model tied to Go by
`ttld.dec` and used by C02/C05/C06/C07/C08): same statements in the same order, same verdict, for
every input, both stream endings, both packages, every base / prefix configuration, capture on or
off.  (The proof is a simulation over the continuation stack: `stepFnO_erase` for each of the 36 scan
functions, then `scan`, the `Next` loop and the run loop.) -/

theorem doc_erasure (C : CfgO) (e : End) (capture : Bool) (base : Option (List Nat))
    (prefixes : List (List Nat × List Nat)) (inp : List RP) :
    ((runO C e capture base prefixes inp).stmts.map (·.st), (runO C e capture base prefixes inp).verdict)
      = TtlDoc.run C.base e base prefixes (runes inp) :=
  Proofs.C16TtlDocO.runO_erase C e capture base prefixes inp

/-- Capture on = capture off, at document level: statements and verdict agree. -/
theorem doc_capture_on_eq_off (C : CfgO) (e : End) (base : Option (List Nat))
    (prefixes : List (List Nat × List Nat)) (inp : List RP) :
    (runO C e true base prefixes inp).stmts.map (·.st) = (runO C e false base prefixes inp).stmts.map (·.st) ∧
    (runO C e true base prefixes inp).verdict = (runO C e false base prefixes inp).verdict := by
  have h1 := doc_erasure C e true base prefixes inp
  have h2 := doc_erasure C e false base prefixes inp
  rw [← h2] at h1
  exact ⟨congrArg Prod.fst h1, congrArg Prod.snd h1⟩

/-- One `Next()` call at a time: the decoder object with bookkeeping forgotten steps exactly like the
    base decoder object (so the equality also holds for every prefix of the statement stream). -/
theorem next_erasure (C : CfgO) (e : End) (st : StO) :
    Proofs.C16TtlDocO.eraseNext (nextO C e st) = TtlDoc.next C.base e st.erase :=
  Proofs.C16TtlDocO.nextO_erase C e st

/-! ## 2. Commit discipline (capture on)

`Disc inp s rest` (Props/C16TtlDocODefs.lean): while the reader has not ended, the committed text followed
by the unread input (handed-back runes included) IS the document — every consumed rune has been written
to the text cursor exactly once, in order; this is the invariant whose violation the defects D17 (the
`.` after an N-Quads graph name) and D18 (`""` in Turtle) were.  After the reader has ended the committed
text is a prefix of the document (white space read immediately before the end is never committed: `scan`
drops its `uncommitted` list when `NextRune` fails — harmless, nothing is reported after it), possibly
followed by zero `DecodedRune`s of size 0 that closures ignoring `err` hand back to the rune buffer.
`Inv` adds: every range held in an evaluation context, a closure or a pending statement is in the
committed text.  The theorem holds after ANY number of `Next()` calls, for every document,
configuration, package and stream ending.  A state in which `Err() != nil` keeps the bookkeeping of the
last successful scan function (Go's writer may have advanced further; nothing reads it afterwards). -/

/-- State after `n` calls of `Next()` (none: a call panicked). -/
def stepsO (C : CfgO) (e : End) : Nat → StO → Option StO
  | 0, st => some st
  | n + 1, st =>
    match nextO C e st with
    | .yes st' => stepsO C e n st'
    | .no st' => stepsO C e n st'
    | .panic => none
    | .outOfFuel => none

theorem inv_steps (C : CfgO) (e : End) (inp : List RP) : ∀ (n : Nat) (st st' : StO), Inv inp st →
    stepsO C e n st = some st' → Inv inp st'
  | 0, st, st', h, hs => by simp only [stepsO, Option.some.injEq] at hs; exact hs ▸ h
  | n + 1, st, st', h, hs => by
    simp only [stepsO] at hs
    have hn := Proofs.C16TtlDocO.nextO_inv C e inp st h
    cases hq : nextO C e st with
    | yes st1 => rw [hq] at hs hn; exact inv_steps C e inp n st1 st' hn hs
    | no st1 => rw [hq] at hs hn; exact inv_steps C e inp n st1 st' hn hs
    | panic => rw [hq] at hs; cases hs
    | outOfFuel => rw [hq] at hs; cases hs

theorem doc_commit_discipline (C : CfgO) (e : End) (base : Option (List Nat))
    (prefixes : List (List Nat × List Nat)) (inp : List RP) (n : Nat) (st : StO)
    (h : stepsO C e n (initO true base prefixes inp) = some st) : Inv inp st :=
  inv_steps C e inp n _ st (Proofs.C16TtlDocO.initO_inv base prefixes inp) h

/-- The discipline component alone: committed text ++ unread input = the document (until the reader ends). -/
theorem doc_commit_discipline_text (C : CfgO) (e : End) (base : Option (List Nat))
    (prefixes : List (List Nat × List Nat)) (inp : List RP) (n : Nat) (st : StO)
    (h : stepsO C e n (initO true base prefixes inp) = some st) :
    On st.s ∧ (txt st.s ++ st.inp = inp ∨
      ∃ pre zs, txt st.s = pre ++ zs ∧ pre <+: inp ∧ AllNul zs ∧ AllNul st.inp) :=
  (doc_commit_discipline C e base prefixes inp n st h).1

/-- The hypothesis is satisfiable by a non-trivial run: two statements, the second in a graph block,
    read by two `Next()` calls of the TriG configuration over the regenerated tables. -/
example : ∃ st, stepsO ⟨true, Gen.trig, fun _ r => some r, fun _ => false, fun _ => false, false⟩ .eof 2
    (initO true none [] ((asc "<a> <b> <c> . <g> { <a> <b> <c> }").map (fun c => (c, 1)))) = some st ∧
    st.stmts.length = 1 := by
  refine ⟨_, rfl, ?_⟩
  decide +kernel

/-! ## 3. Every reported range lies inside the document

`RgInside inp rg`: the text before the range's start is a prefix of the text before its end, which is a
prefix of the document `inp` (followed by zero runes of size 0 in the degenerate end-of-input case).
Consequences for the concrete `cursorio.TextOffsetRange` (`range_offsets_inside`): initial byte ≤ From
byte ≤ Until byte ≤ initial byte + length of the document, the same for lines (for EVERY grapheme
counter), byte = initial + bytes of the text before, line = initial + LFs of the text before, the range
is the range of the run with initial offset zero shifted by the initial offset, and on `TW.simple`
text the whole `Until` offset (column included) is the position computed from the text. -/

theorem doc_ranges_inside (C : CfgO) (e : End) (base : Option (List Nat))
    (prefixes : List (List Nat × List Nat)) (inp : List RP) :
    ∀ m ∈ (runO C e true base prefixes inp).stmts,
      RgInside inp m.rg.s ∧ RgInside inp m.rg.p ∧ RgInside inp m.rg.o ∧ RgInside inp m.rg.g := by
  intro m hm
  exact Proofs.C16TtlDocO.runLoopO_inside C e inp _ _ (Proofs.C16TtlDocO.initO_inv base prefixes inp) m hm

theorem size_le_of_prefix {a b : List RP} (h : a <+: b) : size a ≤ size b ∧ countLF a ≤ countLF b := by
  obtain ⟨t, rfl⟩ := h
  rw [Proofs.C16.size_append, Proofs.C16.countLF_append]; omega

theorem allNul_size {zs : List RP} (h : AllNul zs) : size zs = 0 ∧ countLF zs = 0 := by
  induction zs with
  | nil => exact ⟨rfl, rfl⟩
  | cons z zs ih =>
    have hz := h z List.mem_cons_self
    have := ih (fun y hy => h y (List.mem_cons_of_mem _ hy))
    subst hz
    simp [size, countLF, this.1, this.2]

theorem range_offsets_inside (cols : List Nat → Nat) (init : Offset) {inp : List RP} {rg : Rg}
    (h : RgInside inp rg) (r : SRange) (hr : rg = some r) :
    let fu := evalRange cols init r
    init.byte ≤ fu.1.byte ∧ fu.1.byte ≤ fu.2.byte ∧ fu.2.byte ≤ init.byte + size inp ∧
    init.line ≤ fu.1.line ∧ fu.1.line ≤ fu.2.line ∧ fu.2.line ≤ init.line + countLF inp ∧
    fu.1.byte = init.byte + size (histRunes r.1) ∧ fu.1.line = init.line + countLF (histRunes r.1) ∧
    fu.2.byte = init.byte + size (histRunes r.2) ∧ fu.2.line = init.line + countLF (histRunes r.2) ∧
    fu = (shift init (evalRange cols zero r).1, shift init (evalRange cols zero r).2) ∧
    (ColsSimple cols → simple (runes (histRunes r.2)) = true →
      fu.2 = posAfter init (histRunes r.2)) := by
  obtain ⟨h1, p, zs, h2, h3, h4⟩ := h r hr
  have a1 := size_le_of_prefix h1
  have a2 := size_le_of_prefix h3
  have a3 := allNul_size h4
  have e2 : size (histRunes r.2) = size p ∧ countLF (histRunes r.2) = countLF p := by
    rw [h2, Proofs.C16.size_append, Proofs.C16.countLF_append]; omega
  simp only [evalRange]
  rw [Proofs.C16.histOffset_byte, Proofs.C16.histOffset_byte, Proofs.C16.histOffset_line, Proofs.C16.histOffset_line]
  refine ⟨by omega, by omega, by omega, by omega, by omega, by omega, rfl, rfl, rfl, rfl, ?_, ?_⟩
  · rw [Proofs.C16.histOffset_shift cols init r.1, Proofs.C16.histOffset_shift cols init r.2]
  · intro hc hs
    exact Proofs.C16.histOffset_simple hc init r.2 hs

/-- The hypotheses of `range_offsets_inside` are met by the ranges `doc_ranges_inside` talks about, and
    such ranges exist: the object of `<a> <b> <c> .` carries one (capture on). -/
example : ((runO ⟨false, Gen.turtle, fun _ r => some r, fun _ => false, fun _ => false, false⟩ .eof true none []
    ((asc "<a> <b> <c> .").map (fun c => (c, 1)))).stmts.map (fun m => m.rg.o.isSome)) = [true] := by decide

/-! ## 4. Offsets reported with errors lie inside the document; byte accounting (capture on AND off)

`EOff.bound` (Props/C16Defs.lean): the byte position an error offset refers to, relative to the start of
the input (for a range: its larger end; 0 when the error carries no offset).  Whatever the run ends with —
an error raised by the statement layer itself (`newOffsetError` with its `readUncommitted` / `readIgnored`
arguments, including the sites where Go hands the rune back first and the capture-off offset is short by
the rune's size), by a token producer, or a resolution / unknown-prefix error carrying the token's
range — the position is at most the length of the document.  For the concrete value the API shows
(`evalEOff`): a bare byte offset (capture off) is ≤ the document length; a text offset / range (capture on)
has initial byte ≤ byte ≤ initial byte + document length.  The invariant behind it (`byte_accounting`):
after any number of `Next()` calls the rune buffer's byte offset plus the bytes still unread is the
document length, and the writer holds at most what the buffer has handed out. -/

theorem doc_error_offset_inside (C : CfgO) (e : End) (capture : Bool) (base : Option (List Nat))
    (prefixes : List (List Nat × List Nat)) (inp : List RP) :
    C16.EOff.bound (runO C e capture base prefixes inp).eoff ≤ size inp :=
  Proofs.C16TtlDocO.runLoopO_B C e (size inp) _ _ (Proofs.C16TtlDocO.initO_B capture base prefixes inp)

theorem doc_error_position_inside (C : CfgO) (e : End) (capture : Bool) (base : Option (List Nat))
    (prefixes : List (List Nat × List Nat)) (inp : List RP) (cols : List Nat → Nat) (init : Offset) :
    C16.ErrInside init (size inp) (evalEOff cols init (runO C e capture base prefixes inp).eoff) :=
  Proofs.C16.errInside_of_bound cols init _ _ (doc_error_offset_inside C e capture base prefixes inp)

theorem byte_accounting (C : CfgO) (e : End) (capture : Bool) (base : Option (List Nat))
    (prefixes : List (List Nat × List Nat)) (inp : List RP) : ∀ (n : Nat) (st st' : StO),
    Proofs.C16TtlDocO.BInv (size inp) st → stepsO C e n st = some st' →
    st'.s.bo + size st'.inp = size inp ∧ (∀ h, st'.s.doc = some h → size (histRunes h) ≤ st'.s.bo)
  | 0, st, st', h, hs => by
    simp only [stepsO, Option.some.injEq] at hs
    subst hs
    exact ⟨h.1, fun d hd => by have := h.2.1 d hd; omega⟩
  | n + 1, st, st', h, hs => by
    simp only [stepsO] at hs
    have hn := Proofs.C16TtlDocO.nextO_B C e (size inp) st h
    cases hq : nextO C e st with
    | yes st1 => rw [hq] at hs hn; exact byte_accounting C e capture base prefixes inp n st1 st' hn hs
    | no st1 => rw [hq] at hs hn; exact byte_accounting C e capture base prefixes inp n st1 st' hn hs
    | panic => rw [hq] at hs; cases hs
    | outOfFuel => rw [hq] at hs; cases hs

/-! ### Defect D45 (patch c16d-1), as a fact about the model

`<s> .` (Turtle, capture off): the `.` at byte 4 is not a predicate.  `reader_scan_PredicateObjectList` hands
it back, `…_Required` then reports it with the rune as `readIgnored`: before the patch (`dbl = true`) the
byte offset is 3 — short by the size of the rune (for `[]‰` Go reports -1; the model truncates at 0) —
after the patch 4, the start of the offending rune.  Both are "inside the document" in the sense of
`doc_error_offset_inside`; only the repaired value is the position of the rune. -/

theorem handback_offset_short_legacy :
    C16.EOff.bound (runO ⟨false, Gen.turtle, fun _ r => some r, fun _ => false, fun _ => false, true⟩ .eof false none []
      ((asc "<s> .").map (fun c => (c, 1)))).eoff = 3 ∧
    C16.EOff.bound (runO ⟨false, Gen.turtle, fun _ r => some r, fun _ => false, fun _ => false, false⟩ .eof false none []
      ((asc "<s> .").map (fun c => (c, 1)))).eoff = 4 := by decide

/-- Capture off: no statement carries a range (there is no writer to produce one). -/
example : (runO ⟨false, Gen.turtle, fun _ r => some r, fun _ => false, fun _ => false, false⟩ .eof false none []
    ((asc "<a> <b> <c> , [ <p> ( 1 ) ] .").map (fun c => (c, 1)))).stmts.all
      (fun m => m.rg.s.isNone && m.rg.p.isNone && m.rg.o.isNone && m.rg.g.isNone) = true := by decide +kernel

end RdfModel.C16TtlDocO
