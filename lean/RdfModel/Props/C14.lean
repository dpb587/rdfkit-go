/-
  Property C14 — blank nodes keep identity: fresh nodes unique, labels stable and injective
  (helper lemmas live in RdfModel/Proofs/C14*.lean).

  All theorems are about `BN.step`, the executable model in Model/BlankNodes.lean that the driver runs
  (`Driver/BlankNodes.lean`, component `bn`). A *history* is `trace U (init d) ops`: the list of
  (operation, result) pairs obtained by running `ops` one after the other from process start, with the
  default factory's counter at an arbitrary value `d`. Operations carry arbitrary node / handle values,
  so the theorems cover in particular every history a Go program can produce (`runRefs_sound`).

  Schedules: every operation is one atomic step (one `atomic.Int64.Add`, or one mutex section followed by
  formatting of a local). `all_ops_atomic` & co. in Props/C14Locks.lean check the syntactic part of that claim on facts
  regenerated from the Go source on every run (T2); that lock sections and atomic adds linearise is the
  Go memory model (trusted). A concurrent execution is then equivalent to one of the sequential histories
  quantified over here.

  `U : Nat → Bytes` is the text of the k-th UUID drawn in the process; uniqueness of UUID labels assumes
  `Function.Injective U` (crypto/rand; trusted).
-/
import RdfModel.Props.C14Defs
import RdfModel.Proofs.C14
namespace RdfModel.C14
open RdfModel.BN

/-! ## Equality of blank nodes (`TermEquals`) -/

/-- `TermEquals` between nodes with identifiers is equality of the identifiers (scope and value);
    it coincides with Go's `==` on the identifier structs, which is what the providers' maps use. -/
theorem termEquals_iff (a b : Ident) : termEquals (some a) (some b) = true ↔ a = b :=
  Proofs.C14.termEquals_some a b

theorem termEquals_symm (x y : Node) : termEquals x y = termEquals y x :=
  Proofs.C14.termEquals_comm x y

/-! ## Fresh nodes -/

/-- In every history, the node returned by `NewBlankNode()` (any factory, incl. the default one and a
    string factory) or `NewStringBlankNode("")` differs from every node returned earlier by any
    operation of any factory, provider or mapper. -/
theorem fresh_unique (U : Nat → Bytes) (d : Nat) (ops : List Op) (i j : Nat) (hij : i < j)
    (opi opj : Op) (ni : Node) (idj : Ident)
    (hi : (trace U (init d) ops)[i]? = some (opi, .node ni))
    (hj : (trace U (init d) ops)[j]? = some (opj, .node (some idj)))
    (hf : FreshOp opj) :
    termEquals ni (some idj) = false ∧ termEquals (some idj) ni = false :=
  Proofs.C14.fresh_unique U d ops i j hij opi opj ni idj hi hj hf

/-- Two different calls that ask for a fresh node never return equal nodes. -/
theorem fresh_pairwise (U : Nat → Bytes) (d : Nat) (ops : List Op) (i j : Nat) (hij : i ≠ j)
    (opi opj : Op) (ni nj : Node)
    (hi : (trace U (init d) ops)[i]? = some (opi, .node ni))
    (hj : (trace U (init d) ops)[j]? = some (opj, .node nj))
    (hfi : FreshOp opi) (hfj : FreshOp opj) :
    termEquals ni nj = false :=
  Proofs.C14.fresh_pairwise U d ops i j hij opi opj ni nj hi hj hfi hfj

/-- Two calls (at different positions of a history) of `NewStringBlankNode`, on string factories `f`, `g`
    with labels `a`, `b`, return equal nodes exactly when it is the same factory and the same non-empty
    label. -/
theorem string_factory_eq (U : Nat → Bytes) (d : Nat) (ops : List Op) (i j : Nat) (hij : i ≠ j)
    (f g : Nat) (a b : Bytes) (x y : Node)
    (hi : (trace U (init d) ops)[i]? = some (.newStringBlankNode f a, .node x))
    (hj : (trace U (init d) ops)[j]? = some (.newStringBlankNode g b, .node y)) :
    termEquals x y = true ↔ (f = g ∧ a = b ∧ a ≠ []) :=
  Proofs.C14.string_factory_eq U d ops i j hij f g a b x y hi hj

/-- Nodes obtained from different factories are never equal. -/
theorem factories_disjoint (U : Nat → Bytes) (d : Nat) (ops : List Op) (i j : Nat)
    (opi opj : Op) (f g : FactoryRef) (x y : Node)
    (hi : (trace U (init d) ops)[i]? = some (opi, .node x))
    (hj : (trace U (init d) ops)[j]? = some (opj, .node y))
    (hf : opFactory opi = some f) (hg : opFactory opj = some g) (hfg : f ≠ g) :
    termEquals x y = false :=
  Proofs.C14.factories_disjoint U d ops i j opi opj f g x y hi hj hf hg hfg

/-! ## Label providers -/

/-- Any provider (int64, UUID, pass-through over any fallback) gives one node the same answer on every
    call, from the first call on, whatever happens in between. (`hb`: the handle was not dangling.) -/
theorem provider_function (U : Nat → Bytes) (d : Nat) (ops : List Op) (i j : Nat) (hij : i < j)
    (p : ProvRef) (n : Node) (oi oj : Out)
    (hi : (trace U (init d) ops)[i]? = some (.getLabel p n, oi))
    (hj : (trace U (init d) ops)[j]? = some (.getLabel p n, oj))
    (hb : oi ≠ .bad) : oj = oi :=
  Proofs.C14.provider_function U d ops i j hij p n oi oj hi hj hb

/-- An int64 or UUID provider gives different nodes different labels (any two calls of a history, in any
    order). int64: for formats with exactly one `%d`/`%v` verb and no other `%` (other formats give
    `Out.unsupported`, never `Out.label`); UUID: for an injective UUID stream. -/
theorem provider_injective (U : Nat → Bytes) (hU : Function.Injective U) (d : Nat) (ops : List Op) (i j : Nat)
    (p : ProvRef) (hp : isLeaf p = true) (n m : Node) (a b : Bytes)
    (hi : (trace U (init d) ops)[i]? = some (.getLabel p n, .label a))
    (hj : (trace U (init d) ops)[j]? = some (.getLabel p m, .label b))
    (hnm : n ≠ m) : a ≠ b :=
  Proofs.C14.provider_injective U hU d ops i j p hp n m a b hi hj hnm

/-- The pass-through provider of a string factory returns the node's own label for that factory's
    string nodes, without touching any state. -/
theorem passthrough_own_label (U : Nat → Bytes) (s : State) (sc : Nat) (fb : ProvRef) (v : Bytes) :
    step U s (.getLabel (.pass sc fb) (some (.bnString sc v))) = (s, .label v) :=
  Proofs.C14.getLabel_pass_own U s sc fb v

/-- FULL statement for the pass-through provider (`GetStringProvider(fallback)`, as installed by
    `PropagateDecoderPipeBlankNodeStringProvider`): different nodes get different labels.
    It is FALSE in general — see `passthrough_collision` below — because a label the user chose for a string
    node can coincide with a label the fallback generates. -/
def passthrough_injective_full : Prop :=
  ∀ (U : Nat → Bytes), Function.Injective U → ∀ (d : Nat) (ops : List Op) (i j : Nat) (sc : Nat) (fb : ProvRef),
    isLeaf fb = true → ∀ (n m : Node) (a b : Bytes),
    (trace U (init d) ops)[i]? = some (.getLabel (.pass sc fb) n, .label a) →
    (trace U (init d) ops)[j]? = some (.getLabel (.pass sc fb) m, .label b) →
    n ≠ m → a ≠ b

/-- Proved part: injective provided no label passed through for `n` or `m` is a label the fallback has
    handed out to any node by the end of the history (`hdis`). Missing for the full statement: nothing can
    be proved without `hdis` (counterexample below); pass-through chains (`fb` itself a pass-through) are not
    covered. -/
theorem passthrough_injective_partial (U : Nat → Bytes) (hU : Function.Injective U) (d : Nat) (ops : List Op)
    (i j : Nat) (sc : Nat) (fb : ProvRef) (hfb : isLeaf fb = true) (n m : Node) (a b : Bytes)
    (hi : (trace U (init d) ops)[i]? = some (.getLabel (.pass sc fb) n, .label a))
    (hj : (trace U (init d) ops)[j]? = some (.getLabel (.pass sc fb) m, .label b))
    (hnm : n ≠ m)
    (hdis : ∀ v x, (n = some (.bnString sc v) ∨ m = some (.bnString sc v)) →
      peek U (exec U (init d) ops) fb x ≠ some (.label v)) :
    a ≠ b :=
  Proofs.C14.passthrough_injective_partial U hU d ops i j sc fb hfb n m a b hi hj hnm hdis

/-- Default configuration: the provider installed by `PropagateDecoderPipeBlankNodeStringProvider` (pass-through
    of the decoding string factory over a fresh UUID provider with format "%s") labels every node that is
    not a string node of that factory with the bare text of a drawn UUID. Together with
    `passthrough_injective_partial` (whose `hdis` then only fails for a document label that *is* the text of a
    drawn UUID): two source nodes share a label only if a user-chosen label equals a generated UUID. -/
theorem propagate_labels_uuid (U : Nat → Bytes) (d : Nat) (ops : List Op) (i j : Nat) (hij : i < j)
    (sc : Nat) (p : ProvRef) (n : Node) (a : Bytes)
    (hi : (trace U (init d) ops)[i]? = some (.propagate (some (.strf sc)), .prov p))
    (hj : (trace U (init d) ops)[j]? = some (.getLabel p n, .label a))
    (hn : ∀ v, n ≠ some (.bnString sc v)) : ∃ k, a = U k :=
  Proofs.C14.propagate_labels_uuid U d ops i j hij sc p n a hi hj hn

/-! ## Mapper -/

/-- A mapper sends one node to the same node on every call. -/
theorem mapper_function (U : Nat → Bytes) (d : Nat) (ops : List Op) (i j : Nat) (hij : i < j)
    (m : Nat) (n : Node) (x : Node) (oj : Out)
    (hi : (trace U (init d) ops)[i]? = some (.mapNode m n, .node x))
    (hj : (trace U (init d) ops)[j]? = some (.mapNode m n, oj)) : oj = .node x := by
  have hoi := Proofs.C14.trace_out hi
  obtain ⟨id, rfl⟩ := Proofs.C14.mapNode_out _ m n x hoi
  obtain rfl := Proofs.C14.trace_out hj
  exact Proofs.C14.peekMap_mapNode _ m n id ((Proofs.C14.peekMap_after hi).1 hij)

/-- … sends different nodes to different nodes … -/
theorem mapper_injective (U : Nat → Bytes) (d : Nat) (ops : List Op) (i j : Nat)
    (m : Nat) (n n' : Node) (x y : Node)
    (hi : (trace U (init d) ops)[i]? = some (.mapNode m n, .node x))
    (hj : (trace U (init d) ops)[j]? = some (.mapNode m n', .node y))
    (hnn : n ≠ n') : termEquals x y = false := by
  have hoi := Proofs.C14.trace_out hi
  have hoj := Proofs.C14.trace_out hj
  obtain ⟨idx, rfl⟩ := Proofs.C14.mapNode_out _ m n x hoi
  obtain ⟨idy, rfl⟩ := Proofs.C14.mapNode_out _ m n' y hoj
  refine Proofs.C14.termEquals_false_of_ne _ _ fun h => ?_
  cases h
  exact hnn (Proofs.C14.peekMap_inj (Proofs.C14.inv_exec U (Proofs.C14.inv_init d) ops) m n n' idx
    ((Proofs.C14.peekMap_after hi).2) ((Proofs.C14.peekMap_after hj).2))

/-- … and the node it returns the first time it sees `n` is fresh: different from every node returned
    earlier in the history by any operation. -/
theorem mapper_fresh (U : Nat → Bytes) (d : Nat) (ops : List Op) (i j : Nat) (hij : i < j)
    (m : Nat) (n : Node) (opi : Op) (x y : Node)
    (hi : (trace U (init d) ops)[i]? = some (opi, .node x))
    (hj : (trace U (init d) ops)[j]? = some (.mapNode m n, .node y))
    (hfirst : ∀ k, k < j → ops[k]? ≠ some (.mapNode m n)) :
    termEquals x y = false := by
  have hoj := Proofs.C14.trace_out hj
  obtain ⟨idy, rfl⟩ := Proofs.C14.mapNode_out _ m n y hoj
  have hn := Proofs.C14.mapNode_fresh_not_issued m n (Proofs.C14.peekMap_none_of_first U d ops j m n hfirst) idy hoj
  exact (Proofs.C14.unique_of_not_issued U (Proofs.C14.inv_init d) ops hij opi x hi idy hn).1

/-! ## Histories written with references to earlier results (what the driver executes) -/

/-- What the driver computes for a line of referential operations is a history in the above sense. -/
theorem runRefs_sound (U : Nat → Bytes) (d : Nat) (rops : List ROp) (tr : List (Op × Out))
    (h : runRefs U (init d) [] rops = some tr) : ∃ ops, tr = trace U (init d) ops := by
  obtain ⟨ops, h⟩ := Proofs.C14.runRefs_sound U (init d) [] rops tr h
  exact ⟨ops, by simpa using h⟩

/-- the driver's UUID texts are pairwise distinct (so `hU` is satisfiable by what the driver runs) -/
theorem driverU_injective : Function.Injective driverU := Proofs.C14.driverU_inj

/-! ## Atomicity of every operation: see Props/C14Locks.lean (T2 facts regenerated from the Go source) -/

/-! ## Non-vacuity: concrete histories satisfying the hypotheses -/

/-- a history touching every kind of object -/
def exOps : List Op :=
  [ .newFactory,                                   -- 0  bnf 0
    .newStringFactory,                             -- 1  strf 0 (anon = bnf 1)
    .newBlankNode (.bnf 0),                        -- 2  bn 0 1
    .newBlankNode .dflt,                           -- 3  bnDefault 8
    .newStringBlankNode 0 [],                      -- 4  bn 1 1
    .newStringBlankNode 0 (asc "x"),               -- 5  bnString 0 "x"
    .newStringBlankNode 0 (asc "x"),               -- 6  bnString 0 "x"
    .newInt64Provider [],                          -- 7  int64 0, format "b%d"
    .getLabel (.int64 0) (some (.bn 0 1)),         -- 8  "b0"
    .getLabel (.int64 0) (some (.bnDefault 8)),    -- 9  "b1"
    .getLabel (.int64 0) (some (.bn 0 1)),         -- 10 "b0"
    .newMapper none,                               -- 11 mapper 0 over the default factory
    .mapNode 0 (some (.bn 0 1)),                   -- 12 bnDefault 9
    .mapNode 0 (some (.bnString 0 (asc "x"))),     -- 13 bnDefault 10
    .mapNode 0 (some (.bn 0 1)),                   -- 14 bnDefault 9
    .propagate (some (.strf 0)),                   -- 15 pass 0 (uuid 0)
    .getLabel (.pass 0 (.uuid 0)) (some (.bn 0 1)),               -- 16 "<U0>"
    .getLabel (.pass 0 (.uuid 0)) (some (.bnString 0 (asc "x"))), -- 17 "x"
    .getLabel (.pass 0 (.uuid 0)) (some (.bn 0 1)) ]              -- 18 "<U0>"

example : (trace driverU (init 7) exOps).map Prod.snd =
    [ .factory (.bnf 0), .factory (.strf 0), .node (some (.bn 0 1)), .node (some (.bnDefault 8)),
      .node (some (.bn 1 1)), .node (some (.bnString 0 (asc "x"))), .node (some (.bnString 0 (asc "x"))),
      .prov (.int64 0), .label (asc "b0"), .label (asc "b1"), .label (asc "b0"),
      .mapper 0, .node (some (.bnDefault 9)), .node (some (.bnDefault 10)), .node (some (.bnDefault 9)),
      .prov (.pass 0 (.uuid 0)), .label (asc "<U0>"), .label (asc "x"), .label (asc "<U0>") ] := by decide +kernel

/-- hypotheses of `fresh_unique` (i = 2, j = 4), `string_factory_eq` (5, 6), `provider_function` (8, 10),
    `provider_injective` (8, 9), `mapper_*` (12, 13, 14), `passthrough_injective_partial` (16, 17) hold here -/
example : (trace driverU (init 7) exOps)[4]? = some (.newStringBlankNode 0 [], .node (some (.bn 1 1))) ∧
    FreshOp (.newStringBlankNode 0 []) := ⟨by decide, Or.inr ⟨0, rfl⟩⟩
example : (trace driverU (init 7) exOps)[9]? = some (.getLabel (.int64 0) (some (.bnDefault 8)), .label (asc "b1")) ∧
    isLeaf (.int64 0) = true := by decide
example : ∀ v x, ((some (Ident.bn 0 1) : Node) = some (.bnString 0 v) ∨ (some (Ident.bnString 0 (asc "x")) : Node) = some (.bnString 0 v)) →
    peek driverU (exec driverU (init 7) exOps) (.uuid 0) x ≠ some (.label v) := by
  intro v x h
  rcases h with h | h
  · cases h
  · simp at h; subst h
    have hs : (exec driverU (init 7) exOps).uuids = [{ format := asc "%s", known := [(some (.bn 0 1), 0)] }] := by decide
    simp only [peek, hs]
    by_cases hx : x = some (.bn 0 1)
    · subst hx; decide
    · simp [assoc, Ne.symm hx]
example : runRefs driverU (init 0) []
    [.newStringFactory, .newStringBlankNode (.res 0) (.lit (asc "a")), .newInt64Provider [],
     .getStringProvider (.res 0) (.res 2), .getLabel (.res 3) (.res 1), .getLabel (.res 2) (.res 1)]
    = some [(.newStringFactory, .factory (.strf 0)), (.newStringBlankNode 0 (asc "a"), .node (some (.bnString 0 (asc "a")))),
            (.newInt64Provider [], .prov (.int64 0)), (.getStringProvider 0 (.int64 0), .prov (.pass 0 (.int64 0))),
            (.getLabel (.pass 0 (.int64 0)) (some (.bnString 0 (asc "a"))), .label (asc "a")),
            (.getLabel (.int64 0) (some (.bnString 0 (asc "a"))), .label (asc "b0"))] := by decide

/-! ## Witnesses -/

/-- Pass-through collision: string node `_:b0` of the decoding factory and an anonymous node of the same
    factory both get the label `b0` when the fallback is the int64 provider with its default format. -/
def collisionOps : List Op :=
  [ .newStringFactory, .newInt64Provider [], .newStringBlankNode 0 (asc "b0"), .newBlankNode (.strf 0),
    .getLabel (.pass 0 (.int64 0)) (some (.bn 0 1)),
    .getLabel (.pass 0 (.int64 0)) (some (.bnString 0 (asc "b0"))) ]

theorem passthrough_collision :
    (trace driverU (init 0) collisionOps)[4]? = some (.getLabel (.pass 0 (.int64 0)) (some (.bn 0 1)), .label (asc "b0")) ∧
    (trace driverU (init 0) collisionOps)[5]? = some (.getLabel (.pass 0 (.int64 0)) (some (.bnString 0 (asc "b0"))), .label (asc "b0")) := by
  decide

theorem passthrough_injective_full_false : ¬ passthrough_injective_full := by
  intro h
  have := h driverU driverU_injective 0 collisionOps 4 5 0 (.int64 0) rfl _ _ _ _
    passthrough_collision.1 passthrough_collision.2 (by decide)
  exact this rfl

/-- The same with the UUID fallback that `PropagateDecoderPipeBlankNodeStringProvider` installs: a string
    node whose label is the text of a UUID the provider has generated (here for an anonymous node). Not
    reachable by a document that is decoded before the UUID exists; listed for completeness. -/
theorem passthrough_collision_uuid :
    (trace driverU (init 0)
      [ .newStringFactory, .propagate (some (.strf 0)), .newBlankNode (.strf 0),
        .getLabel (.pass 0 (.uuid 0)) (some (.bn 0 1)),
        .newStringBlankNode 0 (driverU 0),
        .getLabel (.pass 0 (.uuid 0)) (some (.bnString 0 (driverU 0))) ]).map Prod.snd
    = [ .factory (.strf 0), .prov (.pass 0 (.uuid 0)), .node (some (.bn 0 1)), .label (driverU 0),
        .node (some (.bnString 0 (driverU 0))), .label (driverU 0) ] := by decide

/-- D15 (repaired by patch c14-D15-uuid-provider-first-call): before the repair
    `uuidStringProvider.GetBlankNodeString` formatted the map lookup result, i.e. the zero UUID, on the
    first request for a node. `getLabelUuidOld` is that code; the first and second answer differ. -/
def getLabelUuidOld (U : Nat → Bytes) (zero : Bytes) (s : State) (i : Nat) (n : Node) : State × Out :=
  match s.uuids[i]? with
  | none => (s, .bad)
  | some p =>
    match assoc n p.known with
    | some pos => (s, sprintf1 p.format uuidVerbs (U pos))
    | none =>
      ({ s with uuidPos := s.uuidPos + 1, uuids := s.uuids.set i { p with known := (n, s.uuidPos) :: p.known } },
       sprintf1 p.format uuidVerbs zero)    -- `index` (zero value) instead of `value`

theorem d15_old_code_unstable :
    let s0 := (step driverU (init 0) (.newUUIDProvider [])).1
    let r1 := getLabelUuidOld driverU (asc "00000000-0000-0000-0000-000000000000") s0 0 (some (.bnDefault 1))
    let r2 := getLabelUuidOld driverU (asc "00000000-0000-0000-0000-000000000000") r1.1 0 (some (.bnDefault 1))
    r1.2 = .label (asc "00000000-0000-0000-0000-000000000000") ∧ r2.2 = .label (asc "<U0>") := by decide +kernel

end RdfModel.C14
