/-
  Props.C11RaCompose — the model of the Go RDFa decoder against the fragment DENOTATION (Spec.Rdfa.procNode), composed with
  `C11.rdfa_canonical_block`, for the canonical one-element blocks of the RDFa writer (what `Spec.Rdfa.write` falls back to and,
  with no block choices, what the whole body of its document consists of).

  Bridge.  `nodeOfSpan` turns an abstract `<span>` leaf of Spec/HtmlTree into the DOM element the model walks: element node,
  DataAtom `span`, the RDFa attributes that are present in the fixed order about, property, rel, resource, content, datatype,
  lang (attribute ORDER is immaterial to the Go decoder — tied by T3, not proved), no children.  Strings are the same `List Nat`
  on both sides: exact for ASCII text; for other text the DOM carries UTF-8 bytes where the abstract tree has code points, and
  both sides only concatenate / compare the values on this fragment apart from whitespace splitting of the predicate.
  `stmtOfTr` reads a triple of the denotation (blank nodes `BId`) as a model statement when it has no blank node.

  Statement shape: under the hypotheses of `C11.rdfa_canonical_block` on the denotation side and the text-level hypotheses on the
  model side (subject an absolute IRI whose scheme is no prefix in scope, a one-token predicate denoting itself), the model's
  walk of the bridged block appends exactly the triples the denotation gives for the block.
  NOT covered: blank-node subjects/objects, typed literals, the html/head/body skeleton and hence the document-level composition
  with `C11.rdfa_roundtrip`; the relation between the two contexts is by hypotheses on each side, not by a simulation relation.
-/
import RdfModel.Props.C11
import RdfModel.Props.C11Ra
namespace RdfModel.C11Ra
open RdfModel RdfModel.Rdfad RdfModel.Desc
open RdfModel.Mdd (Node Attr Bytes Subj fields trimSpace)

def optAttr (k : String) (v : Option (List Nat)) : List Attr :=
  match v with
  | some x => [⟨[], asc k, x⟩]
  | none => []

def attrList (a : Spec.Html.Attrs) : List Attr :=
  optAttr "about" a.about ++ optAttr "property" a.property ++ optAttr "rel" a.rel ++ optAttr "resource" a.resource ++
    optAttr "content" a.content ++ optAttr "datatype" a.datatype ++ optAttr "lang" a.lang

def nodeOfSpan (i : Nat) : Spec.Html.Tree → Option Node
  | .elem .span a [] => some (.mk i 3 [] (asc "span") [] (attrList a) [])
  | _ => none

def subjOfT : Spec.Rdfa.T → Option Subj
  | .iri v => some (.iri v)
  | _ => none

def objOfT : Spec.Rdfa.T → Option Obj
  | .iri v => some (.iri v)
  | .lit l d t => some (.lit l d t)
  | .bnode _ => none

def stmtOfTr (t : Spec.Rdfa.Tr) : Option Stmt :=
  match subjOfT t.s, objOfT t.o with
  | some s, some o => some ⟨s, t.p, o⟩
  | _, _ => none

variable {β : Type}

/-- literal canonical block (plain or language-tagged literal): model = denotation -/
theorem rdfa_canonical_literal_refines_denote (lbl : β → Spec.Html.Str) (C : Spec.Rdfa.Ctx) (n : Nat)
    (si pi lex : List Nat) (lang : Option (List Nat))
    (hCinc : C.incomplete = [])
    (hCs : Spec.Rdfa.okRes C.env (Term.iri si : Term β) = true) (hCp : Spec.Rdfa.okPred C.env pi = true)
    (hCo : Spec.Rdfa.okObj C.env (Term.lit lex (if lang.isSome then rdfLangString else xsdString) lang : Term β) = true)
    (E : Env) (cfg : Cfg) (ctx : Ctx) (st : St) (i : Nat)
    (hbad : st.bad = none) (hinc : ctx.incomplete = []) (hmap : st.getMap ctx.listMapping = [])
    (hs : absRef ctx.prefixes si = true) (hp : predIRI ctx.prefixes pi = some pi) :
    let t : Triple β := ⟨.iri si, pi, .lit lex (if lang.isSome then rdfLangString else xsdString) lang⟩
    ∃ nd, nodeOfSpan i (Spec.Rdfa.canon lbl t) = some nd ∧
      (walk E cfg false ctx st nd).bad = none ∧
      (walk E cfg false ctx st nd).out.map some =
        st.out.map some ++ (Spec.Rdfa.procNode C [] n (Spec.Rdfa.canon lbl t)).out.map stmtOfTr := by
  intro t
  have hspec := C11.rdfa_canonical_block lbl C n t hCinc hCs hCp hCo
  have hnode : nodeOfSpan i (Spec.Rdfa.canon lbl t) = some (litBlock i si pi lex (lang.getD [])) := by
    cases lang <;> simp [t, Spec.Rdfa.canon, Spec.Rdfa.refOf, nodeOfSpan, attrList, optAttr, litBlock]
  have href : refIRI ctx.prefixes si = some si := by simp [refIRI, hs]
  have hm := rdfa_refines_denote_literal_text_partial E cfg ctx st i si pi lex (lang.getD []) si pi hbad hinc hmap href hp
  refine ⟨_, hnode, hm.1, ?_⟩
  rw [hm.2, hspec]
  cases lang with
  | none => simp [t, Triple.map, Term.map, stmtOfTr, subjOfT, objOfT, plainLit]
  | some l =>
    have hl : l ≠ [] := by
      simp [Spec.Rdfa.okObj] at hCo
      intro h0; simp [h0] at hCo
    simp [t, Triple.map, Term.map, stmtOfTr, subjOfT, objOfT, plainLit, hl]

/-- resource canonical block (IRI object): model = denotation -/
theorem rdfa_canonical_resource_refines_denote (lbl : β → Spec.Html.Str) (C : Spec.Rdfa.Ctx) (n : Nat) (si pi oi : List Nat)
    (hCinc : C.incomplete = [])
    (hCs : Spec.Rdfa.okRes C.env (Term.iri si : Term β) = true) (hCp : Spec.Rdfa.okPred C.env pi = true)
    (hCo : Spec.Rdfa.okObj C.env (Term.iri oi : Term β) = true)
    (E : Env) (cfg : Cfg) (ctx : Ctx) (st : St) (i : Nat)
    (hbad : st.bad = none) (hinc : ctx.incomplete = []) (hmap : st.getMap ctx.listMapping = [])
    (hs : absRef ctx.prefixes si = true) (ho : absRef ctx.prefixes oi = true) (hp : predIRI ctx.prefixes pi = some pi) :
    let t : Triple β := ⟨.iri si, pi, .iri oi⟩
    ∃ nd, nodeOfSpan i (Spec.Rdfa.canon lbl t) = some nd ∧
      (walk E cfg false ctx st nd).bad = none ∧
      (walk E cfg false ctx st nd).out.map some =
        st.out.map some ++ (Spec.Rdfa.procNode C [] n (Spec.Rdfa.canon lbl t)).out.map stmtOfTr := by
  intro t
  have hspec := C11.rdfa_canonical_block lbl C n t hCinc hCs hCp hCo
  have hnode : nodeOfSpan i (Spec.Rdfa.canon lbl t) = some (resBlock i si pi oi) := by
    simp [t, Spec.Rdfa.canon, Spec.Rdfa.refOf, nodeOfSpan, attrList, optAttr, resBlock]
  have hm := rdfa_refines_denote_resource_text_partial E cfg ctx st i si pi oi si oi pi hbad hinc hmap
    (by simp [refIRI, hs]) (by simp [refIRI, ho]) hp
  refine ⟨_, hnode, hm.1, ?_⟩
  rw [hm.2, hspec]
  simp [t, Triple.map, Term.map, stmtOfTr, subjOfT, objOfT]

/-- the hypotheses of both composed theorems hold for ordinary values: subject `http://a.example/x`, predicate
    `http://v.example/p`, object `http://b.example/y`, in the body context of a document at `http://ex.org/d` with no prefixes,
    and in a model context with the same base under the document's subject -/
example :
    let C := Spec.Rdfa.bodyCtx (asc "http://ex.org/d") [] [] {}
    let si := asc "http://a.example/x"; let pi := asc "http://v.example/p"; let oi := asc "http://b.example/y"
    C.incomplete = [] ∧ Spec.Rdfa.okRes C.env (Term.iri si : Term Nat) = true ∧ Spec.Rdfa.okPred C.env pi = true ∧
    Spec.Rdfa.okObj C.env (Term.iri oi : Term Nat) = true ∧
    Spec.Rdfa.okObj C.env (Term.lit (asc "x") rdfLangString (some (asc "en")) : Term Nat) = true ∧
    absRef [] si = true ∧ absRef [] oi = true ∧ predIRI [] pi = some pi := by decide +kernel

end RdfModel.C11Ra
