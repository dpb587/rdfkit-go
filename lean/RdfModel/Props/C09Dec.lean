/-
  Property theorems about the executable model of the RDF/XML decoder (Model/RdfXmlDecoder.lean, the
  model the driver op `rxd.dec` runs).  Serves C05 (no panic, termination), C06 (shape of the emitted
  statements), C09 (the decoder itself, not only the fragment semantics).

  Termination / bounded time: `RXD.run` is structural recursion over the token list and performs
  exactly one `RXD.step` per token (no fuel): the decoder model reads each token once and never
  backtracks, so the number of steps is at most the number of tokens — there is nothing to prove beyond
  the definition being accepted by Lean's structural termination checker.  Every loop inside a step is
  structural recursion over the attribute list of the current start tag.

  Proved here (all about `RXD.decode`, the function the driver op `rxd.dec` runs)
    * `rxd_no_panic`            (C05) for every parameter instance with `EmptyRefOK`, every default base, every token
                                list and every terminator the model does not reach `panic`
    * `rxd_no_panic_needs_hyp`  the hypothesis is needed: a witness where `Base.Parse("")` fails panics
    * `rxd_error_hides_statements`  on an error nothing is observable (decoder.go's Next)
    * `rxd_emits_wf`            (C06) every appended statement is well-formed, also before an error; no hypotheses
    * `rxd_decode_render_leaf`  (C09) leaf fragment: decoder model on the tokens of a rendered well-formed plan =
                                the intended triples, as lists
    * `rxd_refines_denote_partial`          … hence = `RX.denoteDoc` of the rendered tree (leaf fragment, exact)
    * `rxd_decode_render_striped`, `rxd_refines_denote_striped_partial`
                                the same for the striped fragment (leaf + nested node elements + parseType="Resource" +
                                property attributes on empty property elements), up to a permutation (same blank nodes)
    * `rxd_decode_write_flat`(`_rfc3986`)   decoder ∘ tokens ∘ flat writer = the graph, exactly
    * `rxd_decode_write_partial`            decoder ∘ tokens ∘ `RX.write g ch` ≅ g for every striped choice
    * `emptyRefNoFrag_rfc3986`  the resolver hypothesis of the above holds for RFC 3986 resolution
    * `rxd_accepts_more`        the decoder accepts a document the grammar rejects ("error iff error" is false)
    * `Witness.rxd_refines_denote_witness`  ONE instance of the full refinement statement incl. a collection (with
                                the renaming it needs), by kernel evaluation
  NOT proved here: `RxdRefinesDenote` in full (stays a `def`).  Props/C09Dec2.lean goes further on rendered plans
  (parseType="Collection" whose items generate no blank node, rdf:type="…" and other rdf:-namespace property attributes,
  rdf:ID on node elements conditionally); collections with anonymous items, the unconditional rdf:ID statement and
  trees that are not `renderDoc` of a plan (attribute order, white space, comments) are covered by the T3
  correspondence of go/cmd/c09 -mode dec only.
-/
import RdfModel.Proofs.C09DecWF
import RdfModel.Proofs.C09DecRfc
import RdfModel.Proofs.C09Dec2Sim
import RdfModel.Props.C09
namespace RdfModel.C09Dec
open RdfModel RdfModel.Desc RdfModel.RX RdfModel.RXD

/-- the parameter instance of the driver (without a render table) -/
def rfcParams : Params :=
  { resolve := fun b r => some (Spec.RFC3986.resolve b r), parseOK := fun _ => true, render := fun _ => some [] }

/-- **C05 for the RDF/XML decoder model.**  Whatever the tokenizer delivers — any token list (balanced or
    not), any terminator — and whatever the default base, the decoder model never reaches a Go panic
    (unchecked type assertion, slice index, nil dereference), as long as `Base.Parse("")` cannot fail. -/
theorem rxd_no_panic (P : Params) (hP : P.EmptyRefOK) (base : Option Str) (toks : List Tok) (fin : Fin) :
    decode P base toks fin ≠ .panic :=
  fun h => (decode_sat P base toks fin).2.1 h hP

/-- the hypothesis holds for the driver's instance … -/
example : rfcParams.EmptyRefOK := by intro b; simp [rfcParams]

/-- … and for every instance whose `resolve` is total -/
example (f : Str → Str → Str) (ok : Str → Bool) (r : List Tok → Option Str) :
    Params.EmptyRefOK { resolve := fun b v => some (f b v), parseOK := ok, render := r } := by
  intro b; simp

/-- `ResolveIRI("")` dereferences the result of `Base.Parse("")` without looking at the error: were it
    able to fail, `<rdf:Description rdf:about=""/>` would panic. -/
theorem rxd_no_panic_needs_hyp :
    decode { resolve := fun _ _ => none, parseOK := fun _ => true, render := fun _ => some [] }
      (some (asc "http://e/")) [.start rdfNS n_Description [⟨rdfNS, n_about, []⟩]] .eof = .panic := by
  decide

/-- `Next` returns false as soon as `parseAll` has set an error: no statement is observable then -/
theorem rxd_error_hides_statements (e : E) (ts : List T) : observe (.err e ts) = some (.error e) := rfl

/-! ## Shape of the emitted statements -/

/-- **C06 for the RDF/XML decoder model.**  Every statement appended to `d.statements` — observable or
    discarded because of a later error — has an IRI or blank node as subject (the predicate is an IRI and a
    literal has a datatype by type), and a literal object carries a language tag exactly when its
    datatype is rdf:langString, the tag is then non-empty, and the datatype is never rdf:dirLangString.
    No hypothesis on the parameters, the token list or the terminator.  (Not covered: that IRIs are
    non-empty/absolute — `rdf:datatype=""` without any base yields the datatype IRI `""`, exactly as in Go.) -/
theorem rxd_emits_wf (P : Params) (base : Option Str) (toks : List Tok) (fin : Fin) :
    ∀ t ∈ emitted (decode P base toks fin), WFTriple t :=
  (decode_sat P base toks fin).1

/-! ## The decoder model against the fragment semantics (C09) -/

/-- FULL refinement statement (NOT proved; `rxd_refines_denote_partial` below proves it for rendered plans of
    the leaf fragment with `=` instead of permutation/renaming): on the token stream of a tree the
    denotation accepts, the decoder model yields the denotation up to a permutation of the statements and a
    bijective renaming of generated blank nodes.  Permutation and renaming cannot be dropped: the decoder
    emits the statement of a resourcePropertyElt after the nested node element's statements, emits the
    property-attribute statements of an empty property element before the element's own statement, emits
    rdf:type / rdf:-namespace property attributes of a node element at another position than the other property
    attributes, and numbers a collection cell after its item; the denotation does each the other way round.
    Only this direction can hold: the decoder accepts more than the grammar (non-white-space text between
    elements, attributes without namespace, property attributes on rdf:RDF are ignored; rdf:ID values of property
    elements are not checked for uniqueness), so "error iff error" is false — see `rxd_accepts_more`. -/
def RxdRefinesDenote : Prop :=
  ∀ (rs : Str → Str → Str) (base : Str) (t : Node) (ts : List T), EmptyRefNoFrag rs →
    denoteDoc rs ⟨base, none⟩ t = .ok ts →
    ∃ (ts' : List T) (σ : BN → BN), (∀ a b, σ a = σ b → a = b) ∧ (∀ b, ∃ a, σ a = b) ∧
      decode (mkP rs (fun c => ((rawTable t).lookup c).getD (some []))) (some base) (tokensDoc t) .eof = .ok ts' ∧
      (ts'.map (Triple.map σ)).Perm ts

/-- **Decoder model on rendered plans of the leaf fragment.**  For every resolution function (total, resolving
    the empty reference to something without fragment), every document base and every well-formed plan `d` of
    the LEAF fragment (`leafDoc`, Props/C09DecDefs.lean: typed / rdf:Description node elements with rdf:about /
    rdf:nodeID / anonymous subjects, xml:base and xml:lang on any element, literal property attributes outside
    the RDF namespace, property elements that are literal / rdf:datatype / empty / rdf:resource / rdf:nodeID /
    parseType="Literal"-or-other, written by name or as rdf:li, with or without rdf:ID reification), the decoder
    model run on the token stream of the rendered tree ends cleanly and yields EXACTLY the plan's intended
    triples: same statements, same order, same generated blank nodes.
    `render`: the encoder parameter must give back opaque parseType="Literal" content. -/
theorem rxd_decode_render_leaf (rs : Str → Str → Str) (hf : EmptyRefNoFrag rs) (render : List Tok → Option Str)
    (hr : ∀ c, render [.chars c] = some c) (base : Str) (d : PDoc) (hleaf : leafDoc d = true)
    (hwf : wfDoc rs ⟨base, none⟩ d = true) :
    decode (mkP rs render) (some base) (tokensDoc (renderDoc d)) .eof = .ok (flatDoc d) :=
  let ⟨_, h1, _, he⟩ := sim_doc_full hf hr base d (fullNodes_of_leaf d.nodes hleaf) hwf
  he hleaf ▸ h1

/-- **Refinement to the fragment semantics, partial.**  Under the hypotheses of `rxd_decode_render_leaf` the
    decoder model and `RX.denoteDoc` agree on the rendered tree: same statements in the same order.
    MISSING with respect to `RxdRefinesDenote`: trees that are not `renderDoc` of a plan (other attribute orders,
    white-space / split text, comments, processing instructions: T3 only), and the productions outside the leaf
    fragment: resourcePropertyElt (nested node elements), parseType="Resource", parseType="Collection", rdf:ID on node
    elements (the used-ID bookkeeping), rdf:type and other rdf:-namespace property attributes, property attributes /
    lone rdf:datatype on empty property elements — for these see the striped theorems below and Props/C09Dec2.lean,
    which hold up to a permutation. -/
theorem rxd_refines_denote_partial (rs : Str → Str → Str) (hf : EmptyRefNoFrag rs) (render : List Tok → Option Str)
    (hr : ∀ c, render [.chars c] = some c) (base : Str) (d : PDoc) (hleaf : leafDoc d = true)
    (hwf : wfDoc rs ⟨base, none⟩ d = true) :
    observe (decode (mkP rs render) (some base) (tokensDoc (renderDoc d)) .eof) =
      some ((denoteDoc rs ⟨base, none⟩ (renderDoc d)).mapError (fun _ => E.xmlSyntax)) := by
  rw [rxd_decode_render_leaf rs hf render hr base d hleaf hwf, C09.denote_render rs ⟨base, none⟩ d hwf]
  rfl

theorem leafDoc_flatPlan {β : Type} (label : β → Str) (g : List (Triple β)) : leafDoc (flatPlan label g) = true := by
  simp only [leafDoc, flatPlan, List.all_map, List.all_eq_true]
  intro t _
  simp only [Function.comp, flatPlanNode, leafNode, List.all_nil, List.all_cons, Bool.and_true]
  have h1 : leafSubj (flatSubj label t.s) = true := by cases t.s <;> rfl
  have h2 : leafProp (flatProp1 label t.p t.o) = true := by
    cases t.o with
    | iri i => rfl
    | bnode b => rfl
    | lit lex dt lang =>
      cases lang with
      | some l => simp only [flatProp1]; split <;> rfl
      | none =>
        simp only [flatProp1]
        split
        · split <;> rfl
        · rfl
  simp [h1, h2]

/-- **Decoder ∘ tokens ∘ flat writer = identity** (the composition with C09's `flatPlan_ok`): every graph of
    the fragment, written in the unabbreviated style the writer `RX.write` falls back to (one rdf:Description per
    triple, rdf:about / rdf:nodeID subjects, rdf:resource / rdf:nodeID / text objects with xml:lang or
    rdf:datatype), is decoded by the decoder model to exactly that graph, statement by statement in order,
    each blank node `b` becoming the one named `label b`. -/
theorem rxd_decode_write_flat {β : Type} (rs : Str → Str → Str) (hf : EmptyRefNoFrag rs) (render : List Tok → Option Str)
    (hr : ∀ c, render [.chars c] = some c) (base : Str) (label : β → Str) (hl : C09.LabelsOK label)
    (g : List (Triple β)) (hg : ∀ t ∈ g, C09.TripleOK rs base t) :
    decode (mkP rs render) (some base) (tokensDoc (renderDoc (flatPlan label g))) .eof =
      .ok (g.map (Triple.map (fun b => BN.named (label b)))) := by
  obtain ⟨h1, h2⟩ := C09.flatPlan_ok rs base label hl g hg
  rw [rxd_decode_render_leaf rs hf render hr base _ (leafDoc_flatPlan label g) h1, h2]

/-- **Decoder model on rendered plans of the striped fragment.**  The leaf fragment plus the two nesting
    productions resourcePropertyElt (nested node elements, to any depth) and parseType="Resource" (nested property
    lists with their own rdf:li counter and generated blank node), and empty property elements with literal property
    attributes / rdf:resource / rdf:nodeID / a lone rdf:datatype, `stripedDoc` in Props/C09DecDefs.lean: the decoder
    model ends cleanly and yields the plan's intended triples with the SAME generated blank nodes, as a
    permutation (it emits the statement of a resourcePropertyElt, and its reification, after the statements of
    the nested node element, and the property-attribute statements of an empty property element before the
    element's own statement; `flatDoc`/`denoteDoc` do it the other way round). -/
theorem rxd_decode_render_striped (rs : Str → Str → Str) (hf : EmptyRefNoFrag rs) (render : List Tok → Option Str)
    (hr : ∀ c, render [.chars c] = some c) (base : Str) (d : PDoc) (hs : stripedDoc d = true)
    (hwf : wfDoc rs ⟨base, none⟩ d = true) :
    ∃ ts, decode (mkP rs render) (some base) (tokensDoc (renderDoc d)) .eof = .ok ts ∧ ts.Perm (flatDoc d) :=
  let ⟨ts, h1, h2, _⟩ := sim_doc_full hf hr base d (fullNodes_of_striped _ hs) hwf
  ⟨ts, h1, h2⟩

/-- **Refinement to the fragment semantics, partial (striped fragment).**  On the rendered tree of every
    well-formed striped plan the decoder model and `RX.denoteDoc` both succeed and yield the same statements with
    the same blank nodes, up to a permutation.
    MISSING with respect to `RxdRefinesDenote`: trees that are not `renderDoc` of a plan (attribute order,
    white-space / split text, comments, processing instructions); parseType="Collection" (needs the renaming
    of cells/items); rdf:ID on node elements; rdf:type and other rdf:-namespace property attributes.  Props/C09Dec2.lean
    covers collections whose items generate no blank node, the rdf:-namespace property attributes and, conditionally,
    rdf:ID on node elements; the rest is exercised by T3 only. -/
theorem rxd_refines_denote_striped_partial (rs : Str → Str → Str) (hf : EmptyRefNoFrag rs) (render : List Tok → Option Str)
    (hr : ∀ c, render [.chars c] = some c) (base : Str) (d : PDoc) (hs : stripedDoc d = true)
    (hwf : wfDoc rs ⟨base, none⟩ d = true) :
    ∃ ts ds, decode (mkP rs render) (some base) (tokensDoc (renderDoc d)) .eof = .ok ts ∧
      denoteDoc rs ⟨base, none⟩ (renderDoc d) = .ok ds ∧ ts.Perm ds := by
  obtain ⟨ts, h1, h2⟩ := rxd_decode_render_striped rs hf render hr base d hs hwf
  exact ⟨ts, flatDoc d, h1, C09.denote_render rs ⟨base, none⟩ d hwf, h2⟩

/-- **Decoder ∘ tokens ∘ writer, partial**: for every choice whose plan lies in the striped fragment the
    decoder model reads back what `RX.write` wrote: the graph up to a permutation of the statements and the
    renaming of blank nodes given by the choice (or by `label` when the choice is invalid and the flat plan is
    used).  With `hσ` injective this is graph isomorphism.
    MISSING: choices outside the striped fragment (collections, rdf:ID subjects, rdf:type attributes, …). -/
theorem rxd_decode_write_partial {β : Type} (rs : Str → Str → Str) (hf : EmptyRefNoFrag rs) (render : List Tok → Option Str)
    (hr : ∀ c, render [.chars c] = some c) (base : Str) (label : β → Str) (hl : C09.LabelsOK label)
    (g : List (Triple β)) (hg : ∀ t ∈ g, C09.TripleOK rs base t) (ch : Choices β) (hs : stripedDoc ch.plan = true) :
    ∃ (out : List T) (σ : β → BN),
      decode (mkP rs render) (some base) (tokensDoc (write rs base label g ch)) .eof = .ok out ∧
      out.Perm (g.map (Triple.map σ)) ∧ (σ = ch.rename ∨ σ = fun b => BN.named (label b)) := by
  unfold write
  split
  · rename_i hc
    simp only [Bool.and_eq_true, List.isPerm_iff] at hc
    obtain ⟨ts, h1, h2⟩ := rxd_decode_render_striped rs hf render hr base _ hs hc.1
    exact ⟨ts, ch.rename, h1, h2.trans hc.2, .inl rfl⟩
  · exact ⟨_, _, rxd_decode_write_flat rs hf render hr base label hl g hg, List.Perm.refl _, .inr rfl⟩

/-- stray text between property elements -/
def strayTree : Node :=
  .elem rdfNS n_RDF [] [.elem rdfNS n_Description [⟨rdfNS, n_about, asc "http://e/s"⟩]
    [.text (asc "stray"), .elem (asc "http://e/") (asc "p") [] [.text (asc "v")]]]

def isSyntaxError : Except Err (List T) → Bool
  | .error .syntax => true
  | _ => false

/-- the decoder accepts documents the grammar rejects (`strayTree`): "error iff error" does not hold, only
    `denote ok → decoder ok` can -/
theorem rxd_accepts_more :
    isSyntaxError (denoteDoc Spec.RFC3986.resolve ⟨asc "http://b/", none⟩ strayTree) = true ∧
    decode rfcParams (some (asc "http://b/")) (tokensDoc strayTree) .eof =
      .ok [⟨.iri (asc "http://e/s"), asc "http://e/p", .lit (asc "v") xsdString none⟩] := by
  decide +kernel

/-! ## The hypotheses hold for the driver's instance; non-vacuity -/

/-- RFC 3986 resolution (the driver's instance of `resolve`) resolves the empty reference to a string without
    fragment: the hypothesis `EmptyRefNoFrag` of the theorems above holds for it. -/
theorem emptyRefNoFrag_rfc3986 : EmptyRefNoFrag Spec.RFC3986.resolve :=
  fun b => dropFragment_noHash _ (resolve_nil_noHash b)

/-- `rxd_decode_write_flat` for RFC 3986 resolution, no hypothesis on the resolver left -/
theorem rxd_decode_write_flat_rfc3986 {β : Type} (render : List Tok → Option Str) (hr : ∀ c, render [.chars c] = some c)
    (base : Str) (label : β → Str) (hl : C09.LabelsOK label) (g : List (Triple β))
    (hg : ∀ t ∈ g, C09.TripleOK Spec.RFC3986.resolve base t) :
    decode (mkP Spec.RFC3986.resolve render) (some base) (tokensDoc (renderDoc (flatPlan label g))) .eof =
      .ok (g.map (Triple.map (fun b => BN.named (label b)))) :=
  rxd_decode_write_flat _ emptyRefNoFrag_rfc3986 render hr base label hl g hg

/- witnesses for the leaf, striped and writer theorems above; `render` also serves the witnesses of Props/C09Dec2.lean -/
namespace LeafWitness
def s (x : String) : Str := asc x
def ex : Str := s "http://e/"

/-- a render parameter that gives back opaque content -/
def render : List Tok → Option Str
  | [.chars c] => some c
  | _ => some []

/-- a plan of the leaf fragment: xml:base + xml:lang on rdf:RDF, a typed node with a relative rdf:about and a property
    attribute, a literal property with xml:lang="" and rdf:ID (reified), rdf:li with rdf:datatype, an empty rdf:li,
    rdf:resource under a nested xml:base, rdf:nodeID, parseType="Literal"; an anonymous second node -/
def plan : PDoc :=
  { sc := { base := some (s "http://b/d/"), lang := some (s "en") }
    nodes := [
      .mk {} (.about (s "http://b/d/a") (s "a")) (some (ex, s "T")) [.lit ex (s "pa") (s "v") (some (s "en"))]
        [.lit { lang := some [] } (.el ex (s "p")) (some (s "http://b/d/#r1", s "r1")) (s "hi") none,
         .typed {} (.li (rdfMember 1)) none (s "1") (s "http://b/d/dt") (s "dt"),
         .empty {} (.li (rdfMember 2)) none (some (s "en")),
         .res { base := some (s "http://o/") } (.el ex (s "q")) none (s "http://o/x") (s "x") [],
         .bref {} (.el ex (s "r")) none (s "n1") [],
         .ptLit {} (.el ex (s "t")) none (s "Literal") (s "<a/>")],
      .mk {} (.anon 0) none [] [] ] }

theorem plan_leaf : leafDoc plan = true := by decide
theorem plan_wf : wfDoc Spec.RFC3986.resolve ⟨s "http://b/doc", none⟩ plan = true := by decide +kernel

/-- the hypotheses of `rxd_decode_render_leaf` are satisfiable by a non-trivial plan (12 statements) -/
example : decode (mkP Spec.RFC3986.resolve render) (some (s "http://b/doc")) (tokensDoc (renderDoc plan)) .eof =
    .ok (flatDoc plan) :=
  rxd_decode_render_leaf _ emptyRefNoFrag_rfc3986 render (fun _ => rfl) _ plan plan_leaf plan_wf

example : (flatDoc plan).length = 12 := by decide

/-- … and those of the writer theorems by C09's witness graph -/
example : decode (mkP Spec.RFC3986.resolve render) (some C09.Witness.base)
    (tokensDoc (renderDoc (flatPlan C09.Witness.label C09.Witness.g))) .eof =
    .ok (C09.Witness.g.map (Triple.map (fun b => BN.named (C09.Witness.label b)))) :=
  rxd_decode_write_flat_rfc3986 render (fun _ => rfl) _ _ C09.Witness.labelsOK _ C09.Witness.g_ok

/-- a plan of the striped fragment: a nested node element (reified by rdf:ID, typed, with its own rdf:li) and a
    parseType="Resource" property holding an rdf:li and a nested anonymous node -/
def splan : PDoc :=
  { sc := { base := some (s "http://b/d/") }
    nodes := [
      .mk {} (.about (s "http://b/d/a") (s "a")) none []
        [.node {} (.li (rdfMember 1)) (some (s "http://b/d/#r2", s "r2"))
           (.mk { lang := some (s "de") } (.anon 0) (some (ex, s "T")) []
              [.lit {} (.li (rdfMember 1)) none (s "x") (some (s "de"))]),
         .ptRes {} (.el ex (s "u")) none 1
           [.empty {} (.li (rdfMember 1)) none none,
            .node {} (.el ex (s "w")) none (.mk {} (.anon 2) none [] []),
            .res {} (.el ex (s "x")) none (s "http://b/d/o") (s "o") [.lit ex (s "pa") (s "1") none],
            .banon {} (.el ex (s "y")) none 3 none [.lit ex (s "pb") (s "2") none]]] ] }

theorem splan_striped : stripedDoc splan = true := by decide
theorem splan_wf : wfDoc Spec.RFC3986.resolve ⟨s "http://b/doc", none⟩ splan = true := by decide +kernel

/-- the hypotheses of `rxd_decode_render_striped` are satisfiable by a plan that uses both nesting productions -/
example : ∃ ts, decode (mkP Spec.RFC3986.resolve render) (some (s "http://b/doc")) (tokensDoc (renderDoc splan)) .eof = .ok ts ∧
    ts.Perm (flatDoc splan) :=
  rxd_decode_render_striped _ emptyRefNoFrag_rfc3986 render (fun _ => rfl) _ splan splan_striped splan_wf

/-- the permutation is needed: here the decoder's order is not `flatDoc`'s -/
example : decode (mkP Spec.RFC3986.resolve render) (some (s "http://b/doc")) (tokensDoc (renderDoc splan)) .eof ≠
    .ok (flatDoc splan) := by decide +kernel

/-- the hypotheses of `rxd_decode_write_partial` are satisfiable: C09's witness graph with C09's striped choice
    (relative rdf:about under xml:base, a nested anonymous node element with rdf:li, xml:lang="" on a node, rdf:datatype
    under a nested xml:base) — the writer uses that choice (`C09.Witness.plan2_wf`, `plan2_writes_g`) -/
theorem witness_choice_striped : stripedDoc C09.Witness.plan2 = true := by decide

example : ∃ (out : List T) (σ : Bool → BN),
    decode (mkP Spec.RFC3986.resolve render) (some C09.Witness.base)
      (tokensDoc (write Spec.RFC3986.resolve C09.Witness.base C09.Witness.label C09.Witness.g ⟨C09.Witness.plan2, C09.Witness.rename⟩)) .eof = .ok out ∧
    out.Perm (C09.Witness.g.map (Triple.map σ)) ∧
    (σ = C09.Witness.rename ∨ σ = fun b => BN.named (C09.Witness.label b)) :=
  rxd_decode_write_partial _ emptyRefNoFrag_rfc3986 render (fun _ => rfl) _ _ C09.Witness.labelsOK _ C09.Witness.g_ok
    ⟨C09.Witness.plan2, C09.Witness.rename⟩ witness_choice_striped

end LeafWitness

/-! ## One checked instance of the refinement statement -/

namespace Witness
def exNS : Str := asc "http://e/"
def wTree : Node :=
  .elem rdfNS n_RDF [⟨xmlNS, n_base, asc "http://b/d/"⟩] [
    .elem exNS (asc "T") [⟨rdfNS, n_about, asc "s"⟩, ⟨xmlNS, n_lang, asc "en"⟩, ⟨exNS, asc "a", asc "v"⟩] [
      .elem exNS (asc "p") [⟨rdfNS, n_ID, asc "r1"⟩] [.text (asc "hi")],
      .elem rdfNS n_li [] [.elem rdfNS n_Description [⟨rdfNS, n_nodeID, asc "n"⟩] []],
      .elem exNS (asc "q") [⟨rdfNS, n_parseType, n_Collection⟩] [.elem rdfNS n_Description [] []],
      .elem exNS (asc "r") [⟨rdfNS, n_parseType, n_Resource⟩] [.elem rdfNS n_li [⟨rdfNS, n_resource, asc "#x"⟩] []]]]

def swap01 : BN → BN
  | .gen 0 => .gen 1
  | .gen 1 => .gen 0
  | b => b

def agrees (base : Str) (t : Node) (σ : BN → BN) : Bool :=
  match decode rfcParams (some base) (tokensDoc t) .eof, denoteDoc Spec.RFC3986.resolve ⟨base, none⟩ t with
  | .ok ts, .ok ds => (ts.map (Triple.map σ)).isPerm ds
  | _, _ => false

/-- INSTANCE of `RxdRefinesDenote`, checked by kernel evaluation (not the general theorem): on a tree using a
    typed node element, rdf:about relative to a nested xml:base, xml:lang, a property attribute, a literal
    property element with rdf:ID (reification), rdf:li with a nested rdf:nodeID node, parseType="Collection" and
    parseType="Resource" with its own rdf:li counter, the decoder model yields the denotation up to a
    permutation and the renaming that swaps the collection cell with its item. -/
theorem rxd_refines_denote_witness : agrees (asc "http://b/doc") wTree swap01 = true := by decide +kernel
/-- `rxd_emits_wf` is not vacuous: this run emits 13 statements -/
example : (emitted (decode rfcParams (some (asc "http://b/doc")) (tokensDoc wTree) .eof)).length = 13 := by decide +kernel

end Witness

end RdfModel.C09Dec
