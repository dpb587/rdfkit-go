/-
  Property C16 — captured text offsets point at the text the term was read from
  (N-Triples and N-Quads decoders; theorems only, proofs in RdfModel/Proofs/C16*.lean).

  Models: `Model.NQOffsets` (namespace `NQO`, the decoder with Go's commit bookkeeping),
  `Model.TextWriter` (namespace `TW`, `cursorio.TextWriter`), base decoder `Model.NQuads` (`NQ`).
  Input of the instrumented decoder: decoded runes `(code point, byte size)` as `RuneBuffer.NextRune`
  yields them (an ill-formed byte is `(0xFFFD, 1)`); `runes inp` are the code points, `size inp` the
  number of bytes.  All theorems hold for every input, both packages (`quads`), both stream endings
  (`e`), every URL acceptance function, every table set `T` (the two table facts `PnFacts` are
  needed by `token_reparses` only and are proved for the regenerated tables below), every initial
  offset `init` and every grapheme-cluster counter `cols` (columns: see `offsets_exact`).

  `legacy = false` is the repaired code (patch nqoff-fix-literal-suffix-error-offset); all theorems
  except `error_offsets_inside` hold for both values.
-/
import RdfModel.Props.C16Defs
import RdfModel.Proofs.C16
import RdfModel.Gen.NQTables
namespace RdfModel.C16
open RdfModel RdfModel.NQ RdfModel.TW RdfModel.NQO

/-- **Offsets do not change the statements.** The instrumented run — capture on or off, any
    history — yields exactly the statements and the verdict of the base model `NQ.run` on the code
    points. In particular turning capture on changes nothing (`capture_irrelevant`). -/
theorem offsets_do_not_change_statements (T : Tables) (urlOk : List Nat → Bool) (e : End)
    (legacy quads capture : Bool) (inp : List RP) :
    ((NQO.run T urlOk e legacy quads capture inp).stmts.map Prod.fst,
      (NQO.run T urlOk e legacy quads capture inp).verdict) = NQ.run T urlOk e quads (runes inp) := by
  unfold NQO.run NQ.run
  rw [Proofs.C16.runFuel_erase]
  simp [runes]

theorem capture_irrelevant (T : Tables) (urlOk : List Nat → Bool) (e : End) (legacy quads : Bool)
    (inp : List RP) :
    ((NQO.run T urlOk e legacy quads true inp).stmts.map Prod.fst,
      (NQO.run T urlOk e legacy quads true inp).verdict)
    = ((NQO.run T urlOk e legacy quads false inp).stmts.map Prod.fst,
      (NQO.run T urlOk e legacy quads false inp).verdict) := by
  rw [offsets_do_not_change_statements, offsets_do_not_change_statements]

/-- Without capture no range is reported. -/
theorem no_ranges_without_capture (T : Tables) (urlOk : List Nat → Bool) (e : End)
    (legacy quads : Bool) (inp : List RP) (q : Quad (List Nat)) (rg : Ranges)
    (hmem : (q, rg) ∈ (NQO.run T urlOk e legacy quads false inp).stmts) :
    rg.s = none ∧ rg.p = none ∧ rg.o = none ∧ rg.g = none :=
  Proofs.C16.slots_none T urlOk inp q rg (Proofs.C16.run_stmts_ok T urlOk e legacy quads false inp _ hmem)

/-- **Commit discipline.** After any number `n` of `Next()` calls that have not failed: the rune
    buffer's byte offset is the size of the consumed prefix, capture mode is what was configured, and
    the runes committed to the writer — all chunks, in order — followed by the unread input are
    exactly the input: every consumed rune has been committed exactly once, in order, nothing else. -/
theorem commit_discipline (T : Tables) (urlOk : List Nat → Bool) (e : End) (legacy quads capture : Bool)
    (inp : List RP) (n : Nat) (d : NQO.Dec)
    (hd : d = NQO.Dec.nextN T urlOk e legacy quads n (NQO.Dec.init capture inp))
    (herr : d.err = none) :
    d.s.bo + size d.inp = size inp ∧ d.s.doc.isSome = capture ∧
    ∀ h, d.s.doc = some h → histRunes h ++ d.inp = inp := by
  subst hd
  obtain ⟨⟨h1, h2⟩, h3⟩ := Proofs.C16.decInv_nextN T urlOk e legacy quads n _
    (Proofs.C16.decInv_init capture inp) herr
  exact ⟨h1, h3, h2⟩

/-- … so the writer's byte offset is the initial byte offset plus the size of the consumed prefix,
    and its line the initial line plus the number of LF consumed (any cluster counter). -/
theorem commit_discipline_offset (T : Tables) (urlOk : List Nat → Bool) (e : End)
    (legacy quads capture : Bool) (inp : List RP) (n : Nat) (cols : List Nat → Nat) (init : Offset)
    (d : NQO.Dec) (hd : d = NQO.Dec.nextN T urlOk e legacy quads n (NQO.Dec.init capture inp))
    (herr : d.err = none) (h : Hist) (hh : d.s.doc = some h) :
    (histOffset cols init h).byte + size d.inp = init.byte + size inp ∧
    (histOffset cols init h).line + countLF d.inp = init.line + countLF inp := by
  obtain ⟨_, _, h3⟩ := commit_discipline T urlOk e legacy quads capture inp n d hd herr
  have := h3 h hh
  rw [Proofs.C16.histOffset_byte, Proofs.C16.histOffset_line, ← this,
    Proofs.C16.size_append, Proofs.C16.countLF_append]
  omega

/-- At a clean end of the document everything has been consumed and committed. -/
theorem commit_discipline_final (T : Tables) (urlOk : List Nat → Bool) (e : End)
    (legacy quads : Bool) (inp : List RP) (s' : S)
    (hf : (NQO.run T urlOk e legacy quads true inp).final = some s') :
    ∃ h, s'.doc = some h ∧ histRunes h = inp := by
  obtain ⟨_, h3, h2⟩ := (Proofs.C16.runFuel_inv T urlOk e legacy quads _ false _ inp
    (Proofs.C16.discP_init true inp)).2.1 s' hf
  cases hd : s'.doc with
  | none => simp [hd] at h3
  | some h => exact ⟨h, rfl, by simpa using h2 h hd⟩

/-- **Offsets are exact.** With capture on, every statement of a run has a range for subject,
    predicate and object, and one for the graph name exactly when it has a graph name; each range
    delimits a segment `tok` of the input (`inp = pre ++ tok ++ post`) that is a token of the term
    (`TokenOf`: `<…>`, exactly `_:label`, `"…"`, `"…"@tag` with exactly the tag, `"…"^^<…>`), and
    the reported offsets are the positions of that segment (`RangeAt`): byte = initial byte + bytes
    before the segment (resp. up to its end), line = initial line + LFs before it, for *every*
    cluster counter; and equal to the position computed from the text, column included
    (`TW.posAfter`), whenever the text up to the end of the token is `TW.simple` and the counter
    counts one cluster per rune on simple text (`ColsSimple`, e.g. `onePer`). -/
theorem offsets_exact (T : Tables) (urlOk : List Nat → Bool) (e : End) (legacy quads : Bool)
    (cols : List Nat → Nat) (init : Offset) (inp : List RP) (q : Quad (List Nat)) (rg : Ranges)
    (hmem : (q, rg) ∈ (NQO.run T urlOk e legacy quads true inp).stmts) :
    (q.g = none → rg.g = none) ∧
    ∀ x ∈ slots q rg, ∃ fr un pre tok post, x.2.2 = some (fr, un) ∧ inp = pre ++ tok ++ post ∧
      TokenOf x.2.1 (runes tok) ∧
      RangeAt cols init pre tok (histOffset cols init fr) (histOffset cols init un) := by
  have hok := Proofs.C16.run_stmts_ok T urlOk e legacy quads true inp _ hmem
  refine ⟨fun hg => by have := hok.2.2.2; simpa [hg] using this, fun x hx => ?_⟩
  obtain ⟨r, hr, pre, tok, post, h1, h2, h3, h4, _⟩ := Proofs.C16.slots_ok T urlOk inp q rg hok x hx
  exact ⟨r.1, r.2, pre, tok, post, hr, h1, h4, Proofs.C16.rangeAt_of cols init r.1 r.2 pre tok h2 h3⟩

/-- Consequence: every reported range lies inside the document, start not after end. -/
theorem offsets_inside (T : Tables) (urlOk : List Nat → Bool) (e : End) (legacy quads : Bool)
    (cols : List Nat → Nat) (init : Offset) (inp : List RP) (q : Quad (List Nat)) (rg : Ranges)
    (hmem : (q, rg) ∈ (NQO.run T urlOk e legacy quads true inp).stmts) :
    ∀ x ∈ slots q rg, ∃ r, x.2.2 = some r ∧
      init.byte ≤ (evalRange cols init r).1.byte ∧
      (evalRange cols init r).1.byte ≤ (evalRange cols init r).2.byte ∧
      (evalRange cols init r).2.byte ≤ init.byte + size inp ∧
      (evalRange cols init r).1.line ≤ (evalRange cols init r).2.line := by
  intro x hx
  obtain ⟨fr, un, pre, tok, post, h1, h2, _, h4, h5, h6, h7, _⟩ :=
    (offsets_exact T urlOk e legacy quads cols init inp q rg hmem).2 x hx
  have hs := congrArg size h2
  simp only [Proofs.C16.size_append] at hs
  exact ⟨(fr, un), h1, by simp only [evalRange]; omega, by simp only [evalRange]; omega,
    by simp only [evalRange]; omega, by simp only [evalRange]; omega⟩

/-- **Initial offset.** Everything a run reports with a writer started at `o` is what it reports
    with a writer started at zero, translated by `o`: bytes and lines add; the column adds `o.col`
    only on the first line (`line = 0` in the zero-based run), later lines are unaffected because a
    line feed resets the column (`TW.shift`). A bare byte offset in an error (capture off) is not
    translated. Holds for every cluster counter, every outcome `out` (so also for every run). -/
theorem offsets_shift (cols : List Nat → Nat) (o : Offset) (out : Out) :
    report cols o out = shiftReport o (report cols zero out) := by
  simp only [report, shiftReport, List.map_map, Proofs.C16.evalEOff_shift cols o out.eoff, Prod.mk.injEq, and_true]
  apply List.map_congr_left
  intro x _
  simp only [Function.comp, evalRanges, List.map_map, Prod.mk.injEq, true_and]
  apply List.map_congr_left
  intro r _
  cases r with
  | none => rfl
  | some r =>
    simp only [Function.comp, Option.map_some, evalRange, shiftPair]
    rw [Proofs.C16.histOffset_shift cols o r.1, Proofs.C16.histOffset_shift cols o r.2]

/-- **Tokens re-parse.** The base decoder, started at the position of the slot (subject, predicate,
    object; the graph name is read by the subject routine), reads the segment of a reported range,
    followed by a space and anything, back to the same term, leaving the space and the rest. -/
theorem token_reparses (T : Tables) (hT : PnFacts T) (urlOk : List Nat → Bool) (e : End)
    (legacy quads : Bool) (inp : List RP) (q : Quad (List Nat)) (rg : Ranges)
    (hmem : (q, rg) ∈ (NQO.run T urlOk e legacy quads true inp).stmts) :
    ∀ x ∈ slots q rg, ∃ fr un pre tok post, x.2.2 = some (fr, un) ∧ inp = pre ++ tok ++ post ∧
      histRunes fr = pre ∧ histRunes un = pre ++ tok ∧
      ∀ e' y, NQ.captureTerm T urlOk e' x.1 false (runes tok ++ 0x20 :: y) = .ok x.2.1 (0x20 :: y) := by
  intro x hx
  have hok := Proofs.C16.run_stmts_ok T urlOk e legacy quads true inp _ hmem
  obtain ⟨r, hr, pre, tok, post, h1, h2, h3, _, h5⟩ := Proofs.C16.slots_ok T urlOk inp q rg hok x hx
  exact ⟨r.1, r.2, pre, tok, post, hr, h1, h2, h3, h5 hT⟩

/-- **Error offsets lie inside the document** (repaired code): the offset or offset range attached
    to the error of a run refers to byte positions between the initial byte offset and the initial
    byte offset plus the input length; a bare byte offset (capture off) is at most the input length. -/
theorem error_offsets_inside (T : Tables) (urlOk : List Nat → Bool) (e : End) (quads capture : Bool)
    (cols : List Nat → Nat) (init : Offset) (inp : List RP) :
    ErrInside init (size inp) (evalEOff cols init (NQO.run T urlOk e false quads capture inp).eoff) :=
  Proofs.C16.errInside_of_bound cols init _ _
    ((Proofs.C16.runFuel_inv T urlOk e false quads _ false _ inp (Proofs.C16.discP_init capture inp)).2.2 rfl)

/-! ### The table facts for the tables regenerated from /repo on this run -/

theorem gen_nquads_pn : PnFacts Gen.nquads := ⟨by decide, by decide⟩
theorem gen_ntriples_pn : PnFacts Gen.ntriples := ⟨by decide, by decide⟩

/-! ### The defect repaired by `nqoff-fix-literal-suffix-error-offset` (kept as a witness)

`<a:s> <a:p> "abcdefgh"^` (23 bytes, input ends after the first `^`): before the repair
`captureOpenLiteral` passed the already committed quoted string once more as "uncommitted" runes to
`newOffsetError`; the reported offset is byte 33, ten bytes beyond the end of the document.
Replayed on the Go code (same values) before the repair. -/

def legacyWitness : List RP := (asc "<a:s> <a:p> \"abcdefgh\"^").map (fun c => (c, 1))

/-- `error_offsets_inside` is false for the unrepaired code (`legacy = true`). -/
theorem error_offsets_inside_fails_legacy :
    size legacyWitness = 23 ∧
    evalEOff onePer zero (NQO.run Gen.nquads (fun _ => true) .eof true true true legacyWitness).eoff
      = .text ⟨33, 0, 33⟩ ∧
    ¬ ErrInside zero (size legacyWitness)
      (evalEOff onePer zero (NQO.run Gen.nquads (fun _ => true) .eof true true true legacyWitness).eoff) := by
  decide +kernel

/-- … and the repaired code reports the end of the input. -/
example : evalEOff onePer zero (NQO.run Gen.nquads (fun _ => true) .eof false true true legacyWitness).eoff
    = .text ⟨23, 0, 23⟩ := by decide +kernel

/-! ### Non-vacuity -/

/-- A two-line N-Quads document: a language-tagged literal, a graph name, a comment, a two-byte rune
    (é) in an IRI, a blank node label directly followed by the final `.` (trailing-dot back-off). -/
def witnessDoc : List RP :=
  (asc "<a:s> <a:p> \"x\"@en <a:g> . # c\n_:b <a:").map (fun c => (c, 1)) ++ [(0xe9, 2)] ++
    (asc "> _:c.\n").map (fun c => (c, 1))

/-- The hypotheses of `offsets_exact` / `token_reparses` are satisfiable: the run yields two
    statements, the first with a graph range. -/
example : ((NQO.run Gen.nquads (fun _ => true) .eof false true true witnessDoc).stmts.map
    (fun x => (x.2.s.isSome, x.2.g.isSome))) = [(true, true), (true, false)] := by decide +kernel

/-- … and the concrete ranges of the second statement: predicate `<a:é>` = bytes 35–41 (six bytes)
    but columns 4–9 (five runes) of line 1; object `_:c` = bytes 42–45, the `.` after the label is
    not part of it. -/
example : ((NQO.run Gen.nquads (fun _ => true) .eof false true true witnessDoc).stmts.map
    (fun x => (x.2.p.map (evalRange onePer zero), x.2.o.map (evalRange onePer zero)))).getLast? =
    some (some (⟨35, 1, 4⟩, ⟨41, 1, 9⟩), some (⟨42, 1, 10⟩, ⟨45, 1, 13⟩)) := by decide +kernel

/-- `ColsSimple` is satisfied by the counter the driver uses, and the witness document is simple. -/
example : ColsSimple onePer ∧ simple (runes witnessDoc) = true := ⟨onePer_simple, by decide +kernel⟩

end RdfModel.C16
