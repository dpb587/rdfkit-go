/-
  Definitions used by the C19 theorems: which terms and operations are inside the property's
  quantifier, the translation of an operation to the plain-set specification, and what it means
  for an output of the dataset to agree with an output of the set.
-/
import RdfModel.Model.Dataset
import RdfModel.Spec.QuadSet
namespace RdfModel.C19
open RdfModel.DS

def bytesOf (s : String) : Bytes := s.toList.map Char.toNat

def rdfLangString : Bytes := bytesOf "http://www.w3.org/1999/02/22-rdf-syntax-ns#langString"
def rdfDirLangString : Bytes := bytesOf "http://www.w3.org/1999/02/22-rdf-syntax-ns#dirLangString"

/-- Datatypes whose literals carry a tag: `rdf:langString` (RDF 1.1) and `rdf:dirLangString`
    (RDF 1.2, for `DirectionalLanguageLiteralTag`). -/
def isTaggedDatatype (dt : Bytes) : Bool := dt == rdfLangString || dt == rdfDirLangString

/-- A well-formed literal: a tag is present exactly when the datatype is a tagged one, and the
    datatype IRI contains no line feed (no IRI does). Which kind of tag goes with which of the two
    tagged datatypes is *not* required. -/
def WFLiteral (l : Literal) : Prop := 0x0a ∉ l.dt ∧ l.tag.isSome = isTaggedDatatype l.dt

instance : DecidablePred WFLiteral := fun l => by unfold WFLiteral; infer_instance

/-- Terms inside the quantifier: any IRI, a blank node that has an identifier (one made by a
    factory), a well-formed literal. -/
def WFTerm : Term → Prop
  | .iri _ => True
  | .bnode id => id.isSome = true
  | .lit l => WFLiteral l

instance : DecidablePred WFTerm := fun t => by cases t <;> unfold WFTerm <;> infer_instance

/-- Terms that have an RDF term identity: everything except the blank node without identifier
    (`rdf.BlankNode{}`), which is not `TermEquals` to itself. Literals of ANY shape qualify — a tag on
    an untagged datatype, no tag on `rdf:langString`, … — : their identity is (datatype, lexical form,
    tag presence, tag kind, language, direction). This is the hypothesis of the equality and matcher
    theorems; `WFTerm` (needed only where the store's key matters) implies it. -/
def HasIdentity : Term → Prop
  | .bnode none => False
  | _ => True

instance : DecidablePred HasIdentity := fun t => by
  cases t with
  | bnode id => cases id <;> unfold HasIdentity <;> infer_instance
  | iri _ => unfold HasIdentity; infer_instance
  | lit _ => unfold HasIdentity; infer_instance

theorem WFTerm.hasIdentity {t : Term} (h : WFTerm t) : HasIdentity t := by
  rcases t with _ | (_ | _) | _ <;> simp_all [WFTerm, HasIdentity]

def WFGraphName : Option Term → Prop
  | none => True
  | some t => WFTerm t

instance : DecidablePred WFGraphName := fun g => by cases g <;> unfold WFGraphName <;> infer_instance

def WFTriple (t : Triple) : Prop := WFTerm t.s ∧ WFTerm t.p ∧ WFTerm t.o
def WFQuad (q : Quad) : Prop := WFTerm q.s ∧ WFTerm q.p ∧ WFTerm q.o ∧ WFGraphName q.g

instance : DecidablePred WFTriple := fun t => by unfold WFTriple; infer_instance
instance : DecidablePred WFQuad := fun q => by unfold WFQuad; infer_instance

/-- The operations property C19 quantifies over, with non-nil arguments. Matcher lists are
    arbitrary (including matchers that are not from the repository's packages: `custom`). -/
inductive POp where
  | addQuad (q : Quad)
  | deleteQuad (q : Quad)
  | hasQuad (q : Quad)
  | iterQuads (ms : List QM)
  | getGraph (g : Option Term)
  | viewAdd (g : Option Term) (t : Triple)
  | viewDelete (g : Option Term) (t : Triple)
  | viewHas (g : Option Term) (t : Triple)
  | viewIter (g : Option Term) (ms : List TrM)

def tripleIn (t : Triple) : TripleIn := ⟨some t.s, some t.p, some t.o⟩

/-- The operation of the executable model (which the driver runs) that a `POp` stands for. -/
def POp.toOp : POp → Op
  | .addQuad q => .addQuad q.toIn
  | .deleteQuad q => .deleteQuad q.toIn
  | .hasQuad q => .hasQuad q.toIn
  | .iterQuads ms => .iterQuads ms
  | .getGraph g => .getGraph g
  | .viewAdd g t => .viewAdd g (tripleIn t)
  | .viewDelete g t => .viewDelete g (tripleIn t)
  | .viewHas g t => .viewHas g (tripleIn t)
  | .viewIter g ms => .viewIter g ms

def POp.WF : POp → Prop
  | .addQuad q => WFQuad q
  | .deleteQuad q => WFQuad q
  | .hasQuad q => WFQuad q
  | .iterQuads _ => True
  | .getGraph g => WFGraphName g
  | .viewAdd g t => WFGraphName g ∧ WFTriple t
  | .viewDelete g t => WFGraphName g ∧ WFTriple t
  | .viewHas g t => WFGraphName g ∧ WFTriple t
  | .viewIter g _ => WFGraphName g

instance : DecidablePred POp.WF := fun op => by cases op <;> unfold POp.WF <;> infer_instance

/-- What the same operation means on a plain set of quads. A per-graph view is the set of the
    quads with that graph name. -/
def POp.spec : POp → Spec.QuadSet.Op Quad
  | .addQuad q => .add q
  | .deleteQuad q => .del q
  | .hasQuad q => .has q
  | .iterQuads ms => .iter (fun q => ms.all (fun m => m.matches q))
  | .getGraph _ => .nop
  | .viewAdd g t => .add (t.asQuad g)
  | .viewDelete g t => .del (t.asQuad g)
  | .viewHas g t => .has (t.asQuad g)
  | .viewIter g ms => .iter (fun q => decide (q.g = g) && ms.all (fun m => m.matches q.triple))

/-- Agreement of outputs: same Boolean; same members with the same multiplicities for iterations
    (the order of a Go map iteration is unspecified). -/
def OutAgrees : Out → Spec.QuadSet.Out Quad → Prop
  | .unit, .unit => True
  | .bool b, .bool b' => b = b'
  | .quads l, .list l' => l.Perm l'
  | .triples l, .list l' => l.Perm (l'.map Quad.triple)
  | _, _ => False

/-- Output lists agree position by position (and have the same length). -/
def OutsAgree : List Out → List (Spec.QuadSet.Out Quad) → Prop
  | [], [] => True
  | a :: as, b :: bs => OutAgrees a b ∧ OutsAgree as bs
  | _, _ => False

/-- States the dataset can be in: after any finite history of well-formed operations on a new dataset. -/
def Reachable (s : State) : Prop :=
  ∃ ops : List POp, (∀ op ∈ ops, op.WF) ∧ s = (run init (ops.map POp.toOp)).1

end RdfModel.C19
