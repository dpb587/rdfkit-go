/-
  Part IRIU (serves C01, C12, C13) — the IRI models unified on the ONE model tied exactly to the code.

  1. `goUrl_accepts_eq_full_partial`: the acceptance model of net/url (Model/GoUrl.lean, `parseAbsOk`, a function
     on runes as well as on bytes) IS the acceptance of the full net/url model
     (Model/GoUrlFull.lean, tied exactly by the `piri.*` ops: `(parse s).isOk ∧ IsAbs`) on every input the full
     model covers; the single excluded class is `PErr.unmodelled` ('%' inside an IP literal — RFC 6874 zones),
     with a kernel-evaluated witness; `urlOk_unified`: the `urlOk` the N-Triples / N-Quads driver runs
     (`IriUnify.urlOk`, the full model on the UTF-8 bytes, GoUrl only inside the excluded class) equals the
     acceptance model on those bytes for EVERY input; `urlOk_switch_noop`: and on the runes themselves.
  2. `relativize_sound_code`: what `BaseIRI.RelativizeIRI` offers for an absolute base resolves back to
     exactly the IRI under the model of the resolver the code itself calls (`PIRI.resolveStr` =
     `ParseIRI(b).Parse(r).String()`), for every base — no domain restriction; `relativize_sound_rfc_partial`:
     the RFC 3986 version on the sub-language `ResolveLang` of C12W (`C12W.resolve_eq_rfc_partial`).
  Lemmas: Proofs/IriUnifyAccept.lean, Proofs/IriUnifyUtf8.lean, Proofs/IriUnifyRel.lean.
-/
import RdfModel.Proofs.IriUnifyAccept
import RdfModel.Proofs.IriUnifyUtf8
import RdfModel.Proofs.IriUnifyRel
namespace RdfModel.IRIU
open RdfModel RdfModel.GoUrlFull RdfModel.PIRI RdfModel.IriUnify
open RdfModel.Prefix (Outcome)
open RdfModel.Proofs.IriUnify (baseIsAbs)

def S (s : String) : Str := s.toUTF8.toList.map (·.toNat)

instance : DecidableEq (Except PErr (Option Str)) := fun a b =>
  match a, b with
  | .ok x, .ok y => if h : x = y then isTrue (by rw [h]) else isFalse (fun e => h (by injection e))
  | .error x, .error y => if h : x = y then isTrue (by rw [h]) else isFalse (fun e => h (by injection e))
  | .ok _, .error _ => isFalse (fun e => by cases e)
  | .error _, .ok _ => isFalse (fun e => by cases e)

/-! ## 1. one model of net/url acceptance -/

/-- Full statement: the two models of `url.Parse` + `IsAbs` agree on every byte string. NOT provable as it
    stands only because the full model declines one class (`fullUnmodelled`, witness below) — on that class the
    acceptance model answers (zones are modelled there) and the full model says "no". -/
def GoUrlAcceptsEqFull : Prop := ∀ s : Str, GoUrl.parseAbsOk s = fullAbsOk s

/-- Proved part: for EVERY list `s` (bytes or not) on which the full model does not answer `unmodelled`,
    `Model.GoUrl`'s acceptance = `(GoUrlFull.parse s).isOk ∧ IsAbs`,
    and likewise for plain acceptance (`url.Parse` succeeds, relative references included).
    Exactly excluded: inputs whose host is an IP literal `[…]` whose port is well formed and whose text between
    the brackets contains '%' (`parseHost` reaches `PErr.unmodelled`). -/
theorem goUrl_accepts_eq_full_partial (s : Str) (h : fullUnmodelled s = false) :
    GoUrl.parseAbsOk s = fullAbsOk s ∧ GoUrl.parseOk s = fullOk s :=
  ⟨Proofs.IriUnify.parseAbsOk_eq_full s h, Proofs.IriUnify.parseOk_eq_full s h⟩

-- non-trivial members of the hypothesis: userinfo, port, IPv6 with embedded IPv4 (`[::1.2.3.4]`, which Go accepts:
-- both models go through `parseAddrIs6`), non-ASCII host bytes, escapes; accepted and rejected inputs
example : fullUnmodelled (S "a://u:p@[::ffff:1.2.3.4]:80/p%41?q#f") = false ∧
    GoUrl.parseAbsOk (S "a://u:p@[::ffff:1.2.3.4]:80/p%41?q#f") = true := by decide +kernel
example : fullUnmodelled (S "http://é.example/%zz") = false ∧ GoUrl.parseAbsOk (S "http://é.example/%zz") = false ∧
    fullUnmodelled (S "a/b:c") = false ∧ GoUrl.parseAbsOk (S "a/b:c") = false ∧ GoUrl.parseOk (S "a/b:c") = true := by
  decide +kernel

/-- the excluded class is real and is where the full statement fails: a zone identifier — Go accepts
    (replayed: `url.Parse("a://[::1%25eth0]")` succeeds), the acceptance model accepts, the full model declines -/
theorem goUrl_accepts_eq_full_witness : ¬ GoUrlAcceptsEqFull := by
  intro h
  have := h (S "a://[::1%25eth0]")
  revert this
  decide +kernel

example : fullUnmodelled (S "a://[::1%25eth0]") = true ∧ GoUrl.parseAbsOk (S "a://[::1%25eth0]") = true ∧
    fullUnmodelled (S "a://[::1%25]") = true ∧ GoUrl.parseAbsOk (S "a://[::1%25]") = false := by decide +kernel

/-- The `urlOk` parameter as the NT/NQ driver instantiates it (`IriUnify.urlOk`: runes → UTF-8 bytes → full
    model, the acceptance model only inside the excluded class) is, for EVERY rune list, the acceptance model on
    those bytes, and outside the excluded class the answer is the full model's. -/
theorem urlOk_unified (rs : List Nat) :
    IriUnify.urlOk rs = GoUrl.parseAbsOk (utf8Encode rs) ∧
    (fullUnmodelled (utf8Encode rs) = false → IriUnify.urlOk rs = fullAbsOk (utf8Encode rs)) := by
  refine ⟨Proofs.IriUnify.absOkBytes_eq _, fun h => ?_⟩
  unfold IriUnify.urlOk
  rw [Proofs.IriUnify.absOkBytes_eq, Proofs.IriUnify.parseAbsOk_eq_full _ h]

/-- The acceptance model does not care whether it sees the runes of `string(decoded)` or their UTF-8 bytes
    (every delimiter it looks for is ASCII; any element ≥ 0x80 is in the same class as the bytes of its
    encoding; non-scalar values are encoded as U+FFFD like Go's `string(rune)`), hence `IriUnify.urlOk` answers
    as `GoUrl.parseAbsOk` does on the runes, for every rune list: the theorems of C01/C05/C06/C07/C15/C16, stated
    for an arbitrary `urlOk`, and the driver runs with either instantiation speak of the same decoder. -/
theorem urlOk_switch_noop (rs : List Nat) :
    IriUnify.urlOk rs = GoUrl.parseAbsOk rs ∧ GoUrl.parseAbsOk (utf8Encode rs) = GoUrl.parseAbsOk rs ∧
    GoUrl.parseOk (utf8Encode rs) = GoUrl.parseOk rs :=
  ⟨Proofs.IriUnify.urlOk_eq_goUrl rs, Proofs.IriUnify.parseAbsOk_utf8 rs, Proofs.IriUnify.parseOk_utf8 rs⟩

/-! ## 2. `RelativizeIRI` against the resolver the code calls -/

/-- For every base `b` that `ParseBaseIRI` accepts as absolute and every `v`: whatever `RelativizeIRI` offers
    resolves back — `ParseIRI(b).Parse(r).String()`, in the exact model of the code — to exactly `v`, and never
    starts with "//". No restriction on the shape of the base (upper-case scheme, userinfo, IP literals,
    non-ASCII or escaped host, opaque / rootless, dot segments, empty query or fragment: all included; these are
    the bases on which the resolver deviates from RFC 3986 and on which `C13.relativize_checked`, stated for
    `goResolve`, says nothing about the code). -/
theorem relativize_sound_code (b v r : Str) (h : relativizeCode b v = .res (.some r))
    (habs : baseIsAbs b = true) :
    resolveStr b r = .ok (some v) ∧ [0x2f, 0x2f].isPrefixOf r = false :=
  Proofs.IriUnify.relativize_sound_code_core b v r h habs

-- bases outside C13's domain: upper-case scheme (printed lower-case), userinfo + IPv6, an opaque base, and a
-- base whose resolver deviates from RFC 3986 (empty fragment is sticky)
example : relativizeCode (S "HTTP://E/a/b") (S "http://E/a/c#f") = .res (.some (S "c#f")) ∧
    baseIsAbs (S "HTTP://E/a/b") = true := by decide +kernel
example : relativizeCode (S "x://u@[::1]:8/a/b?q") (S "x://u@[::1]:8/a/") = .res (.some (S "./")) ∧
    baseIsAbs (S "x://u@[::1]:8/a/b?q") = true := by decide +kernel
example : relativizeCode (S "urn:a/b") (S "urn:a/c") = .res (.some (S "c")) ∧ baseIsAbs (S "urn:a/b") = true := by
  decide +kernel
example : relativizeCode (S "http://e/a#") (S "http://e/a#f") = .res (.some (S "#f")) ∧
    relativizeCode (S "http://e/a#") (S "http://e/b#") = .res .none := by decide +kernel

/-- The hypothesis `baseIsAbs` cannot be dropped: for a relative base the code does not verify (it cannot: its
    resolver roots relative base paths), and the suffix it offers does not resolve back in the code's resolver. -/
theorem relativize_sound_code_relative_witness :
    relativizeCode (S "a/b") (S "a/b#f") = .res (.some (S "#f")) ∧ baseIsAbs (S "a/b") = false ∧
    resolveStr (S "a/b") (S "#f") = .ok (some (S "/a/b#f")) := by decide +kernel

/-- What holds for a base that is not absolute: only the "#…" / "?…" suffix forms are offered, and the IRI is
    literally the printed base followed by the offered reference. -/
theorem relativize_relative_suffix (b v r : Str) (p : ParsedIRI) (hp : parseIRI b = .ok p) (hna : p.isAbs = false)
    (h : relativizeCode b v = .res (.some r)) :
    v = p.str ++ r ∧ (r.head? = some 0x23 ∨ r.head? = some 0x3f) := by
  obtain ⟨p', rb, hp', hrb, hrel⟩ := Proofs.IriUnify.relativizeCode_some h
  obtain rfl : p = p' := by rw [hp] at hp'; injection hp'
  obtain ⟨hc, _, _⟩ := Proofs.IriUnify.relativizeP_some hrel
  obtain ⟨hroot, horig⟩ := Proofs.IriUnify.newBaseIRICode_root hrb
  have hrn : rb.root = none := by
    cases hr : rb.root with
    | none => rfl
    | some x => rw [hr, hna] at hroot; cases hroot
  rw [Proofs.IriUnify.candidateCode_noroot rb v hrn] at hc
  obtain ⟨hv, _, hs⟩ := Proofs.C13.candidate_noroot rb v r hrn hc
  refine ⟨horig ▸ hv, ?_⟩
  rcases hs with ⟨f, rfl⟩ | ⟨_, q, rfl⟩
  · exact .inl rfl
  · exact .inr rfl

example : relativizeCode (S "a/b?q") (S "a/b?q#f") = .res (.some (S "#f")) := by decide +kernel

/-- RFC 3986 version (the analogue of `C13.relativize_sound_partial` for the exact resolver), as a corollary of the
    code-level theorem and `C12W.resolve_eq_rfc_partial`: when base and offered reference lie in `ResolveLang` (base
    `scheme://host[:port]/path[?query]` without fragment, both in `InLang` with '%'-free paths, outside the
    classes base-dot-segments-empty-path-reference and dotdot-then-empty-segment) the offered reference resolves
    to `v` under `Spec.RFC3986.resolve`. Partial: outside `ResolveLang` (bases with a fragment, '%' or non-ASCII
    in paths, userinfo, IP literals, no authority) only the code-level statement is proved; `baseIsAbs` is
    implied by `ResolveLang` but kept as a hypothesis (decidable, checked by the examples). -/
theorem relativize_sound_rfc_partial (b v r : Str) (h : relativizeCode b v = .res (.some r))
    (habs : baseIsAbs b = true)
    (hl : C12W.ResolveLang (Spec.RFC3986.split b) (Spec.RFC3986.split r) = true) :
    Spec.RFC3986.resolve b r = v := by
  have h1 := (relativize_sound_code b v r h habs).1
  have h2 := C12W.resolve_eq_rfc_partial b r hl
  rw [h1] at h2
  injection h2 with h2
  injection h2 with h2
  exact h2.symm

example : relativizeCode (S "http://e/a/b?q") (S "http://e/a/") = .res (.some (S "./")) ∧
    baseIsAbs (S "http://e/a/b?q") = true ∧
    C12W.ResolveLang (Spec.RFC3986.split (S "http://e/a/b?q")) (Spec.RFC3986.split (S "./")) = true := by decide +kernel
example : relativizeCode (S "x-y://h:80/a/b/c") (S "x-y://h:80/a/d?y#s") = .res (.some (S "/a/d?y#s")) ∧
    C12W.ResolveLang (Spec.RFC3986.split (S "x-y://h:80/a/b/c")) (Spec.RFC3986.split (S "/a/d?y#s")) = true := by
  decide +kernel

/-- `ParseBaseIRI` never panics in `NewBaseIRI` (`baseRoot.String()` on a nil result): "/" and "./" always parse
    and `ResolveReference` never panics (C12W). -/
theorem relativize_no_base_panic (b v : Str) : relativizeCode b v ≠ .basePanic := by
  unfold relativizeCode
  split
  · simp
  · rename_i p hp
    obtain ⟨q1, hq1⟩ := Proofs.IriUnify.ok_of_isOk (x := parseIRI [0x2f]) (by decide +kernel)
    obtain ⟨q2, hq2⟩ := Proofs.IriUnify.ok_of_isOk (x := parseIRI [0x2e, 0x2f]) (by decide +kernel)
    obtain ⟨t1, h1⟩ := Proofs.IriUnify.parseRef_ok_of_parse p [0x2f] q1 hq1
    obtain ⟨t2, h2⟩ := Proofs.IriUnify.parseRef_ok_of_parse p [0x2e, 0x2f] q2 hq2
    have : ∃ ix, baseIndices p = some ix := by
      unfold baseIndices lenOfParse
      simp only [h1, h2]
      split <;> exact ⟨_, rfl⟩
    obtain ⟨ix, hix⟩ := this
    unfold newBaseIRICode
    rw [hix]
    simp

/-- Model witness of the defect repaired by patches/c13-fix-relativize-bounds.patch: for the base "http:/a/b"
    the directory index (length of "http:///a/") exceeds the length of the base; the unrepaired code sliced
    `rb.original[0:10]` (replayed on the code: panic); the repaired code, which `candidateCode` follows, declines. -/
theorem relativize_special_no_authority_witness :
    (match parseIRI (S "http:/a/b") with
      | .ok p => (baseIndices p).map (fun ix => (p.str.length, ix.root, ix.directory))
      | .error _ => none) = some (9, some 8, some 10) ∧
    relativizeCode (S "http:/a/b") (S "http:/a/ab") = .res .none := by decide +kernel

end RdfModel.IRIU
