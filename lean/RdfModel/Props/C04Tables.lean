/-
  Property C04 — the table facts for the N-Quads tables regenerated from /repo on this run:
  `nquads.WriteLiteral` (UTF-8 mode) writes every code point as canonical N-Quads prescribes, and
  `nquads.WriteIRI` leaves exactly the code points raw that are not U+0000–U+0020 or one of
  `< > " { } | ^ backquote \`.

  Both proofs are `decide` on Boolean checks over the table *entries* (never over code points);
  the checkers and their soundness theorems are in `Proofs/C04Tables.lean`.
-/
import RdfModel.Props.C04Defs
import RdfModel.Gen.NQTables
import RdfModel.Proofs.C04Tables
namespace RdfModel.C04
open RdfModel

theorem gen_nquads_canon : TablesCanon Gen.nquads :=
  Proofs.C04.tablesCanon_of_chk _ (by decide)

theorem gen_iriRaw_iff (c : Nat) :
    lookup (Gen.nquads.iriEsc false) 0 c = 0 ↔
      ¬ (c ≤ 0x20 ∨ c = 0x3c ∨ c = 0x3e ∨ c = 0x22 ∨ c = 0x7b ∨ c = 0x7d ∨ c = 0x7c ∨ c = 0x5e ∨
         c = 0x60 ∨ c = 0x5c) :=
  Proofs.C04.iriRaw_iff_of_chk _ (by decide) c

/-- A literal with `a`, TAB, U+0001, DEL, U+FFFE, a quote, a backslash and é, language-tagged:
    the model of `nquads.WriteLiteral` on the regenerated tables writes
    `"a\t\u0001\u007F\uFFFE\"\\é"@en`. -/
example :
    NQ.writeLiteral Gen.nquads false [0x61, 0x09, 0x01, 0x7f, 0xFFFE, 0x22, 0x5c, 0xe9]
        rdfLangString (some [0x65, 0x6e]) =
      [0x22, 0x61, 0x5c, 0x74, 0x5c, 0x75, 0x30, 0x30, 0x30, 0x31, 0x5c, 0x75, 0x30, 0x30, 0x37, 0x46,
       0x5c, 0x75, 0x46, 0x46, 0x46, 0x45, 0x5c, 0x22, 0x5c, 0x5c, 0xe9, 0x22, 0x40, 0x65, 0x6e] := by
  decide +kernel

/-- … and it is the canonical form, also by computation on the specification side. -/
example :
    Spec.RDFC10.literal [0x61, 0x09, 0x01, 0x7f, 0xFFFE, 0x22, 0x5c, 0xe9] rdfLangString
        (some [0x65, 0x6e]) =
      asc "\"a\\t\\u0001\\u007F\\uFFFE\\\"\\\\é\"@en" := by
  decide +kernel

end RdfModel.C04
