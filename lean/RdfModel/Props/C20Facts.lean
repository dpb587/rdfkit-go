/-
  Property C20 — the facts regenerated from /repo on this run (Gen.XsdFacts, T2) satisfy the
  conditions the theorems of Props/C20.lean rest on; the C20 theorems instantiated at those facts;
  and the known findings of the date/time family and duration as facts about the model the driver
  runs (each by kernel evaluation: the model accepts a string the spec rejects, or drops a fraction, …).
-/
import RdfModel.Props.C20
import RdfModel.Props.C20Time
namespace RdfModel.C20
open RdfModel RdfModel.Xsd
open RdfModel.Spec.Xsd (Dt IntTy accepts lexOK intLex canonInt collapse)

theorem gen_int_dt (T : IntTy) : (Gen.xsdFacts.int T).datatype = dtIRI T.dt := by
  cases T <;> simp only [Gen.xsdFacts, Gen.xsdIntFact] <;> exact Proofs.C20.asc_dtIRI (by decide +kernel)
theorem gen_float_dt (T : FloatTy) : (Gen.xsdFacts.float T).datatype = dtIRI T.dt := by
  cases T <;> simp only [Gen.xsdFacts, Gen.xsdFloatFact] <;> exact Proofs.C20.asc_dtIRI (by decide +kernel)
theorem gen_str_dt (T : StrTy) : (Gen.xsdFacts.str T).datatype = dtIRI T.dt := by
  cases T <;> simp only [Gen.xsdFacts, Gen.xsdStrFact] <;> exact Proofs.C20.asc_dtIRI (by decide +kernel)
theorem gen_bool_dt : Gen.xsdFacts.bool.datatype = dtIRI .boolean := by
  simp only [Gen.xsdFacts, Gen.xsdBoolFact]; exact Proofs.C20.asc_dtIRI (by decide +kernel)
theorem gen_duration_dt : Gen.xsdFacts.duration.datatype = dtIRI .duration := by
  simp only [Gen.xsdFacts, Gen.xsdDurationFact]; exact Proofs.C20.asc_dtIRI (by decide +kernel)

theorem gen_int_ok (T : IntTy) : intFactOK T (Gen.xsdFacts.int T) = true := by
  unfold intFactOK
  rw [gen_int_dt T, beq_self_eq_true]
  cases T <;> decide
theorem gen_float_ok (T : FloatTy) : floatFactOK T (Gen.xsdFacts.float T) = true := by
  have hr : (Gen.xsdFacts.float T).lexRE = some (expFloatRE T) := by cases T <;> rfl
  unfold floatFactOK
  rw [gen_float_dt T, hr, beq_self_eq_true, beq_self_eq_true]
  cases T <;> decide
theorem gen_str_ok (T : StrTy) : strFactOK T (Gen.xsdFacts.str T) = true := by
  have hr : (Gen.xsdFacts.str T).lexRE = expStrRE T := by cases T <;> rfl
  unfold strFactOK
  rw [gen_str_dt T, hr, beq_self_eq_true, beq_self_eq_true]
  cases T <;> decide
theorem gen_time_ok (T : TimeTy) : timeFactOK T (Gen.xsdFacts.time T) = true := by
  have hu : (C20Time.expLayouts T).all (fun l => !(layoutToks l).contains .unknown) = true := by
    rw [List.all_eq_not_any_not]; simp only [Bool.not_not, C20Time.no_unknown]; rfl
  unfold timeFactOK
  rw [C20Time.gen_time_dt T, C20Time.gen_time_layouts T, hu, beq_self_eq_true]
  cases T <;> decide +kernel
theorem gen_bool_ok : boolFactOK Gen.xsdFacts.bool = true := by
  unfold boolFactOK
  rw [gen_bool_dt, beq_self_eq_true]
  decide
theorem gen_duration_re : Gen.xsdFacts.duration.regex = durationRESrc := by
  simp only [Gen.xsdFacts, Gen.xsdDurationFact, durationRESrc]
theorem gen_duration_ok : durationFactOK Gen.xsdFacts.duration = true := by
  unfold durationFactOK
  rw [gen_duration_dt, gen_duration_re, beq_self_eq_true, beq_self_eq_true]
  rfl

/-- T2 tie: parser, base, bit size, Go type, formatter, datatype IRI, regular expressions and layouts
    extracted from ontology/xsd/xsdtype are the ones the theorems need. -/
theorem gen_facts_ok : factsOK Gen.xsdFacts = true := by
  simp only [factsOK, Spec.Xsd.IntTy.all, floatTys, strTys, timeTys, List.all_cons, List.all_nil,
    gen_int_ok, gen_float_ok, gen_str_ok, gen_time_ok, gen_bool_ok, gen_duration_ok, Bool.and_self]

/-- the integer-family theorems at the current facts, in one statement -/
theorem gen_int_sound (T : IntTy) (s : Bytes) (v : Int) (h : mapInt (Gen.xsdFacts.int T) s = .ok v) :
    accepts T.dt s = true ∧ intLex (Spec.Xsd.normalize T.dt s) = some v :=
  int_sound T _ (gen_int_ok T) s v h

theorem gen_int_canonical (T : IntTy) (v : Int) (hv : goLo T ≤ v ∧ v ≤ goHi T) :
    mapInt (Gen.xsdFacts.int T) (canonInt v) = .ok v :=
  int_canonical T _ (gen_int_ok T) v hv

theorem gen_floatfamily_sound (T : FloatTy) (s : Bytes) (v : FVal)
    (h : mapFloat (Gen.xsdFacts.float T) s = .ok v) : accepts T.dt s = true :=
  floatfamily_sound T _ (gen_float_ok T) s v h

/-! ### D21: MapDecimal refuses the strings outside xsd:decimal that strconv.ParseFloat accepts -/

theorem d21_decimal_rejects :
    [asc "1e5", asc "NaN", asc "Inf", asc "0x1p-2", asc "1_0"].all
      (fun s => mapObject Gen.xsdFacts .decimal s == .err) = true := by decide +kernel

/-- … and strconv.ParseFloat alone (MapDecimal without its lexical check) accepts all of them -/
theorem d21_parseFloat_accepts :
    [asc "1e5", asc "NaN", asc "Inf", asc "0x1p-2", asc "1_0"].all
      (fun s => match parseFloat s 64 with | .ok _ => true | .error _ => false) = true := by decide +kernel

theorem d21_double_inf : mapObject Gen.xsdFacts .double (asc "+INF") = .ok (some (asc "INF")) := by decide +kernel
theorem d21_long_range : mapObject Gen.xsdFacts .long (asc "9223372036854775807") = .ok (some (asc "9223372036854775807")) := by decide +kernel
theorem d21_unsignedLong_format :
    mapObject Gen.xsdFacts .unsignedLong (asc "18446744073709551615") = .ok (some (asc "18446744073709551615")) := by decide +kernel

/-- a date/time Map function of `Model.Xsd` on the element lists of its layouts (see `C20Time.runToks`);
    `timeFormat` takes the layout itself -/
def timeVia : List (Bytes × List Tok) → Bytes → MapRes
  | [], _ => .err
  | (l, toks) :: r, a =>
    match Xsd.parseToks toks {} a with
    | none => timeVia r a
    | some tv =>
      if tv.day.getD 1 < 1 ∨ tv.day.getD 1 > goDaysIn (tv.month.getD 1) tv.year then timeVia r a
      else .ok (some (timeFormat l tv))

theorem findSome_timeVia (a : Bytes) : ∀ (ls : List Bytes),
    (match ls.findSome? (fun l => (timeParse l a).map (fun tv => (tv, l))) with
      | some r => MapRes.ok (some (lexTime r)) | none => .err) = timeVia (ls.zip (ls.map layoutToks)) a
  | [] => rfl
  | l :: ls => by
    have ih := findSome_timeVia a ls
    simp only [List.findSome?_cons, List.map_cons, List.zip_cons_cons, timeVia, timeParse]
    cases Xsd.parseToks (layoutToks l) {} a with
    | none => exact ih
    | some tv =>
      by_cases hd : tv.day.getD 1 < 1 ∨ tv.day.getD 1 > goDaysIn (tv.month.getD 1) tv.year
      · simp only [hd, if_true]; exact ih
      · simp only [hd, if_false]; rfl

theorem mapObject_time (T : TimeTy) {D : Dt} (hD : T.dt = D) (s : Bytes) :
    mapObject Gen.xsdFacts D s =
      timeVia ((C20Time.expLayouts T).zip ((C20Time.shapes T).map fun x => Proofs.C20Time.shapeToks (C20Time.preOf T) x.1 x.2))
        (whiteSpaceCollapse s) := by
  have hf := gen_time_ok T
  simp only [timeFactOK, Bool.and_eq_true] at hf
  have hm : mapObject Gen.xsdFacts D s =
      ofExcept (Xsd.mapTime (Gen.xsdFacts.time T) s) (fun v => some (lexTime v)) := by subst hD; cases T <;> rfl
  rw [hm, ← C20Time.layoutToks_exp, ← findSome_timeVia]
  simp only [Xsd.mapTime, hf.1.1.1.1.1, argOf, if_true, C20Time.gen_time_layouts, C20Time.no_unknown, Bool.false_eq_true,
    if_false]
  cases (C20Time.expLayouts T).findSome? _ <;> rfl

/-- time-hour-one-digit -/
theorem finding_time_hour_one_digit :
    mapObject Gen.xsdFacts .time (asc "1:00:00") = .ok (some (asc "01:00:00")) ∧ accepts .time (asc "1:00:00") = false := by
  simp only [mapObject_time .time (D := .time) rfl]; decide +kernel

/-- time-fraction-comma, time-fraction-dropped -/
theorem finding_time_fraction :
    mapObject Gen.xsdFacts .time (asc "12:00:00,5") = .ok (some (asc "12:00:00")) ∧ accepts .time (asc "12:00:00,5") = false ∧
    mapObject Gen.xsdFacts .time (asc "12:00:00.5") = .ok (some (asc "12:00:00")) ∧ accepts .time (asc "12:00:00.5") = true := by
  simp only [mapObject_time .time (D := .time) rfl]; decide +kernel

/-- time-fraction-signed -/
theorem finding_time_fraction_signed :
    mapObject Gen.xsdFacts .time (asc "12:00:00.+12345678") = .ok (some (asc "12:00:00.012345678")) ∧
    accepts .time (asc "12:00:00.+12345678") = false := by simp only [mapObject_time .time (D := .time) rfl]; decide +kernel

/-- time-tz-out-of-range -/
theorem finding_time_tz :
    mapObject Gen.xsdFacts .time (asc "12:00:00+24:60") = .ok (some (asc "12:00:00+25:00")) ∧
    accepts .time (asc "12:00:00+24:60") = false ∧ mapObject Gen.xsdFacts .time (asc "12:00:00+25:00") = .err := by simp only [mapObject_time .time (D := .time) rfl]; decide +kernel

/-- time-year-outside-0000-9999 -/
theorem finding_time_year :
    mapObject Gen.xsdFacts .dateTime (asc "10000-01-01T00:00:00") = .err ∧ accepts .dateTime (asc "10000-01-01T00:00:00") = true ∧
    mapObject Gen.xsdFacts .gYear (asc "-0001") = .err ∧ accepts .gYear (asc "-0001") = true := by simp only [mapObject_time .dateTime (D := .dateTime) rfl, mapObject_time .gYear (D := .gYear) rfl]; decide +kernel

/-- duration-empty-component, duration-zero-prints-P, duration-fractional-component -/
theorem finding_duration :
    mapObject Gen.xsdFacts .duration (asc "P") = .ok (some (asc "P")) ∧ accepts .duration (asc "P") = false ∧
    mapObject Gen.xsdFacts .duration (asc "PT0S") = .ok (some (asc "P")) ∧ accepts .duration (asc "PT0S") = true ∧
    mapObject Gen.xsdFacts .duration (asc "P1.5Y") = .ok (some (asc "P1.5Y")) ∧ accepts .duration (asc "P1.5Y") = false := by
  -- the source text of the regular expression is not compared again for every vector
  simp only [mapObject, mapDuration, gen_duration_re, ne_eq, not_true_eq_false, if_false]
  decide +kernel

/-- the date/time theorems' hypothesis is satisfiable and the g* layouts read XSD forms -/
theorem gen_gregorian_forms :
    mapObject Gen.xsdFacts .gDay (asc "---31") = .ok (some (asc "---31")) ∧
    mapObject Gen.xsdFacts .gMonth (asc "--12") = .ok (some (asc "--12")) ∧
    mapObject Gen.xsdFacts .gMonthDay (asc "--02-29") = .ok (some (asc "--02-29")) ∧
    mapObject Gen.xsdFacts .gMonthDay (asc "--02-30") = .err ∧
    mapObject Gen.xsdFacts .gDay (asc "31") = .err := by simp only [mapObject_time .gDay (D := .gDay) rfl, mapObject_time .gMonth (D := .gMonth) rfl, mapObject_time .gMonthDay (D := .gMonthDay) rfl]; decide +kernel

end RdfModel.C20
