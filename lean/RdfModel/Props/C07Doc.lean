/-
  C07 at document level — "every Turtle document is TriG": what the document-level development of
  C08 (`Props/C08Doc.lean`) adds to `Props/C07Ttl.lean`.

  `C07.ttl_sub_trig_sim_partial` (Props/C07Ttl.lean) is the simulation for ALL inputs the Turtle run
  accepts, grammatical or not, over abstract token producers with the hypothesis `KwSafe`.
  PROVED here, for the configuration the driver runs:

    * `ttl_sub_trig_real_partial` — the simulation for the REAL token producers and tables of both
      packages (`C05.realCfg`), every resolver, base, prefix table, input and stream ending, and
      every white-space predicate without PN_CHARS runes, `:` and `.` (`SpaceOK`);
      `ttl_sub_trig_unicode_partial` instantiates it with Go's `unicode.IsSpace` minus U+1680 (the
      regenerated table); `ttl_sub_trig_driver_partial` extends it to the driver's EXACT configuration
      (`unicode.IsSpace` with U+1680) for every input that does not contain U+1680 (buffer-content
      invariant, Proofs/TtlDocSub.lean) — the remaining inputs are finding C07-graph-ogham
      (`C07.finding_graph_ogham`);
    * `gen_tables_eq` — the regenerated Turtle and TriG tables are the same `Tables` value, so the
      two packages are run with the same token producers and character classes;
    * `ttl_sub_trig_grammatical_partial` — for every well-formed Turtle document (any nesting, every
      lexical and layout choice of the printer of `Spec/TurtleAbstract.lean`, default base present
      or absent; minus the three findings of C08) the Turtle run and the TriG run on the SAME text
      end cleanly with the SAME statements, all in the default graph.  I.e. `ttl_sub_trig`
      restricted to the image of the grammar-directed printer.  What is missing for the full
      statement: inputs outside that image which the Turtle run nevertheless accepts (leniencies
      such as `@prefixex: <x> .` or non-grammar white space), and the three finding classes.

  `nt_sub_ttl_partial` — N-Triples ⊂ Turtle AND TriG at DOCUMENT level, for ALL inputs (Proofs/TtlDocNT.lean):
  whatever the N-Triples decoder model (`NQ.run Gen.ntriples … quads := false`) accepts with triples `qs`
  and a clean end, the scan-function machine of either package (`C05.realCfg trig`, the driver's exact
  configuration incl. `unicode.IsSpace`; no base, no prefixes) accepts with the same triples, the same
  blank-node labels, all in the default graph.  A simulation: per statement `S P O .` eight iterations of
  the loop in `Next` (the first two differ between the packages: `Triples_Subject_*` vs `labelOrSubject` /
  `E1`), comments / white space / EOL handling of `toEOL`, `skipToStatement`, `captureTerm`, `expectDot`
  mapped to `scan`'s skipping; token level from `Proofs/C07Tok.lean` (IRIREF, strings) and new lemmas for
  language tags and blank-node labels.  Relative IRIs are no issue: N-Triples refuses them (`urlOk`), the
  Turtle model without a base keeps every reference verbatim.  U+1680 does not bite (no keyword is
  involved).  The ONE exclusion (`_partial`): no blank-node label of `qs` contains ':' — finding
  C07-bnode-label-colon (`finding_bnode_label_colon`, by `decide`: `_:c:d` is a label for N-Triples,
  the label `c` followed by an unexpected `:` for Turtle).  Hence the unconditional `def nt_sub_ttl` is
  false as it stands.  Also PROVED here: `nt_encoder_sub_ttl_partial` — for every dataset (well-formed triples, labels
  that are Turtle labels) and every encoder option, the N-Triples text the repository's encoder
  writes (`NQ.encodeDoc`, the model proved to round-trip in C01) is read by the Turtle AND the
  TriG model as exactly the triples the N-Triples model reads from it.  I.e. `nt_sub_ttl` restricted
  to the encoder's own output (one lexical form per term); the text is shown to be `TA.print` of a
  document of plain triples (`Proofs/C07NT.lean`), then `C08.decode_print_partial` applies.  Other
  grammatical N-Triples documents (other escapes, white space, comments) are covered by the Go-side
  oracle only (go/cmd/c05ttl, go/cmd/c08: all four decoders on generated documents and the W3C
  files); the token-level inclusions are in `Props/C07Tokens.lean`.
-/
import RdfModel.Props.C08Doc
import RdfModel.Props.C07Ttl
import RdfModel.Props.C07Tables
import RdfModel.Proofs.C07NT
import RdfModel.Props.C01
import RdfModel.Proofs.TtlDocNT
import RdfModel.Proofs.TtlDocSub
import RdfModel.Props.C01Tables
namespace RdfModel.C07
open RdfModel RdfModel.TA RdfModel.TtlDoc RdfModel.C08

/-- The regenerated tables of the two packages coincide (T1, `tables_agree`). -/
theorem gen_tables_eq : Gen.turtle = Gen.trig := by
  obtain ⟨⟨h1, _, _⟩, ⟨h2, _, _⟩, ⟨h3, h4, _, _⟩, _⟩ := tables_agree
  simp only [Gen.turtle, Gen.trig, h1, h2, h3, h4]

theorem docWf_trig (T : Ttl.Tables) (doc : Doc) (h : docWf T false doc = true) : docWf T true doc = true := by
  simp only [docWf, List.all_eq_true] at h ⊢
  intro b hb
  have := h b hb
  cases b with
  | dir d => simpa [blockWf] using this
  | triples t => simpa [blockWf] using this
  | graph kw g body => simp [blockWf] at this

/-- Every grammatical Turtle document decodes with the TriG decoder to the same triples, all in the
    default graph (model level, both runs on the same printed text). -/
theorem ttl_sub_trig_grammatical_partial (resolve : Option (List Nat) → List Nat → Option (List Nat))
    (base : Option (List Nat)) (pf : List (List Nat × List Nat)) (doc : Doc) (ch : Choices) (qs : List QuadB)
    (hwf : docWf Gen.turtle false doc = true) (hnb : docNoBoolPfx doc = true) (hch : choicesOK ch = true)
    (hd : denote resolve base pf doc = some qs) :
    ∃ ts,
      run (C05.realCfg false resolve (inRanges Gen.unicodeSpace)) .eof base pf (print Gen.turtle doc ch) = (ts, .clean) ∧
      run (C05.realCfg true resolve (inRanges Gen.unicodeSpace)) .eof base pf (print Gen.turtle doc ch) = (ts, .clean) ∧
      sameTriples ts ts := by
  have h1 := decode_print_real false resolve base pf doc ch qs hwf hnb hch hd
  have h2 := decode_print_real true resolve base pf doc ch qs
    (by simp only [if_true]; rw [← gen_tables_eq]; exact docWf_trig _ _ hwf) hnb hch hd
  simp only [Bool.false_eq_true, if_false] at h1
  simp only [if_true] at h2
  rw [← gen_tables_eq] at h2
  refine ⟨_, h1, h2, rfl, ?_⟩
  intro q hq
  have := C06.ttl_default_graph resolve (inRanges Gen.unicodeSpace) .eof base pf (print Gen.turtle doc ch) q
  rw [h1] at this
  exact this hq

/-- Go's `unicode.IsSpace` (regenerated) without U+1680 contains no name character, `:` or `.`. -/
theorem spaceOK_unicode_minus_ogham :
    SpaceOK Gen.turtle (fun c => inRanges Gen.unicodeSpace c && c != 0x1680) := by
  intro c hc
  simp only [Bool.and_eq_true, bne_iff_ne, ne_eq] at hc
  obtain ⟨hsp, hne⟩ := hc
  have hns := space_not_solid Gen.turtle Gen.unicodeSpace (by decide)
  have hsolid : solid Gen.turtle c = false := by
    cases h : solid Gen.turtle c with
    | false => rfl
    | true => have := hns c h; rw [hsp] at this; cases this
  simp only [solid, Bool.or_eq_false_iff, Bool.and_eq_false_iff, bne_eq_false_iff_eq, Bool.not_eq_false'] at hsolid
  obtain ⟨h1, h2⟩ := hsolid
  refine ⟨?_, ?_, ?_⟩
  · rintro rfl; rcases h2 with h2 | h2 <;> revert h2 <;> decide
  · rintro rfl; rcases h2 with h2 | h2 <;> revert h2 <;> decide
  · rcases h1 with h1 | h1
    · exact h1
    · exact absurd h1 hne

/-- The simulation for the real producers and tables of the two packages: for every input, base,
    prefix table, resolver and stream ending, what the Turtle decoder model accepts the TriG decoder
    model accepts with the same statements, all in the default graph. `_partial`: the white-space
    predicate must not contain a PN_CHARS rune (finding C07-graph-ogham: U+1680 in `unicode.IsSpace`). -/
theorem ttl_sub_trig_real_partial (resolve : Option (List Nat) → List Nat → Option (List Nat)) (isSpace : Nat → Bool)
    (hsp : SpaceOK Gen.turtle isSpace) (e : End) (base : Option (List Nat)) (pf : List (List Nat × List Nat))
    (inp : List Nat) (ts : List Stmt)
    (h : run (C05.realCfg false resolve isSpace) e base pf inp = (ts, .clean)) :
    run (C05.realCfg true resolve isSpace) e base pf inp = (ts, .clean) ∧ sameTriples ts ts := by
  obtain ⟨hP, hC, hL⟩ := C05.real_producers_ok Gen.turtle
  have e1 : C05.realCfg true resolve isSpace = { C05.realCfg false resolve isSpace with trig := true } := by
    simp [C05.realCfg, ← gen_tables_eq]
  obtain ⟨qs, h1, h2⟩ := ttl_sub_trig_sim_partial (C05.realCfg false resolve isSpace) e hP hC hL
    (kwSafe_real false resolve isSpace hsp) base pf inp ts h
  obtain ⟨rfl, h3⟩ := h2
  rw [e1]
  exact ⟨h1, rfl, h3⟩

/-- … in particular for `unicode.IsSpace` minus U+1680. -/
theorem ttl_sub_trig_unicode_partial (resolve : Option (List Nat) → List Nat → Option (List Nat)) (e : End)
    (base : Option (List Nat)) (pf : List (List Nat × List Nat)) (inp : List Nat) (ts : List Stmt)
    (h : run (C05.realCfg false resolve (fun c => inRanges Gen.unicodeSpace c && c != 0x1680)) e base pf inp = (ts, .clean)) :
    run (C05.realCfg true resolve (fun c => inRanges Gen.unicodeSpace c && c != 0x1680)) e base pf inp = (ts, .clean) ∧
      sameTriples ts ts :=
  ttl_sub_trig_real_partial resolve _ spaceOK_unicode_minus_ogham e base pf inp ts h

/-- … and for the driver's EXACT white-space predicate (`unicode.IsSpace`, U+1680 included) on every input
    that does not contain U+1680: the rune buffer only ever holds runes of the input, pushed-back `.`s
    and NULs, and the white-space predicate is only asked about buffer runes (`run_space_congr`,
    Proofs/TtlDocSub.lean), so both runs coincide with the runs under `unicode.IsSpace` minus U+1680.
    `finding_graph_ogham` is an input WITH that rune on which the inclusion fails; inputs that contain U+1680 where it
    does no harm (inside a string, say) are covered by neither. -/
theorem ttl_sub_trig_driver_partial (resolve : Option (List Nat) → List Nat → Option (List Nat))
    (base : Option (List Nat)) (pf : List (List Nat × List Nat)) (inp : List Nat) (ts : List Stmt)
    (hno : 0x1680 ∉ inp)
    (h : run (C05.realCfg false resolve (inRanges Gen.unicodeSpace)) .eof base pf inp = (ts, .clean)) :
    run (C05.realCfg true resolve (inRanges Gen.unicodeSpace)) .eof base pf inp = (ts, .clean) ∧ sameTriples ts ts := by
  have key : ∀ b : Bool,
      run (C05.realCfg b resolve (fun c => inRanges Gen.unicodeSpace c && c != 0x1680)) .eof base pf inp =
      run (C05.realCfg b resolve (inRanges Gen.unicodeSpace)) .eof base pf inp := by
    intro b
    refine run_space_congr (C := C05.realCfg b resolve (inRanges Gen.unicodeSpace)) (real_subP _)
      (fun c => inRanges Gen.unicodeSpace c && c != 0x1680) ?_ ?_ base pf inp ?_
    · show inRanges Gen.unicodeSpace 0x2e = (inRanges Gen.unicodeSpace 0x2e && (0x2e : Nat) != 0x1680); decide
    · show inRanges Gen.unicodeSpace 0 = (inRanges Gen.unicodeSpace 0 && (0 : Nat) != 0x1680); decide
    · intro y hy
      show inRanges Gen.unicodeSpace y = (inRanges Gen.unicodeSpace y && y != 0x1680)
      have : y ≠ 0x1680 := fun hc => hno (hc ▸ hy)
      simp [this]
  rw [← key false] at h
  have := ttl_sub_trig_unicode_partial resolve .eof base pf inp ts h
  rw [key true] at this
  exact this

/-- non-vacuity: a TriG-looking Turtle document (subject `graph:x`) accepted by both runs -/
example :
    run (C05.realCfg false (fun _ r => some r) (fun c => inRanges Gen.unicodeSpace c && c != 0x1680)) .eof none []
      (asc "@prefix graph: <a:> . graph:x a graph:y .") =
      ([⟨some (.iri (asc "a:x")), some (.iri TtlDoc.rdfType), .iri (asc "a:y"), none⟩], .clean) := by
  decide +kernel

/-- every range of the set consists of Unicode scalar values -/
def scalarChk (rs : RangeSet) : Bool :=
  rs.all (fun e => decide (e.2 < 0xD800) || (decide (0xE000 ≤ e.1) && decide (e.2 ≤ 0x10FFFF)))

theorem scalar_of_chk {rs : RangeSet} (h : scalarChk rs = true) (c : Nat) (hc : inRanges rs c = true) : IsScalar c := by
  rw [inRanges_iff] at hc
  obtain ⟨e, he, h1, h2⟩ := hc
  have := List.all_eq_true.1 h e he
  simp only [Bool.or_eq_true, Bool.and_eq_true, decide_eq_true_eq] at this
  rcases this with h3 | ⟨h3, h4⟩
  · exact Or.inl (by omega)
  · exact Or.inr ⟨by omega, by omega⟩

/-- The hypotheses of the document-level simulation hold for the regenerated tables of the three packages
    and the configuration the driver runs. -/
theorem ntCfg_real (trig : Bool) (resolve : Option (List Nat) → List Nat → Option (List Nat)) :
    NTCfg Gen.ntriples (if trig then Gen.trig else Gen.turtle) (C05.realCfg trig resolve (inRanges Gen.unicodeSpace)) := by
  obtain ⟨_, ⟨hh1, _, hh3⟩, ⟨hu, hp, hu', hp'⟩, hagU, hagP, ⟨_, _, _, hcol⟩⟩ := tables_agree
  have hws : ∀ c, isWs (C05.realCfg trig resolve (inRanges Gen.unicodeSpace)) c = inRanges Gen.unicodeSpace c := by
    intro c
    show (decide (c = 0x20) || decide (c = 0x09) || decide (c = 0x0a) || decide (c = 0x0d) || inRanges Gen.unicodeSpace c) = _
    by_cases h1 : c = 0x20
    · subst h1; decide
    · by_cases h2 : c = 0x09
      · subst h2; decide
      · by_cases h3 : c = 0x0a
        · subst h3; decide
        · by_cases h4 : c = 0x0d
          · subst h4; decide
          · simp [h1, h2, h3, h4]
  have hbase : NTCfg Gen.ntriples Gen.turtle (C05.realCfg false resolve (inRanges Gen.unicodeSpace)) :=
    { prod := rfl
      hex := hh3.symm
      pn := fun c hc => by
        show inRanges Gen.ntriples_pnChars c = inRanges Gen.turtle_pnChars c
        rw [← hp']; exact hagP c hc
      pnU := fun c hc => by
        show inRanges Gen.ntriples_pnCharsU c = inRanges Gen.turtle_pnCharsU c
        rw [← hu']; exact hagU c hc
      colonT := hcol
      dotU := by decide
      scalar := fun c hc => by
        rcases hc with hc | hc
        · exact scalar_of_chk (rs := Gen.ntriples_pnChars) (by decide) c hc
        · exact scalar_of_chk (rs := Gen.ntriples_pnCharsU) (by decide) c hc
      ws := hws
      sp_lt := by decide
      sp_us := by decide
      sp_dq := by decide
      sp_dot := by decide }
  cases trig with
  | false => exact hbase
  | true =>
    have e1 : C05.realCfg true resolve (inRanges Gen.unicodeSpace) =
        { C05.realCfg false resolve (inRanges Gen.unicodeSpace) with trig := true } := by
      simp [C05.realCfg, ← gen_tables_eq]
    simp only [if_true]
    rw [← gen_tables_eq, e1]
    -- the update changes nothing: it makes `hbase` be elaborated again at the rewritten configuration
    exact { hbase with ws := hbase.ws }

/-- the exclusion of `nt_sub_ttl_partial`, decidable: no blank-node label contains ':' -/
def noColonLabels (qs : List (Quad (List Nat))) : Bool :=
  qs.all (fun q => (match q.s with | .bnode l => !l.contains 0x3a | _ => true) &&
                   (match q.o with | .bnode l => !l.contains 0x3a | _ => true))

/-- statement of the Turtle model for a triple of the N-Triples model (labels as labelled nodes) -/
def stmtOfNT (q : Quad (List Nat)) : Stmt := ⟨some (ntTerm q.s), some (ntTerm q.p), ntTerm q.o, none⟩

/-- N-Triples ⊂ Turtle and ⊂ TriG at document level, for all inputs: what the N-Triples decoder model accepts with
    triples `qs` (clean end) the Turtle (`trig := false`) and the TriG (`trig := true`) model — real
    producers, regenerated tables, `unicode.IsSpace`, no base, no prefixes, any resolver — accept with
    the same triples and blank-node labels, in the default graph. `_partial`: labels containing ':'
    are excluded (finding C07-bnode-label-colon). -/
theorem nt_sub_ttl_partial (trig : Bool) (urlOk : List Nat → Bool)
    (resolve : Option (List Nat) → List Nat → Option (List Nat)) (inp : List Nat) (qs : List (Quad (List Nat)))
    (hrun : NQ.run Gen.ntriples urlOk .eof false inp = (qs, .clean)) (hok : noColonLabels qs = true) :
    run (C05.realCfg trig resolve (inRanges Gen.unicodeSpace)) .eof none [] inp = (qs.map stmtOfNT, .clean) := by
  obtain ⟨_, hC, _⟩ := C05.realCfg_producers_ok trig resolve (inRanges Gen.unicodeSpace)
  -- `nt_doc_sim` speaks of `ntStmt` (Proofs/TtlDocNT.lean), which is `stmtOfNT` by unfolding `ntTerm`
  refine nt_doc_sim (ntCfg_real trig resolve) hC urlOk inp qs hrun ?_
  intro q hq
  have := List.all_eq_true.1 hok q hq
  simp only [Bool.and_eq_true] at this
  constructor
  · cases hs : q.s with
    | bnode l => rw [hs] at this; simpa [labelOK] using this.1
    | iri v => trivial
    | lit a b c => trivial
  · cases ho : q.o with
    | bnode l => rw [ho] at this; simpa [labelOK] using this.2
    | iri v => trivial
    | lit a b c => trivial

/-- non-vacuity: comments, CR / LF, a language tag, a datatype, escapes, labels with `.` inside -/
example :
    let doc := asc "# c\r<a:s> <a:p> \"x\\n\"@en-GB . # d\n_:b.1 <a:p> \"1\"^^<a:dt>.\n<a:s> <a:p> _:b.1 ."
    (NQ.run Gen.ntriples (fun _ => true) .eof false doc).2 = .clean ∧
    (NQ.run Gen.ntriples (fun _ => true) .eof false doc).1.length = 3 ∧
    noColonLabels (NQ.run Gen.ntriples (fun _ => true) .eof false doc).1 = true := by
  decide +kernel

/-- FINDING C07-bnode-label-colon (known): `_:c:d` is one label for the N-Triples decoder; the Turtle decoder
    reads the label `c`, yields the triple with it, and fails on the `:` where it expects `.`. The exclusion
    of `nt_sub_ttl_partial` is needed. -/
theorem finding_bnode_label_colon :
    NQ.run Gen.ntriples (fun _ => true) .eof false (asc "<a:a> <a:b> _:c:d .") =
      ([⟨.iri (asc "a:a"), .iri (asc "a:b"), .bnode (asc "c:d"), none⟩], .clean) ∧
    run (C05.realCfg false (fun _ r => some r) (inRanges Gen.unicodeSpace)) .eof none [] (asc "<a:a> <a:b> _:c:d .") =
      ([⟨some (.iri (asc "a:a")), some (.iri (asc "a:b")), .bnode (.lbl (asc "c")), none⟩], .error .syntax) := by
  decide +kernel

/-- Hence the unconditional statement `nt_sub_ttl` (Props/C07Ttl.lean) is false: the witness is grammatical
    N-Triples (`Spec.NQG.accepts`) and accepted by the N-Triples decoder model. -/
theorem nt_sub_ttl_refuted : ¬ nt_sub_ttl := by
  intro h
  obtain ⟨h1, h2⟩ := finding_bnode_label_colon
  have := h (fun _ => true) (fun _ r => some r) (inRanges Gen.unicodeSpace) (asc "<a:a> <a:b> _:c:d .") _
    (fun _ => rfl) (by decide) h1
  rw [h2] at this
  cases this

theorem toStmt_qB {β : Type} (label : β → List Nat) (q : Quad β) :
    toStmt (C07NT.qB label q) = stmtOfNT (Quad.map label (C01.Quad.dropGraph q)) := by
  have ht : ∀ t : Term β, (t.map (fun b => B.lbl (label b))).map toBN = ntTerm (t.map label) := by
    intro t; cases t <;> rfl
  simp [toStmt, C07NT.qB, stmtOfNT, Quad.map, C01.Quad.dropGraph, ht]

/-- The N-Triples encoder's output is read by the Turtle / TriG model as the same triples. -/
theorem nt_encoder_sub_ttl_partial {β : Type} (Tn : NQ.Tables) (hTn : C01.TablesOK Tn) (hGn : C01.TablesGrammar Tn)
    (T : Ttl.Tables) (hT : C02.TablesOK T) (hT2 : TablesOK2 T) (C : Cfg) (hC : CfgOK T C) (ascii : Bool)
    (label : β → List Nat) (hlab : ∀ b, labelWf T (label b) = true) (urlOk : List Nat → Bool)
    (qs : List (Quad β)) (hwf : ∀ q ∈ qs, C01.WFQuad urlOk q) :
    run C .eof none [] (NQ.encodeDoc Tn ascii label false qs) =
      (qs.map (fun q => stmtOfNT (Quad.map label (C01.Quad.dropGraph q))), .clean) := by
  obtain ⟨w1, w2, w3⟩ := C07NT.doc_wf_denote T C.resolve label urlOk hlab qs hwf { base := none, ns := [], next := 0 } rfl
  have hwf' : docWf T C.trig (C07NT.docOf label qs) = true := by
    cases C.trig
    · exact w1
    · exact docWf_trig T _ w1
  have := decode_print_partial T hT hT2 C hC none [] (C07NT.docOf label qs) (C07NT.choicesOf Tn ascii qs)
    (qs.map (C07NT.qB label)) hwf' w2 (C07NT.choicesOK_of Tn ascii qs) (by simp [denote, w3])
  rw [C07NT.print_eq T Tn hTn hGn ascii label urlOk qs hwf] at this
  rw [this]
  simp [toStmt_qB]

/-- … together with C01: the N-Triples model and the Turtle / TriG model agree on that text. -/
theorem nt_encoder_agree_partial {β : Type} (Tn : NQ.Tables) (hTn : C01.TablesOK Tn) (hGn : C01.TablesGrammar Tn)
    (T : Ttl.Tables) (hT : C02.TablesOK T) (hT2 : TablesOK2 T) (C : Cfg) (hC : CfgOK T C) (ascii : Bool)
    (label : β → List Nat) (hl : C01.LabelsOK Tn label) (hlab : ∀ b, labelWf T (label b) = true) (urlOk : List Nat → Bool)
    (qs : List (Quad β)) (hwf : ∀ q ∈ qs, C01.WFQuad urlOk q) :
    ∃ ts, NQ.run Tn urlOk .eof false (NQ.encodeDoc Tn ascii label false qs) = (ts, .clean) ∧
      run C .eof none [] (NQ.encodeDoc Tn ascii label false qs) = (ts.map stmtOfNT, .clean) := by
  refine ⟨_, C01.ntriples_roundtrip Tn hTn urlOk ascii label hl qs hwf, ?_⟩
  rw [nt_encoder_sub_ttl_partial Tn hTn hGn T hT hT2 C hC ascii label hlab urlOk qs hwf]
  simp

/-- … for the tables regenerated from /repo: the N-Triples encoder's output through the Turtle and the
    TriG configuration the driver runs. -/
theorem nt_encoder_sub_ttl_real {β : Type} (trig : Bool) (resolve : Option (List Nat) → List Nat → Option (List Nat))
    (ascii : Bool) (label : β → List Nat) (hlab : ∀ b, labelWf Gen.turtle (label b) = true) (urlOk : List Nat → Bool)
    (qs : List (Quad β)) (hwf : ∀ q ∈ qs, C01.WFQuad urlOk q) :
    run (C05.realCfg trig resolve (inRanges Gen.unicodeSpace)) .eof none [] (NQ.encodeDoc Gen.ntriples ascii label false qs) =
      (qs.map (fun q => stmtOfNT (Quad.map label (C01.Quad.dropGraph q))), .clean) := by
  have hT : C02.TablesOK (if trig then Gen.trig else Gen.turtle) := by cases trig; exact C02.gen_turtle_ok; exact C02.gen_trig_ok
  have hT2 : TablesOK2 (if trig then Gen.trig else Gen.turtle) := by cases trig; exact gen_turtle_ok2; exact gen_trig_ok2
  exact nt_encoder_sub_ttl_partial Gen.ntriples C01.gen_ntriples_ok C01.gen_ntriples_grammar _ hT hT2 _ (cfgOK_real trig resolve)
    ascii label (by cases trig; exact hlab; rw [← gen_tables_eq]; exact hlab) urlOk qs hwf

/-- non-vacuity: the C01 witness dataset (IRIs, labelled blank nodes, literals with escapes, a
    language tag, a datatype) satisfies the hypotheses with its labeller -/
example : (∀ q ∈ C01.Witness.quads, C01.WFQuad (fun _ => true) q) ∧ (∀ b, labelWf Gen.turtle (C01.Witness.label b) = true) :=
  ⟨C01.Witness.wf, by decide⟩

-- … and the conclusion on it, computed: four triples, clean end, with the Turtle configuration (the evaluation of the
-- run nests deeper than the default recursion limit)
set_option maxRecDepth 8000 in
example :
    let r := run (C05.realCfg false (fun _ r => some r) (inRanges Gen.unicodeSpace)) .eof none []
      (NQ.encodeDoc Gen.ntriples false C01.Witness.label false C01.Witness.quads)
    r.1.length = 4 ∧ r.2 = .clean := by decide +kernel

end RdfModel.C07
