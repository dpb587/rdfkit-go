/-
  Property C10 — JSON-LD documents decode to the dataset they denote; encoder output round-trips.
  Level: fragment. The statements, each with the few lines that assemble it from the lemmas of
  RdfModel/Proofs/C10*.lean.

  What is stated here is about three executable objects the driver runs:
    * `JL.toRdf`  (Spec/JsonLdFragment.lean) — the fragment semantics, written from the W3C
      recommendation; tied to /repo's decoder by correspondence (T3) only;
    * `JL.write`  (Spec/JsonLdWriter.lean) — the harness writer (expanded / flattened / nested / compacted
      through an inline context);
    * `JLEnc.encode` (Model/JsonLdEncoder.lean) — the model of /repo's encoder; tied by T3.

  THE WRITER VALIDATES ITS OUTPUT. `write` keeps a compacted document only after it has evaluated
  `toRdf` on it and found exactly the numbering-of-blank-nodes image (`denForest`) of a tree whose
  quads are a permutation of the dataset; otherwise it writes the expanded fallback. So
  `write_denotes` rests on (i) the certificate lemma `forest_certificate` — a validated tree is an
  isomorphism witness — and (ii) a direct proof for the fallback (`writeFlat_denotes`). It does not
  contain a proof that compaction through a context is inverted by expansion in general; that such
  documents are *produced* (not only the fallback) is measured by the harness (histogram `write:path:*`,
  `doc:*`), and what they denote is decided by `toRdf` itself.
-/
import RdfModel.Props.C10Defs
import RdfModel.Spec.GraphIso
import RdfModel.Proofs.C10Write
import RdfModel.Proofs.C10EncStruct
namespace RdfModel.C10
open RdfModel RdfModel.Desc RdfModel.JL RdfModel.JLEnc

variable {β : Type}

/-- **Fragment writer.** For every well-formed dataset `d`, every injective labelling of its blank nodes
    by non-empty labels and all choices `ch` (processing mode, document base, inline context, local contexts on embedded node
    objects and graph members, nesting, lists, native values, document shape, …), the document `write name d ch` is inside the fragment and denotes a dataset
    isomorphic to `d` (same quads up to an injective renaming of blank nodes, multiplicities kept). -/
theorem write_denotes [DecidableEq β] (name : β → Str) (hname : Function.Injective name)
    (hne : ∀ b, name b ≠ []) (d : List (DQuad β)) (hwf : WFDataset d) (ch : Choices) :
    ∃ out, toRdf ch.mode11 ch.base (write name d ch) = some out ∧ Spec.IsoQ out d :=
  Proofs.C10.write_denotes name hname hne d hwf ch

/-- The expanded, flattened form (no context, one node object per quad) denotes the dataset itself, blank
    nodes relabelled by `name`; proved by evaluating the semantics symbolically, for every processing
    mode and base. -/
theorem writeFlat_denotes (name : β → Str) (hne : ∀ b, name b ≠ []) (mode11 : Bool) (base : Option Str)
    (d : List (DQuad β)) (hwf : WFDataset d) :
    toRdf mode11 base (writeFlat name d) = some (d.map (DQuad.map (fun b => BN.orig (name b)))) :=
  Proofs.C10.writeFlat_denotes name hne mode11 base d hwf

/-- **Certificate lemma.** A forest that validates against `d` (`forestOK`: its quads are a permutation
    of `d`, the blank nodes it anonymises are pairwise distinct and are not used by identifier anywhere)
    denotes, with fresh blank nodes numbered in document order from any start, a dataset isomorphic to
    `d`. -/
theorem forest_certificate [DecidableEq β] (name : β → Str) (hname : Function.Injective name) (F : Forest β)
    (d : List (DQuad β)) (h : forestOK F d = true) (n0 : Nat) :
    Spec.IsoQ (denForest name F n0).1 d :=
  Proofs.C10.forest_iso name hname F d h n0

/-- **Encoder direction (partial).** If the certificate `encCert` holds for a configuration, a dataset and
    an iteration order of the subject map — a decidable check the driver evaluates on every case of the
    harness — then the fragment semantics reads the encoder's document as a dataset isomorphic to the
    input, for the given processing mode and document base.
    GAP (why `_partial`): the hypothesis is the certificate, not the natural conditions of the property
    text; see `encoder_roundtrip_natural` below. -/
theorem encoder_roundtrip_partial [DecidableEq β] (mode11 : Bool) (base : Option Str) (cfg : Cfg β)
    (hl : Function.Injective cfg.label) (d : List (DQuad β)) (ord ord2 : List (Term β))
    (h : encCert mode11 base cfg d ord ord2 = true) :
    ∃ doc out, encode cfg d ord ord2 = some doc ∧ toRdf mode11 base doc = some out ∧ Spec.IsoQ out d := by
  unfold encCert at h
  cases he : encode cfg d ord ord2 with
  | none => simp [he] at h
  | some doc =>
    cases hf : encForest cfg d ord ord2 with
    | none => simp [he, hf] at h
    | some F =>
      simp only [he, hf, Bool.and_eq_true, decide_eq_true_eq] at h
      exact ⟨doc, _, rfl, h.2, Proofs.C10.forest_iso cfg.label hl F d h.1 _⟩

/-- The encoder direction as the property text has it: default-graph datasets without literals of the
    natively written datatypes and without cycles of once-referenced blank nodes (`acyclic`: the hypothesis
    of property C17 before patch fix-c17-export-cycles, a parameter so that this file does not depend on
    C17's development; with the repaired export the harness finds the certificate to hold for cyclic
    datasets as well, so `acyclic` may be taken to be `fun _ => True`), prefix tables and base arbitrary,
    except that no IRI of the dataset has a used prefix as its scheme (finding C10-K2, the parameter
    `schemeClash`). A statement only: nothing proves or uses it, and its hypothesis list is too weak. The
    model refutes it for a prefix name `@1` (N1 in `Witness`), a base that carries a fragment (N2) and an
    empty blank node label (N3); N4–N6 are the necessity witnesses of the exclusions it does carry.
    `encCert_of_natural` has the corrected list and is proved (`encCert_of_natural_holds`). The harness
    checks the implication from these conditions to the certificate on every generated case
    (`encode:natural-implies-cert`) and reports a disagreement if it fails. -/
def encoder_roundtrip_natural [DecidableEq β] (acyclic : List (DQuad β) → Prop) (schemeClash : Cfg β → List (DQuad β) → Prop) : Prop :=
  ∀ (mode11 : Bool) (base : Option Str) (cfg : Cfg β) (d : List (DQuad β)) (ord ord2 : List (Term β)),
    Function.Injective cfg.label → WFDataset d → defaultGraphOnly d = true → noNativeTyped d = true →
    acyclic d → ¬ schemeClash cfg d → ord.Perm (defaultOrd d) → ord2.Perm (defaultOrd d) →
    ∃ doc out, encode cfg d ord ord2 = some doc ∧ toRdf mode11 base doc = some out ∧ Spec.IsoQ out d

/-! ### Encoder direction under natural, local hypotheses

  The certificate `encCert` of `encoder_roundtrip_partial` evaluates `toRdf` on the whole document. The
  theorems below derive it from decidable, LOCAL hypotheses (`ctxOK`: about the declared prefixes;
  `compactOK`/`relOK`: about one IRI): (a) the `@context` the encoder writes is processed into exactly
  the declared prefixes, (b) IRI expansion under that context inverts the encoder's three ways of writing
  an IRI, (c) the node objects `buildResource` produces evaluate to `denForest` of the exported forest
  (`encCert_of_natural_holds`). NOT proved: that the forest validates (`structOK`, C17's business) — it
  is a hypothesis of `encoder_roundtrip_natural2_partial`. -/

/-- the list of used prefixes is duplicate free -/
theorem usedPrefixes_nodup [DecidableEq β] (cfg : Cfg β) (d : List (DQuad β)) (ord ord2 : List (Term β)) :
    (usedPrefixes cfg d ord ord2).Nodup :=
  Proofs.C10.usedPrefixes_nodup cfg d ord ord2

/-- **(a) The encoder's `@context` is read as intended.** If the declared prefixes satisfy `ctxOK`
    (usable term names, absolute namespaces ending in a gen-delim, no namespace or dataset IRI whose
    scheme is a declared prefix, an absolute base), then — in both processing modes and for every
    document base — Context Processing of the context object `{"@base": cfg.base, p: ns, …}` succeeds
    and yields an active context without vocabulary mapping and default language, whose base is the
    configured one, in which every declared prefix is a term with the prefix flag set and IRI mapping
    its namespace, and which has no other term (`GoodCtx`). -/
theorem encoder_context_read [DecidableEq β] (mode11 : Bool) (base : Option Str) (cfg : Cfg β)
    (d : List (DQuad β)) (ord ord2 : List (Term β)) (h : ctxOK cfg d ord ord2 = true) :
    ∃ c, processCtxObj (Ctx.initial mode11 base) (Proofs.C10.ctxMs cfg.base (declared cfg d ord ord2)) = some c ∧
      c.mode11 = mode11 ∧
      Proofs.C10.GoodCtx (mkEnc cfg) cfg.base (usedPrefixes cfg d ord ord2)
        ((declared cfg d ord ord2).map (·.1)) c :=
  Proofs.C10.goodCtx_of_decl (mkEnc cfg) cfg.base (usedPrefixes cfg d ord ord2)
    (usedPrefixes_nodup cfg d ord ord2) (Ctx.initial mode11 base) rfl rfl rfl (Proofs.C10.declOK_of_ctxOK cfg d ord ord2 h)

/-- the hypotheses of (b) for one IRI: the fields of `Proofs.C10.IriOK`, the last two as one (`IriHyp.ok`) -/
def IriHyp (E : Enc) (used names : List Str) (v : Str) : Prop :=
  absIri v = true ∧ schemeFree names v = true ∧ compactOK E v = true ∧
    ∀ p r, compactPrefix E v = some (p, r) → p ∈ used ∧ pfxNameOK p = true

theorem IriHyp.ok {E : Enc} {used names : List Str} {v : Str} (h : IriHyp E used names v) :
    Proofs.C10.IriOK E used names v :=
  ⟨h.1, h.2.1, h.2.2.1, fun p r e => (h.2.2.2 p r e).1, fun p r e _ => (h.2.2.2 p r e).2⟩

/-- **(b) Expansion inverts the encoder's compaction.** Under an active context as in (a), for every
    absolute IRI `v` whose scheme is no declared prefix, which the prefix table shortens invertibly
    (`compactOK`: C13's `compact_expand` through the UTF-8 conversions) through a used, usable prefix:
    what `compactVocabIRI` writes (property names, `@type` values, datatypes) is no keyword, has a colon
    and expands to `v` in vocabulary position; what `compactDocumentIRI` writes as a value of `@id` — a
    compact IRI, a reference relative to the base passing `relOK`, or `v` itself — expands to `v` in
    document position. -/
theorem encoder_iri_roundtrip (E : Enc) (bs : Option Str) (used names : List Str) (c : Ctx)
    (hc : Proofs.C10.GoodCtx E bs used names c) (hbase : bs.isSome = E.base.isSome) (v : Str)
    (habs : absIri v = true) (hfree : schemeFree names v = true) (hcomp : compactOK E v = true)
    (hused : ∀ p r, compactPrefix E v = some (p, r) → p ∈ used ∧ pfxNameOK p = true) :
    ((compactVocabIRI E v).1.head? ≠ some cAt ∧ (compactVocabIRI E v).1.contains cColon = true ∧
      ∀ vocab docRel, expandIri c vocab docRel (compactVocabIRI E v).1 = .iri v) ∧
    ((∀ b, bs = some b → relOK E names b v = true) →
      expandIri c false true (compactDocumentIRI E v).1 = .iri v) := by
  have hok : Proofs.C10.IriOK E used names v := IriHyp.ok ⟨habs, hfree, hcomp, hused⟩
  exact ⟨Proofs.C10.vocabForm hc hok, fun hrel => Proofs.C10.docForm hc hbase hok hrel⟩

/-- the `@context` member of the encoder's document is the context object of theorem (a) -/
theorem encoder_doc_context [DecidableEq β] (cfg : Cfg β) (d : List (DQuad β)) (ord ord2 : List (Term β)) (doc : Json)
    (h : encode cfg d ord ord2 = some doc) :
    ∃ body, doc = .obj (body ++
      (if Proofs.C10.ctxMs cfg.base (declared cfg d ord ord2) = [] then []
       else [(kContext, .obj (Proofs.C10.ctxMs cfg.base (declared cfg d ord ord2)))])) := by
  cases hrs : (if (dbuild d).graphNames.contains none then
      ((dbuild d).builder none).exportResourcesV Opts.default ord ord2 (d.length + 1) else some []) with
  | none => unfold encode at h; simp only [hrs] at h; cases h
  | some rs =>
    rw [(Proofs.C10.encode_doc cfg d ord ord2 rs hrs).2] at h
    cases h
    unfold Proofs.C10.docOf
    split
    · exact ⟨_, rfl⟩
    · exact ⟨[(kGraph, .arr _)], rfl⟩

/-- **(c1) One statement is read back.** Under an active context as in (a): the member name
    `buildResource` files an ObjectStatement `p o` under classifies as the property `p` (plain term
    definition), and the JSON value it writes for `o` — `{"@id": …}` for an IRI (not a value of `@type`) or a
    blank node, a string, a typed or language-tagged value object for a literal that is not written as a
    native number / boolean — evaluates to exactly the quad `s p o`, with blank nodes relabelled by `label`.
    This is the statement level of the document induction (c), stated with `IriHyp`; the nesting of
    AnonResources, the grouping by member name, `@type` arrays and the root level are not covered here, and
    the induction itself (Proofs/C10EncBuild, `PS_obj`) does not go through this theorem. -/
theorem encoder_statement_read [DecidableEq β] (E : Enc) (bs : Option Str) (used names : List Str) (c : Ctx)
    (hc : Proofs.C10.GoodCtx E bs used names c) (hbase : bs.isSome = E.base.isSome)
    (label : β → Str) (hne : ∀ b, label b ≠ []) (p : Str) (o : Term β) (used0 : List Str)
    (hp : IriHyp E used names p) (hwf : wfObj o = true)
    (hiri : ∀ v, o = .iri v → IriHyp E used names v)
    (hdt : ∀ lex dt lang, o = .lit lex dt lang → dt ≠ xsdString → IriHyp E used names dt)
    (hrel : ∀ v, o = .iri v → ∀ b, bs = some b → relOK E names b v = true)
    (hnn : ∀ lex dt lang, o = .lit lex dt lang → (dt == xsdInteger || dt == xsdDouble || dt == xsdBoolean) = false)
    (hty : ∀ v, o = .iri v → p ≠ rdfType) :
    classifyKey c (buildStmt E label (.obj p o) used0).1 = .prop p TermDef.plain ∧
      ∀ g s n, evalItem c TermDef.plain g s p (buildStmt E label (.obj p o) used0).2.1 n =
        some ([quad s p (outTerm label o) g], n) := by
  have hkey := Proofs.C10.classifyKey_vocab hc hp.ok
  cases o with
  | iri v =>
    have hne' := hty v rfl
    simp only [buildStmt, hne', if_false]
    refine ⟨hkey, fun g s n => ?_⟩
    exact Proofs.C10.evalItem_iriObj hc hbase (hiri v rfl).ok (hrel v rfl) g s p n
  | bnode b =>
    simp only [buildStmt]
    exact ⟨hkey, fun g s n => Proofs.C10.evalItem_bnodeObj label hne c g s p b n⟩
  | lit lex dt lang =>
    simp only [buildStmt]
    refine ⟨hkey, fun g s n => ?_⟩
    exact Proofs.C10.evalItem_litObj hc lex dt lang hwf (hnn lex dt lang rfl)
      (fun h => (hdt lex dt lang rfl h).ok) g s p n

/-- **(c) The natural hypotheses imply the certificate** — the statement that closes the encoder
    direction except for `structOK`. Hypotheses, all decidable or plain: the blank node label provider
    never returns the empty string (the decidable `labelsOK cfg d` restricts this to the nodes of `d`; the
    theorem is stated with the provider-wide form); the iteration orders of the two passes of
    `ExportResources` only contain subjects of the default graph; `WFDataset`, `noNativeTyped`, `ctxOK`,
    `locOK` (local conditions, see Props/C10Defs.lean) and `structOK` (the exported forest validates). -/
def encCert_of_natural [DecidableEq β] : Prop :=
  ∀ (mode11 : Bool) (base : Option Str) (cfg : Cfg β) (d : List (DQuad β)) (ord ord2 : List (Term β)),
    (∀ b, cfg.label b ≠ []) → (∀ s ∈ ord, s ∈ defaultOrd d) → (∀ s ∈ ord2, s ∈ defaultOrd d) →
    WFDataset d → noNativeTyped d = true → ctxOK cfg d ord ord2 = true →
    locOK cfg d ord ord2 = true → structOK cfg d ord ord2 = true →
    encCert mode11 base cfg d ord ord2 = true

/-- **The document-level induction.** The node objects `buildResource` produces — nested
    AnonResources, statements grouped by member name, `@type` values and arrays, `{"@id": …}` references,
    value objects — evaluate under the fragment semantics `toRdf`, in both processing modes and for every
    document base, to exactly `denForest` of the exported forest; the document is well-formed JSON
    (`Json.wf`); a single item is the document itself, several (or none) sit in `@graph`; every prefix a
    compaction uses is declared in the `@context` (a)–(b). -/
theorem encCert_of_natural_holds [DecidableEq β] : encCert_of_natural (β := β) :=
  fun mode11 base cfg d ord ord2 hne hord hord2 hwf hnn hctx hloc hst =>
    Proofs.C10.encCert_holds mode11 base cfg d ord ord2 hne hord hord2 hwf hnn hctx hloc hst

/-- The forest of the exported resources exists for every configuration, every dataset and every pair of
    iteration orders: the tagged export terminates within the fuel `|d|+1` (C17's termination theorem for the
    repaired export, transferred to the tagged copy `exportT`). -/
theorem encoder_forest_exists [DecidableEq β] (cfg : Cfg β) (d : List (DQuad β)) (ord ord2 : List (Term β)) :
    (encForest cfg d ord ord2).isSome :=
  Proofs.C10.encForest_isSome cfg d ord ord2

/-- **The document is read as the exported forest — WITHOUT `structOK`.** Under the hypotheses of
    `encCert_of_natural` except `structOK`, the encoder produces a document, the forest exists, and the
    fragment semantics reads the document as exactly `denForest` of that forest (both processing modes,
    every document base). What `structOK` (= `forestOK F d`) adds is only that this forest is the dataset
    up to blank node renaming — a statement about the resource-list export alone (C17), still a hypothesis
    of `encoder_roundtrip_natural2_partial`. -/
theorem encoder_document_read [DecidableEq β] (mode11 : Bool) (base : Option Str) (cfg : Cfg β)
    (d : List (DQuad β)) (ord ord2 : List (Term β))
    (hne : ∀ b, cfg.label b ≠ []) (hord : ∀ s ∈ ord, s ∈ defaultOrd d) (hord2 : ∀ s ∈ ord2, s ∈ defaultOrd d)
    (hwf : WFDataset d) (hnn : noNativeTyped d = true) (hctx : ctxOK cfg d ord ord2 = true)
    (hloc : locOK cfg d ord ord2 = true) :
    ∃ doc F, encode cfg d ord ord2 = some doc ∧ encForest cfg d ord ord2 = some F ∧
      toRdf mode11 base doc = some (denForest cfg.label F (encStart F)).1 :=
  Proofs.C10.doc_reads_forest mode11 base cfg d ord ord2 hne hord hord2 hwf hnn hctx hloc

/-- **Encoder round trip under natural hypotheses (partial).** For every configuration (base, prefixes,
    buffering, injective never-empty labels), every well-formed dataset without natively written datatypes and
    all iteration orders of the subject map: if the declared `@context` is usable (`ctxOK`), every IRI is
    shortened invertibly (`locOK`) and the exported forest validates (`structOK`), then the fragment
    semantics reads the encoder's document as a dataset isomorphic to the input.
    GAP (why `_partial`): `structOK` is still a hypothesis — a decidable check on the export of the
    resource-list builder alone (no JSON-LD involved; it implies that `d` is a default-graph dataset). It
    is what C17's `flatten_export_repaired` expresses through `NewTriples`, but it is not derived from that
    theorem here; `compactOK` / `relOK` inside `locOK` are local restatements of C13's `compact_expand` /
    `relativize_sound` through the UTF-8 conversions and are not derived from C13 either. -/
theorem encoder_roundtrip_natural2_partial [DecidableEq β] (mode11 : Bool) (base : Option Str) (cfg : Cfg β)
    (hl : Function.Injective cfg.label) (hne : ∀ b, cfg.label b ≠ []) (d : List (DQuad β)) (ord ord2 : List (Term β))
    (hord : ∀ s ∈ ord, s ∈ defaultOrd d) (hord2 : ∀ s ∈ ord2, s ∈ defaultOrd d)
    (hwf : WFDataset d) (hnn : noNativeTyped d = true) (hctx : ctxOK cfg d ord ord2 = true)
    (hloc : locOK cfg d ord ord2 = true) (hst : structOK cfg d ord ord2 = true) :
    ∃ doc out, encode cfg d ord ord2 = some doc ∧ toRdf mode11 base doc = some out ∧ Spec.IsoQ out d :=
  encoder_roundtrip_partial mode11 base cfg hl d ord ord2
    (encCert_of_natural_holds mode11 base cfg d ord ord2 hne hord hord2 hwf hnn hctx hloc hst)

/-! ### Non-vacuity: a dataset with a named graph, a shared blank node and a language-tagged literal -/

namespace Witness

def s : Term Nat := .iri (asc "http://e.org/s")
def p : Str := asc "http://e.org/v/p"

/-- `<s> <p> _:0 . _:0 <p> "x" . _:0 <p> "y"@en <s>` -/
def d : List (DQuad Nat) :=
  [⟨⟨s, p, .bnode 0⟩, none⟩,
   ⟨⟨.bnode 0, p, .lit (asc "x") xsdString none⟩, none⟩,
   ⟨⟨.bnode 0, p, .lit (asc "y") rdfLangString (some (asc "en"))⟩, some s⟩]

/-- the default-graph part: what the encoder can write -/
def d0 : List (DQuad Nat) := d.take 2

def name (n : Nat) : Str := natDigits n

/-- `{"v": "http://e.org/v/", "q": {"@id": "v:p", "@container": "@set"}}` -/
def ctx : Json :=
  .obj [(asc "v", .str (asc "http://e.org/v/")), (asc "q", .obj [(kId, .str (asc "v:p")), (kContainer, .str kSet)])]

/-- a local context for embedded node objects: `{"w": "http://e.org/w/", "@language": null}` -/
def localCtx : Json := .obj [(asc "w", .str (asc "http://e.org/w/")), (kLanguage, .null)]

def ch : Choices :=
  { mode11 := true, base := none, context := some ctx, localContext := some localCtx, nest := true, lists := true, anonTop := true,
    natives := true, useType := true, compactGroups := true, shape := 1, seed := 0 }

def cfg : Cfg Nat := { base := none, prefixes := [(asc "v", asc "http://e.org/v/")], buffered := false, label := name }

theorem wf : WFDataset d := by decide +kernel

/-- the hypotheses of `write_denotes` are satisfiable, and on this instance the writer keeps a compacted,
    validated document (it does not fall back) -/
theorem validated : (tryWrite name d ch).isSome = true := by decide +kernel

/-- the certificate of `encoder_roundtrip_partial` holds on this instance -/
theorem cert : encCert true none cfg d0 (defaultOrd d0) (defaultOrd d0) = true := by decide +kernel

/-- the conditions of the full statement hold on this instance as well -/
theorem natural : WFDataset d0 ∧ defaultGraphOnly d0 = true ∧ noNativeTyped d0 = true ∧ schemeClash cfg d0 = false := by
  decide +kernel


/-- the hypotheses of `encCert_of_natural` / of theorems (a), (b) hold on this instance -/
theorem natural2 : labelsOK cfg d0 = true ∧ ctxOK cfg d0 (defaultOrd d0) (defaultOrd d0) = true ∧
    locOK cfg d0 (defaultOrd d0) (defaultOrd d0) = true ∧ structOK cfg d0 (defaultOrd d0) (defaultOrd d0) = true ∧
    declared cfg d0 (defaultOrd d0) (defaultOrd d0) = [(asc "v", asc "http://e.org/v/")] := by
  decide +kernel

/-- … and the hypotheses of (b) for the predicate `p`: it is shortened to `v:p` through the used prefix `v` -/
example : compactPrefix (mkEnc cfg) p = some (asc "v", asc "p") ∧ compactOK (mkEnc cfg) p = true ∧
    schemeFree [asc "v"] p = true ∧ pfxNameOK (asc "v") = true ∧ (compactVocabIRI (mkEnc cfg) p).1 = asc "v:p" := by
  decide +kernel

/-! #### Necessity witnesses: dropping one hypothesis, the certificate fails in the model.
    Replays on the Go encoder + decoder (harness, histogram `encode:witness:*`) are recorded in
    props/C10.json `assumptions`: N2 (known C10-K1 / C13-K3) and N4 (known finding C10-K2) fail in Go as well; N2' is
    the regression of the repaired defect C10-K5, N3/N5/N6 are outside the property's quantifier, N1 round-trips in Go (the
    hypothesis is a limit of the fragment semantics, which refuses unknown `@…` members of a context). -/

def lit (x : String) : Term Nat := .lit (asc x) xsdString none

/-- N1 `ctxOK` (prefix name `@1`) -/
example : let c : Cfg Nat := { cfg with prefixes := [(asc "@1", asc "http://e.org/v/")] }
    ctxOK c d0 (defaultOrd d0) (defaultOrd d0) = false ∧ encCert true none c d0 (defaultOrd d0) (defaultOrd d0) = false := by
  decide +kernel

/-- N2 `locOK`/`relOK`: base `http://e.org/doc#f` (carries a fragment), subject equal to the base: written
    as the empty reference, which RFC 3986 resolves to the base without its fragment (C13-K3 / C10-K1) -/
example : let c : Cfg Nat := { cfg with base := some (asc "http://e.org/doc#f"), prefixes := [] }
    let dd : List (DQuad Nat) := [⟨⟨.iri (asc "http://e.org/doc#f"), p, lit "x"⟩, none⟩]
    locOK c dd (defaultOrd dd) (defaultOrd dd) = false ∧ ctxOK c dd (defaultOrd dd) (defaultOrd dd) = true ∧
      structOK c dd (defaultOrd dd) (defaultOrd dd) = true ∧
      encCert true none c dd (defaultOrd dd) (defaultOrd dd) = false := by
  decide +kernel

/-- N2' regression for fix c10-enc-5-rel-colon (commit ed9c0d1, finding C10-K5): base `http://e.org/doc`,
    subject `http://e.org/doc#a://b`. The unrepaired encoder wrote `"@id": "#a://b"`, which a reader takes
    for an absolute IRI; the repaired one writes the IRI in full, all hypotheses and the certificate hold. -/
example : let c : Cfg Nat := { cfg with base := some (asc "http://e.org/doc"), prefixes := [] }
    let dd : List (DQuad Nat) := [⟨⟨.iri (asc "http://e.org/doc#a://b"), p, lit "x"⟩, none⟩]
    (compactDocumentIRI (mkEnc c) (asc "http://e.org/doc#a://b")).1 = asc "http://e.org/doc#a://b" ∧
      locOK c dd (defaultOrd dd) (defaultOrd dd) = true ∧ ctxOK c dd (defaultOrd dd) (defaultOrd dd) = true ∧
      encCert true none c dd (defaultOrd dd) (defaultOrd dd) = true := by
  decide +kernel

/-- N3 `labelsOK`: an empty label on a blank node referenced twice -/
example : let c : Cfg Nat := { cfg with label := fun _ => [] }
    let dd : List (DQuad Nat) := [⟨⟨s, p, .bnode 0⟩, none⟩, ⟨⟨s, p ++ asc "2", .bnode 0⟩, none⟩, ⟨⟨.bnode 0, p, lit "x"⟩, none⟩]
    labelsOK c dd = false ∧ structOK c dd (defaultOrd dd) (defaultOrd dd) = true ∧
      encCert true none c dd (defaultOrd dd) (defaultOrd dd) = false := by
  decide +kernel

/-- N4 `ctxOK` (scheme clash, finding C10-K2): prefix `urn` declared, object `urn:x:y` -/
example : let c : Cfg Nat := { cfg with prefixes := [(asc "urn", asc "http://e.org/v/")] }
    let dd : List (DQuad Nat) := [⟨⟨s, p, .iri (asc "urn:x:y")⟩, none⟩]
    ctxOK c dd (defaultOrd dd) (defaultOrd dd) = false ∧ locOK c dd (defaultOrd dd) (defaultOrd dd) = true ∧
      encCert true none c dd (defaultOrd dd) (defaultOrd dd) = false := by
  decide +kernel

/-- N5 `structOK` (named graph: the encoder drops the quad) -/
example : structOK cfg d (defaultOrd d) (defaultOrd d) = false ∧
    encCert true none cfg d (defaultOrd d) (defaultOrd d) = false := by
  decide +kernel

/-- N6 `noNativeTyped`: `"-0"^^xsd:integer` is written as the number `-0` and read back as `"0"` -/
example : let dd : List (DQuad Nat) := [⟨⟨s, p, .lit (asc "-0") xsdInteger none⟩, none⟩]
    noNativeTyped dd = false ∧ structOK cfg dd (defaultOrd dd) (defaultOrd dd) = true ∧
      encCert true none cfg dd (defaultOrd dd) (defaultOrd dd) = false := by
  decide +kernel

end Witness


/-- non-vacuity of `IriHyp` (and of the hypotheses of `encoder_statement_read`): the predicate of the witness -/
example : IriHyp (mkEnc Witness.cfg) [asc "v"] [asc "v"] Witness.p :=
  ⟨by decide, by decide, by decide, fun p r h => by
    have : compactPrefix (mkEnc Witness.cfg) Witness.p = some (asc "v", asc "p") := by decide
    rw [this] at h
    simp only [Option.some.injEq, Prod.mk.injEq] at h
    obtain ⟨rfl, rfl⟩ := h
    exact ⟨by decide, by decide⟩⟩

end RdfModel.C10
