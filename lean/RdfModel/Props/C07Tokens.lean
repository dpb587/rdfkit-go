/-
  Property C07, token level — "every N-Triples document is Turtle": an IRI reference / a string
  that the N-Triples / N-Quads scanners of `Model/NQuads.lean` accept is read by the Turtle / TriG
  producers of `Model/TurtleTokens.lean` with the same value and the same remaining input.
  (The decoders are separate Go code; both models are tied to their package by T3.)
  Hypothesis `hhex`: the two packages' `HexDecode` tables coincide — `C07.tables_agree` proves it for
  the tables regenerated from /repo.

  Not covered here (left to the statement-layer development): language tags and blank node labels.
  For blank node labels the inclusion is FALSE in general: N-Triples' PN_CHARS_U contains ':',
  Turtle's does not (`tables_agree`), so `_:a:b` is a label in N-Triples and not in Turtle.
-/
import RdfModel.Props.C02TokensDefs
import RdfModel.Proofs.C07Tok
import RdfModel.Proofs.C05NQScan
namespace RdfModel.C07
open RdfModel RdfModel.Ttl RdfModel.C02

/-- IRI references: what `captureIRI` accepts after the `<`, `produceIRIREF` reads with the same value. -/
theorem nt_iriref_sub_ttl (Tn : NQ.Tables) (T : Tables) (hhex : Tn.hexDec = T.hexDec)
    (urlOk : List Nat → Bool) (e : End) (inp s r : List Nat)
    (h : NQ.captureIRI Tn urlOk e inp = .ok s r) :
    produceIRIREF T e (0x3c :: inp) = .ok s r := by
  obtain ⟨⟨dec, hs, rfl⟩, _⟩ := Proofs.C05NQ.captureIRI_ok h
  simp only [produceIRIREF, if_true]
  exact Proofs.C07Tok.scanIRI_sub Tn T hhex e inp _ _ _ _ hs

/-- Strings. For the empty string the N-Triples scanner stops after `""` whatever follows, the
    Turtle producer looks one rune ahead (`"""` opens a long string): hence `EmptyStrStop`, which
    holds in every accepted N-Triples statement (a space, `@`, `^` or `.` follows). -/
theorem nt_string_sub_ttl (Tn : NQ.Tables) (T : Tables) (hhex : Tn.hexDec = T.hexDec) (e : End)
    (inp v r : List Nat) (h : NQ.scanLit Tn e .body inp [] = .ok v r)
    (hstop : v = [] → EmptyStrStop e r) :
    produceString T e (0x22 :: inp) = .ok (goString v) r :=
  Proofs.C07Tok.produceString_sub Tn T hhex e inp v r h hstop

end RdfModel.C07
