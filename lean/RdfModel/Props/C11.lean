/-
  Property C11 — RDFa, Microdata and embedded JSON-LD in HTML decode to the data they mark up; the combined HTML
  decoder yields the union of the three without ever identifying blank nodes that come from different syntaxes.

  The statements; short proofs stand here, the others are in Proofs/C11Rdfa.lean, C11Microdata.lean, C11MdItems.lean,
  C11Chain.lean, C11Scope.lean, C11Ids.lean.

  A. Combined decoder (level: proof).  Model.HtmlCombined follows encoding/html/htmldefaults/decoder.go; the facts
     about which factory each sub-decoder draws from are T2 (Gen/HtmlFacts.lean, regenerated from the Go source on
     every run); blank-node identity is Model.BlankNodes (property C14) and `factories_disjoint` proved there.
  B. Markup semantics (level: fragment).  Spec.RdfaFragment / Spec.MicrodataFragment are denotations over abstract
     element trees written from the standards; the writers produce trees from graphs and markup choices. The Go
     decoders are tied to the denotations by T3 only (go/cmd/c11); the HTML5 parser is outside the model.
-/
import RdfModel.Proofs.C11Rdfa
import RdfModel.Proofs.C11Microdata
import RdfModel.Proofs.C11MdItems
import RdfModel.Proofs.C11Chain
import RdfModel.Proofs.C11Scope
import RdfModel.Proofs.C11Ids
import RdfModel.Spec.GraphIso
namespace RdfModel.C11
open RdfModel RdfModel.Desc

/-! ## A. the combined decoder -/

/- The T2 facts (`factories_not_shared`, `chain_order`) are in Props/C11Facts.lean: they are re-proved against the
   regenerated Gen/HtmlFacts.lean on every run and must not take the other theorems down with them. -/

/-- Union semantics of the iterator chain: calling `Next()` until it returns false yields exactly the statements
    of the nested decoders one after the other, up to and including the first nested decoder that ends in an
    error, and then reports an error iff one of them did. -/
theorem combined_is_union {Q : Type} (its : List (Html.Iter Q)) (fuel : Nat) (h : Html.total its < fuel) :
    (Html.drain (some its) fuel Html.Dec.new).1 = Html.chainItems its ∧
    (Html.drain (some its) fuel Html.Dec.new).2.err = Html.chainErr its :=
  Html.drain_new fuel its h

/-- …which, when no nested decoder fails, is the plain concatenation. -/
theorem combined_is_union_clean {Q : Type} (its : List (Html.Iter Q)) (h : ∀ it ∈ its, it.err = false) :
    Html.chainItems its = its.flatMap (fun it => it.items) ∧ Html.chainErr its = false :=
  ⟨Html.chainItems_clean its h, Html.chainErr_clean its h⟩

/-- A failing `init` (HTML parse error, sub-decoder constructor error) yields nothing and latches the error. -/
theorem combined_init_failure {Q : Type} (fuel : Nat) :
    Html.drain (none : Option (List (Html.Iter Q))) (fuel + 1) Html.Dec.new = ([], { err := true, iters := none }) := by
  simp [Html.drain, Html.Dec.next, Html.Dec.new]

/-- For one document: the chain over the three readings (JSON-LD scripts in document order, Microdata, RDFa)
    yields their union in that order and no error. -/
theorem combined_document {βJ βM βR : Type} (fm : βM → Html.CB βJ) (fr : βR → Html.CB βJ)
    (scripts : List (List (DQuad βJ))) (md : List (Triple βM)) (rdfa : List (Triple βR)) (fuel : Nat)
    (h : Html.total (Html.docIters fm fr scripts md rdfa) < fuel) :
    (Html.drain (some (Html.docIters fm fr scripts md rdfa)) fuel Html.Dec.new).1 = Html.unionOf fm fr scripts md rdfa ∧
    (Html.drain (some (Html.docIters fm fr scripts md rdfa)) fuel Html.Dec.new).2.err = false := by
  obtain ⟨h1, h2⟩ := Html.drain_new fuel _ h
  obtain ⟨h3, h4⟩ := Html.docIters_items fm fr scripts md rdfa
  exact ⟨h1.trans h3, h2.trans h4⟩

/-- No identification across syntaxes. Take the blank-node operations of one combined decode (`Html.history r`:
    the factory each sub-decoder makes and the node requests it sends to it, for any numbers and labels of
    requests `r`), on any process state `BN.init d`. Two nodes handed to different sub-decoders — or to the decoders
    of different script elements — are never `TermEquals`. (From C14 `factories_disjoint` and the fact that the
    history sends each sub-decoder's requests to its own factory, `Html.tagged_owner`.) -/
theorem no_cross_syntax_identification (U : Nat → BN.Bytes) (d : Nat) (r : Html.Run) (i j : Nat)
    (oi oj : Html.Owner) (opi opj : BN.Op) (x y : BN.Node)
    (hi : (Html.tagged r)[i]? = some (some oi, opi)) (hj : (Html.tagged r)[j]? = some (some oj, opj))
    (hx : (BN.trace U (BN.init d) (Html.history r))[i]? = some (opi, .node x))
    (hy : (BN.trace U (BN.init d) (Html.history r))[j]? = some (opj, .node y))
    (hne : oi ≠ oj) :
    BN.termEquals x y = false := by
  have hfi := Html.tagged_owner r _ (List.mem_of_getElem? hi) oi rfl
  have hfj := Html.tagged_owner r _ (List.mem_of_getElem? hj) oj rfl
  exact Proofs.C14.factories_disjoint U d (Html.history r) i j opi opj _ _ x y hx hy hfi hfj
    (fun h => hne (Html.ownerFactory_injective r h))

/-- Non-vacuity: a run with two scripts, Microdata and RDFa all asking for anonymous nodes and for the same
    label `b0`: every request is answered with a node, eight in all (3 + 2 + 3). -/
def Witness.run : Html.Run :=
  { scripts := [[.anon, .named (BN.asc "b0")], [.named (BN.asc "b0")]], micro := 2,
    rdfa := [.named (BN.asc "b0"), .anon, .named (BN.asc "b0")] }

example : ((BN.trace BN.driverU (BN.init 7) (Html.history Witness.run)).filter
    (fun e => match e.2 with | .node (some _) => true | _ => false)).length = 8 := by decide

/-! ## B. markup semantics -/

section
variable {β κ : Type}

/-- RDFa round trip. For every graph that RDFa can express in the initial context (`expressible`: subjects are
    IRIs or blank nodes; every IRI, written out in full, is read back as itself — it is absolute, its scheme is not
    a prefix in scope; literals are plain, language-tagged or typed with a datatype other than rdf:XMLLiteral /
    rdf:HTML), every document base, every injective labelling of the blank nodes, every skeleton choice and every
    list of block choices — with *any* candidate builder `build` (the harness uses `Rdfa.Pat.build`) — the document
    the writer produces denotes the graph up to blank-node renaming. -/
theorem rdfa_roundtrip (base : Spec.Html.Str) (prefixes terms : List (Spec.Html.Str × Spec.Html.Str))
    (lbl : β → Spec.Html.Str) (hinj : Function.Injective lbl) (take : κ → Nat)
    (build : Spec.Rdfa.Ctx → κ → List (Triple β) → Spec.Html.Tree) (sk : Spec.Rdfa.Skel) (cs : List κ)
    (g : List (Triple β))
    (hg : Spec.Rdfa.expressible (Spec.Rdfa.bodyCtx base prefixes terms {}).env g = true) :
    Spec.Iso (Spec.Rdfa.denote base prefixes terms (Spec.Rdfa.write base prefixes terms lbl take build sk cs g)) g :=
  ⟨Spec.Rdfa.sigma lbl, Spec.Rdfa.sigma_injective lbl hinj,
   Spec.Rdfa.write_denote base prefixes terms lbl take build sk cs g hg⟩

/-- The canonical one-element block of any expressible triple is right in every context without pending
    incomplete triples (what the writer falls back to). -/
theorem rdfa_canonical_block (lbl : β → Spec.Html.Str) (C : Spec.Rdfa.Ctx) (n : Nat) (t : Triple β)
    (hinc : C.incomplete = []) (hs : Spec.Rdfa.okRes C.env t.s = true) (hp : Spec.Rdfa.okPred C.env t.p = true)
    (ho : Spec.Rdfa.okObj C.env t.o = true) :
    Spec.Rdfa.procNode C [] n (Spec.Rdfa.canon lbl t) =
      { out := [Triple.map (Spec.Rdfa.sigma lbl) t], lm := [], next := n } :=
  Spec.Rdfa.canon_correct lbl C n t hinc hs hp ho

/-! Pattern theorems: what the §7.5 sequence yields for the chaining idioms, for all attribute spellings that
    resolve (`resSCI … = some S`, `resTCAs … = [p]`) and every context without pending incomplete triples.
    `chaining`, `inherited subject` are what the writer's validated candidates consist of; processor-made blank
    nodes and @inlist are *not* used by the writer and are covered by these statements (and by the rdfa-soup
    correspondence) only. -/

/-- incomplete triples + processor-made blank node: `<div about rel><span property content/></div>` -/
theorem rdfa_hanging_anonymous (C : Spec.Rdfa.Ctx) (n : Nat) (a p q c : Spec.Html.Str) (S : Spec.Rdfa.T)
    (hinc : C.incomplete = []) (ha : Spec.Rdfa.resSCI C.env a = some S)
    (hp : Spec.Rdfa.resTCAs C.env p = [p]) (hq : Spec.Rdfa.resTCAs C.env q = [q]) :
    Spec.Rdfa.procNode C [] n (.elem .div { about := some a, rel := some p }
        [.elem .span { property := some q, content := some c, lang := some [] } []]) =
      { out := [⟨Spec.Rdfa.fresh n, q, .lit c xsdString none⟩, ⟨S, p, Spec.Rdfa.fresh n⟩], lm := [], next := n + 1 } := by
  simp [Spec.Rdfa.procNode, Spec.Rdfa.procKids, Spec.Rdfa.elemLocal, Spec.Rdfa.subjStep, Spec.Rdfa.filterRel, Spec.Rdfa.orElse,
    Spec.Rdfa.complete, Spec.Rdfa.emitLists, Spec.Rdfa.propertyValue, Spec.Rdfa.plainLit, hinc, ha, hp, hq]

/-- chaining: `<div about=s rel=p><span about=o property=q content=c/></div>` gives `o q c . s p o` -/
theorem rdfa_chaining (C : Spec.Rdfa.Ctx) (n : Nat) (a p r q c : Spec.Html.Str) (S O : Spec.Rdfa.T)
    (hinc : C.incomplete = []) (ha : Spec.Rdfa.resSCI C.env a = some S) (hr : Spec.Rdfa.resSCI C.env r = some O)
    (hp : Spec.Rdfa.resTCAs C.env p = [p]) (hq : Spec.Rdfa.resTCAs C.env q = [q]) :
    Spec.Rdfa.procNode C [] n (.elem .div { about := some a, rel := some p }
        [.elem .span { about := some r, property := some q, content := some c, lang := some [] } []]) =
      { out := [⟨O, q, .lit c xsdString none⟩, ⟨S, p, O⟩], lm := [], next := n + 1 } :=
  Spec.Rdfa.chaining C n a p r q c S O hinc ha hr hp hq

/-- subject and language inherited from the parent, literal from the text content -/
theorem rdfa_inherited_subject (C : Spec.Rdfa.Ctx) (n : Nat) (a q c l : Spec.Html.Str) (S : Spec.Rdfa.T) (hl : l ≠ [])
    (hinc : C.incomplete = []) (ha : Spec.Rdfa.resSCI C.env a = some S) (hq : Spec.Rdfa.resTCAs C.env q = [q]) :
    Spec.Rdfa.procNode C [] n (.elem .div { about := some a, lang := some l }
        [.elem .span { property := some q } [.text c]]) =
      { out := [⟨S, q, .lit c rdfLangString (some l)⟩], lm := [], next := n } := by
  simp [Spec.Rdfa.procNode, Spec.Rdfa.procKids, Spec.Rdfa.elemLocal, Spec.Rdfa.subjStep, Spec.Rdfa.filterRel, Spec.Rdfa.orElse,
    Spec.Rdfa.complete, Spec.Rdfa.emitLists, Spec.Rdfa.propertyValue, Spec.Rdfa.plainLit, Spec.Html.textOfList, Spec.Html.textOf, hinc, ha, hq, hl]

/-- `@property @typeof` without a resource: a typed blank node as the property's object (step 5.1) -/
theorem rdfa_typed_bnode_object (C : Spec.Rdfa.Ctx) (n : Nat) (a q ty : Spec.Html.Str) (S : Spec.Rdfa.T)
    (hinc : C.incomplete = []) (ha : Spec.Rdfa.resSCI C.env a = some S) (hq : Spec.Rdfa.resTCAs C.env q = [q])
    (hty : Spec.Rdfa.resTCAs C.env ty = [ty]) :
    Spec.Rdfa.procNode C [] n (.elem .div { about := some a }
        [.elem .span { property := some q, typeof := some ty } []]) =
      { out := [⟨Spec.Rdfa.fresh n, Spec.Rdfa.rdfType, .iri ty⟩, ⟨S, q, Spec.Rdfa.fresh n⟩], lm := [], next := n + 1 } := by
  simp [Spec.Rdfa.procNode, Spec.Rdfa.procKids, Spec.Rdfa.elemLocal, Spec.Rdfa.subjStep, Spec.Rdfa.filterRel, Spec.Rdfa.orElse,
    Spec.Rdfa.complete, Spec.Rdfa.emitLists, Spec.Rdfa.propertyValue, hinc, ha, hq, hty]

/-- `@rev` + `@property` + a resource attribute on one element: the resource is the object of the @rev triple only,
    the @property value is the text content (step 11: a resource is taken only when @rel, @rev, @content are absent) -/
theorem rdfa_rev_property_literal (C : Spec.Rdfa.Ctx) (n : Nat) (a p q r txt : Spec.Html.Str) (S O : Spec.Rdfa.T)
    (hinc : C.incomplete = []) (ha : Spec.Rdfa.resSCI C.env a = some S) (hr : Spec.Rdfa.resSCI C.env r = some O)
    (hp1 : Spec.Html.fields p = [p]) (hp2 : (Spec.Html.splitColon p).isSome = true)
    (hp : Spec.Rdfa.resTCAs C.env p = [p]) (hq : Spec.Rdfa.resTCAs C.env q = [q]) :
    Spec.Rdfa.procNode C [] n
        (.elem .span { about := some a, rev := some p, property := some q, resource := some r, lang := some [] } [.text txt]) =
      { out := [⟨O, p, S⟩, ⟨S, q, .lit txt xsdString none⟩], lm := [], next := n } := by
  simp [Spec.Rdfa.procNode, Spec.Rdfa.procKids, Spec.Rdfa.elemLocal, Spec.Rdfa.subjStep, Spec.Rdfa.filterRel, Spec.Rdfa.orElse,
    Spec.Rdfa.complete, Spec.Rdfa.emitLists, Spec.Rdfa.propertyValue, Spec.Rdfa.plainLit, Spec.Html.textOfList, Spec.Html.textOf, hinc, ha, hr, hp, hq, hp1, hp2]

/-- list mapping: the @inlist children of an element that sets a new subject become one RDF collection, in
    document order, attached to that subject (for any number ≥ 1 of items) -/
theorem rdfa_inlist_collection (C : Spec.Rdfa.Ctx) (n : Nat) (a p c : Spec.Html.Str) (cs : List Spec.Html.Str)
    (S : Spec.Rdfa.T) (hinc : C.incomplete = []) (ha : Spec.Rdfa.resSCI C.env a = some S) (hne : S ≠ C.parentSubject)
    (hp : Spec.Rdfa.resTCAs C.env p = [p]) :
    Spec.Rdfa.procNode C [] n (.elem .div { about := some a } ((c :: cs).map (Spec.Rdfa.listItem p))) =
      { out := Spec.Rdfa.listCells n ((c :: cs).map (fun c => (.lit c xsdString none : Spec.Rdfa.T))) ++
               [⟨S, p, Spec.Rdfa.fresh n⟩],
        lm := [], next := n + (c :: cs).length } :=
  Spec.Rdfa.inlist_collection C n a p c cs S hinc ha hne hp

variable [DecidableEq β]

/-- Microdata round trip, for validated candidates and canonical fallbacks alike: whenever the writer reports
    success, its document denotes the graph. Success is reported for every candidate document that validates —
    blank-node objects (nested items, `itemref`) included — and for every graph without blank-node objects. -/
theorem microdata_roundtrip_validated (lbl : β → Spec.Html.Str) (hinj : Function.Injective lbl) (base : Spec.Html.Str)
    (g : List (Triple β)) (cand : Spec.Html.Tree) (pos : β → Spec.Microdata.Path)
    (hok : (Spec.Microdata.write base g cand pos).2 = true) :
    Spec.Iso (Spec.Microdata.denote base (Spec.Microdata.write base g cand pos).1) g := by
  unfold Spec.Microdata.write at hok ⊢
  split
  · rename_i hv
    obtain ⟨h1, h2⟩ := Spec.Microdata.validDoc_sound lbl hinj base g cand pos hv
    exact ⟨_, h1, h2⟩
  · rename_i hv
    simp only [hv] at hok
    exact ⟨_, Spec.Microdata.canonPos_injective lbl hinj g, Spec.Microdata.canonDoc_denote lbl base g hok⟩

/-- Microdata round trip, *partial*: for every graph expressible without blank-node objects (`expressible`:
    IRI or blank-node subjects, one-token absolute property names, `xsd:string` literals, IRI objects the base
    leaves alone), every base and every candidate, the writer's document denotes the graph.
    MISSING for the full statement `microdata_roundtrip`: a canonical document, proved for all graphs, for blank
    nodes in object position (nested items or `itemref`); such graphs are covered only when the candidate validates
    (`microdata_roundtrip_validated`) — in the harness runs that is every generated case but the writer does not
    guarantee it. -/
theorem microdata_roundtrip_partial (lbl : β → Spec.Html.Str) (hinj : Function.Injective lbl) (base : Spec.Html.Str)
    (g : List (Triple β)) (cand : Spec.Html.Tree) (pos : β → Spec.Microdata.Path)
    (hg : Spec.Microdata.expressible base g = true) :
    Spec.Iso (Spec.Microdata.denote base (Spec.Microdata.write base g cand pos).1) g := by
  apply microdata_roundtrip_validated lbl hinj
  unfold Spec.Microdata.write
  split <;> simp_all

/-- what Microdata can express once blank-node objects are admitted: each blank node is the object of at most
    one triple (an item has one place in the document; `itemprop` names apply to every referrer alike) -/
def mdExpressibleFull (base : Spec.Html.Str) (g : List (Triple β)) : Prop :=
  (∀ t ∈ g, Spec.Microdata.okTriple base { t with o := (match t.o with | .bnode _ => .iri t.p | o => o) } = true) ∧
  ∀ b, (g.filter (fun t => t.o == .bnode b)).length ≤ 1

/-- The full statement (NOT proved; see `microdata_roundtrip_partial`). -/
def microdata_roundtrip : Prop :=
  ∀ (lbl : β → Spec.Html.Str), Function.Injective lbl → ∀ (base : Spec.Html.Str) (g : List (Triple β))
    (cand : Spec.Html.Tree) (pos : β → Spec.Microdata.Path), mdExpressibleFull base g →
    Spec.Iso (Spec.Microdata.denote base (Spec.Microdata.write base g cand pos).1) g

end

/-! ## C. scoping

  What the fragment semantics say about three places that the harness's generator families visit:
  a prefix token used outside the scope that declares it, an author-written @vocab equal to the host language's default
  vocabulary, and `id` attributes on the ancestors of an `itemref` target. The documents of these families are inside
  the fragment; the writers' round-trip theorems above cover them (the candidate builders are arbitrary); the Go
  decoders are tied to the denotations by T3. -/

/-- RDFa Core §7.4.2: a `prefix:reference` value whose prefix has no mapping in scope is not a CURIE: in a
    TERMorCURIEorAbsIRI attribute it is the IRI `prefix:reference` itself, in a SafeCURIEorCURIEorIRI attribute (unsafe
    spelling) the reference resolved against the base — which, having a scheme, is itself up to dot segments. -/
theorem rdfa_prefix_out_of_scope_is_iri (E : Spec.Rdfa.Env) (v p r : Spec.Html.Str)
    (hs : Spec.Html.splitColon v = some (p, r)) (h1 : p ≠ [0x5f]) (h2 : p ≠ [])
    (hl : Spec.Html.alookup (Spec.Html.toLowerAscii p) E.prefixes = none) :
    Spec.Rdfa.resTCA E v = some v ∧
    (Spec.Rdfa.safeInner v = none → Spec.Rdfa.resSCI E v = some (.iri (Spec.Rdfa.resolveRef E.base v))) :=
  ⟨Spec.Rdfa.resTCA_undeclared E v p r hs h1 h2 hl, fun hsafe => Spec.Rdfa.resSCI_undeclared E v p r hsafe hs h1 h2 hl⟩

/-- …and the same text with the prefix in scope is the concatenation. -/
theorem rdfa_prefix_in_scope_is_curie (E : Spec.Rdfa.Env) (v p r ns : Spec.Html.Str)
    (hs : Spec.Html.splitColon v = some (p, r)) (h1 : p ≠ [0x5f]) (h2 : p ≠ [])
    (hn : Spec.Rdfa.isNCName p = true) (hl : Spec.Html.alookup (Spec.Html.toLowerAscii p) E.prefixes = some ns) :
    Spec.Rdfa.resTCA E v = some (ns ++ r) := by
  unfold Spec.Rdfa.resTCA
  simp [hs, Spec.Rdfa.curie_declared E v p r ns hs h1 h2 hn hl]

/-- non-vacuity of both: `ex:q` with and without `ex` in scope -/
example : Spec.Rdfa.resTCA { base := [], prefixes := [], vocab := none, terms := [] } (asc "ex:q") = some (asc "ex:q") ∧
    Spec.Rdfa.resTCA { base := [], prefixes := [(asc "ex", asc "http://e.com/ns#")], vocab := none, terms := [] } (asc "ex:q") =
      some (asc "http://e.com/ns#q") := by decide +kernel

/-- The scope of `@prefix` (§7.5 steps 3 and 13): the mappings handed to an element's children are its own
    declarations in front of the inherited ones; the following siblings are processed in the parent's own evaluation
    context — nothing an element declares reaches an element that is not its descendant. -/
theorem rdfa_prefix_scope (C : Spec.Rdfa.Ctx) (lm : Spec.Rdfa.LM) (n : Nat) (tag : Spec.Html.Tag) (a : Spec.Html.Attrs)
    (kids sibs : List Spec.Html.Tree) :
    (Spec.Rdfa.elemLocal C lm n tag a (Spec.Html.textOfList kids)).kid.env.prefixes =
      (match a.pfx with | some p => Spec.Rdfa.prefixDecls (Spec.Html.fields p) | none => []) ++ C.env.prefixes ∧
    (Spec.Rdfa.procKids C lm n (.elem tag a kids :: sibs)).out =
      (Spec.Rdfa.procNode C lm n (.elem tag a kids)).out ++
      (Spec.Rdfa.procKids C (Spec.Rdfa.procNode C lm n (.elem tag a kids)).lm
        (Spec.Rdfa.procNode C lm n (.elem tag a kids)).next sibs).out :=
  ⟨Spec.Rdfa.elemLocal_prefixes C lm n tag a _, by rw [Spec.Rdfa.procKids_cons]⟩

namespace ScopeWitness
open Spec.Html Spec.Rdfa
/-- the two sections of the seeded-defect demo C11r3-1: the first declares `ex`, the second uses `ex:q` undeclared -/
def secA : Tree := .elem .div { about := some (asc "http://e.com/a"), pfx := some (asc "ex: http://e.com/ns#") }
  [.elem .span { property := some (asc "ex:p"), content := some (asc "1") } []]
def secB : Tree := .elem .div { about := some (asc "http://e.com/b") }
  [.elem .span { property := some (asc "ex:q"), content := some (asc "2") } []]
def doc (x y : Tree) : Tree := .elem .html {} [.elem .head {} [], .elem .body {} [x, y]]
def tA : Tr := ⟨.iri (asc "http://e.com/a"), asc "http://e.com/ns#p", .lit (asc "1") xsdString none⟩
def tB : Tr := ⟨.iri (asc "http://e.com/b"), asc "ex:q", .lit (asc "2") xsdString none⟩
end ScopeWitness

/-- Both orders of two sibling sections, one declaring a prefix the other uses undeclared, denote the same graph: the
    undeclared use is the IRI `ex:q` whether the declaration comes before or after it in the document. -/
theorem rdfa_prefix_scope_witness :
    Spec.Rdfa.denote (asc "http://e.com/d") [] [] (ScopeWitness.doc ScopeWitness.secA ScopeWitness.secB) =
      [ScopeWitness.tA, ScopeWitness.tB] ∧
    Spec.Rdfa.denote (asc "http://e.com/d") [] [] (ScopeWitness.doc ScopeWitness.secB ScopeWitness.secA) =
      [ScopeWitness.tB, ScopeWitness.tA] := by decide +kernel

/-- RDFa Core §7.4.3: with a local default vocabulary, a term denotes vocabulary ++ term — whatever IRI the vocabulary
    is, the host language's default vocabulary `http://www.w3.org/1999/xhtml/vocab#` included; and `@vocab="v"` (v not
    empty) makes `v` the local default vocabulary of the element's children (§7.5 step 2). -/
theorem rdfa_term_under_any_vocab (E : Spec.Rdfa.Env) (voc v : Spec.Html.Str) (hv : E.vocab = some voc)
    (hc : Spec.Html.splitColon v = none) (ht : Spec.Rdfa.isTerm v = true) :
    Spec.Rdfa.resTCA E v = some (voc ++ v) := by
  unfold Spec.Rdfa.resTCA
  simp [hc, ht, hv]

theorem rdfa_vocab_declared (C : Spec.Rdfa.Ctx) (lm : Spec.Rdfa.LM) (n : Nat) (tag : Spec.Html.Tag) (a : Spec.Html.Attrs)
    (txt v : Spec.Html.Str) (ha : a.vocab = some v) (hv : v ≠ []) :
    (Spec.Rdfa.elemLocal C lm n tag a txt).kid.env.vocab = some v := by
  unfold Spec.Rdfa.elemLocal
  dsimp only
  rw [apply_ite Spec.Rdfa.Ctx.env, apply_ite Spec.Rdfa.Env.vocab]
  simp [ha, hv]

/-- non-vacuity, and the seeded-defect demo C11r3-3: `vocab` = the host default vocabulary, terms that are not
    predefined (`note`, `Part`): property and type triples are there. -/
example : Spec.Rdfa.denote (asc "http://e.com/d") [] [(asc "license", Spec.Rdfa.xhv ++ asc "license")]
    (.elem .html {} [.elem .head {} [], .elem .body {}
      [.elem .div { vocab := some Spec.Rdfa.xhv, about := some (asc "http://e.com/a"), typeof := some (asc "Part") }
        [.elem .span { property := some (asc "note"), content := some (asc "n") } []]]]) =
    [⟨.iri (asc "http://e.com/d"), Spec.Rdfa.usesVocabulary, .iri Spec.Rdfa.xhv⟩,
     ⟨.iri (asc "http://e.com/a"), Spec.Rdfa.rdfType, .iri (Spec.Rdfa.xhv ++ asc "Part")⟩,
     ⟨.iri (asc "http://e.com/a"), Spec.Rdfa.xhv ++ asc "note", .lit (asc "n") xsdString none⟩] := by decide +kernel

/-- Microdata `itemref`: which element a token names (the first one in tree order with that `id`) does not depend
    on the `id` attributes with other values, wherever they are — on ancestors of the target included. `reId f` rewrites
    the `id` of every element by position; it may add, change or remove any id as long as it neither makes nor
    unmakes an `id="r"`. -/
theorem microdata_itemref_ignores_other_ids (f : Spec.Microdata.Path → Option Spec.Html.Str → Option Spec.Html.Str)
    (r : Spec.Html.Str) (hf : ∀ p o, f p o = some r ↔ o = some r) (doc : Spec.Html.Tree) :
    Spec.Microdata.findIdNode r [] (Spec.Microdata.reId f [] doc) = Spec.Microdata.findIdNode r [] doc :=
  Spec.Microdata.findIdNode_reId f r hf [] doc

namespace IdWitness
open Spec.Html Spec.Microdata
/-- the seeded-defect demo C11r3-2: the itemref target `more` inside a wrapper which may carry an id of its own -/
def doc (wrapperId : Option Str) : Tree :=
  .elem .html {} [.elem .head {} [], .elem .body {}
    [.elem .div { itemscope := true, itemtype := some (asc "http://e.com/T"), itemref := some (asc "more") }
       [.elem .span { itemprop := some (asc "http://e.com/p") } [.text (asc "one")]],
     .elem .other { id := wrapperId }
       [.elem .div { id := some (asc "more") } [.elem .span { itemprop := some (asc "http://e.com/q") } [.text (asc "two")]]]]]
/-- a decoration satisfying the hypothesis of `microdata_itemref_ignores_other_ids` for `more`: fresh ids on every
    element that has none -/
def addIds : Path → Option Str → Option Str
  | p, none => some (asc "zz" ++ p)
  | _, some x => some x
end IdWitness

example : ∀ p o, IdWitness.addIds p o = some (asc "more") ↔ o = some (asc "more") := by
  intro p o
  cases o with
  | none => simp [IdWitness.addIds, asc]
  | some x => simp [IdWitness.addIds]

/-- the wrapper's id does not change the graph: three triples either way -/
theorem microdata_nested_target_witness :
    Spec.Microdata.denote (asc "http://e.com/d") (IdWitness.doc (some (asc "footer"))) =
      Spec.Microdata.denote (asc "http://e.com/d") (IdWitness.doc none) ∧
    (Spec.Microdata.denote (asc "http://e.com/d") (IdWitness.doc (some (asc "footer")))).length = 3 := by decide +kernel

/-- Ids that no `itemref` names are irrelevant markup for Microdata: rewriting the `id` attributes of a document in
    any way (`reId f`: add, change, remove, by position) that neither makes nor unmakes an id equal to an `itemref`
    token occurring in the document leaves the denotation unchanged. This is the statement behind the harness's
    "ids on ancestors" decoration (fresh ids on any elements, ancestors of itemref targets included). -/
theorem microdata_denote_ignores_unreferenced_ids
    (f : Spec.Microdata.Path → Option Spec.Html.Str → Option Spec.Html.Str) (base : Spec.Html.Str) (doc : Spec.Html.Tree)
    (hf : ∀ r ∈ Spec.Microdata.refTokens doc, ∀ p o, (f p o = some r ↔ o = some r)) :
    Spec.Microdata.denote base (Spec.Microdata.reId f [] doc) = Spec.Microdata.denote base doc :=
  Spec.Microdata.denote_reId f base doc hf

/-- `id` attributes are irrelevant markup for RDFa: any rewriting of the ids of a document (no hypothesis on `f`)
    leaves the RDFa denotation unchanged. -/
theorem rdfa_denote_ignores_ids (f : Spec.Microdata.Path → Option Spec.Html.Str → Option Spec.Html.Str)
    (base : Spec.Html.Str) (prefixes terms : List (Spec.Html.Str × Spec.Html.Str)) (doc : Spec.Html.Tree) :
    Spec.Rdfa.denote base prefixes terms (Spec.Microdata.reId f [] doc) = Spec.Rdfa.denote base prefixes terms doc :=
  Spec.Rdfa.denote_reId f base prefixes terms doc

/-- non-vacuity: fresh ids on every element of the witness document that has none -/
example : ∀ r ∈ Spec.Microdata.refTokens (IdWitness.doc none), ∀ p o,
    (IdWitness.addIds p o = some r ↔ o = some r) := by
  intro r hr p o
  have : r = asc "more" := by
    have h : Spec.Microdata.refTokens (IdWitness.doc none) = [asc "more"] := by decide
    rw [h] at hr
    simpa using hr
  subst this
  cases o with
  | none => simp [IdWitness.addIds, asc]
  | some x => simp [IdWitness.addIds]

/-! ## D. embedded JSON-LD; witnesses for B -/

/-- Embedded JSON-LD: wherever the writer puts the script element (head, body, nested in body content), among
    elements that contain no JSON-LD script themselves, htmljsonld reads exactly its text. With `J` the JSON-LD
    semantics of that text (property C10), the decoded dataset is `J text`. -/
theorem jsonld_script_extracted (place : Nat) (headNoise before after : List Spec.Html.Tree) (text : Spec.Html.Str)
    (h1 : Html.scriptsKids headNoise = []) (h2 : Html.scriptsKids before = []) (h3 : Html.scriptsKids after = []) :
    Html.scriptsNode (Html.embed place headNoise before after text) = [text] := by
  unfold Html.embed
  split <;>
    simp [Html.scriptsNode, Html.scriptsKids, Html.scriptsKids_append, Html.ldScript, h1, h2, h3]

/-- Non-vacuity of `microdata_roundtrip_partial`'s hypothesis. -/
example : Spec.Microdata.expressible (asc "http://ex.org/dir/page.html")
    ([⟨.iri (asc "http://ex.org/a"), asc "http://schema.org/name", .lit (asc "A b") xsdString none⟩,
      ⟨.bnode 3, asc "urn:p:x", .iri (asc "mailto:a@b.example")⟩] : List (Triple Nat)) = true := by decide +kernel

end RdfModel.C11
