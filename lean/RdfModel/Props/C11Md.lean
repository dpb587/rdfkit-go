/-
  Part C11MD (serves C11, C05, C06) — property theorems about the executable model of the Go Microdata decoder,
  `RdfModel.Mdd` (Model/MicrodataDecoder.lean), the model the driver runs for `mdd.dec`.  "Part C11MD" is that model
  with what goes with it: Driver/Mdd.lean, Proofs/C11Md*, this file, Audit/C11Md.lean.
  The statements, each with the last step of its proof; the lemmas are in Proofs/C11Md*.

  Every theorem holds for EVERY abstract DOM tree (any node types, namespaces, attribute lists with duplicates,
  cyclic or dangling itemref graphs, duplicate ids), every configuration, and every instantiation of the
  parameters (URL resolution, itemtype normalisation, vocabulary resolver, xsdobject mappers) unless a hypothesis
  says otherwise.
-/
import RdfModel.Model.MicrodataDecoder
import RdfModel.Proofs.C11MdCanon
import RdfModel.Proofs.C11MdWritten
namespace RdfModel.C11Md
open RdfModel RdfModel.Desc RdfModel.Mdd

/-! ## C05: termination in bounded time, no panic -/

/-- C05 for the Microdata decoder: on every tree the first `Next` (which does all the work: `walk` from the root)
    ends normally — the depth budget `fuelFor doc = (nodes + 1) · (height + 1)` is never exhausted although
    `itemref` may point anywhere (ancestors, descendants, the element itself, cycles), and the only `panic` of
    the package (`"should not have found an empty match"` in the itemtype loop) is unreachable.
    Termination comes from the visited-set discipline as coded: an item is entered in ResolvedItemscopes before
    its itemrefs are followed, and an item found there is not expanded again. -/
theorem mdd_terminates_no_panic (E : Env) (t : Node) : ∃ stmts hooks, decode E t = .ok stmts hooks :=
  ⟨_, _, decode_eq_run E t⟩

/-- the same for a tree with arbitrary (also colliding) node identities: the walk itself never fails -/
theorem mdd_walk_never_fails (E : Env) (doc : Node) : (run E doc).bad = none := run_bad_none E doc

/-- the budget in terms of the input tree -/
theorem mdd_fuel_explicit (t : Node) : fuelFor (relabel t) = ((subnodes t).length + 1) * (height t + 1) := by
  unfold fuelFor; rw [relabel_size, relabel_height]

/-- C05 (bounded time, polynomial): the number of `walk` calls is at most N · (1 + R) where N is the number of
    nodes and R the number of itemref tokens in the document; in particular the k! blow-up that an ineffective
    memo produces on k mutually referencing items is impossible. -/
theorem mdd_step_bound (E : Env) (t : Node) :
    (run E (relabel t)).steps ≤ (subnodes t).length * (1 + refTokens t) := by
  have := run_steps_le E (relabel t)
  rwa [relabel_size, relabel_refTokens] at this

/-- C05 (the memo is effective): every element is expanded (its own statements produced, its itemrefs followed,
    its children walked as its properties) at most once, however often it is reached. -/
theorem mdd_expansion_bound (E : Env) (t : Node) : (run E (relabel t)).expansions ≤ (subnodes t).length := by
  have := run_expansions_le E (relabel t)
  rwa [relabel_size] at this

/-- C05 (the listed finding C05X-microdata-itemref is quadratic, not worse): before every itemref jump the Go code
    copies the whole RecursedItemrefs map into a fresh one; the model counts the copied entries (`St.copies`; not
    observable on the Go side, it restates `for k, v := range ectx.RecursedItemrefs`).  Their total is at most
    N · R (N nodes, R itemref tokens in the document). -/
theorem mdd_copy_cost_bound (E : Env) (t : Node) :
    (run E (relabel t)).copies ≤ (subnodes t).length * refTokens t := by
  have := run_copies_le E (relabel t)
  rwa [relabel_size, relabel_refTokens] at this

/-- `relabel` gives distinct nodes distinct identities (so that the model's `ResolvedItemscopes`, keyed by
    identity, is Go's map keyed by `*html.Node`) -/
theorem mdd_identities_distinct (t : Node) : ((subnodes (relabel t)).map Node.id).Nodup := relabel_nodup t

/-! ## C06: every emitted statement is well-formed -/

/-- C06 for the Microdata decoder, under the hypothesis that the xsdobject mappers (C20's subject) return
    literals with a datatype and no language tag: every statement has an IRI or a (factory) blank node as
    subject; its predicate is rdf:type or exactly what the vocabulary resolver returned for a non-empty itemprop
    token (the code guarantees no more: with the default `LiteralVocabularyResolver` the predicate of
    `itemprop="name"` is the relative IRI `name`); its object is an IRI, a blank node, or a literal with a
    non-empty datatype IRI that is neither rdf:langString nor rdf:dirLangString and carries no language tag
    (plain `xsd:string`, or what a mapper returned). Nothing is nil: terms are values in the model, and the Go
    emission sites build `rdf.IRI(...)`, `rdf.Literal{...}`, a factory blank node, or the non-nil results checked
    by `v != nil`.  NOT guaranteed (and false): that IRIs are absolute or non-empty — `itemid=" "` without a
    document base yields the subject `<>`. -/
theorem mdd_emits_wf (E : Env) (hE : MapsWf E) (t : Node) (stmts : List Stmt) (hooks : List Nat)
    (h : decode E t = .ok stmts hooks) : ∀ s ∈ stmts, WfStmt E s := by
  intro s hs
  rw [decode_eq_run] at h
  cases h
  exact run_wf E hE (relabel t) s (by simpa using hs)

/-- Non-vacuity of `MapsWf`: a configuration whose time chain maps one value to an `xsd:date` literal. -/
def exampleEnv : Env :=
  { resolve := fun v => some (asc "http://ex.org/" ++ v), normType := id, vocab := fun _ p => some p,
    timeMaps := [fun v => if v = asc "2020-01-02" then some (.lit v (asc "http://www.w3.org/2001/XMLSchema#date") none) else none],
    meterMaps := [], lax := false, laxUse := false, hook := false }

example : MapsWf exampleEnv := by
  intro f hf v t ht
  simp only [exampleEnv, List.append_nil, List.mem_singleton] at hf
  subst hf
  simp only at ht
  split at ht
  · cases ht
    exact ⟨asc_ne_nil (by decide), rfl, asc_ne (by decide), asc_ne (by decide)⟩
  · cases ht

/-- the empty IRI subject mentioned above (model side; replayed on the Go code by the harness family `wild`) -/
example : decode { exampleEnv with resolve := fun _ => none }
    (.mk 0 3 [] (asc "div") [] [⟨[], asc "itemscope", []⟩, ⟨[], asc "itemid", [32]⟩, ⟨[], asc "itemtype", asc "T"⟩] []) =
    .ok [⟨.iri [], rdfType, .iri (asc "T")⟩] [] := by
  decide +kernel

/-! ## C11: the model decoder against the fragment denotation `Spec.Microdata.denote` -/

section Refinement
open RdfModel.Spec.Html RdfModel.Spec.Microdata
variable {β : Type} [DecidableEq β]

/-- The full statement (NOT proved): on every tree of the fragment of Spec/MicrodataFragment.lean (embedded as a DOM
    by `ofSpecDoc`), itemref included, with the parameters instantiated as the fragment fixes them (`specEnv`), the
    model decoder yields the denotation up to order and a renaming of item positions that is injective on the items
    whose subject is a blank node (`Nested.bnItems`).  Proved for documents without itemref
    (`mdd_refines_denote_nested_partial`) and for itemref to plain targets (`mdd_refines_denote_itemref_partial`); see
    there for what is missing. -/
def mdd_refines_denote : Prop :=
  ∀ (base : Str) (tm mm : List (Bytes → Option (Term Nat))) (doc : Tree), Nested.Decline tm mm →
    Nested.tokOk doc = true → inFragment doc = true →
    ∃ (stmts : List Stmt) (σ : Path → Nat),
      decode (specEnv base tm mm) (ofSpecDoc doc) = .ok stmts [] ∧
      (∀ p ∈ Nested.bnItems [] doc, ∀ q ∈ Nested.bnItems [] doc, σ p = σ q → p = q) ∧
      stmts.Perm ((denote base doc).map (Triple.map σ))

/-- C11, *partial* — NESTED ITEMS, ALL VALUE RULES, MULTI-TOKEN NAMES, SURROUNDING MARKUP: for EVERY abstract tree
    of the fragment that has no `itemref` attribute (`Nested.NestedFrag`: additionally Go's Unicode-aware tokenisation
    of every itemprop / itemid agrees with HTML's ASCII one — `tokOk`, decidable — and meter@value / time@datetime
    are plain words — the fragment's own `inFragment`), and for mappers that leave plain words alone (`Decline`):
    * ORDER, EXACTLY: the model decoder's statement list IS the streaming semantics `Stream.swP` (at every element
      first the statements it gives the enclosing item — one per distinct itemprop token, names resolved against the
      enclosing item's first type, value by element: meta@content, audio/embed/iframe/img/source/track/video@src,
      a/area/link@href, object@data, data/meter@value, time@datetime else text, any other element its textContent, an
      element with itemscope the item itself —, then for an item its rdf:type statements, then its children, to any
      depth, through any non-item wrapper elements and text), with the blank node of the item at path `p` renamed to
      `Nested.rank doc p` = the decoder's blank-node counter on reaching it;
    * hence a PERMUTATION of `Spec.Microdata.denote base doc` under that renaming (`Stream.swP_perm_denote`: the
      denotation lists item by item, the decoder interleaves);
    * the renaming separates the blank-node items.
    MISSING for `mdd_refines_denote`: itemref — see `mdd_refines_denote_itemref_partial` for the part proved. -/
theorem mdd_refines_denote_nested_partial (base : Str) (tm mm : List (Bytes → Option (Term Nat)))
    (hdec : Nested.Decline tm mm) (doc : Tree) (hfrag : Nested.NestedFrag doc) :
    decode (specEnv base tm mm) (ofSpecDoc doc) =
      .ok ((Stream.swP base none [] doc).map (Triple.map (Nested.rank doc))) [] ∧
    ((Stream.swP base none [] doc).map (Triple.map (Nested.rank doc))).Perm
      ((denote base doc).map (Triple.map (Nested.rank doc))) ∧
    (∀ p ∈ Nested.bnItems [] doc, ∀ q ∈ Nested.bnItems [] doc, Nested.rank doc p = Nested.rank doc q → p = q) :=
  ⟨Nested.decode_nested base tm mm hdec doc hfrag, (Stream.swP_perm_denote base doc hfrag.1).map _,
    fun p hp q hq h => Nested.rank_inj doc p q hp hq h⟩

/-- C11, *partial* — ITEMREF TO PLAIN TARGETS, on top of everything in `mdd_refines_denote_nested_partial`: for every
    fragment tree in which each itemref token names no element or an element whose subtree contains neither an item
    nor an itemref (`Ref.RefFrag`; shared targets, repeated tokens, missing ids, targets before or after or inside
    other items, duplicate ids — the first element in tree order wins, as `Document.GetNodesByID(id)[0]` — all
    allowed), the model decoder's statement list IS the streaming semantics `Ref.swR`: at an item, after its link and
    rdf:type statements, for each itemref token IN ORDER (a repeated token repeats its statements) the properties
    found in the named subtree with the item as subject, then the item's children.  Hence a PERMUTATION of
    `Spec.Microdata.denote` (which lists an item's own descendants before the referenced ones) under the renaming
    `Nested.rank`, injective on blank-node items.
    MISSING for `mdd_refines_denote`: itemref targets that contain items or further itemrefs (item-valued
    properties reached through itemref, chains, cycles): there the ResolvedItemscopes memo decides at which visit a
    shared item's own statements are produced and the RecursedItemrefs guard drops back links — tied by T3 only
    (go/cmd/c11md against the model; `mdd_terminates_no_panic`, `mdd_step_bound`, `mdd_copy_cost_bound` and
    `mdd_emits_wf` do cover those documents). -/
theorem mdd_refines_denote_itemref_partial (base : Str) (tm mm : List (Bytes → Option (Term Nat)))
    (hdec : Nested.Decline tm mm) (doc : Tree) (hfrag : Ref.RefFrag doc) :
    decode (specEnv base tm mm) (ofSpecDoc doc) =
      .ok ((Ref.swR base doc none [] doc).map (Triple.map (Nested.rank doc))) [] ∧
    ((Ref.swR base doc none [] doc).map (Triple.map (Nested.rank doc))).Perm
      ((denote base doc).map (Triple.map (Nested.rank doc))) ∧
    (∀ p ∈ Nested.bnItems [] doc, ∀ q ∈ Nested.bnItems [] doc, Nested.rank doc p = Nested.rank doc q → p = q) :=
  ⟨Ref.decode_ref base tm mm hdec doc hfrag, (Ref.swR_perm_denote base doc hfrag.1).map _,
    fun p hp q hq h => Nested.rank_inj doc p q hp hq h⟩

/-- C11, *partial*: on ITEM-LIST documents — html > (head, body > items), every item a `div` with arbitrary item
    attributes (itemscope, any itemid / itemtype / itemprop / id …) except itemref, whose children are the property
    elements `<meta itemprop content>` / `<link itemprop href>`; this is the shape of the writer's canonical document,
    plus types — the model decoder yields EXACTLY the denotation, as a list in the same order (per item: one rdf:type
    statement per itemtype token, then the properties with their names resolved against the first type), with the
    blank node of the item at position `[1, j]` renamed to the value of the decoder's blank-node counter on entry to
    that item (`sigmaL`, injective on blank-node items: `mdd_refines_denote_renaming`).
    Hypotheses (`ItemTok`): Go's tokenisation of each property name (strings.Fields, Unicode spaces) gives the one
    token the HTML tokenisation (ASCII spaces) gives, and strings.TrimSpace of each itemid equals the ASCII trim
    (`mdd_goTok_of_plain`: true for printable ASCII without spaces).  `specEnv` takes itemtype tokens as they are
    (`normType = id`: Go's url.Parse(t).String() is assumed to return t; tied by T3 through the T table).
    Outside this shape: nested items (the link statement, interleaved emission order: a permutation instead of list
    equality), the other element-specific value rules, multi-token itemprop and surrounding markup are in
    `mdd_refines_denote_nested_partial`, itemref to plain targets in `mdd_refines_denote_itemref_partial`; see there
    for what is MISSING for `mdd_refines_denote`. -/
theorem mdd_refines_denote_partial (base : Str) (tm mm : List (Bytes → Option (Term Nat)))
    (L : List (Attrs × List (Triple β))) (hL : ∀ x ∈ L, Typed.itemOkT x ∧ ItemTok x) :
    decode (specEnv base tm mm) (ofSpecDoc (docOf (L.map mkItem))) =
      .ok ((denote base (docOf (L.map mkItem))).map (Triple.map (sigmaL base L))) [] :=
  Typed.decode_eq_denoteT base tm mm L hL

omit [DecidableEq β] in
/-- the renaming of `mdd_refines_denote_partial` separates the items whose subject is a blank node -/
theorem mdd_refines_denote_renaming (base : Str) (L : List (Attrs × List (Triple β))) (i j : Nat)
    (xi xj : Attrs × List (Triple β)) (hi : L[i]? = some xi) (hj : L[j]? = some xj)
    (bi : isBnItem xi.1 = true) (bj : isBnItem xj.1 = true) (h : sigmaL base L [1, i] = sigmaL base L [1, j]) : i = j :=
  sigmaL_inj base L i j xi xj hi hj bi bj h

/-- C11, composed with the existing writer round trip (Props/C11.microdata_roundtrip_partial's canonical fallback),
    *partial*: for every graph expressible without blank-node objects whose names and subject IRIs Go tokenises as
    HTML does, the MODEL OF THE GO DECODER reads the writer's canonical document back to the graph, up to order and
    a renaming that is injective on the graph's blank nodes.  (Partial for the same reason as
    `microdata_roundtrip_partial`: no canonical document for blank-node objects.  Validated candidates:
    `mdd_reads_written_partial`.) -/
theorem mdd_reads_canonical_partial (base : Str) (tm mm : List (Bytes → Option (Term Nat))) (g : List (Triple β))
    (hg : expressible base g = true) (ht : GoTok g) :
    ∃ (stmts : List Stmt) (τ : β → Nat),
      decode (specEnv base tm mm) (ofSpecDoc (canonDoc g)) = .ok stmts [] ∧
      (∀ a ∈ bnodesOf g, ∀ b ∈ bnodesOf g, τ a = τ b → a = b) ∧
      stmts.Perm (g.map (Triple.map τ)) :=
  canon_roundtrip base tm mm g hg ht

/-- C11, recomposed with the writer for the enlarged fragment, *partial*: whatever document the writer
    `Spec.Microdata.write` returns with its success flag set — a VALIDATED CANDIDATE (any markup choices: nesting,
    value elements, wrappers, type-relative names; `validDoc`) or the canonical fallback — if it has no itemref and is
    tokenised by Go as by HTML (`NestedFrag`; for the fallback `GoTok g`), the MODEL OF THE GO DECODER reads it back
    to the graph `g`, up to order and a renaming injective on the graph's blank nodes.  Partial: candidates with itemref
    to plain targets are in `mdd_reads_written_itemref_partial`, other uses of itemref are not covered at model level
    (T3 only). -/
theorem mdd_reads_written_partial (lbl : β → Str) (hinj : Function.Injective lbl) (base : Str)
    (tm mm : List (Bytes → Option (Term Nat))) (hdec : Nested.Decline tm mm) (g : List (Triple β)) (cand : Tree)
    (pos : β → Path) (hok : (write base g cand pos).2 = true) (hfrag : Nested.NestedFrag (write base g cand pos).1)
    (ht : GoTok g) :
    ∃ (stmts : List Stmt) (τ : β → Nat),
      decode (specEnv base tm mm) (ofSpecDoc (write base g cand pos).1) = .ok stmts [] ∧
      (∀ a ∈ bnodesOf g, ∀ b ∈ bnodesOf g, τ a = τ b → a = b) ∧
      stmts.Perm (g.map (Triple.map τ)) := by
  unfold write at hok hfrag ⊢
  by_cases hv : validDoc base g cand pos = true
  · simp only [hv, ↓reduceIte] at hok hfrag ⊢
    exact ⟨_, _, Nested.decode_nested base tm mm hdec cand hfrag,
      Written.reads_back lbl hinj base g cand pos hv _ (Stream.swP_perm_denote base cand hfrag.1)
        (by rw [Stream.denote_eq_rel base cand hfrag.1]; exact Written.denoteRel_bn base cand [])⟩
  · simp only [hv, Bool.false_eq_true, ↓reduceIte] at hok hfrag ⊢
    exact canon_roundtrip base tm mm g hok ht

/-- the same for validated candidates that use itemref to plain targets (`Ref.RefFrag`) -/
theorem mdd_reads_written_itemref_partial (lbl : β → Str) (hinj : Function.Injective lbl) (base : Str)
    (tm mm : List (Bytes → Option (Term Nat))) (hdec : Nested.Decline tm mm) (g : List (Triple β)) (cand : Tree)
    (pos : β → Path) (hv : validDoc base g cand pos = true) (hfrag : Ref.RefFrag cand) :
    ∃ (stmts : List Stmt) (τ : β → Nat),
      decode (specEnv base tm mm) (ofSpecDoc cand) = .ok stmts [] ∧
      (∀ a ∈ bnodesOf g, ∀ b ∈ bnodesOf g, τ a = τ b → a = b) ∧
      stmts.Perm (g.map (Triple.map τ)) :=
  ⟨_, _, Ref.decode_ref base tm mm hdec cand hfrag,
    Written.reads_back lbl hinj base g cand pos hv _ (Ref.swR_perm_denote base cand hfrag.1)
      (by
        rw [show denote base cand = Ref.denoteRelR base cand [] cand from
          Ref.items_relR base cand cand [] (Spec.Microdata.nodeAt_nil cand) hfrag.1]
        exact Written.denoteRelR_bn base cand cand [] hfrag.1)⟩

omit [DecidableEq β] in
/-- a checkable sufficient condition for `GoTok` -/
theorem mdd_goTok_of_plain (g : List (Triple β))
    (h : ∀ t ∈ g, plainAscii t.p = true ∧ t.p ≠ [] ∧ ∀ i, t.s = .iri i → plainAscii i = true) : GoTok g := by
  intro t ht
  obtain ⟨h1, h2, h3⟩ := h t ht
  refine ⟨fields_plain t.p h1 h2, h2, ?_⟩
  intro i hi
  rw [trimSpace_plain i (h3 i hi), trimWs_plain i (h3 i hi)]

end Refinement

/-- Non-vacuity: a graph with an IRI subject, two blank-node subjects, literal and IRI objects. -/
def exampleGraph : List (Triple Nat) :=
  [⟨.iri (asc "http://ex.org/s"), asc "http://schema.org/name", .lit (asc "Ann") xsdString none⟩,
   ⟨.bnode 7, asc "http://schema.org/url", .iri (asc "http://other.example/x")⟩,
   ⟨.bnode 7, asc "http://schema.org/name", .lit (asc "Bob") xsdString none⟩,
   ⟨.bnode 3, asc "urn:p:x", .lit [] xsdString none⟩]

example : Spec.Microdata.expressible (asc "http://ex.org/dir/page.html") exampleGraph = true := by decide +kernel

example : GoTok exampleGraph := by
  apply mdd_goTok_of_plain
  intro t ht
  simp only [exampleGraph, List.mem_cons, List.not_mem_nil, or_false] at ht
  rcases ht with rfl | rfl | rfl | rfl <;> refine ⟨by decide +kernel, by decide +kernel, ?_⟩ <;> intro i hi <;> cases hi <;> decide +kernel

/-- … and what the model decoder makes of its canonical document (4 statements, blank nodes 0 and 1). -/
example : decode (specEnv (asc "http://ex.org/dir/page.html") [] []) (ofSpecDoc (Spec.Microdata.canonDoc exampleGraph)) =
    .ok [⟨.iri (asc "http://ex.org/s"), asc "http://schema.org/name", .lit (asc "Ann") xsdString none⟩,
         ⟨.bnode 0, asc "http://schema.org/url", .iri (asc "http://other.example/x")⟩,
         ⟨.bnode 0, asc "http://schema.org/name", .lit (asc "Bob") xsdString none⟩,
         ⟨.bnode 1, asc "urn:p:x", .lit [] xsdString none⟩] [] := by
  decide +kernel

/-- Non-vacuity of `mdd_refines_denote_partial`: a typed IRI item and an untyped blank-node item. -/
def exampleItems : List (Spec.Html.Attrs × List (Triple Nat)) :=
  [({ itemscope := true, itemid := some (asc "#me"), itemtype := some (asc "http://schema.org/Person http://schema.org/Thing") },
    [⟨.bnode 0, asc "name", .lit (asc "Ann") xsdString none⟩, ⟨.bnode 0, asc "http://p.example/rel", .iri (asc "../up")⟩]),
   ({ itemscope := true, itemprop := some (asc "ignored-at-top-level") },
    [⟨.bnode 0, asc "name", .lit (asc "Bob") xsdString none⟩])]

example : ∀ x ∈ exampleItems, Typed.itemOkT x ∧ ItemTok x := by
  intro x hx
  simp only [exampleItems, List.mem_cons, List.not_mem_nil, or_false] at hx
  rcases hx with rfl | rfl
  · refine ⟨⟨rfl, rfl, ?_⟩, ⟨?_, ?_⟩⟩
    · intro t ht
      simp only [List.mem_cons, List.not_mem_nil, or_false] at ht
      rcases ht with rfl | rfl <;> exact ⟨by decide +kernel, by intro b h; cases h⟩
    · intro v hv; cases hv; decide
    · intro t ht
      simp only [List.mem_cons, List.not_mem_nil, or_false] at ht
      rcases ht with rfl | rfl <;> exact ⟨by decide +kernel, by decide +kernel, by intro b h; cases h⟩
  · refine ⟨⟨rfl, rfl, ?_⟩, ⟨?_, ?_⟩⟩
    · intro t ht
      simp only [List.mem_cons, List.not_mem_nil, or_false] at ht
      subst ht
      exact ⟨by decide +kernel, by intro b h; cases h⟩
    · intro v hv; cases hv
    · intro t ht
      simp only [List.mem_cons, List.not_mem_nil, or_false] at ht
      subst ht
      exact ⟨by decide +kernel, by decide +kernel, by intro b h; cases h⟩

/-- … and what the model decoder yields on it: 2 rdf:type statements, names resolved against the first type, the
    relative itemid and href resolved against the base, blank node 0 for the second item. -/
example : decode (specEnv (asc "http://ex.org/dir/page.html") [] [])
      (ofSpecDoc (Spec.Microdata.docOf (exampleItems.map Spec.Microdata.mkItem))) =
    .ok [⟨.iri (asc "http://ex.org/dir/page.html#me"), Mdd.rdfType, .iri (asc "http://schema.org/Person")⟩,
         ⟨.iri (asc "http://ex.org/dir/page.html#me"), Mdd.rdfType, .iri (asc "http://schema.org/Thing")⟩,
         ⟨.iri (asc "http://ex.org/dir/page.html#me"), asc "http://schema.org/name", .lit (asc "Ann") xsdString none⟩,
         ⟨.iri (asc "http://ex.org/dir/page.html#me"), asc "http://p.example/rel", .iri (asc "http://ex.org/up")⟩,
         ⟨.bnode 0, asc "name", .lit (asc "Bob") xsdString none⟩] [] := by
  decide +kernel

/-- Non-vacuity of `mdd_refines_denote_nested_partial`: a typed item with an IRI subject; text and a wrapper
    element between item and property; a three-token itemprop with a duplicate; a, img, time, meter, data value
    rules; two levels of nested blank-node items; a property element outside every item. -/
def exampleNested : Spec.Html.Tree :=
  .elem .html {} [.elem .head {} [], .elem .body {} [
    .elem .div { itemscope := true, itemtype := some (asc "http://schema.org/Person"), itemid := some (asc "#me") } [
      .text (asc "hello "),
      .elem .span {} [.elem .span { itemprop := some (asc "name nick name") } [.text (asc "An"), .elem .b {} [.text (asc "n")]]],
      .elem .a { itemprop := some (asc "url"), href := some (asc "../up") } [.text (asc "home")],
      .elem .img { itemprop := some (asc "image"), src := some (asc "pic.png") } [],
      .elem .time { itemprop := some (asc "born"), datetime := some (asc "soon") } [.text (asc "t")],
      .elem .div { itemprop := some (asc "knows"), itemscope := true } [
        .elem .meter { itemprop := some (asc "level"), value := some (asc "high") } [],
        .elem .div { itemprop := some (asc "knows"), itemscope := true } [
          .elem .data { itemprop := some (asc "urn:p:x"), value := some (asc "v") } [.text (asc "shown")]]]],
    .elem .span { itemprop := some (asc "orphan") } [.text (asc "outside")]]]

example : Nested.NestedFrag exampleNested := ⟨by decide +kernel, by decide +kernel, by decide +kernel⟩

example : Nested.Decline [] [] := by intro f hf; simp at hf

/-- … and the statements in decoder order (blank nodes 0 and 1 in order of first reach). -/
example : decode (specEnv (asc "http://ex.org/d/p") [] []) (ofSpecDoc exampleNested) =
    .ok [⟨.iri (asc "http://ex.org/d/p#me"), Mdd.rdfType, .iri (asc "http://schema.org/Person")⟩,
         ⟨.iri (asc "http://ex.org/d/p#me"), asc "http://schema.org/name", .lit (asc "Ann") xsdString none⟩,
         ⟨.iri (asc "http://ex.org/d/p#me"), asc "http://schema.org/nick", .lit (asc "Ann") xsdString none⟩,
         ⟨.iri (asc "http://ex.org/d/p#me"), asc "http://schema.org/url", .iri (asc "http://ex.org/up")⟩,
         ⟨.iri (asc "http://ex.org/d/p#me"), asc "http://schema.org/image", .iri (asc "http://ex.org/d/pic.png")⟩,
         ⟨.iri (asc "http://ex.org/d/p#me"), asc "http://schema.org/born", .lit (asc "soon") xsdString none⟩,
         ⟨.iri (asc "http://ex.org/d/p#me"), asc "http://schema.org/knows", .bnode 0⟩,
         ⟨.bnode 0, asc "level", .lit (asc "high") xsdString none⟩,
         ⟨.bnode 0, asc "knows", .bnode 1⟩,
         ⟨.bnode 1, asc "urn:p:x", .lit (asc "v") xsdString none⟩] [] := by
  rw [(mdd_refines_denote_nested_partial _ [] [] (by intro f hf; simp at hf) exampleNested
    ⟨by decide +kernel, by decide +kernel, by decide +kernel⟩).1]
  decide +kernel

/-- Non-vacuity of `mdd_reads_written_partial`: a graph with a blank-node OBJECT (no canonical document exists for
    it) and a candidate that nests the blank node's item inside its referrer; the writer's validation accepts it. -/
def exampleGraphNested : List (Triple Nat) :=
  [⟨.iri (asc "http://ex.org/s"), asc "http://schema.org/knows", .bnode 7⟩,
   ⟨.bnode 7, asc "http://schema.org/name", .lit (asc "Bob") xsdString none⟩]

def exampleCand : Spec.Html.Tree :=
  Spec.Microdata.docOf [.elem .div { itemscope := true, itemid := some (asc "http://ex.org/s") } [
    .elem .div { itemprop := some (asc "http://schema.org/knows"), itemscope := true } [
      .elem .span { itemprop := some (asc "http://schema.org/name") } [.text (asc "Bob")]]]]

example : Spec.Microdata.validDoc (asc "http://ex.org/dir/page.html") exampleGraphNested exampleCand (fun _ => [1, 0, 0]) = true := by
  decide +kernel

example : Nested.NestedFrag exampleCand := ⟨by decide +kernel, by decide +kernel, by decide +kernel⟩

/-- Non-vacuity of `mdd_refines_denote_itemref_partial`: two items share the detached block `t` (the first names it
    twice and also names a missing id); the block sits between them; the second item is nested in a third. -/
def exampleRef : Spec.Html.Tree :=
  .elem .body {} [
    .elem .div { itemscope := true, itemref := some (asc "t x t") } [.elem .span { itemprop := some (asc "n") } [.text (asc "A")]],
    .elem .div { id := some (asc "t") } [.elem .span { itemprop := some (asc "s") } [.text (asc "M")]],
    .elem .div { itemscope := true } [.elem .div { itemprop := some (asc "b"), itemscope := true, itemref := some (asc "t") } []]]

example : Ref.RefFrag exampleRef := ⟨by decide +kernel, by decide +kernel, by decide +kernel, by decide +kernel⟩

/-- … in decoder order: the referenced properties (twice) before the item's own child; blank nodes 0, 1, 2. -/
example : decode (specEnv [] [] []) (ofSpecDoc exampleRef) =
    .ok [⟨.bnode 0, asc "s", .lit (asc "M") xsdString none⟩,
         ⟨.bnode 0, asc "s", .lit (asc "M") xsdString none⟩,
         ⟨.bnode 0, asc "n", .lit (asc "A") xsdString none⟩,
         ⟨.bnode 1, asc "b", .bnode 2⟩,
         ⟨.bnode 2, asc "s", .lit (asc "M") xsdString none⟩] [] := by
  rw [(mdd_refines_denote_itemref_partial _ [] [] (by intro f hf; simp at hf) exampleRef
    ⟨by decide +kernel, by decide +kernel, by decide +kernel, by decide +kernel⟩).1]
  decide +kernel

end RdfModel.C11Md
