/-
  Property C01 — the table facts for the tables regenerated from /repo on this run, plus
  non-vacuity witnesses for the hypotheses of the round-trip theorems.

  Every proof is `decide` on a Boolean check over the table *entries* (never over code points);
  the checkers and their soundness lemmas are in `Proofs/C01Check.lean`.
-/
import RdfModel.Props.C01Defs
import RdfModel.Gen.NQTables
import RdfModel.Proofs.C01Check
import RdfModel.Proofs.C01Consts
namespace RdfModel.C01
open RdfModel RdfModel.NQ

theorem gen_nquads_ok : TablesOK Gen.nquads :=
  Proofs.C01.tablesOK_of_chk _ (by decide +kernel)

theorem gen_ntriples_ok : TablesOK Gen.ntriples :=
  Proofs.C01.tablesOK_of_chk _ (by decide +kernel)

theorem gen_nquads_ascii : TablesAscii Gen.nquads :=
  Proofs.C01.tablesAscii_of_chk _ (by decide)

theorem gen_ntriples_ascii : TablesAscii Gen.ntriples :=
  Proofs.C01.tablesAscii_of_chk _ (by decide)

theorem gen_nquads_grammar : TablesGrammar Gen.nquads :=
  Proofs.C01.tablesGrammar_of_chk _ (by decide)

theorem gen_ntriples_grammar : TablesGrammar Gen.ntriples :=
  Proofs.C01.tablesGrammar_of_chk _ (by decide)

/-! ### Non-vacuity: a non-trivial dataset that meets the hypotheses of `nquads_roundtrip` (instantiated in Audit/C01.lean) -/

namespace Witness

/-- Labeller on five blank nodes: `b0 … b4`. -/
def label : Fin 5 → List Nat := fun n => [0x62, 0x30 + n.val]

def p : Term (Fin 5) := .iri (asc "http://example.org/p")

/-- A literal with a quote, a newline, a non-ASCII (é) and an astral (U+1F600) code point;
    a language-tagged literal `en-Latn-US`; blank node `b0` used as subject, object and graph name;
    an IRI graph name; a typed literal. -/
def quads : List (Quad (Fin 5)) :=
  [ ⟨.bnode 0, p, .lit [0x61, 0x22, 0x0a, 0xe9, 0x1F600, 0x5c] xsdString none,
      some (.iri (asc "http://example.org/g"))⟩,
    ⟨.iri (asc "http://example.org/s"), p, .lit (asc "hi") rdfLangString (some (asc "en-Latn-US")),
      none⟩,
    ⟨.bnode 1, p, .bnode 0, some (.bnode 0)⟩,
    ⟨.bnode 0, p, .lit (asc "1") (asc "http://www.w3.org/2001/XMLSchema#integer") none, none⟩ ]

end Witness

theorem Witness.labelsOK : LabelsOK Gen.nquads Witness.label where
  inj := by
    intro a b h
    simp only [Witness.label, List.cons.injEq, and_true, true_and] at h
    exact Fin.ext (by omega)
  wf := by decide

example : LabelsOK Gen.ntriples Witness.label where
  inj := by
    intro a b h
    simp only [Witness.label, List.cons.injEq, and_true, true_and] at h
    exact Fin.ext (by omega)
  wf := by decide

theorem Witness.scalars (s : List Nat) (h : s.all isScalarB = true) : Scalars s := by
  intro c hc
  exact (isScalarB_iff c).1 (List.all_eq_true.1 h c hc)

theorem Witness.inRange (s : List Nat) (h : s.all (fun c => decide (c ≤ 0x10FFFF)) = true) :
    RunesInRange s := by
  intro c hc
  simpa using List.all_eq_true.1 h c hc

open Witness in
theorem Witness.wf : ∀ q ∈ Witness.quads, WFQuad (fun _ => true) q := by
  intro q hq
  simp only [Witness.quads, List.mem_cons, List.not_mem_nil, or_false] at hq
  have hp : WFIri (fun _ => true) (asc "http://example.org/p") := ⟨Proofs.C01.asc_scalar _, rfl⟩
  rcases hq with rfl | rfl | rfl | rfl
  · exact ⟨trivial, hp, ⟨scalars _ (by decide), ⟨Proofs.C01.asc_scalar _, rfl⟩, Proofs.C01.xsd_ne_lang, Proofs.C01.xsd_ne_dir⟩,
      fun g hg => by cases hg; exact ⟨Proofs.C01.asc_scalar _, rfl⟩⟩
  · exact ⟨⟨Proofs.C01.asc_scalar _, rfl⟩, hp, ⟨Proofs.C01.asc_scalar _, ⟨Proofs.C01.asc_scalar _, rfl⟩, rfl, by decide +kernel⟩,
      fun g hg => by cases hg⟩
  · exact ⟨trivial, hp, trivial, fun g hg => by cases hg; trivial⟩
  · exact ⟨trivial, hp, ⟨Proofs.C01.asc_scalar _, ⟨Proofs.C01.asc_scalar _, rfl⟩, asc_ne (by decide), asc_ne (by decide)⟩,
      fun g hg => by cases hg⟩

/-- … and they are in range (the hypothesis `hrange` of `ascii_output`). -/
theorem Witness.range : ∀ q ∈ Witness.quads, QuadInRange q := by
  intro q hq
  simp only [Witness.quads, List.mem_cons, List.not_mem_nil, or_false] at hq
  have hp : RunesInRange (asc "http://example.org/p") := Proofs.C01.asc_inRange _
  rcases hq with rfl | rfl | rfl | rfl
  · exact ⟨trivial, hp, ⟨inRange _ (by decide), Proofs.C01.asc_inRange _⟩, fun g hg => by cases hg; exact Proofs.C01.asc_inRange _⟩
  · exact ⟨Proofs.C01.asc_inRange _, hp, ⟨Proofs.C01.asc_inRange _, Proofs.C01.asc_inRange _⟩, fun g hg => by cases hg⟩
  · exact ⟨trivial, hp, trivial, fun g hg => by cases hg; trivial⟩
  · exact ⟨trivial, hp, ⟨Proofs.C01.asc_inRange _, Proofs.C01.asc_inRange _⟩, fun g hg => by cases hg⟩

/-- The hypotheses of `nquads_roundtrip` (at `T := Gen.nquads`, `urlOk := fun _ => true`) hold for a
    concrete four-quad dataset; Audit/C01.lean applies the theorem to it. -/
example : TablesOK Gen.nquads ∧ LabelsOK Gen.nquads Witness.label ∧
    (∀ q ∈ Witness.quads, WFQuad (fun _ => true) q) ∧ Witness.quads.length = 4 :=
  ⟨gen_nquads_ok, Witness.labelsOK, Witness.wf, rfl⟩

end RdfModel.C01
