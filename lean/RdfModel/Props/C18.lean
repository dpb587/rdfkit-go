/-
  Property C18 — converting between formats through the registry / `rdfkit pipe` preserves the dataset
  (theorems only; helper lemmas live in RdfModel/Proofs/C18*.lean).

  All theorems are about `Model/Pipe.lean`, the executable model the driver runs (`Driver/Pipe.lean`,
  component `pipe`), and about `Gen/RegistryFacts.lean`, the registry contents regenerated from
  `rdfio.Registry` on every run.

  What is proved here
    * `resolve_priority`, `resolve_encoder_priority` — the order alias > exact identifier > media type >
      magic bytes > file extension (decoder) and alias > exact identifier > extension (encoder), exactly as coded,
      for every registry;
    * `resolve_ext_order_irrelevant` — Go's unspecified map iteration order cannot change the result when the
      extension table is suffix-consistent; `registry_unambiguous` proves that (and the other table facts) for
      the regenerated registry by `decide`;
    * `open_decoder_stable`, `open_encoder_stable` — the CLI resolves the type twice (option builder, then
      `NewDecoder`); with no alias shadowing an identifier the second resolution returns the first result;
    * `pipe_labels_injective` — one source node ↦ one label, two source nodes ↦ two labels;
    * `pipe_triples_restricts_default_graph` is FALSE on the code as it is (D20): stated, refuted by witness,
      `_partial` proved under "no named graphs";
    * `pipe_nq_preserves`, `pipe_nt_preserves` — composition with C01's round-trip theorems;
    * `pipe_codec_preserves_partial` (+ Turtle / RDF-JSON instances) — the same composition over an ABSTRACT codec
      with the target's round trip as an explicit hypothesis; they hold for every codec. For the real codecs
      `Props/C18Targets.lean` discharges the hypothesis: `pipe_preserves_ttl_plain`, `pipe_preserves_rdfjson`
      with `C02.plain_doc_iso` / `C01RJ.rdfjson_roundtrip` on the executable encoder/decoder models, including
      the `--out-param` / `--out-base` plumbing; `pipe_preserves_ttl_resources_holds` for `resources=true`.
  Outside the model: the source decoders (the dataset they yield is a universally quantified input), gzip
  filters, HTTP, the regular expressions of the magic-byte resolvers (their answers are an input), cobra
  flag parsing, non-ASCII case folding of file names.
-/
import RdfModel.Props.C18Defs
import RdfModel.Props.C01
import RdfModel.Props.C01Tables
import RdfModel.Proofs.C18
import RdfModel.Proofs.C18Labels
import RdfModel.Proofs.C18Pipe
import RdfModel.Proofs.Asc
namespace RdfModel.C18
open RdfModel RdfModel.Pipe RdfModel.BN RdfModel.NQ RdfModel.C01

/-! ## Type resolution -/

/-- `ResolveDecoderType`: the priority chain, exactly as coded. An alias hit wins whatever the media type,
    the magic bytes and the file name say; then the exact identifier of a registered decoder; then (also
    when a non-empty `t` matched nothing!) the media type; then the first magic-byte resolver that answers;
    then the file extension. -/
theorem resolve_priority (reg : Registry) (ord : List (Str × Cti)) (rr : ReaderInfo) (t : Str) :
    (∀ c, t ≠ [] → BN.assoc t reg.aliases = some c → resolveDecoderType reg ord rr t = some c) ∧
    (t ≠ [] → BN.assoc t reg.aliases = none → t ∈ reg.decoders → resolveDecoderType reg ord rr t = some t) ∧
    ((t = [] ∨ (BN.assoc t reg.aliases = none ∧ t ∉ reg.decoders)) →
      (∀ c, resolveByMedia reg.mediaTypes rr = some c → resolveDecoderType reg ord rr t = some c) ∧
      (resolveByMedia reg.mediaTypes rr = none →
        (∀ c, resolveByMagic rr = some c → resolveDecoderType reg ord rr t = some c) ∧
        (resolveByMagic rr = none → resolveDecoderType reg ord rr t = resolveByExt ord rr))) := by
  refine ⟨fun c ht ha => Proofs.C18.resolveDecoderType_of_type (Proofs.C18.resolveByType_alias ht ha),
    fun ht ha hm => Proofs.C18.resolveDecoderType_of_type (Proofs.C18.resolveByType_id ht ha hm), ?_⟩
  intro h
  have h0 := (Proofs.C18.resolveByType_none_iff reg.aliases reg.decoders t).mpr h
  exact ⟨fun c hm => Proofs.C18.resolveDecoderType_of_media h0 hm,
    fun h1 => ⟨fun c hg => Proofs.C18.resolveDecoderType_of_magic h0 h1 hg,
      fun h2 => Proofs.C18.resolveDecoderType_of_ext h0 h1 h2⟩⟩

/-- `ResolveEncoderType`: alias > exact identifier of a registered encoder > `FileExts[filepath.Ext(name)]`
    (exact, case-sensitive lookup; no media type, no sniffing). -/
theorem resolve_encoder_priority (reg : Registry) (fn : Option Str) (t : Str) :
    (∀ c, t ≠ [] → BN.assoc t reg.aliases = some c → resolveEncoderType reg fn t = some c) ∧
    (t ≠ [] → BN.assoc t reg.aliases = none → t ∈ reg.encoders → resolveEncoderType reg fn t = some t) ∧
    ((t = [] ∨ (BN.assoc t reg.aliases = none ∧ t ∉ reg.encoders)) →
      resolveEncoderType reg fn t = fn.bind (fun f => BN.assoc (filepathExt f) reg.fileExts)) := by
  refine ⟨fun c ht ha => Proofs.C18.resolveEncoderType_of_type (Proofs.C18.resolveByType_alias ht ha),
    fun ht ha hm => Proofs.C18.resolveEncoderType_of_type (Proofs.C18.resolveByType_id ht ha hm), ?_⟩
  intro h
  exact Proofs.C18.resolveEncoderType_of_ext ((Proofs.C18.resolveByType_none_iff reg.aliases reg.encoders t).mpr h)

/-- The loop over the `FileExts` map visits it in an unspecified order; with a suffix-consistent table every
    order gives the same answer. -/
theorem resolve_ext_order_irrelevant (reg : Registry) (hc : SuffixConsistent reg.fileExts)
    (ord ord' : List (Str × Cti)) (hp : ord.Perm reg.fileExts) (hp' : ord'.Perm reg.fileExts)
    (rr : ReaderInfo) (t : Str) :
    resolveDecoderType reg ord rr t = resolveDecoderType reg ord' rr t := by
  unfold resolveDecoderType
  rw [Proofs.C18.resolveByExt_perm hc hp hp' rr]

/-- The CLI resolves twice (`cmdflags.EncodingInput.Open`, then `Registry.NewDecoder` on the resulting
    identifier). If no alias shadows a decoder identifier, the type chosen the first time (or the fallback)
    is the decoder that is opened. -/
theorem open_decoder_stable (reg : Registry) (hs : aliasShadowFree reg.aliases reg.decoders = true)
    (hne : [] ∉ reg.decoders) (ord1 ord2 : List (Str × Cti)) (rr : ReaderInfo) (t : Str) (fallback c : Cti)
    (h1 : (resolveDecoderType reg ord1 rr t).getD fallback = c) (hc : c ∈ reg.decoders) :
    openDecoderType reg ord1 ord2 rr t fallback = some c := by
  have hcne : c ≠ [] := fun h => hne (h ▸ hc)
  simp only [openDecoderType, h1]
  rw [Proofs.C18.resolveDecoderType_of_type (Proofs.C18.resolveByType_again hs hc hcne)]
  simp [hc]

theorem open_encoder_stable (reg : Registry) (hs : aliasShadowFree reg.aliases reg.encoders = true)
    (hne : [] ∉ reg.encoders) (fn : Option Str) (t : Str) (fallback c : Cti)
    (h1 : (resolveEncoderType reg fn t).getD fallback = c) (hc : c ∈ reg.encoders) :
    openEncoderType reg fn t fallback = some c := by
  have hcne : c ≠ [] := fun h => hne (h ▸ hc)
  simp only [openEncoderType, h1]
  rw [Proofs.C18.resolveEncoderType_of_type (Proofs.C18.resolveByType_again hs hc hcne)]
  simp [hc]

/-! ## The regenerated registry -/

open Gen.RegistryFacts in
/-- The registry `rdfkit` uses, as regenerated on this run: keys unique; every alias / media type / extension
    names a registered type; no alias shadows an identifier; extension keys have the documented shape and are
    suffix-consistent; the alias `x` and the extension `.x` agree. -/
theorem registry_unambiguous : RegistryOK registry where
  alias_keys := by decide +kernel
  media_keys := by decide +kernel
  ext_keys := by decide +kernel
  decoders_nodup := by decide +kernel
  encoders_nodup := by decide +kernel
  targets := by decide +kernel
  shadow_dec := by decide +kernel
  shadow_enc := by decide +kernel
  ext_shape := by decide +kernel
  media_lower := by decide +kernel
  ext_suffix := by decide +kernel
  stem := by decide +kernel

/-- The other generated tables agree with the registry (kinds listed for every codec, a codec's own extension
    and media type resolve to it, the magic-byte resolvers name the right format on the probe documents, the
    fallback types of `pipecmd` are registered). -/
theorem registry_facts : FactsOK where
  dec_kinds := by decide +kernel
  enc_kinds := by decide +kernel
  metadata := by decide +kernel
  probes := by decide +kernel
  fallback_dec := by decide +kernel
  fallback_enc := by decide +kernel

open Gen.RegistryFacts in
/-- The eight source formats and four target formats of the property are registered with the kinds and
    parameters the harness (and the composition theorems below) assume; `rdfkit pipe` falls back to TriG for
    reading and N-Quads for writing. -/
theorem registry_as_expected :
    decoderKinds = expectedDecoders ∧
    expectedEncoders.all (fun e => encoderKinds.contains e) = true ∧
    pipeDecoderFallback = asc "org.w3.trig" ∧ pipeEncoderFallback = asc "org.w3.n-quads" := by decide +kernel

open Gen.RegistryFacts in
/-- For the regenerated registry, type resolution is a function of (type flag, media type, magic answers,
    file name) only. -/
theorem gen_ext_order_irrelevant (ord ord' : List (Str × Cti)) (hp : ord.Perm registry.fileExts)
    (hp' : ord'.Perm registry.fileExts) (rr : ReaderInfo) (t : Str) :
    resolveDecoderType registry ord rr t = resolveDecoderType registry ord' rr t :=
  resolve_ext_order_irrelevant registry (Proofs.C18.suffixConsistent_of_B registry_unambiguous.ext_suffix)
    ord ord' hp hp' rr t

open Gen.RegistryFacts in
/-- … and whatever `rdfkit pipe` resolves for its input is the decoder it opens. -/
theorem gen_open_decoder_stable (ord1 ord2 : List (Str × Cti)) (rr : ReaderInfo) (t : Str) (c : Cti)
    (h1 : (resolveDecoderType registry ord1 rr t).getD pipeDecoderFallback = c) (hc : c ∈ registry.decoders) :
    openDecoderType registry ord1 ord2 rr t pipeDecoderFallback = some c :=
  open_decoder_stable registry registry_unambiguous.shadow_dec (by decide) ord1 ord2 rr t _ c h1 hc

open Gen.RegistryFacts in
theorem gen_open_encoder_stable (fn : Option Str) (t : Str) (c : Cti)
    (h1 : (resolveEncoderType registry fn t).getD pipeEncoderFallback = c) (hc : c ∈ registry.encoders) :
    openEncoderType registry fn t pipeEncoderFallback = some c :=
  open_encoder_stable registry registry_unambiguous.shadow_enc (by decide) fn t _ c h1 hc

open Gen.RegistryFacts in
/-- Non-vacuity / illustration on the regenerated registry: `--in-type nq` on a file called `x.ttl` whose
    bytes the RDF/JSON resolver claims is read as N-Quads; without the flag the magic answer wins over the
    extension; without either the extension decides; nothing at all ⇒ the TriG fallback. -/
example :
    let rr : ReaderInfo := { mediaType := none, magic := some [some (asc "org.w3.rdf-json"), none, none, none, none],
                             fileName := some (asc "x.ttl") }
    resolveDecoderType registry registry.fileExts rr (asc "nq") = some (asc "org.w3.n-quads") ∧
    resolveDecoderType registry registry.fileExts rr [] = some (asc "org.w3.rdf-json") ∧
    resolveDecoderType registry registry.fileExts { rr with magic := none } [] = some (asc "org.w3.turtle") ∧
    openDecoderType registry registry.fileExts registry.fileExts
      { mediaType := none, magic := none, fileName := some (asc "stdin") } [] pipeDecoderFallback = some (asc "org.w3.trig") ∧
    resolveEncoderType registry (some (asc "out.NT")) [] = none ∧
    resolveEncoderType registry (some (asc "out.nt")) [] = some (asc "org.w3.n-triples") := by decide +kernel

/-! ## Blank-node labels -/

/-- One source blank node never gets two labels and two source blank nodes never share one.
    `s` is any state satisfying C14's invariant (every reachable state does: `Proofs.C14.inv_init`,
    `step_inv`), `j` the decoder's string factory, `qs` the statements in the order the encoder asks for
    labels. The provider that `PropagateDecoderPipeBlankNodeStringProvider` installs labels every occurrence of a
    node `n` with `σ n` for one function `σ` (a labelled node keeps its label; any other node gets the text of
    a UUID), and `σ` is injective on the nodes that occur — provided UUID texts are pairwise distinct (`hU`,
    crypto/rand) and no label of the source document is the text of a UUID drawn in this process (`hcol`;
    see `C14.passthrough_collision_uuid` for why this cannot be dropped). -/
theorem pipe_labels_injective (U : Nat → Bytes) (hU : Function.Injective U) (s : State) (hI : C14.Inv s)
    (j : Nat) (hj : j < s.strfs.length) (qs : List (Quad Node))
    (hcol : ∀ v, some (.bnString j v) ∈ nodesOf qs → ∀ k, v ≠ U k) :
    ∃ (p : ProvRef) (s1 : State) (σ : Node → Bytes),
      pipeProvider U s (some (.strf j)) = (s1, some p) ∧
      (labelQuads U p s1 qs).2 = some (qs.map (Quad.map σ)) ∧
      (∀ n ∈ nodesOf qs, ∀ m ∈ nodesOf qs, σ n = σ m → n = m) ∧
      (∀ v, σ (some (.bnString j v)) = v) ∧
      (∀ n ∈ nodesOf qs, (∃ v, n = some (.bnString j v)) ∨ ∃ k, σ n = U k) :=
  Proofs.C18.pipe_labels U hU s hI j hj qs hcol

/-! ## A triples-only target -/

/-- The property as stated: a triples-only target receives the dataset *restricted to the default graph*. -/
def pipe_triples_restricts_default_graph : Prop :=
  ∀ (β : Type) (src : Kind) (decoded : List (Quad β)),
    pipeStatements src .triples decoded = (defaultGraph (getQuadsDecoder src decoded)).map quadAsTriple

/-- What the code does instead (D20): `QuadAsTripleEncoder` hands every statement to the triples encoder with
    its graph name dropped — the output is the union of all graphs. -/
theorem pipe_triples_writes_all_graphs {β : Type} (src : Kind) (decoded : List (Quad β)) :
    pipeStatements src .triples decoded = decoded.map quadAsTriple :=
  Proofs.C18.pipeStatements_triples src decoded

/-- Witness: one statement in the named graph `<g>` reaches an N-Triples / Turtle / RDF-JSON target. -/
theorem pipe_triples_restricts_default_graph_false : ¬ pipe_triples_restricts_default_graph := by
  intro h
  have := h Unit .quads [⟨.iri [97], .iri [112], .iri [98], some (.iri [103])⟩]
  simp [pipeStatements, getQuadsDecoder, getQuadsEncoder, defaultGraph] at this

/-- Proved part: the stated behaviour holds when the source dataset has no named graph — in particular for
    every triples source (N-Triples, Turtle, RDF/XML, RDF/JSON). Missing for the full statement: nothing can be
    proved for a quads source with named graphs (the witness above). -/
theorem pipe_triples_restricts_default_graph_partial {β : Type} (src : Kind) (decoded : List (Quad β))
    (h : src = .triples ∨ ∀ q ∈ decoded, q.g = none) :
    pipeStatements src .triples decoded = (defaultGraph (getQuadsDecoder src decoded)).map quadAsTriple := by
  rw [pipe_triples_writes_all_graphs, defaultGraph, List.filter_eq_self.mpr]
  · cases src <;> simp [getQuadsDecoder, quadAsTriple, tripleAsQuad, Function.comp_def]
  · intro q hq
    cases src with
    | triples =>
      obtain ⟨q0, _, rfl⟩ := List.mem_map.mp hq
      rfl
    | quads =>
      rw [h.resolve_left nofun q hq]
      rfl

/-! ## Composition: the pipe into N-Quads / N-Triples preserves the dataset -/

/-- `rdfkit pipe` into **N-Quads**.
    GIVEN that the source decoder yields the statements `qs` over the blank nodes `β` of the dataset
    (`node` embeds them into Go values of the decoder's string factory `j`; `src` says whether it is a triples
    or a quads decoder) — the source decoders themselves are outside this theorem —
    the pipe succeeds, and decoding its output with the N-Quads decoder yields exactly the statements the
    source decoder yielded (a triples source in the default graph), blank nodes renamed by an injective `σ`:
    the output dataset is isomorphic to the source dataset (`C01.relabel_injective`).
    Hypotheses: C01's (`TablesOK` — proved for the regenerated tables —, well-formed statements), C14's
    invariant, pairwise distinct well-formed UUID texts, every node of `β` occurs, source labels are
    well-formed N-Quads labels and are not UUID texts drawn by this process. -/
theorem pipe_nq_preserves {β : Type} (T : Tables) (hT : TablesOK T) (urlOk : List Nat → Bool) (ascii : Bool)
    (U : Nat → Bytes) (hU : Function.Injective U) (hUok : ∀ k, labelOK T (U k) = true)
    (s : State) (hI : C14.Inv s) (j : Nat) (hj : j < s.strfs.length)
    (node : β → Node) (hnode : Function.Injective node) (src : Kind) (qs : List (Quad β))
    (hocc : ∀ b, b ∈ nodesOf (getQuadsDecoder src qs))
    (hscope : ∀ b v, node b = some (.bnString j v) → labelOK T v = true ∧ ∀ k, v ≠ U k)
    (hwf : ∀ q ∈ qs, WFQuad urlOk q) :
    ∃ σ : β → List Nat, Function.Injective σ ∧ ∃ doc,
      pipeNQ T ascii true U s (some (.strf j)) src (qs.map (Quad.map node)) = .ok doc ∧
      run T urlOk .eof true doc = ((getQuadsDecoder src qs).map (Quad.map σ), .clean) := by
  have hps : pipeStatements src .quads qs = getQuadsDecoder src qs := by
    simp [pipeStatements, Proofs.C18.getQuadsEncoder_quads]
  obtain ⟨σ, hl, hdoc⟩ := Proofs.C18.pipe_writes T urlOk ascii true U hU hUok s hI j hj node hnode src qs
    (by simpa [hps] using hocc) hscope hwf
  refine ⟨σ, hl.inj, _, hdoc, ?_⟩
  simp only [if_true, hps]
  exact nquads_roundtrip T hT urlOk ascii σ hl _ (hps ▸ Proofs.C18.wf_pipeStatements urlOk src .quads qs hwf)

/-- `rdfkit pipe` into **N-Triples**: as above; the output is the source statements with their graph names
    dropped (all graphs merged — D20 — which is the default graph when the source has no named graph:
    `pipe_triples_restricts_default_graph_partial`). Blank nodes that occur only as graph names are never
    labelled, hence `hocc` ranges over the triples. -/
theorem pipe_nt_preserves {β : Type} (T : Tables) (hT : TablesOK T) (urlOk : List Nat → Bool) (ascii : Bool)
    (U : Nat → Bytes) (hU : Function.Injective U) (hUok : ∀ k, labelOK T (U k) = true)
    (s : State) (hI : C14.Inv s) (j : Nat) (hj : j < s.strfs.length)
    (node : β → Node) (hnode : Function.Injective node) (src : Kind) (qs : List (Quad β))
    (hocc : ∀ b, b ∈ nodesOf (qs.map quadAsTriple))
    (hscope : ∀ b v, node b = some (.bnString j v) → labelOK T v = true ∧ ∀ k, v ≠ U k)
    (hwf : ∀ q ∈ qs, WFQuad urlOk q) :
    ∃ σ : β → List Nat, Function.Injective σ ∧ ∃ doc,
      pipeNQ T ascii false U s (some (.strf j)) src (qs.map (Quad.map node)) = .ok doc ∧
      run T urlOk .eof false doc = ((qs.map quadAsTriple).map (Quad.map σ), .clean) := by
  have hps : pipeStatements src .triples qs = qs.map quadAsTriple := Proofs.C18.pipeStatements_triples src qs
  obtain ⟨σ, hl, hdoc⟩ := Proofs.C18.pipe_writes T urlOk ascii false U hU hUok s hI j hj node hnode src qs
    (by simpa [hps] using hocc) hscope hwf
  refine ⟨σ, hl.inj, _, hdoc, ?_⟩
  simp only [Bool.false_eq_true, if_false, hps]
  rw [ntriples_roundtrip T hT urlOk ascii σ hl _ (hps ▸ Proofs.C18.wf_pipeStatements urlOk src .triples qs hwf),
    List.map_map, List.map_map]
  rfl

/-! ## Composition for the targets whose round trip is proved elsewhere (Turtle, RDF/JSON) -/

/-- Statement over an abstract `Codec`: for every codec that round-trips on well-labelled input, the pipe
    preserves. (The statements for the REAL Turtle and RDF/JSON codecs — `Model.TurtleEncoder` / `Model.TurtleDoc`,
    `Model.RdfJson` — are `pipe_preserves_ttl_plain`, `pipe_preserves_ttl_resources(_partial)` and
    `pipe_preserves_rdfjson` in `Props/C18Targets.lean`.) -/
def pipe_codec_preserves (c : Codec) (P : List (Quad (List Nat)) → Prop) : Prop :=
  RoundTrips c P →
  ∀ (U : Nat → Bytes), Function.Injective U → ∀ (s : State), C14.Inv s → ∀ (j : Nat), j < s.strfs.length →
  ∀ (src : Kind) (decoded : List (Quad Node)),
    (∀ v, some (.bnString j v) ∈ nodesOf (pipeStatements src .triples decoded) → ∀ k, v ≠ U k) →
    (∀ σ : Node → Bytes, (∀ v, σ (some (.bnString j v)) = v) →
      (∀ n ∈ nodesOf (pipeStatements src .triples decoded), (∃ v, n = some (.bnString j v)) ∨ ∃ k, σ n = U k) →
      P ((pipeStatements src .triples decoded).map (Quad.map σ))) →
    ∃ (p : ProvRef) (s1 : State) (σ : Node → Bytes) (doc : List Nat) (out : List (Quad (List Nat))),
      pipeProvider U s (some (.strf j)) = (s1, some p) ∧
      (labelQuads U p s1 (pipeStatements src .triples decoded)).2 = some ((decoded.map quadAsTriple).map (Quad.map σ)) ∧
      (∀ n ∈ nodesOf (decoded.map quadAsTriple), ∀ m ∈ nodesOf (decoded.map quadAsTriple), σ n = σ m → n = m) ∧
      c.encode ((decoded.map quadAsTriple).map (Quad.map σ)) = some doc ∧
      c.decode doc = some out ∧
      IsoSets out ((decoded.map quadAsTriple).map (Quad.map σ))

/-- Proved for every abstract codec: GIVEN the target's round trip (`RoundTrips c P`, an explicit hypothesis;
    for the real Turtle / RDF-JSON codecs it is discharged in `Props/C18Targets.lean`) the pipe writes
    a document that decodes to the source statements (graph names dropped) up to an injective relabelling.
    PARTIAL because (a) the hypothesis is not discharged here, (b) labels are requested in statement order
    (subject, object), whereas the buffered / resources modes of the Turtle encoder and the RDF/JSON encoder ask
    in their own order — the conclusion about `σ` does not depend on the order, but that is argued, not proved —,
    (c) `iris.useBase` / `iris.usePrefix` only change how IRIs are written and are part of the codec hypothesis. -/
theorem pipe_codec_preserves_partial (c : Codec) (P : List (Quad (List Nat)) → Prop) : pipe_codec_preserves c P := by
  intro hrt U hU s hI j hj src decoded hcol hP
  obtain ⟨p, s1, σ, hprov, hlab, hinj, hown, hU'⟩ :=
    Proofs.C18.pipe_labels U hU s hI j hj (pipeStatements src .triples decoded) hcol
  have hps : pipeStatements src .triples decoded = decoded.map quadAsTriple :=
    Proofs.C18.pipeStatements_triples src decoded
  obtain ⟨doc, out, henc, hdec, hiso⟩ := hrt _ (hP σ hown hU')
  rw [hps] at hlab hinj henc hiso
  exact ⟨p, s1, σ, doc, out, hprov, by rw [hps]; exact hlab, hinj, henc, hdec, hiso⟩

/-- Turtle target (`--out-type ttl`, any of buffered / resources / iris.useBase / iris.usePrefix): instance of
    the above for whatever codec model C02 provides. -/
theorem pipe_ttl_preserves_partial (turtle : Codec) (P : List (Quad (List Nat)) → Prop) :
    pipe_codec_preserves turtle P := pipe_codec_preserves_partial turtle P

/-- RDF/JSON target (`--out-type rj`): instance for the codec of `Model.RdfJson` (C01RJ). -/
theorem pipe_rdfjson_preserves_partial (rdfjson : Codec) (P : List (Quad (List Nat)) → Prop) :
    pipe_codec_preserves rdfjson P := pipe_codec_preserves_partial rdfjson P

/-! ## Non-vacuity: concrete objects satisfying the hypotheses -/

namespace Witness

/-- process state after `blanknodes.NewStringFactory()` (the decoder's factory is `strf 0`) -/
def s0 : State := (step driverU (init 0) .newStringFactory).1

theorem s0_inv : C14.Inv s0 := Proofs.C14.step_inv driverU (Proofs.C14.inv_init 0) .newStringFactory

/-- a Turtle-like source: the labelled node `_:x` and two anonymous nodes, `_:x` and one anonymous node
    occurring twice, one of them as a graph name -/
def stmts : List (Quad Node) :=
  [ ⟨.bnode (some (.bnString 0 (BN.asc "x"))), .iri (RdfModel.asc "http://e/p"), .bnode (some (.bn 0 1)), none⟩,
    ⟨.bnode (some (.bn 0 2)), .iri (RdfModel.asc "http://e/p"), .bnode (some (.bnString 0 (BN.asc "x"))),
      some (.bnode (some (.bn 0 1)))⟩ ]

theorem driverU_head (k : Nat) : (driverU k).head? = some 60 := by
  have : BN.asc "<U" = [60, 85] := by decide
  simp [driverU, this]

theorem stmts_hcol : ∀ v, some (.bnString 0 v) ∈ nodesOf stmts → ∀ k, v ≠ driverU k := by
  intro v hv k h
  have hx : v = BN.asc "x" := by
    simp [stmts, nodesOf, quadNodes, termNodes] at hv
    exact hv
  have h1 := driverU_head k
  rw [← h, hx] at h1
  revert h1; decide

/-- the hypotheses of `pipe_labels_injective` hold for `driverU`, `s0`, factory 0, `stmts` … -/
example : Function.Injective driverU ∧ C14.Inv s0 ∧ 0 < s0.strfs.length ∧
    (∀ v, some (.bnString 0 v) ∈ nodesOf stmts → ∀ k, v ≠ driverU k) :=
  ⟨Proofs.C14.driverU_inj, s0_inv, by decide, stmts_hcol⟩

/-- … and this is what the model (and the driver) computes: `_:x` keeps its label, the anonymous nodes get the
    first and second UUID of the process, consistently. -/
example :
    (pipeProvider driverU s0 (some (.strf 0))).2 = some (.pass 0 (.uuid 0)) ∧
    (labelQuads driverU (.pass 0 (.uuid 0)) (pipeProvider driverU s0 (some (.strf 0))).1 stmts).2 =
      some [ ⟨.bnode (BN.asc "x"), .iri (RdfModel.asc "http://e/p"), .bnode (BN.asc "<U0>"), none⟩,
             ⟨.bnode (BN.asc "<U1>"), .iri (RdfModel.asc "http://e/p"), .bnode (BN.asc "x"), some (.bnode (BN.asc "<U0>"))⟩ ] := by
  decide

/-- UUID texts for the composition theorems: `u`, `uu`, `uuu`, … (pairwise distinct, well-formed labels) -/
def U (k : Nat) : Bytes := List.replicate (k + 1) 0x75

theorem U_inj : Function.Injective U := by
  intro a b h
  have := congrArg List.length h
  simp [U] at this
  exact this

theorem U_ok (k : Nat) : labelOK Gen.nquads (U k) = true := by
  have h2 : ∀ z ∈ List.replicate k 0x75, inRanges Gen.nquads.pnChars z = true := fun z hz => by
    rw [List.eq_of_mem_replicate hz]; decide
  simp only [U, List.replicate_succ, labelOK, Bool.and_eq_true, List.all_eq_true]
  refine ⟨⟨by decide, fun x hx => by simp [h2 x hx]⟩, ?_⟩
  cases hk : (List.replicate k 0x75).getLast? with
  | none => rfl
  | some z => exact h2 z (List.mem_of_getLast? hk)

/-- the source dataset over its two blank nodes; node 0 is `_:x`, node 1 is anonymous -/
def node : Fin 2 → Node
  | 0 => some (.bnString 0 (BN.asc "x"))
  | 1 => some (.bn 0 1)

def p : Term (Fin 2) := .iri (RdfModel.asc "http://example.org/p")

def quads : List (Quad (Fin 2)) :=
  [ ⟨.bnode 0, p, .lit [0x61, 0x22, 0x0a, 0xe9] xsdString none, some (.iri (RdfModel.asc "http://example.org/g"))⟩,
    ⟨.bnode 1, p, .bnode 0, some (.bnode 1)⟩ ]

theorem node_inj : Function.Injective node := by
  unfold Function.Injective
  decide

theorem quads_wf : ∀ q ∈ quads, WFQuad (fun _ => true) q := by
  intro q hq
  simp only [quads, List.mem_cons, List.not_mem_nil, or_false] at hq
  rcases hq with rfl | rfl
  · exact ⟨trivial, ⟨Proofs.C01.asc_scalar _, rfl⟩,
      ⟨C01.Witness.scalars _ (by decide), ⟨Proofs.C01.asc_scalar _, rfl⟩, asc_ne (by simp), asc_ne (by simp)⟩,
      fun g hg => by cases hg; exact ⟨Proofs.C01.asc_scalar _, rfl⟩⟩
  · exact ⟨trivial, ⟨Proofs.C01.asc_scalar _, rfl⟩, trivial, fun g hg => by cases hg; trivial⟩

/-- the only label the source carries is `x` … -/
theorem node_label {b : Fin 2} {v : Bytes} (h : node b = some (.bnString 0 v)) : v = BN.asc "x" := by
  match b with
  | 0 => simpa [node] using h.symm
  | 1 => simp [node] at h

/-- … and no UUID text is `x` -/
theorem x_ne_U (k : Nat) : BN.asc "x" ≠ U k := by
  intro hk
  have := congrArg List.head? hk
  simp [U, List.replicate_succ] at this
  revert this; decide

theorem quads_scope : ∀ b v, node b = some (.bnString 0 v) → labelOK Gen.nquads v = true ∧ ∀ k, v ≠ U k := by
  intro b v h
  rw [node_label h]
  exact ⟨by decide, x_ne_U⟩

/-- the hypotheses of `pipe_nq_preserves` hold at the regenerated N-Quads tables for this dataset (quads source) -/
example : TablesOK Gen.nquads ∧ Function.Injective U ∧ (∀ k, labelOK Gen.nquads (U k) = true) ∧ C14.Inv s0 ∧
    0 < s0.strfs.length ∧ Function.Injective node ∧ (∀ b, b ∈ nodesOf (getQuadsDecoder .quads quads)) ∧
    (∀ b v, node b = some (.bnString 0 v) → labelOK Gen.nquads v = true ∧ ∀ k, v ≠ U k) ∧
    (∀ q ∈ quads, WFQuad (fun _ => true) q) :=
  ⟨gen_nquads_ok, U_inj, U_ok, s0_inv, by decide, node_inj, by decide, quads_scope, quads_wf⟩

/-- The theorem instantiated: the pipe of the witness dataset into N-Quads round-trips. -/
theorem nq_roundtrip (ascii : Bool) :
    ∃ σ : Fin 2 → List Nat, Function.Injective σ ∧ ∃ doc,
      pipeNQ Gen.nquads ascii true U s0 (some (.strf 0)) .quads (quads.map (Quad.map node)) = .ok doc ∧
      run Gen.nquads (fun _ => true) .eof true doc = (quads.map (Quad.map σ), .clean) :=
  pipe_nq_preserves Gen.nquads gen_nquads_ok _ ascii U U_inj U_ok s0 s0_inv 0 (by decide) node node_inj .quads quads
    (by decide) quads_scope quads_wf

/-- `RoundTrips` is satisfiable: the codec that writes one byte per statement and decodes everything to the empty
    list round-trips the empty list -/
example : RoundTrips { encode := fun qs => some (qs.flatMap (fun _ => [0])), decode := fun _ => some [] }
    (fun qs => qs = []) := by
  intro qs h
  subst h
  exact ⟨[], [], rfl, rfl, id, by intro a ha; simp [nodesOf] at ha, by simp⟩

end Witness

/-! ## Detection by file extension is overridden by magic bytes (finding `magic-overrides-extension`) -/

/-- FULL statement of "type given by file extension": with no explicit type and no media type, a file whose name
    carries a registered extension is read as the type that extension names. -/
def extension_decides : Prop :=
  ∀ (reg : Registry) (ord : List (Str × Cti)) (rr : ReaderInfo) (c : Cti),
    rr.mediaType = none → resolveByExt ord rr = some c → resolveDecoderType reg ord rr [] = some c

open Gen.RegistryFacts in
/-- Witness on the regenerated registry: `lit.nt`, whose first bytes the lax HTML resolver (the fifth) claims —
    e.g. the N-Triples line `<a:a> <a:p> "<div itemscope>x</div>" .` — is read as HTML (and converts to the empty
    dataset; replayed on the binary by the harness, class `magic-overrides-extension`). -/
theorem extension_decides_witness :
    let rr : ReaderInfo := { mediaType := none, magic := some [none, none, none, none, some (asc "public.html")],
                             fileName := some (asc "lit.nt") }
    resolveByExt registry.fileExts rr = some (asc "org.w3.n-triples") ∧
    resolveDecoderType registry registry.fileExts rr [] = some (asc "public.html") := by decide +kernel

theorem extension_decides_false : ¬ extension_decides := by
  intro h
  have hw := extension_decides_witness
  have := h Gen.RegistryFacts.registry Gen.RegistryFacts.registry.fileExts _ _ rfl hw.1
  rw [hw.2] at this
  exact asc_ne (by decide) (Option.some.inj this)

/-- Proved part: the extension decides when no magic-byte resolver answers. Missing for the full statement:
    nothing (it is false, by the priority order the code implements: `resolve_priority`). -/
theorem extension_decides_partial (reg : Registry) (ord : List (Str × Cti)) (rr : ReaderInfo) (c : Cti)
    (hm : rr.mediaType = none) (hg : resolveByMagic rr = none) (he : resolveByExt ord rr = some c) :
    resolveDecoderType reg ord rr [] = some c := by
  have h0 : resolveByType reg.aliases reg.decoders [] = none := Proofs.C18.resolveByType_empty _ _
  have h1 : resolveByMedia reg.mediaTypes rr = none := by simp [resolveByMedia, hm]
  rw [Proofs.C18.resolveDecoderType_of_ext h0 h1 hg, he]

/-! ## Labels are handed through verbatim (finding `label-not-valid-in-target`) -/

/-- Witness for why `pipe_nq_preserves` needs `labelOK` of the source labels: the label `a b` (admitted by the
    RDF/JSON and JSON-LD decoders) is written verbatim and the N-Quads decoder does not read the output back. -/
theorem invalid_label_witness :
    ∃ doc, pipeNQ Gen.nquads false true driverU Witness.s0 (some (.strf 0)) .quads
        [⟨.bnode (some (.bnString 0 [97, 32, 98])), .iri (RdfModel.asc "a:p"), .iri (RdfModel.asc "a:o"), none⟩] = .ok doc ∧
      (run Gen.nquads (fun _ => true) .eof true doc).2 ≠ .clean := by
  refine ⟨RdfModel.asc "_:a b <a:p> <a:o> .\n", by decide +kernel, by decide +kernel⟩

end RdfModel.C18
