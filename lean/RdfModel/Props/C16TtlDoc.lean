/-
  Property C16 — captured text offsets, Turtle / TriG: the token-producer erasure theorems of
  `Props/C16Ttl.lean` lifted to the DOCUMENT level of the statement machine `Model.TurtleDoc`.

  What is proved (`doc_capture_irrelevant_producers_partial`).  Take the statement machine the driver
  runs (`TtlDoc.run C`, `C.P = Producers.real T`) and replace each of its seven token producers by the
  offset-instrumented producer of `Model.TurtleOffsets` (`TtlO.produceX`, the model tied to Go by the
  T3 op `offx.tok`) — run, at every single call, in an ARBITRARY bookkeeping state (capture on or off,
  any writer history, any rune-buffer offset: `st k e inp`), on the remaining runes decorated with
  ARBITRARY byte sizes (`lift k e inp`, only required to decorate: `runes (lift …) = inp`), before or
  after the repairs c16x-1 / c16x-2 (`legacy`, `labelOnly`), for either package (`trig`) — and forget
  the bookkeeping of each result (`RO.erase`).  The machine then decodes exactly the same statements,
  in the same order, with the same verdict, for every input, both stream endings, every configuration.
  In words: no bookkeeping a token producer does (commits, ranges, error offsets, capture on or off)
  can change what a Turtle / TriG DOCUMENT decodes to.

  Why `_partial`.  The statement layer's OWN bookkeeping is not modelled here: `Model.TurtleDoc` has no
  writer, so the commits of white space, comments, `.`, `;`, `,`, `[`, `]`, `(`, `)`, `{`, `}`, `a`,
  `^^`, the directive keywords and `true`/`false`, the `…Location` fields of the evaluation context and
  the assembly of ranges per statement (`BuildTextOffsetsValue`) are outside this theorem.  That the
  statement layer never branches on the writer is an assumption of reading this theorem as "capture
  cannot change a document"; it is tied to the sources by the T2 facts `Gen.TtlWriterUses` (go/ast,
  regenerated on every run) and the theorem `writer_is_write_only_T2` below — the field `doc` is
  touched only in decoder_offsets_util.go (six helpers returning nothing, an error or an offset/range
  pointer) and decoder_config.go (construction); outside those files and the token producers (whose
  bookkeeping IS modelled, `TtlO`) a recorded offset/range/location is compared with nil only as the
  whole condition of an `if` whose branches do nothing but assign `…Location` fields — and checked
  dynamically by the capture on/off oracle of go/cmd/c16x.  The T2 facts are a syntactic
  approximation (names bound to helper results, see go/cmd/extract/gen_c16w.go).  The full document-level statement (the
  instrumented statement machine `Model.TurtleDocOffsets`, with commits where Go has them, erases to `TtlDoc.run`) is
  `C16TtlDocO.doc_erasure` (Props/C16TtlDocO.lean).
-/
import RdfModel.Props.C16Ttl
import RdfModel.Model.TurtleDoc
import RdfModel.Gen.TtlWriterUses
namespace RdfModel.C16Ttl
open RdfModel RdfModel.TW RdfModel.NQO RdfModel.TtlO

/-- Which variant of the instrumented producers: package (`trig`), before/after patch c16x-1
    (`legacy`), before/after patch c16x-2 (`labelOnly`). -/
structure Flags where
  trig : Bool
  legacy : Bool
  labelOnly : Bool
  deriving Repr

/-- The producers of the statement machine, each call delegated to the offset-instrumented producer:
    `st k e inp` is the bookkeeping state of that call and `lift k e inp` the remaining runes with their
    byte sizes (`k` = which producer, 0 … 6).  `true`/`false` are read by the statement layer itself
    (reader_scan_Object), not by a producer: unchanged. -/
def instrProducers (T : Tables) (fl : Flags) (st : Nat → End → List Nat → S)
    (lift : Nat → End → List Nat → List RP) : TtlDoc.Producers where
  iriref e inp := (TtlO.produceIRIREF T e (st 0 e inp) (lift 0 e inp)).erase
  string e inp := (TtlO.produceString T e fl.legacy (st 1 e inp) (lift 1 e inp)).erase
  pnameNS e inp := (TtlO.producePNAME_NS T e fl.trig (st 2 e inp) (lift 2 e inp)).erase
  pname e inp := (TtlO.producePrefixedName T e fl.trig (st 3 e inp) (lift 3 e inp)).erase
  bnode e inp := (TtlO.produceBlankNode T e fl.labelOnly (st 4 e inp) (lift 4 e inp)).erase
  langtag e inp := (TtlO.produceLANGTAG e (st 5 e inp) (lift 5 e inp)).erase
  numeric e inp := (TtlO.produceNumericLiteral e (st 6 e inp) (lift 6 e inp)).erase
  boolean := Ttl.scanBoolean

/-- `lift` only decorates the runes with sizes. -/
def Decorates (lift : Nat → End → List Nat → List RP) : Prop :=
  ∀ k e inp, runes (lift k e inp) = inp

/-- UTF-8 sizes of well-formed runes (an example of a decoration; ill-formed bytes, `(0xFFFD, 1)`,
    need a position-dependent one, which `Decorates` allows as well). -/
def utf8Size (c : Nat) : Nat := if c < 0x80 then 1 else if c < 0x800 then 2 else if c < 0x10000 then 3 else 4

def liftUtf8 : Nat → End → List Nat → List RP := fun _ _ inp => inp.map (fun c => (c, utf8Size c))

theorem liftUtf8_decorates : Decorates liftUtf8 := by
  intro k e inp
  simp [liftUtf8, runes, List.map_map, Function.comp_def]

/-- The instrumented producers, bookkeeping forgotten, ARE the base producers. -/
theorem instrProducers_eq (T : Tables) (fl : Flags) (st : Nat → End → List Nat → S)
    (lift : Nat → End → List Nat → List RP) (h : Decorates lift) :
    instrProducers T fl st lift = TtlDoc.Producers.real T := by
  unfold instrProducers TtlDoc.Producers.real
  congr
  · funext e inp; rw [erase_IRIREF, h]
  · funext e inp; rw [erase_String, h]
  · funext e inp; rw [erase_PNAME_NS, h]
  · funext e inp; rw [erase_PrefixedName, h]
  · funext e inp; rw [erase_BlankNode, h]
  · funext e inp; rw [erase_LANGTAG, h]
  · funext e inp; rw [erase_NumericLiteral, h]

/-- Document level, partial (see the header): the statement machine over the offset-instrumented token
    producers — any bookkeeping state per call, capture on or off, any byte sizes, repaired or not —
    decodes exactly what the statement machine the driver runs decodes. -/
theorem doc_capture_irrelevant_producers_partial (C : TtlDoc.Cfg) (T : Tables)
    (hP : C.P = TtlDoc.Producers.real T) (fl : Flags) (st : Nat → End → List Nat → S)
    (lift : Nat → End → List Nat → List RP) (h : Decorates lift)
    (e : End) (base : Option (List Nat)) (prefixes : List (List Nat × List Nat)) (inp : List Nat) :
    TtlDoc.run { C with P := instrProducers T fl st lift } e base prefixes inp
      = TtlDoc.run C e base prefixes inp := by
  rw [instrProducers_eq T fl st lift h, ← hP]

/-- In particular: capture on (fresh writer) and capture off give the same document result. -/
theorem doc_capture_on_eq_off_producers_partial (C : TtlDoc.Cfg) (T : Tables)
    (hP : C.P = TtlDoc.Producers.real T) (fl : Flags) (lift : Nat → End → List Nat → List RP)
    (h : Decorates lift)
    (e : End) (base : Option (List Nat)) (prefixes : List (List Nat × List Nat)) (inp : List Nat) :
    TtlDoc.run { C with P := instrProducers T fl (fun _ _ _ => S.init true) lift } e base prefixes inp
      = TtlDoc.run { C with P := instrProducers T fl (fun _ _ _ => S.init false) lift } e base prefixes inp := by
  rw [doc_capture_irrelevant_producers_partial C T hP fl _ lift h,
      doc_capture_irrelevant_producers_partial C T hP fl _ lift h]

/-- The hypotheses are satisfiable by the objects the driver runs: the Turtle configuration over the
    regenerated tables with the real producers, UTF-8 sizes, capture on. -/
example (T : Tables) (resolve : Option (List Nat) → List Nat → Option (List Nat)) (isSpace pnBase : Nat → Bool)
    (e : End) (inp : List Nat) :
    let C : TtlDoc.Cfg := { trig := false, P := TtlDoc.Producers.real T, resolve := resolve, isSpace := isSpace, pnBase := pnBase }
    TtlDoc.run { C with P := instrProducers T ⟨false, false, false⟩ (fun _ _ _ => S.init true) liftUtf8 } e none [] inp
      = TtlDoc.run C e none [] inp := by
  intro C
  exact doc_capture_irrelevant_producers_partial C T rfl _ _ _ liftUtf8_decorates e none [] inp

/-! ## T2: the writer and the recorded locations are write-only in the statement layer -/

/-- files that may touch the writer: the helpers and the constructor -/
def writerFiles : List String := ["decoder_offsets_util.go", "decoder_config.go"]

/-- the token producers: their bookkeeping (including their nil tests on ranges) is modelled by
    `Model.TurtleOffsets` and erased by the `erase_*` theorems -/
def producerFiles : List String :=
  ["decoder_produce_iriref.go", "decoder_produce_string.go", "decoder_produce_PrefixedName.go",
   "decoder_produce_BlankNode.go", "decoder_produce_langtag.go", "decoder_produce_NumericLiteral.go"]

def helperResults : List String := ["", "error", "*cursorio.TextOffset", "*cursorio.TextOffsetRange"]

def docUseOK (u : String × String × String) : Bool := writerFiles.contains u.2.1

def nilTestOK (t : String × String × String × String × Bool) : Bool :=
  writerFiles.contains t.2.1 || producerFiles.contains t.2.1 || t.2.2.2.2

def utilFuncOK (f : String × String × String) : Bool := helperResults.contains f.2.2

/-- T2 (go/ast facts of encoding/turtle and encoding/trig, regenerated from the working tree on every
    run): (1) the text writer `doc` is referenced only by the helpers of decoder_offsets_util.go and the
    constructor; (2) the helpers return nothing, an error, or an offset / range pointer — no value the
    statement layer could branch on other than by a nil test; (3) every nil test on a writer, offset,
    range or location outside the helpers, the constructor and the (modelled) token producers is the whole
    condition of an `if` whose branches only assign `…Location` fields.  There is at least one such
    test (the facts are not vacuous).  (12 = the six helpers of decoder_offsets_util.go in each of the two packages.) -/
theorem writer_is_write_only_T2 :
    Gen.TtlWriterUses.docUses.all docUseOK = true ∧
    Gen.TtlWriterUses.utilFuncs.all utilFuncOK = true ∧
    Gen.TtlWriterUses.nilTests.all nilTestOK = true ∧
    Gen.TtlWriterUses.docUses ≠ [] ∧ Gen.TtlWriterUses.utilFuncs.length = 12 ∧
    (Gen.TtlWriterUses.nilTests.filter (fun t => t.2.2.2.2)).length ≥ 1 := by decide +kernel

end RdfModel.C16Ttl
