/-
  C05 (part: decoders without a parsing model) — the Next/Err wrapper.

  Property text: "Iteration ends with Next returning false and keeps returning false, Err is stable
  from then on."

  What is proved here: for the wrapper model `Latch.next` (Model/Latch.lean, executed by the driver,
  op `latch.run`) under the two facts T2 extracts from every decoder's `Next`
  (`Gen.LatchFacts`, regenerated from the Go sources on every run):

    guardFirst  `if d.err != nil { return false }` is the first statement of Next (or the first
                statement of its top-level `for {}` after a call-free prelude), so nothing of the
                decoder proper runs once an error is stored;
    storesErr   every `return false` is the guard itself, directly follows `d.err = …`, or is a
                reviewed clean end (list below);

  and under one hypothesis about the decoder proper, `QuietAbsorbing` (once it reports "no
  statement, no error" it keeps doing so — proved for the buffered decoders' index/length step,
  *assumed* for the others, where it is what the life-cycle oracle of go/cmd/c05x searches).

  What is NOT proved: that the Go decoders are instances of this model beyond the extracted
  syntactic facts (T2) and the trace correspondence of go/cmd/c05x (T3, observational); termination,
  absence of panics, memory: search only for RDF/XML, JSON-LD, RDFa, Microdata, HTML-embedded
  JSON-LD and the combined HTML decoder (see props/C05X.fragment.json `explanation`).
-/
import RdfModel.Proofs.C05Latch
import RdfModel.Gen.LatchFacts
namespace RdfModel.C05X
open RdfModel.Latch

/-- types with Next/Err in the scanned packages that are not one of the property's decoders -/
def outOfScope : List (String × String) := [
  ("encoding/encodingutil.quadIteratorIterator", "concatenation of already latched iterators; not reachable from any of the eleven decoders (no caller in the repository)")
]

def inScope (d : DecoderFacts) : Bool := !(outOfScope.map (·.1)).contains d.decoder

def patternOK (d : DecoderFacts) : Bool :=
  (d.guard == .delegate && d.errKind == .errDelegate && d.returns.isEmpty) ||
  ((factsOf d).guardFirst && (factsOf d).storesErr && d.errKind == .errField)

/-- T2: every decoder of the repository has the latch pattern. (Fails on a tree where some `Next`
    runs decoder code before the guard — as `encoding/rdfxml` did before patch
    `c05x-1-fix-rdfxml-next-guard` — or gains an unreviewed `return false`.) -/
theorem latch_pattern_present :
    ∀ d ∈ Gen.LatchFacts.decoders, inScope d = true → patternOK d = true := by decide +kernel

/-- the eleven decoders of the property and the triples-as-quads adapter are in the table (by type) -/
theorem latch_table_complete :
    ["encoding/ntriples.Decoder", "encoding/nquads.Decoder", "encoding/turtle.Decoder", "encoding/trig.Decoder",
     "encoding/rdfjson.Decoder", "encoding/rdfxml.Decoder", "encoding/jsonld.Decoder", "encoding/htmlrdfa.Decoder",
     "encoding/htmlmicrodata.Decoder", "encoding/htmljsonld.Decoder", "encoding/html/htmldefaults.Decoder",
     "encoding/encodingutil.TripleAsQuadDecoder"].all
      (fun n => (Gen.LatchFacts.decoders.map (·.decoder)).contains n) = true := by decide +kernel

/-- Sticky false, stable Err: once `Next` has returned false, every later `Next` returns false and
    `Err` is what it was at that moment. -/
def Sticky {σ ε : Type} (f : Facts) (step : σ → StepResult σ ε) : Prop :=
  ∀ s : State σ ε, (next f step s).1 = false →
    ∀ n : Nat, (next f step (iter f step n (next f step s).2)).1 = false ∧
               err (iter f step n (next f step s).2) = err (next f step s).2

theorem latch_generic {σ ε : Type} (f : Facts) (step : σ → StepResult σ ε)
    (hg : f.guardFirst = true) (hs : f.storesErr = true) (hq : QuietAbsorbing step) :
    Sticky f step := by
  intro s hfalse n
  have hd := dead_after_false f step hq hg hs s hfalse
  obtain ⟨h1, h2, _⟩ := dead_iter f step hq hg n _ hd
  exact ⟨h1, h2⟩

/-- the generic theorem instantiated at the facts extracted from each non-delegating decoder -/
theorem latch_all_decoders {σ ε : Type} (step : σ → StepResult σ ε) (hq : QuietAbsorbing step) :
    ∀ d ∈ Gen.LatchFacts.decoders, inScope d = true → d.guard ≠ .delegate → Sticky (factsOf d) step := by
  intro d hd hin hnd
  have hp := latch_pattern_present d hd hin
  have : (factsOf d).guardFirst = true ∧ (factsOf d).storesErr = true := by
    unfold patternOK at hp
    have hdel : (d.guard == GuardKind.delegate) = false := by
      cases hgd : d.guard <;> simp_all
    simp [hdel] at hp
    exact ⟨hp.1.1, hp.1.2⟩
  exact latch_generic _ step this.1 this.2 hq

/-- buffered decoders (RDF/XML, JSON-LD, RDF/JSON, RDFa, Microdata parse everything on the first
    call and then walk an index): no hypothesis left. -/
theorem latch_buffered (ε : Type) (f : Facts) (hg : f.guardFirst = true) (hs : f.storesErr = true) :
    Sticky f (bufferedStep ε) :=
  latch_generic f _ hg hs (buffered_quiet ε)

/-- hypotheses are satisfiable: the buffered decoder with both facts, from any state -/
example : Sticky (σ := Buffered) (ε := Unit) ⟨true, true⟩ (bufferedStep Unit) :=
  latch_buffered Unit _ rfl rfl

/-- The guard is needed: without `guardFirst` a decoder proper that fails differently when re-run
    changes Err after Next has returned false. This is the shape of the RDF/XML defect repaired by
    patch `c05x-1-fix-rdfxml-next-guard` (parseAll re-run on every call after an error). -/
def rerunStep (n : Nat) : StepResult Nat Nat := { yielded := false, raised := some n, inner := n + 1 }

theorem latch_needs_guard :
    let f : Facts := ⟨false, true⟩
    let s1 := (next f rerunStep ⟨none, 0⟩).2
    (next f rerunStep ⟨none, 0⟩).1 = false ∧ err s1 = some 0 ∧ err (next f rerunStep s1).2 = some 1 := by
  decide

/-- The hypothesis `QuietAbsorbing` is needed as well: a decoder proper that reports a quiet end and
    later yields again (which none of the guards of the wrapper can prevent) is not sticky. For the
    decoders without a model this hypothesis is exactly what stays *unproved* here and is only
    searched by the life-cycle oracle of go/cmd/c05x ("next-true-after-false"). -/
def flickerStep (n : Nat) : StepResult Nat Unit := { yielded := n % 2 == 1, raised := none, inner := n + 1 }

theorem latch_needs_quiet_absorbing :
    let f : Facts := ⟨true, true⟩
    (next f flickerStep ⟨none, 0⟩).1 = false ∧
    (next f flickerStep (next f flickerStep ⟨none, 0⟩).2).1 = true := by
  decide

/-- Full statement of the C05 life-cycle clause for a decoder of the repository, kept as a
    documented `Prop`: it quantifies over the *actual* decoder proper of each Go decoder, of which
    there is no model for RDF/XML, JSON-LD, RDFa, Microdata, HTML-embedded JSON-LD and the combined
    HTML decoder. What is proved instead is `latch_all_decoders` (for every quiet-absorbing decoder
    proper) and `latch_buffered` (index/length step); missing: a model of each decoder proper with a
    proof that it is quiet-absorbing, never panics and terminates — search only (go/cmd/c05x). -/
def C05LifeCycleFull : Prop :=
  ∀ d ∈ Gen.LatchFacts.decoders, inScope d = true → d.guard ≠ .delegate →
    ∀ (σ ε : Type) (step : σ → StepResult σ ε), Sticky (factsOf d) step

/-- …and as stated (without a hypothesis on the decoder proper) it is false: -/
theorem C05LifeCycleFull_needs_hypothesis : ¬ C05LifeCycleFull := by
  intro h
  have hex : Gen.LatchFacts.decoders.any (fun d => inScope d && d.guard != .delegate) = true := by decide
  obtain ⟨d, hd, hp⟩ := List.any_eq_true.mp hex
  have hp' : inScope d = true ∧ d.guard ≠ .delegate := by
    simpa using hp
  have := h d hd hp'.1 hp'.2 Nat Unit flickerStep ⟨none, 0⟩
  have hfalse : (next (factsOf d) flickerStep ⟨none, 0⟩).1 = false := by
    simp [next, flickerStep]
  have h0 := (this hfalse 0).1
  simp [next, iter, flickerStep] at h0

end RdfModel.C05X
