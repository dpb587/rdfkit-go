/-
  Property C02, DOCUMENT level, NESTED-RESOURCE mode at every nesting depth (theorems only; proofs in
  RdfModel/Proofs/C02DocNest*.lean, C02DocDP.lean, C02DocPermIso.lean, C02DocPrintTok.lean).

  Route: the text `AddResource … Close` writes (`TtlEnc.encodeResourceListWith`, the model the driver
  runs as component `ttle`) IS the printed form `TA.print` (Spec/TurtleAbstract.lean) of an abstract
  document — `[ … ]` blank-node property lists, `( … )` collections (repaired list decision, D7), `[]`,
  anonymous roots `[] p o .`, `;` / `,` lists, `a`, the encoder's tab / line-feed layout as slot layouts,
  the encoder's escapes as spelling choices (Proofs/C02DocPrintTok.lean) — that satisfies the hypotheses
  of C08 `decode_print_partial` (no glued keyword: the encoder always writes white space after `a`;
  no `true…`/`false…` prefix label and no U+1680 in a label: `labelSafe`); so the decoder model reads
  exactly what the document denotes, fresh blank nodes numbered by opening bracket in document order.
  The denotation is the flattening (`Desc.newTriplesList`, C17) of a DEEP PERMUTATION of the resource list
  (statements regrouped by predicate at every level, sections possibly sorted, resources without
  statements dropped), and flattening is invariant under deep permutation up to graph isomorphism
  (`Proofs.C02Doc.newTriplesList_iso_of_RP`).

  PROVED
    * `nested_doc_roundtrip`  EVERY configuration (buffered or not, sorted or not, `@` / SPARQL / disabled
        directives with base and prefix kinds independent, disabled kinds handed to the decoder as defaults,
        header with all prefixes or the used ones) and every resource list of well-formed terms at ANY
        nesting depth (`[ … ]`, `( … )`, empty `[]`, anonymous roots, resources without statements): the
        encoder does not fail, the decoder accepts, and the decoded graph is isomorphic to the graph the
        resource list stands for (`Resource.NewTriples`, `Desc.newTriplesList rs 0`).
        Hypotheses = those of `plain_doc_roundtrip` (`ConfigOK`, `LabelOK`, terms well-formed: `ResourceOK`);
        C08's three exclusions are implied: the encoder writes white space after every keyword, and
        `labelSafe` excludes `true…`/`false…` labels and U+1680.
    * `nested_doc_roundtrip_hdr_partial` the same with the header as a hypothesis (`HdrOK`);
      `nested_doc_roundtrip_partial`, the case of the directive-disabled buffered configurations.
    * `buffered_resources_roundtrip`  composition with C17 `flatten_export_repaired`: the
        BufferedTriplesEncoder (`encodeResourcesWith`: build, export with default options in any two
        iteration orders, AddResource, Close) round-trips to a graph isomorphic to the INPUT TRIPLES, for
        every list of well-formed triples (`TripleOK`; the exported trees inherit it:
        Proofs/C02DocNestExport.lean) and every configuration;
    * `resources_doc_roundtrip_holds`  the full statement `C02.resources_doc_roundtrip` of Props/C02Doc.lean
        (tables regenerated from /repo, the decoder configuration the driver runs).
  The theorems are about the REPAIRED code (`d7 = false`: list decision after fix D7; token layer after
  D4–D6; decoder after D42/D44) and carry the same hypotheses as `plain_doc_roundtrip`.
-/
import RdfModel.Proofs.C02DocNestHdr
import RdfModel.Proofs.C02DocNestExport
import RdfModel.Proofs.C02DocPrintTok
import RdfModel.Props.C02Doc
import RdfModel.Props.C08DocTables
import RdfModel.Props.C17
namespace RdfModel.C02
open RdfModel RdfModel.Ttl RdfModel.TtlEnc RdfModel.TtlDoc RdfModel.Desc

/-- the encoder's spellings are printer spellings (token level, Proofs/C02DocPrintTok.lean) -/
theorem tokPrint_of (T : Tables) (hT : TablesOK T) (hP : Proofs.C02Doc.PrintTablesOK T) : Proofs.C02Doc.TokPrint T where
  iri := Proofs.C02Doc.print_iri_eq T hT
  str := Proofs.C02Doc.print_string_eq T hT hP
  loc := Proofs.C02Doc.print_local_eq T hT

/-- the decoder configuration the driver runs satisfies C02's and C08's assumptions -/
theorem docCfg_nest_ok : Proofs.C02Doc.NestCfgOK docCfg Gen.turtle where
  c02 := docCfg_ok
  c08 := C08.cfgOK_real false docResolve
  og := by decide

/-- Nested-resource mode, every configuration, given the header (see the file header). -/
theorem nested_doc_roundtrip_hdr_partial {β : Type} [DecidableEq β] (C : Cfg) (T : Tables) (hT : DocTablesOK T)
    (hT2 : C08.TablesOK2 T) (hP : Proofs.C02Doc.PrintTablesOK T) (hC : Proofs.C02Doc.NestCfgOK C T) (cfg : Config)
    (pm : Prefix.PM) (label : β → List Nat) (hcfg : ConfigOK C.isSpace T cfg pm) (hlbl : LabelOK T label)
    (rs : List (Resource β)) (hrs : ∀ r ∈ rs, ResourceOK (ctxOf T cfg pm label) cfg.base r)
    (hU : cfg.isBuffered = false → Proofs.C02Doc.HdrOK T C cfg.base pm (headerUnbuffered cfg pm) (defaultBase cfg)
      (defaultPrefixes cfg pm) (fun _ => True))
    (hB : cfg.isBuffered = true → ∀ used : List (List Nat), Proofs.C02Doc.HdrOK T C cfg.base pm
      (headerBuffered cfg pm used) (defaultBase cfg) (defaultPrefixes cfg pm) (fun l => l ∈ used)) :
    ∃ (doc : List Nat) (out : List Stmt) (tr : List (Triple BN)),
      encodeResourceListWith T false cfg pm label rs = some (.ok doc) ∧
      run C .eof (defaultBase cfg) (defaultPrefixes cfg pm) doc = (out, .clean) ∧
      out.map tripleOfStmt = tr.map some ∧ Spec.Iso tr (newTriplesList rs 0).1 :=
  Proofs.C02Doc.nested_roundtrip_hdr hT hT2 hC (tokPrint_of T hT.tok hP) cfg pm label hcfg hlbl rs hrs hU hB

/-- Nested-resource mode, EVERY configuration, every nesting depth (see the file header). -/
theorem nested_doc_roundtrip {β : Type} [DecidableEq β] (C : Cfg) (T : Tables) (hT : DocTablesOK T)
    (hT2 : C08.TablesOK2 T) (hP : Proofs.C02Doc.PrintTablesOK T) (hC : Proofs.C02Doc.NestCfgOK C T) (cfg : Config)
    (pm : Prefix.PM) (label : β → List Nat) (hcfg : ConfigOK C.isSpace T cfg pm) (hlbl : LabelOK T label)
    (rs : List (Resource β)) (hrs : ∀ r ∈ rs, ResourceOK (ctxOf T cfg pm label) cfg.base r) :
    ∃ (doc : List Nat) (out : List Stmt) (tr : List (Triple BN)),
      encodeResourceListWith T false cfg pm label rs = some (.ok doc) ∧
      run C .eof (defaultBase cfg) (defaultPrefixes cfg pm) doc = (out, .clean) ∧
      out.map tripleOfStmt = tr.map some ∧ Spec.Iso tr (newTriplesList rs 0).1 :=
  nested_doc_roundtrip_hdr_partial C T hT hT2 hP hC cfg pm label hcfg hlbl rs hrs
    (fun _ => (Proofs.C02Doc.hdrs_ok hC hcfg).1) (fun _ => (Proofs.C02Doc.hdrs_ok hC hcfg).2)

section -- the statement binds `hbuf`, `hb`, `hp`, which it does not use
set_option linter.unusedVariables false

/-- Nested-resource mode at every nesting depth, directive-disabled buffered configurations: the
    encoder does not fail, the decoder (given base and prefix table as defaults) accepts, and the decoded
    graph is isomorphic to the graph the resource list stands for (`Resource.NewTriples`). -/
theorem nested_doc_roundtrip_partial {β : Type} [DecidableEq β] (C : Cfg) (T : Tables) (hT : DocTablesOK T)
    (hT2 : C08.TablesOK2 T) (hP : Proofs.C02Doc.PrintTablesOK T) (hC : Proofs.C02Doc.NestCfgOK C T) (cfg : Config)
    (pm : Prefix.PM) (label : β → List Nat) (hcfg : ConfigOK C.isSpace T cfg pm) (hlbl : LabelOK T label)
    (hbuf : cfg.isBuffered = true) (hb : cfg.baseMode = some .disabled) (hp : cfg.prefixMode = some .disabled)
    (rs : List (Resource β)) (hrs : ∀ r ∈ rs, ResourceOK (ctxOf T cfg pm label) cfg.base r) :
    ∃ (doc : List Nat) (out : List Stmt) (tr : List (Triple BN)),
      encodeResourceListWith T false cfg pm label rs = some (.ok doc) ∧
      run C .eof (defaultBase cfg) (defaultPrefixes cfg pm) doc = (out, .clean) ∧
      out.map tripleOfStmt = tr.map some ∧ Spec.Iso tr (newTriplesList rs 0).1 :=
  nested_doc_roundtrip C T hT hT2 hP hC cfg pm label hcfg hlbl rs hrs

end

/-- … for the tables regenerated from /repo and the decoder configuration the driver runs -/
theorem nested_doc_roundtrip_real {β : Type} [DecidableEq β] (cfg : Config) (pm : Prefix.PM) (label : β → List Nat)
    (hcfg : ConfigOK docCfg.isSpace Gen.turtle cfg pm) (hlbl : LabelOK Gen.turtle label)
    (rs : List (Resource β)) (hrs : ∀ r ∈ rs, ResourceOK (ctxOf Gen.turtle cfg pm label) cfg.base r) :
    ∃ (doc : List Nat) (out : List Stmt) (tr : List (Triple BN)),
      encodeResourceListWith Gen.turtle false cfg pm label rs = some (.ok doc) ∧
      run docCfg .eof (defaultBase cfg) (defaultPrefixes cfg pm) doc = (out, .clean) ∧
      out.map tripleOfStmt = tr.map some ∧ Spec.Iso tr (newTriplesList rs 0).1 :=
  nested_doc_roundtrip docCfg Gen.turtle gen_turtle_doc_ok C08.gen_turtle_ok2 Proofs.C02Doc.gen_turtle_print_ok
    docCfg_nest_ok cfg pm label hcfg hlbl rs hrs

theorem iso_trans {α γ δ : Type} {a : List (Triple δ)} {b : List (Triple γ)} {c : List (Triple α)}
    (h1 : Spec.Iso a b) (h2 : Spec.Iso b c) : Spec.Iso a c := by
  obtain ⟨f, hf, hp1⟩ := h1
  obtain ⟨g, hg, hp2⟩ := h2
  refine ⟨f ∘ g, hf.comp hg, hp1.trans ?_⟩
  have := hp2.map (Triple.map f)
  simpa [List.map_map, Function.comp_def, Desc.Triple.map_map] using this

/-- BufferedTriplesEncoder (turtlerdfio with `resources=true`): composition with C17, every
    configuration, both iteration orders of the subject map. -/
theorem buffered_resources_roundtrip {β : Type} [DecidableEq β] (C : Cfg) (T : Tables) (hT : DocTablesOK T)
    (hT2 : C08.TablesOK2 T) (hP : Proofs.C02Doc.PrintTablesOK T) (hC : Proofs.C02Doc.NestCfgOK C T) (cfg : Config)
    (pm : Prefix.PM) (label : β → List Nat) (hcfg : ConfigOK C.isSpace T cfg pm) (hlbl : LabelOK T label)
    (ord1 ord2 : List (Term β)) (ts : List (Triple β))
    (hts : ∀ t ∈ ts, TripleOK (ctxOf T cfg pm label) cfg.base t)
    (hord1 : ord1.Perm (build ts).subjects) (hord2 : ord2.Perm (build ts).subjects) :
    ∃ (doc : List Nat) (out : List Stmt) (tr : List (Triple BN)),
      encodeResourcesWith T false cfg pm label ord1 ord2 ts = some (.ok doc) ∧
      run C .eof (defaultBase cfg) (defaultPrefixes cfg pm) doc = (out, .clean) ∧
      out.map tripleOfStmt = tr.map some ∧ Spec.Iso tr ts := by
  obtain ⟨rs, hrs, hiso⟩ := C17.flatten_export_repaired ts Opts.default ord1 ord2 hord1 hord2 0
  obtain ⟨doc, out, tr, h1, h2, h3, h4⟩ := nested_doc_roundtrip C T hT hT2 hP hC cfg pm label hcfg hlbl rs
    (Proofs.C02Doc.export_ok ts hts Opts.default ord1 ord2 hord1 hord2 _ rs hrs)
  refine ⟨doc, out, tr, ?_, h2, h3, iso_trans h4 hiso⟩
  simp only [encodeResourcesWith, hrs, h1]

/-- The full nested-resource statement of Props/C02Doc.lean holds. -/
theorem resources_doc_roundtrip_holds : resources_doc_roundtrip := by
  intro β _ cfg pm label ord1 ord2 ts hcfg hlbl hts hord1 hord2
  exact buffered_resources_roundtrip docCfg Gen.turtle gen_turtle_doc_ok C08.gen_turtle_ok2
    Proofs.C02Doc.gen_turtle_print_ok docCfg_nest_ok cfg pm label hcfg hlbl ord1 ord2 ts hts hord1 hord2

namespace NestExample

/-- both directive kinds disabled, buffered, sorted -/
def cfg : Config :=
  { base := some (asc "http://e/a/b"),
    prefixes := [⟨asc "ex", asc "http://e/x/"⟩, ⟨asc "base", asc "urn:x:"⟩],
    buffered := some true, baseMode := some .disabled, prefixMode := some .disabled }

def pm : Prefix.PM := Prefix.new Prefix.mergeSorter cfg.prefixes

theorem cfg_ok : ConfigOK docCfg.isSpace Gen.turtle cfg pm where
  agree := new_pm_agree _ _
  labels := by decide +kernel
  ns := by decide +kernel
  base := by
    intro b hb
    have : b = asc "http://e/a/b" := by simpa [cfg] using hb.symm
    subst this
    decide
  empty := by decide +kernel

/-- `ex:s ex:p [ a ex:C ; base:q ( 1 [] ) ] .` and an anonymous root `[] base:q "x"@en .` -/
def rs : List (Resource Bool) :=
  [.subject (some (.iri (asc "http://e/x/s")))
    [.anon (asc "http://e/x/p")
      [.obj (asc "urn:x:q") (.bnode true),
       .obj TtlEnc.rdfType (.iri (asc "http://e/x/C")),
       .anon (asc "urn:x:q")
         [.obj Desc.rdfFirst (.lit (asc "1") xsdInteger none),
          .anon Desc.rdfRest [.anon Desc.rdfFirst [], .obj Desc.rdfRest (.iri Desc.rdfNil)]]]],
   .anon [.obj (asc "urn:x:q") (.lit (asc "x") rdfLangString (some (asc "en")))]]

set_option maxRecDepth 20000 in
/-- what the encoder writes for it -/
example : encodeResourceListWith Gen.turtle false cfg pm Example.label rs = some (.ok (asc (
    "[] base:q \"x\"@en .\n" ++
    "ex:s ex:p [\n\ta ex:C ;\n\tbase:q\n\t\t_:b1 ,\n\t\t(\n\t\t\t1\n\t\t\t[]\n\t\t)\n] .\n"))) := by decide +kernel

theorem rs_ok : ∀ r ∈ rs, ResourceOK (ctxOf Gen.turtle cfg pm Example.label) cfg.base r := by
  intro r hr
  simp only [rs, List.mem_cons, List.mem_nil_iff, or_false] at hr
  rcases hr with rfl | rfl
  · simp only [ResourceOK, StmtsOK, StmtOK, subjectOK, objectOK, litOK, iriTermOK, and_true]
    decide +kernel
  · simp only [ResourceOK, StmtsOK, StmtOK, objectOK, litOK, iriTermOK, and_true]
    decide +kernel

/-- the theorem applies to the example -/
example : ∃ (doc : List Nat) (out : List Stmt) (tr : List (Triple BN)),
    encodeResourceListWith Gen.turtle false cfg pm Example.label rs = some (.ok doc) ∧
    run docCfg .eof (defaultBase cfg) (defaultPrefixes cfg pm) doc = (out, .clean) ∧
    out.map tripleOfStmt = tr.map some ∧ Spec.Iso tr (newTriplesList rs 0).1 :=
  nested_doc_roundtrip_real cfg pm Example.label cfg_ok Example.label_ok rs rs_ok

end NestExample

end RdfModel.C02
