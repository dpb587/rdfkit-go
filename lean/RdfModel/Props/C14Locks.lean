/-
  Property C14, atomicity of the operations (T2). `Gen/LockFacts.lean` is regenerated from the Go source
  of /repo on every run by go/cmd/extract/gen_c14.go (go/ast); the theorems below are decided on it.
  They are the checked, syntactic part of "every operation of the model is one atomic step of the
  implementation"; that mutex sections and `atomic.Int64.Add` linearise is the Go memory model (trusted).
-/
import RdfModel.Gen.LockFacts
namespace RdfModel.C14

open Gen.LockFacts in
/-- A method is one atomic step if: shared maps are only touched under the receiver's mutex; the mutex is
    released on every return path; counters are only touched by `Add(1)`, at most once; no receiver field
    is assigned; a struct holding a map/mutex is never used through a value receiver; and a method that touches
    a map has at least two lock statements (one `Lock`, one `Unlock`): a plain count, next to the path analyses
    behind `mapGuarded` and `lockBalanced`, which a method without any lock statement could not pass honestly. -/
def methodAtomic (m : Gen.LockFacts.MethodFact) : Bool :=
  m.mapGuarded == .yes && m.lockBalanced == .yes && m.atomicOnlyAdd == .yes && m.fieldWrites == 0 &&
  decide (m.atomicUses ≤ 1) && (m.ptrRecv || !m.needsPtr) && (m.mapAccesses == 0 || decide (m.lockOps ≥ 2))

/-- every API method (exported; unexported helpers are interpreted inline at their call sites) -/
theorem all_ops_atomic : ∀ m ∈ Gen.LockFacts.methods, m.exported = true → methodAtomic m = true := by decide

/-- Hand-written expectation: the methods the model treats as operations exist, with the expected shape
    `(receiver, method, uses a mutex-guarded map, number of atomic Add(1))`. -/
def expectedMethods : List (String × String × Bool × Nat) :=
  [ ("bnF", "NewBlankNode", false, 1),
    ("defaultBlankNodeFactory", "NewBlankNode", false, 1),
    ("bnStringF", "NewBlankNode", false, 0),
    ("bnStringF", "NewStringBlankNode", false, 0),
    ("bnStringF", "GetStringProvider", false, 0),
    ("stringIdentifierProvider", "GetBlankNodeString", false, 0),
    ("int64StringProvider", "GetBlankNodeString", true, 1),
    ("uuidStringProvider", "GetBlankNodeString", true, 0),
    ("factoryMapper", "MapBlankNode", true, 0),
    ("bn", "EqualsBlankNodeIdentifier", false, 0),
    ("bnDefault", "EqualsBlankNodeIdentifier", false, 0),
    ("bnString", "EqualsBlankNodeIdentifier", false, 0) ]

def shapeOf (m : Gen.LockFacts.MethodFact) : String × String × Bool × Nat :=
  (m.recv, m.name, decide (m.mapAccesses > 0), m.atomicUses)

/-- exactly the expected API methods, each with the expected shape (a new exported method, or a counter
    that is no longer an atomic `Add(1)`, breaks this) -/
theorem methods_as_expected :
    ((Gen.LockFacts.methods.filter (·.exported)).map shapeOf).all (· ∈ expectedMethods) = true ∧
    expectedMethods.all (· ∈ Gen.LockFacts.methods.map shapeOf) = true := by decide +kernel

/-- every struct that has a map field has a mutex field; no constructor-external access to shared fields -/
theorem maps_have_mutex :
    (Gen.LockFacts.fields.all fun f => f.kind != "map" ||
      Gen.LockFacts.fields.any fun g => g.struct == f.struct && g.kind == "mutex") = true ∧
    Gen.LockFacts.foreignAccesses = 0 := by decide +kernel

end RdfModel.C14
