/-
  Property C12 — reference resolution follows RFC 3986 section 5.2 without normalisation
  (theorems only; helper lemmas live in RdfModel/Proofs/C12*.lean).

  What is proved here, for all inputs:
    * about the specification `Spec.RFC3986` (the property's own definition): parse∘print identity,
      absolute dot-free references are returned unchanged, remove_dot_segments is idempotent and never
      outputs a dot segment, the target is absolute, empty vs absent query/fragment survive;
    * about the executable model of the Go function `resolvePath` (`Model.IRI.resolvePath`, the model
      the driver runs): it equals remove_dot_segments∘merge outside the input class
      `dotdotThenEmpty` — and differs from it on a witness inside that class (the full-strength
      statement `ResolvePathEqRfc` is therefore false for the code as it is; known finding
      D14-dotdot-then-empty-segment).
  Not in this file: `ParseIRI`/`ResolveReference`/`String` (the wrappers around net/url) against
  `Spec.RFC3986.resolve`. The partial theorems about them, over the models of net/url and of the wrappers
  (Model/GoUrlFull.lean, Model/ParsedIRI.lean), are in Props/C12Wrap*.lean; for all inputs the claim is carried by
  the correspondence ops `iri.parse` / `iri.resolve` of go/cmd/c12 against the spec executed by the driver.
-/
import RdfModel.Props.C12Defs
import RdfModel.Proofs.C12ResolvePath
import RdfModel.Proofs.C12Resolve
namespace RdfModel.C12
open RdfModel.Spec.RFC3986

private def S (s : String) : Str := s.toList.map Char.toNat

/-- Parsing any string into the five components (Appendix B) and printing it again (5.3) is the
    identity — in particular empty and absent components are kept apart. -/
theorem recompose_split (s : Str) : recompose (split s) = s :=
  Proofs.C12.recompose_split s

/-- A reference that has a scheme and no dot segment in its path is returned unchanged, whatever the base. -/
theorem resolve_abs_nodots (b r : Str) (h : (split r).scheme.isSome) (hn : NoDotSegments (split r).path) :
    resolve b r = r :=
  Proofs.C12.resolve_abs_nodots b r h hn

example : (split (S "HTTP://é%2e/a/%2E/b?#")).scheme.isSome ∧ NoDotSegments (split (S "HTTP://é%2e/a/%2E/b?#")).path := by
  decide

/-- remove_dot_segments leaves a path without dot segments alone. -/
theorem rds_fixes_dot_free (p : Str) (h : NoDotSegments p) : removeDotSegments p = p :=
  Proofs.C12.rds_noDot_id h

example : NoDotSegments (S "/a//..b/.c/") := by decide

/-- The output of remove_dot_segments never contains a complete segment "." or "..". -/
theorem rds_no_dots (p : Str) : NoDotSegments (removeDotSegments p) :=
  Proofs.C12.rds_no_dots p

/-- remove_dot_segments is idempotent. -/
theorem rds_idempotent (p : Str) : removeDotSegments (removeDotSegments p) = removeDotSegments p :=
  Proofs.C12.rds_idempotent p

/-- The target of a resolution against an absolute base carries a scheme: the reference's when it has
    one, the base's otherwise (and `split` finds it again in the recomposed string). -/
theorem resolve_scheme (b r : Str) (hb : (split b).scheme.isSome) :
    (split (resolve b r)).scheme = if (split r).scheme.isSome then (split r).scheme else (split b).scheme :=
  Proofs.C12.resolve_scheme b r hb

theorem resolve_is_absolute (b r : Str) (hb : (split b).scheme.isSome) : (split (resolve b r)).scheme.isSome :=
  Proofs.C12.resolve_is_absolute b r hb

example : (split (S "urn:x")).scheme.isSome := by decide

/-- Empty vs absent query / fragment:
    (1) `split` tells `s#` (empty fragment) from `s` (none) and `s?` (empty query) from `s` (none);
    (2) resolution hands the reference's fragment through unchanged, and its query whenever it has one;
    (3) recomposition prints an empty fragment as a final `#` and an empty query as a final `?`. -/
theorem empty_query_fragment_preserved :
    (∀ s : Str, cQuest ∉ s → cHash ∉ s →
        (split (s ++ [cHash])).fragment = some [] ∧ (split s).fragment = none ∧
        (split (s ++ [cQuest])).query = some [] ∧ (split s).query = none) ∧
    (∀ B R : Parts, (resolveParts B R).fragment = R.fragment) ∧
    (∀ B R : Parts, R.query.isSome → (resolveParts B R).query = R.query) ∧
    (∀ P : Parts, P.fragment = some [] → recompose P = recompose { P with fragment := none } ++ [cHash]) ∧
    (∀ P : Parts, P.fragment = none → P.query = some [] → recompose P = recompose { P with query := none } ++ [cQuest]) :=
  ⟨Proofs.C12.split_distinguishes_empty, Proofs.C12.resolveParts_fragment, Proofs.C12.resolveParts_query,
   Proofs.C12.recompose_empty_fragment, Proofs.C12.recompose_empty_query⟩

example : resolve (S "http://a/b?q#f") (S "c?#") = S "http://a/c?#" := by decide
example : resolve (S "http://a/b?q#f") (S "c") = S "http://a/c" := by decide
example : resolve (S "http://a/b?") (S "#") = S "http://a/b?#" := by decide

/-- Full-strength statement: for a base path starting with "/", the Go function
    computes remove_dot_segments of the merged path. It is FALSE for the code as it is
    (`resolvePath_deviates`): the function inherited from net/url swallows an empty segment that
    follows a ".." popping an already empty output. -/
def ResolvePathEqRfc : Prop :=
  ∀ base ref : Str, base.head? = some cSlash →
    IRI.resolvePath base ref = removeDotSegments (rfcFull base ref)

/-- Proved part: outside the class `dotdotThenEmpty` (the predicate of known finding
    D14-dotdot-then-empty-segment) the model of `resolvePath` equals the RFC.
    Missing for the full statement: nothing can be added — the excluded class really deviates. -/
theorem resolvePath_eq_rfc_partial (base ref : Str) (hb : base.head? = some cSlash)
    (hk : dotdotThenEmpty (rfcFull base ref) = false) :
    IRI.resolvePath base ref = removeDotSegments (rfcFull base ref) := by
  have hh := Proofs.C12.rfcFull_head hb ref
  rw [← Proofs.C12.fullPath_eq_rfcFull] at hh hk ⊢
  cases hf : IRI.fullPath base ref with
  | nil => rw [hf] at hh; simp at hh
  | cons c r =>
    rw [hf] at hh hk
    simp only [List.head?_cons, Option.some.injEq] at hh
    subst hh
    exact Proofs.C12.resolvePath_abs r base ref hf hk

example : (S "/a/b/c").head? = some cSlash ∧ dotdotThenEmpty (rfcFull (S "/a/b/c") (S "../../../x/./y/..")) = false := by
  decide

/-- The model (and the code: replayed by go/cmd/c12, corpus entry `http://h/a` + `..//x`) deviates
    inside the class: "/" + "..//x" gives "/x" where RFC 3986 5.2.4 gives "//x". -/
theorem resolvePath_deviates :
    IRI.resolvePath (S "/a") (S "..//x") = S "/x" ∧ removeDotSegments (rfcFull (S "/a") (S "..//x")) = S "//x" ∧
    dotdotThenEmpty (rfcFull (S "/a") (S "..//x")) = true := by decide

theorem not_ResolvePathEqRfc : ¬ ResolvePathEqRfc := by
  intro h
  have := h (S "/a") (S "..//x") (by decide)
  revert this; decide

/-! ### the wrapper logic of `ParseIRI` / `String` (model level witnesses of D14) -/

/-- `x:/a/../b`: net/url yields Scheme "x", Path "/a/../b"; `ParseIRI` moves the path into `Opaque`
    without its leading "/", so `String()` prints `x:a/../b`. -/
theorem reclassify_drops_leading_slash :
    IRI.reclassify ⟨S "x", [], [], S "/a/../b", []⟩ = (⟨S "x", S "a/../b", [], [], []⟩, true) := by decide

/-- http, https and file are never reclassified. -/
theorem reclassify_special (u : IRI.URL) (h : u.scheme = IRI.sHttp ∨ u.scheme = IRI.sHttps ∨ u.scheme = IRI.sFile) :
    IRI.reclassify u = (u, false) := by
  unfold IRI.reclassify
  rcases h with h | h | h <;> simp [h]

end RdfModel.C12
