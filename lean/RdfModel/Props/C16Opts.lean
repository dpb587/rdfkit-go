/-
  C16 — option plumbing of the decoders with offset capture (`DecoderConfig.apply` folded over the option
  list of `NewDecoder`), about the executable model `Model/DecoderOpts.lean` the driver runs (op `offx.opts`).

  The property text quantifies over "configurations": the initial offset and the capture flag reach the
  decoder through an option LIST, each option a chain of setter calls. The theorems say that the
  effective configuration is the last-writer-wins merge per field, independent of how a chain of setters
  is cut into option values.
-/
import RdfModel.Model.DecoderOpts
namespace RdfModel.C16Opts
open RdfModel.DecOpts RdfModel.TW

theorem apply_empty_right (o : Cfg) : o.apply Cfg.empty = o := by
  cases o with
  | mk c i b f l => cases c <;> cases i <;> cases b <;> cases f <;> cases l <;> rfl

theorem apply_empty_left (s : Cfg) : Cfg.empty.apply s = s := by
  cases s; rfl

theorem apply_assoc (a b c : Cfg) : a.apply (b.apply c) = (a.apply b).apply c := by
  simp only [Cfg.apply]
  congr 1
  · cases a.capture <;> rfl
  · cases a.init <;> rfl
  · cases a.base <;> rfl
  · cases a.factory <;> rfl
  · cases a.listener <;> rfl

theorem foldl_apply (opts : List Cfg) (s : Cfg) :
    opts.foldl (fun s o => o.apply s) s = (compile opts).apply s := by
  induction opts generalizing s with
  | nil => simp [compile, apply_empty_left]
  | cons o os ih =>
    simp only [compile, List.foldl_cons]
    rw [ih (o.apply s), ih (o.apply Cfg.empty), apply_empty_right, apply_assoc]

/-- `NewDecoder(r, a..., b...)` is `NewDecoder(r, b...)`'s configuration applied on top of
    `NewDecoder(r, a...)`'s: the compiled option list is a monoid homomorphism into (`apply`, `{}`). -/
theorem compile_append (a b : List Cfg) : compile (a ++ b) = (compile b).apply (compile a) := by
  simp only [compile, List.foldl_append]
  exact foldl_apply b _

/-- last option of the list that sets the field `f` -/
def lastSet {α : Type} (f : Cfg → Option α) (opts : List Cfg) : Option α := opts.reverse.findSome? f

theorem lastSet_cons {α : Type} (f : Cfg → Option α) (o : Cfg) (opts : List Cfg) :
    lastSet f (o :: opts) = match lastSet f opts with | some v => some v | none => f o := by
  simp only [lastSet, List.reverse_cons, List.findSome?_append, List.findSome?_cons, List.findSome?_nil]
  cases List.findSome? f opts.reverse <;> cases f o <;> rfl

theorem foldl_field {α : Type} (f : Cfg → Option α)
    (hf : ∀ o s : Cfg, f (o.apply s) = match f o with | some v => some v | none => f s)
    (opts : List Cfg) (s : Cfg) :
    f (opts.foldl (fun s o => o.apply s) s) = match lastSet f opts with | some v => some v | none => f s := by
  induction opts generalizing s with
  | nil => simp [lastSet]
  | cons o os ih =>
    simp only [List.foldl_cons, ih, lastSet_cons, hf]
    cases lastSet f os <;> cases f o <;> rfl

/-- **apply_merge**: the compiled configuration is the last-writer-wins merge per field — each field has
    the value of the LAST option of the list that sets it (`nil` = unset everywhere), whatever the other
    fields of that or any other option are. In particular an option that sets only the capture flag
    cannot disturb an initial offset set by an earlier option (seeded defect C16r3-2). -/
theorem apply_merge (opts : List Cfg) :
    (compile opts).capture = lastSet (·.capture) opts ∧
    (compile opts).init = lastSet (·.init) opts ∧
    (compile opts).base = lastSet (·.base) opts ∧
    (compile opts).factory = lastSet (·.factory) opts ∧
    (compile opts).listener = lastSet (·.listener) opts := by
  have field {α : Type} (f : Cfg → Option α)
      (hf : ∀ o s : Cfg, f (o.apply s) = match f o with | some v => some v | none => f s)
      (h0 : f Cfg.empty = none) : f (compile opts) = lastSet f opts := by
    rw [compile, foldl_field f hf, h0]; cases lastSet f opts <;> rfl
  exact ⟨field _ (fun o _ => by simp only [Cfg.apply]; cases o.capture <;> rfl) rfl,
    field _ (fun o _ => by simp only [Cfg.apply]; cases o.init <;> rfl) rfl,
    field _ (fun o _ => by simp only [Cfg.apply]; cases o.base <;> rfl) rfl,
    field _ (fun o _ => by simp only [Cfg.apply]; cases o.factory <;> rfl) rfl,
    field _ (fun o _ => by simp only [Cfg.apply]; cases o.listener <;> rfl) rfl⟩

theorem set_eq_apply (s : Setter) (c : Cfg) : s.set c = (build [s]).apply c := by
  cases s <;> cases c <;> rfl

theorem build_eq_compile (ss : List Setter) : build ss = compile (ss.map (fun s => build [s])) := by
  simp only [build, compile, List.foldl_map]
  congr 1
  funext c s
  exact set_eq_apply s c

theorem build_append (a b : List Setter) : build (a ++ b) = (build b).apply (build a) := by
  rw [build_eq_compile, List.map_append, compile_append, ← build_eq_compile, ← build_eq_compile]

/-- **split_irrelevant**: cutting a chain of setter calls into any number of option values (in the same
    order) does not change the compiled configuration: `NewDecoder(r, C{}.A().B(), C{}.C())` =
    `NewDecoder(r, C{}.A().B().C())` = `NewDecoder(r, C{}.A(), C{}.B(), C{}.C())`. -/
theorem split_irrelevant (chunks : List (List Setter)) :
    compile (chunks.map build) = build chunks.flatten := by
  induction chunks with
  | nil => rfl
  | cons c cs ih =>
    have e : (c :: cs).map build = [build c] ++ cs.map build := rfl
    rw [e, compile_append, ih, List.flatten_cons, build_append]
    simp [compile, apply_empty_right]

theorem newDecoder_flatten (chunks : List (List Setter)) :
    newDecoder chunks = (build chunks.flatten).effective := by
  simp [newDecoder, split_irrelevant]

/-- a setter that can take an initial offset away again: a later `SetInitialTextOffset` or
    `SetCaptureTextOffsets(false)` -/
def touchesInitial : Setter → Bool
  | .capture v => !v
  | .initial _ => true
  | _ => false

theorem build_keeps (b : List Setter) (c : Cfg) (o : Offset)
    (hb : ∀ s ∈ b, touchesInitial s = false) (hc : c.capture = some true) (hi : c.init = some o) :
    (b.foldl (fun c s => s.set c) c).capture = some true ∧ (b.foldl (fun c s => s.set c) c).init = some o := by
  induction b generalizing c with
  | nil => exact ⟨hc, hi⟩
  | cons s ss ih =>
    have hs := hb s List.mem_cons_self
    have h : (s.set c).capture = some true ∧ (s.set c).init = some o := by
      cases s with
      | capture v => cases v with
        | true => exact ⟨rfl, hi⟩
        | false => cases hs
      | initial _ => cases hs
      | base _ => exact ⟨hc, hi⟩
      | factory _ => exact ⟨hc, hi⟩
      | listener _ => exact ⟨hc, hi⟩
    exact ih _ (fun t ht => hb t (List.mem_cons_of_mem _ ht)) h.1 h.2

/-- **initial_offset_survives**: once some option value calls `SetInitialTextOffset(o)`, every later
    setter in that or any later option value that is neither another `SetInitialTextOffset` nor
    `SetCaptureTextOffsets(false)` — e.g. `SetCaptureTextOffsets(true)`, listeners, base, factory — leaves
    the decoder with a text writer starting at exactly `o`. -/
theorem initial_offset_survives (pre post : List (List Setter)) (a b : List Setter) (o : Offset)
    (hb : ∀ s ∈ b, touchesInitial s = false)
    (hpost : ∀ c ∈ post, ∀ s ∈ c, touchesInitial s = false) :
    (newDecoder (pre ++ [a ++ [.initial o] ++ b] ++ post)).writer = some o := by
  rw [newDecoder_flatten]
  simp only [List.flatten_append, List.flatten_cons, List.flatten_nil, List.append_nil, List.append_assoc]
  have h := build_keeps (b ++ post.flatten) ((Setter.initial o).set (build (pre.flatten ++ a))) o
    (by
      intro s hs
      rcases List.mem_append.mp hs with h | h
      · exact hb s h
      · obtain ⟨c, hc, hsc⟩ := List.mem_flatten.mp h
        exact hpost c hc s hsc)
    (by simp [Setter.set]) (by simp [Setter.set])
  have e : build (pre.flatten ++ (a ++ (Setter.initial o :: (b ++ post.flatten)))) =
      (b ++ post.flatten).foldl (fun c s => s.set c) ((Setter.initial o).set (build (pre.flatten ++ a))) := by
    simp [build, List.foldl_append]
  have e' : pre.flatten ++ (a ++ ([Setter.initial o] ++ (b ++ post.flatten))) =
      pre.flatten ++ (a ++ (Setter.initial o :: (b ++ post.flatten))) := rfl
  rw [e', e]
  simp only [Cfg.effective, h.1, h.2]
  rfl

/-- the hypotheses are satisfiable by the seeded scenario: offset first, bare capture flag and a listener
    in later options -/
example : (newDecoder ([[.factory 0]] ++ [[] ++ [.initial ⟨4096, 12, 5⟩] ++ [.base 1]] ++
    [[.capture true], [.listener 2]])).writer = some ⟨4096, 12, 5⟩ :=
  initial_offset_survives _ _ _ _ _ (by decide) (by decide)

/-- capture off (never set, or last set to false) means no writer: no range can be reported -/
theorem no_writer_without_capture (chunks : List (List Setter))
    (h : (build chunks.flatten).capture ≠ some true) : (newDecoder chunks).writer = none := by
  rw [newDecoder_flatten]
  simp [Cfg.effective, h]

example : (newDecoder [[.initial ⟨7, 0, 7⟩], [.capture false]]).writer = none := by decide

/-- setters never produce an initial offset without a capture flag -/
theorem foldl_set_wf (ss : List Setter) (c : Cfg) (h : c.init ≠ none → c.capture ≠ none) :
    (ss.foldl (fun c s => s.set c) c).init ≠ none → (ss.foldl (fun c s => s.set c) c).capture ≠ none := by
  induction ss generalizing c with
  | nil => exact h
  | cons s ss ih =>
    refine ih _ ?_
    cases s with
    | capture _ => exact fun _ => nofun
    | initial _ => exact fun _ => nofun
    | base _ => exact h
    | factory _ => exact h
    | listener _ => exact h

/-- **htmldefaults_forward_faithful** (repaired code, patch c16opts-1): re-issuing the compiled configuration
    on the inner `html.DocumentConfig` gives the HTML document exactly the writer and base the outer
    option list asked for. -/
theorem htmldefaults_forward_faithful (opts : List (List Setter)) :
    (newDecoderHtmlDefaults false opts).writer = (newDecoder opts).writer ∧
    (newDecoderHtmlDefaults false opts).base = (newDecoder opts).base := by
  simp only [newDecoderHtmlDefaults, newDecoder, split_irrelevant]
  have hw := foldl_set_wf opts.flatten Cfg.empty (by simp [Cfg.empty])
  change (build opts.flatten).init ≠ none → (build opts.flatten).capture ≠ none at hw
  generalize build opts.flatten = c at hw
  cases c with
  | mk c i b f l =>
    cases c with
    | none =>
      cases i with
      | none => cases b <;> simp [htmlDefaultsForward, build, Setter.set, Cfg.effective, Cfg.empty]
      | some o => exact absurd rfl (hw (by simp))
    | some v => cases v <;> cases i <;> cases b <;>
        simp [htmlDefaultsForward, build, Setter.set, Cfg.effective, Cfg.empty]

/-- the unrepaired forwarding order turns capture back on: `SetInitialTextOffset(o).SetCaptureTextOffsets(false)` -/
theorem htmldefaults_forward_fails_legacy :
    ∃ opts, (newDecoderHtmlDefaults true opts).writer ≠ (newDecoder opts).writer :=
  ⟨[[.initial ⟨7, 0, 7⟩, .capture false]], by decide⟩

end RdfModel.C16Opts
