/-
  Part C10C (serves C10, C05): theorems about the executable model of the JSON-LD context machinery
  (Model/JsonLdContext.lean; the driver component `ctx` runs exactly these definitions with
  Model/JsonLdContextIri.piriOps).
-/
import RdfModel.Model.JsonLdContextIri
import RdfModel.Proofs.C10CtxPrefix
import RdfModel.Proofs.C10CtxRefine
import RdfModel.Proofs.C10CtxFuel
import RdfModel.Proofs.C10CtxLink
import RdfModel.Proofs.C12WrapPanic
namespace RdfModel.C10Ctx
open RdfModel RdfModel.JL RdfModel.JLC

/-! ## C05: no panic -/

/-- the model of `iri.ParsedIRI` / `net/url` never panics (Props/C12Wrap) -/
theorem piriOps_total : OpsTotal piriOps where
  parse s := by
    have := C12W.parseIRI_no_panic s
    simp only [piriOps]
    split <;> simp_all
  resolve b r := by
    have := C12W.resolveReference_no_panic b r
    simp only [piriOps]
    split <;> simp_all
  goAbs s := by
    have := C12W.parse_no_panic s
    simp only [piriOps]
    split <;> (try split) <;> simp_all

/-- Context Processing (with every nested Create Term Definition, IRI Expansion and scoped-context
    validation) never panics: for every parsed-IRI implementation that does not panic, every
    processing mode, fuel, active context, local context (any JSON value), base URL and flags. -/
theorem ctx_no_panic {P : Type} (ops : IriOps P) (ht : OpsTotal ops) (mode : Mode) (fuel : Nat)
    (active : Context P) (loc : Json) (base : Option Str) (overrideProtected propagate : Bool) :
    processCtx ops mode fuel active loc base overrideProtected propagate ≠ .panic :=
  ((all_noPanic ht mode fuel).2.2 active loc base overrideProtected propagate).of_panic

/-- the same for the instance the driver runs -/
theorem ctx_no_panic_piri (mode : Mode) (fuel : Nat) (active : Context PIRI.ParsedIRI) (loc : Json) (base : Option Str)
    (overrideProtected propagate : Bool) :
    processCtx piriOps mode fuel active loc base overrideProtected propagate ≠ .panic :=
  ctx_no_panic piriOps piriOps_total mode fuel active loc base overrideProtected propagate

/-- IRI Expansion under any context, of any JSON value, never panics -/
theorem iri_expand_no_panic {P : Type} (ops : IriOps P) (ht : OpsTotal ops) (mode : Mode) (c : Context P) (v : Json)
    (docRel vocab : Bool) : iriExpand ops mode c v docRel vocab ≠ .panic :=
  (iriExpand_sat mode c v docRel vocab fun s => (all_noPanic ht mode 1).1 none _ s docRel vocab).of_panic

/-- Create Term Definition never panics when the term is a member of the local context (every call site
    checks that); without the hypothesis it does: `valueValue.GetGrammarName()` on a nil interface -/
theorem ctd_no_panic {P : Type} (ops : IriOps P) (ht : OpsTotal ops) (mode : Mode) (fuel : Nat)
    (loc : List (Str × Json)) (st : St P) (term : Str) (base : Option Str) (prot ov : Bool)
    (hk : hasKey term loc = true) : ctd ops mode fuel loc st term base prot ov ≠ .panic :=
  ((all_noPanic ht mode fuel).2.1 loc st term base prot ov hk).of_panic

example : hasKey (asc "t") [(asc "t", Json.str (asc "http://e/"))] = true := by decide

/-- the hypothesis of `ctd_no_panic` is needed -/
example : ctd (P := Unit) ⟨fun _ => .err, fun _ => false, fun _ _ => none, fun _ => [], fun _ => .no⟩ .v11 1 []
    { ctx := Context.initial none, defined := [] } (asc "t") none false false = .panic := by
  simp [ctd, ctdBody, mget, getKey, asc]

/-! ## C05: termination -/

/-- What makes the mutual recursion IRI Expansion ↔ Create Term Definition terminate, as coded: a term
    whose definition is in progress (`defined[term] = false`) is not entered again — the call returns
    `cyclic IRI mapping` at once, leaving the state as it is … -/
theorem ctd_cyclic {P : Type} (ops : IriOps P) (mode : Mode) (fuel : Nat) (loc : List (Str × Json)) (st : St P)
    (term : Str) (base : Option Str) (prot ov : Bool) (h : mget term st.defined = some false) :
    ctd ops mode (fuel + 1) loc st term base prot ov = .err .cyclicIRIMapping st := by
  simp [ctd, ctdBody, h]

/-- … and a term already defined by this context definition is not entered again either -/
theorem ctd_defined {P : Type} (ops : IriOps P) (mode : Mode) (fuel : Nat) (loc : List (Str × Json)) (st : St P)
    (term : Str) (base : Option Str) (prot ov : Bool) (h : mget term st.defined = some true) :
    ctd ops mode (fuel + 1) loc st term base prot ov = .ok () st := by
  simp [ctd, ctdBody, h]

example : mget (asc "t") ([(asc "t", false)] : List (Str × Bool)) = some false := by decide

/-- IRI Expansion without a local context (every query of the T3 battery; every expansion the document
    expansion makes once a context is in place) makes no nested call: one unit of fuel is enough -/
theorem iri_expand_no_fuel {P : Type} (ops : IriOps P) (mode : Mode) (c : Context P) (v : Json) (docRel vocab : Bool) :
    iriExpand ops mode c v docRel vocab ≠ .fuel :=
  (iriExpand_sat mode c v docRel vocab fun s => (all_fuel ops mode 1).2.1 _ s docRel vocab (Nat.le_refl 1)).of_fuel

/-- TERMINATION. The model is total by construction (structural recursion on the fuel; one unit per Go
    call of `.Call()`); running out of fuel is the explicit outcome `fuel`. `fuelFor loc = 3·|loc| + 4` units
    (|loc| = number of JSON values and object members of the local context) are enough, for every
    parsed-IRI implementation, mode, active context, base and flags: Context Processing never answers
    `fuel`. The proof (Proofs/C10CtxFuel.lean) is the termination argument of the Go code: the set of terms
    `defined` knows only grows; every Create Term Definition call that goes past step 1 adds its term (a
    member name of the context definition) to it, and returns at once for a term already there — with the
    `cyclic IRI mapping` error while its definition is in progress (`ctd_cyclic`); IRI Expansion calls Create
    Term Definition for member names only; so the nesting of the two is at most twice the number of
    members not yet in `defined`; a scoped context is a proper sub-value of the definition. -/
theorem ctx_fuel_sufficient {P : Type} (ops : IriOps P) (mode : Mode) (n : Nat) (active : Context P) (loc : Json)
    (base : Option Str) (overrideProtected propagate : Bool) (hn : fuelFor loc ≤ n) :
    processCtx ops mode n active loc base overrideProtected propagate ≠ .fuel :=
  ((all_fuel ops mode n).2.2.2 active loc base overrideProtected propagate hn).of_fuel

example : fuelFor (.obj [(asc "t", .str (asc "http://e/"))]) ≤ 13 := by decide

/-- Context Processing as the driver runs it ends in a context, a JSON-LD error code, or `unmodelled`
    (remote context, `@import`, an IRI outside the net/url model): never a panic, never out of fuel -/
theorem ctx_total (mode : Mode) (active : Context PIRI.ParsedIRI) (loc : Json) (base : Option Str) (o p : Bool) :
    (∃ c, processCtx piriOps mode (fuelFor loc) active loc base o p = .ok c) ∨
    (∃ e, processCtx piriOps mode (fuelFor loc) active loc base o p = .err e) ∨
    processCtx piriOps mode (fuelFor loc) active loc base o p = .unmodelled := by
  have h1 := ctx_no_panic_piri mode (fuelFor loc) active loc base o p
  have h2 := ctx_fuel_sufficient piriOps mode (fuelFor loc) active loc base o p (Nat.le_refl _)
  cases h : processCtx piriOps mode (fuelFor loc) active loc base o p with
  | ok c => exact Or.inl ⟨c, rfl⟩
  | err e => exact Or.inr (Or.inl ⟨e, rfl⟩)
  | unmodelled => exact Or.inr (Or.inr rfl)
  | panic => exact absurd h h1
  | fuel => exact absurd h h2

/-! ## the prefix flag -/

/-- Step 14.2.5 as coded: the prefix flag of a definition that has an `@id` string is set exactly when the
    processing mode is json-ld-1.0, or the term has no inner colon and no slash, the definition is a
    simple term, and the IRI mapping is a blank node identifier or an IRI ending in a gen-delim. -/
theorem prefix_flag_spec (mode : Mode) (term : Str) (simple : Bool) (e : SIri) :
    prefixFlag145 mode term simple e = true ↔
      (mode = .v10 ∨ (hasColonOrSlash term = false ∧ simple = true ∧
        ((∃ t c, e = .iri t ∧ t.getLast? = some c ∧ c ∈ genDelims) ∨ (∃ t, e = .bnode t)))) :=
  prefixFlag145_iff mode term simple e

/-- Step 25 as coded: with an `@prefix` entry the flag is that boolean (and the step fails in
    json-ld-1.0, for a term with a colon or slash, for `true` on a keyword mapping, for a non-boolean);
    without one it is the flag of step 14.2.5. -/
theorem prefix_entry_spec (mode : Mode) (term : Str) (vo : List (Str × Json)) (e : SIri) (p0 p : Bool)
    (h : prefixStep mode term vo e p0 = .ok p) :
    (getKey kPrefix vo = none ∧ p = p0) ∨
    (getKey kPrefix vo = some (.bool p) ∧ mode ≠ .v10 ∧ term.contains cColon = false ∧ term.contains cSlash = false ∧
      (p = true → ∀ k, e ≠ .kw k)) :=
  prefixStep_ok mode term vo e p0 p h

/-- THE LINK: the prefix flag of the definition Create Term Definition STORES. For a term that this call
    defines (not yet in `defined`, not keyword-like) with a definition `value` of the local context that has no
    `@reverse` entry (and whose `@id`, if a string other than the term, is a keyword or not keyword-like — otherwise
    step 14.2.2 returns without a definition): when the call succeeds, the active context holds a definition `d`
    for the term and `d.pfx` is the outcome of step 25 (`prefixStep`: the `@prefix` entry, `prefix_entry_spec`) applied
    to `basePfx` = the flag of step 14.2.5 (`prefix_flag_spec`) on the stored IRI mapping when the definition has an
    `@id` string other than the term, and `false` otherwise (steps 14.1, 15–18). Holds for every other entry of the
    definition, every callback outcome, and also when a protected previous definition is kept (step 27: `Equals`
    compares the prefix flags). Not covered: definitions with `@reverse` (step 13 stores `false`). -/
theorem prefix_flag_stored {P : Type} (ops : IriOps P) (mode : Mode) (fuel : Nat) (loc : List (Str × Json))
    (st st' : St P) (term : Str) (base : Option Str) (prot ov : Bool)
    (h : ctd ops mode (fuel + 1) loc st term base prot ov = .ok () st')
    (hnew : mget term st.defined = none) (hkf : isKeywordForm term = false)
    (value : Json) (vo : List (Str × Json)) (simple : Bool)
    (hv : getKey term loc = some value) (hn : normalizeValue value = .ok (vo, simple))
    (hrev : getKey kReverse vo = none)
    (hi : ∀ i, getKey kId vo = some (.str i) → i ≠ term → isKeyword i = true ∨ isKeywordForm i = false) :
    ∃ d, mget term st'.ctx.core.terms = some d ∧
      prefixStep mode term vo d.iri (basePfx mode term vo simple d.iri) = .ok d.pfx := by
  simp only [ctd] at h
  exact prefix_flag_stored_aux mode _ _ _ loc st st' term base prot ov h hnew hkf value vo simple hv hn hrev hi

example : ∃ st', ctd (P := Unit) ⟨fun _ => .err, fun _ => false, fun _ _ => none, fun _ => [], fun _ => .no⟩ .v11 3
    [(asc "t", .str (asc "http://e/x#"))] { ctx := Context.initial none, defined := [] } (asc "t") none false false
      = .ok () st' := ⟨_, rfl⟩

/-- for a simple term definition `"t": "iri"` the stored flag satisfies the right-hand side of `prefix_flag_spec`
    (with *simple term* true) on the stored IRI mapping -/
theorem prefix_flag_stored_simple {P : Type} (ops : IriOps P) (mode : Mode) (fuel : Nat) (loc : List (Str × Json))
    (st st' : St P) (term i : Str) (base : Option Str) (prot ov : Bool)
    (h : ctd ops mode (fuel + 1) loc st term base prot ov = .ok () st')
    (hnew : mget term st.defined = none) (hkf : isKeywordForm term = false)
    (hv : getKey term loc = some (.str i)) (hne : i ≠ term)
    (hi : isKeyword i = true ∨ isKeywordForm i = false) :
    ∃ d, mget term st'.ctx.core.terms = some d ∧
      (d.pfx = true ↔ (mode = .v10 ∨ (hasColonOrSlash term = false ∧
        ((∃ t c, d.iri = .iri t ∧ t.getLast? = some c ∧ c ∈ genDelims) ∨ (∃ t, d.iri = .bnode t))))) := by
  have hid : getKey kId [(kId, Json.str i)] = some (.str i) := by simp [getKey]
  obtain ⟨d, hd, hp⟩ := prefix_flag_stored ops mode fuel loc st st' term base prot ov h hnew hkf
    (.str i) [(kId, .str i)] true hv rfl (by simp [getKey, kId, kReverse, asc])
    (fun j hj _ => by rw [hid] at hj; cases hj; exact hi)
  refine ⟨d, hd, ?_⟩
  have hnp : getKey kPrefix [(kId, Json.str i)] = none := by simp [getKey, kId, kPrefix, asc]
  have hne' : (i == term) = false := by simpa using hne
  simp only [prefixStep, hnp, Except.ok.injEq, basePfx, hid, hne', Bool.false_eq_true, if_false] at hp
  rw [← hp, prefixFlag145_iff]
  simp

example : prefixStep .v11 (asc "p") [(kPrefix, .bool true)] (.iri (asc "http://e/x")) false = .ok true := rfl
example : prefixStep .v11 (asc "p") [] (.iri (asc "http://e/x#")) true = .ok true := rfl

/-! ## C10: the fragment semantics is what the context machinery computes -/

/-- IRI expansion (no local context: the call expansion and value expansion make for property names,
    `@id`, `@type` values and `@vocab`) of the model equals `JL.expandIri` of the fragment semantics
    Spec/JsonLdFragment.lean, for every string, both flags and every pair of corresponding contexts
    (`Corr`: same terms with IRI mappings that are IRIs and equal prefix flags, same vocabulary mapping,
    and the base resolves the value like RFC 3986 §5.2 — a hypothesis about the parsed-IRI parameter,
    tied for the instance by C12/C12W). A blank node identifier is `_:label` in the model, `label` in the
    fragment (`toSpec`). -/
theorem iri_expand_refines_fragment {P : Type} (ops : IriOps P) (mode : Mode) (c : Context P) (sc : JL.Ctx) (v : Str)
    (docRel vocab : Bool) (hc : Corr ops c.core sc v) :
    ∃ e, iriExpand ops mode c (.str v) docRel vocab = .ok (.s e) ∧ toSpec e = JL.expandIri sc vocab docRel v := by
  obtain ⟨e, h1, h2⟩ := iriExpandBody_refines ops (fun st _ => .ok () st) { ctx := c, defined := [] } sc v docRel vocab hc
  refine ⟨e, ?_, h2⟩
  simp only [iriExpand, iriExpandStr]
  rw [h1]

/-- a context with a prefix, a plain term and a vocabulary corresponds to its fragment counterpart -/
example : Corr (P := Unit) ⟨fun _ => .err, fun _ => false, fun _ _ => none, fun _ => [], fun _ => .no⟩
    { terms := [(asc "ex", { (default : JLC.TermDef) with iri := .iri (asc "http://e/"), pfx := true })],
      base := none, baseValue := none, origBase := none, vocab := some (.iri (asc "http://v/")), vocabValue := none,
      lang := none, dir := none }
    { mode11 := true, docBase := none, base := none, vocab := some (asc "http://v/"), lang := none,
      terms := [(asc "ex", { iri := asc "http://e/", pfx := true, typ := .none, cont := .none, lang := none })] }
    (asc "ex:a") where
  terms := by
    intro k
    by_cases hk : k = asc "ex"
    · subst hk; simp [mget, JL.Ctx.term?, List.lookup, asc]
    · have : (k == asc "ex") = false := by simpa using hk
      simp [mget, JL.Ctx.term?, List.lookup, this]
  vocab := rfl
  baseNone := fun _ => rfl
  baseSome := fun b hb => by simp at hb

/-- `ctx_refines_fragment_partial`, the part that is PROVED: IRI expansion on corresponding tables, i.e.
    `iri_expand_refines_fragment` again under the name of the intended statement. The
    other half of the intended statement — for a context object `ms` of the fragment,
    `JL.processCtxObj sc ms = some sc'` implies that `processCtx` succeeds with a context corresponding
    to `sc'` — is NOT proved; it is checked by the driver op `ctx.frag` (`fragDiff`) on every first local
    context of every history of the T3 run (full statement below). Known deviation found that way:
    the term ":" (finding C10C-single-colon-term). -/
theorem ctx_refines_fragment_partial {P : Type} (ops : IriOps P) (mode : Mode) (c : Context P) (sc : JL.Ctx) (v : Str)
    (docRel vocab : Bool) (hc : Corr ops c.core sc v) :
    ∃ e, iriExpand ops mode c (.str v) docRel vocab = .ok (.s e) ∧ toSpec e = JL.expandIri sc vocab docRel v :=
  iri_expand_refines_fragment ops mode c sc v docRel vocab hc

/-- the full statement (not proved; refuted as it stands by the term ":" in json-ld-1.1, see the finding) -/
def ctx_refines_fragment : Prop :=
  ∀ (mode11 : Bool) (base : Option Str) (ms : List (Str × Json)) (sc' : JL.Ctx),
    JL.processCtxObj (JL.Ctx.initial mode11 base) ms = some sc' →
    ∃ c', processCtx piriOps (if mode11 then .v11 else .v10) (fuelFor (.obj ms))
        (Context.initial ((match base with
          | some b => (match PIRI.parseIRI b with | .ok p => some p | .error _ => none)
          | none => none))) (.obj ms) none false true = .ok c' ∧
      TermsCorr c'.core.terms sc' ∧ c'.core.vocab = sc'.vocab.map SIri.iri ∧ c'.core.lang = sc'.lang

/-! ## clone -/

/-- `Context.clone` as coded copies every field but `VocabularyMappingValue` -/
theorem clone_fields {P : Type} (c : Context P) :
    c.clone = { c with core := { c.core with vocabValue := none } } := rfl

/-- Clone independence at the level of Go's heap (micro-model of Proofs/C10CtxPrefix.lean: map objects
    addressed by number, `cloneH` = `clone` as coded, a write = `m[k] = d` or `delete(m, k)` as Create Term
    Definition performs them through the context it is given): after any sequence of writes through the
    clone, the original's map is what it was. The executable model itself has value semantics (no
    aliasing by construction); that the real code behaves like it is what T3 checks on every history,
    and the oracle `go:active-context-mutated` renders the original before and after every step. -/
theorem clone_independent (h : Heap) (ref : Nat) (hr : ref < h.length) (ws : List Write) :
    (ws.foldl (fun hp w => hp.write (cloneH h ref).2 w) (cloneH h ref).1).getD ref [] = h.getD ref [] := by
  have hne : (cloneH h ref).2 ≠ ref := by simp [cloneH]; omega
  rw [writes_other _ _ hne]
  simp [cloneH, List.getD, List.getElem?_append_left hr]

example : (0 : Nat) < ([[(asc "a", default)]] : Heap).length := by decide

/-- a clone sharing the map (the seeded defect) fails the same statement -/
theorem shallow_clone_not_independent :
    ∃ (h : Heap) (ref : Nat) (ws : List Write), ref < h.length ∧
      (ws.foldl (fun hp w => hp.write (shallowH h ref).2 w) (shallowH h ref).1).getD ref [] ≠ h.getD ref [] :=
  ⟨[[]], 0, [.set [0x61] default], by decide, by simp [shallowH, Heap.write, mset, List.getD]⟩

end RdfModel.C10Ctx
