/-
  Property C13 — T2 structural facts about iri/prefix_manager.go, regenerated on every run into
  Gen/PrefixFacts.lean; these small theorems are the expectations the model relies on.
-/
import RdfModel.Gen.PrefixFacts
namespace RdfModel.C13
open RdfModel.Gen.PrefixFacts

/-- The only methods of `*PrefixManager` that write `ordered` or `mappingByPrefix` are the two the
    model has operations for (`Op.add`, `Op.del`); no method hands out an alias of either field. -/
theorem mutators_modelled :
    (methods.filter (fun m => m.2.1 || m.2.2.1)).map (·.1) = ["AddPrefixMappings", "DeletePrefixes"] ∧
    methods.all (fun m => !m.2.2.2) = true := by decide

/-- The observers the model has are the observers the code has. -/
theorem observers_modelled :
    (methods.filter (fun m => !(m.2.1 || m.2.2.1))).map (·.1) = ["Clone", "CompactPrefix", "ExpandPrefix", "GetPrefixMappings"] := by
  decide

/-- `ordered` is sorted with `slices.SortFunc` by descending `len(Expanded)` — the order `Sorter` assumes. -/
theorem sort_descending : sortComparator = "slices.SortFunc: a, b => len(b.Expanded) - len(a.Expanded)" := rfl

/-- `Clone` and `GetPrefixMappings` copy (`slices.Clone`, `maps.Clone`): the model's value semantics is faithful. -/
theorem copies : cloneCopies = true ∧ getMappingsCopies = true := by decide

end RdfModel.C13
