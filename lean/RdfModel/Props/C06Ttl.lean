/-
  C06 — every statement the Turtle / TriG decoder yields is a well-formed triple or quad
  (statement layer). For ALL inputs, grammatical or not; statements yielded before an error
  count too (`run` collects every statement of every `Next() = true`).

  `WFStmt` (Props/C05TtlDefs.lean): subject present and IRI/blank node, predicate present and an
  IRI, object present (by type), graph name absent or (TriG only) IRI/blank node; a literal carries
  a (non-empty) language tag EXACTLY when its datatype is rdf:langString and rdf:dirLangString never
  occurs (repaired code, D41: `"x"^^rdf:langString` is an error). Blank nodes carry an identity by
  construction (`BN.anon n` from the factory counter, `BN.lbl l` from a label). Every literal has
  a datatype by construction (`Term.lit` has no optional datatype).

  Absoluteness of IRIs under an absolute base depends on the IRI resolver (`/repo/iri`, a
  `net/url` wrapper) and is checked by the harness oracle only.
-/
import RdfModel.Props.C05Ttl
import RdfModel.Proofs.C01Consts
namespace RdfModel.C06
open RdfModel RdfModel.TtlDoc

/-- Every statement of every run is well formed (`trig` is the package flag of `C`). -/
theorem doc_emits_wf (C : Cfg) (e : End) (hP : C.P.NoPanic) (hL : C.P.LangNonEmpty)
    (base : Option (List Nat)) (pf : List (List Nat × List Nat)) (inp : List Nat) :
    ∀ s ∈ (run C e base pf inp).1, WFStmt C.trig s :=
  (runLoop_ok hP hL _ _ (mInv_init C e base pf inp)).2.1

/-- Turtle: subject and predicate are never nil, no graph name (repaired code, D11). -/
theorem ttl_emits_wf (resolve) (isSpace) (e : End) (base : Option (List Nat)) (pf : List (List Nat × List Nat))
    (inp : List Nat) : ∀ s ∈ (run (C05.realCfg false resolve isSpace) e base pf inp).1, WFStmt false s := by
  obtain ⟨h1, _, h3⟩ := C05.realCfg_producers_ok false resolve isSpace
  exact doc_emits_wf (C05.realCfg false resolve isSpace) e h1 h3 base pf inp

/-- TriG (repaired code, D40). -/
theorem trig_emits_wf (resolve) (isSpace) (e : End) (base : Option (List Nat)) (pf : List (List Nat × List Nat))
    (inp : List Nat) : ∀ s ∈ (run (C05.realCfg true resolve isSpace) e base pf inp).1, WFStmt true s := by
  obtain ⟨h1, _, h3⟩ := C05.realCfg_producers_ok true resolve isSpace
  exact doc_emits_wf (C05.realCfg true resolve isSpace) e h1 h3 base pf inp

theorem wf_default_graph {s : Stmt} (h : WFStmt false s) : s.g = none := by
  cases hg : s.g with
  | none => rfl
  | some g => exact absurd (h.graph g hg).1 (by simp)

/-- In Turtle no statement has a graph name. -/
theorem ttl_default_graph (resolve) (isSpace) (e : End) (base : Option (List Nat)) (pf : List (List Nat × List Nat))
    (inp : List Nat) : ∀ s ∈ (run (C05.realCfg false resolve isSpace) e base pf inp).1, s.g = none :=
  fun s hs => wf_default_graph (ttl_emits_wf resolve isSpace e base pf inp s hs)

/-- The literal condition of C06 spelled out: tag present ⇔ datatype rdf:langString. -/
theorem literal_tag_iff (C : Cfg) (e : End) (hP : C.P.NoPanic) (hL : C.P.LangNonEmpty)
    (base : Option (List Nat)) (pf : List (List Nat × List Nat)) (inp : List Nat) :
    ∀ s ∈ (run C e base pf inp).1, ∀ lex dt lang, s.o = .lit lex dt lang →
      ((∃ t, lang = some t ∧ t ≠ []) ↔ dt = rdfLangString) ∧ dt ≠ rdfDirLangString := by
  intro s hs lex dt lang ho
  have := (doc_emits_wf C e hP hL base pf inp s hs).obj
  rw [ho] at this
  cases lang with
  | none => exact ⟨⟨(fun ⟨t, h, _⟩ => by cases h), (fun h => absurd h this.1)⟩, this.2⟩
  | some t =>
    refine ⟨⟨fun _ => this.1, fun _ => ⟨t, rfl, this.2⟩⟩, ?_⟩
    rw [this.1]; exact Proofs.C01.lang_ne_dir

/-- D41 (repaired): the explicit datatype is rejected; nothing is yielded for that statement. -/
example :
    run (C05.realCfg false (fun _ r => some r) (fun c => c = 0x20)) .eof none []
      (asc "<a> <b> \"x\"^^<http://www.w3.org/1999/02/22-rdf-syntax-ns#langString> .") = ([], .error .syntax) := by
  decide +kernel

end RdfModel.C06
