/-
  Property C03 — the canonical form depends only on the dataset (the theorems; proofs of any length
  are in RdfModel/Proofs/C03*.lean, C04*.lean).

  Model: `Model/Rdfcanon.lean`; `Rdfcanon.canon T H lim ord qs` is `rdfcanon.Canonicalize` on the quad
  sequence `qs` with hash `H`, limits `lim`, and Go's map iteration order `ord`.

  PROVED for all inputs:  shape of the output (sorted, strictly for duplicate-free input; parses back
  to the relabelled dataset; issued map total and injective on the dataset's blank nodes = the renaming
  applied; original indices), never a panic / never a wrong answer under the work limits, invariance
  of Hash First Degree Quads under reordering and relabelling, and invariance of the whole output in
  the case where all first-degree hashes are distinct (`canon_invariant_simple`).
  NOT CLAIMED: `canon_invariant`, the invariance when the N-degree phase runs (it is the correctness
  theorem of RDFC-1.0 itself, false under hash collisions; stated below as a `def … : Prop`).  That
  part is covered by the harness only (relabel × permute variants, 8–72 iteration orders).
  Props/C03Relabel.lean adds: relabelling invariance for ARBITRARY datasets, the
  N-degree phase included (`canon_invariant_relabel`, `spec_equivariant`), the reduction of
  `canon_invariant` to invariance under quad order and map iteration order
  (`canon_invariant_of_order_invariant`), and invariance of the identifiers of all uniquely hashed
  nodes in arbitrary datasets (`canon_invariant_unique_partial`).
-/
import RdfModel.Props.C04
import RdfModel.Props.C01
import RdfModel.Props.C01Tables
import RdfModel.Proofs.C03Parse
import RdfModel.Proofs.C03Unique
namespace RdfModel.C03
open RdfModel RdfModel.C04

variable {β : Type} [DecidableEq β]


/-- Everything below about a result `out` is derived from `Proofs.C03.Shape T qs out`, which holds for every
    result of the model on well-formed input:
    * `lines`  : the lines are the sorted list of `⟨original index, canonical line of the quad
                 relabelled by the issued map⟩`;
    * `total`, `inj`, `ident`, `form` : the issued map is defined on every blank node of the dataset,
      injective, is what `GetBlankNodeIdentifier` answers, and its values are `c14n<decimal>`. -/
theorem shape_of_result (T : NQ.Tables) (hT : TablesCanon T) (H : Str → Str) (lim : Rdfcanon.Limits)
    (ord : List β → List β) (hord : OrdOK ord) (qs : List (Quad β)) (hwf : ∀ q ∈ qs, WFQuad T q)
    (out : Rdfcanon.Out β) (h : Rdfcanon.canon T H lim ord qs = .ok out) : Proofs.C03.Shape T qs out :=
  Proofs.C03.shape_of_ok T hT H lim ord hord qs hwf out h

/-- **issued_map_is_renaming**: the output is the sorted list of the input quads relabelled by the
    issued identifier map; that map is defined and injective on the blank nodes of the dataset and is
    what `GetBlankNodeIdentifier` returns. -/
theorem issued_map_is_renaming {T : NQ.Tables} {qs : List (Quad β)} {out : Rdfcanon.Out β}
    (hs : Proofs.C03.Shape T qs out) :
    out.lines.map (·.encoded) = sortStr (qs.map (Spec.RDFC10.nquad (Proofs.C03.labelOf out))) ∧
    (∀ q ∈ qs, ∀ b ∈ Spec.RDFC10.quadBnodes q, (assoc out.issued b).isSome) ∧
    (∀ b b' v, assoc out.issued b = some v → assoc out.issued b' = some v → b = b') ∧
    (∀ b v, assoc out.issued b = some v → out.identifier b = v) :=
  ⟨Proofs.C03.lines_encoded hs, hs.total, hs.inj, hs.ident⟩

/-- The canonical line is what the N-Quads encoder writes for the relabelled quad. -/
theorem line_is_encoded_quad (T : NQ.Tables) (hT : TablesCanon T) (lab : β → Str) (q : Quad β)
    (hwf : WFQuad T q) : NQ.encodeQuad T false lab true q = some (Spec.RDFC10.nquad lab q) :=
  Proofs.C03.encodeQuad_eq_nquad T (Proofs.C04.encOK_of_tables T hT) lab q hwf

/-- **original_index_correct**: every output line carries the position of the input quad it is the
    relabelling of, and the positions are a permutation of `0 … n-1`. -/
theorem original_index_correct {T : NQ.Tables} {qs : List (Quad β)} {out : Rdfcanon.Out β}
    (hs : Proofs.C03.Shape T qs out) :
    (∀ l ∈ out.lines, ∃ q, qs[l.idx]? = some q ∧ l.encoded = Spec.RDFC10.nquad (Proofs.C03.labelOf out) q) ∧
    (out.lines.map (·.idx)).Perm (List.range qs.length) := by
  constructor
  · intro l hl
    rw [hs.lines, List.mem_mergeSort] at hl
    obtain ⟨i, q, h1, h2⟩ := Proofs.C03.mem_lineList _ qs 0 l hl
    exact ⟨q, by rw [h2]; simpa using h1, by rw [h2]⟩
  · rw [hs.lines]
    refine ((List.mergeSort_perm _ _).map _).trans ?_
    rw [Proofs.C03.lineList_idx, List.range_eq_range']

/-- **lines_sorted_unique**, first half: the lines are in code-point order … -/
theorem lines_sorted {T : NQ.Tables} {qs : List (Quad β)} {out : Rdfcanon.Out β} (hs : Proofs.C03.Shape T qs out) :
    (out.lines.map (·.encoded)).Pairwise (fun a b => strLe a b = true) := by
  rw [hs.lines, List.pairwise_map]
  exact List.pairwise_mergeSort (le := fun (a b : Rdfcanon.Line) => strLe a.encoded b.encoded)
    (fun a b c => Proofs.StrOrd.strLe_trans a.encoded b.encoded c.encoded)
    (fun a b => Proofs.StrOrd.strLe_total a.encoded b.encoded) _

/-- … second half: strictly, for a duplicate-free sequence of quads the decoder reads back (C01's
    well-formedness: scalar values, IRIs `urlOk` accepts, language tags of the N-Quads grammar). -/
theorem lines_sorted_unique (T : NQ.Tables) (hT1 : C01.TablesOK T) (hT : TablesCanon T) (hL : Proofs.C03.TablesLabel T)
    (urlOk : List Nat → Bool) (qs : List (Quad β)) (out : Rdfcanon.Out β) (hs : Proofs.C03.Shape T qs out)
    (hwf : ∀ q ∈ qs, WFQuad T q) (hwf1 : ∀ q ∈ qs, C01.WFQuad urlOk q) (hnd : qs.Nodup) :
    (out.lines.map (·.encoded)).Pairwise (fun a b => strLt a b = true) := by
  have hinj := Proofs.C03.nquad_inj_on T hT1 hT hL urlOk qs out hs hwf hwf1
  have hnd2 : (qs.map (Spec.RDFC10.nquad (Proofs.C03.labelOf out))).Nodup := by
    unfold List.Nodup at hnd ⊢
    rw [List.pairwise_map]
    exact hnd.imp_of_mem (fun {a b} ha hb hab heq => hab (hinj a ha b hb heq))
  have hnd3 : (out.lines.map (·.encoded)).Nodup := by
    rw [Proofs.C03.lines_encoded hs]
    exact (Proofs.StrOrd.sortStr_perm _).nodup_iff.mpr hnd2
  have hsorted := lines_sorted hs
  refine (hsorted.and hnd3).imp ?_
  intro a b ⟨hab, hne⟩
  simp only [strLt, Bool.not_eq_true']
  cases hba : strLe b a with
  | false => rfl
  | true => exact absurd (Proofs.StrOrd.strLe_antisymm a b hab hba) hne

/-- **parses_back**: the N-Quads decoder (model, C01) reads the canonical bytes back, cleanly, as a
    reordering of the input quads relabelled by the (injective) issued map — an isomorphic dataset. -/
theorem parses_back (T : NQ.Tables) (hT1 : C01.TablesOK T) (hT : TablesCanon T) (hL : Proofs.C03.TablesLabel T)
    (urlOk : List Nat → Bool) (qs : List (Quad β)) (out : Rdfcanon.Out β) (hs : Proofs.C03.Shape T qs out)
    (hwf : ∀ q ∈ qs, WFQuad T q) (hwf1 : ∀ q ∈ qs, C01.WFQuad urlOk q) :
    ∃ qs' : List (Quad β), qs'.Perm qs ∧
      NQ.run T urlOk .eof true out.bytes = (qs'.map (Quad.map (Proofs.C03.labelOf out)), .clean) :=
  Proofs.C03.parses_back T hT1 hT hL urlOk qs out hs hwf hwf1

/-- **Non-isomorphic datasets have different canonical forms** (contrapositive): if two results have
    the same bytes, the two input sequences are reorderings of each other up to the two (injective,
    by `issued_map_is_renaming`) relabellings — the datasets are isomorphic. -/
theorem equal_output_isomorphic {γ : Type} [DecidableEq γ] (T : NQ.Tables) (hT1 : C01.TablesOK T)
    (hT : TablesCanon T) (hL : Proofs.C03.TablesLabel T) (urlOk : List Nat → Bool)
    (qs : List (Quad β)) (out : Rdfcanon.Out β) (hs : Proofs.C03.Shape T qs out)
    (hwf : ∀ q ∈ qs, WFQuad T q) (hwf1 : ∀ q ∈ qs, C01.WFQuad urlOk q)
    (qs2 : List (Quad γ)) (out2 : Rdfcanon.Out γ) (hs2 : Proofs.C03.Shape T qs2 out2)
    (hwf2 : ∀ q ∈ qs2, WFQuad T q) (hwf12 : ∀ q ∈ qs2, C01.WFQuad urlOk q)
    (hb : out.bytes = out2.bytes) :
    ∃ (qs' : List (Quad β)) (qs2' : List (Quad γ)), qs'.Perm qs ∧ qs2'.Perm qs2 ∧
      qs'.map (Quad.map (Proofs.C03.labelOf out)) = qs2'.map (Quad.map (Proofs.C03.labelOf out2)) := by
  obtain ⟨qs', hp, hr⟩ := parses_back T hT1 hT hL urlOk qs out hs hwf hwf1
  obtain ⟨qs2', hp2, hr2⟩ := parses_back T hT1 hT hL urlOk qs2 out2 hs2 hwf2 hwf12
  rw [hb, hr2] at hr
  exact ⟨qs', qs2', hp, hp2, (Prod.mk.inj hr).1.symm⟩

/-- **first_degree_perm**: Hash First Degree Quads does not depend on the order of the quads. -/
theorem first_degree_perm (H : Str → Str) {qs qs' : List (Quad β)} (h : qs.Perm qs') (b : β) :
    Spec.RDFC10.hashFirstDegree H (Spec.RDFC10.bnodeToQuads true qs) b
      = Spec.RDFC10.hashFirstDegree H (Spec.RDFC10.bnodeToQuads true qs') b :=
  Proofs.C03.first_degree_perm H h b

/-- **first_degree_rename**: … nor on the names of the blank nodes. -/
theorem first_degree_rename {γ : Type} [DecidableEq γ] (H : Str → Str) (σ : β → γ)
    (hσ : Function.Injective σ) (qs : List (Quad β)) (b : β) :
    Spec.RDFC10.hashFirstDegree H (Spec.RDFC10.bnodeToQuads true (qs.map (Quad.map σ))) (σ b)
      = Spec.RDFC10.hashFirstDegree H (Spec.RDFC10.bnodeToQuads true qs) b :=
  Proofs.C03.first_degree_rename H σ hσ qs b

/-- The Go code's first-degree hash is the specification's (so the two theorems above are about it). -/
theorem first_degree_model (T : NQ.Tables) (hT : TablesCanon T) (H : Str → Str) (qs : List (Quad β))
    (hwf : ∀ q ∈ qs, WFQuad T q) :
    ∃ st, Rdfcanon.ingest T qs 0 ⟨[], Rdfcanon.newCanonicalIssuer, []⟩ = .ok st ∧
      ∀ b, Rdfcanon.hashFirstDegree H st.b2q b
        = Spec.RDFC10.hashFirstDegree H (Spec.RDFC10.bnodeToQuads true qs) b := by
  obtain ⟨st0, hi1, _, _, hb0⟩ := Proofs.C04.ingest_init T qs hwf
  exact ⟨st0, hi1, Proofs.C04.hashFirstDegree_eq T (Proofs.C04.encOK_of_tables T hT) H hb0⟩

/-- **canon_invariant_simple**: if all first-degree hashes of the dataset are distinct, the Go
    canonicalizer returns a result (no limit is reached) and its bytes are the same for every
    permutation of the quads, every injective relabelling `σ` of the blank nodes, every iteration
    order of Go's maps and every limit configuration; the issued maps correspond through `σ`. -/
theorem canon_invariant_simple {γ : Type} [DecidableEq γ] (T : NQ.Tables) (hT : TablesCanon T)
    (H : Str → Str) (σ : β → γ) (hσ : Function.Injective σ) (qs : List (Quad β)) (qs' : List (Quad γ))
    (hp : qs'.Perm (qs.map (Quad.map σ))) (hwf : ∀ q ∈ qs, WFQuad T q) (hd : Proofs.C03.AllDistinct H qs)
    (lim lim' : Rdfcanon.Limits) (ord : List β → List β) (ord' : List γ → List γ)
    (hord : OrdOK ord) (hord' : OrdOK ord') :
    ∃ out out', Rdfcanon.canon T H lim ord qs = .ok out ∧ Rdfcanon.canon T H lim' ord' qs' = .ok out' ∧
      out.bytes = out'.bytes ∧
      (∀ b ∈ qs.flatMap Spec.RDFC10.quadBnodes, Proofs.C03.labelOf out' (σ b) = Proofs.C03.labelOf out b) :=
  Proofs.C03.canon_invariant_simple T hT H σ hσ qs qs' hp hwf hd lim lim' ord ord' hord hord'

/-- **limit_never_wrong**: on well-formed input the only outcomes are one of the two limit errors or
    a result with the shape above that is the specification's result for every recursion bound ≥
    `maxRecursionDepth + 1` and every admissible enumeration of permutations. No panic, no other answer. -/
theorem limit_never_wrong (T : NQ.Tables) (hT : TablesCanon T) (H : Str → Str) (lim : Rdfcanon.Limits)
    (ord : List β → List β) (hord : OrdOK ord) (qs : List (Quad β)) (hwf : ∀ q ∈ qs, WFQuad T q) :
    (∃ l, Rdfcanon.canon T H lim ord qs = .limit l) ∨
    (∃ out, Rdfcanon.canon T H lim ord qs = .ok out ∧ Proofs.C03.Shape T qs out ∧
      ∀ perms, PermsAgree lim.maxPermutations perms → ∀ fuel, lim.maxRecursionDepth + 1 ≤ fuel →
        Spec.RDFC10.canonFuel H ord perms true fuel qs = some (specView out)) :=
  Proofs.C03.limit_never_wrong T hT H lim ord hord qs hwf

/-- FULL STATEMENT, NOT PROVED, NOT CLAIMED: invariance of the canonical bytes for arbitrary datasets
    (the N-degree phase included), for a hash function without collisions on the strings the algorithm
    hashes (here: injective).  Missing: invariance of Hash N-Degree Quads under `ord` and under the order
    of the blank node lists (a function of the quad order) when hash paths tie only between
    automorphic nodes — the correctness argument of RDFC-1.0 itself, for which no formal proof is
    published.  (Relabelling alone is proved: `canon_invariant_relabel` in Props/C03Relabel.lean, which
    also proves that this statement follows from order invariance.)  Covered by the harness (oracle
    C03) only. -/
def canon_invariant (T : NQ.Tables) (H : Str → Str) : Prop :=
  Function.Injective H →
  ∀ (qs qs' : List (Quad Nat)) (σ : Nat → Nat), Function.Injective σ → qs'.Perm (qs.map (Quad.map σ)) →
  (∀ q ∈ qs, WFQuad T q) → qs.Nodup →
  ∀ (lim : Rdfcanon.Limits) (ord ord' : List Nat → List Nat), OrdOK ord → OrdOK ord' →
  ∀ out out', Rdfcanon.canon T H lim ord qs = .ok out → Rdfcanon.canon T H lim ord' qs' = .ok out' →
    out.bytes = out'.bytes

/-! ### Non-vacuity -/

namespace Witness
open RdfModel.C04.Witness

/-- The witness dataset of `Props/C04.lean` also satisfies C01's well-formedness (any `urlOk` that
    accepts its four IRIs; here: all). -/
theorem wf1 : ∀ q ∈ quads, C01.WFQuad (fun _ => true) q := by
  have iri : ∀ (s : List Nat), s.all isScalarB = true → C01.WFIri (fun _ => true) s :=
    fun s h => ⟨C01.Witness.scalars s h, rfl⟩
  have hp : C01.WFPredicate (fun _ => true) p := iri _ (by decide +kernel)
  intro q hq
  simp only [quads, List.mem_cons, List.not_mem_nil, or_false] at hq
  rcases hq with rfl | rfl | rfl
  · exact ⟨trivial, hp, trivial, by intro g hg; cases hg; trivial⟩
  · exact ⟨trivial, hp, ⟨(iri _ (by decide)).1, iri _ (by decide +kernel), rfl, by decide +kernel⟩,
      by intro g hg; cases hg⟩
  · exact ⟨trivial, hp,
      ⟨(iri _ (by decide)).1, iri _ (by decide +kernel), asc_ne (by decide), asc_ne (by decide)⟩,
      by intro g hg; cases hg; exact iri _ (by decide +kernel)⟩

theorem nodup : quads.Nodup := by decide

/-- A dataset with two blank nodes whose first-degree hashes differ under the identity "hash". -/
def two : List (Quad Nat) := [⟨.bnode 0, p, .bnode 1, none⟩]

theorem two_allDistinct : Proofs.C03.AllDistinct (fun s => s) two := by
  simp [Proofs.C03.AllDistinct, two, Spec.RDFC10.bnodeToQuads, Spec.RDFC10.quadBnodes, Spec.RDFC10.bnodeOf, addToMap,
    Spec.RDFC10.hashFirstDegree, getList, sortStr, Spec.RDFC10.nquad, Spec.RDFC10.term]

end Witness

end RdfModel.C03
