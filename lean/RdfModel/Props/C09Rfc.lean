/-
  Property C09 — the hypothesis `IriOK` of the writer theorems, for the resolution function the driver
  uses (Spec.RFC3986.resolve): every IRI with a scheme and without dot segments in its path satisfies
  it, whatever the document base (by C12.resolve_abs_nodots).  So the graphs of the fragment include all
  graphs over such IRIs.
-/
import RdfModel.Props.C09
import RdfModel.Props.C12
namespace RdfModel.C09
open RdfModel RdfModel.RX RdfModel.Spec.RFC3986

theorem iriOK_rfc3986 (base i : RX.Str) (h : (split i).scheme.isSome) (hn : NoDotSegments (split i).path) :
    IriOK Spec.RFC3986.resolve base i :=
  C12.resolve_abs_nodots base i h hn

/-- C09 for RFC 3986 resolution: `writeAuto_denote` at `Spec.RFC3986.resolve`; `iriOK_rfc3986` above gives the IRI side
    condition of `TripleOK` in syntactic form -/
theorem writeAuto_denote_rfc3986 {β : Type} [DecidableEq β] (base : RX.Str) (label : β → RX.Str) (hl : LabelsOK label)
    (g : List (Desc.Triple β)) (hg : ∀ t ∈ g, TripleOK Spec.RFC3986.resolve base t) (k : Knobs) :
    ∃ out, denoteDoc Spec.RFC3986.resolve ⟨base, none⟩ (writeAuto Spec.RFC3986.resolve base label g k) = .ok out ∧
      Spec.Iso out g :=
  writeAuto_denote Spec.RFC3986.resolve base label hl g hg k

example : IriOK Spec.RFC3986.resolve (Witness.s "http://b/d/doc") (Witness.s "http://a.example/é/ü?k=v#f") :=
  iriOK_rfc3986 _ _ (by decide +kernel) (by decide +kernel)

end RdfModel.C09
