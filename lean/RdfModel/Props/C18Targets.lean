/-
  Property C18, the Turtle and RDF/JSON targets and the option plumbing of `rdfkit pipe`
  (theorems only; helper lemmas in RdfModel/Proofs/C18Cfg.lean).

  All theorems are about `Model/Pipe.lean` (`ttlOptions`, `nqAscii`, `encoderBase`, `pipeTtl`, `pipeRJ`,
  `pipeNQp`), which the driver runs (`Driver/Pipe.lean`, ops `ttl`, `rj`, `nqp`, `encbase`, `ttlopt`) against the
  real rdfio encoder managers, and which is built on the encoder / decoder models of C02 (`Model/TurtleEncoder`,
  `Model/TurtleDoc`) and C01RJ (`Model/RdfJson`).

  PROVED
    * `cli_param_facts`            the parameter layer as modelled agrees with what was evaluated on the real
                                   `Params` objects at extract time (T1: defaults after `ApplyDefaults`,
                                   `strconv.ParseBool` on a word list, implied values of `KEY` alone);
    * `cli_flag_facts`             which `--out*` flag fills which field of the writer / encoder options (T2, go/ast);
    * `ttl_options_shape`          whatever `--out-param`s are given, the Turtle encoder configuration never has a
                                   directive mode or `bufferedSort` set; `buffered` is unset or true; the base is unset or
                                   the encoder base — so the C02 theorems apply with NO decoder defaults: the output
                                   is a self-contained document;
    * `ttl_options_default`        the default configuration (no parameters): base = encoder base, prefixes = RDFa
                                   context, buffered, plain-triple mode;
    * `encoder_base_*`             `--out-base` wins, else the IRI of the output resource (never the input's base);
    * `pipe_preserves_ttl_plain`   Turtle target, `resources=false`, EVERY parameter list: the label stage (C14)
                                   realises an assignment admissible for `pipe_preserves_ttl_assign`
                                   (`C02.plain_doc_iso`); hypotheses listed at the theorem;
    * `pipe_preserves_rdfjson`     RDF/JSON target: composition with `C01RJ.rdfjson_roundtrip`, lifted from a
                                   permutation of relabelled triples to a graph isomorphism (`IsoRJ`);
    * `pipe_rdfjson_params`        any `--out-param` makes the RDF/JSON target fail at open;
    * `pipe_preserves_nq_params`   N-Quads / N-Triples with parameters: `ascii` as parsed, then `pipe_nq_preserves` /
                                   `pipe_nt_preserves`.
    * `ttl_resources_writer`       the `BufferedTriplesEncoder` path on labelled triples, for ANY injective well-formed
                                   labelling and any two iteration orders: round trip at every nesting depth
                                   (`C02.buffered_resources_roundtrip` + equivariance of build / export / write under
                                   an injective renaming, Proofs/C18ResEquiv.lean);
    * `pipe_ttl_assign_link`       the executable pipe (`pipeTtlWith`, provider asked in statement order) is
                                   `pipeTtlAssign` at the assignment the provider realises;
    * `pipe_preserves_ttl_assign`  Turtle target, BOTH modes, for ANY admissible label assignment — independent of
                                   the order in which fresh UUID texts are drawn (Go: at `Close` in writing order);
    * `pipe_preserves_ttl_resources_holds`   the full statement `pipe_preserves_ttl_resources` (`resources=true`,
                                   every nesting depth, collections, anonymous roots, every iteration order) for
                                   the executable model.
  A special case of the last: `pipe_preserves_ttl_resources_partial` (depth 0, with flatness as a hypothesis).
-/
import RdfModel.Props.C18
import RdfModel.Props.C02Doc
import RdfModel.Props.C02DocNest
import RdfModel.Proofs.C18ResEquiv
import RdfModel.Props.C01RJ
import RdfModel.Proofs.C18Cfg
import RdfModel.Gen.PipeCfgFacts
namespace RdfModel.C18
open RdfModel RdfModel.Pipe RdfModel.BN
open scoped List

/-! ## The parameter layer against the extracted facts (T1) -/

/-- `ExportKeyValues()` of the model's parameter sets -/
def showBool (b : Bool) : List Nat := if b then asc "true" else asc "false"

def TtlParams.export (p : TtlParams) : List (List Nat × List Nat) :=
  (match p.buffered with | some b => [(asc "buffered", showBool b)] | none => []) ++
  (match p.irisUseBase with | some b => [(asc "iris.useBase", showBool b)] | none => []) ++
  p.irisUsePrefixes.map (fun v => (asc "iris.usePrefix", v)) ++
  (match p.resources with | some b => [(asc "resources", showBool b)] | none => [])

def NQParams.export (p : NQParams) : List (List Nat × List Nat) :=
  match p.ascii with | some b => [(asc "ascii", showBool b)] | none => []

/-- what `KEY` alone imports, rendered as the extractor renders it -/
def impliedOf {P : Type} (imp : P → List Nat → Option P) (empty : P) (exp : P → List (List Nat × List Nat))
    (key : List Nat) : List Nat :=
  match imp empty key with
  | some p => (match exp p with | [(_, v)] => v | _ => asc "?")
  | none => asc "err"

open Gen.PipeCfgFacts in
/-- The parameter layer of the model agrees with the real `Params` objects, as evaluated at extract time:
    defaults of the four target encoders after `ApplyDefaults()`; `strconv.ParseBool` on the extracted word list;
    what `KEY` alone means for every parameter of every target (true for the booleans, an error for
    `iris.usePrefix`). -/
theorem cli_param_facts :
    encoderDefaults =
      [ (asc "org.w3.n-quads", NQParams.export {}),
        (asc "org.w3.n-triples", NQParams.export {}),
        (asc "org.w3.rdf-json", []),
        (asc "org.w3.turtle", TtlParams.export (TtlParams.applyDefaults {})) ] ∧
    boolWords.all (fun e => parseBool e.1 == e.2) = true ∧
    impliedValues =
      [ (asc "org.w3.n-quads", asc "ascii", impliedOf NQParams.import1 {} NQParams.export (asc "ascii")),
        (asc "org.w3.n-triples", asc "ascii", impliedOf NQParams.import1 {} NQParams.export (asc "ascii")),
        (asc "org.w3.turtle", asc "buffered", impliedOf TtlParams.import1 {} TtlParams.export (asc "buffered")),
        (asc "org.w3.turtle", asc "iris.useBase", impliedOf TtlParams.import1 {} TtlParams.export (asc "iris.useBase")),
        (asc "org.w3.turtle", asc "iris.usePrefix", impliedOf TtlParams.import1 {} TtlParams.export (asc "iris.usePrefix")),
        (asc "org.w3.turtle", asc "resources", impliedOf TtlParams.import1 {} TtlParams.export (asc "resources")) ] := by
  decide +kernel

open Gen.PipeCfgFacts in
/-- The flag layer, read from the source of cmd/rdfkit with go/ast on every run (T2), is the one `OutFlags` /
    `encoderBase` / the `raw` parameter of `pipeTtl` … model: `rdfkit pipe` registers the output flags under the stem
    `out` (`-o`); `--out` is the resource name handed to the writer (→ `fileName`, `fileIRI`), `--out-type` the
    `Type`, `--out-base` the `BaseIRI` and `--out-param` the `Params` of `rdfiotypes.EncoderOptions`; the encoder's
    `DecoderPipe` is the handle of the INPUT (`bfIn`), whose blank-node factory `pipeProvider` propagates; the
    fallback type is N-Quads. -/
theorem cli_flag_facts :
    pipeOutBind = ("out", "o") ∧
    outFlagBindings = [("base", "ResourceName"), ("base + \"-base\"", "EncodingBaseIRI"), ("base + \"-param\"", "EncodingParams"),
      ("base + \"-param-io\"", "ResourceParams"), ("base + \"-type\"", "EncodingName")] ∧
    writerOptionFields = [("Name", "f.ResourceName"), ("Params", "f.ResourceParams"), ("Tee", "opts.WriterTee")] ∧
    encoderOptionFields = [("Type", "f.EncodingName"), ("BaseIRI", "rdf.IRI(f.EncodingBaseIRI)"), ("Params", "f.EncodingParams"),
      ("Patcher", "opts.EncoderPatcher"), ("DecoderPipe", "opts.EncoderDecoderPipe")] ∧
    pipeOpenFields = [("EncoderDecoderPipe", "bfIn"), ("EncoderFallbackType", "nquadscontent.TypeIdentifier")] := by
  decide +kernel

/-- Whatever the parameters: no directive mode, no `bufferedSort`; `buffered` unset or true; base unset or the
    encoder base. -/
theorem ttl_options_shape (rdfa : List Prefix.Mapping) (raw : List (List Nat)) (base : List Nat)
    (cfg : TtlEnc.Config) (res : Bool) (h : ttlOptions rdfa raw base = some (cfg, res)) :
    cfg.baseMode = none ∧ cfg.prefixMode = none ∧ cfg.bufferedSort = none ∧
    (cfg.buffered = none ∨ cfg.buffered = some true) ∧ (cfg.base = none ∨ cfg.base = some base) := by
  unfold ttlOptions at h
  split at h
  · cases h
  · dsimp only at h
    split at h
    · cases h
    · simp only [Option.some.injEq, Prod.mk.injEq] at h
      obtain ⟨rfl, _⟩ := h
      refine ⟨rfl, rfl, rfl, ?_, ?_⟩
      · simp only; split <;> simp
      · simp only; split <;> simp

/-- … hence the decoder needs no default base and no default prefixes to read the output back. -/
theorem ttl_options_no_defaults (rdfa : List Prefix.Mapping) (raw : List (List Nat)) (base : List Nat)
    (cfg : TtlEnc.Config) (res : Bool) (h : ttlOptions rdfa raw base = some (cfg, res)) (pm : Prefix.PM) :
    C02.defaultBase cfg = none ∧ C02.defaultPrefixes cfg pm = [] := by
  obtain ⟨h1, h2, _⟩ := ttl_options_shape rdfa raw base cfg res h
  simp [C02.defaultBase, C02.defaultPrefixes, h1, h2]

/-- No parameters: base = the encoder base, the RDFa context, buffered (hence sorted sections and only the used
    prefixes in the header), plain-triple mode. -/
theorem ttl_options_default (rdfa : List Prefix.Mapping) (base : List Nat) :
    ttlOptions rdfa [] base = some ({ base := some base, prefixes := rdfa, buffered := some true }, false) := by
  simp [ttlOptions, importAll, TtlParams.applyDefaults, ttlPrefixes]

/-- every field of the result, for `decide` (`TtlEnc.Config` has no `DecidableEq`) -/
structure OptView where
  base : Option (List Nat)
  prefixes : List Prefix.Mapping
  buffered : Option Bool
  bufferedSort : Option Bool
  baseMode : Option TtlEnc.DirMode
  prefixMode : Option TtlEnc.DirMode
  resources : Bool
  deriving DecidableEq, Repr

def optView (r : Option (TtlEnc.Config × Bool)) : Option OptView :=
  r.map (fun x => ⟨x.1.base, x.1.prefixes, x.1.buffered, x.1.bufferedSort, x.1.baseMode, x.1.prefixMode, x.2⟩)

/-- A few parameter lists and what they do (decided on the model; the same lists run against the real manager
    in the harness): a later `buffered` overrides an earlier one; `none` resets the prefix list; a prefix without
    `:` and an unknown key are errors; `resources` alone means true. -/
example :
    optView (ttlOptions [] [asc "buffered=false", asc "buffered=T", asc "iris.usePrefix=none", asc "iris.usePrefix=ex:http://e/:x",
        asc "resources", asc "iris.useBase=0"] (asc "file:///o")) =
      some ⟨none, [⟨asc "ex", asc "http://e/:x"⟩], some true, none, none, none, true⟩ ∧
    optView (ttlOptions [⟨asc "r", asc "http://r/"⟩] [asc "iris.usePrefix=a:http://a/", asc "iris.usePrefix=rdfa-context", asc "buffered=0"] (asc "b:")) =
      some ⟨some (asc "b:"), [⟨asc "a", asc "http://a/"⟩, ⟨asc "r", asc "http://r/"⟩], none, none, none, none, false⟩ ∧
    optView (ttlOptions [] [asc "iris.usePrefix=nocolon"] []) = none ∧
    optView (ttlOptions [] [asc "ascii"] []) = none ∧
    optView (ttlOptions [] [asc "buffered=yes"] []) = none ∧
    optView (ttlOptions [] [asc "iris.usePrefix"] []) = none ∧
    nqAscii [] = some false ∧ nqAscii [asc "ascii"] = some true ∧ nqAscii [asc "ascii=1", asc "ascii=F"] = some false ∧
    nqAscii [asc "buffered"] = none := by decide +kernel

/-- `--out-base` wins … -/
theorem encoder_base_flag (f : OutFlags) (h : f.base ≠ []) : encoderBase f = f.base := by
  simp [encoderBase, h]

/-- … else the base is the IRI of the OUTPUT resource (`file://` + path; `/dev/stdout` for `-` or nothing).
    Nothing of the input (its IRI, `--in-base`, a `@base` of the document) reaches the encoder. -/
theorem encoder_base_resource (f : OutFlags) (h : f.base = []) :
    encoderBase f = fileIRI (asc "/dev/stdout") f.name := by
  simp [encoderBase, h]

example : encoderBase { name := asc "/tmp/x/out.ttl" } = asc "file:///tmp/x/out.ttl" ∧
    encoderBase { name := asc "-" } = asc "file:///dev/stdout" ∧
    encoderBase { name := asc "o.ttl", base := asc "http://e/" } = asc "http://e/" := by decide +kernel

/-! ## Turtle target, nested-resource mode: the statement, and depth 0 under a flatness hypothesis -/

open Gen.PipeCfgFacts in
/-- FULL statement for `resources=true`: as `pipe_preserves_ttl_plain` with `hopt` yielding `true`, for every
    iteration order of the subject map (`ord1`, `ord2` may depend on the labelling). PROVED below:
    `pipe_preserves_ttl_resources_holds` (from `C02.buffered_resources_roundtrip` and the equivariance of
    `ExportResources` + `AddResource` under an injective relabelling, Proofs/C18ResEquiv.lean). The order in which
    fresh labels are drawn is immaterial: `pipe_preserves_ttl_assign`. -/
def pipe_preserves_ttl_resources : Prop :=
  ∀ (β : Type) [DecidableEq β] (S : Prefix.Sorter) (raw : List (List Nat)) (base : List Nat) (cfg : TtlEnc.Config),
    ttlOptions rdfaContext raw base = some (cfg, true) →
    C02.ConfigOK C02.docCfg.isSpace Gen.turtle cfg (Prefix.new S cfg.prefixes) →
    ∀ (U : Nat → Bytes), Function.Injective U → (∀ k, C02.labelOK Gen.turtle (U k) = true ∧ C02.Scalars (U k)) →
    ∀ (s : State), C14.Inv s → ∀ (j : Nat), j < s.strfs.length →
    ∀ (node : β → Node), Function.Injective node → ∀ (src : Kind) (qs : List (Quad β)) (ts : List (Desc.Triple β)),
    Proofs.C18.triplesOf qs = some ts → (∀ b, b ∈ nodesOf (qs.map quadAsTriple)) →
    (∀ b v, node b = some (.bnString j v) → (C02.labelOK Gen.turtle v = true ∧ C02.Scalars v) ∧ ∀ k, v ≠ U k) →
    (∀ t ∈ ts, C02.TripleOK (TtlEnc.ctxOf Gen.turtle cfg (Prefix.new S cfg.prefixes) (fun _ : β => [])) cfg.base t) →
    ∀ (ord1 ord2 : (β → List Nat) → List (Term Bytes)),
    (∀ σ, (ord1 σ).Perm (Desc.build (ts.map (Desc.Triple.map σ))).subjects) →
    (∀ σ, (ord2 σ).Perm (Desc.build (ts.map (Desc.Triple.map σ))).subjects) →
    ∃ (σ : β → List Nat) (doc : List Nat) (out : List TtlDoc.Stmt) (tr : List (Desc.Triple TtlDoc.BN)),
      pipeTtl Gen.turtle rdfaContext S raw base (ord1 σ) (ord2 σ) U s (some (.strf j)) src (qs.map (Quad.map node)) = .ok doc ∧
      TtlDoc.run C02.docCfg .eof none [] doc = (out, .clean) ∧
      out.map C02.tripleOfStmt = tr.map some ∧ Spec.Iso tr ts

open Gen.PipeCfgFacts in
/-- A special case of `pipe_preserves_ttl_resources_holds` / `pipe_preserves_ttl_assign`, which need no `hflat`.
    `rdfkit pipe` into **Turtle** with `resources=true` — PARTIAL: exactly what `C02.resources_doc_roundtrip_partial`
    gives (resources of nesting depth 0 with explicit subjects), transported through the option plumbing and the
    label stage. Hypotheses as `pipe_preserves_ttl_plain`, plus
    * `hflat`: for the labelling `σ` the provider produces (any injective `σ` that keeps the source labels), the
      document the `BufferedTriplesEncoder` path writes for the labelled triples — export with the default
      options in the orders `ord1`, `ord2`, `AddResource`, `Close` — IS the document `AddResource … Close` writes for
      the flat resource list `rs` over the source's blank nodes with labeller `σ`;
    * `hrs`, `hperm`: `rs` is well-formed (`FlatOK`) and stands for the triples `ts`.
    Short of `pipe_preserves_ttl_resources`: (a) `hflat` is a hypothesis (it holds when the export inlines nothing:
    no blank node referenced exactly once, no list cells); (b) nested `[ … ]`, `( … )` and anonymous roots are
    outside `FlatOK`. `pipe_preserves_ttl_resources_holds` below has neither limit: the equivariance of export and
    `write` under `σ` is Proofs/C18ResEquiv.lean, the nested forms are `C02.buffered_resources_roundtrip`.
    (c) The order in which Go draws fresh UUID texts in this mode differs from the model's (see `pipeTtlWith`); the
    statement is about the model's assignment, which differs from Go's by a renaming of the fresh texts
    (`pipe_preserves_ttl_assign` holds for either). -/
theorem pipe_preserves_ttl_resources_partial {β : Type} [DecidableEq β] (S : Prefix.Sorter) (raw : List (List Nat))
    (base : List Nat) (cfg : TtlEnc.Config) (hopt : ttlOptions rdfaContext raw base = some (cfg, true))
    (hcfg : C02.ConfigOK C02.docCfg.isSpace Gen.turtle cfg (Prefix.new S cfg.prefixes))
    (U : Nat → Bytes) (hU : Function.Injective U)
    (hUok : ∀ k, C02.labelOK Gen.turtle (U k) = true ∧ C02.Scalars (U k))
    (s : State) (hI : C14.Inv s) (j : Nat) (hj : j < s.strfs.length)
    (node : β → Node) (hnode : Function.Injective node) (src : Kind) (qs : List (Quad β))
    (ts : List (Desc.Triple β)) (hts : Proofs.C18.triplesOf qs = some ts)
    (hocc : ∀ b, b ∈ nodesOf (qs.map quadAsTriple))
    (hscope : ∀ b v, node b = some (.bnString j v) →
      (C02.labelOK Gen.turtle v = true ∧ C02.Scalars v) ∧ ∀ k, v ≠ U k)
    (ord1 ord2 : List (Term Bytes)) (rs : List (Proofs.C02Doc.FlatRes β))
    (hflat : ∀ σ : β → List Nat, Function.Injective σ → (∀ b v, node b = some (.bnString j v) → σ b = v) →
      TtlEnc.encodeResourcesWith Gen.turtle false cfg (Prefix.new S cfg.prefixes) id ord1 ord2 (ts.map (Desc.Triple.map σ)) =
        TtlEnc.encodeResourceListWith Gen.turtle false cfg (Prefix.new S cfg.prefixes) σ (rs.map (·.toResource)))
    (hrs : ∀ r ∈ rs, Proofs.C02Doc.FlatOK
      (TtlEnc.ctxOf Gen.turtle cfg (Prefix.new S cfg.prefixes) (fun _ : β => [])) cfg.base r)
    (hperm : (C02.flatTriples rs).Perm ts) :
    ∃ (doc : List Nat) (out : List TtlDoc.Stmt) (tr : List (Desc.Triple TtlDoc.BN)),
      pipeTtl Gen.turtle rdfaContext S raw base ord1 ord2 U s (some (.strf j)) src (qs.map (Quad.map node)) = .ok doc ∧
      TtlDoc.run C02.docCfg .eof none [] doc = (out, .clean) ∧
      out.map C02.tripleOfStmt = tr.map some ∧ Spec.Iso tr ts := by
  obtain ⟨p, s1, a, h⟩ :=
    Proofs.C18.pipe_assigned (fun l => C02.labelOK Gen.turtle l = true ∧ C02.Scalars l) U hU hUok s hI j hj node hnode
      (qs.map quadAsTriple) hocc hscope
  generalize a ∘ node = σ at h
  obtain ⟨hinj, hgood, hprov, hlab, hown⟩ := h
  obtain ⟨doc, out, tr, h1, h2, h3, h4⟩ :=
    C02.resources_doc_roundtrip_partial C02.docCfg Gen.turtle C02.gen_turtle_doc_ok C02.docCfg_ok cfg
      (Prefix.new S cfg.prefixes) σ hcfg ⟨hinj, hgood⟩ false rs
      (fun r hr => Proofs.C18.flatOK_label Gen.turtle cfg _ _ σ r (hrs r hr))
  obtain ⟨hd1, hd2⟩ := ttl_options_no_defaults rdfaContext raw base cfg true hopt (Prefix.new S cfg.prefixes)
  rw [hd1, hd2] at h2
  obtain ⟨ρ, hρ, hp⟩ := h4
  refine ⟨doc, out, tr, ?_, h2, h3, ρ, hρ, hp.trans (hperm.map _)⟩
  have hts' : toTriples (qs.map quadAsTriple) = some ts := hts
  simp only [pipeTtl, pipeTtlWith, hopt, hprov, Proofs.C18.pipeStatements_map, Proofs.C18.pipeStatements_triples, hlab,
    Proofs.C18.toTriples_map, hts', Option.map_some, hflat σ hinj hown, h1]
  rfl

/-! ## Turtle target, nested-resource mode: FULL (via `C02.buffered_resources_roundtrip`) -/

/-- The writer stage alone, for ANY labelling: whatever injective labelling `σ` with well-formed labels the
    provider realises (in whatever order it drew the fresh texts), the document the `BufferedTriplesEncoder` path
    writes for the labelled triples — for any iteration orders `ord1`, `ord2` of the subject map — is accepted by
    the decoder (no defaults needed when `cfg` has no directive mode) and decodes to a graph isomorphic to the
    source triples. Composition of `C02.buffered_resources_roundtrip` (all nesting depths, collections, anonymous
    roots; itself composed with C17's `flatten_export_repaired`) with the equivariance of build / export /
    `AddResource` under an injective renaming (`Proofs.C18Res.encodeResourcesWith_map`). -/
theorem ttl_resources_writer {β : Type} [DecidableEq β] (cfg : TtlEnc.Config) (pm : Prefix.PM)
    (hcfg : C02.ConfigOK C02.docCfg.isSpace Gen.turtle cfg pm) (σ : β → List Nat) (hσ : C02.LabelOK Gen.turtle σ)
    (ts : List (Desc.Triple β))
    (hwf : ∀ t ∈ ts, C02.TripleOK (TtlEnc.ctxOf Gen.turtle cfg pm (fun _ : β => [])) cfg.base t)
    (ord1 ord2 : List (Term Bytes))
    (h1 : ord1.Perm (Desc.build (ts.map (Desc.Triple.map σ))).subjects)
    (h2 : ord2.Perm (Desc.build (ts.map (Desc.Triple.map σ))).subjects) :
    ∃ (doc : List Nat) (out : List TtlDoc.Stmt) (tr : List (Desc.Triple TtlDoc.BN)),
      TtlEnc.encodeResourcesWith Gen.turtle false cfg pm id ord1 ord2 (ts.map (Desc.Triple.map σ)) = some (.ok doc) ∧
      TtlDoc.run C02.docCfg .eof (C02.defaultBase cfg) (C02.defaultPrefixes cfg pm) doc = (out, .clean) ∧
      out.map C02.tripleOfStmt = tr.map some ∧ Spec.Iso tr ts := by
  have hsub : (Desc.build (ts.map (Desc.Triple.map σ))).subjects = (Desc.build ts).subjects.map (Term.map σ) := by
    exact Proofs.C18Res.subjects_build_map hσ.inj ts
  rw [hsub] at h1 h2
  obtain ⟨o1, ho1, rfl⟩ := Proofs.C18Res.perm_map_inv _ _ _ h1
  obtain ⟨o2, ho2, rfl⟩ := Proofs.C18Res.perm_map_inv _ _ _ h2
  rw [Proofs.C18Res.encodeResourcesWith_map Gen.turtle cfg pm id σ hσ.inj false o1 o2 ts]
  exact C02.buffered_resources_roundtrip C02.docCfg Gen.turtle C02.gen_turtle_doc_ok C08.gen_turtle_ok2
    Proofs.C02Doc.gen_turtle_print_ok C02.docCfg_nest_ok cfg pm σ hcfg hσ o1 o2 ts
    (fun t ht => Proofs.C18.tripleOK_label Gen.turtle cfg _ _ σ t (hwf t ht)) ho1 ho2

/-- `pipeTtlWith` (the executable model the driver runs, provider asked in statement order) IS `pipeTtlAssign` at the
    assignment the provider realises — for any provider run whose answers are a function of the node. -/
theorem pipe_ttl_assign_link (T : Ttl.Tables) (rdfa : List Prefix.Mapping) (mk : List Prefix.Mapping → Prefix.PM)
    (raw : List (List Nat)) (base : List Nat) (ord1 ord2 : List (Term Bytes)) (U : Nat → Bytes) (s s1 : State)
    (h : Option FactoryRef) (p : ProvRef) (src : Kind) (decoded : List (Quad Node)) (assign : Node → Bytes)
    (hprov : pipeProvider U s h = (s1, some p))
    (hlab : (labelQuads U p s1 (pipeStatements src .triples decoded)).2 =
      some ((pipeStatements src .triples decoded).map (Quad.map assign))) :
    pipeTtlWith T rdfa mk raw base ord1 ord2 U s h src decoded =
      pipeTtlAssign T rdfa mk raw base ord1 ord2 assign src decoded := by
  unfold pipeTtlWith pipeTtlAssign
  cases ttlOptions rdfa raw base with
  | none => rfl
  | some x => obtain ⟨cfg, res⟩ := x; simp only [hprov, hlab]

open Gen.PipeCfgFacts in
/-- `rdfkit pipe` into **Turtle**, BOTH modes (`resources` true or false), for ANY admissible label assignment —
    hence independent of the order in which the provider is asked (Go: at `Close`, in writing order, never for an
    inlined node; model: statement order): if the labels the run uses are given by an `assign : Node → Bytes` whose
    restriction `assign ∘ node` to the dataset's blank nodes is injective with well-formed labels, the document
    round-trips to a graph isomorphic to the source triples, for every accepted parameter list, encoder base and
    every pair of iteration orders of the subject map. Hypotheses otherwise as `pipe_preserves_ttl_plain`. -/
theorem pipe_preserves_ttl_assign {β : Type} [DecidableEq β] (S : Prefix.Sorter) (raw : List (List Nat))
    (base : List Nat) (cfg : TtlEnc.Config) (res : Bool) (hopt : ttlOptions rdfaContext raw base = some (cfg, res))
    (hcfg : C02.ConfigOK C02.docCfg.isSpace Gen.turtle cfg (Prefix.new S cfg.prefixes))
    (node : β → Node) (assign : Node → Bytes) (hσ : C02.LabelOK Gen.turtle (assign ∘ node))
    (src : Kind) (qs : List (Quad β)) (ts : List (Desc.Triple β)) (hts : Proofs.C18.triplesOf qs = some ts)
    (hwf : ∀ t ∈ ts, C02.TripleOK (TtlEnc.ctxOf Gen.turtle cfg (Prefix.new S cfg.prefixes) (fun _ : β => [])) cfg.base t)
    (ord1 ord2 : List (Term Bytes))
    (h1 : res = true → ord1.Perm (Desc.build (ts.map (Desc.Triple.map (assign ∘ node)))).subjects)
    (h2 : res = true → ord2.Perm (Desc.build (ts.map (Desc.Triple.map (assign ∘ node)))).subjects) :
    ∃ (doc : List Nat) (out : List TtlDoc.Stmt) (tr : List (Desc.Triple TtlDoc.BN)),
      pipeTtlAssign Gen.turtle rdfaContext (Prefix.new S) raw base ord1 ord2 assign src (qs.map (Quad.map node)) = .ok doc ∧
      TtlDoc.run C02.docCfg .eof none [] doc = (out, .clean) ∧
      out.map C02.tripleOfStmt = tr.map some ∧ Spec.Iso tr ts := by
  obtain ⟨hd1, hd2⟩ := ttl_options_no_defaults rdfaContext raw base cfg res hopt (Prefix.new S cfg.prefixes)
  have hts' : toTriples (qs.map quadAsTriple) = some ts := hts
  simp only [pipeTtlAssign, hopt, Proofs.C18.pipeStatements_map, Proofs.C18.pipeStatements_triples,
    Proofs.C18.quads_map_map, Proofs.C18.toTriples_map, hts', Option.map_some]
  cases res with
  | true =>
    obtain ⟨doc, out, tr, e1, e2, e3, e4⟩ := ttl_resources_writer cfg (Prefix.new S cfg.prefixes) hcfg (assign ∘ node) hσ ts hwf
      ord1 ord2 (h1 rfl) (h2 rfl)
    rw [hd1, hd2] at e2
    exact ⟨doc, out, tr, by simp only [if_true, e1]; rfl, e2, e3, e4⟩
  | false =>
    obtain ⟨doc, out, tr, e1, e2, e3, e4⟩ :=
      C02.plain_doc_iso C02.docCfg Gen.turtle C02.gen_turtle_doc_ok C02.docCfg_ok cfg (Prefix.new S cfg.prefixes)
        (assign ∘ node) hcfg hσ ts (fun t ht => Proofs.C18.tripleOK_label Gen.turtle cfg _ _ _ t (hwf t ht))
    rw [hd1, hd2] at e2
    exact ⟨doc, out, tr, by simp only [Bool.false_eq_true, if_false, Proofs.C18.encodePlainWith_map, e1]; rfl, e2, e3, e4⟩

/-! ## Turtle target, plain-triple mode -/

open Gen.PipeCfgFacts in
/-- `rdfkit pipe` into **Turtle** with `resources=false` (the default), for EVERY list of `--out-param`s the
    encoder manager accepts (`hopt`; buffered or not, base or not, any prefix list) and every encoder base.
    GIVEN that the source decoder yields the statements `qs` over the blank nodes `β` of the dataset (as in
    `pipe_nq_preserves`), the pipe succeeds and the Turtle decoder — the scanner the driver runs, with NO default
    base and NO default prefixes — accepts the document and yields a graph isomorphic to the triples `ts` of the
    source statements (graph names dropped: D20 / `pipe_triples_restricts_default_graph_partial`).

    Hypotheses, by whom they oblige:
    * on the CONFIGURATION (`hcfg`, `C02.ConfigOK`, decidable for a concrete parameter list and base — see the
      examples below): prefix labels given by `iris.usePrefix` are PN_PREFIX-like and outside the two known-finding
      classes; namespaces consist of IRI characters and are fixed points of the resolver under the base; the
      encoder base (`--out-base` / `file://…`) is absolute, of IRI characters, with sane index bookkeeping, and a
      fixed point of the resolver;
    * on the DATASET (`hwf`, `C02.TripleOK`): IRIs consist of IRI characters and — when written in full next to a
      base — are fixed points of the resolver (excludes the C12 deviation classes, e.g. dot segments); literals
      have scalar lexical forms, a LANGTAG exactly with rdf:langString, no rdf:dirLangString; predicates are IRIs
      (`hts`); source labels are BLANK_NODE_LABELs of scalars (`hscope`; finding `label-not-valid-in-target`
      otherwise) and no UUID text drawn by this process; every node of `β` occurs in a triple (`hocc`);
    * on the ENVIRONMENT: C14's invariant (every reachable state), UUID texts pairwise distinct and well-formed
      labels (`hU`, `hUok`; crypto/rand, `uuid.String()`);
    * tables: none left — `C02.gen_turtle_doc_ok` and `C02.docCfg_ok` are proved for the regenerated tables. -/
theorem pipe_preserves_ttl_plain {β : Type} (S : Prefix.Sorter) (raw : List (List Nat)) (base : List Nat)
    (cfg : TtlEnc.Config) (hopt : ttlOptions rdfaContext raw base = some (cfg, false))
    (hcfg : C02.ConfigOK C02.docCfg.isSpace Gen.turtle cfg (Prefix.new S cfg.prefixes))
    (U : Nat → Bytes) (hU : Function.Injective U)
    (hUok : ∀ k, C02.labelOK Gen.turtle (U k) = true ∧ C02.Scalars (U k))
    (s : State) (hI : C14.Inv s) (j : Nat) (hj : j < s.strfs.length)
    (node : β → Node) (hnode : Function.Injective node) (src : Kind) (qs : List (Quad β))
    (ts : List (Desc.Triple β)) (hts : Proofs.C18.triplesOf qs = some ts)
    (hocc : ∀ b, b ∈ nodesOf (qs.map quadAsTriple))
    (hscope : ∀ b v, node b = some (.bnString j v) →
      (C02.labelOK Gen.turtle v = true ∧ C02.Scalars v) ∧ ∀ k, v ≠ U k)
    (hwf : ∀ t ∈ ts, C02.TripleOK (TtlEnc.ctxOf Gen.turtle cfg (Prefix.new S cfg.prefixes) (fun _ : β => [])) cfg.base t)
    (ord1 ord2 : List (Term Bytes)) :
    ∃ (doc : List Nat) (out : List TtlDoc.Stmt) (tr : List (Desc.Triple TtlDoc.BN)),
      pipeTtl Gen.turtle rdfaContext S raw base ord1 ord2 U s (some (.strf j)) src (qs.map (Quad.map node)) = .ok doc ∧
      TtlDoc.run C02.docCfg .eof none [] doc = (out, .clean) ∧
      out.map C02.tripleOfStmt = tr.map some ∧ Spec.Iso tr ts := by
  obtain ⟨p, s1, a, hinj, hgood, hprov, hlab, _⟩ :=
    Proofs.C18.pipe_assigned (fun l => C02.labelOK Gen.turtle l = true ∧ C02.Scalars l) U hU hUok s hI j hj node hnode
      (qs.map quadAsTriple) hocc hscope
  rw [pipeTtl, pipe_ttl_assign_link (hprov := hprov) (assign := a) (hlab := by
    rw [Proofs.C18.pipeStatements_map, Proofs.C18.pipeStatements_triples, hlab, Proofs.C18.quads_map_map])]
  -- `pipe_preserves_ttl_assign` asks for `[DecidableEq β]` (the builder of the `true` mode compares nodes); this
  -- theorem has none, and at `false` nothing mentions the instance, so the classical one serves
  exact @pipe_preserves_ttl_assign β (Classical.typeDecidableEq β) S raw base cfg false hopt hcfg node a ⟨hinj, hgood⟩ src qs
    ts hts hwf ord1 ord2 nofun nofun

/-- The full statement for `resources=true` HOLDS for the executable model `pipeTtl` (labels drawn in statement
    order): no flatness hypothesis, every nesting depth, every iteration order of the subject map. -/
theorem pipe_preserves_ttl_resources_holds : pipe_preserves_ttl_resources := by
  intro β _ S raw base cfg hopt hcfg U hU hUok s hI j hj node hnode src qs ts hts hocc hscope hwf ord1 ord2 ho1 ho2
  obtain ⟨p, s1, a, hinj, hgood, hprov, hlab, _⟩ :=
    Proofs.C18.pipe_assigned (fun l => C02.labelOK Gen.turtle l = true ∧ C02.Scalars l) U hU hUok s hI j hj node hnode
      (qs.map quadAsTriple) hocc hscope
  refine ⟨a ∘ node, ?_⟩
  rw [pipeTtl, pipe_ttl_assign_link (hprov := hprov) (assign := a) (hlab := by
    rw [Proofs.C18.pipeStatements_map, Proofs.C18.pipeStatements_triples, hlab, Proofs.C18.quads_map_map])]
  exact pipe_preserves_ttl_assign S raw base cfg true hopt hcfg node a ⟨hinj, hgood⟩ src qs ts hts hwf _ _
    (fun _ => ho1 _) (fun _ => ho2 _)

/-! ## RDF/JSON target -/

/-- graph isomorphism for the triples of `Model/RdfJson.lean`: `out` is, as a multiset, the image of `inp` under an
    injective renaming of blank nodes -/
def IsoRJ {β : Type} (out : List (RJ.Triple RJ.BNode)) (inp : List (RJ.Triple β)) : Prop :=
  ∃ ρ : β → RJ.BNode, Function.Injective ρ ∧ out ~ inp.map (RJ.Triple.map ρ)

/-- `rdfkit pipe` into **RDF/JSON** (the target takes no parameters). GIVEN the statements `qs` the source decoder
    yields, the pipe succeeds; the token stream of the document `Close` marshals is read back by the RDF/JSON
    decoder (any version `v` of decoder.go) cleanly, and the triples it yields are the source triples (graph names
    dropped) up to an injective renaming of blank nodes — a graph isomorphism, multiplicities included
    (`C01RJ.rdfjson_roundtrip` gives a permutation of the relabelled list; the lift is that the relabelling
    `b ↦ _:σ b` is injective because the provider's `σ` is).
    Hypotheses on the DATASET (`hwf`, `C01RJ.WFTriple`): subject IRIs do not start with `_:`, predicates are IRIs,
    literals have a non-empty datatype other than rdf:dirLangString and a non-empty tag exactly with rdf:langString
    (IRIs, lexical forms and labels are otherwise ARBITRARY code-point strings); source labels are non-empty and no
    UUID text of this process (`hscope`; the string factory never makes an empty label); every node occurs.
    ENVIRONMENT: C14's invariant; UUID texts pairwise distinct and non-empty.
    Outside the model: the JSON text layer (`encoding/json` marshalling, the `inspectjson` tokenizer) — tied by T3
    on the real tokenizer's tokens (go/cmd/c18 `rj`, go/cmd/c01rj). -/
theorem pipe_preserves_rdfjson {β : Type} (v : RJ.Variant) (U : Nat → Bytes) (hU : Function.Injective U)
    (hUne : ∀ k, U k ≠ []) (s : State) (hI : C14.Inv s) (j : Nat) (hj : j < s.strfs.length)
    (node : β → Node) (hnode : Function.Injective node) (src : Kind) (qs : List (Quad β))
    (hocc : ∀ b, b ∈ nodesOf (qs.map quadAsTriple))
    (hscope : ∀ b l, node b = some (.bnString j l) → l ≠ [] ∧ ∀ k, l ≠ U k)
    (hwf : ∀ q ∈ qs, C01RJ.WFTriple (toRJ q)) :
    ∃ (toks : List RJ.Tok) (out : List (RJ.Triple RJ.BNode)),
      pipeRJ [] U s (some (.strf j)) src (qs.map (Quad.map node)) = .ok toks ∧
      RJ.parseRoot v toks .eof = .done out .clean ∧
      IsoRJ out (qs.map toRJ) := by
  obtain ⟨p, s1, a, h⟩ :=
    Proofs.C18.pipe_assigned (fun l => l ≠ []) U hU hUne s hI j hj node hnode (qs.map quadAsTriple) hocc hscope
  generalize a ∘ node = σ at h
  obtain ⟨hinj, hgood, hprov, hlab, _⟩ := h
  have hwf' : ∀ t ∈ qs.map toRJ, C01RJ.WFTriple t := List.forall_mem_map.mpr hwf
  obtain ⟨out, hdec, hperm⟩ := C01RJ.rdfjson_roundtrip v σ hgood (qs.map toRJ) hwf'
  have hacc : ∀ st, ∀ t ∈ qs.map toRJ, (RJ.addTriple σ st t).isSome := by
    intro st t ht
    obtain ⟨hs, hp, _⟩ := hwf' t ht
    obtain ⟨s', p', o'⟩ := t
    cases p' with
    | iri p =>
      cases s' with
      | lit l d g => exact False.elim hs
      | _ => rfl
    | _ => exact False.elim hp
  have hlist : ((qs.map quadAsTriple).map (Quad.map σ)).map toRJ = (qs.map toRJ).map (RJ.Triple.map σ) := by
    simp only [List.map_map]
    exact List.map_congr_left fun _ _ => rfl
  refine ⟨_, out, ?_, hdec, fun b => RJ.BNode.named (σ b), ?_, hperm⟩
  · simp only [pipeRJ, rjParamsOK, List.isEmpty_nil, Bool.not_true, Bool.false_eq_true, if_false, hprov,
      Proofs.C18.pipeStatements_map, Proofs.C18.pipeStatements_triples, hlab, hlist,
      Proofs.C18.rjAddAll_eq σ (qs.map toRJ) hacc []]
    rfl
  · intro a b hab
    exact hinj (by injection hab)

/-- The RDF/JSON encoder manager has no parameters: any `--out-param` makes the command fail at open. -/
theorem pipe_rdfjson_params (raw : List (List Nat)) (h : raw ≠ []) (U : Nat → Bytes) (s : State)
    (hh : Option FactoryRef) (src : Kind) (decoded : List (Quad Node)) :
    pipeRJ raw U s hh src decoded = .openErr := by
  cases raw with
  | nil => exact absurd rfl h
  | cons a l => simp [pipeRJ, rjParamsOK]

/-! ## N-Quads / N-Triples with parameters -/

/-- With `--out-param`s the N-Quads / N-Triples pipe is `pipeNQ` at the `ascii` value the parameters denote
    (`pipe_nq_preserves` / `pipe_nt_preserves` hold for both values); a refused parameter fails at open. -/
theorem pipe_preserves_nq_params (T : NQ.Tables) (quads : Bool) (raw : List (List Nat)) (U : Nat → Bytes) (s : State)
    (h : Option FactoryRef) (src : Kind) (decoded : List (Quad Node)) :
    (∀ ascii, nqAscii raw = some ascii →
      pipeNQp T quads raw U s h src decoded = some (pipeNQ T ascii quads U s h src decoded)) ∧
    (nqAscii raw = none → pipeNQp T quads raw U s h src decoded = none) := by
  constructor
  · intro ascii ha; simp [pipeNQp, ha]
  · intro ha; simp [pipeNQp, ha]

end RdfModel.C18
