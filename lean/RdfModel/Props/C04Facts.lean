/-
  Property C03/C04 — T2: the structural facts extracted from /repo/rdfcanon/*.go on this run
  (Gen/CanonFacts.lean, go/ast) agree with the constants and conditions the hand-written model
  (Model/Rdfcanon.lean) uses.  Each theorem holds by `rfl` between generated data and a hand-written
  expectation; an edit of the Go code that changes a placeholder label, a limit, a comparison, the
  Clone of an issuer, a sort comparator or the related-hash input makes one of them fail.
-/
import RdfModel.Model.Rdfcanon
import RdfModel.Gen.CanonFacts
namespace RdfModel.C04
open RdfModel RdfModel.Gen

/-- `_:a` for the reference node, `_:z` for every other blank node (subject, object; graph with a
    leading space). -/
theorem facts_first_degree_labels :
    CanonFacts.firstDegreeLabels = [" _:a", " _:z", "_:a", "_:a", "_:z", "_:z"] ∧
    Rdfcanon.selfLabel = asc "_:a" ∧ Rdfcanon.otherLabel = asc "_:z" := ⟨rfl, rfl, rfl⟩

/-- Related-hash input: position, then (unless `g`) the already bracketed predicate (D8), then `_:` +
    identifier or the first-degree hash; no other literal is concatenated. -/
theorem facts_related_input :
    CanonFacts.relatedCond = "a.position != \"g\"" ∧
    CanonFacts.relatedAppend = "a.quad.PredicateEncoded" ∧
    CanonFacts.relatedLiterals = ["_:", "_:", "g"] ∧
    CanonFacts.positions = ["s", "o", "g"] := ⟨rfl, rfl, rfl, rfl⟩

/-- The two work limits and where they are tested. -/
theorem facts_limits :
    CanonFacts.maxPermutations = Rdfcanon.defaultLimits.maxPermutations ∧
    CanonFacts.maxRecursionDepth = Rdfcanon.defaultLimits.maxRecursionDepth ∧
    CanonFacts.limitTests = ["a.maxRecursionDepth < 0",
      "permutationIdx > a.canonicalizationState.maxPermutations"] := ⟨rfl, rfl, rfl⟩

/-- Path pruning (twice) and the final choice of the chosen path. -/
theorem facts_path_conditions :
    CanonFacts.pruneConds =
      ["len(chosenPath) > 0 && (len(path) >= len(chosenPath)) && (strings.Compare(path, chosenPath) > 0)",
       "len(chosenPath) > 0 && (len(path) >= len(chosenPath)) && (strings.Compare(path, chosenPath) > 0)"] ∧
    CanonFacts.chooseCond = "len(chosenPath) == 0 || (strings.Compare(path, chosenPath) < 0)" := ⟨rfl, rfl⟩

/-- Issuers: a clone copies map and order (D9: and counts on its own); identifier prefixes. -/
theorem facts_issuer :
    CanonFacts.cloneKnown = "maps.Clone(i.knownIdentifiers)" ∧
    CanonFacts.cloneOrder = "slices.Clone(i.issuedOrder)" ∧
    CanonFacts.tempIdentifier = "i.prefix + strconv.Itoa(len(i.issuedOrder))" ∧
    CanonFacts.c14nFormat = "c14n%d" ∧ Rdfcanon.c14nPrefix = asc "c14n" ∧
    CanonFacts.tempPrefix = "b" ∧ Rdfcanon.tempPrefix = asc "b" := ⟨rfl, rfl, rfl, rfl, rfl, rfl, rfl⟩

/-- Every sort is ascending by `strings.Compare` / `bytes.Compare` on the expected key. -/
theorem facts_sorts :
    CanonFacts.sortCalls =
      ["orderedHashes by strings.Compare", "orderedHashes by strings.Compare",
       "hashPathList by func(a, b algorithmHashNDegreeQuadsResult) int { return strings.Compare(a.hash, b.hash) }",
       "cres.nquads by func(i, j canonicalizedQuad) int { return bytes.Compare(i.encoded, j.encoded) }",
       "nquadsList by strings.Compare", "orderedRelatedHashes by strings.Compare"] := rfl

/-- Loop control: step 4.1 and step 5.2.1 `continue` to the next entry (never `break`: the model's
    `hashPathList` skips an already labelled node and goes on with the rest of the identifier list); the
    two prunings jump to the next permutation; there is no other `break`/`continue`/`goto`. -/
theorem facts_loop_control :
    CanonFacts.loopBranches =
      ["len(a.canonicalizationState.hashToBlankNodes[hash]) > 1 => continue",
       "_, ok := a.canonicalizationState.canonicalIssuer.GetBlankNodeStringIfKnown(n); ok => continue",
       "len(chosenPath) > 0 && (len(path) >= len(chosenPath)) && (strings.Compare(path, chosenPath) > 0) => goto PERMUTATION_NEXT",
       "len(chosenPath) > 0 && (len(path) >= len(chosenPath)) && (strings.Compare(path, chosenPath) > 0) => goto PERMUTATION_NEXT"] ∧
    CanonFacts.otherBranches = 0 := ⟨rfl, rfl⟩

end RdfModel.C04
