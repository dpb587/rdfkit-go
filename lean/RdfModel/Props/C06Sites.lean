/-
  C06 (part: decoders without a parsing model) — emission sites.

  Property text: "each statement a decoder yields has an IRI or blank node as subject, an IRI as
  predicate, an IRI, blank node or literal as object and nothing, an IRI or a blank node as graph
  name; none of these is nil".

  What T2 gives (Gen/EmitSites.lean, regenerated from the Go sources on every run): every composite
  literal of type rdf.Triple / rdf.Quad and every assignment to a field of such a value in the
  decoder packages, with the static class of the expression in each position. The *kinds* of the
  terms are enforced by Go's type system (closed position interfaces: a literal cannot stand in
  subject position); what the type system does not exclude is `nil`.

  `emit_sites_static` : every site either has a concrete value type (rdf.IRI, rdf.BlankNode,
  rdf.Literal — cannot be nil) in subject, predicate and object position, or is one of the
  hand-reviewed dynamic sites below (key = package, function, ordinal within the function, and the
  class pattern seen at review time; no file:line). A new site, a site whose classes changed, or a
  shape the extractor does not understand (`unknown`) makes the theorem fail.

  This is a *static* table plus a human review, not a proof that the dynamic sites never carry nil:
  for RDF/XML, JSON-LD, RDFa and Microdata that is checked only by the search oracle of
  go/cmd/c05x -prop C06 (every statement every decoder yields on every generated input). For
  N-Triples, N-Quads, RDF/JSON, Turtle and TriG it is proved on their models elsewhere in /verif.
-/
import RdfModel.Model.EmitSite
import RdfModel.Gen.EmitSites
namespace RdfModel.C06X
open RdfModel.EmitSite

structure Reviewed where
  pkg : String
  func : String
  ord : Nat
  pattern : String   -- classes of subject, predicate, object, graph: v i a n c - ?
  why : String

/-- Hand-written review of every emission site with an interface-typed (nil-able), absent or copied
    position. pattern letters: v value type, i interface, a absent, c copied triple, - untouched. -/
def reviewedDynamicSites : List Reviewed := [
  ⟨"encoding/encodingutil", "(TripleAsQuadDecoder).Quad", 0, "ccci",
    "copies the triple the wrapped triples decoder has just yielded; graphName nil = default graph"⟩,
  ⟨"encoding/htmlmicrodata", "(*Decoder).walk", 0, "ivia",
    "inside the else of `if ectx.CurrentSubject == nil`; nextSubject is assigned in both branches above (rdf.IRI from @itemid or a fresh blank node)"⟩,
  ⟨"encoding/htmlmicrodata", "(*Decoder).walk", 1, "ivva",
    "nextSubject assigned in both branches above (rdf.IRI from @itemid or a fresh blank node)"⟩,
  ⟨"encoding/htmlmicrodata", "(*Decoder).walk", 2, "ivia",
    "inside `if len(attrItemprop) > 0 && ectx.CurrentSubject != nil`; objectValue comes from parseMicrodataItemvalue, every return of which is an rdf.IRI or rdf.Literal value"⟩,
  ⟨"encoding/htmlrdfa", "(*Decoder).walkNode", 1, "ivva",
    "inside `if typedResource != nil && attrTypeof != nil`; typedResource only ever holds the result of resolveIRI (rdf.SubjectValue) or a blank node, so the assertion to SubjectValue holds"⟩,
  ⟨"encoding/htmlrdfa", "(*Decoder).walkNode", 2, "ivia",
    "inside `if currentObjectResource != nil`; newSubject is non-nil here: set from @about/@resource/@href/@src when they resolve, else from the root (document base, never nil: emptyURL) or the parent object — after patch c05x-6-fix-rdfa-nil-terms (before it an unresolvable @about left it nil: finding)"⟩,
  ⟨"encoding/htmlrdfa", "(*Decoder).walkNode", 3, "ivia",
    "inside `if currentObjectResource != nil`; newSubject is non-nil here: set from @about/@resource/@href/@src when they resolve, else from the root (document base, never nil: emptyURL) or the parent object — after patch c05x-6-fix-rdfa-nil-terms (before it an unresolvable @about left it nil: finding)"⟩,
  ⟨"encoding/htmlrdfa", "(*Decoder).walkNode", 4, "ivia",
    "currentPropertyValue is a literal on every textual path, a resolved resource (`s != nil` checked), or typedResource, which after patch c05x-6 is never nil when @typeof is present; newSubject is non-nil here: set from @about/@resource/@href/@src when they resolve, else from the root (document base, never nil: emptyURL) or the parent object — after patch c05x-6-fix-rdfa-nil-terms (before it an unresolvable @about left it nil: finding)"⟩,
  ⟨"encoding/htmlrdfa", "(*Decoder).walkNode", 5, "ivia",
    "inside `if !skipElement && newSubject != nil`; ectx.ParentSubject is the non-nil newSubject of an ancestor (root element: document base)"⟩,
  ⟨"encoding/htmlrdfa", "(*Decoder).walkNode", 6, "ivia",
    "inside `if !skipElement && newSubject != nil`; ectx.ParentSubject is the non-nil newSubject of an ancestor (root element: document base)"⟩,
  ⟨"encoding/htmlrdfa", "(*Decoder).walkNode", 7, "ivva",
    "newSubject is non-nil here: set from @about/@resource/@href/@src when they resolve, else from the root (document base, never nil: emptyURL) or the parent object — after patch c05x-6-fix-rdfa-nil-terms (before it an unresolvable @about left it nil: finding)"⟩,
  ⟨"encoding/htmlrdfa", "(*Decoder).walkNode", 8, "vvia",
    "listItem ranges over listMapping objects, which are appended only from currentObjectResource (non-nil checked), newSubject (step 12, non-nil checked) and currentPropertyValue (see site 4)"⟩,
  ⟨"encoding/htmlrdfa", "(*Decoder).walkNode", 11, "ivva",
    "newSubject is non-nil here: set from @about/@resource/@href/@src when they resolve, else from the root (document base, never nil: emptyURL) or the parent object — after patch c05x-6-fix-rdfa-nil-terms (before it an unresolvable @about left it nil: finding)"⟩,
  ⟨"encoding/htmlrdfa", "(*Decoder).walkNode", 12, "iiia",
    "bindings of a query over the statements emitted so far (property copying); non-nil because those statements are"⟩,
  ⟨"encoding/jsonld", "(*Decoder).decodeElement", 0, "iivi",
    "inside `if ectx.ActiveProperty != nil`; ActiveSubject and ActiveProperty are always assigned together (node object: selfSubject / member key; list: list cell / rdf:first), and ActiveProperty is reset to nil whenever ActiveSubject is (@graph, @included)"⟩,
  ⟨"encoding/jsonld", "(*Decoder).decodeElement", 1, "iivi",
    "inside `if ectx.ActiveProperty != nil`; ActiveSubject and ActiveProperty are always assigned together (node object: selfSubject / member key; list: list cell / rdf:first), and ActiveProperty is reset to nil whenever ActiveSubject is (@graph, @included)"⟩,
  ⟨"encoding/jsonld", "(*Decoder).decodeElement", 4, "iiii",
    "inside `if ectx.ActiveProperty != nil`; ActiveSubject and ActiveProperty are always assigned together (node object: selfSubject / member key; list: list cell / rdf:first), and ActiveProperty is reset to nil whenever ActiveSubject is (@graph, @included); selfSubject is an rdf.IRI or a blank node on every path that reaches here (ill-formed @id returns earlier)"⟩,
  ⟨"encoding/jsonld", "(*Decoder).decodeElement", 5, "iiii",
    "inside `if ectx.ActiveProperty != nil`; ActiveSubject and ActiveProperty are always assigned together (node object: selfSubject / member key; list: list cell / rdf:first), and ActiveProperty is reset to nil whenever ActiveSubject is (@graph, @included); selfSubject is an rdf.IRI or a blank node on every path that reaches here (ill-formed @id returns earlier)"⟩,
  ⟨"encoding/jsonld", "(*Decoder).decodeElement", 6, "ivii",
    "ectx.ActiveSubject = selfSubject is assigned just above (non-nil); effectiveObject assigned in both branches (blank node / rdf.IRI)"⟩,
  ⟨"encoding/jsonld", "(*Decoder).decodeValueNode", 0, "iivi",
    "decodeValueNode is only called under `if ectx.ActiveProperty != nil` in decodeElement; inside `if ectx.ActiveProperty != nil`; ActiveSubject and ActiveProperty are always assigned together (node object: selfSubject / member key; list: list cell / rdf:first), and ActiveProperty is reset to nil whenever ActiveSubject is (@graph, @included)"⟩,
  ⟨"encoding/jsonld", "(*Decoder).decodeValueNode", 4, "iivi",
    "decodeValueNode is only called under `if ectx.ActiveProperty != nil` in decodeElement; inside `if ectx.ActiveProperty != nil`; ActiveSubject and ActiveProperty are always assigned together (node object: selfSubject / member key; list: list cell / rdf:first), and ActiveProperty is reset to nil whenever ActiveSubject is (@graph, @included)"⟩,
  ⟨"encoding/nquads", "(*Decoder).Next", 0, "aaaa",
    "rdf.Quad{}/rdf.Triple{} reset of the current statement when the input ends cleanly; Next returns `currentQuad.Triple.Subject != nil`, i.e. false, there: never observable after Next == true"⟩,
  ⟨"encoding/nquads", "(*Decoder).Next", 1, "aaaa",
    "rdf.Quad{}/rdf.Triple{} reset of the current statement when the input ends cleanly; Next returns `currentQuad.Triple.Subject != nil`, i.e. false, there: never observable after Next == true"⟩,
  ⟨"encoding/nquads", "(*Decoder).Next", 2, "aaaa",
    "rdf.Quad{}/rdf.Triple{} reset of the current statement when the input ends cleanly; Next returns `currentQuad.Triple.Subject != nil`, i.e. false, there: never observable after Next == true"⟩,
  ⟨"encoding/nquads", "(*Decoder).Next", 3, "iiii",
    "subject/predicate/object come from captureSubjectOrGraphValue/capturePredicate/captureObject, each of which returns a non-nil term or an error that leaves Next before this literal; proved on Model.NQuads (C06 nq_emits_wf), graph name nil = default graph"⟩,
  ⟨"encoding/ntriples", "(*Decoder).Next", 0, "aaaa",
    "rdf.Quad{}/rdf.Triple{} reset of the current statement when the input ends cleanly; Next returns `currentQuad.Triple.Subject != nil`, i.e. false, there: never observable after Next == true"⟩,
  ⟨"encoding/ntriples", "(*Decoder).Next", 1, "aaaa",
    "rdf.Quad{}/rdf.Triple{} reset of the current statement when the input ends cleanly; Next returns `currentQuad.Triple.Subject != nil`, i.e. false, there: never observable after Next == true"⟩,
  ⟨"encoding/ntriples", "(*Decoder).Next", 2, "aaaa",
    "rdf.Quad{}/rdf.Triple{} reset of the current statement when the input ends cleanly; Next returns `currentQuad.Triple.Subject != nil`, i.e. false, there: never observable after Next == true"⟩,
  ⟨"encoding/ntriples", "(*Decoder).Next", 3, "iiia",
    "subject/predicate/object come from captureSubjectOrGraphValue/capturePredicate/captureObject, each of which returns a non-nil term or an error that leaves Next before this literal; proved on Model.NQuads (C06 nq_emits_wf), graph name nil = default graph"⟩,
  ⟨"encoding/rdfjson", "(*Decoder).parseRoot", 0, "iiva",
    "subjectValue and predicateValue are assigned when the subject key and the predicate key are read, which the token grammar forces before any object is reached; proved on Model.RdfJson (rj_emits_wf, builder-rdfjson)"⟩,
  ⟨"encoding/rdfjson", "(*Decoder).parseRoot", 1, "iiva",
    "subjectValue and predicateValue are assigned when the subject key and the predicate key are read, which the token grammar forces before any object is reached; proved on Model.RdfJson (rj_emits_wf, builder-rdfjson)"⟩,
  ⟨"encoding/rdfjson", "(*Decoder).parseRoot", 2, "iiva",
    "subjectValue and predicateValue are assigned when the subject key and the predicate key are read, which the token grammar forces before any object is reached; proved on Model.RdfJson (rj_emits_wf, builder-rdfjson)"⟩,
  ⟨"encoding/rdfjson", "(*Decoder).parseRoot", 3, "iiva",
    "subjectValue and predicateValue are assigned when the subject key and the predicate key are read, which the token grammar forces before any object is reached; proved on Model.RdfJson (rj_emits_wf, builder-rdfjson)"⟩,
  ⟨"encoding/rdfjson", "(*Decoder).parseRoot", 4, "iiva",
    "subjectValue and predicateValue are assigned when the subject key and the predicate key are read, which the token grammar forces before any object is reached; proved on Model.RdfJson (rj_emits_wf, builder-rdfjson)"⟩,
  ⟨"encoding/rdfxml", "(*Decoder).addReify", 1, "vvia",
    "copies the positions of a statement that has just been appended (rdf:ID reification)"⟩,
  ⟨"encoding/rdfxml", "(*Decoder).addReify", 2, "vvia",
    "copies the positions of a statement that has just been appended (rdf:ID reification)"⟩,
  ⟨"encoding/rdfxml", "(*Decoder).addReify", 3, "vvia",
    "copies the positions of a statement that has just been appended (rdf:ID reification)"⟩,
  ⟨"encoding/rdfxml", "(*Decoder).processNodeElt", 0, "ivva",
    "eSubject is assigned on every path before the first emission: rdf:about / rdf:ID / rdf:nodeID, otherwise a fresh blank node"⟩,
  ⟨"encoding/rdfxml", "(*Decoder).processNodeElt", 1, "ivva",
    "eSubject is assigned on every path before the first emission: rdf:about / rdf:ID / rdf:nodeID, otherwise a fresh blank node"⟩,
  ⟨"encoding/rdfxml", "(*Decoder).processNodeElt", 2, "ivva",
    "eSubject is assigned on every path before the first emission: rdf:about / rdf:ID / rdf:nodeID, otherwise a fresh blank node"⟩,
  ⟨"encoding/rdfxml", "(*Decoder).processParseTypeCollectionPropertyElt", 0, "iiva",
    "ectx.ParentSubject/ParentPredicate are set by processChildren_PropertyEltList from the enclosing node element's subject and the property element's name before any property production runs"⟩,
  ⟨"encoding/rdfxml", "(*Decoder).processParseTypeCollectionPropertyElt", 1, "vvia",
    "eSubject is the subject returned by processNodeElt with a nil error (non-nil, see processNodeElt)"⟩,
  ⟨"encoding/rdfxml", "(*Decoder).processParseTypeCollectionPropertyElt", 2, "ivva",
    "lastContainer is assigned from nextContainer (fresh blank node) in the first iteration, and these literals are only reached once it is set"⟩,
  ⟨"encoding/rdfxml", "(*Decoder).processParseTypeCollectionPropertyElt", 3, "vvia",
    "eSubject is the subject returned by processNodeElt with a nil error (non-nil, see processNodeElt)"⟩,
  ⟨"encoding/rdfxml", "(*Decoder).processParseTypeCollectionPropertyElt", 4, "iiva",
    "ectx.ParentSubject/ParentPredicate are set by processChildren_PropertyEltList from the enclosing node element's subject and the property element's name before any property production runs"⟩,
  ⟨"encoding/rdfxml", "(*Decoder).processParseTypeCollectionPropertyElt", 5, "ivva",
    "lastContainer is assigned from nextContainer (fresh blank node) in the first iteration, and these literals are only reached once it is set"⟩,
  ⟨"encoding/rdfxml", "(*Decoder).processParseTypeLiteralPropertyElt", 0, "iiva",
    "ectx.ParentSubject/ParentPredicate are set by processChildren_PropertyEltList from the enclosing node element's subject and the property element's name before any property production runs"⟩,
  ⟨"encoding/rdfxml", "(*Decoder).processParseTypeResourcePropertyElt", 0, "iiva",
    "ectx.ParentSubject/ParentPredicate are set by processChildren_PropertyEltList from the enclosing node element's subject and the property element's name before any property production runs"⟩,
  ⟨"encoding/rdfxml", "(*Decoder).processPropertyElt", 0, "iiva",
    "ectx.ParentSubject/ParentPredicate are set by processChildren_PropertyEltList from the enclosing node element's subject and the property element's name before any property production runs"⟩,
  ⟨"encoding/rdfxml", "(*Decoder).processPropertyElt", 1, "iiaa",
    "ectx.ParentSubject/ParentPredicate are set by processChildren_PropertyEltList from the enclosing node element's subject and the property element's name before any property production runs; the object is absent in the literal and filled by exactly one of the assignments #2–#5 right below (empty literal / rdf:resource / rdf:nodeID / fresh blank node: if-else chain without a fall-through) before the statement is appended"⟩,
  ⟨"encoding/rdfxml", "(*Decoder).processPropertyElt", 6, "ivva",
    "`ot.triple.Object.(rdf.SubjectValue)`: in this branch the object was assigned by #3–#5 (rdf.IRI or blank node), so the assertion holds"⟩,
  ⟨"encoding/rdfxml", "(*Decoder).processPropertyElt", 7, "ivva",
    "`ot.triple.Object.(rdf.SubjectValue)`: in this branch the object was assigned by #3–#5 (rdf.IRI or blank node), so the assertion holds"⟩,
  ⟨"encoding/rdfxml", "(*Decoder).processPropertyElt", 8, "iiia",
    "ectx.ParentSubject/ParentPredicate are set by processChildren_PropertyEltList from the enclosing node element's subject and the property element's name before any property production runs; s is the subject returned by processNodeElt with a nil error"⟩,
  ⟨"encoding/trig", "reader_scan_Object", 0, "iivi",
    "ectx.CurSubject/CurPredicate are set by the statement layer before an object is scanned; proved on Model.TurtleDoc (ttl_emits_wf / trig_emits_wf) for the tree with fix-ttl-collection-subject (D11: before it `()` as a subject emitted (nil, nil, rdf:nil))"⟩,
  ⟨"encoding/trig", "reader_scan_Object", 1, "iivi",
    "ectx.CurSubject/CurPredicate are set by the statement layer before an object is scanned; proved on Model.TurtleDoc (ttl_emits_wf / trig_emits_wf) for the tree with fix-ttl-collection-subject (D11: before it `()` as a subject emitted (nil, nil, rdf:nil))"⟩,
  ⟨"encoding/trig", "reader_scan_Object", 2, "iivi",
    "ectx.CurSubject/CurPredicate are set by the statement layer before an object is scanned; proved on Model.TurtleDoc (ttl_emits_wf / trig_emits_wf) for the tree with fix-ttl-collection-subject (D11: before it `()` as a subject emitted (nil, nil, rdf:nil))"⟩,
  ⟨"encoding/trig", "reader_scan_Object", 3, "iivi",
    "ectx.CurSubject/CurPredicate are set by the statement layer before an object is scanned; proved on Model.TurtleDoc (ttl_emits_wf / trig_emits_wf) for the tree with fix-ttl-collection-subject (D11: before it `()` as a subject emitted (nil, nil, rdf:nil))"⟩,
  ⟨"encoding/trig", "reader_scan_Object", 4, "iivi",
    "ectx.CurSubject/CurPredicate are set by the statement layer before an object is scanned; proved on Model.TurtleDoc (ttl_emits_wf / trig_emits_wf) for the tree with fix-ttl-collection-subject (D11: before it `()` as a subject emitted (nil, nil, rdf:nil))"⟩,
  ⟨"encoding/trig", "reader_scan_Object", 5, "iivi",
    "ectx.CurSubject/CurPredicate are set by the statement layer before an object is scanned; proved on Model.TurtleDoc (ttl_emits_wf / trig_emits_wf) for the tree with fix-ttl-collection-subject (D11: before it `()` as a subject emitted (nil, nil, rdf:nil))"⟩,
  ⟨"encoding/trig", "reader_scan_Object", 6, "iivi",
    "ectx.CurSubject/CurPredicate are set by the statement layer before an object is scanned; proved on Model.TurtleDoc (ttl_emits_wf / trig_emits_wf) for the tree with fix-ttl-collection-subject (D11: before it `()` as a subject emitted (nil, nil, rdf:nil))"⟩,
  ⟨"encoding/trig", "reader_scan_collection", 0, "iivi",
    "ectx.CurSubject/CurPredicate are set by the statement layer before an object is scanned; proved on Model.TurtleDoc (ttl_emits_wf / trig_emits_wf) for the tree with fix-ttl-collection-subject (D11: before it `()` as a subject emitted (nil, nil, rdf:nil))"⟩,
  ⟨"encoding/trig", "reader_scan_collection", 1, "iiii",
    "ectx.CurSubject/CurPredicate are set by the statement layer before an object is scanned; proved on Model.TurtleDoc (ttl_emits_wf / trig_emits_wf) for the tree with fix-ttl-collection-subject (D11: before it `()` as a subject emitted (nil, nil, rdf:nil)); openSubject is a fresh blank node"⟩,
  ⟨"encoding/trig", "reader_scan_collection_Continue", 0, "ivvi",
    "ectx.CurSubject is the current list cell (a blank node allocated by reader_scan_collection); nectx.CurSubject the next cell"⟩,
  ⟨"encoding/trig", "reader_scan_collection_Continue", 1, "ivii",
    "ectx.CurSubject is the current list cell (a blank node allocated by reader_scan_collection); nectx.CurSubject the next cell"⟩,
  ⟨"encoding/trig", "reader_scan_object_PrefixedName", 0, "iivi",
    "ectx.CurSubject/CurPredicate are set by the statement layer before an object is scanned; proved on Model.TurtleDoc (ttl_emits_wf / trig_emits_wf) for the tree with fix-ttl-collection-subject (D11: before it `()` as a subject emitted (nil, nil, rdf:nil))"⟩,
  ⟨"encoding/turtle", "reader_scan_Object", 0, "iiva",
    "ectx.CurSubject/CurPredicate are set by the statement layer before an object is scanned; proved on Model.TurtleDoc (ttl_emits_wf / trig_emits_wf) for the tree with fix-ttl-collection-subject (D11: before it `()` as a subject emitted (nil, nil, rdf:nil))"⟩,
  ⟨"encoding/turtle", "reader_scan_Object", 1, "iiva",
    "ectx.CurSubject/CurPredicate are set by the statement layer before an object is scanned; proved on Model.TurtleDoc (ttl_emits_wf / trig_emits_wf) for the tree with fix-ttl-collection-subject (D11: before it `()` as a subject emitted (nil, nil, rdf:nil))"⟩,
  ⟨"encoding/turtle", "reader_scan_Object", 2, "iiva",
    "ectx.CurSubject/CurPredicate are set by the statement layer before an object is scanned; proved on Model.TurtleDoc (ttl_emits_wf / trig_emits_wf) for the tree with fix-ttl-collection-subject (D11: before it `()` as a subject emitted (nil, nil, rdf:nil))"⟩,
  ⟨"encoding/turtle", "reader_scan_Object", 3, "iiva",
    "ectx.CurSubject/CurPredicate are set by the statement layer before an object is scanned; proved on Model.TurtleDoc (ttl_emits_wf / trig_emits_wf) for the tree with fix-ttl-collection-subject (D11: before it `()` as a subject emitted (nil, nil, rdf:nil))"⟩,
  ⟨"encoding/turtle", "reader_scan_Object", 4, "iiva",
    "ectx.CurSubject/CurPredicate are set by the statement layer before an object is scanned; proved on Model.TurtleDoc (ttl_emits_wf / trig_emits_wf) for the tree with fix-ttl-collection-subject (D11: before it `()` as a subject emitted (nil, nil, rdf:nil))"⟩,
  ⟨"encoding/turtle", "reader_scan_Object", 5, "iiva",
    "ectx.CurSubject/CurPredicate are set by the statement layer before an object is scanned; proved on Model.TurtleDoc (ttl_emits_wf / trig_emits_wf) for the tree with fix-ttl-collection-subject (D11: before it `()` as a subject emitted (nil, nil, rdf:nil))"⟩,
  ⟨"encoding/turtle", "reader_scan_Object", 6, "iiva",
    "ectx.CurSubject/CurPredicate are set by the statement layer before an object is scanned; proved on Model.TurtleDoc (ttl_emits_wf / trig_emits_wf) for the tree with fix-ttl-collection-subject (D11: before it `()` as a subject emitted (nil, nil, rdf:nil))"⟩,
  ⟨"encoding/turtle", "reader_scan_collection", 0, "iiva",
    "ectx.CurSubject/CurPredicate are set by the statement layer before an object is scanned; proved on Model.TurtleDoc (ttl_emits_wf / trig_emits_wf) for the tree with fix-ttl-collection-subject (D11: before it `()` as a subject emitted (nil, nil, rdf:nil))"⟩,
  ⟨"encoding/turtle", "reader_scan_collection", 1, "iiia",
    "ectx.CurSubject/CurPredicate are set by the statement layer before an object is scanned; proved on Model.TurtleDoc (ttl_emits_wf / trig_emits_wf) for the tree with fix-ttl-collection-subject (D11: before it `()` as a subject emitted (nil, nil, rdf:nil)); openSubject is a fresh blank node"⟩,
  ⟨"encoding/turtle", "reader_scan_collection_Continue", 0, "ivva",
    "ectx.CurSubject is the current list cell (a blank node allocated by reader_scan_collection); nectx.CurSubject the next cell"⟩,
  ⟨"encoding/turtle", "reader_scan_collection_Continue", 1, "ivia",
    "ectx.CurSubject is the current list cell (a blank node allocated by reader_scan_collection); nectx.CurSubject the next cell"⟩,
  ⟨"encoding/turtle", "reader_scan_object_PrefixedName", 0, "iiva",
    "ectx.CurSubject/CurPredicate are set by the statement layer before an object is scanned; proved on Model.TurtleDoc (ttl_emits_wf / trig_emits_wf) for the tree with fix-ttl-collection-subject (D11: before it `()` as a subject emitted (nil, nil, rdf:nil))"⟩
]

def _root_.RdfModel.EmitSite.Site.reviewed (x : Site) : Bool :=
  reviewedDynamicSites.any fun r => r.pkg == x.pkg && r.func == x.func && r.ord == x.ord && r.pattern == x.pattern

/-- T2 + review: every emission site is statically non-nil in subject, predicate and object, or reviewed. -/
theorem emit_sites_static :
    ∀ s ∈ Gen.EmitSites.sites, s.allFieldsValueTyped = true ∨ s.reviewed = true := by
  decide +kernel

/-- the extractor understood every site (no `unknown` class) and type-checked every package -/
theorem emit_sites_understood :
    Gen.EmitSites.problems = [] ∧ ∀ s ∈ Gen.EmitSites.sites, s.hasUnknown = false := by
  decide

/-- every decoder package that builds statements itself contributes sites (the table is not empty
    for a silly reason such as a failed package load) -/
theorem emit_sites_cover_packages :
    ["encoding/ntriples", "encoding/nquads", "encoding/turtle", "encoding/trig", "encoding/rdfjson",
     "encoding/rdfxml", "encoding/jsonld", "encoding/htmlrdfa", "encoding/htmlmicrodata", "encoding/encodingutil"].all
      (fun p => Gen.EmitSites.sites.any (fun s => s.pkg == p)) = true := by
  decide +kernel

/-- no site, reviewed or not, has the literal `nil` written in subject, predicate or object position -/
theorem emit_sites_no_nil_literal :
    ∀ s ∈ Gen.EmitSites.sites, s.s ≠ .nilLit ∧ s.p ≠ .nilLit ∧ s.o ≠ .nilLit := by
  decide

/-- example of a site that is value-typed everywhere, and of one that is not (hypothesis-free sanity) -/
example : (⟨"p", "f", 0, .triple, .value, .value, .value, .absent, ""⟩ : Site).allFieldsValueTyped = true := by decide
example : (⟨"p", "f", 0, .triple, .iface, .value, .value, .absent, ""⟩ : Site).allFieldsValueTyped = false := by decide

end RdfModel.C06X
