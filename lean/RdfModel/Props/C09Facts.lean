/-
  Property C09 — facts about the regenerated data of Gen/RdfXmlFacts.lean (T1/T2 tie to
  encoding/rdfxml).  Every statement is closed and decided by evaluation; when the Go source changes
  so that a fact no longer holds, this file stops building and `./check C09` reports the tie as broken.

    * the namespace and reserved local names of `encoding/rdfxml/internal` are the constants of the
      specification;
    * the element names each production of the decoder rejects are exactly `nodeForbidden` /
      `propForbidden` of the specification (nodeElementURIs / propertyElementURIs);
    * the attribute names the decoder rejects on node elements and on empty property elements are
      names the grammar rejects there (the decoder never refuses a propertyAttributeURI by name) —
      except the catch-all `default` rejection on empty property elements, which is finding C09-rdf-ns-property-attr (repaired by patch rx-4)
      and is reported by `emptyEltRejectsOtherRdfAttrs`;
    * T1: a code point is accepted by `validateID` as first / later character of an rdf:ID or rdf:nodeID
      value iff it is an NCName start / NCName character of the specification (all 1,114,112 code points);
    * `parseAll` selects inspectxml with text-offset capture and encoding/xml without.
-/
import RdfModel.Spec.RdfXmlFragment
import RdfModel.Gen.RdfXmlFacts
namespace RdfModel.C09
open RdfModel RdfModel.RX

theorem gen_space : Gen.RX.space = rdfNS := by decide

/-- the reserved names of the specification are the constants the decoder compares with -/
theorem gen_locals :
    [("Local_RDF_Syntax", n_RDF), ("Local_Description_Syntax", n_Description), ("Local_ID_Syntax", n_ID),
     ("Local_About_Syntax", n_about), ("Local_ParseType_Syntax", n_parseType),
     ("Local_Resource_Syntax", n_resource), ("Local_Li_Syntax", n_li), ("Local_NodeID_Syntax", n_nodeID),
     ("Local_Datatype_Syntax", n_datatype), ("Local_Type_Property", n_type),
     ("Local_AboutEach_Old", n_aboutEach), ("Local_AboutEachPrefix_Old", n_aboutEachPrefix),
     ("Local_BagID_Old", n_bagID)].all (fun e => Gen.RX.locals.contains e) = true := by decide +kernel

/-- the productions that expect a node element, and the one that expects a property element -/
def nodeEltSites : List String := ["decodeRDF", "processPropertyElt", "processParseTypeCollectionPropertyElt"]
def propEltSites : List String := ["processChildren_PropertyEltList"]

/-- every name check on an element is one of the four known sites, each site is present, and the
    rejected names are (as sets) the forbidden names of the specification -/
theorem gen_forbidden_elements :
    Gen.RX.forbiddenElements.all (fun e =>
      (nodeEltSites.contains e.1 && e.2.isPerm nodeForbidden) ||
      (propEltSites.contains e.1 && e.2.isPerm propForbidden)) = true ∧
    (nodeEltSites ++ propEltSites).all (fun f => Gen.RX.forbiddenElements.any (fun e => e.1 == f)) = true := by
  decide +kernel

/-- the decoder's catch-all rejection of RDF-namespace attributes on empty property elements (finding C09-rdf-ns-property-attr) -/
def emptyEltRejectsOtherRdfAttrs : Bool :=
  Gen.RX.forbiddenAttributes.any (fun e => e.2 == [[0x64, 0x65, 0x66, 0x61, 0x75, 0x6c, 0x74]])

/-- names the grammar does not allow as attributes of a node element / of an empty property element (not the decoder's
    list `RXD.nodeAttrForbidden` of Model/RdfXmlDecoder.lean, which is what the Go code rejects by name) -/
def nodeAttrForbidden : List Str := [n_RDF, n_Description, n_li] ++ oldTerms ++ [n_resource, n_datatype, n_parseType]
def propAttrForbidden : List Str := [n_RDF, n_Description, n_li] ++ oldTerms ++ [n_about, n_parseType]

/-- apart from the catch-all, the decoder rejects an attribute by name only where the grammar does -/
theorem gen_forbidden_attributes :
    Gen.RX.forbiddenAttributes.all (fun e =>
      e.2 == [[0x64, 0x65, 0x66, 0x61, 0x75, 0x6c, 0x74]] ||
      (e.1 == "processNodeElt" && e.2.all (fun n => nodeAttrForbidden.contains n)) ||
      (e.1 == "processPropertyElt" && e.2.all (fun n => propAttrForbidden.contains n))) = true := by
  decide

/-- T1: rdf:ID / rdf:nodeID validity is NCName-ness, code point by code point -/
theorem gen_id_start : Gen.RX.idStart = ncNameStart := by decide
theorem gen_id_char : Gen.RX.idChar = ncNameChar := by decide

theorem gen_validateID : Gen.RX.validateIDRejects = "!reXmlNamespaceName.MatchString(v) || strings.Contains(v, \":\")" := by
  decide +kernel

theorem gen_tokenizer : Gen.RX.tokenizer = "on:inspectxml.NewDecoder off:xml.NewDecoder" := by decide

/-- what `badNodeName` / `badPropName` mean, for reading `gen_forbidden_elements` -/
theorem badNodeName_iff (n : Str) : badNodeName n = true ↔ n ∈ nodeForbidden := by
  simp [badNodeName]
theorem badPropName_iff (n : Str) : badPropName n = true ↔ n ∈ propForbidden := by
  simp [badPropName]

end RdfModel.C09
