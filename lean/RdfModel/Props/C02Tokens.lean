/-
  Property C02, token layer — what the Turtle encoder writes for one term is read back by the
  Turtle/TriG decoder's token producers as the same value (the scanner walks are in
  RdfModel/Proofs/C02Tok*.lean). One model serves encoding/turtle and encoding/trig.

  All theorems are for an arbitrary table set `T` satisfying `TablesOK T`;
  `Props/C02TokensTables.lean` proves `TablesOK` for the tables regenerated from /repo on this run
  (both the turtle and the trig copies of the classifiers).

  The theorems are about the REPAIRED code (patches ttltok-1 … ttltok-3: D6, D5, D4).
  What is *not* here: the document layer (prefix compaction, base relativisation, statement
  syntax, nested resources) — the document-level proofs (Proofs/C02Doc*.lean, Proofs/C08Doc*.lean,
  over `Model/TurtleDoc.lean` and `Model/TurtleEncoder.lean`) build on these token theorems.
-/
import RdfModel.Props.C02TokensDefs
import RdfModel.Proofs.C02Tok
import RdfModel.Proofs.C02TokA
namespace RdfModel.C02
open RdfModel RdfModel.Ttl

/-- `<` formatIRI `>`: every IRI string (any scalar values — also ones that are not IRI characters,
    they are UCHAR-escaped) is read back unchanged, whatever follows. Both `ascii` option values. -/
theorem iriref_roundtrip (T : Tables) (hT : TablesOK T) (e : End) (ascii : Bool) (s : List Nat)
    (hs : Scalars s) (rest : List Nat) :
    produceIRIREF T e (0x3c :: (formatIRI T ascii s ++ 0x3e :: rest)) = .ok s rest :=
  Proofs.C02Tok.iriref_roundtrip T hT e ascii s hs rest

/-- formatLiteralLexicalForm (the `"…"` style, the only one the encoder uses): every lexical form
    (any scalar values) is read back unchanged. Only for the empty string does what follows matter:
    `""` must not be followed by a third `"` nor by a reader error (`EmptyStrStop`); the encoder
    writes ` `, `@` or `^` there. -/
theorem string_roundtrip (T : Tables) (hT : TablesOK T) (e : End) (ascii : Bool) (s : List Nat)
    (hs : Scalars s) (rest : List Nat) (hstop : s = [] → EmptyStrStop e rest) :
    produceString T e (formatLiteralLexicalForm T ascii s ++ rest) = .ok s rest :=
  Proofs.C02Tok.string_roundtrip T hT e ascii s hs rest hstop

/-- Prefixed names: for a well-formed prefix label and a local name that `format_PN_LOCAL` can write
    without changing it (`PNLocalOK`: every rune raw or `\x` — which is what the repaired encoder
    requires before it uses a prefixed name for an IRI made of IRI characters, D5),
    `format_PN_LOCAL` succeeds and `prefix:local` is read back as exactly that pair, provided the
    name is followed by the end of input or a rune that cannot continue it (`LocalStop`; the
    encoder writes a space or a line feed). Covers local names starting or ending with '.', '-',
    digits, containing '%', ':', '~' … (`\.` at the end relies on the D6 repair). -/
theorem pname_roundtrip (T : Tables) (hT : TablesOK T) (e : End) (pfx loc rest : List Nat)
    (hp : prefixOK T pfx = true) (hps : Scalars pfx) (hs : Scalars loc)
    (hok : PNLocalOK T loc = true) (hstop : LocalStop T e rest) :
    ∃ out, format_PN_LOCAL T loc = some out ∧
      producePrefixedName T e (pfx ++ 0x3a :: (out ++ rest)) = .ok (pfx, loc) rest :=
  Proofs.C02Tok.pname_roundtrip T hT e pfx loc rest hp hps hs hok hstop

/-- Literal shorthand (repaired encoder, D4): whenever `writeObjectValue` writes a literal as a bare
    token, the decoder reads that token back with the same datatype AND the same lexical form —
    through `produceNumericLiteral` for xsd:integer / xsd:decimal / xsd:double, through the keyword
    branch of the object scanner for xsd:boolean (`NumStop` is what the numeric branch needs of `rest`; the
    keyword branch needs nothing). -/
theorem shorthand_sound (e : End) (dt lex rest : List Nat) (h : literalShorthand dt lex = true)
    (hstop : NumStop e rest) :
    (dt ≠ xsdBoolean ∧ ∃ k : NumKind, k.datatype = dt ∧
        produceNumericLiteral e (lex ++ rest) = .ok (k, lex) rest) ∨
    (dt = xsdBoolean ∧
      ((lex = asc "true" ∧ scanBoolean e (lex ++ rest) = .bool true rest) ∨
       (lex = asc "false" ∧ scanBoolean e (lex ++ rest) = .bool false rest))) := by
  have h' : bareLiteralDatatype lex = some dt := by simpa [literalShorthand] using h
  by_cases hb : dt = xsdBoolean
  · right; subst hb; exact ⟨rfl, Proofs.C02Tok.boolean_shorthand e lex rest h'⟩
  · left; exact ⟨hb, Proofs.C02Tok.numeric_shorthand e lex dt rest h' hb hstop⟩

/-- The shorthand is used for four datatypes only (in particular never for xsd:long, D4). -/
theorem shorthand_datatypes (dt lex : List Nat) (h : literalShorthand dt lex = true) :
    dt = xsdBoolean ∨ dt = xsdInteger ∨ dt = xsdDecimal ∨ dt = xsdDouble := by
  have h' : bareLiteralDatatype lex = some dt := by simpa [literalShorthand] using h
  by_cases hb : dt = xsdBoolean
  · exact Or.inl hb
  · exact Or.inr (Proofs.C02Tok.bare_dt lex dt h' (Proofs.C02Tok.not_bool_of_dt h' hb))

/-- Language tags `[a-zA-Z]+ ('-' [a-zA-Z0-9]+)*` (any number of subtags) are read back unchanged. -/
theorem langtag_roundtrip (e : End) (t rest : List Nat) (h : langOK t = true) (hstop : LangStop e rest) :
    produceLANGTAG e (0x40 :: t ++ rest) = .ok t rest := by
  have := Proofs.C02Tok.langPrimary_ok e rest hstop t [] false h (by simp) (by simp)
  simpa [produceLANGTAG, goString] using this

/-- Blank node labels `(PN_CHARS_U | [0-9]) ((PN_CHARS | '.')* PN_CHARS)?` are read back unchanged. -/
theorem bnode_roundtrip (T : Tables) (hT : TablesOK T) (e : End) (l rest : List Nat) (hs : Scalars l)
    (hl : labelOK T l = true) (hstop : LabelStop T e rest) :
    produceBlankNode T e (0x5f :: 0x3a :: l ++ rest) = .ok l rest := by
  simpa using Proofs.C02Tok.bnode_dot T hT e l rest hs hl hstop false

/-! ### No producer panics (repaired code), for every input, every table set, both stream endings -/

theorem produceIRIREF_no_panic (T : Tables) (e : End) (inp : List Nat) : produceIRIREF T e inp ≠ .panic := by
  fun_cases produceIRIREF T e inp <;> simp [Proofs.C02Tok.scanIRIREF_no_panic]
theorem produceString_no_panic (T : Tables) (e : End) (inp : List Nat) : produceString T e inp ≠ .panic := by
  fun_cases produceString T e inp <;> simp [Proofs.C02Tok.scanString_no_panic]
theorem producePNAME_NS_no_panic (T : Tables) (e : End) (inp : List Nat) : producePNAME_NS T e inp ≠ .panic := by
  fun_cases producePNAME_NS T e inp <;> simp [Proofs.C02Tok.pnameNsLoop_no_panic]
/-- In particular `:\.` is read as the local name `.` (the input of finding D6, where the unrepaired
    code indexes a slice at −1). -/
theorem producePrefixedName_no_panic (T : Tables) (e : End) (inp : List Nat) :
    producePrefixedName T e inp ≠ .panic := by
  unfold producePrefixedName
  have h1 := producePNAME_NS_no_panic T e inp
  split
  · simp
  · contradiction
  · have h2 := Proofs.C02Tok.scanLocal_no_panic T e .first ‹_› [] false (by simp)
    split
    · simp
    · simp
    · contradiction
theorem produceBlankNode_no_panic (T : Tables) (e : End) (inp : List Nat) : produceBlankNode T e inp ≠ .panic := by
  fun_cases produceBlankNode T e inp <;> simp [Proofs.C02Tok.bnLoop_no_panic]
theorem produceLANGTAG_no_panic (e : End) (inp : List Nat) : produceLANGTAG e inp ≠ .panic := by
  fun_cases produceLANGTAG e inp <;> simp [Proofs.C02Tok.langPrimary_no_panic]
theorem produceNumericLiteral_no_panic (e : End) (inp : List Nat) : produceNumericLiteral e inp ≠ .panic := by
  fun_cases produceNumericLiteral e inp <;> simp [Proofs.C02Tok.scanNum_no_panic]

end RdfModel.C02
