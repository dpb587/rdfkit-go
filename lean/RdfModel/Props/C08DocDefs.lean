/-
  Definitions used by the document-level theorems of C08 (`Props/C08Doc.lean`) and by the driver
  component `ttlp`: which documents the printer can print (`docWf`), the nesting-free fragment
  (`docFlat`), the blank-node / statement correspondence between `Spec.TurtleAbstract.denote` and
  the decoder model, and the hypotheses that exclude the known deviations of the decoder.
  Core-only.
-/
import RdfModel.Spec.TurtleAbstract
import RdfModel.Props.C02TokensDefs
import RdfModel.Model.TurtleDoc
namespace RdfModel.C08
open RdfModel RdfModel.TA RdfModel.C02 RdfModel.Ttl RdfModel.Spec.TtlPrint

def scalarsB (s : List Nat) : Bool := s.all isScalarB

/-- A prefix label the decoder reads as written: `prefixOK` (PN_PREFIX) and no U+1680 (OGHAM SPACE MARK), the
    one PN_CHARS_BASE character the decoder's white-space test (`unicode.IsSpace`) swallows — finding
    `pname-prefix-space`. -/
def prefixOK2 (T : Tables) (p : List Nat) : Bool := prefixOK T p && !p.contains 0x1680

/-! ### Well-formed documents: every leaf is the value of some token, lists are non-empty where the
    grammar wants them non-empty -/

def iriWf (T : Tables) : IriS → Bool
  | .ref r => scalarsB r
  | .pn p l => prefixOK2 T p && scalarsB p && scalarsB l && (printLocal T [] l).isSome

def litWf (T : Tables) : Lit → Bool
  | .plain lex => scalarsB lex
  | .lang lex tag => scalarsB lex && langOK tag
  | .typed lex dt => scalarsB lex && iriWf T dt
  | .num lex => (match bareLiteralDatatype lex with
      | some dt => dt != xsdBoolean
      | none => false)
  | .bool _ => true

def verbWf (T : Tables) : Verb → Bool
  | .a => true
  | .iri i => iriWf T i

def labelWf (T : Tables) (l : List Nat) : Bool := scalarsB l && labelOK T l

mutual
def objWf (T : Tables) : Obj → Bool
  | .iri i => iriWf T i
  | .bn l => labelWf T l
  | .anon => true
  | .lit l => litWf T l
  | .bnpl pos => !pos.isEmpty && posWf T pos
  | .coll items => itemsWf T items
def itemsWf (T : Tables) : List Obj → Bool
  | [] => true
  | o :: os => objWf T o && itemsWf T os
def poWf (T : Tables) : PO → Bool
  | .mk v os => verbWf T v && !os.isEmpty && itemsWf T os
def posWf (T : Tables) : List PO → Bool
  | [] => true
  | po :: pos => poWf T po && posWf T pos
end

def subjWf (T : Tables) : Subj → Bool
  | .iri i => iriWf T i
  | .bn l => labelWf T l
  | .anon => true
  | .bnpl pos => !pos.isEmpty && posWf T pos
  | .coll items => itemsWf T items

def subjIsBnpl : Subj → Bool
  | .bnpl _ => true
  | _ => false

/-- `triples ::= subject predicateObjectList | blankNodePropertyList predicateObjectList?` -/
def triplesWf (T : Tables) (t : Triples) : Bool :=
  subjWf T t.s && posWf T t.pos && (!t.pos.isEmpty || subjIsBnpl t.s)

def dirWf (T : Tables) : Dir → Bool
  | .prefixAt p r | .prefixKw p r => prefixOK2 T p && scalarsB p && scalarsB r
  | .baseAt r | .baseKw r => scalarsB r

def glabelWf (T : Tables) : GLabel → Bool
  | .iri i => iriWf T i
  | .bn l => labelWf T l
  | .anon => true

/-- `trig = false`: graph blocks do not occur -/
def blockWf (T : Tables) (trig : Bool) : Block → Bool
  | .dir d => dirWf T d
  | .triples t => triplesWf T t
  | .graph kw g body =>
    trig && (match g with | none => !kw | some l => glabelWf T l) && body.all (triplesWf T)

def docWf (T : Tables) (trig : Bool) (doc : Doc) : Bool := doc.all (blockWf T trig)

/-! ### The nesting-free fragment: no `[ … ]` with content, no non-empty `( … )` -/

def objFlat : Obj → Bool
  | .bnpl _ => false
  | .coll (_ :: _) => false
  | _ => true

def poFlat : PO → Bool
  | .mk _ os => os.all objFlat

def subjFlat : Subj → Bool
  | .bnpl _ => false
  | .coll (_ :: _) => false
  | _ => true

def triplesFlat (t : Triples) : Bool := subjFlat t.s && t.pos.all poFlat

def blockFlat : Block → Bool
  | .dir _ => true
  | .triples t => triplesFlat t
  | .graph _ _ body => body.all triplesFlat

def docFlat (doc : Doc) : Bool := doc.all blockFlat

/-! ### Hypotheses that exclude the decoder's known deviations (see Props/C08Doc.lean) -/

/-- finding `pname-bool-prefix`: an object written as a prefixed name whose prefix label starts with
    `true` / `false` is read as the boolean keyword -/
def boolPrefixed (p : List Nat) : Bool := (asc "true").isPrefixOf p || (asc "false").isPrefixOf p

mutual
def objNoBoolPfx : Obj → Bool
  | .iri (.pn p _) => !boolPrefixed p
  | .bnpl pos => posNoBoolPfx pos
  | .coll items => itemsNoBoolPfx items
  | _ => true
def itemsNoBoolPfx : List Obj → Bool
  | [] => true
  | o :: os => objNoBoolPfx o && itemsNoBoolPfx os
def poNoBoolPfx : PO → Bool
  | .mk _ os => itemsNoBoolPfx os
def posNoBoolPfx : List PO → Bool
  | [] => true
  | po :: pos => poNoBoolPfx po && posNoBoolPfx pos
end

def subjNoBoolPfx : Subj → Bool
  | .bnpl pos => posNoBoolPfx pos
  | .coll items => itemsNoBoolPfx items
  | _ => true

def triplesNoBoolPfx (t : Triples) : Bool := subjNoBoolPfx t.s && posNoBoolPfx t.pos

def blockNoBoolPfx : Block → Bool
  | .dir _ => true
  | .triples t => triplesNoBoolPfx t
  | .graph _ _ body => body.all triplesNoBoolPfx

def docNoBoolPfx (doc : Doc) : Bool := doc.all blockNoBoolPfx

/-- finding `keyword-glue`: a keyword not followed by a white-space character -/
def slotOK (s : Slot) : Bool := !s.glue

def choicesOK (ch : Choices) : Bool := ch.all slotOK


/-! ### Table facts (T1) and configuration facts the document-level proofs rest on -/

-- What the proofs use of this list: its members are the ASCII runes outside PN_CHARS (`TablesOK2.delim`).
-- `:` `%` `\` do not end a prefixed name (`TA.nameCont`), so the lemmas on how a token starts except `:` (`PNText.ne`).
/-- characters that delimit tokens: white space, `"` `#` `'` `(` `)` `,` `.` `;` `<` `>` `@` `[` `]` `^` `{` `}`
    `:` `%` `\` `+` -/
def delims : List Nat :=
  [0x09, 0x0a, 0x0d, 0x20, 0x22, 0x23, 0x27, 0x28, 0x29, 0x2c, 0x2e, 0x3b, 0x3c, 0x3e, 0x40, 0x5b, 0x5d, 0x5e,
   0x7b, 0x7d, 0x3a, 0x25, 0x5c, 0x2b]

/-- Facts about the regenerated tables beyond `C02.TablesOK`; proved for the tables of this run in
    `Props/C08DocTables.lean` by `decide` on the entries. -/
structure TablesOK2 (T : Tables) : Prop where
  /-- no delimiter is a name character -/
  delim : ∀ d ∈ delims, inRanges T.pnChars d = false
  base_sub : ∀ c, inRanges T.pnCharsBase c = true → inRanges T.pnCharsU c = true
  u_sub : ∀ c, inRanges T.pnCharsU c = true → inRanges T.pnChars c = true
  /-- ASCII letters are PN_CHARS_BASE -/
  alpha : ∀ c, isAlpha c = true → inRanges T.pnCharsBase c = true
  /-- digits and `-` are not PN_CHARS_BASE / PN_CHARS_U (a numeric token does not start a name) -/
  digit_base : ∀ c, (isDigit c = true ∨ c = 0x2d) → inRanges T.pnCharsU c = false
  /-- `_` starts a blank node label, not a prefixed name -/
  base_us : inRanges T.pnCharsBase 0x5f = false
  us : inRanges T.pnCharsU 0x5f = true
  minus : inRanges T.pnChars 0x2d = true
  /-- NUL is not a name character (step budget of the machine, C05) -/
  nul : inRanges T.pnCharsBase 0 = false

/-- Runes that are never white space for the decoder: name characters (but U+1680, which Go's
    `unicode.IsSpace` contains) and delimiters other than the four white-space characters. -/
def solid (T : Tables) (c : Nat) : Bool :=
  (inRanges T.pnChars c && c != 0x1680) || (delims.contains c && !isWsRune c)

/-- What the theorems need from the decoder configuration: the real token producers over the
    tables `T`, `T`'s PN_CHARS_BASE, and a white-space predicate (Go: `unicode.IsSpace`) that
    contains SP/TAB/LF/CR and no name character or delimiter. -/
structure CfgOK (T : Tables) (C : TtlDoc.Cfg) : Prop where
  prod : C.P = TtlDoc.Producers.real T
  pnb : ∀ c, C.pnBase c = inRanges T.pnCharsBase c
  ws : ∀ c, isWsRune c = true → C.isSpace c = true
  nsp : ∀ c, solid T c = true → C.isSpace c = false

/-! ### Correspondence of results -/

def toBN : B → TtlDoc.BN
  | .anon n => .anon n
  | .lbl l => .lbl l

def toStmt (q : QuadB) : TtlDoc.Stmt :=
  { s := some (q.s.map toBN), p := some (q.p.map toBN), o := q.o.map toBN, g := q.g.map (Term.map toBN) }

end RdfModel.C08
