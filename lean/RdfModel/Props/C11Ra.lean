/-
  Props.C11Ra — property theorems about the executable model of the Go RDFa decoder (Model/RdfaDecoder.lean, the model
  the driver op `rdfa.dec` runs).  Part C11RA (that model with Driver/RdfaDec.lean, Proofs/C11Ra*, Props/C11Ra*):
  serves C05 (no panic), C06 (well-formed statements), C11 (the decoder against the RDFa fragment semantics).

  Hypotheses that occur:
    `EnvOK E`   the six xsdobject time mappers (parameters of the model) return typed literals without a tag, with a
                datatype other than the two language-string datatypes.  (The harness checks this on every oracle entry.)
    `RootOK d`  the start node is not a `head` / `body` element: x/net/html's Parse returns a DocumentNode (DataAtom 0).
                Without it the Go code does crash (`rootless_body_panics` below): html.NewDocument accepts any node,
                and rdfa-in-html rule 8 asserts `ectx.ParentObject.(rdf.SubjectValue)` on the nil parent object.

  Termination ("bounded time"): `walk` / `walkKids` are defined by structural recursion on the DOM tree (no fuel); each
  node is entered exactly once, and per node every loop runs over an attribute value's tokens, the attribute list, the
  pending incomplete triples or the pending list items.  Property copying is a triple join over the statements (cubic;
  C05's known finding C05X-rdfa-pattern-copy is about exactly that) — time bounds are not part of the theorem.
-/
import RdfModel.Proofs.C11RaWalk
import RdfModel.Proofs.C11RaBlocks
import RdfModel.Proofs.C11RaFragment
import RdfModel.Driver.RdfaDec
namespace RdfModel.C11Ra
open RdfModel RdfModel.Rdfad
open RdfModel.Mdd (Node Attr Bytes Subj fields trimSpace)

/-- C05 for the RDFa decoder: on EVERY tree, configuration and oracle the modelled NewDecoder + Next neither crashes
    (`panic`) nor builds a statement / list item with a nil subject or object (`nilTerm`); it ends in `ok stmts`,
    `err` (xml render failed: Next = false, Err set, no statement) or `newErr` (document base did not parse). -/
theorem rdfa_terminates_no_panic (E : Env) (hE : EnvOK E) (cfg : Cfg) (doc : Node) (h : RootOK doc) :
    decode E cfg doc ≠ .panic ∧ decode E cfg doc ≠ .nilTerm := by
  unfold decode
  cases hr : run E cfg doc with
  | none => simp
  | some st =>
    have i := run_inv E hE cfg doc h st hr
    obtain ⟨⟨h1, h2⟩, _, _⟩ := i
    simp only
    cases hb : st.bad with
    | none => simp
    | some b => cases b <;> simp_all

/-- the three outcomes that remain -/
theorem rdfa_outcomes (E : Env) (hE : EnvOK E) (cfg : Cfg) (doc : Node) (h : RootOK doc) :
    (∃ ss u, decode E cfg doc = .ok ss u) ∨ decode E cfg doc = .err ∨ decode E cfg doc = .newErr := by
  have := rdfa_terminates_no_panic E hE cfg doc h
  cases hd : decode E cfg doc with
  | ok ss u => exact Or.inl ⟨ss, u, rfl⟩
  | newErr => exact Or.inr (Or.inr rfl)
  | err => exact Or.inr (Or.inl rfl)
  | panic => rw [hd] at this; exact absurd rfl this.1
  | nilTerm => rw [hd] at this; exact absurd rfl this.2

/-- C06 for the RDFa decoder.  A statement of the model has a subject that is an IRI or a blank node with an identity
    (`Subj`), a predicate that is an IRI (`Bytes`) and an object that is an IRI, blank node or literal (`Obj`) BY TYPE —
    the nil-able positions of the Go code are the `Option`s that `St.emit` turns into the `nilTerm` outcome, excluded by
    `rdfa_terminates_no_panic`.  What remains is the literal shape: every literal object has a non-empty datatype, never
    rdf:dirLangString, and a language tag (non-empty) exactly when the datatype is rdf:langString.
    Absoluteness of IRIs is NOT guaranteed by the code and not claimed: resolveIRI returns `rdf.IRI(value)` unchanged for
    a `prefix:reference` whose prefix is unknown, `rdf.IRI(vocab + term)` for whatever @vocab says (a relative @vocab
    gives relative predicates), and `base.Parse(ref)` is relative whenever the document base is (an empty location). -/
theorem rdfa_emits_wf (E : Env) (hE : EnvOK E) (cfg : Cfg) (doc : Node) (h : RootOK doc) (ss : List Stmt) (u : Bool)
    (hd : decode E cfg doc = .ok ss u) : ∀ t ∈ ss, WFObj t.o := by
  obtain ⟨st, hr, rfl⟩ := decode_ok hd
  exact (run_inv E hE cfg doc h st hr).2.1

/-! ### `EnvOK` for the oracle the driver runs: no hypothesis left on the environment -/

theorem timeEntry_ok (h : String) (lex dt : Bytes) (he : Driver.RdfaDec.timeEntry h = some (lex, dt)) :
    dt ≠ [] ∧ dt ≠ rdfLangString ∧ dt ≠ rdfDirLangString := by
  unfold Driver.RdfaDec.timeEntry at he
  split at he
  · split at he
    · split at he
      · cases he
      · rename_i hn
        simp only [Option.some.injEq, Prod.mk.injEq] at he
        rw [← he.2]
        simp only [not_or] at hn
        exact hn
    · cases he
  · cases he

theorem timeOf_ok (t : Driver.RdfaDec.Table) (k : Nat) (v lex dt : Bytes)
    (he : Driver.RdfaDec.timeOf t k v = some (lex, dt)) : dt ≠ [] ∧ dt ≠ rdfLangString ∧ dt ≠ rdfDirLangString := by
  unfold Driver.RdfaDec.timeOf at he
  split at he
  · cases he
  · exact timeEntry_ok _ lex dt he
  · cases he

/-- the oracle built from ANY table satisfies `EnvOK` -/
theorem driver_env_ok (t : Driver.RdfaDec.Table) : EnvOK (Driver.RdfaDec.envOf t) := by
  intro f hf v lex dt hv
  simp only [Driver.RdfaDec.envOf, List.mem_cons, List.mem_nil_iff, or_false] at hf
  rcases hf with rfl | rfl | rfl | rfl | rfl | rfl <;> exact timeOf_ok t _ v lex dt hv

/-- C05 / C06 for what `rdfa.dec` executes: for every oracle table, configuration and tree whose root is not a head / body
    element the run neither panics nor builds a nil term, and every literal it yields is well-formed — no hypothesis on the
    environment. -/
theorem rdfa_driver_no_panic_wf (t : Driver.RdfaDec.Table) (cfg : Cfg) (doc : Node) (h : RootOK doc) :
    decode (Driver.RdfaDec.envOf t) cfg doc ≠ .panic ∧ decode (Driver.RdfaDec.envOf t) cfg doc ≠ .nilTerm ∧
      ∀ ss u, decode (Driver.RdfaDec.envOf t) cfg doc = .ok ss u → ∀ s ∈ ss, WFObj s.o :=
  ⟨(rdfa_terminates_no_panic _ (driver_env_ok t) cfg doc h).1, (rdfa_terminates_no_panic _ (driver_env_ok t) cfg doc h).2,
   fun ss u hd => rdfa_emits_wf _ (driver_env_ok t) cfg doc h ss u hd⟩

/-! ### the hypotheses are satisfiable, and needed -/

/-- an oracle whose first time mapper recognises one date -/
def exEnv : Env :=
  { parseBase := fun v => some v, xmlBase := fun _ v => some v, resolve := fun b v => some (b ++ v), lower := id,
    timeMaps := [fun v => if v = asc "2020-01-02" then some (v, asc "http://www.w3.org/2001/XMLSchema#date") else none],
    xmlRender := fun _ => some [], htmlRender := fun _ => some [] }

example : EnvOK exEnv := by
  intro f hf v lex dt hv
  simp only [exEnv, List.mem_singleton] at hf
  subst hf
  simp only at hv
  split at hv
  · simp only [Option.some.injEq, Prod.mk.injEq] at hv
    rw [← hv.2]; exact ⟨asc_ne_nil (by decide), asc_ne (by decide), asc_ne (by decide)⟩
  · cases hv

/-- `<#document><html><body><span about="_:a" property="http://p/" content="x" lang="en">` -/
def exDoc : Node :=
  .mk 0 2 [] [] [] []
    [.mk 0 3 [] (asc "html") [] []
      [.mk 0 3 [] (asc "body") [] []
        [.mk 0 3 [] (asc "span") [] [⟨[], asc "about", asc "_:a"⟩, ⟨[], asc "property", asc "http://p/"⟩,
            ⟨[], asc "content", asc "x"⟩, ⟨[], asc "lang", asc "en"⟩] []]]]

example : RootOK exDoc := by unfold RootOK; decide

example : decode exEnv { base := asc "http://ex.org/" } exDoc =
    .ok [⟨.bn 0, asc "http://p/", .lit (asc "x") rdfLangString (some (asc "en"))⟩] false := by decide +kernel

/-- Without `RootOK`: a document handed to the decoder as a bare `<body>` element (html.NewDocument accepts any root) under
    an explicitly active profile makes rule 8 assert on the nil parent object. -/
theorem rootless_body_panics :
    decode exEnv { profile := 0b111110 } (.mk 0 3 [] (asc "body") [] [] []) = .panic := by decide

/-! ### C11: the model decoder against the fragment semantics (partial)

  `Spec.Rdfa.denote` (Spec/RdfaFragment.lean) is the denotation the writer round trip `C11.rdfa_roundtrip` is proved
  for; its fallback markup of one triple is `Spec.Rdfa.canon`:  `<span about property content lang>` for a plain or
  language-tagged literal object, `<span about rel resource>` for a resource object, and `C11.rdfa_canonical_block`
  proves that in every context without pending incomplete triples the denotation of such a block is exactly that triple
  (subject = what @about resolves to, predicate = the single IRI @property/@rel resolves to).

  The two theorems below prove the SAME for the model of the Go decoder: on the DOM element of such a block (attributes
  in the writer's order; attribute order is covered by the T3 tie only), in every evaluation context without pending
  incomplete triples and with an empty list mapping, under every profile and configuration, `walk` appends exactly that
  one statement and does not fail.  Hypotheses `hS`/`hO`/`hP` say what the attribute values resolve to in the model
  (`resolveIRI` / `resolveTokens`, without allocating a blank node — true for IRIs and for `_:l` labels already seen);
  they are the model-side counterparts of `okRes` / `okPred` of the denotation.

  Proved (element level): about + property + content + lang; about + rel + resource; and, on the attribute text (further
  down), @datatype, @typeof, @rel/@rev chaining across one nesting level, a one-item @inlist.
  MISSING for a refinement statement on the whole fragment (none is written down for RDFa; Microdata has
  `C11Md.mdd_refines_denote`): agreement of the two resolvers (`resolveIRI` vs `resSCI`/`resTCA`) as a
  theorem instead of a hypothesis; chaining in general (inherited subjects, deeper nesting); lists of several items;
  @prefix/@vocab scoping; the html/head/body skeleton and the composition over a document (hence no composed
  statement with `rdfa_roundtrip` yet); first allocation of a `_:l` blank node; attribute order.  All of these are tied by
  T3 only (go/cmd/c11ra: model = Go; go/cmd/c11: Go = denotation). -/

/-- the model decoder on the literal canonical block `<span about=s property=pv content=c lang=lg>` -/
theorem rdfa_refines_denote_partial (E : Env) (cfg : Cfg) (ctx : Ctx) (st : St) (i : Nat) (s pv c lg : Bytes) (S : Subj)
    (p : Bytes) (hbad : st.bad = none) (hinc : ctx.incomplete = []) (hmap : st.getMap ctx.listMapping = [])
    (hS : ∀ m, resolveIRI E { st with maps := m } ctx.prefixes s (some ctx.base) (some ctx.vocab) true true =
      (some S, { st with maps := m }))
    (hP : ∀ m, resolveTokens E ctx.prefixes (some ctx.vocab) true (fields (trimSpace pv)) { st with maps := m } =
      ([p], { st with maps := m })) :
    (walk E cfg false ctx st (litBlock i s pv c lg)).bad = none ∧
    (walk E cfg false ctx st (litBlock i s pv c lg)).out = st.out ++ [⟨S, p, plainLit c lg⟩] := by
  rw [literal_block_pending E cfg ctx st i s pv c lg S p [] hbad hmap hS hP
    (by intro l st0 hs hk _; simp [step12, hs, hk, hinc])]
  exact ⟨hbad, rfl⟩

/-- the model decoder on the resource canonical block `<span about=s rel=pv resource=r>` -/
theorem rdfa_refines_denote_resource_partial (E : Env) (cfg : Cfg) (ctx : Ctx) (st : St) (i : Nat) (s pv r : Bytes)
    (S O : Subj) (p : Bytes) (hbad : st.bad = none) (hinc : ctx.incomplete = []) (hmap : st.getMap ctx.listMapping = [])
    (hS : ∀ m, resolveIRI E { st with maps := m } ctx.prefixes s (some ctx.base) (some ctx.vocab) true true =
      (some S, { st with maps := m }))
    (hO : ∀ m, resolveIRI E { st with maps := m } ctx.prefixes r (some ctx.base) (some ctx.vocab) true true =
      (some O, { st with maps := m }))
    (hP : ∀ m, resolveTokens E ctx.prefixes (some ctx.vocab) true (fields (trimSpace pv)) { st with maps := m } =
      ([p], { st with maps := m })) :
    (walk E cfg false ctx st (resBlock i s pv r)).bad = none ∧
    (walk E cfg false ctx st (resBlock i s pv r)).out = st.out ++ [⟨S, p, O.term⟩] :=
  resource_block E cfg ctx st i s pv r S O p hbad hinc hmap hS hO hP

/-! #### on the attribute TEXT (resolver hypotheses discharged)

  `refIRI prefixes v = some i`: the text `v` is an absolute IRI whose scheme is not a prefix in scope (then `i = v`) or a CURIE
  whose prefix is in scope (then `i` = expansion ++ reference) — decidable on the text and the in-scope mapping alone;
  `resolveIRI_ref` proves that the decoder's resolveIRI then returns `i` whatever the base, vocabulary, term mappings, oracle and
  state are.  `predIRI` / `typeIRI`: a one-token @property/@rel / @typeof value with such a token.  Blank-node references
  (`_:l`: they change the label map), terms, relative references (oracle-dependent) and bracketed CURIEs stay outside. -/

/-- resolveIRI on the text of an absolute IRI / in-scope CURIE -/
theorem rdfa_resolve_text (E : Env) (st : St) (prefixes : List (Bytes × Bytes)) (v : Bytes) (base : Option Bytes)
    (dv : Option Vocab) (safe terms : Bool) (i : Bytes) (h : refIRI prefixes v = some i) :
    resolveIRI E st prefixes v base dv safe terms = (some (.iri i), st) :=
  resolveIRI_ref E h st base dv safe terms

/-- `<span about=s property=pv content=c lang=lg>` ↦ `S p "c"(@lg)` -/
theorem rdfa_refines_denote_literal_text_partial (E : Env) (cfg : Cfg) (ctx : Ctx) (st : St) (i : Nat)
    (s pv c lg S p : Bytes) (hbad : st.bad = none) (hinc : ctx.incomplete = []) (hmap : st.getMap ctx.listMapping = [])
    (hs : refIRI ctx.prefixes s = some S) (hp : predIRI ctx.prefixes pv = some p) :
    (walk E cfg false ctx st (litBlock i s pv c lg)).bad = none ∧
    (walk E cfg false ctx st (litBlock i s pv c lg)).out = st.out ++ [⟨.iri S, p, plainLit c lg⟩] :=
  rdfa_refines_denote_partial E cfg ctx st i s pv c lg (.iri S) p hbad hinc hmap
    (fun _ => resolveIRI_ref E hs _ _ _ true true) (fun _ => resolveTokens_pred E hp _ _ true)

/-- `<span about=s rel=pv resource=r>` ↦ `S p O` -/
theorem rdfa_refines_denote_resource_text_partial (E : Env) (cfg : Cfg) (ctx : Ctx) (st : St) (i : Nat)
    (s pv r S O p : Bytes) (hbad : st.bad = none) (hinc : ctx.incomplete = []) (hmap : st.getMap ctx.listMapping = [])
    (hs : refIRI ctx.prefixes s = some S) (ho : refIRI ctx.prefixes r = some O) (hp : predIRI ctx.prefixes pv = some p) :
    (walk E cfg false ctx st (resBlock i s pv r)).bad = none ∧
    (walk E cfg false ctx st (resBlock i s pv r)).out = st.out ++ [⟨.iri S, p, .iri O⟩] :=
  resource_block E cfg ctx st i s pv r (.iri S) (.iri O) p hbad hinc hmap
    (fun _ => resolveIRI_ref E hs _ _ _ true true) (fun _ => resolveIRI_ref E ho _ _ _ true true)
    (fun _ => resolveTokens_pred E hp _ _ true)

/-- @datatype + @content: `<span about=s property=pv content=c datatype=d lang="">` ↦ `S p "c"^^dt` for every datatype other
    than the two language-string datatypes, rdf:XMLLiteral and rdf:HTML (which the decoder treats differently) -/
theorem rdfa_refines_denote_typed_partial (E : Env) (cfg : Cfg) (ctx : Ctx) (st : St) (i : Nat) (s pv c d S p dt : Bytes)
    (hbad : st.bad = none) (hinc : ctx.incomplete = []) (hmap : st.getMap ctx.listMapping = [])
    (hs : refIRI ctx.prefixes s = some S) (hp : predIRI ctx.prefixes pv = some p) (hd : refIRI ctx.prefixes d = some dt)
    (hd0 : dt ≠ []) (hd1 : dt ≠ rdfLangString) (hd2 : dt ≠ rdfDirLangString) (hd3 : dt ≠ rdfXMLLiteral) (hd4 : dt ≠ rdfHTML) :
    (walk E cfg false ctx st (typedBlock i s pv c d)).bad = none ∧
    (walk E cfg false ctx st (typedBlock i s pv c d)).out = st.out ++ [⟨.iri S, p, .lit c dt none⟩] :=
  typed_block_text E cfg ctx st i s pv c d S p dt hbad hinc hmap hs hp hd hd0 hd1 hd2 hd3 hd4

/-- @typeof: `<span about=s typeof=ty>` ↦ `S rdf:type T` (typed resource = the @about subject) -/
theorem rdfa_refines_denote_typeof_partial (E : Env) (cfg : Cfg) (ctx : Ctx) (st : St) (i : Nat) (s ty S T : Bytes)
    (hbad : st.bad = none) (hinc : ctx.incomplete = []) (hmap : st.getMap ctx.listMapping = [])
    (hs : refIRI ctx.prefixes s = some S) (ht : typeIRI ctx.prefixes ty = some T) :
    (walk E cfg false ctx st (typeofBlock i s ty)).bad = none ∧
    (walk E cfg false ctx st (typeofBlock i s ty)).out = st.out ++ [⟨.iri S, rdfType, .iri T⟩] :=
  typeof_block_text E cfg ctx st i s ty S T hbad hinc hmap hs ht

/-- chaining with an incomplete triple across one nesting level:
    `<div about=s rel=pv><span about=o property=qv content=c lang=lg/></div>` ↦ `O q "c" . S p O`, in that order (the order
    `C11.rdfa_chaining` gives for the denotation); the hanging @rel's blank node is made and never mentioned -/
theorem rdfa_refines_denote_chaining_partial (E : Env) (cfg : Cfg) (ctx : Ctx) (st : St) (i j : Nat)
    (s pv o qv c lg S p O q : Bytes) (hbad : st.bad = none) (hinc : ctx.incomplete = [])
    (hmap : st.getMap ctx.listMapping = [])
    (hs : refIRI ctx.prefixes s = some S) (hp : predIRI ctx.prefixes pv = some p)
    (ho : refIRI ctx.prefixes o = some O) (hq : predIRI ctx.prefixes qv = some q) :
    (walk E cfg false ctx st (chainBlock i j s pv o qv c lg)).bad = none ∧
    (walk E cfg false ctx st (chainBlock i j s pv o qv c lg)).out =
      st.out ++ [⟨.iri O, q, plainLit c lg⟩, ⟨.iri S, p, .iri O⟩] :=
  hang_block_text E cfg ctx st i j false s pv o qv c lg S p O q hbad hinc hmap hs hp ho hq

/-- @rev chaining across one nesting level: `<div about=s rev=pv><span about=o property=qv content=c lang=lg/></div>` ↦
    `O q "c" . O p S` -/
theorem rdfa_refines_denote_rev_chaining_partial (E : Env) (cfg : Cfg) (ctx : Ctx) (st : St) (i j : Nat)
    (s pv o qv c lg S p O q : Bytes) (hbad : st.bad = none) (hinc : ctx.incomplete = [])
    (hmap : st.getMap ctx.listMapping = [])
    (hs : refIRI ctx.prefixes s = some S) (hp : predIRI ctx.prefixes pv = some p)
    (ho : refIRI ctx.prefixes o = some O) (hq : predIRI ctx.prefixes qv = some q) :
    (walk E cfg false ctx st (revChainBlock i j s pv o qv c lg)).bad = none ∧
    (walk E cfg false ctx st (revChainBlock i j s pv o qv c lg)).out =
      st.out ++ [⟨.iri O, q, plainLit c lg⟩, ⟨.iri O, p, .iri S⟩] :=
  hang_block_text E cfg ctx st i j true s pv o qv c lg S p O q hbad hinc hmap hs hp ho hq

/-- @inlist: `<span about=s property=pv content=c lang=lg inlist>` whose subject differs from the parent subject (so that step 8
    starts a new list mapping and step 14 of this element emits it) ↦ a one-cell list `b first "c" . b rest nil . S p b` with
    `b` the next blank node.  `hlm`, `hfresh`: the context's list mapping exists and does not mention the list id about to be
    allocated (heap well-formedness; true for every state `walk` reaches — not proved here). -/
theorem rdfa_refines_denote_inlist_partial (E : Env) (cfg : Cfg) (ctx : Ctx) (st : St) (i : Nat) (s pv c lg S p : Bytes)
    (hbad : st.bad = none) (hinc : ctx.incomplete = [])
    (hps : ∀ z, ctx.parentSubject = some z → subjEq z (.iri S) = false)
    (hlm : ctx.listMapping < st.maps.length) (hfresh : alookup p (st.getMap ctx.listMapping) ≠ some st.lists.length)
    (hs : refIRI ctx.prefixes s = some S) (hp : predIRI ctx.prefixes pv = some p) :
    (walk E cfg false ctx st (inlistBlock i s pv c lg)).bad = none ∧
    (walk E cfg false ctx st (inlistBlock i s pv c lg)).out =
      st.out ++ [⟨.bn st.nextBn, rdfFirst, plainLit c lg⟩, ⟨.bn st.nextBn, rdfRest, .iri rdfNil⟩,
                 ⟨.iri S, p, .bnode st.nextBn⟩] :=
  inlist_block_text E cfg ctx st i s pv c lg S p hbad hinc hps hlm hfresh hs hp

/-- the text-level hypotheses are decidable and hold for ordinary markup: an absolute IRI, a CURIE with `ex` in scope -/
example : refIRI [(asc "ex", asc "http://v/")] (asc "http://a.example/x") = some (asc "http://a.example/x") ∧
    predIRI [(asc "ex", asc "http://v/")] (asc " ex:p ") = some (asc "http://v/p") ∧
    typeIRI [(asc "ex", asc "http://v/")] (asc "ex:T") = some (asc "http://v/T") ∧
    refIRI [(asc "ex", asc "http://v/")] (asc "ex") = none ∧ refIRI [(asc "ex", asc "http://v/")] (asc "_:b") = none := by decide +kernel

/-- the hypotheses of the two block theorems hold for a non-trivial context: an absolute IRI subject and object, a CURIE
    predicate, under the example oracle -/
example :
    let ctx : Ctx := { base := asc "http://ex.org/", listMapping := 0, prefixes := [(asc "ex", asc "http://v/")],
                       parentSubject := some (.iri (asc "http://ex.org/")), parentObject := some (.iri (asc "http://ex.org/")) }
    (walk exEnv {} false ctx (initSt {}) (resBlock 7 (asc "http://a/") (asc "ex:p") (asc "http://b/"))).out =
      [⟨.iri (asc "http://a/"), asc "http://v/p", .iri (asc "http://b/")⟩] := by decide +kernel

end RdfModel.C11Ra
