/-
  Property C19 — the in-memory dataset behaves as a mathematical set of quads (theorems only;
  helper lemmas live in RdfModel/Proofs/C19*.lean).

  All theorems are about `RdfModel.DS` (Model/Dataset.lean), the executable model the driver runs
  (component "ds"). The reference semantics is `Spec.QuadSet` (a plain set; quad equality is
  structural = RDF term equality component-wise, see `termEquals_iff_eq`).

  Quantifier: every finite history of the property's operations (`POp`) whose arguments are
  well-formed (`POp.WF`: non-nil terms, blank nodes with an identifier, literals with a tag exactly
  on the tagged datatypes) — no bound on the universe or the history length — and every list of
  matchers whatsoever (including matchers foreign to the repository: `custom`).

  Recorded assumptions (not proved): the 96-bit truncated SHA-256 is injective on the byte strings
  hashed (the model keys literal nodes by the byte string itself); `strconv.Quote` is prefix-free
  and never emits a raw LF (the model's `quote` is proved to be); Go map iteration visits every
  entry exactly once in some order (the model fixes insertion order; the theorems below are
  statements about membership and multiplicity, or equations between two results of the same
  traversal, so they hold for every order).
-/
import RdfModel.Props.C19Defs
import RdfModel.Proofs.C19Refine
import RdfModel.Proofs.C19Match
namespace RdfModel.C19
open RdfModel.DS
open RdfModel.Spec

/-! ## Term identity -/

/-- `"x"@en` -/
def exTaggedEnL : Literal := ⟨rdfLangString, [0x78], some (.lang [0x65, 0x6e])⟩
def exTaggedEn : Term := .lit exTaggedEnL

/-- The byte string `bindNode` hashes (`Datatype "\n" [tag line] LexicalForm`) is unambiguous on
    well-formed literals: equal keys, equal literals. -/
theorem literal_key_injective (a b : Literal) (ha : WFLiteral a) (hb : WFLiteral b)
    (h : litKeyBytes a = litKeyBytes b) : a = b :=
  Proofs.C19.literal_key_injective a b ha hb h

example : WFLiteral ⟨rdfLangString, [0x78], some (.lang [0x65, 0x6e])⟩ ∧ WFLiteral ⟨[0x61], [0x6c, 0x0a], none⟩ := by decide +kernel

/-- Outside the quantifier (documented, not a violation): ill-formed literals do collide.
    `"lang=\"en\"\nx"^^rdf:langString` *without* a tag hashes the same bytes as `"x"@en`;
    likewise a datatype IRI containing a line feed. -/
example : litKeyBytes ⟨rdfLangString, bLang ++ quote [0x65, 0x6e] ++ [0x0a, 0x78], none⟩
    = litKeyBytes ⟨rdfLangString, [0x78], some (.lang [0x65, 0x6e])⟩ := by decide +kernel
example : litKeyBytes ⟨[0x61, 0x0a, 0x62], [0x63], none⟩ = litKeyBytes ⟨[0x61], [0x62, 0x0a, 0x63], none⟩ := by decide +kernel

/-- Hence the class of the finding `literal-key-collision-illformed` (two DIFFERENT literals that the
    store cannot tell apart) contains only pairs with an ill-formed member. -/
theorem literal_key_collision_illformed (a b : Literal) (hne : a ≠ b)
    (h : litKeyBytes a = litKeyBytes b) : ¬ WFLiteral a ∨ ¬ WFLiteral b :=
  Decidable.not_and_iff_not_or_not.1 fun ⟨ha, hb⟩ => hne (Proofs.C19.literal_key_injective a b ha hb h)

/-- … and the class is inhabited, with the set semantics visibly lost (finding C19-K2; replayed on the
    Go code by the harness corpus): after adding `s p "x"@en` and then `s p "lang=\"en\"\nx"^^rdf:langString`
    (no tag) the second add is swallowed, the iteration reports one quad, and `HasQuad` of the second
    answers `true` on a dataset it was never stored in. -/
def exCollL : Literal := ⟨rdfLangString, bLang ++ quote [0x65, 0x6e] ++ [0x0a, 0x78], none⟩
def exColl : Term := .lit exCollL

example : exCollL ≠ exTaggedEnL ∧ litKeyBytes exCollL = litKeyBytes exTaggedEnL ∧ ¬ WFLiteral exCollL := by decide +kernel

example :
    (run init [.addQuad ⟨some (.iri [0x61]), some (.iri [0x70]), some exTaggedEn, none⟩,
               .addQuad ⟨some (.iri [0x61]), some (.iri [0x70]), some exColl, none⟩,
               .iterQuads []]).2
      = [.unit, .unit, .quads [⟨.iri [0x61], .iri [0x70], exTaggedEn, none⟩]] ∧
    (run init [.addQuad ⟨some (.iri [0x61]), some (.iri [0x70]), some exTaggedEn, none⟩,
               .hasQuad ⟨some (.iri [0x61]), some (.iri [0x70]), some exColl, none⟩]).2
      = [.unit, .bool true] := by decide +kernel

/-- Two well-formed terms are interned as the same node only if they are the same term. -/
theorem intern_injective (a b : Term) (ha : WFTerm a) (hb : WFTerm b) (h : keyOf a = keyOf b) : a = b :=
  Proofs.C19.keyOf_injective a b ha hb h

/-- `TermEquals` (the three Go methods, blank-node identifiers compared by
    `EqualsBlankNodeIdentifier`, tags by `LiteralTag.Equals`) is equality of terms, and is false
    against nil. So the plain-set specification's quad equality *is* RDF term equality. -/
theorem termEquals_iff_eq (t : Term) (ht : WFTerm t) (u : Option Term) :
    t.termEquals u = true ↔ u = some t :=
  Proofs.C19.termEquals_iff t ht.hasIdentity u

example : WFTerm (.bnode (some (.scoped 1 1))) ∧ WFTerm (.iri []) := by decide +kernel

/-- Outside the quantifier: a blank node without identifier is not `TermEquals` to itself, but the
    dataset interns it under the struct value and so treats it as equal to itself. -/
example : (Term.bnode none).termEquals (some (.bnode none)) = false ∧ keyOf (.bnode none) = keyOf (.bnode none) := by decide +kernel

/-! ### Equality beyond well-formed literals

The property's universe contains "literals differing only in datatype, tag or lexical form": two
literals that differ only in the PRESENCE of a tag (one of them is then not a well-formed RDF
literal) are different terms. The equality and matcher theorems therefore do not assume `WFLiteral`:
the hypothesis is `HasIdentity` (everything but the blank node without identifier). -/

/-- `Literal.TermEquals` is structural equality on ALL literals, ill-formed ones included: same
    datatype, same lexical form, same tag (presence, kind, language, direction). -/
theorem literal_equals_iff_eq (a b : Literal) :
    a.equals b = true ↔ a.dt = b.dt ∧ a.lex = b.lex ∧ a.tag = b.tag := by
  rw [Proofs.C19.Literal.equals_iff]
  obtain ⟨_, _, _⟩ := a; obtain ⟨_, _, _⟩ := b
  simp

/-- `TermEquals` is symmetric on every pair of terms (no hypothesis: a blank node without identifier
    equals nothing, from either side). -/
theorem termEquals_symm (t u : Term) : t.termEquals (some u) = u.termEquals (some t) := by
  rw [Bool.eq_iff_iff, Proofs.C19.termEquals_true_iff, Proofs.C19.termEquals_true_iff]
  constructor <;> rintro ⟨h, hid⟩ <;> cases h <;> exact ⟨rfl, hid⟩

/-- `termEquals_iff_eq` for every term with an identity: a literal of any shape, an IRI, a blank node
    with an identifier. -/
theorem termEquals_iff_eq_identity (t : Term) (ht : HasIdentity t) (u : Option Term) :
    t.termEquals u = true ↔ u = some t :=
  Proofs.C19.termEquals_iff t ht u

/-- `"x"^^rdf:langString` without a tag (ill-formed, but a term with an identity) and `"x"@en` -/
def exUntagged : Term := .lit ⟨rdfLangString, [0x78], none⟩
def exTagged : Term := exTaggedEn

example : HasIdentity exUntagged ∧ ¬ WFTerm exUntagged ∧ WFTerm exTagged := by decide +kernel

/-- The two differ only in the presence of the tag: not equal, from either side (the asymmetric
    comparison of seeded defect C19r3-1 answers `true` for the first), and the store keeps them apart. -/
example : exUntagged.termEquals (some exTagged) = false ∧ exTagged.termEquals (some exUntagged) = false
    ∧ keyOf exUntagged ≠ keyOf exTagged := by decide +kernel

/-! ## Refinement -/

/-- After any history, the stored quads are exactly (as a multiset: `Perm` with a duplicate-free
    list) those a plain set would hold after the same history, and every output along the way —
    `HasQuad`/`HasTriple` answers, drained `NewQuadIterator`/`NewTripleIterator` results for
    arbitrary matcher lists, through the dataset or through per-graph views — agrees with the
    plain set's output (Booleans equal, iterations equal up to order, with multiplicity).
    Consequences: nothing lost, no duplicates, deletions of absent quads change nothing. -/
theorem refines_set (ops : List POp) (hwf : ∀ op ∈ ops, op.WF) :
    (abs (run init (ops.map POp.toOp)).1).Perm (QuadSet.run [] (ops.map POp.spec)).1 ∧
    (abs (run init (ops.map POp.toOp)).1).Nodup ∧
    OutsAgree (run init (ops.map POp.toOp)).2 (QuadSet.run [] (ops.map POp.spec)).2 :=
  Proofs.C19.refines_set ops hwf

def exQ1 : Quad := ⟨.iri [0x61], .iri [0x70], .lit ⟨rdfLangString, [0x78], some (.lang [0x65, 0x6e])⟩, none⟩
def exQ2 : Quad := ⟨.bnode (some (.scoped 1 1)), .iri [0x70], .bnode (some (.dflt 1)), some (.iri [0x67])⟩

/-- a non-trivial history satisfying the hypothesis -/
def exHistory : List POp :=
  [.addQuad exQ1, .viewAdd (some (.iri [0x67])) exQ2.triple, .addQuad exQ1, .deleteQuad exQ2, .hasQuad exQ1,
   .iterQuads [.triple (.subject (.equals (.iri [0x61]))), .object .isLiteral]]

example : ∀ op ∈ exHistory, op.WF := by decide +kernel

/-- A state reachable by a history of well-formed operations (the hypothesis of the theorems below). -/
theorem reachable_init : Reachable init := ⟨[], by simp, rfl⟩

theorem reachable_step {s : State} (h : Reachable s) (op : POp) (hop : op.WF) :
    Reachable (step s op.toOp).1 := by
  obtain ⟨ops, hwf, rfl⟩ := h
  refine ⟨ops ++ [op], ?_, ?_⟩
  · intro o ho
    rcases List.mem_append.1 ho with h1 | h1
    · exact hwf o h1
    · simp at h1; subst h1; exact hop
  · have key : ∀ (l : List Op) (s0 : State) (o : Op), (run s0 (l ++ [o])).1 = (step (run s0 l).1 o).1 := by
      intro l
      induction l with
      | nil => intro s0 o; simp [run]
      | cons a l ih => intro s0 o; simp only [List.cons_append, run]; exact ih _ o
    rw [List.map_append, List.map_singleton, key]

/-! ## Iteration -/

/-- `NewQuadIterator(ms...)` returns exactly the stored quads that satisfy all the matchers: a list
    equation with the traversal of the store, on all three paths of `newQuadIterator` (no matcher /
    exactly one triple-subject matcher = fast path / otherwise). Holds in every state. -/
theorem iterate_matchers (s : State) (ms : List QM) :
    iterQuads s ms = (abs s).filter (fun q => ms.all (fun m => m.matches q)) :=
  Proofs.C19.iterQuads_eq s ms

/-- The same for `GetGraph(g).NewTripleIterator(ms...)`: the triples of the stored quads of graph
    `g` that satisfy all the matchers (incl. the single-subject-matcher fast path). -/
theorem iterate_matchers_view {s : State} (h : Reachable s) (g : Option Term) (ms : List TrM) :
    (step s (.viewIter g ms)).2 = .triples
      ((((abs s).filter (fun q => decide (q.g = g))).map Quad.triple).filter
        (fun t => ms.all (fun m => m.matches t))) := by
  simp only [step]
  rw [Proofs.C19.viewTriples_eq (Proofs.C19.inv_of_reachable h).gkeys]

/-- No quad is reported twice, whatever the matchers; likewise for per-graph triple iteration. -/
theorem no_duplicates {s : State} (h : Reachable s) (ms : List QM) : (iterQuads s ms).Nodup := by
  rw [iterate_matchers]
  exact (Proofs.C19.nodup_abs (Proofs.C19.inv_of_reachable h)).filter _

theorem no_duplicates_view {s : State} (h : Reachable s) (g : Option Term) (ms : List TrM) :
    (viewTriples (ensureGraph s g) g ms).Nodup := by
  have hi := Proofs.C19.inv_of_reachable h
  rw [Proofs.C19.viewTriples_eq hi.gkeys]
  refine List.Pairwise.filter _ (List.pairwise_map.2 ?_)
  refine ((Proofs.C19.nodup_abs hi).filter _).imp_of_mem fun {a b} ha hb hab e => hab ?_
  have ga := of_decide_eq_true (List.mem_filter.1 ha).2
  have gb := of_decide_eq_true (List.mem_filter.1 hb).2
  cases a; cases b; simp_all [Quad.triple]

/-- `HasQuad` answers membership in the stored set. -/
theorem has_iff_mem {s : State} (h : Reachable s) (q : Quad) (hq : WFQuad q) :
    (hasQuad s q.toIn).2 = .bool (decide (q ∈ abs s)) :=
  (Proofs.C19.hasQuad_spec s q (Proofs.C19.inv_of_reachable h) hq).2.2

/-- Deleting an absent quad leaves the stored quads (and their traversal order) untouched. -/
theorem delete_absent_noop {s : State} (h : Reachable s) (q : Quad) (hq : WFQuad q) (hn : q ∉ abs s) :
    abs (deleteQuad s q.toIn).1 = abs s ∧ (deleteQuad s q.toIn).2 = .unit :=
  have ⟨_, ho, _, ha⟩ := Proofs.C19.deleteQuad_spec s q (Proofs.C19.inv_of_reachable h) hq
  ⟨ha hn, ho⟩

example : WFQuad exQ1 ∧ exQ1 ∉ abs init := by decide +kernel

/-! ## Matchers and term equality -/

/-- `terms.Equals{u}` matches exactly `u`. -/
theorem equals_spec (u : Term) (hu : WFTerm u) (t : Option Term) :
    (TM.equals u).matches t = true ↔ t = some u :=
  Proofs.C19.equals_matches_iff u hu.hasIdentity t

/-- `terms.EqualsOneOf(ts...)` — compiled maps or the single-IRI shortcut — matches `t` iff some
    expected term is `TermEquals` to `t`. No hypothesis: nil entries and blank nodes without
    identifier in `ts` never match, exactly as `TermEquals` says. -/
theorem equalsOneOf_spec (ts : List (Option Term)) (t : Option Term) :
    (equalsOneOf ts).matches t =
      ts.any (fun u => match u with | some u => u.termEquals t | none => false) :=
  Proofs.C19.equalsOneOf_spec ts t

/-- … hence, on well-formed expected terms, iff `t` is one of them. -/
theorem equalsOneOf_mem (ts : List Term) (hts : ∀ u ∈ ts, WFTerm u) (t : Option Term) :
    (equalsOneOf (ts.map some)).matches t = true ↔ ∃ u ∈ ts, t = some u :=
  Proofs.C19.equalsOneOf_matches_iff ts (fun u hu => (hts u hu).hasIdentity) t

example : ∀ u ∈ [Term.iri [0x61], .lit ⟨[0x64], [0x78], none⟩], WFTerm u := by decide +kernel

/-- `equals_spec` / `equalsOneOf_mem` for expected terms of any shape that have an identity
    (ill-formed literals included). -/
theorem equals_spec_identity (u : Term) (hu : HasIdentity u) (t : Option Term) :
    (TM.equals u).matches t = true ↔ t = some u :=
  Proofs.C19.equals_matches_iff u hu t

theorem equalsOneOf_mem_identity (ts : List Term) (hts : ∀ u ∈ ts, HasIdentity u) (t : Option Term) :
    (equalsOneOf (ts.map some)).matches t = true ↔ ∃ u ∈ ts, t = some u :=
  Proofs.C19.equalsOneOf_matches_iff ts hts t

example : ∀ u ∈ [exUntagged, Term.iri [0x71]], HasIdentity u := by decide +kernel

/-- The matchers built from the untagged literal do not select the tagged one (compiled form), and
    an iteration restricted to it over a dataset holding the tagged one is empty, as `HasQuad` says. -/
example : (equalsOneOf [some exUntagged, some (.iri [0x71])]).matches (some exTagged) = false
    ∧ (TM.equals exUntagged).matches (some exTagged) = false := by decide +kernel

example :
    (run init [.addQuad ⟨some (.iri [0x61]), some (.iri [0x70]), some exTagged, none⟩,
               .iterQuads [.object (.equals exUntagged)],
               .iterQuads [.triple (.object (equalsOneOf [some exUntagged, some (.iri [0x71])]))],
               .hasQuad ⟨some (.iri [0x61]), some (.iri [0x70]), some exUntagged, none⟩]).2
      = [.unit, .quads [], .quads [], .bool false] := by decide +kernel

/-! ## Per-graph views -/

/-- `GetGraph(g).AddTriple(t)` / `.DeleteTriple(t)` are *the same state transformer and output* as
    `AddQuad` / `DeleteQuad` with graph name `g` (any arguments, any state). -/
theorem view_consistency_write (s : State) (g : Option Term) (t : TripleIn) :
    step s (.viewAdd g t) = step s (.addQuad (t.asQuad g)) ∧
    step s (.viewDelete g t) = step s (.deleteQuad (t.asQuad g)) := by
  simp only [step, addQuad, deleteQuad, show (t.asQuad g).g = g from rfl, Proofs.C19.ensureGraph_idem,
    and_self]

/-- `GetGraph(g).HasTriple(t)` answers like `HasQuad` with graph name `g` and leaves the same quads
    stored (the two differ in which nodes and empty graphs they allocate: `GetGraph` creates the
    graph, after which `HasQuad` interns the three terms). -/
theorem view_consistency_has {s : State} (h : Reachable s) (g : Option Term) (t : Triple)
    (hg : WFGraphName g) (ht : WFTriple t) :
    (step s (.viewHas g (tripleIn t))).2 = (step s (.hasQuad (t.asQuad g).toIn)).2 ∧
    abs (step s (.viewHas g (tripleIn t))).1 = abs (step s (.hasQuad (t.asQuad g).toIn)).1 := by
  have hi := Proofs.C19.inv_of_reachable h
  have hq := Proofs.C19.wf_asQuad hg ht
  obtain ⟨_, a1, o1⟩ := Proofs.C19.hasQuad_spec s (t.asQuad g) hi hq
  obtain ⟨_, a2, o2⟩ := Proofs.C19.hasQuad_spec _ (t.asQuad g) (Proofs.C19.ensureGraph_inv s g hi hg) hq
  simp only [step, Proofs.C19.asQuad_toIn]
  rw [o1, o2, a1, a2, Proofs.C19.abs_ensureGraph]
  exact ⟨rfl, rfl⟩

/-! ## Residue of deletions -/

/-- Deleting the last statement of a subject leaves the subject's key in `assertedBySubject` (and
    the nodes, and an empty graph, stay allocated). By `refines_set` none of this is visible to the
    operations of the property. It *is* visible to `(*Graph).NewSubjectIterator`, which is not one
    of them: after add + delete it still reports the subject. -/
example :
    (run init [.addQuad exQ1.toIn, .deleteQuad exQ1.toIn, .viewSubjects none [], .iterQuads []]).2
      = [.unit, .unit, .terms [.iri [0x61]], .quads []] := by decide +kernel

end RdfModel.C19
