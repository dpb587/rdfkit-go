/-
  Property C04 — the serialized canonicalization result is exactly the canonical N-Quads document
  RDFC-1.0 defines (the theorems; proofs of any length are in RdfModel/Proofs/C04*.lean).

  Model: `Model/Rdfcanon.lean` (functional translation of /repo/rdfcanon, as repaired by D8, D9, D10,
  D10b).  Specification: `Spec/RDFC10.lean` (the Recommendation, section by section).  The hash is an
  arbitrary function `H` in every theorem ("SHA-256 and any substituted hash function").
  Table facts about the regenerated N-Quads writer tables are in `Props/C04Tables.lean`, structural
  facts read from the Go sources in `Props/C04Facts.lean`.

  What is *tested*, not proved (harness, labelled in the evidence): `Spec.RDFC10` reproduces the 64
  published W3C vectors; `Model/Sha2.lean` = crypto/sha256, crypto/sha512.
-/
import RdfModel.Props.C04Defs
import RdfModel.Props.C04Tables
import RdfModel.Proofs.C04Final
import RdfModel.Proofs.C04Fuel
import RdfModel.Proofs.Asc
namespace RdfModel.C04
open RdfModel

variable {β : Type} [DecidableEq β]

/-- **Refinement.** Whenever the Go canonicalizer (model) returns a result — for every hash function,
    every limit configuration, every admissible iteration order `ord` of Go's map, every dataset of
    well-formed quads — that result (sorted lines, issued identifier map) is the result of the
    specification run with the same order parameter, the recursion bound `maxRecursionDepth + 1` and
    any enumeration of permutations that agrees with the Go permuter wherever Go does not give up.
    (`twice := true`: Go adds one reference per position for a quad naming a blank node twice.) -/
theorem canon_refines_spec (T : NQ.Tables) (hT : TablesCanon T) (H : Str → Str) (lim : Rdfcanon.Limits)
    (ord : List β → List β) (hord : OrdOK ord) (perms : List β → List (List β))
    (hperms : PermsAgree lim.maxPermutations perms) (qs : List (Quad β)) (hwf : ∀ q ∈ qs, WFQuad T q)
    (out : Rdfcanon.Out β) (h : Rdfcanon.canon T H lim ord qs = .ok out) :
    Spec.RDFC10.canonFuel H ord perms true (lim.maxRecursionDepth + 1) qs = some (specView out) :=
  Proofs.C04.canon_refines_spec T hT H lim ord hord perms hperms qs hwf out h

/-- The recursion bound is immaterial: once the specification's computation succeeds it returns the
    same result for every larger bound … -/
theorem spec_fuel_mono (H : Str → Str) (ord : List β → List β) (perms : List β → List (List β))
    (twice : Bool) (qs : List (Quad β)) {f f' : Nat} {r : Spec.RDFC10.Result β}
    (h : Spec.RDFC10.canonFuel H ord perms twice f qs = some r) (hle : f ≤ f') :
    Spec.RDFC10.canonFuel H ord perms twice f' qs = some r :=
  Proofs.C04.canonFuel_mono H ord perms twice qs h hle

/-- … hence the Recommendation's (unbounded) result `Canon` is unique. -/
theorem spec_result_unique (H : Str → Str) (ord : List β → List β) (perms : List β → List (List β))
    (twice : Bool) (qs : List (Quad β)) {r r' : Spec.RDFC10.Result β}
    (h : Spec.RDFC10.Canon H ord perms twice qs r) (h' : Spec.RDFC10.Canon H ord perms twice qs r') :
    r = r' := by
  obtain ⟨f, hf⟩ := h
  obtain ⟨f', hf'⟩ := h'
  have h1 := spec_fuel_mono H ord perms twice qs hf (Nat.le_max_left f f')
  have h2 := spec_fuel_mono H ord perms twice qs hf' (Nat.le_max_right f f')
  rw [h1] at h2
  exact Option.some.inj h2

/-- Refinement against the fuel-free relation. -/
theorem canon_refines_Canon (T : NQ.Tables) (hT : TablesCanon T) (H : Str → Str) (lim : Rdfcanon.Limits)
    (ord : List β → List β) (hord : OrdOK ord) (perms : List β → List (List β))
    (hperms : PermsAgree lim.maxPermutations perms) (qs : List (Quad β)) (hwf : ∀ q ∈ qs, WFQuad T q)
    (out : Rdfcanon.Out β) (h : Rdfcanon.canon T H lim ord qs = .ok out) :
    Spec.RDFC10.Canon H ord perms true qs (specView out) :=
  ⟨_, canon_refines_spec T hT H lim ord hord perms hperms qs hwf out h⟩

/-- **Canonical literal escaping**: Go's `nquads.WriteLiteral` (model over the regenerated tables)
    writes every literal exactly in canonical N-Quads form — all lexical forms, all datatypes. -/
theorem canonical_literal_escaping (T : NQ.Tables) (hT : TablesCanon T) (lex dt : Str)
    (lang : Option Str) (h : WFLit T dt lang) :
    NQ.writeLiteral T false lex dt lang = Spec.RDFC10.literal lex dt lang :=
  Proofs.C04.canonical_literal_escaping T hT lex dt lang h

/-- **Canonical IRIs**: an IRI without the characters no IRI may contain is written raw. -/
theorem canonical_iri (T : NQ.Tables) (v : Str) (h : IriRaw T v) :
    NQ.writeIRI T false v = Spec.RDFC10.iriRef v :=
  Proofs.C04.canonical_iri T v h

/-- The hypothesis `PermsAgree` is satisfiable: every longer prefix of the Go permuter's output. -/
theorem permsAgree_heapPerms (maxPerm K : Nat) (hK : maxPerm < K) :
    PermsAgree maxPerm (Rdfcanon.heapPerms K : List β → List (List β)) := by
  intro l hl
  unfold Rdfcanon.heapPerms at hl ⊢
  exact Proofs.C04.heapPermsFrom_stable (maxPerm + 1) l _ (by omega) K (by omega)

/-! ### Options: the configuration `Canonicalize` runs with ("… for SHA-256 and for any substituted hash
    function") -/

open Rdfcanon in
/-- Over every list of option values passed to `Canonicalize`, each field of the effective
    configuration is the last one set: an option value that does not mention the hash function leaves
    the substituted hash in place, wherever it stands; with no option the defaults (SHA-256, `c14n%d`
    provider, no canonical quads) apply.  The equations below determine the three `effective*`
    functions on every option list (induction from the right). -/
theorem opts_hash_last_set_wins (opts : List CanonOpt) (h : Nat) (p : Option Nat) (b : Option Bool) :
    effectiveHash (opts ++ [⟨some h, p, b⟩]) = some h := by
  simp [effectiveHash, Proofs.C04.compileOpts_snoc, CanonOpt.apply]

open Rdfcanon in
theorem opts_hash_unset_keeps (opts : List CanonOpt) (p : Option Nat) (b : Option Bool) :
    effectiveHash (opts ++ [⟨none, p, b⟩]) = effectiveHash opts := by
  simp [effectiveHash, Proofs.C04.compileOpts_snoc, CanonOpt.apply]

open Rdfcanon in
theorem opts_prov_last_set_wins (opts : List CanonOpt) (h : Option Nat) (p : Nat) (b : Option Bool) :
    effectiveProv (opts ++ [⟨h, some p, b⟩]) = some p := by
  simp [effectiveProv, Proofs.C04.compileOpts_snoc, CanonOpt.apply]

open Rdfcanon in
theorem opts_prov_unset_keeps (opts : List CanonOpt) (h : Option Nat) (b : Option Bool) :
    effectiveProv (opts ++ [⟨h, none, b⟩]) = effectiveProv opts := by
  simp [effectiveProv, Proofs.C04.compileOpts_snoc, CanonOpt.apply]

open Rdfcanon in
theorem opts_build_last_set_wins (opts : List CanonOpt) (h p : Option Nat) (b : Bool) :
    effectiveBuild (opts ++ [⟨h, p, some b⟩]) = b := by
  simp [effectiveBuild, Proofs.C04.compileOpts_snoc, CanonOpt.apply]

open Rdfcanon in
theorem opts_build_unset_keeps (opts : List CanonOpt) (h p : Option Nat) :
    effectiveBuild (opts ++ [⟨h, p, none⟩]) = effectiveBuild opts := by
  simp [effectiveBuild, Proofs.C04.compileOpts_snoc, CanonOpt.apply]

open Rdfcanon in
theorem opts_default : effectiveHash [] = none ∧ effectiveProv [] = none ∧ effectiveBuild [] = false := by
  simp [effectiveHash, effectiveProv, effectiveBuild, compileOpts]

/-! ### Non-vacuity: objects satisfying the hypotheses -/

namespace Witness

def p : Term Nat := .iri (asc "http://example.org/p")

/-- `_:0 p _:1 _:0 . _:1 p "a<TAB>é"@en . _:1 p "x"^^<urn:dt> .` -/
def quads : List (Quad Nat) :=
  [⟨.bnode 0, p, .bnode 1, some (.bnode 0)⟩,
   ⟨.bnode 1, p, .lit [0x61, 0x09, 0xe9] rdfLangString (some (asc "en")), none⟩,
   ⟨.bnode 1, p, .lit (asc "x") (asc "urn:dt") none, some (.iri (asc "urn:g"))⟩]

theorem iri_p : IriRaw Gen.nquads (asc "http://example.org/p") := by decide +kernel
theorem iri_dt : IriRaw Gen.nquads (asc "urn:dt") := by decide
theorem iri_g : IriRaw Gen.nquads (asc "urn:g") := by decide
theorem iri_langString : IriRaw Gen.nquads rdfLangString := by decide +kernel

theorem wf : ∀ q ∈ quads, WFQuad Gen.nquads q := by
  intro q hq
  simp only [quads, List.mem_cons, List.not_mem_nil, or_false] at hq
  rcases hq with rfl | rfl | rfl
  · exact ⟨trivial, iri_p, trivial, by intro g hg; cases hg; trivial⟩
  · exact ⟨trivial, iri_p, ⟨iri_langString, by simp⟩, by intro g hg; cases hg⟩
  · exact ⟨trivial, iri_p, ⟨iri_dt, iff_of_false Bool.false_ne_true (asc_ne (by decide))⟩, by intro g hg; cases hg; exact iri_g⟩

theorem ordOK_id : OrdOK (id : List Nat → List Nat) := fun l => List.Perm.refl l
theorem ordOK_reverse : OrdOK (List.reverse : List Nat → List Nat) := fun l => List.reverse_perm l

end Witness

end RdfModel.C04
