/-
  Property C13 — shortened IRIs always expand back to the original IRI (theorems only; helper lemmas
  live in RdfModel/Proofs/C13*.lean).

  The objects are the executable models of Model/Prefix.lean, which the driver runs against the Go code:
  `run`/`storeRun` (PrefixManager histories), `compact`/`expand`, `compactCURIE`/`expandCURIE`,
  `relativize` (BaseIRI.RelativizeIRI as repaired by patches/c13-fix-relativize.patch).
  Every PrefixManager theorem holds for every `Sorter` (any permutation sorted by descending namespace
  length: `slices.SortFunc` is not stable).
-/
import RdfModel.Props.C13Defs
import RdfModel.Proofs.C13PM
import RdfModel.Proofs.C13Useful
import RdfModel.Proofs.C13Quirk
import RdfModel.Proofs.C13Curie
namespace RdfModel.C13
open RdfModel.Prefix
open RdfModel.Spec.RFC3986Lite (Str cColon cSlash cQuest cHash cDot resolve split)

/-- No sequence of `AddPrefixMappings`/`DeletePrefixes` calls after `NewPrefixManager` panics, and the
    representation invariant holds afterwards: `ordered` has no duplicate prefix, is sorted by descending
    namespace length, and lists exactly the entries of `mappingByPrefix`. -/
theorem pm_inv (S : Sorter) (init : List Mapping) (ops : List Op) :
    ∃ p, run S init ops = some p ∧ Inv p := by
  obtain ⟨p, h1, h2, _⟩ := Proofs.C13.run_ok S init ops
  exact ⟨p, h1, h2⟩

/-- Refinement: after any history the map holds, for every prefix, exactly the most recent mapping
    (`lastWrite` searches the calls backwards; a deletion ends the search). -/
theorem pm_refines_lastwrite (S : Sorter) (init : List Mapping) (ops : List Op) (p : PM)
    (h : run S init ops = some p) : ∀ k, p.byPrefix.get k = lastWrite init ops k := by
  obtain ⟨p', h1, _, h3⟩ := Proofs.C13.run_ok S init ops
  rw [h] at h1; cases h1; exact h3

/-- The prefix table (`GetPrefixMappings`) reflects exactly the most recent mapping per prefix: it
    contains `(k, ns)` iff that is the most recent mapping of `k`, each prefix once, longest namespace first. -/
theorem pm_table_exact (S : Sorter) (init : List Mapping) (ops : List Op) (p : PM)
    (h : run S init ops = some p) :
    (∀ m : Mapping, m ∈ getMappings p ↔ lastWrite init ops m.pfx = some m.expanded) ∧
    ((getMappings p).map (·.pfx)).Nodup ∧
    (getMappings p).Pairwise (fun a b => b.expanded.length ≤ a.expanded.length) := by
  have hinv := Proofs.C13.run_inv S init ops p h
  have htab := pm_refines_lastwrite S init ops p h
  exact ⟨fun m => by rw [← htab]; exact hinv.agree m, hinv.nodup, hinv.sorted⟩

example : (run mergeSorter [⟨[0x61], [0x68]⟩] [.add [⟨[0x62], [0x68, 0x69]⟩], .del [[0x61]]]).map getMappings
    = some [⟨[0x62], [0x68, 0x69]⟩] := by decide

/-- `ExpandPrefix` is the specification's lookup. -/
theorem expand_spec (S : Sorter) (init : List Mapping) (ops : List Op) (p : PM)
    (h : run S init ops = some p) (k r : Str) :
    expand p ⟨k, r⟩ = (lastWrite init ops k).map (· ++ r) := by
  unfold expand
  rw [pm_refines_lastwrite S init ops p h k]
  cases lastWrite init ops k <;> rfl

/-- Round trip: whatever `CompactPrefix` offers, `ExpandPrefix` turns back into exactly the IRI. -/
theorem compact_expand (S : Sorter) (init : List Mapping) (ops : List Op) (p : PM)
    (h : run S init ops = some p) (v : Str) (pr : PrefixRef) (hc : compact p v = some pr) :
    expand p pr = some v := by
  obtain ⟨ns, h1, h2, _⟩ := Proofs.C13.compact_spec p (Proofs.C13.run_inv S init ops p h) v pr hc
  unfold expand
  simp only [h1]
  exact congrArg some h2

/-- Longest match: the prefix offered is mapped (most recently) to a namespace `ns` with
    `ns ++ reference = v`, and no currently mapped namespace that is a prefix of `v` is longer. -/
theorem compact_longest (S : Sorter) (init : List Mapping) (ops : List Op) (p : PM)
    (h : run S init ops = some p) (v : Str) (pr : PrefixRef) (hc : compact p v = some pr) :
    ∃ ns, lastWrite init ops pr.pfx = some ns ∧ ns ++ pr.reference = v ∧
      ∀ k e, lastWrite init ops k = some e → e <+: v → e.length ≤ ns.length := by
  have hinv := Proofs.C13.run_inv S init ops p h
  have htab := pm_refines_lastwrite S init ops p h
  obtain ⟨ns, h1, h2, h3⟩ := Proofs.C13.compact_spec p hinv v pr hc
  refine ⟨ns, by rw [← htab]; exact h1, h2, ?_⟩
  intro k e hk hp
  exact h3 ⟨k, e⟩ ((hinv.agree ⟨k, e⟩).mpr (by rw [htab]; exact hk)) hp

/-- `CompactPrefix` declines exactly when no currently mapped namespace is a prefix of the IRI. -/
theorem compact_none (S : Sorter) (init : List Mapping) (ops : List Op) (p : PM)
    (h : run S init ops = some p) (v : Str) :
    compact p v = none ↔ ∀ k e, lastWrite init ops k = some e → ¬ e <+: v := by
  have hinv := Proofs.C13.run_inv S init ops p h
  have htab := pm_refines_lastwrite S init ops p h
  unfold compact
  rw [Proofs.C13.compactIn_none]
  constructor
  · intro hx k e hk
    exact hx ⟨k, e⟩ ((hinv.agree ⟨k, e⟩).mpr (by rw [htab]; exact hk))
  · intro hx m hm
    exact hx m.pfx m.expanded (by rw [← htab]; exact (hinv.agree m).mp hm)

example : (run mergeSorter [⟨[0x61], [0x68]⟩, ⟨[0x62], [0x68, 0x69]⟩] []).map (fun p => compact p [0x68, 0x69, 0x6a])
    = some (some ⟨[0x62], [0x6a]⟩) := by decide

/-- Managers related by `Clone` are independent: after any history of calls on a store of managers
    nothing panics and the manager behind every handle is exactly what its own call history produces —
    its construction (or the history of its source up to the moment of cloning) followed by the calls
    addressed to it, and nothing else. -/
theorem clone_independent (S : Sorter) (ops : List StoreOp) :
    ∃ st, storeRun S ops = some st ∧ st.length = (histories ops).length ∧
      ∀ (i : Nat) (p : PM), st[i]? = some p →
        ∃ init o, (histories ops)[i]? = some (init, o) ∧ run S init o = some p := by
  obtain ⟨st, h1, h2⟩ := Proofs.C13.store_ok S ops
  exact ⟨st, h1, by simpa using (congrArg List.length h2).symm, fun i p hp => h2.some hp⟩

/-- One call leaves every manager other than its target untouched. -/
theorem clone_step_frame (S : Sorter) (st st' : List PM) (op : StoreOp) (h : storeStep S st op = some st')
    (i : Nat) (hi : i < st.length) (hne : op.target ≠ some i) : st'[i]? = st[i]? :=
  Proofs.C13.store_step_other S st st' op h i hi hne

example : (storeRun mergeSorter [.new [⟨[0x61], [0x68]⟩], .clone 0, .del 0 [[0x61]]]).map (·.map getMappings)
    = some [[], [⟨[0x61], [0x68]⟩]] := by decide

/-- `UsagePrefixMapper` answers exactly like the wrapped mapper and records only prefixes it returned or expanded. -/
theorem usage_transparent (u : Usage) (p : PM) (v : Str) (pr : PrefixRef) :
    (u.compact p v).1 = compact p v ∧ (u.expand p pr).1 = expand p pr ∧
    (∀ k ∈ (u.compact p v).2.used, k ∈ u.used ∨ ∃ r, compact p v = some ⟨k, r⟩) := by
  refine ⟨?_, ?_, ?_⟩
  · unfold Usage.compact; cases compact p v <;> rfl
  · unfold Usage.expand; cases expand p pr <;> rfl
  · intro k hk
    unfold Usage.compact at hk
    cases hc : compact p v with
    | none => rw [hc] at hk; exact Or.inl hk
    | some x =>
      rw [hc] at hk
      rcases List.mem_cons.mp hk with rfl | hk
      · exact Or.inr ⟨x.reference, rfl⟩
      · exact Or.inl hk

/-- Whenever the table can compact the IRI, the CURIE that `CompactCURIE` builds (explicit prefix or
    default-prefix form, safe or not) is expanded by `ExpandCURIE` in the same scope to exactly the IRI. -/
theorem curie_roundtrip (S : Sorter) (init : List Mapping) (ops : List Op) (p : PM)
    (h : run S init ops = some p) (sc : Scope) (v : Str) (pr : PrefixRef) (hc : compact p v = some pr) :
    expandCURIE sc p (compactCURIE sc p v) = some v :=
  Proofs.C13.curie_roundtrip sc p (Proofs.C13.run_inv S init ops p h) v pr hc

/-- Full statement for the no-match case: when nothing matches, what `CompactCURIE` returns must not
    expand to anything. FALSE for the code as it is (known finding C13-K1): `CompactCURIE` has no way to
    decline and returns `CURIE{Prefix: "", Reference: v}`, which a scope that maps the empty prefix expands. -/
def CurieNoMatchDeclines : Prop :=
  ∀ (sc : Scope) (p : PM) (v : Str), Inv p → compact p v = none → expandCURIE sc p (compactCURIE sc p v) = none

/-- the witness of C13-K1 in the model: table {"" ↦ "a"}, IRI "b" -/
theorem curie_nomatch_witness : ¬ CurieNoMatchDeclines := by
  intro h
  have := h ⟨false, [], false⟩ (new mergeSorter [⟨[], [0x61]⟩]) [0x62] (Proofs.C13.new_inv _ _) (by decide)
  revert this
  decide

/-- The part that holds: if the empty prefix is unmapped, the no-match result fails to expand (so the
    caller is told); in general it expands to `ns("") ++ v`. -/
theorem curie_nomatch_partial (sc : Scope) (p : PM) (v : Str) (hc : compact p v = none) :
    compactCURIE sc p v = ⟨sc.safe, false, [], v⟩ ∧
    expandCURIE sc p (compactCURIE sc p v) = (p.byPrefix.get []).map (· ++ v) :=
  Proofs.C13.curie_nomatch sc p v hc

/-- Full statement for the written form: the string `CURIE.String()` of what `CompactCURIE` builds, read
    back with `ParseCURIE` and expanded in the same scope, is the IRI. FALSE for the code as it is (known
    finding C13-K2): the prefix-less default form is chosen even when the reference contains ':'. -/
def CurieStringRoundtrip : Prop :=
  ∀ (sc : Scope) (p : PM) (v : Str) (pr : PrefixRef), Inv p → compact p v = some pr →
    (∀ x ∈ pr.pfx, x ≠ cColon) → pr.pfx.head? ≠ some cLBr →
    (parseCURIE (compactCURIE sc p v).string).bind (expandCURIE sc p) = some v

/-- the witness of C13-K2 in the model: default prefix "e" ↦ "h", also "a" ↦ "x"; IRI "ha:b" is written
    "a:b", which reads back as prefix "a" and expands to "xb" -/
theorem curie_string_witness : ¬ CurieStringRoundtrip := by
  intro h
  have := h ⟨false, [0x65], false⟩ (new mergeSorter [⟨[0x65], [0x68]⟩, ⟨[0x61], [0x78]⟩]) [0x68, 0x61, 0x3a, 0x62]
    ⟨[0x65], [0x61, 0x3a, 0x62]⟩ (Proofs.C13.new_inv _ _) (by decide) (by decide) (by decide)
  revert this
  decide

/-- The written form reads back (partial): for NCName-like prefixes (no ':', not starting with '[') the
    round trip through `CURIE.String()` and `ParseCURIE` holds whenever the explicit-prefix form is used,
    and for the default-prefix form when the reference contains no ':' and — outside brackets — is
    neither empty nor itself bracketed. Exactly the complement is known finding C13-K2. -/
theorem curie_string_roundtrip_partial (S : Sorter) (init : List Mapping) (ops : List Op) (p : PM)
    (h : run S init ops = some p) (sc : Scope) (v : Str) (pr : PrefixRef) (hc : compact p v = some pr)
    (hp : ∀ x ∈ pr.pfx, x ≠ cColon) (hb : pr.pfx.head? ≠ some cLBr)
    (hd : (compactCURIE sc p v).defaultPrefix = true →
      (∀ x ∈ pr.reference, x ≠ cColon) ∧
      (sc.safe = false → pr.reference ≠ [] ∧ ¬ (pr.reference.head? = some cLBr ∧ pr.reference.getLast? = some cRBr))) :
    (parseCURIE (compactCURIE sc p v).string).bind (expandCURIE sc p) = some v :=
  Proofs.C13.curie_string_roundtrip sc p (Proofs.C13.run_inv S init ops p h) v pr hc hp hb hd

example : (parseCURIE (compactCURIE ⟨true, [0x65], false⟩ (new mergeSorter [⟨[0x65], [0x68]⟩]) [0x68, 0x61]).string).bind
    (expandCURIE ⟨true, [0x65], false⟩ (new mergeSorter [⟨[0x65], [0x68]⟩])) = some [0x68, 0x61] := by decide

/-- Soundness with respect to the repository's own resolver (the `observe_at` of the property), by the
    verification step: whatever is offered for an absolute base parses and resolves back to exactly the
    IRI under `goResolve` — the model of `BaseIRI.Parse(·).String()` that the harness ties to the code —
    and never starts with "//". -/
theorem relativize_checked (b v r : Str) (h : relativize b v = .some r) :
    [cSlash, cSlash].isPrefixOf r = false ∧
    ((newBaseIRI b).root.isSome → goParseOK r = true ∧ goResolve b r = v) :=
  ⟨(Proofs.C13.relativize_checked b v r h).1, (Proofs.C13.relativize_checked b v r h).2.1⟩

/-- Full statement: every offered reference resolves back under RFC 3986 §5.2. FALSE for the code as it
    is (known finding C13-K3): for a base carrying a fragment the IRI equal to the base is offered as the
    empty reference, which RFC 3986 resolves to the base without its fragment. -/
def RelativizeSound : Prop := ∀ b v r : Str, relativize b v = .some r → resolve b r = v

/-- the witness of C13-K3 in the model: base = IRI = "s://h/p#f" -/
theorem relativize_sound_witness : ¬ RelativizeSound := by
  intro h
  have := h [0x73, 0x3a, 0x2f, 0x2f, 0x68, 0x2f, 0x70, 0x23, 0x66] [0x73, 0x3a, 0x2f, 0x2f, 0x68, 0x2f, 0x70, 0x23, 0x66] [] (by decide)
  revert this
  decide

/-- RFC 3986 soundness (partial only in that the class of known finding C13-K3 is excluded): for every
    base — absolute or relative, with or without path — and every IRI, whatever `RelativizeIRI` offers
    ("#f"/"?q" suffixes, "", "./", "./?q", sibling and child paths, root-relative paths) resolves under
    `Spec.RFC3986Lite.resolve` to exactly the IRI, unless it is the empty reference offered for a base
    that carries a fragment (there the full statement is false, `relativize_sound_witness`). For bases
    "scheme://authority" the proof shows that the branch of `goResolve` deviating from §5.2 is never the
    one that lets a candidate through. -/
theorem relativize_sound_partial (b v r : Str) (h : relativize b v = .some r)
    (hk3 : (split b).fragment = none ∨ r ≠ []) : resolve b r = v :=
  Proofs.C13.relativize_sound_all b v r h hk3

example : relativize [0x73, 0x3a, 0x2f, 0x2f, 0x68, 0x2f, 0x61, 0x2f, 0x62] [0x73, 0x3a, 0x2f, 0x2f, 0x68, 0x2f, 0x61, 0x2f] = .some [cDot, cSlash] ∧
    (split [0x73, 0x3a, 0x2f, 0x2f, 0x68, 0x2f, 0x61, 0x2f, 0x62]).fragment = none := by decide

-- authority-only base: "s://h" with "s://h/x" gives "/x" (without patches/c13-fix-relativize.patch the code panics here)
example : relativize [0x73, 0x3a, 0x2f, 0x2f, 0x68] [0x73, 0x3a, 0x2f, 0x2f, 0x68, 0x2f, 0x78] = .some [cSlash, 0x78] := by decide

/-- `RelativizeIRI` does not panic when the index bookkeeping is sane (`IndicesOK`, decidable; checked by the
    harness on every base it generates). Without patches/c13-fix-relativize.patch the code panics for every base
    without a path. -/
theorem relativize_no_panic (b v : Str) (h : IndicesOK (newBaseIRI b)) : relativize b v ≠ .panic :=
  Proofs.C13.relativize_no_panic_core b v h

example : IndicesOK (newBaseIRI [0x73, 0x3a, 0x2f, 0x2f, 0x68]) := by decide

/-- Usefulness: the verification step does not kill the main case. For a hierarchical base
    `scheme://authority/dir…/last?query#fragment` without dot segments and an IRI in the same directory
    whose remainder `seg₁/seg₂…` is a plain path (non-empty first segment without ':', no dot segments,
    no query/fragment), `RelativizeIRI` still offers exactly that remainder (or "" when the IRI is the base). -/
theorem relativize_useful (sch auth : Str) (dirs : List Str) (last : Str) (q f : Option Str)
    (seg1 : Str) (more : List Str) (hb : BaseShape sch auth dirs last q) (hr : RelShape seg1 more) :
    relativize (mkBase sch auth dirs last q f) (mkTarget sch auth dirs (seg1 ++ joinSegs more))
        = .some (seg1 ++ joinSegs more) ∨
    (mkTarget sch auth dirs (seg1 ++ joinSegs more) = mkBase sch auth dirs last q f ∧
      relativize (mkBase sch auth dirs last q f) (mkTarget sch auth dirs (seg1 ++ joinSegs more)) = .some []) :=
  Proofs.C13.useful_core hb hr

example : BaseShape [0x73] [0x68] [[0x61]] [0x62] none ∧ RelShape [0x63] [[0x64]] := by
  refine ⟨⟨?_, ?_, ?_, ?_, ?_⟩, ⟨?_, ?_, ?_, ?_⟩⟩ <;>
    simp [SchemeLike, AuthLike, PlainSeg, cColon, cSlash, cQuest, cHash, cDot]

end RdfModel.C13
