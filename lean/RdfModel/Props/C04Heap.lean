/-
  Property C04 — "for each permutation p of blank node list" (RDFC-1.0 §4.8.3 step 5.4): the
  enumeration the Go code uses (github.com/cespare/permute, non-recursive Heap's algorithm, modelled
  by `Rdfcanon.heapPerms`) is complete for every list length on which Go can return an answer.
  With `maxPermutations = 4096` these are the lengths 0 … 6 (7! = 5040 > 4096 yields the limit error).

  Each theorem is about the index list `0 … n-1`: the permuter produces exactly `n!` arrangements, each
  a rearrangement of the list, pairwise different, and then stops.  That each is a rearrangement holds
  for every list, because the permuter only exchanges entries (`heapPermsFrom_perm`).  The number and
  "pairwise different" are evaluated: `heapCheck`, which tests the latter in one pass (`eraseDups`
  compares every pair of lists).
  (For other lists of the same length the arrangements are the images of these under the indexing,
  since the permuter only swaps positions: `Proofs.C03.heapPerms_map`.)
-/
import RdfModel.Model.Rdfcanon
namespace RdfModel.C04
open RdfModel

def heapComplete (n fact : Nat) : Bool :=
  let ps := Rdfcanon.heapPerms (fact + 1) (List.range n)
  ps.length == fact && ps.all (fun p => (List.range n).all (fun x => p.contains x) && p.length == n) &&
    (ps.eraseDups.length == fact)

theorem eraseDups_of_nodup {α : Type} [BEq α] [LawfulBEq α] :
    ∀ {l : List α}, l.Nodup → l.eraseDups = l
  | [], _ => rfl
  | a :: l, h => by
    obtain ⟨ha, hl⟩ := List.nodup_cons.mp h
    have : l.filter (fun b => !b == a) = l :=
      List.filter_eq_self.mpr fun b hb => by simpa using fun e : b = a => ha (e ▸ hb)
    rw [List.eraseDups_cons, this, eraseDups_of_nodup hl]

/-- No number occurs twice in the list and none is a set bit of `seen`. -/
def fresh (seen : Nat) : List Nat → Bool
  | [] => true
  | k :: ks => !seen.testBit k && fresh (seen ||| 1 <<< k) ks

theorem nodup_of_fresh : ∀ {ks : List Nat} {seen : Nat}, fresh seen ks = true →
    ks.Nodup ∧ ∀ k ∈ ks, seen.testBit k = false
  | [], _, _ => ⟨List.nodup_nil, nofun⟩
  | k :: ks, seen, h => by
    simp only [fresh, Bool.and_eq_true, Bool.not_eq_true'] at h
    obtain ⟨hk, hks, hseen⟩ := h.1, nodup_of_fresh h.2
    simp only [Nat.testBit_or, Nat.one_shiftLeft, Nat.testBit_two_pow, Bool.or_eq_false_iff,
      decide_eq_false_iff_not] at hseen
    exact ⟨List.nodup_cons.mpr ⟨fun hm => (hseen k hm).2 rfl, hks⟩,
      List.forall_mem_cons.mpr ⟨hk, fun j hj => (hseen j hj).1⟩⟩

theorem swapAt_perm {α : Type} (l : List α) (i j : Nat) : (Rdfcanon.swapAt l i j).Perm l := by
  unfold Rdfcanon.swapAt
  split
  · next a b ha hb =>
    obtain ⟨hi, rfl⟩ := List.getElem?_eq_some_iff.mp ha
    obtain ⟨hj, rfl⟩ := List.getElem?_eq_some_iff.mp hb
    exact List.set_set_perm hi hj
  · exact .refl l

theorem heapNext_perm {α : Type} : ∀ (fuel : Nat) (arr : List α) (c : List Nat) (i : Nat) r,
    Rdfcanon.heapNext fuel arr c i = some r → r.1.Perm arr
  | 0, _, _, _, _, h => nomatch h
  | fuel + 1, arr, c, i, r, h => by
    unfold Rdfcanon.heapNext at h
    split at h
    · cases h
    · by_cases hci : c.getD i 0 < i
      · simp only [hci, if_true] at h
        cases h
        exact swapAt_perm _ _ _
      · simp only [hci, if_false] at h
        exact heapNext_perm fuel arr _ _ r h

theorem heapPermsFrom_perm {α : Type} : ∀ (n : Nat) (arr : List α) (c : List Nat),
    ∀ p ∈ Rdfcanon.heapPermsFrom n arr c, p.Perm arr
  | 0, _, _, _, h => nomatch h
  | n + 1, arr, c, p, h => by
    unfold Rdfcanon.heapPermsFrom at h
    rcases List.mem_cons.mp h with rfl | h
    · exact .refl _
    · split at h
      · cases h
      · next arr' c' hn =>
        exact (heapPermsFrom_perm n arr' c' p h).trans (heapNext_perm _ _ _ _ _ hn)

/-- The part of `heapComplete` that is evaluated: the number of arrangements, and that, read as numerals in
    base `n`, they denote pairwise different numbers (so they are pairwise different, whatever the numeral
    system). -/
def heapCheck (n fact : Nat) : Bool :=
  let ps := Rdfcanon.heapPerms (fact + 1) (List.range n)
  ps.length == fact && fresh 0 (ps.map (List.foldr (fun x a => x + n * a) 0))

theorem heapComplete_of_check {n fact : Nat} (h : heapCheck n fact = true) :
    heapComplete n fact = true := by
  simp only [heapCheck, Bool.and_eq_true, beq_iff_eq] at h
  have hnd : (Rdfcanon.heapPerms (fact + 1) (List.range n)).Nodup :=
    (List.pairwise_map.mp (nodup_of_fresh h.2).1).imp fun hne e => hne (congrArg _ e)
  simp only [heapComplete, Bool.and_eq_true, beq_iff_eq, eraseDups_of_nodup hnd, List.all_eq_true]
  refine ⟨⟨h.1, fun p hp => ?_⟩, h.1⟩
  have hperm := heapPermsFrom_perm _ _ _ p hp
  exact ⟨fun x hx => List.contains_iff_mem.mpr (hperm.mem_iff.mpr hx), by rw [hperm.length_eq, List.length_range]⟩

theorem heap_complete_0 : heapComplete 0 1 = true := heapComplete_of_check (by decide)
theorem heap_complete_1 : heapComplete 1 1 = true := heapComplete_of_check (by decide)
theorem heap_complete_2 : heapComplete 2 2 = true := heapComplete_of_check (by decide)
theorem heap_complete_3 : heapComplete 3 6 = true := heapComplete_of_check (by decide)
theorem heap_complete_4 : heapComplete 4 24 = true := heapComplete_of_check (by decide)
theorem heap_complete_5 : heapComplete 5 120 = true := heapComplete_of_check (by decide +kernel)
theorem heap_complete_6 : heapComplete 6 720 = true := heapComplete_of_check (by decide +kernel)

end RdfModel.C04
