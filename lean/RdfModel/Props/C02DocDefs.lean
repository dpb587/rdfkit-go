/-
  Definitions used by the document-level theorems of property C02 (`Props/C02Doc.lean`): table facts
  beyond `TablesOK`, the assumptions on the decoder configuration, and the well-formedness hypotheses
  on configurations and triples — all of the latter decidable, with examples in `Props/C02Doc.lean`.
-/
import RdfModel.Model.TurtleEncoder
import RdfModel.Model.TurtleDoc
import RdfModel.Props.C02TokensDefs
import RdfModel.Props.C13Defs
namespace RdfModel.C02
open RdfModel RdfModel.Ttl RdfModel.TtlEnc RdfModel.Desc

instance (s : List Nat) : Decidable (Scalars s) := by unfold Scalars; exact inferInstance

/-! ### Tables (T1) -/

/-- Table facts used at document level in addition to `TablesOK` (proved for the regenerated tables
    in `Props/C02Doc.lean`, by `decide` on the entries). -/
structure DocTablesOK (T : Tables) : Prop where
  tok : TablesOK T
  /-- the runes `format_PN_LOCAL` percent-encodes are not IRI characters (controls, space, `<>"{}|^\``, `\`) -/
  loc_pct : ∀ f l c, lookup (T.localEsc f l) 0 c = 1 → Spec.TtlPrint.iriRawOK c = false
  /-- the ASCII members of PN_CHARS_BASE are the letters: a prefix label never starts with a rune the
      statement scanners dispatch on (`<`, `_`, `[`, `(`, `"`, digits, `@`, …) -/
  base_ascii : ∀ c, c < 0x80 → inRanges T.pnCharsBase c = true → isAlpha c = true
  /-- `<` cannot occur inside a prefix label -/
  pn_lt : inRanges T.pnChars 0x3c = false

/-! ### The decoder the theorems run -/

/-- Assumptions on the decoder configuration `C` (Model/TurtleDoc.lean): the Turtle package's scanner
    with the real token producers over the tables `T`; space is white space and no printable ASCII
    character is (`unicode.IsSpace`); and the resolver parameter is the repository's resolver as
    modelled for property C13 (`Prefix.goResolve`, tied to `BaseIRI.Parse(·).String()` by T3 on the
    domain on which C12 ties the `net/url` wrapper to RFC 3986), the identity when no base is in scope
    (`ParseIRI(v).String() = v` on that domain). IRIs outside that domain are the known findings D14-*. -/
structure CfgOK (C : TtlDoc.Cfg) (T : Tables) : Prop where
  trig : C.trig = false
  prod : C.P = TtlDoc.Producers.real T
  pnBase : ∀ c, C.pnBase c = inRanges T.pnCharsBase c
  sp : C.isSpace 0x20 = true
  /-- a line feed after the keyword `a` (multi-line layout of nested-resource mode) -/
  nlsp : C.isSpace 0x0a = true
  vis : ∀ c, 0x21 ≤ c → c ≤ 0x7e → C.isSpace c = false
  res_none : ∀ r, C.resolve none r = some r
  res_some : ∀ b r, C.resolve (some b) r = some (Prefix.goResolve b r)

/-- the resolver of the configuration the theorems are instantiated with (`C02.docCfg`): C13's -/
def docResolve : Option (List Nat) → List Nat → Option (List Nat)
  | none, r => some r
  | some b, r => some (Prefix.goResolve b r)

/-! ### Hypotheses on the data -/

/-- an IRI (namespace, base): scalar values that may stand raw between `<` and `>` — IRI characters
    only; in particular none of the characters `format_PN_LOCAL` would percent-encode -/
def iriOK (v : List Nat) : Bool := v.all (fun c => isScalarB c && Spec.TtlPrint.iriRawOK c)

/-- A prefix label the decoder reads back as a label: PN_PREFIX-like (`prefixOK`), and outside the two
    known-finding classes `prefix-label-boolean-keyword` (starts with `true` / `false`) and
    `prefix-label-ogham-space` (contains a rune the decoder takes for white space: U+1680). -/
def labelSafe (isSpace : Nat → Bool) (T : Tables) (p : List Nat) : Bool :=
  prefixOK T p && p.all (fun c => isScalarB c && !isSpace c) &&
  !(asc "true").isPrefixOf p && !(asc "false").isPrefixOf p

/-- the resolver leaves the absolute IRI `v` alone when it is read under base `b`
    (fails exactly for the classes of C12 / C18-X1: dot segments, scheme case, …) -/
def stableUnder (base : Option (List Nat)) (v : List Nat) : Bool :=
  match base with
  | none => true
  | some b => Prefix.goResolve b v == v

/-- what the theorems need of a prefix manager: `ordered` and the map agree, labels are unique.
    (`C13.Inv` without sortedness: the order among the mappings is irrelevant for the round trip.) -/
structure PMAgree (pm : Prefix.PM) : Prop where
  nodup : (pm.ordered.map (·.pfx)).Nodup
  agree : ∀ m : Prefix.Mapping, m ∈ pm.ordered ↔ pm.byPrefix.get m.pfx = some m.expanded

/-- the base the encoder was given: a non-empty absolute IRI of IRI characters, on which the index
    bookkeeping of `NewBaseIRI` is sane (`C13.IndicesOK`) and which the resolver maps to itself -/
def baseOK (b : List Nat) : Prop :=
  iriOK b = true ∧ b ≠ [] ∧ (Prefix.newBaseIRI b).root.isSome = true ∧ C13.IndicesOK (Prefix.newBaseIRI b) ∧
  Prefix.goResolve b b = b

instance (b : List Nat) : Decidable (baseOK b) := by unfold baseOK; exact inferInstance

/-- Well-formed encoder configuration (decidable given the lists). -/
structure ConfigOK (isSpace : Nat → Bool) (T : Tables) (cfg : Config) (pm : Prefix.PM) : Prop where
  agree : PMAgree pm
  labels : ∀ m ∈ pm.ordered, labelSafe isSpace T m.pfx = true
  ns : ∀ m ∈ pm.ordered, iriOK m.expanded = true ∧ stableUnder cfg.base m.expanded = true
  base : ∀ b, cfg.base = some b → baseOK b
  /-- no prefix list, no mappings (`NewPrefixManager(nil)` is empty) -/
  empty : cfg.prefixes = [] → pm.ordered = []

/-- a blank-node labeller the decoder can read back: injective, labels are BLANK_NODE_LABELs -/
structure LabelOK {β : Type} (T : Tables) (label : β → List Nat) : Prop where
  inj : Function.Injective label
  ok : ∀ b, labelOK T (label b) = true ∧ Scalars (label b)

/-- an IRI term of a triple: IRI characters only, and — when `writeIRI` writes it in full although a
    base is in scope — stable under the resolver -/
def iriTermOK {β : Type} (c : Ctx β) (base : Option (List Nat)) (v : List Nat) : Prop :=
  iriOK v = true ∧ (writeIRIForm c v = .ok (.full v) → stableUnder base v = true)

/-- a literal: scalar lexical form; a language tag exactly with rdf:langString, and then a LANGTAG;
    no rdf:dirLangString (directional tags are outside the model) -/
def litOK {β : Type} (c : Ctx β) (base : Option (List Nat)) (lex dt : List Nat) (lang : Option (List Nat)) : Prop :=
  Scalars lex ∧
  (match lang with
    | some t => dt = rdfLangString ∧ langOK t = true
    | none => dt ≠ rdfLangString ∧ dt ≠ rdfDirLangString ∧ iriTermOK c base dt)

def subjectOK {β : Type} (c : Ctx β) (base : Option (List Nat)) : Term β → Prop
  | .iri v => iriTermOK c base v
  | .bnode _ => True
  | .lit .. => False

def objectOK {β : Type} (c : Ctx β) (base : Option (List Nat)) : Term β → Prop
  | .iri v => iriTermOK c base v
  | .bnode _ => True
  | .lit lex dt lang => litOK c base lex dt lang

/-- a well-formed triple -/
structure TripleOK {β : Type} (c : Ctx β) (base : Option (List Nat)) (t : Triple β) : Prop where
  s : subjectOK c base t.s
  p : iriTermOK c base t.p
  o : objectOK c base t.o

/-! ### What the decoder is given and what it returns -/

/-- `DirectiveMode` in effect for a buffered encoder -/
def effBaseMode (cfg : Config) : DirMode := cfg.baseMode.getD .at
def effPrefixMode (cfg : Config) : DirMode := cfg.prefixMode.getD .at

/-- default base handed to the decoder: the encoder's base when base directives were disabled -/
def defaultBase (cfg : Config) : Option (List Nat) :=
  if cfg.baseMode = some .disabled then cfg.base else none

/-- default prefixes handed to the decoder: the encoder's table when prefix directives were disabled -/
def defaultPrefixes (cfg : Config) (pm : Prefix.PM) : List (List Nat × List Nat) :=
  if cfg.prefixMode = some .disabled then pm.ordered.map (fun m => (m.pfx, m.expanded)) else []

/-- the statement the decoder must yield for an input triple under the blank-node renaming `label` -/
def stmtOf {β : Type} (label : β → List Nat) (t : Triple β) : TtlDoc.Stmt :=
  { s := some (t.s.map (fun b => TtlDoc.BN.lbl (label b))),
    p := some (.iri t.p),
    o := t.o.map (fun b => TtlDoc.BN.lbl (label b)),
    g := none }

/-- decoder statements as triples (a missing subject or predicate cannot be represented) -/
def tripleOfStmt (s : TtlDoc.Stmt) : Option (Triple TtlDoc.BN) :=
  match s.s, s.p with
  | some su, some (.iri p) => some ⟨su, p, s.o⟩
  | _, _ => none

end RdfModel.C02
