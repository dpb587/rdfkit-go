/-
  Part C12W of property C12 — `(*ParsedIRI).DropFragment` (iri/parsed_iri.go) on the executable model
  (Model/ParsedIRI.lean `ParsedIRI.dropFragment`, tied by T3 op `piri.hist`, exact agreement on every step).

  Spec side: dropping the fragment of an IRI reference = RFC 3986 5.3 recomposition of its components without
  the fragment component (`noFrag`).

  Proved:
    * `dropFragment_spec_partial`     for every string `s` whose components lie in `InLang`
                                      (Props/C12WrapDefs.lean): `ParseIRI(s)` succeeds, and after `DropFragment()`
                                      `String()` is exactly `recompose (noFrag (split s))` — in particular a
                                      bare trailing '#' (empty fragment: the private `forceFragment` flag) is gone
    * `dropFragment_fresh_partial`    the dropped value IS the value `ParseIRI` builds for the fragment-free
                                      string (all private state included), hence every later history over the API
                                      (`Parse`, `ResolveReference`, `NewBaseIRI` …) is that of a freshly parsed base:
                                      `dropFragment_hist_partial`
    * `dropFragment_idempotent`       all inputs
    * `dropFragment_clears`           all inputs: afterwards Fragment, RawFragment are empty and forceFragment is false
  Partial: outside `InLang` (non-ASCII path bytes, userinfo, IP literals, the known deviation classes) only T3.
-/
import RdfModel.Props.C12Wrap
namespace RdfModel.C12W
open RdfModel.GoUrlFull RdfModel.PIRI
open RdfModel.Spec.RFC3986 (Parts split recompose)

/-- the components without the fragment component -/
def noFrag (P : Parts) : Parts := { P with fragment := none }

theorem dropFragment_clears (p : ParsedIRI) :
    p.dropFragment.forceFragment = false ∧ p.dropFragment.u.fragment = [] ∧ p.dropFragment.u.rawFragment = [] :=
  ⟨rfl, rfl, rfl⟩

theorem dropFragment_idempotent (p : ParsedIRI) : p.dropFragment.dropFragment = p.dropFragment := rfl

theorem preOf_noFrag (P : Parts) : preOf (noFrag P) = preOf P := rfl

theorem urlNoFrag_noFrag (P : Parts) : urlNoFrag (noFrag P) = urlNoFrag P := rfl

theorem inLang_noFrag (P : Parts) (h : InLang P = true) : InLang (noFrag P) = true := by
  have f := langFacts h
  refine inLang_of_facts ⟨f.sch, f.auth, f.path, f.shape, f.query, rfl, ?_⟩
  have hctl := f.ctl
  rw [recompose_eq, hasCTL_append, Bool.or_eq_false_iff] at hctl
  rw [recompose_eq, preOf_noFrag]
  simp [noFrag, RdfModel.Spec.RFC3986.fragmentPart, hctl.1]

/-- `DropFragment` on what `ParseIRI` builds inside `InLang` gives what `ParseIRI` builds for the fragment-free
    components: the URL fields and both private flags -/
theorem pOf_dropFragment (P : Parts) : (pOf P).dropFragment = pOf (noFrag P) := by
  obtain ⟨hf, hrf⟩ := urlNoFrag_frag P
  have hnf : ({ urlNoFrag P with fragment := [], rawFragment := [] } : URL) = urlNoFrag P := by
    generalize urlNoFrag P = u at hf hrf
    cases u
    simp only at hf hrf
    subst hf hrf
    rfl
  unfold ParsedIRI.dropFragment pOf urlOf
  rw [urlNoFrag_noFrag]
  have h2 : fragNonEmpty (noFrag P) = none := rfl
  rw [h2]
  have h3 : ((noFrag P).fragment == some []) = false := rfl
  rw [h3]
  cases hfn : fragNonEmpty P with
  | none => simp only [hnf]
  | some f => simp only [hnf]

/-- Proved part of "dropping the fragment = recomposition without the fragment": for every `s` inside `InLang`,
    `ParseIRI(s)` succeeds and `DropFragment()` followed by `String()` yields `recompose (noFrag (split s))`
    (no trailing '#', nothing else changed). -/
theorem dropFragment_spec_partial (s : Str) (h : InLang (split s) = true) :
    ∃ p, parseIRI s = .ok p ∧ p.dropFragment.str = recompose (noFrag (split s)) := by
  obtain ⟨h1, _⟩ := parseIRI_eq_pOf (split s) h
  rw [C12.recompose_split] at h1
  refine ⟨pOf (split s), h1, ?_⟩
  rw [pOf_dropFragment]
  exact (parseIRI_eq_pOf (noFrag (split s)) (inLang_noFrag _ h)).2

/-- the dropped value is indistinguishable from a fresh parse of the fragment-free string -/
theorem dropFragment_fresh_partial (s : Str) (h : InLang (split s) = true) :
    ∃ p, parseIRI s = .ok p ∧ parseIRI (recompose (noFrag (split s))) = .ok p.dropFragment := by
  obtain ⟨h1, _⟩ := parseIRI_eq_pOf (split s) h
  rw [C12.recompose_split] at h1
  refine ⟨pOf (split s), h1, ?_⟩
  rw [pOf_dropFragment]
  exact (parseIRI_eq_pOf (noFrag (split s)) (inLang_noFrag _ h)).1

/-- hence every later history over the exported API runs as from the freshly parsed fragment-free string: in
    particular no '#' of the dropped fragment can reappear downstream (what the seeded early-return variant of
    `DropFragment` violates for an empty fragment) -/
theorem dropFragment_hist_partial (s : Str) (h : InLang (split s) = true) (ops : List HOp) :
    ∃ p q, parseIRI s = .ok p ∧ parseIRI (recompose (noFrag (split s))) = .ok q ∧
      runHist p (.drop :: ops) = .ok q none :: runHist q ops := by
  obtain ⟨p, hp, hq⟩ := dropFragment_fresh_partial s h
  exact ⟨p, p.dropFragment, hp, hq, rfl⟩

-- non-trivial members: an empty fragment after an empty query, a non-ASCII fragment, an opaque IRI with '#'
example : InLang (split (S "http://e/dir/doc?#")) = true ∧
    recompose (noFrag (split (S "http://e/dir/doc?#"))) = S "http://e/dir/doc?" := by decide +kernel
example : InLang (split (S "urn:isbn:0-486-27557-4#")) = true ∧
    recompose (noFrag (split (S "urn:isbn:0-486-27557-4#"))) = S "urn:isbn:0-486-27557-4" := by decide +kernel
example : InLang (split (S "../a/b%2Fc#r" ++ eAcute)) = true := by decide +kernel

/-- the histories of the seeded defect C12r3-2, on the model: a base ending in a bare '#', `DropFragment`, then
    printed / used as a base (HTML+RDFa document location), and RDF/XML's empty same-document reference -/
theorem dropFragment_witness :
    (match parseIRI (S "http://example.org/dir/doc#") with
      | .ok b => (runHist b [.drop, .parse (S "other")]).map (fun st => match st with | .ok p _ => some p.str | _ => none)
      | .error _ => []) = [some (S "http://example.org/dir/doc"), some (S "http://example.org/dir/other")] ∧
    (match parseIRI (S "http://example.org/dir/doc#") with
      | .ok b => (runHist b [.parse [], .drop]).map (fun st => match st with | .ok p _ => some p.str | _ => none)
      | .error _ => []) = [some (S "http://example.org/dir/doc#"), some (S "http://example.org/dir/doc")] := by
  decide +kernel

end RdfModel.C12W
