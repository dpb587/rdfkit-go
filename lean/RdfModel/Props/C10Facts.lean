/-
  Property C10 — T2 facts: constants of /repo's JSON-LD packages, regenerated on every run by
  go/cmd/extract/gen_c10.go (go/ast), against the constants of the fragment semantics and of the encoder
  model. A theorem here fails to build when the repository changes one of them.
-/
import RdfModel.Gen.JsonLdFacts
import RdfModel.Props.C10Defs
namespace RdfModel.C10
open RdfModel RdfModel.JL RdfModel.Gen.JsonLdFacts

/-- the decoder's keyword table is the keyword list of the fragment semantics -/
theorem gen_keywords : keywords.map asc = JL.keywords := by decide +kernel

/-- "with no network access": neither the decoder package nor its expansion core imports a networking
    package (the HTTP document loader lives in jsonldtype and is only used when configured) … -/
theorem gen_no_network_imports : decoderImports.contains "net/http" = false ∧ decoderImports.contains "net" = false := by
  decide +kernel

/-- … and without configuration `Expand` installs a loader that refuses every request -/
theorem gen_default_loader_refuses : defaultLoaderRefuses = true := by decide

/-- the runes the decoder refuses in IRIs are exactly the ones `JL.iriCharOK` refuses (besides controls) -/
theorem gen_iri_rejected :
    (∀ c ∈ iriRejected, iriCharOK c = false) ∧
    (∀ c ∈ [0x20, 0x3c, 0x3e, 0x22, 0x7b, 0x7d, 0x7c, 0x5c, 0x5e, 0x60], iriRejected.contains c = true) ∧
    iriRejected.length = 10 ∧ iriCountsQuestionMarks = false := by decide

/-- native numbers: xsd:double exactly for a fractional part or an absolute value ≥ 10^21 -/
theorem gen_double_condition : doubleCondition = "math.Abs(valuePrimitive.Value) >= 1e21" := by decide

/-- the regular expressions `JLEnc.isNativeInteger`, `JLEnc.isNativeDouble` and `JL.isKeywordForm` were
    translated from, and the gen-delim set of `JLEnc.isPrefixTerm` -/
theorem gen_encoder_constants :
    reNativeInteger = "^-?(0|[1-9][0-9]{0,14})$" ∧
    reNativeDouble = "^-?(0|[1-9][0-9]*)(\\.[0-9]+)?([eE][+-]?[0-9]{1,2})?$" ∧
    reKeywordForm = "^@[a-zA-Z]+$" ∧
    asc prefixGenDelims = [0x3a, 0x2f, 0x3f, 0x23, 0x5b, 0x5d, 0x40] := by decide +kernel

end RdfModel.C10
