/-
  C07 — every Turtle document is TriG, every N-Triples document is Turtle (statement layer).

  The Turtle and TriG packages are ~4000 lines of copies; here they are ONE model with a flag
  (`Cfg.trig`), and the correspondence check (`go/cmd/c05ttl`, op `ttld.dec`) runs every document
  against BOTH Go packages: a drift of one copy shows as a disagreement of that package with the
  shared model. What is PROVED about the flag:

    * `step_flag_independent`, `ttl_sub_trig_partial` — every scan function except the top-level one
      (`reader_scanStatement` / `reader_scan_trigDoc`) behaves identically in both packages;
    * `ttl_sub_trig_sim_partial` — THE SIMULATION (Proofs/TtlDocSim.lean), for ALL inputs, grammatical
      or not: a document the Turtle run accepts with statements `ts` is accepted by the TriG run with
      the same `ts`, all in the default graph.  The two top-level functions differ in *when* they read
      the subject token (Turtle pushes `Triples_End`, backtracks and re-scans the token through
      `Triples_Subject_*`; TriG produces it at once and decides in `E1` after looking for `{`; after
      `[` Turtle runs `Subject_AnonOrBlankNode`, TriG its own closures and `triples2`); the proof is a
      stuttering simulation (one Turtle iteration of the loop in `Next` ↦ one or two TriG
      iterations) up to the white space `scan` skips and the context of `Triples_End` frames.
      Hypothesis `KwSafe` (beyond `NoPanic`/`Consumes`/`LangNonEmpty`): where the top-level
      functions branch apart the Turtle side finds no subject — `{` is no PN_CHARS_BASE rune, and
      `GRAPH` + white space is not the beginning of a prefixed name.  `real_kwSafe` proves it for
      the real producers and every white-space predicate that contains no PN_CHARS rune, `:` or `.`
      (`SpaceOK`; Props/C07Doc.lean instantiates it: `ttl_sub_trig_real_partial`).
    * `ttl_sub_trig_refuted` — the statement WITHOUT that hypothesis (`ttl_sub_trig`) is
      FALSE for the configuration the driver runs: Go's `unicode.IsSpace` contains U+1680 OGHAM
      SPACE MARK, a PN_CHARS_BASE rune, so the prefix label `GRAPH\u1680x` is a name for the Turtle
      decoder and the keyword `GRAPH` + white space for the TriG decoder (finding C07-graph-ogham,
      replayed on the Go code: Turtle yields the triple, TriG fails with "unknown prefix: x").
    * `ttl_default_graph` (Props/C06Ttl.lean) — Turtle statements have no graph name.

  N-Triples ⊂ Turtle: the unconditional `def nt_sub_ttl` below is FALSE (finding C07-bnode-label-colon:
  `C07.nt_sub_ttl_refuted`, Props/C07Doc.lean); with the exclusion of blank-node labels containing ':'
  it is PROVED at document level for all inputs and both packages: `C07.nt_sub_ttl_partial`
  (Props/C07Doc.lean, Proofs/TtlDocNT.lean).
-/
import RdfModel.Props.C06Ttl
import RdfModel.Proofs.TtlDocSim
import RdfModel.Spec.NQuadsGrammar
import RdfModel.Gen.NQTables
namespace RdfModel.C07
open RdfModel RdfModel.TtlDoc

/-- Outside the top-level scan function the package flag is irrelevant. -/
theorem step_flag_independent (C : Cfg) (b : Bool) (e : End) (k : Cont) (x : Ectx) (env : Env) (a : Arg)
    (hk : k ≠ .statement) : stepFn { C with trig := b } e k x env a = stepFn C e k x env a :=
  stepFn_flag C b e k x env a hk

/-- The same for a whole `scan` call (white-space skipping included): off the top-level function the flag changes
    nothing.  (Turtle ⊂ TriG itself is `ttl_sub_trig_sim_partial`.) -/
theorem ttl_sub_trig_partial (C : Cfg) (b : Bool) (e : End) (f : Frame) (inp : List Nat) (env : Env)
    (hk : f.k ≠ .statement) : scanFn { C with trig := b } e f inp env = scanFn C e f inp env :=
  scanFn_flag C b e f inp env hk

/-- Turtle statements as TriG statements in the default graph are the same values (`g = none`). -/
def sameTriples (ts qs : List Stmt) : Prop := ts = qs ∧ ∀ q ∈ qs, q.g = none

/-- The full statement (no hypothesis on the keyword/white-space interplay): a document the
    Turtle run accepts is accepted by the TriG run with the same triples, all in the default graph.
    REFUTED below (`ttl_sub_trig_refuted`); proved with the hypothesis `KwSafe`
    (`ttl_sub_trig_sim_partial`). -/
def ttl_sub_trig : Prop :=
  ∀ (C : Cfg) (base : Option (List Nat)) (pf : List (List Nat × List Nat)) (inp : List Nat) (ts : List Stmt),
    C.P.NoPanic → C.P.Consumes →
    run { C with trig := false } .eof base pf inp = (ts, .clean) →
    ∃ qs, run { C with trig := true } .eof base pf inp = (qs, .clean) ∧ sameTriples ts qs

/-- THE SIMULATION. For every input (grammatical or not), every base, prefix table, resolver, stream
    ending and token producers satisfying `NoPanic`, `Consumes`, `LangNonEmpty` and `KwSafe`: what the
    Turtle run accepts, the TriG run accepts with the same statements, all in the default graph.
    `_partial` because of `KwSafe` (see the header; false for `unicode.IsSpace`, finding C07-graph-ogham). -/
theorem ttl_sub_trig_sim_partial (C : Cfg) (e : End) (hP : C.P.NoPanic) (hC : C.P.Consumes) (hL : C.P.LangNonEmpty)
    (hK : KwSafe C) (base : Option (List Nat)) (pf : List (List Nat × List Nat)) (inp : List Nat) (ts : List Stmt)
    (h : run { C with trig := false } e base pf inp = (ts, .clean)) :
    ∃ qs, run { C with trig := true } e base pf inp = (qs, .clean) ∧ sameTriples ts qs := by
  refine ⟨ts, sim_run hP hC hK base pf inp ts h, rfl, fun q hq => ?_⟩
  exact C06.wf_default_graph (C06.doc_emits_wf { C with trig := false } e hP hL base pf inp q (by rw [h]; exact hq))

/-- `KwSafe` for the real token producers (either package's tables) and any white-space predicate that contains no
    name rune, `:` or `.` (`SpaceOK`). -/
theorem kwSafe_real (trig : Bool) (resolve : Option (List Nat) → List Nat → Option (List Nat)) (isSpace : Nat → Bool)
    (hsp : SpaceOK (if trig then Gen.trig else Gen.turtle) isSpace) : KwSafe (C05.realCfg trig resolve isSpace) := by
  cases trig
  · exact real_kwSafe Gen.turtle false resolve isSpace (by decide) hsp
  · exact real_kwSafe Gen.trig true resolve isSpace (by decide) hsp

/-- non-vacuity of `SpaceOK` / `KwSafe`: the white space of the Turtle grammar (SP, TAB, LF, CR) -/
example : SpaceOK Gen.turtle (fun c => c = 0x20 || c = 0x09 || c = 0x0a || c = 0x0d) := by
  intro c hc
  simp only [Bool.or_eq_true, decide_eq_true_eq] at hc
  rcases hc with ((rfl | rfl) | rfl) | rfl <;> decide

/-- non-vacuity of the simulation theorem: documents with the kinds of subject on which the two
    top-level functions differ, accepted by both runs -/
example :
    let C := C05.realCfg false (fun _ r => some r) (fun c => c = 0x20 || c = 0x09 || c = 0x0a || c = 0x0d)
    let doc := asc "<a:s> <a:p> 1 . [] <a:p> () . [ <a:p> 2 ] <a:q> 3 ."
    (run { C with trig := false } .eof none [] doc).2 = .clean ∧
    run { C with trig := true } .eof none [] doc = run { C with trig := false } .eof none [] doc := by
  decide +kernel

/-- FINDING C07-graph-ogham (known, not repaired): with Go's `unicode.IsSpace` (which contains the
    PN_CHARS_BASE rune U+1680) as white-space predicate — the configuration the driver runs — a
    Turtle document whose prefix label is `GRAPH` U+1680 `x` is decoded by the Turtle run and
    rejected by the TriG run, which reads the keyword `GRAPH`. Replayed on the Go code. -/
theorem finding_graph_ogham :
    let C := C05.realCfg false (fun _ r => some r) (inRanges Gen.unicodeSpace)
    let doc := asc "@prefix GRAPH\u1680x: <a:> . GRAPH\u1680x:a <a:b> <a:c> ."
    run { C with trig := false } .eof none [] doc =
      ([⟨some (.iri (asc "a:a")), some (.iri (asc "a:b")), .iri (asc "a:c"), none⟩], .clean) ∧
    run { C with trig := true } .eof none [] doc = ([], .error .pfx) := by
  decide +kernel

/-- Hence the unconditional statement is false. -/
theorem ttl_sub_trig_refuted : ¬ ttl_sub_trig := by
  intro h
  obtain ⟨h1, h2, _⟩ := C05.real_producers_ok Gen.turtle
  obtain ⟨hrun, hbad⟩ := finding_graph_ogham
  obtain ⟨qs, hq, _⟩ := h (C05.realCfg false (fun _ r => some r) (inRanges Gen.unicodeSpace)) none [] _ _ h1 h2 hrun
  rw [hbad] at hq
  cases hq

/-- label-carrying blank nodes of the N-Triples model as blank nodes of the Turtle model -/
def ntTerm : Term (List Nat) → T := Term.map BN.lbl

/-- UNCONDITIONAL STATEMENT: a grammatical N-Triples document whose IRIs pass the N-Triples decoder's
    check decodes with the Turtle run (no base, no prefixes) to the same triples. REFUTED
    (`nt_sub_ttl_refuted`, labels containing ':'); proved with that exclusion: `nt_sub_ttl_partial`. -/
def nt_sub_ttl : Prop :=
  ∀ (urlOk : List Nat → Bool) (resolve) (isSpace : Nat → Bool) (inp : List Nat) (qs : List (Quad (List Nat))),
    (∀ c, isSpace c = inRanges Gen.unicodeSpace c) →
    Spec.NQG.accepts (inRanges Gen.ntriples.pnCharsU) (inRanges Gen.ntriples.pnChars) false inp = true →
    NQ.run Gen.ntriples urlOk .eof false inp = (qs, .clean) →
    run (C05.realCfg false resolve isSpace) .eof none [] inp =
      (qs.map (fun q => ⟨some (ntTerm q.s), some (ntTerm q.p), ntTerm q.o, none⟩), .clean)

/-- non-vacuity of `nt_sub_ttl`'s conclusion on one document -/
example :
    run (C05.realCfg false (fun _ r => some r) (inRanges Gen.unicodeSpace)) .eof none [] (asc "<a:a> <a:b> _:c .\n") =
      ([⟨some (.iri (asc "a:a")), some (.iri (asc "a:b")), .bnode (.lbl (asc "c")), none⟩], .clean) := by decide +kernel

end RdfModel.C07
