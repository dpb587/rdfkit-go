/-
  Property C08, DOCUMENT level — decoding the printed form of a Turtle / TriG document yields the
  dataset the document denotes.

    Spec/TurtleAbstract.lean   abstract syntax `Doc`, `denote` (Turtle 1.1 §7 / TriG 1.1), `print`
                               (every lexical and layout choice, see the header of that file)
    Model/TurtleDoc.lean       the decoder model the driver runs (`TtlDoc.run`, flag `trig`)

  PROVED (`decode_print_partial`): for every well-formed document — all four directives in any
  keyword case, changing base, prefixed names with every escape, the four string styles with every
  escape, language tags, datatypes as IRIREF or prefixed name, numeric and boolean shorthand, `a`,
  `;` and `,` lists with repeated and trailing `;`, `[]`, `()`, labelled blank nodes, blank-node
  property lists and collections NESTED TO ANY DEPTH in object and subject position (`[ … ]` as
  subject with or without a following predicate-object list), and in TriG `GRAPH g { }`, `g { }`,
  `{ }` with iri / label / `[]` graph names and optional last `.` — every choice list (layout: any
  mix of SP/TAB/LF/CR and comments ended by LF, CR LF, CR or the end of the document, also none
  where the grammar allows), both packages, default base present or absent, any resolver:
      `TtlDoc.run C .eof base pf (print T doc ch) = ((denote C.resolve base pf doc).map toStmt, .clean)`
  — the same statements in the same order with the same blank nodes (`toBN`: fresh nodes by their
  number, labelled nodes by their label), hence a fortiori the same dataset up to blank-node
  renaming.  `decode_print_flat_partial` is the special case without nesting.  The proof composes
  the token theorems of `Props/C08Tokens.lean` (through `Proofs/C08DocTok.lean`: stop conditions
  from the printer's `clash`, incl. a `.` glued to a name, label or number) with a symbolic run of
  the statement machine (`Proofs/C08Mach.lean`: fuel-free `Steps` and the bridge to `run`;
  `Proofs/C08MachTok.lean`: one lemma per scan function and token class; `Proofs/C08DocStep/Run/Top/Nest.lean`:
  the printed tokens and one lemma per production, structural
  recursion over the nested syntax).

  The theorem is `_partial` because of THREE deviations of the decoder from the grammar (model and Go
  agree; witnesses below; the full statement `decode_print` is FALSE for the code as it is), each
  excluded by an explicit decidable hypothesis:
    * `choicesOK ch`: no keyword `a` / `PREFIX` / `BASE` / `GRAPH` directly followed by a
      non-white-space character such as `<`, `[` or `#` (finding `keyword-glue`; `BASE<…>` is
      accepted);
    * `docNoBoolPfx doc`: no object written as a prefixed name whose prefix label starts with
      `true` / `false` (finding `pname-bool-prefix`: read as the boolean keyword);
    * inside `docWf` (`prefixOK2`): no prefix label containing U+1680, a PN_CHARS_BASE character that
      Go's `unicode.IsSpace` swallows (finding `pname-prefix-space`).
  Two further deviations found here are REPAIRED (patches `fix-ttl-bnpl-subject-semicolon` = D42,
  `fix-ttl-comment-cr` = D44) and the model is of the repaired code; see `repaired_*` below.

  Printer restrictions (documented in the Spec, not hypotheses): no layout between a string and
  its `@lang` / `^^datatype`.
-/
import RdfModel.Proofs.C08DocNest
import RdfModel.Props.C08DocTables
import RdfModel.Proofs.TtlDocReal
import RdfModel.Props.C02TokensTables
namespace RdfModel.C08
open RdfModel RdfModel.TA RdfModel.C02 RdfModel.Ttl RdfModel.TtlDoc

/-- FULL STATEMENT for the nesting-free fragment (false for the code as it is: findings
    `keyword-glue`, `pname-bool-prefix`, `pname-prefix-space`; see the witnesses below). -/
def decode_print_flat : Prop :=
  ∀ (T : Tables) (C : Cfg), TablesOK T → TablesOK2 T → C.P = Producers.real T → (∀ c, C.pnBase c = inRanges T.pnCharsBase c) →
    (∀ c, C.isSpace c = inRanges Gen.unicodeSpace c) →
    ∀ (base : Option (List Nat)) (pf : List (List Nat × List Nat)) (doc : Doc) (ch : Choices) (qs : List QuadB),
      docWf T C.trig doc = true → docFlat doc = true →
      denote C.resolve base pf doc = some qs →
      run C .eof base pf (print T doc ch) = (qs.map toStmt, .clean)

/-- FULL STATEMENT of C08 at document level (false for the code as it is: the three findings). -/
def decode_print : Prop :=
  ∀ (T : Tables) (C : Cfg), TablesOK T → TablesOK2 T → C.P = Producers.real T → (∀ c, C.pnBase c = inRanges T.pnCharsBase c) →
    (∀ c, C.isSpace c = inRanges Gen.unicodeSpace c) →
    ∀ (base : Option (List Nat)) (pf : List (List Nat × List Nat)) (doc : Doc) (ch : Choices) (qs : List QuadB),
      docWf T C.trig doc = true →
      denote C.resolve base pf doc = some qs →
      run C .eof base pf (print T doc ch) = (qs.map toStmt, .clean)

/-- Decoding the printed form of a document yields exactly what the document denotes — any nesting,
    every choice list without glued keywords, Turtle and TriG. -/
theorem decode_print_partial (T : Tables) (hT : TablesOK T) (hT2 : TablesOK2 T) (C : Cfg) (hC : CfgOK T C)
    (base : Option (List Nat)) (pf : List (List Nat × List Nat)) (doc : Doc) (ch : Choices) (qs : List QuadB)
    (hwf : docWf T C.trig doc = true) (hnb : docNoBoolPfx doc = true)
    (hch : choicesOK ch = true) (hd : denote C.resolve base pf doc = some qs) :
    run C .eof base pf (print T doc ch) = (qs.map toStmt, .clean) := by
  simp only [denote, Option.map_eq_some_iff] at hd
  obtain ⟨⟨qs', st'⟩, hdd, rfl⟩ := hd
  have hcons : C.P.Consumes := by rw [hC.prod]; exact real_consumes T
  have hfit : ∀ b ∈ doc, BlockFit T C ch b := by
    intro b hb
    exact blockFit_all hT hT2 hC hch b (List.all_eq_true.1 hwf b hb) (List.all_eq_true.1 hnb b hb)
  have hsteps := doc_good hT hT2 hC hch doc hfit 1 {} [] (print T doc ch) { base := base, ns := pf, next := 0 } st' qs' rfl rfl hdd
    (after_skip (T := T) .punct (ch.at 0) _)
  exact run_of_steps hcons base pf (print T doc ch) _ _ hsteps rfl

/-- … for the configuration the driver runs (tables regenerated from /repo, `unicode.IsSpace`). -/
theorem decode_print_real (trig : Bool) (resolve : Option (List Nat) → List Nat → Option (List Nat))
    (base : Option (List Nat)) (pf : List (List Nat × List Nat)) (doc : Doc) (ch : Choices) (qs : List QuadB)
    (hwf : docWf (if trig then Gen.trig else Gen.turtle) trig doc = true)
    (hnb : docNoBoolPfx doc = true) (hch : choicesOK ch = true) (hd : denote resolve base pf doc = some qs) :
    run (C05.realCfg trig resolve (inRanges Gen.unicodeSpace)) .eof base pf
        (print (if trig then Gen.trig else Gen.turtle) doc ch) = (qs.map toStmt, .clean) := by
  have hT : TablesOK (if trig then Gen.trig else Gen.turtle) := by cases trig; exact gen_turtle_ok; exact gen_trig_ok
  have hT2 : TablesOK2 (if trig then Gen.trig else Gen.turtle) := by cases trig; exact gen_turtle_ok2; exact gen_trig_ok2
  exact decode_print_partial _ hT hT2 _ (cfgOK_real trig resolve) base pf doc ch qs (by cases trig <;> exact hwf) hnb hch hd

/-- Decoding the printed form of a nesting-free document yields exactly what the document denotes
    — for every choice list without glued keywords, Turtle and TriG. -/
theorem decode_print_flat_partial (T : Tables) (hT : TablesOK T) (hT2 : TablesOK2 T) (C : Cfg) (hC : CfgOK T C)
    (base : Option (List Nat)) (pf : List (List Nat × List Nat)) (doc : Doc) (ch : Choices) (qs : List QuadB)
    (hwf : docWf T C.trig doc = true) (_hflat : docFlat doc = true) (hnb : docNoBoolPfx doc = true)
    (hch : choicesOK ch = true) (hd : denote C.resolve base pf doc = some qs) :
    run C .eof base pf (print T doc ch) = (qs.map toStmt, .clean) :=
  decode_print_partial T hT hT2 C hC base pf doc ch qs hwf hnb hch hd

/-- … for the configuration the driver runs (tables regenerated from /repo, `unicode.IsSpace`). -/
theorem decode_print_flat_real (trig : Bool) (resolve : Option (List Nat) → List Nat → Option (List Nat))
    (base : Option (List Nat)) (pf : List (List Nat × List Nat)) (doc : Doc) (ch : Choices) (qs : List QuadB)
    (hwf : docWf (if trig then Gen.trig else Gen.turtle) trig doc = true) (hflat : docFlat doc = true)
    (hnb : docNoBoolPfx doc = true) (hch : choicesOK ch = true) (hd : denote resolve base pf doc = some qs) :
    run (C05.realCfg trig resolve (inRanges Gen.unicodeSpace)) .eof base pf
        (print (if trig then Gen.trig else Gen.turtle) doc ch) = (qs.map toStmt, .clean) := by
  have hT : TablesOK (if trig then Gen.trig else Gen.turtle) := by cases trig; exact gen_turtle_ok; exact gen_trig_ok
  have hT2 : TablesOK2 (if trig then Gen.trig else Gen.turtle) := by cases trig; exact gen_turtle_ok2; exact gen_trig_ok2
  exact decode_print_flat_partial _ hT hT2 _ (cfgOK_real trig resolve) base pf doc ch qs
    (by cases trig <;> exact hwf) hflat hnb hch hd

def idResolve : Option (List Nat) → List Nat → Option (List Nat) := fun _ r => some r

/-! ### Non-vacuity: a document exercising most productions satisfies the hypotheses -/

/-- `@prefix ex: <http://e/> . BASE <http://e/d/> ex:a a <b> , "x"@en ; ex:p.q 1.5 , [] , true ;; .` -/
def exDoc : Doc :=
  [.dir (.prefixAt (asc "ex") (asc "http://e/")), .dir (.baseKw (asc "http://e/d/")),
   .triples ⟨.iri (.pn (asc "ex") (asc "a")),
     [.mk .a [.iri (.ref (asc "b")), .lit (.lang (asc "x") (asc "en"))],
      .mk (.iri (.pn (asc "ex") (asc "p.q"))) [.lit (.num (asc "1.5")), .anon, .lit (.bool true)]]⟩]

def exChoices : Choices :=
  [{}, { lay := [.ws 2] }, {}, { lay := [.comment (asc "c") 0] }, {}, { n := 5, lay := [.ws 1] }, {},
   { lay := [.ws 0] }, {}, { cs := [.u4 true], lay := [.comment (asc "x") 2] }, {}, { sty := .lsq, cs := [.u8 false] }, {}, { n := 1 }, {}, {}, {}, {}, {}, {}, { n := 2 }]

theorem exDoc_ok : docWf Gen.turtle false exDoc = true ∧ docFlat exDoc = true ∧
    docNoBoolPfx exDoc = true ∧ choicesOK exChoices = true := by decide +kernel

example : docWf Gen.turtle false exDoc = true ∧ docFlat exDoc = true ∧ docNoBoolPfx exDoc = true ∧
    choicesOK exChoices = true := exDoc_ok

example : (denote (fun b r => some (b.getD [] ++ r)) none [] exDoc).isSome = true := by decide +kernel

/-- `[ <p> ( 1 [ <q> "x" ] ) ] <r> () ; <s> [] .` — nesting in subject and object position -/
def exNested : Doc :=
  [.triples ⟨.bnpl [.mk (.iri (.ref (asc "p"))) [.coll [.lit (.num (asc "1")), .bnpl [.mk (.iri (.ref (asc "q"))) [.lit (.plain (asc "x"))]]]]],
     [.mk (.iri (.ref (asc "r"))) [.coll []], .mk (.iri (.ref (asc "s"))) [.anon]]⟩]

theorem exNested_ok : docWf Gen.turtle false exNested = true ∧ docNoBoolPfx exNested = true ∧
    (denote idResolve none [] exNested).isSome = true := by decide +kernel

example : docWf Gen.turtle false exNested = true ∧ docNoBoolPfx exNested = true ∧
    (denote idResolve none [] exNested).isSome = true := exNested_ok

/-- … so the theorem applies to them: whatever `exDoc` / `exNested` denote is what the Turtle and the
    TriG configuration decode from the printed text -/
example : ∃ qs, denote idResolve none [] exDoc = some qs ∧
    run (C05.realCfg false idResolve (inRanges Gen.unicodeSpace)) .eof none [] (print Gen.turtle exDoc exChoices) =
      (qs.map toStmt, .clean) := by
  obtain ⟨qs, h⟩ := Option.isSome_iff_exists.1
    (by decide +kernel : (denote idResolve none [] exDoc).isSome = true)
  exact ⟨qs, h, decode_print_real false idResolve none [] exDoc exChoices qs exDoc_ok.1 exDoc_ok.2.2.1
    exDoc_ok.2.2.2 h⟩

example : ∃ qs, denote idResolve none [] exNested = some qs ∧
    run (C05.realCfg true idResolve (inRanges Gen.unicodeSpace)) .eof none [] (print Gen.trig exNested []) =
      (qs.map toStmt, .clean) := by
  obtain ⟨qs, h⟩ := Option.isSome_iff_exists.1 exNested_ok.2.2
  exact ⟨qs, h, decode_print_real true idResolve none [] exNested [] qs (by decide +kernel) exNested_ok.2.1
    (by decide) h⟩

/-! ### Witnesses of the three findings on the model (the Go decoders behave the same), and the
    repaired behaviour at the two defects fixed here (D42, D44) -/

def realTtl : Cfg := C05.realCfg false idResolve (inRanges Gen.unicodeSpace)
def realTrig : Cfg := C05.realCfg true idResolve (inRanges Gen.unicodeSpace)

/-- D44 (repaired, patch `fix-ttl-comment-cr`): a comment ends at CR; before, the statement after
    `#c` CR was swallowed by the comment and the run ended cleanly with no statement -/
theorem repaired_comment_cr :
    run realTtl .eof none [] (asc "#c\r<a:a> <a:b> <a:c> .\n") =
      ([⟨some (.iri (asc "a:a")), some (.iri (asc "a:b")), .iri (asc "a:c"), none⟩], .clean) := by decide +kernel

/-- D42 (repaired, patch `fix-ttl-bnpl-subject-semicolon`): `;` after a blank-node property list in
    subject position, both packages -/
theorem repaired_bnpl_subject_semicolon :
    (run realTtl .eof none [] (asc "[ <a:p> <a:o> ] <a:q> <a:r> ; <a:s> <a:t> .")).2 = .clean ∧
    (run realTtl .eof none [] (asc "[ <a:p> <a:o> ] <a:q> <a:r> ; <a:s> <a:t> .")).1.length = 3 ∧
    (run realTrig .eof none [] (asc "[ <a:p> <a:o> ] <a:q> <a:r> ; <a:s> <a:t> .")).2 = .clean ∧
    (run realTrig .eof none [] (asc "[ <a:p> <a:o> ] <a:q> <a:r> ; <a:s> <a:t> .")).1.length = 3 := by decide +kernel

/-- `keyword-glue`: `<a:a> a<a:c>.` is rejected -/
theorem finding_keyword_glue :
    (run realTtl .eof none [] (asc "<a:a> a<a:c>.")).2 = .error .syntax ∧
    (run realTrig .eof none [] (asc "GRAPH<a:g>{}")).2 = .error .syntax := by decide +kernel

/-- `pname-bool-prefix`: the object `truex:a` is read as `true` followed by garbage -/
theorem finding_pname_bool_prefix :
    (run realTtl .eof none [(asc "truex", asc "a:")] (asc "<a:a> <a:b> truex:a .")).2 = .error .syntax := by decide +kernel

/-- `pname-prefix-space`: U+1680 at the start of a prefix label is skipped as white space, the name
    ` x:a` is read as `x:a` -/
theorem finding_pname_prefix_space :
    (run realTtl .eof none [(asc "x", asc "a:2"), ([0x1680, 0x78], asc "a:1")] ([0x1680] ++ asc "x:a <a:b> <a:c> .")).1 =
      [⟨some (.iri (asc "a:2a")), some (.iri (asc "a:b")), .iri (asc "a:c"), none⟩] := by decide +kernel

end RdfModel.C08
