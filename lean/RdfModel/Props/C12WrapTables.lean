/-
  Part C12W of property C12 — T1: the hand-written byte functions of Model/GoUrlFull.lean are exactly the
  tables probed from the real net/url (Gen/GoUrlTables.lean, regenerated on every run). Each table is
  compared over all 256 byte values by kernel evaluation; a change of net/url's tables (another toolchain)
  breaks these proofs.
-/
import RdfModel.Model.GoUrlFull
import RdfModel.Gen.GoUrlTables
namespace RdfModel.C12W
open RdfModel.GoUrlFull RdfModel.Gen

def allBytes (f : Nat → Bool) : Bool := (List.range 256).all f

theorem allBytes_spec {f : Nat → Bool} (h : allBytes f = true) : ∀ c, c < 256 → f c = true := by
  intro c hc
  exact List.all_eq_true.mp h c (List.mem_range.mpr hc)

/-- A generated table lists, in increasing order, the bytes on which the probed function said yes: it is
    compared with the model's function `f` in one pass over the bytes (`h`, evaluated by the kernel) and not by
    256 searches through `t`; membership then follows. -/
theorem table_contains (f : Nat → Bool) (t : List Nat) (h : (List.range 256).filter f = t)
    {c : Nat} (hc : c ∈ List.range 256) : t.contains c = f c := by
  subst h
  rw [Bool.eq_iff_iff]
  simp [List.mem_range.mp hc]

/-- `shouldEscape` in the six modes reachable through `escape`, `validEncoded` in its two modes -/
theorem gen_shouldEscape_tables :
    allBytes (fun c =>
      shouldEscape c .path == GoUrlTables.escPath.contains c &&
      shouldEscape c .pathSegment == GoUrlTables.escPathSegment.contains c &&
      shouldEscape c .queryComponent == GoUrlTables.escQueryComponent.contains c &&
      shouldEscape c .host == GoUrlTables.escHost.contains c &&
      shouldEscape c .userPassword == GoUrlTables.escUserPassword.contains c &&
      shouldEscape c .fragment == GoUrlTables.escFragment.contains c &&
      validEncodedByte .path c == GoUrlTables.validEncPath.contains c &&
      validEncodedByte .fragment c == GoUrlTables.validEncFragment.contains c) = true := by
  refine List.all_eq_true.mpr fun c hc => ?_
  simp only [table_contains (shouldEscape · .path) GoUrlTables.escPath (by decide +kernel) hc,
    table_contains (shouldEscape · .pathSegment) GoUrlTables.escPathSegment (by decide +kernel) hc,
    table_contains (shouldEscape · .queryComponent) GoUrlTables.escQueryComponent (by decide +kernel) hc,
    table_contains (shouldEscape · .host) GoUrlTables.escHost (by decide +kernel) hc,
    table_contains (shouldEscape · .userPassword) GoUrlTables.escUserPassword (by decide +kernel) hc,
    table_contains (shouldEscape · .fragment) GoUrlTables.escFragment (by decide +kernel) hc,
    table_contains (validEncodedByte .path) GoUrlTables.validEncPath (by decide +kernel) hc,
    table_contains (validEncodedByte .fragment) GoUrlTables.validEncFragment (by decide +kernel) hc,
    beq_self_eq_true, Bool.and_self]

/-- `ishex`, `unhex`, `validUserinfo`, the digit loop of `validOptionalPort`, `stringContainsCTLByte` -/
theorem gen_byte_classes :
    allBytes (fun c =>
      ishex c == (GoUrlTables.hexBytes.map (·.1)).contains c &&
      (!ishex c || GoUrlTables.hexBytes.contains (c, unhex c)) &&
      validUserinfo [c] == GoUrlTables.userinfoOk.contains c &&
      isDigitC c == GoUrlTables.portByte.contains c &&
      hasCTL [c] == GoUrlTables.ctlBytes.contains c) = true := by
  refine List.all_eq_true.mpr fun c hc => ?_
  have hex : (!ishex c || GoUrlTables.hexBytes.contains (c, unhex c)) = true :=
    allBytes_spec (f := fun c => !ishex c || GoUrlTables.hexBytes.contains (c, unhex c)) (by decide +kernel)
      c (List.mem_range.mp hc)
  simp only [table_contains ishex (GoUrlTables.hexBytes.map (·.1)) (by decide +kernel) hc,
    table_contains (fun c => validUserinfo [c]) GoUrlTables.userinfoOk (by decide +kernel) hc,
    table_contains isDigitC GoUrlTables.portByte (by decide +kernel) hc,
    table_contains (fun c => hasCTL [c]) GoUrlTables.ctlBytes (by decide +kernel) hc,
    hex, beq_self_eq_true, Bool.and_self]

/-- escapes are written as `%` + two upper-case hex digits, and both hex positions decode alike -/
theorem gen_escape_shape : GoUrlTables.escapeIsUpperHex = true ∧ GoUrlTables.hexConsistent = true := by decide

/-- `upperhex` is the inverse of `unhex` on nibbles (the escape of a byte decodes to the byte) -/
theorem upperhex_unhex : allBytes (fun c => ishex (upperhex (c / 16 % 16)) && ishex (upperhex (c % 16)) &&
    unhex (upperhex (c / 16 % 16)) * 16 + unhex (upperhex (c % 16)) == c) = true := by decide +kernel

end RdfModel.C12W
