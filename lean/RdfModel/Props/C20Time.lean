/-
  C20, date/time family (xsd:date, dateTime, dateTimeStamp, time, gYear, gYearMonth, gMonth, gDay,
  gMonthDay): theorems about `Model.GoTime`, the executable model of time.Parse / Time.Format and of
  the nine Map functions that the driver runs (component `xsdt`) and that go/cmd/c20t ties to the Go
  code line by line.

  * `time_sound_partial`   Map<T> s succeeds and the parse went through none of the four branches
                           where time.Parse is laxer than XSD (`Notes.clean`)  ⟹  s is in the lexical
                           space of T after white-space collapse. All nine types, all layouts.
  * `dev_*`                each deviation branch is real: a `decide`d input the model (and Go: replayed by
                           the harness corpus) accepts through that branch and the Spec rejects, or
                           whose literal denotes another value.
  * `time_termEquals`      TermEquals ⟺ literal of the same datatype whose text is the lexical form written
                           by AsObjectValue.
  * `time_format_parse`    parse ∘ format: for every layout in use and every value with in-range fields, the text
                           Format writes is read back by the same layout as `norm layout v` (only the printed
                           fields survive; "no zone" under a zone element comes back as UTC), no lax branch used except
                           possibly a wide zone offset.
  * `time_canonical_partial` the literal written for a mapped value is in the lexical space of T, maps again,
                           and the value it gives writes the same literal; excluded exactly: `tzWide` and values
                           whose Layout has a ".000000000" element (class time-fraction-signed). Equality of
                           VALUES (fields) is not claimed — hence `_partial`.
  * `time_canonical`       the same with equality of FIELDS, under `n.clean` and `n.fracDropped = false` only
                           (`time_canonical_full_holds` proves the def `time_canonical_full`).
  * NOT proved (def below; oracle only): `time_complete_canonical` (completeness on canonical forms
    within the year range; `time_complete_partial` covers the image of Format).
-/
import RdfModel.Proofs.C20TimeRT3
import RdfModel.Proofs.C20Str
import RdfModel.Gen.XsdFacts
namespace RdfModel.C20Time
open RdfModel RdfModel.GoTime
open RdfModel.Xsd (Tok Bytes layoutToks TimeTy TimeFact TermArg NumErr)
open RdfModel.Spec.Xsd (accepts lexOK normalize)
open RdfModel.C20 (dtIRI)
open RdfModel.Proofs.C20Time (Fields ZoneOK Tail PreOK LitOK)

/-- hand-written expectation: the layouts each Map function tries, in order -/
def expLayouts : TimeTy → List Bytes
  | .date => [asc "2006-01-02", asc "2006-01-02Z07:00"]
  | .dateTime => [asc "2006-01-02T15:04:05", asc "2006-01-02T15:04:05Z07:00", asc "2006-01-02T15:04:05.000000000",
      asc "2006-01-02T15:04:05.000000000Z07:00"]
  | .dateTimeStamp => [asc "2006-01-02T15:04:05Z07:00", asc "2006-01-02T15:04:05.000000000Z07:00"]
  | .gDay => [asc "---02", asc "---02Z07:00"]
  | .gMonth => [asc "--01", asc "--01Z07:00"]
  | .gMonthDay => [asc "--01-02", asc "--01-02Z07:00"]
  | .gYear => [asc "2006", asc "2006Z07:00"]
  | .gYearMonth => [asc "2006-01", asc "2006-01Z07:00"]
  | .time => [asc "15:04:05", asc "15:04:05.000000000", asc "15:04:05Z", asc "15:04:05.000000000Z", asc "15:04:05Z07:00",
      asc "15:04:05.000000000Z07:00"]

/-- what the theorems require of the regenerated facts of one Map function -/
def timeFactOK (T : TimeTy) (f : TimeFact) : Bool :=
  f.collapse && f.layouts == expLayouts T && f.datatype == dtIRI T.dt && f.eqDatatypeSame

theorem timeFactOK_elim {T : TimeTy} {f : TimeFact} (h : timeFactOK T f = true) :
    f.collapse = true ∧ f.layouts = expLayouts T ∧ f.datatype = dtIRI T.dt ∧ f.eqDatatypeSame = true := by
  simpa only [timeFactOK, Bool.and_eq_true, beq_iff_eq, and_assoc] using h

theorem gen_time_dt (T : TimeTy) : (Gen.xsdFacts.time T).datatype = dtIRI T.dt := by
  cases T <;> simp only [Gen.xsdFacts, Gen.xsdTimeFact] <;> exact Proofs.C20.asc_dtIRI (by decide +kernel)

/-- the layout lists are the same literals on both sides -/
theorem gen_time_layouts (T : TimeTy) : (Gen.xsdFacts.time T).layouts = expLayouts T := by
  cases T <;> simp only [Gen.xsdFacts, Gen.xsdTimeFact, expLayouts]

/-- the current Go source satisfies the expectation -/
theorem gen_time_facts (T : TimeTy) : timeFactOK T (Gen.xsdFacts.time T) = true := by
  unfold timeFactOK
  rw [gen_time_dt T, gen_time_layouts T, beq_self_eq_true, beq_self_eq_true]
  cases T <;> rfl

-- `Proofs.C20Time` is opened only inside the sections that hold the helper lemmas: the theorems between them are
-- stated with the names in scope at the head of the file
section
open RdfModel.Proofs.C20Time

/-- the elements every layout of a type begins with -/
def preOf : TimeTy → List Tok
  | .date => preD | .dateTime | .dateTimeStamp => preDT | .gDay => preGD | .gMonth => preGM
  | .gMonthDay => preGMD | .gYear => preGY | .gYearMonth => preGYM | .time => preC

/-- what follows the prefix in each layout of `expLayouts T`, in order: a ".000000000" element?, the tail -/
def shapes : TimeTy → List (Bool × Tail)
  | .dateTime => [(false, .none), (false, .tz), (true, .none), (true, .tz)]
  | .dateTimeStamp => [(false, .tz), (true, .tz)]
  | .time => [(false, .none), (true, .none), (false, .z), (true, .z), (false, .tz), (true, .tz)]
  | _ => [(false, .none), (false, .tz)]

/-- the model of time.nextStdChunk, evaluated on the 24 type×layout pairs (22 distinct layouts) -/
theorem layoutToks_exp (T : TimeTy) :
    (expLayouts T).map layoutToks = (shapes T).map fun s => shapeToks (preOf T) s.1 s.2 := by
  cases T <;> decide +kernel

theorem exp_shape {T : TimeTy} {l : Bytes} (hl : l ∈ expLayouts T) :
    ∃ fr tl, (fr, tl) ∈ shapes T ∧ layoutToks l = shapeToks (preOf T) fr tl := by
  have h := List.mem_map_of_mem (f := layoutToks) hl
  rw [layoutToks_exp, List.mem_map] at h
  obtain ⟨⟨fr, tl⟩, hs, e⟩ := h
  exact ⟨fr, tl, hs, e.symm⟩

theorem frac_clock {T : TimeTy} {tl : Tail} (hs : (true, tl) ∈ shapes T) : preOf T = preDT ∨ preOf T = preC := by
  cases T <;> simp [shapes, preOf] at hs ⊢

theorem shape_ok (T : TimeTy) (fr : Bool) (tl : Tail) :
    (shapeToks (preOf T) fr tl).all (fun t => LitOK t && t != .unknown) = true ∧
    ((shapeToks (preOf T) fr tl).any fun t => match t with | .frac0 _ _ => true | _ => false) = fr := by
  cases T <;> cases fr <;> cases tl <;> exact ⟨rfl, rfl⟩

theorem no_unknown (T : TimeTy) : (expLayouts T).any (fun l => (layoutToks l).contains .unknown) = false := by
  rw [List.any_eq_false]
  intro l hl
  obtain ⟨fr, tl, _, e⟩ := exp_shape hl
  have h := (shape_ok T fr tl).1
  rw [List.all_eq_true] at h
  rw [e, List.contains_iff_mem]
  intro hm
  simpa using (h _ hm)

theorem firstParse_split {ls : List Bytes} {a : Bytes} {v : TVal} {n : Notes} (h : firstParse ls a = some (v, n)) :
    ∃ ls1 ls2 st, ls = ls1 ++ v.layout :: ls2 ∧ (∀ l0 ∈ ls1, timeParse l0 a = none) ∧
      timeParse v.layout a = some st ∧ st.n = n ∧ v.t = st.t := by
  rw [firstParse_findSome] at h
  obtain ⟨ls1, l, ls2, rfl, hf, hn⟩ := List.findSome?_eq_some_iff.mp h
  obtain ⟨st, hst, e⟩ := Option.map_eq_some_iff.mp hf
  cases e
  exact ⟨ls1, ls2, st, rfl, fun l0 h0 => Option.map_eq_none_iff.mp (hn l0 h0), hst, rfl, rfl⟩

/-- under the expected facts a Map function is: collapse, then the first layout that parses -/
theorem mapTime_eq {T : TimeTy} {f : TimeFact} (hf : timeFactOK T f = true) (s : Bytes) :
    mapTime f s = match firstParse (expLayouts T) (Spec.Xsd.collapse s) with | some r => .ok r | none => .error .syntax := by
  obtain ⟨hcol, hlay, _, _⟩ := timeFactOK_elim hf
  simp only [mapTime, hcol, Xsd.argOf, if_true, Proofs.C20.collapse_spec, hlay, no_unknown, Bool.false_eq_true, if_false]
  rfl

theorem mapTime_first {T : TimeTy} {f : TimeFact} (hf : timeFactOK T f = true) {s : Bytes} {r : TVal × Notes}
    (h : mapTime f s = .ok r) : firstParse (expLayouts T) (Spec.Xsd.collapse s) = some r := by
  rw [mapTime_eq hf] at h
  split at h
  · next r' e => cases h; exact e
  · cases h

theorem mapTime_inv {T : TimeTy} {f : TimeFact} (hf : timeFactOK T f = true) {s : Bytes} {v : TVal} {n : Notes}
    (h : mapTime f s = .ok (v, n)) :
    ∃ l ∈ expLayouts T, ∃ st, timeParse l (Spec.Xsd.collapse s) = some st ∧ st.n = n ∧ v = { t := st.t, layout := l } := by
  obtain ⟨ls1, ls2, st, hs, _, hst, hn, ht⟩ := firstParse_split (mapTime_first hf h)
  exact ⟨v.layout, hs ▸ List.mem_append_right _ List.mem_cons_self, st, hst, hn, by rw [← ht]⟩

/-- per type: the soundness lemma of its prefix. Only `dateTimeStamp` needs to know its shapes:
    its tail is always the zone element. -/
theorem sound_shape {T : TimeTy} {fr : Bool} {tl : Tail} (hs : (fr, tl) ∈ shapes T) {a : Bytes} {st : PS}
    (h : parseWith (shapeToks (preOf T) fr tl) a = some st) (hc : st.n.clean = true) : lexOK T.dt a = true := by
  cases T
  case dateTime => exact dateTimeLexOK_weaken (sound_DT h hc)
  case dateTimeStamp =>
    have : tl.req = true := by simp [shapes] at hs; rcases hs with ⟨_, rfl⟩ | ⟨_, rfl⟩ <;> rfl
    have h' := sound_DT h hc
    rw [this] at h'
    exact h'
  case time => exact sound_C h hc
  all_goals
    cases fr
    case true => exact absurd (frac_clock hs) (by decide)
  · exact sound_D h hc
  · exact sound_GD h hc
  · exact sound_GM h hc
  · exact sound_GMD h hc
  · exact sound_GY h hc
  · exact sound_GYM h hc

end

/-- the four branches of time.Parse that are laxer than the XSD lexical spaces, as decidable
    predicates on how the model read the text (`Notes`, filled in by `GoTime.step`):
    `hour1`  (class time-hour-one-digit)   layout element "15" read a one-digit hour
    `comma`  (class time-fraction-comma)   the fraction was introduced by ','
    `fsign`  (class time-fraction-signed)  a ".000000000" element read a sign and eight digits
    `tzWide` (class time-tz-out-of-range)  "Z07:00" read an offset beyond ±14:00 / minute 60
    `Notes.clean n` = none of them. (`fracDropped`, class time-fraction-dropped, concerns the value
    written back, not soundness.) -/
theorem time_sound_partial (T : TimeTy) (f : TimeFact) (hf : timeFactOK T f = true) (s : Bytes) (v : TVal) (n : Notes)
    (h : mapTime f s = .ok (v, n)) (hc : n.clean = true) : accepts T.dt s = true := by
  obtain ⟨l, hl, st, hst, rfl, _⟩ := mapTime_inv hf h
  obtain ⟨fr, tl, hs, hlt⟩ := exp_shape hl
  have hacc : accepts T.dt s = lexOK T.dt (Spec.Xsd.collapse s) := by cases T <;> rfl
  rw [hacc]
  rw [timeParse, hlt] at hst
  exact sound_shape hs hst hc

/-- the same for the facts of the current Go source -/
theorem gen_time_sound (T : TimeTy) (s : Bytes) (v : TVal) (n : Notes)
    (h : mapTime (Gen.xsdFacts.time T) s = .ok (v, n)) (hc : n.clean = true) : accepts T.dt s = true :=
  time_sound_partial T _ (gen_time_facts T) s v n h hc

/-- the full statement (no side condition) is false of the model, and of the Go code: see `dev_*` -/
def time_sound_full : Prop :=
  ∀ (T : TimeTy) (s : Bytes) (v : TVal) (n : Notes), mapTime (Gen.xsdFacts.time T) s = .ok (v, n) → accepts T.dt s = true

/-- what Map<T> does with `s` under the current facts: lexical form written back and reading notes -/
def run (T : TimeTy) (s : Bytes) : Option (Bytes × Notes) :=
  match mapTime (Gen.xsdFacts.time T) s with
  | .ok (v, n) => some (lexTime v, n)
  | .error _ => none

section
open RdfModel.Proofs.C20Time

/-- `run` on the element lists of the layouts: the test vectors below are evaluated in this form, so that
    the layout strings are not tokenised again for every vector -/
def runToks : List (List Tok) → Bytes → Option (Bytes × Notes)
  | [], _ => none
  | toks :: r, a =>
    match parseWith toks a with
    | some st => some (formatWith toks st.t, st.n)
    | none => runToks r a

theorem firstParse_toks (ls : List Bytes) (a : Bytes) :
    (match firstParse ls a with | some (v, n) => some (lexTime v, n) | none => none) = runToks (ls.map layoutToks) a := by
  induction ls with
  | nil => rfl
  | cons l ls ih =>
    simp only [firstParse, List.map_cons, runToks, timeParse]
    cases parseWith (layoutToks l) a with
    | some st => rfl
    | none => exact ih

theorem run_eq (T : TimeTy) (s : Bytes) :
    run T s = runToks ((shapes T).map fun s => shapeToks (preOf T) s.1 s.2) (Xsd.whiteSpaceCollapse s) := by
  rw [← layoutToks_exp, ← firstParse_toks, run, mapTime_eq (gen_time_facts T), Proofs.C20.collapse_spec]
  cases firstParse (expLayouts T) (Spec.Xsd.collapse s) <;> rfl

end

-- the hypotheses of `time_sound_partial` are satisfiable by non-trivial inputs of every shape
example : run .dateTime (asc " 2000-02-29T23:59:59.123456789012-05:00\n") = some (asc "2000-02-29T23:59:59-05:00", { fracDropped := true })
    ∧ ({ fracDropped := true } : Notes).clean = true := by simp only [run_eq]; decide +kernel
example : run .gMonthDay (asc "--02-29Z") = some (asc "--02-29Z", {}) ∧ run .gMonthDay (asc "--02-30") = none := by simp only [run_eq]; decide +kernel
example : run .date (asc "1900-02-29") = none ∧ run .date (asc "2000-02-29+14:00") = some (asc "2000-02-29+14:00", {}) := by simp only [run_eq]; decide +kernel

/-- class time-hour-one-digit is inhabited: accepted through `hour1`, not a lexical form -/
theorem dev_hour_one_digit :
    run .time (asc "1:00:00") = some (asc "01:00:00", { hour1 := true }) ∧ accepts .time (asc "1:00:00") = false ∧
    run .dateTime (asc "2000-01-01T7:00:00Z") = some (asc "2000-01-01T07:00:00Z", { hour1 := true }) ∧
    accepts .dateTime (asc "2000-01-01T7:00:00Z") = false := by simp only [run_eq]; decide +kernel

/-- class time-fraction-comma -/
theorem dev_fraction_comma :
    run .time (asc "12:00:00,5") = some (asc "12:00:00", { comma := true, fracDropped := true }) ∧
    accepts .time (asc "12:00:00,5") = false := by simp only [run_eq]; decide +kernel

/-- class time-fraction-signed: the only inputs that reach a ".000000000" layout -/
theorem dev_fraction_signed :
    run .time (asc "12:00:00.+12345678") = some (asc "12:00:00.012345678", { fsign := true }) ∧
    accepts .time (asc "12:00:00.+12345678") = false ∧
    run .dateTimeStamp (asc "1999-03-03T20:05:39,-00000000Z") = some (asc "1999-03-03T20:05:39.000000000Z", { comma := true, fsign := true }) ∧
    run .time (asc "12:00:00.-00000001") = none := by simp only [run_eq]; decide +kernel

/-- class time-tz-out-of-range: offsets up to ±24:60 are read; +24:60 is written +25:00, which is not read back -/
theorem dev_tz_out_of_range :
    run .gYear (asc "2000+14:01") = some (asc "2000+14:01", { tzWide := true }) ∧ accepts .gYear (asc "2000+14:01") = false ∧
    run .time (asc "12:00:00+24:60") = some (asc "12:00:00+25:00", { tzWide := true }) ∧ run .time (asc "12:00:00+25:00") = none ∧
    run .date (asc "2000-01-01-14:00") = some (asc "2000-01-01-14:00", {}) := by simp only [run_eq]; decide +kernel

/-- class time-fraction-dropped: a lexical form is accepted (soundly) but the literal written back
    denotes another value — the fraction is in the value and not in the stored layout; the
    ".000000000" layouts are never reached by a digit fraction -/
theorem dev_fraction_dropped :
    run .time (asc "12:00:00.5") = some (asc "12:00:00", { fracDropped := true }) ∧ accepts .time (asc "12:00:00.5") = true ∧
    run .time (asc "12:00:00.123456789") = some (asc "12:00:00", { fracDropped := true }) ∧
    run .time (asc "12:00:00.000") = some (asc "12:00:00", {}) := by simp only [run_eq]; decide +kernel

/-- class time-year-outside-0000-9999 (completeness): canonical forms the Go type could represent are rejected -/
theorem dev_year_range :
    run .gYear (asc "-0001") = none ∧ accepts .gYear (asc "-0001") = true ∧
    run .dateTime (asc "10000-01-01T00:00:00") = none ∧ accepts .dateTime (asc "10000-01-01T00:00:00") = true ∧
    run .gYear (asc "0000") = some (asc "0000", {}) := by simp only [run_eq]; decide +kernel

/-- `24:00:00` is a lexical form (not a canonical one) that time.Parse refuses -/
theorem dev_end_of_day :
    run .time (asc "24:00:00") = none ∧ accepts .time (asc "24:00:00") = true := by simp only [run_eq]; decide +kernel

theorem time_sound_full_fails : ¬ time_sound_full := by
  intro h
  have e : mapTime (Gen.xsdFacts.time .time) (asc "1:00:00")
      = .ok ({ t := { hour := 1 }, layout := asc "15:04:05" }, { hour1 := true }) := by decide +kernel
  have := h .time _ _ _ e
  revert this
  decide +kernel

/-- `v.TermEquals(t)` ⟺ `t` is a literal of the same datatype whose lexical form is exactly the text
    AsObjectValue writes (`v.Time.Format(v.Layout)`) -/
theorem time_termEquals (T : TimeTy) (f : TimeFact) (hf : timeFactOK T f = true) (v : TVal) (t : TermArg) :
    termEquals f v t = some (decide (t = .literal (dtIRI T.dt) (lexTime v))) := by
  obtain ⟨_, _, hdt, hsame⟩ := timeFactOK_elim hf
  cases t with
  | notLiteral => simp [termEquals]
  | literal dt lex =>
    simp only [termEquals, hsame, hdt, not_true_eq_false, if_false]
    exact Proofs.C20.teq_literal ..

example : termEquals (Gen.xsdFacts.time .gYear) { t := { year := 2000 }, layout := asc "2006" }
    (.literal (dtIRI .gYear) (asc "2000")) = some true := by decide +kernel

section
open RdfModel.Proofs.C20Time

/-- the layout has no ".000000000" element (all values except those read through class
    time-fraction-signed; see `dev_fraction_signed`) -/
def noFrac (l : Bytes) : Bool := !(layoutToks l).any (fun t => match t with | .frac0 _ _ => true | _ => false)

theorem noFrac_shape {T : TimeTy} {l : Bytes} {fr : Bool} {tl : Tail} (hlt : layoutToks l = shapeToks (preOf T) fr tl) :
    noFrac l = !fr := by
  rw [noFrac, hlt, (shape_ok T fr tl).2]

theorem lexTime_noWs (T : TimeTy) {l : Bytes} (hl : l ∈ expLayouts T) (t : PT) : C20.NoWs (timeFormat l t) := by
  obtain ⟨fr, tl, _, e⟩ := exp_shape hl
  have h := (shape_ok T fr tl).1
  rw [List.all_eq_true, ← e] at h
  exact formatWith_noWs _ _ fun tok ht => (Bool.and_eq_true _ _ ▸ h tok ht).1

theorem mapTime_of_first {T : TimeTy} {f : TimeFact} (hf : timeFactOK T f = true) {w : Bytes} (hw : C20.NoWs w)
    {r : TVal × Notes} (h : firstParse (expLayouts T) w = some r) : mapTime f w = .ok r := by
  rw [mapTime_eq hf, Proofs.C20.collapse_noWs w hw, h]

theorem preOK_of (T : TimeTy) {v : PT} (h : Fields v) : PreOK v (preOf T) :=
  ⟨fun ts2 _ hr => wf_of_fields h ts2 hr _ (by cases T <;> rfl) fun m => absurd m (by cases T <;> decide),
    day_of_fields h _⟩

theorem canon_core (T : TimeTy) {l : Bytes} (hl : l ∈ expLayouts T) (hnf : noFrac l = true) {v : PT}
    (hF : Fields v) (hz : ZoneOK true v.zone) :
    ∃ tl, layoutToks l = preOf T ++ tl.toks ∧
      ∃ v' n', firstParse (expLayouts T) (timeFormat l v) = some (v', n') ∧
        (lexTime v' = timeFormat l v ∧ n'.clean = true ∧
          ∃ zo, v'.t = { (foldSt v (preOf T) {}).t with zone := zo } ∧ ZoneSame tl v zo) := by
  obtain ⟨fr, tl, _, hlt⟩ := exp_shape hl
  rw [noFrac_shape hlt] at hnf
  cases fr with
  | true => cases hnf
  | false =>
    exact ⟨tl, hlt, canon_of (fun l' hl' => let ⟨fr, tl, _, e⟩ := exp_shape hl'; ⟨fr, tl, e⟩) (preOK_of T hF) hz hl hlt⟩

/-- Completeness, on the image of Format: for every layout of T without fraction element and every
    value with in-range fields and a zone within XSD's ±14:00, the text Format writes (the canonical
    spelling of that value under that layout: four-digit year, two-digit fields, `Z` for offset 0) is
    mapped by Map<T>, is in the lexical space of T, and the value obtained writes it back unchanged.
    `_partial` with respect to `time_complete_canonical`: it is NOT shown that every canonical lexical
    form of the Spec is such a text (surjectivity of Format onto the canonical forms with year
    0000..9999, no fraction, hour ≠ 24); canonical forms WITH a fraction are mapped but not stably
    (class time-fraction-dropped) and are outside this theorem. -/
theorem time_complete_partial (T : TimeTy) (f : TimeFact) (hf : timeFactOK T f = true) (l : Bytes) (hl : l ∈ expLayouts T)
    (hnf : noFrac l = true) (v : PT) (hF : Fields v) (hz : ZoneOK true v.zone) :
    ∃ v' n', mapTime f (timeFormat l v) = .ok (v', n') ∧ lexTime v' = timeFormat l v ∧
      accepts T.dt (timeFormat l v) = true := by
  obtain ⟨_, _, v', n', hfp, hlex, hclean, _⟩ := canon_core T hl hnf hF hz
  have hmap : mapTime f (timeFormat l v) = .ok (v', n') := mapTime_of_first hf (lexTime_noWs T hl v) hfp
  exact ⟨v', n', hmap, hlex, time_sound_partial T f hf _ v' n' hmap hclean⟩

-- non-trivial instance: a leap day in UTC-03:30
example : Fields { year := 2024, month := some 2, day := some 29 } ∧ ZoneOK true (some (-12600)) := by
  refine ⟨⟨by decide, by decide, by decide, by decide, by decide, by decide, by decide, by decide⟩, ?_⟩
  exact Or.inr ⟨3, 30, by decide, by decide, fun _ => by decide, Or.inr (by decide)⟩

/-- Canonicalisation clause for the family. For every T, every s that Map<T> accepts with value v:
    the literal AsObjectValue writes (`lexTime v`) is in the lexical space of T, Map<T> accepts it, and
    the value it gives writes the same literal again (canonicalisation is stable).
    EXCLUDED, and only these: (a) `n.tzWide` — class time-tz-out-of-range, where the written offset is
    outside XSD's and, for +24:60 ↦ +25:00, is not read back (`dev_tz_out_of_range`); (b) values whose
    stored Layout has a ".000000000" element — reached only through class time-fraction-signed
    (`dev_fraction_signed`; their literal "…ss.ddddddddd" is re-read by the plain layout and written
    without the fraction).
    NOT excluded: one-digit hours, comma fractions and dropped fractions (class time-fraction-dropped):
    there the literal is still a stable lexical form, but it denotes a different VALUE than the
    input — which is why this theorem is `_partial` with respect to the property text ("denoting the
    same value", "gives an equal value"): equality of values is not claimed, only of lexical forms. -/
theorem time_canonical_partial (T : TimeTy) (f : TimeFact) (hf : timeFactOK T f = true) (s : Bytes) (v : TVal) (n : Notes)
    (h : mapTime f s = .ok (v, n)) (hw : n.tzWide = false) (hnf : noFrac v.layout = true) :
    accepts T.dt (lexTime v) = true ∧
    ∃ v' n', mapTime f (lexTime v) = .ok (v', n') ∧ lexTime v' = lexTime v := by
  obtain ⟨l, hl, st, hst, rfl, rfl⟩ := mapTime_inv hf h
  obtain ⟨hF, hZ⟩ := parseWith_range hst
  obtain ⟨v', n', hmap, hlex, hacc⟩ := time_complete_partial T f hf l hl hnf st.t hF (hZ hw)
  exact ⟨hacc, v', n', hmap, hlex⟩

end

section
open RdfModel.Proofs.C20Time

/-- `setT` with the zone element: it gives `some offset` (`Z` for offset 0, so "no zone" comes back as UTC) -/
def setTz (v : PT) : Tok → PT → PT
  | .tz, s => { s with zone := some (v.zone.getD 0) }
  | tok, s => setT v tok s

/-- the normalisation time.Parse ∘ Format performs on a value: only the fields the layout prints
    survive (the others return to their defaults: year 0, month/day unset = 1, clock 0, nsec 0, no
    zone); month and day come back as set; a zone element gives `some offset`; a literal `Z` gives no zone -/
def norm (toks : List Tok) (v : PT) : PT := toks.foldl (fun s tok => setTz v tok s) {}

theorem norm_fold (v : PT) {pre : List Tok} (htz : Tok.tz ∉ pre) (tl : Tail) (w : Bool) :
    (tailSt v tl w (foldSt v pre {})).t = norm (pre ++ tl.toks) v := by
  have key : ∀ (p : List Tok) (s : PS), Tok.tz ∉ p →
      (tailSt v tl w (foldSt v p s)).t = (p ++ tl.toks).foldl (fun s tok => setTz v tok s) s.t := by
    intro p
    induction p with
    | nil => intro s _; cases tl <;> rfl
    | cons tok p ih =>
      intro s hp
      have e : setTz v tok s.t = setT v tok s.t := by
        cases tok <;> first | rfl | exact absurd List.mem_cons_self hp
      rw [foldSt, ih _ fun h => hp (List.mem_cons_of_mem _ h), List.cons_append, List.foldl_cons, e]; rfl
  exact key pre {} htz

theorem fp_of {l : Bytes} {pre : List Tok} {tl : Tail} {v : PT} (hlt : layoutToks l = pre ++ tl.toks) (hF : Fields v)
    (hpre : fieldsPre pre = true) (hns : Tok.frac0 9 0x2E ∈ pre → v.nsec < 1000000000) (hz : ZoneOK false v.zone) :
    ∃ n', timeParse l (timeFormat l v) = some { t := norm (layoutToks l) v, n := n' } ∧
      n'.hour1 = false ∧ n'.comma = false ∧ n'.fsign = false ∧ n'.fracDropped = false := by
  have hwf := wf_of_fields hF tl.toks (tailHead_tail hz tl) pre hpre hns
  obtain ⟨w, hw, _⟩ := rt_layout v pre tl hwf hz (day_of_fields hF pre)
  refine ⟨(tailSt v tl w (foldSt v pre {})).n, ?_, ?_⟩
  · rw [timeParse, timeFormat, hlt, hw, ← norm_fold v (WF.no_tz hwf) tl w]
  · cases tl <;> simp [tailSt, foldSt_notes v pre {}]

/-- parse ∘ format = normalisation, for every layout in use and every value whose fields are in the
    range time.Parse produces: year ≤ 9999, month 1..12, day valid for month and year (leap rule), hh < 24,
    mm, ss < 60, nanoseconds < 10⁹, zone none or ±hh:mm with hh ≤ 24, mm ≤ 59 (what Format prints
    faithfully). The text Format writes is read back by the same layout, the value read is `norm`
    of the original (see `norm`), and no lax branch is used except possibly a wide zone offset. -/
theorem time_format_parse (T : TimeTy) (l : Bytes) (hl : l ∈ expLayouts T) (v : PT) (hF : Fields v)
    (hns : v.nsec < 1000000000) (hz : ZoneOK false v.zone) :
    ∃ n', timeParse l (timeFormat l v) = some { t := norm (layoutToks l) v, n := n' } ∧
      n'.hour1 = false ∧ n'.comma = false ∧ n'.fsign = false ∧ n'.fracDropped = false := by
  obtain ⟨fr, tl, hs, hlt⟩ := exp_shape hl
  cases fr with
  | false => exact fp_of hlt hF (by cases T <;> rfl) (fun m => absurd m (by cases T <;> decide)) hz
  | true =>
    have hpre : fieldsPre (preOf T ++ [.frac0 9 0x2E]) = true := by
      rcases frac_clock hs with e | e <;> rw [e] <;> rfl
    exact fp_of (pre := preOf T ++ [.frac0 9 0x2E]) (by rw [hlt, shapeToks, if_pos rfl, List.append_assoc]; rfl)
      hF hpre (fun _ => hns) hz

-- the hypotheses are satisfiable: a leap day with nanoseconds and a negative half-hour zone
example : timeParse (asc "2006-01-02T15:04:05.000000000Z07:00")
    (timeFormat (asc "2006-01-02T15:04:05.000000000Z07:00")
      { year := 2000, month := some 2, day := some 29, hour := 23, min := 59, sec := 59, nsec := 5, zone := some (-16200) })
    = some { t := { year := 2000, month := some 2, day := some 29, hour := 23, min := 59, sec := 59, nsec := 5, zone := some (-16200) },
             n := { tzWide := false } } := by decide +kernel
end

section
open RdfModel.Proofs.C20Time

/-- Same-value part of the canonicalisation clause. For every T and every s that Map<T> accepts with
    value v: the literal written (`lexTime v`) is a lexical form of T, Map<T> accepts it, and the value
    obtained has the SAME FIELDS (year, month, day, hour, minute, second, nanoseconds, zone offset:
    `PT.same`, what the harness compares on `time.Time`) and writes the same literal.
    Excluded, and only these: `n.tzWide` (class time-tz-out-of-range), `n.fracDropped` (class
    time-fraction-dropped: the fraction is in the value and not in the literal), and values whose stored
    Layout has a ".000000000" element (reached only through class time-fraction-signed).
    `_partial` w.r.t. `time_canonical_full` only in that the last exclusion is stated on the layout
    (`noFrac v.layout`); `clean_noFrac` below derives it from `n.clean`, which gives `time_canonical`.
    One-digit hours and comma fractions of value zero are covered. -/
theorem time_canonical_fields_partial (T : TimeTy) (f : TimeFact) (hf : timeFactOK T f = true) (s : Bytes) (v : TVal)
    (n : Notes) (h : mapTime f s = .ok (v, n)) (hw : n.tzWide = false) (hfd : n.fracDropped = false)
    (hnf : noFrac v.layout = true) :
    accepts T.dt (lexTime v) = true ∧
    ∃ v' n', mapTime f (lexTime v) = .ok (v', n') ∧ v'.t.same v.t = true ∧ lexTime v' = lexTime v := by
  obtain ⟨l, hl, st, hst, rfl, rfl⟩ := mapTime_inv hf h
  obtain ⟨hF, hZ⟩ := parseWith_range hst
  obtain ⟨tl, hlt, v', n', hfp, hlex, hclean, zo, hzo, hzs⟩ := canon_core T hl hnf hF (hZ hw)
  have hfr := parseToks_frame _ _ _ _ (parseWith_inv hst).1
  rw [hlt] at hfr
  have hpf : (preOf T).any isFrac = false := by cases T <;> rfl
  have hmap : mapTime f (timeFormat l st.t) = .ok (v', n') := mapTime_of_first hf (lexTime_noWs T hl st.t) hfp
  exact ⟨time_sound_partial T f hf _ v' n' hmap hclean, v', n', hmap,
    hzo ▸ same_fold hfr (preOK_of T hF).no_tz hpf hfd hzs, hlex⟩

example : run .dateTime (asc " 2000-02-29T7:05:09,000-05:00") = some (asc "2000-02-29T07:05:09-05:00", { hour1 := true, comma := true }) := by
  simp only [run_eq]; decide +kernel

end

section
open RdfModel.Proofs.C20Time

/-- every shape with a fraction element comes after the one without it and the same tail -/
def plainFirst : List (Bool × Tail) → List (Bool × Tail) → Bool
  | _, [] => true
  | seen, s :: r => (!s.1 || seen.contains (false, s.2)) && plainFirst (s :: seen) r

theorem plainFirst_split {seen S1 S2 : List (Bool × Tail)} {tl : Tail}
    (h : plainFirst seen (S1 ++ (true, tl) :: S2) = true) : (false, tl) ∈ seen ∨ (false, tl) ∈ S1 := by
  induction S1 generalizing seen with
  | nil => simp [plainFirst] at h; exact Or.inl h.1
  | cons s r ih =>
    simp only [List.cons_append, plainFirst, Bool.and_eq_true] at h
    rcases ih h.2 with h' | h'
    · rcases List.mem_cons.mp h' with e | h''
      · exact Or.inr (e ▸ List.mem_cons_self)
      · exact Or.inl h''
    · exact Or.inr (List.mem_cons_of_mem _ h')

theorem shapeToks_inj {pre : List Tok} {fr fr' : Bool} {tl tl' : Tail} (h : shapeToks pre fr tl = shapeToks pre fr' tl') :
    fr = fr' ∧ tl = tl' := by
  have := List.append_cancel_left h
  cases fr <;> cases fr' <;> cases tl <;> cases tl' <;> first | exact ⟨rfl, rfl⟩ | cases this

theorem plain_earlier {T : TimeTy} {ls1 ls2 : List Bytes} {l : Bytes} {tl : Tail} (hsplit : expLayouts T = ls1 ++ l :: ls2)
    (hlt : layoutToks l = shapeToks (preOf T) true tl) : ∃ l0 ∈ ls1, layoutToks l0 = shapeToks (preOf T) false tl := by
  have hm := layoutToks_exp T
  rw [hsplit, List.map_append, List.map_cons, eq_comm, List.map_eq_append_iff] at hm
  obtain ⟨S1, S2', hS, h1, h2⟩ := hm
  rw [List.map_eq_cons_iff] at h2
  obtain ⟨⟨fr, tl'⟩, S2, rfl, hg, _⟩ := h2
  obtain ⟨rfl, rfl⟩ := shapeToks_inj (hg.trans hlt)
  have hpf : plainFirst [] (shapes T) = true := by cases T <;> decide
  rw [hS] at hpf
  rcases plainFirst_split hpf with h | h
  · cases h
  · have := List.mem_map_of_mem (f := fun s => shapeToks (preOf T) s.1 s.2) h
    rw [h1, List.mem_map] at this
    exact this

/-- a parse that used neither the comma nor the signed-fraction branch never ends in a layout with a
    ".000000000" element: the plain layout tried earlier accepts the same text (fraction rule) -/
theorem clean_noFrac (T : TimeTy) (f : TimeFact) (hf : timeFactOK T f = true) (s : Bytes) (v : TVal) (n : Notes)
    (h : mapTime f s = .ok (v, n)) (hc : n.comma = false) (hs : n.fsign = false) : noFrac v.layout = true := by
  obtain ⟨ls1, ls2, st, hsplit, hnone, hst, rfl, _⟩ := firstParse_split (mapTime_first hf h)
  obtain ⟨fr, tl, hsh, hlt⟩ := exp_shape (T := T) (hsplit ▸ List.mem_append_right _ List.mem_cons_self)
  rw [noFrac_shape hlt]
  cases fr with
  | false => rfl
  | true =>
    -- the layout without the fraction element accepts the same text, and was tried earlier
    rw [timeParse, hlt] at hst
    have hgap : ∃ y, parseWith (shapeToks (preOf T) false tl) (Spec.Xsd.collapse s) = some y := by
      rcases frac_clock hsh with e | e <;> rw [e] at hst ⊢
      · exact gap_dateTime hst hc hs
      · exact gap_time hst hc hs
    obtain ⟨y, hy⟩ := hgap
    obtain ⟨l0, hl0, hlt0⟩ := plain_earlier hsplit hlt
    have := hnone l0 hl0
    rw [timeParse, hlt0, hy] at this
    cases this

/-- Canonicalisation clause of the property for the family, with the exclusions stated on the reading
    notes only. For every T and every s that Map<T> accepts with value v, if the parse used none of
    the four lax branches (`n.clean`: no one-digit hour, comma, signed fraction, wide zone) and no
    non-zero fraction was dropped (`n.fracDropped = false`): the literal written is in the lexical space
    of T, Map<T> accepts it, and the value obtained has the same fields (year … nanoseconds, zone offset)
    and writes the same literal. -/
theorem time_canonical (T : TimeTy) (f : TimeFact) (hf : timeFactOK T f = true) (s : Bytes) (v : TVal) (n : Notes)
    (h : mapTime f s = .ok (v, n)) (hc : n.clean = true) (hfd : n.fracDropped = false) :
    accepts T.dt (lexTime v) = true ∧
    ∃ v' n', mapTime f (lexTime v) = .ok (v', n') ∧ v'.t.same v.t = true ∧ lexTime v' = lexTime v := by
  have hc' : n.hour1 = false ∧ n.comma = false ∧ n.fsign = false ∧ n.tzWide = false := by
    simpa [Notes.clean, and_assoc] using hc
  exact time_canonical_fields_partial T f hf s v n h hc'.2.2.2 hfd (clean_noFrac T f hf s v n h hc'.2.1 hc'.2.2.1)

end

/-- the exclusion (b) of `time_canonical_partial` is needed: a value with a ".000000000" layout writes a
    literal that maps to a value writing a different literal -/
theorem dev_signed_unstable :
    run .time (asc "12:00:00.+12345678") = some (asc "12:00:00.012345678", { fsign := true }) ∧
    run .time (asc "12:00:00.012345678") = some (asc "12:00:00", { fracDropped := true }) := by simp only [run_eq]; decide +kernel

/-- The canonicalisation clause for the current facts. Proved: `time_canonical_full_holds` (from `time_canonical`). -/
def time_canonical_full : Prop :=
  ∀ (T : TimeTy) (s : Bytes) (v : TVal) (n : Notes), mapTime (Gen.xsdFacts.time T) s = .ok (v, n) →
    n.clean = true → n.fracDropped = false →
    accepts T.dt (lexTime v) = true ∧
    ∃ v' n', mapTime (Gen.xsdFacts.time T) (lexTime v) = .ok (v', n') ∧ v'.t.same v.t = true ∧ lexTime v' = lexTime v

theorem time_canonical_full_holds : time_canonical_full :=
  fun T s v n h hc hfd => time_canonical T _ (gen_time_facts T) s v n h hc hfd

/-- Completeness on canonical forms within the code's year range: every string of the lexical space
    of T whose year (if any) is written with exactly four digits and no sign, and which is not the
    end-of-day form 24:00:00, is mapped. NOT PROVED (the converse direction of `time_sound_partial`,
    per layout); `dev_year_range` and `dev_end_of_day` show the two side conditions are needed. Checked
    by the oracle of go/cmd/c20 (aspect complete) on the Go code. -/
def time_complete_canonical : Prop :=
  ∀ (T : TimeTy) (a : Bytes), lexOK T.dt a = true →
    (∀ c r, a = c :: r → c ≠ 0x2D ∨ T = .gDay ∨ T = .gMonth ∨ T = .gMonthDay) →
    (∀ y r, Spec.Xsd.yearFrag a = some (y, r) → y < 10000 ∨ T = .time ∨ T = .gDay ∨ T = .gMonth ∨ T = .gMonthDay) →
    (∀ p q, a = p ++ asc "24:00:00" ++ q → False) →
    ∃ v n, mapTime (Gen.xsdFacts.time T) a = .ok (v, n)

end RdfModel.C20Time
