/-
  Property C01 — N-Triples / N-Quads encoders round-trip every dataset.

  The theorems about the tables are for an arbitrary table set `T` with the facts each names
  (`TablesOK`; `TablesAscii` for `ascii_output`; also `TablesGrammar` for `output_grammatical`);
  `C01Tables.lean` proves these for the tables regenerated from /repo on this run.
-/
import RdfModel.Props.C01Defs
import RdfModel.Spec.NQuadsGrammar
import RdfModel.Proofs.C01Round
import RdfModel.Proofs.C01Ascii
import RdfModel.Proofs.C01Grammar
namespace RdfModel.C01
open RdfModel RdfModel.NQ

variable {β : Type}

/-- N-Quads: decoding the encoder's output yields exactly the input quads with every blank node
    replaced by its label, and a clean end. Holds for every option value (`ascii`), every labeller
    satisfying `LabelsOK`, every list of well-formed quads (lexical forms are arbitrary scalar strings). -/
theorem nquads_roundtrip (T : Tables) (hT : TablesOK T) (urlOk : List Nat → Bool) (ascii : Bool)
    (label : β → List Nat) (hl : LabelsOK T label) (qs : List (Quad β))
    (hwf : ∀ q ∈ qs, WFQuad urlOk q) :
    run T urlOk .eof true (encodeDoc T ascii label true qs) = (qs.map (Quad.map label), .clean) :=
  Proofs.C01.nquads_roundtrip T hT urlOk ascii label hl qs hwf

/-- N-Triples: same, the graph slot is not written. -/
theorem ntriples_roundtrip (T : Tables) (hT : TablesOK T) (urlOk : List Nat → Bool) (ascii : Bool)
    (label : β → List Nat) (hl : LabelsOK T label) (qs : List (Quad β))
    (hwf : ∀ q ∈ qs, WFQuad urlOk q) :
    run T urlOk .eof false (encodeDoc T ascii label false qs)
      = (qs.map (fun q => Quad.map label (Quad.dropGraph q)), .clean) :=
  Proofs.C01.ntriples_roundtrip T hT urlOk ascii label hl qs hwf

/-- Relabelling by an injective function is a blank-node isomorphism: equal labels ⇒ equal nodes. -/
theorem relabel_injective (label : β → List Nat) (hinj : Function.Injective label) :
    Function.Injective (Quad.map label) := by
  have hT := Proofs.C01.term_map_injective label hinj
  intro a b h
  obtain ⟨s1, p1, o1, g1⟩ := a
  obtain ⟨s2, p2, o2, g2⟩ := b
  simp only [Quad.map, Quad.mk.injEq] at h ⊢
  obtain ⟨h1, h2, h3, h4⟩ := h
  refine ⟨hT h1, hT h2, hT h3, ?_⟩
  cases g1 <;> cases g2 <;> simp_all
  exact hT h4

/-- With the ASCII option, every code point written is below 0x80 (so every byte is), provided the
    blank-node labels and language tags are ASCII (the default labeller's are; `langOK` tags are)
    and every rune of the input is a code point (`hrange`: `≤ 0x10FFFF`, which every Go string
    conversion guarantees; the regenerated escape tables say nothing beyond that bound). -/
theorem ascii_output (T : Tables) (hA : TablesAscii T) (label : β → List Nat)
    (hlab : ∀ b, ∀ c ∈ label b, c < 0x80) (quads : Bool) (qs : List (Quad β))
    (hrange : ∀ q ∈ qs, QuadInRange q)
    (hlang : ∀ q ∈ qs, ∀ l d t, q.o = .lit l d (some t) → ∀ c ∈ t, c < 0x80) :
    ∀ c ∈ encodeDoc T true label quads qs, c < 0x80 :=
  Proofs.C01.ascii_output T hA label hlab quads qs hrange hlang

/-- Language tags accepted by `langOK` are ASCII. -/
theorem langOK_ascii (t : List Nat) (h : langOK t = true) : ∀ c ∈ t, c < 0x80 := fun c hc => by
  have := Proofs.C01.langPrim_chars t false h c hc
  simp only [isAlpha, isDigit, Bool.or_eq_true, Bool.and_eq_true, decide_eq_true_eq] at this
  omega

/-- The output is grammatical N-Quads / N-Triples (independent recogniser `Spec.NQG.accepts`). -/
theorem output_grammatical (T : Tables) (hT : TablesOK T) (hG : TablesGrammar T) (urlOk : List Nat → Bool)
    (ascii : Bool) (label : β → List Nat) (hl : LabelsOK T label) (quads : Bool) (qs : List (Quad β))
    (hwf : ∀ q ∈ qs, WFQuad urlOk q) :
    Spec.NQG.accepts (inRanges T.pnCharsU) (inRanges T.pnChars) quads
      (encodeDoc T ascii label quads qs) = true :=
  Proofs.C01.output_grammatical T hT hG urlOk ascii label hl quads qs hwf

/-- Encoder options ("under any option combination"): over any list of `EncoderOption` values the
    effective ASCII flag is the last one set — an option that does not mention ASCII leaves it alone,
    and the default is off. These three equations determine `effectiveAscii` on every option list. -/
theorem opts_ascii_last_set_wins (opts : List EncOpt) (a : Bool) (p : Option Nat) :
    effectiveAscii (opts ++ [⟨some a, p⟩]) = a := by
  simp [effectiveAscii, compileOpts, List.foldl_append, EncOpt.apply]

theorem opts_ascii_unset_keeps (opts : List EncOpt) (p : Option Nat) :
    effectiveAscii (opts ++ [⟨none, p⟩]) = effectiveAscii opts := by
  simp [effectiveAscii, compileOpts, List.foldl_append, EncOpt.apply]

theorem opts_ascii_default : effectiveAscii [] = false := by
  simp [effectiveAscii, compileOpts]

end RdfModel.C01
