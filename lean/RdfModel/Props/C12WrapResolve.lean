/-
  Part C12W of property C12 — resolution through the model of `iri.ParsedIRI` equals RFC 3986 section 5.2 on
  a delimited sub-language (statements; lemmas in Proofs/C12WrapTarget.lean, C12WrapResolveRef.lean, C12WrapAbs.lean).
-/
import RdfModel.Props.C12Wrap
import RdfModel.Proofs.C12WrapResolveRef
import RdfModel.Proofs.C12WrapAbs
namespace RdfModel.C12W
open RdfModel.GoUrlFull RdfModel.PIRI
open RdfModel.Spec.RFC3986 (split recompose resolve resolveParts)

/-- Full-strength statement of property C12 for the code: for every (absolute base, reference) pair of the
    grammar `valid` (RFC 3987 recogniser, go/cmd/c12/gen.go) outside the known deviation classes,
    `ParseIRI(b).Parse(r).String()` is the RFC 3986 5.2 target. NOT proved. -/
def ResolveEqRfc (valid : Str → Str → Prop) : Prop :=
  ∀ b r : Str, valid b r → C12.classes false b r = [] → resolveS b r = some (resolve b r)

/-- Proved part. For a base `scheme://host[:port]/path[?query]` and a RELATIVE reference (no scheme, no
    authority: path-absolute, path-relative with any dot segments, empty path, query-only, fragment-only), both
    inside `InLang` and with '%'-free paths, outside the classes base-fragment-inherited (base without
    fragment), base-dot-segments-empty-path-reference and dotdot-then-empty-segment:
    `ParseIRI(b)` and `.Parse(r)` succeed and `String()` of the result is exactly the string RFC 3986 5.2
    (strict, with remove_dot_segments, no normalisation) produces.
    Missing relative to `ResolveEqRfc`: references with a scheme or an authority, bases without authority or
    with an empty path (opaque / rootless bases), '%' in paths, non-ASCII bytes, userinfo, IP literals, and
    chained histories (the witness `deviates_chain_sticky` shows the chained statement is false as it stands). -/
theorem resolve_eq_rfc_partial (b r : Str) (h : ResolveLang (split b) (split r) = true) :
    resolveStr b r = .ok (some (resolve b r)) := by
  have hf := rlFacts h
  obtain ⟨hb1, _⟩ := parseIRI_eq_pOf (split b) hf.inB
  obtain ⟨hr1, _⟩ := parseIRI_eq_pOf (split r) hf.inR
  obtain ⟨_, ht2⟩ := parseIRI_eq_pOf (tgt (split b) (split r)) (tgt_inLang hf)
  rw [C12.recompose_split] at hb1 hr1
  unfold resolveStr ParsedIRI.parseRef
  rw [hb1]
  simp only [hr1, resolve_pOf hf, ht2]
  rw [← resolveParts_eq_tgt hf]
  rfl

theorem resolveS_eq_rfc_partial (b r : Str) (h : ResolveLang (split b) (split r) = true) :
    resolveS b r = some (resolve b r) := by
  simp [resolveS, resolve_eq_rfc_partial b r h]

-- non-trivial members: dot segments that climb above the root, empty and absent query/fragment, query-only and
-- fragment-only references, escapes in the fragment, a port, sub-delims that set RawPath
example : ResolveLang (split (S "http://a/b/c/d;p?q")) (split (S "../../../g/./h/..?y#s%41")) = true := by decide +kernel
example : ResolveLang (split (S "x-y.z+1://h:80/(a)/b!?")) (split (S "?#")) = true := by decide +kernel
example : ResolveLang (split (S "https://example.org/a/b")) (split (S "")) = true ∧
    ResolveLang (split (S "https://example.org/a/b?q")) (split (S "#")) = true ∧
    ResolveLang (split (S "file://h/a/b")) (split (S "/.//x/../y")) = true := by decide +kernel
-- and pairs outside
example : ResolveLang (split (S "http://h/a#f")) (split (S "b")) = false ∧
    ResolveLang (split (S "http://h/a/./b")) (split (S "#f")) = false ∧
    ResolveLang (split (S "http://h/a")) (split (S "..//x")) = false ∧
    ResolveLang (split (S "http://h")) (split (S "a")) = false ∧
    ResolveLang (split (S "urn:a/b")) (split (S "c")) = false := by decide +kernel

/-- the first pair above, evaluated: dot segments that climb above the root are dropped, a trailing ".." leaves a
    trailing "/", query and fragment of the reference are kept as written -/
example : resolveS (S "http://a/b/c/d;p?q") (S "../../../g/./h/..?y#s%41") = some (S "http://a/g/?y#s%41") := by
  decide +kernel

/-- The property's "in particular an absolute IRI without dot segments is returned unchanged", for the code:
    against a base of ANY shape inside `InLang` (hierarchical or opaque, with or without authority, with or
    without query and non-empty fragment — only a base ending in an empty fragment '#' is excluded, class
    base-fragment-inherited), a reference of `InLang` that has a scheme and no dot segment in its path resolves to
    itself: `ParseIRI(b).Parse(r).String() = r`, which is also what RFC 3986 5.2 gives. -/
theorem resolve_abs_identity_partial (b r : Str) (h : AbsLang (split b) (split r) = true) :
    resolveStr b r = .ok (some r) ∧ resolve b r = r := by
  have hf := absFacts h
  refine ⟨?_, ?_⟩
  · obtain ⟨hb1, _⟩ := parseIRI_eq_pOf (split b) hf.inB
    obtain ⟨hr1, hr2⟩ := parseIRI_eq_pOf (split r) hf.inR
    rw [C12.recompose_split] at hb1 hr1 hr2
    unfold resolveStr ParsedIRI.parseRef
    rw [hb1]
    simp only [hr1, resolve_abs_pOf hf, hr2]
  · exact C12.resolve_abs_nodots b r hf.rs (Proofs.C12.noDot_of_hasDotSegment hf.nd)

example : AbsLang (split (S "urn:x:y")) (split (S "http://a.example/b/c%2e/..d?q#f")) = true ∧
    AbsLang (split (S "http://h/a/./b?q#f")) (split (S "mailto:a@b.example")) = true ∧
    AbsLang (split (S "../rel")) (split (S "file:/etc/passwd")) = true := by decide +kernel
example : AbsLang (split (S "http://h/a#")) (split (S "http://o/")) = false ∧
    AbsLang (split (S "http://h/a")) (split (S "http://o/a/../b")) = false := by decide +kernel

end RdfModel.C12W
