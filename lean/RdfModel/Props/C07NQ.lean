/-
  Property C07 (decoder side) — every document the N-Triples decoder accepts is accepted by the
  N-Quads decoder with the same statements, all in the default graph. Model `RdfModel.NQ`
  (`quads := false` is N-Triples).
  The theorems up to `run_congr` hold for every input, both stream endings and arbitrary tables (no
  table facts); the `gen_*` theorems and `nt_sub_nq_real` are about the regenerated tables.
-/
import RdfModel.Model.NQuads
import RdfModel.Gen.NQTables
import RdfModel.Props.C07NQDefs
import RdfModel.Proofs.C07NQ
namespace RdfModel.C07NQ
open RdfModel RdfModel.NQ

/-- Per step: a statement produced by the N-Triples `Next()` is produced identically (same statement,
    same remaining input) by the N-Quads `Next()`, and it has no graph name. -/
theorem next_nt_quad (T : Tables) (urlOk : List Nat → Bool) (e : End) (started : Bool)
    (inp rest : List Nat) (q : Quad (List Nat))
    (h : next T urlOk e false started inp = .quad q rest) :
    next T urlOk e true started inp = .quad q rest ∧ q.g = none :=
  Proofs.C07NQ.next_nt_quad T urlOk e started inp rest q h

/-- Per step: a clean end for N-Triples is a clean end for N-Quads. (Errors need not correspond:
    N-Quads accepts a graph label where N-Triples reports a syntax error.) -/
theorem next_nt_done (T : Tables) (urlOk : List Nat → Bool) (e : End) (started : Bool)
    (inp : List Nat) (h : next T urlOk e false started inp = .done) :
    next T urlOk e true started inp = .done :=
  Proofs.C07NQ.next_nt_done T urlOk e started inp h

/-- (1) A document the N-Triples decoder accepts is accepted by the N-Quads decoder (same tables)
    with exactly the same statements. -/
theorem nt_sub_nq (T : Tables) (urlOk : List Nat → Bool) (e : End) (inp : List Nat)
    (qs : List (Quad (List Nat))) (h : run T urlOk e false inp = (qs, .clean)) :
    run T urlOk e true inp = (qs, .clean) :=
  Proofs.C07NQ.nt_sub_nq T urlOk e inp qs h

/-- (2) Every statement the N-Triples decoder yields (also before an error) is in the default graph. -/
theorem nt_statements_default_graph (T : Tables) (urlOk : List Nat → Bool) (e : End) (inp : List Nat) :
    ∀ q ∈ (run T urlOk e false inp).1, q.g = none :=
  Proofs.C05NQ.runFuel_forall (fun _ _ _ _ hn => (next_nt_quad T urlOk e _ _ _ _ hn).2) _ false inp

/-- The decoder model reads only `hexDec`, `pnCharsU`, `pnChars`, `space`. -/
theorem run_congr (T T' : Tables) (h : DecoderTablesEqual T T') (urlOk : List Nat → Bool) (e : End)
    (quads : Bool) (inp : List Nat) : run T urlOk e quads inp = run T' urlOk e quads inp :=
  Proofs.C07NQ.run_congr h urlOk e quads inp

/-- (3) The regenerated tables of the two packages agree on every decoder-relevant field … -/
theorem gen_decoder_tables_equal : DecoderTablesEqual Gen.ntriples Gen.nquads :=
  ⟨by decide, by decide, by decide, by decide⟩

/-- … and on the IRI escape table (both option values). -/
theorem gen_iriEsc_equal : ∀ a, Gen.ntriples.iriEsc a = Gen.nquads.iriEsc a := by
  intro a; cases a <;> decide

/-- (3) in one statement: what is equal between `Gen.ntriples` and `Gen.nquads`. -/
theorem gen_tables_equal :
    DecoderTablesEqual Gen.ntriples Gen.nquads ∧ (∀ a, Gen.ntriples.iriEsc a = Gen.nquads.iriEsc a) :=
  ⟨gen_decoder_tables_equal, gen_iriEsc_equal⟩

/-- Informational (encoder-only tables, not used by any theorem here): on this run the literal
    escape tables of the two writers differ — only the N-Quads writer produces canonical escapes. -/
theorem gen_writer_tables_differ :
    (∀ a, Gen.ntriples.litEsc a ≠ Gen.nquads.litEsc a) ∧ Gen.ntriples.echar ≠ Gen.nquads.echar :=
  ⟨by intro a; cases a <;> decide, by decide⟩

/-- (1) for the two real packages: what `encoding/ntriples` accepts, `encoding/nquads` accepts with
    the same statements. -/
theorem nt_sub_nq_real (urlOk : List Nat → Bool) (e : End) (inp : List Nat)
    (qs : List (Quad (List Nat))) (h : run Gen.ntriples urlOk e false inp = (qs, .clean)) :
    run Gen.nquads urlOk e true inp = (qs, .clean) := by
  rw [← run_congr _ _ gen_decoder_tables_equal]
  exact nt_sub_nq _ urlOk e inp qs h

end RdfModel.C07NQ
