/-
  Property C18: the label tables of the pipe's label providers are insert-only (T2).

  `Model/BlankNodes.lean` models `uuidStringProvider.known`, `int64StringProvider.known` and
  `factoryMapper.known` as association lists that only grow: `getLabel` / `mapNode` look a node up and, when it
  is absent, cons one entry (`model_uuid_table_grows` below states this for the model's UUID provider).
  `C18.pipe_labels_injective` (one source blank node never gets two labels) is a theorem about that model. The Go
  maps behave like the model's lists only while nothing removes entries; `Gen/TableFacts.lean` (regenerated from
  the Go source on every run by go/cmd/extract/gen_c18tbl.go, go/ast) lists every syntactic use of these map
  fields, and `label_tables_insert_only` decides that the only uses are `x.f[k]` reads and `x.f[k] = v` inserts.
  A `clear(sp.known)`, `delete`, `len`-driven eviction, `range`, or a re-made map changes the generated file
  and this theorem stops being provable (seeded defect C18r3-3: "table cleared at 4096 entries").
-/
import RdfModel.Gen.TableFacts
import RdfModel.Proofs.C14Basic
namespace RdfModel.C18

/-- the tables the model has, as (struct, field) -/
def expectedTables : List (String × String) :=
  [ ("factoryMapper", "known"), ("int64StringProvider", "known"), ("uuidStringProvider", "known") ]

/-- insert-only: looked up, inserted into, initialised by exactly one composite literal (the constructor),
    and not used in any other way -/
def tableInsertOnly (t : Gen.TableFacts.TableFact) : Bool :=
  t.other == 0 && decide (t.reads ≥ 1) && decide (t.inserts ≥ 1) && t.inits == 1

/-- T2: every map-typed field of the label providers / the mapper is used insert-only, and these fields are
    exactly the tables of the model. -/
theorem label_tables_insert_only :
    Gen.TableFacts.tables.all tableInsertOnly = true ∧
    Gen.TableFacts.tables.map (fun t => (t.struct, t.field)) = expectedTables := by decide

open RdfModel.BN in
/-- Model side of the same fact: `GetBlankNodeString` never removes or changes an entry of a UUID provider's
    table — every provider that exists before the call exists after it, with the same format and a table that
    has the old one as a suffix. -/
theorem model_uuid_table_grows (U : Nat → Bytes) (s : State) (p : ProvRef) (n : Node) (i : Nat) (q : UuidProv)
    (h : s.uuids[i]? = some q) :
    ∃ q', (getLabel U s p n).1.uuids[i]? = some q' ∧ q'.format = q.format ∧ ∃ pre, q'.known = pre ++ q.known := by
  refine Proofs.C14.getLabel_state U s n
    (P := fun s' => ∃ q', s'.uuids[i]? = some q' ∧ q'.format = q.format ∧ ∃ pre, q'.known = pre ++ q.known)
    ⟨q, h, rfl, [], rfl⟩ (fun _ _ _ _ => ⟨q, h, rfl, [], rfl⟩) (fun j pj hj _ => ?_) p
  by_cases hij : j = i
  · subst hij
    obtain rfl : pj = q := Option.some.inj (hj.symm.trans h)
    exact ⟨{ pj with known := (n, s.uuidPos) :: pj.known }, by simp [(List.getElem?_eq_some_iff.mp hj).1], rfl,
      [(n, s.uuidPos)], rfl⟩
  · exact ⟨q, by simp [hij, h], rfl, [], rfl⟩

open RdfModel.BN in
/-- non-vacuity of `model_uuid_table_grows`: a state with one UUID provider whose table already holds a node
    (the hypothesis `s.uuids[0]? = some q` with a non-empty `q.known`), asked for another node through the
    pass-through provider of a string factory — the table has two entries afterwards, the old one last. -/
example :
    let U : Nat → Bytes := fun k => [85, 48 + k]
    let s0 := exec U (init 0) [.newStringFactory, .propagate (some (.strf 0)),
      .getLabel (.pass 0 (.uuid 0)) (some (.bn 0 1))]
    s0.uuids[0]? = some { format := [37, 115], known := [(some (.bn 0 1), 0)] } ∧
    ((getLabel U s0 (.pass 0 (.uuid 0)) (some (.bn 0 2))).1.uuids[0]?).map (·.known) =
      some [(some (.bn 0 2), 1), (some (.bn 0 1), 0)] := by decide

end RdfModel.C18
