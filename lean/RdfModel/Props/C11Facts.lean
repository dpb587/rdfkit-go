/-
  Property C11, the part that consumes generated data (Gen/HtmlFacts.lean, T2: go/ast facts about
  encoding/html/htmldefaults and the sub-decoders' constructors, regenerated on every run).
-/
import RdfModel.Props.C11
import RdfModel.Gen.HtmlFacts
namespace RdfModel.C11
open RdfModel RdfModel.Desc

/-- T2: `(*Decoder).init` of htmldefaults hands none of the three sub-decoder constructors anything that mentions a
    blank-node factory; each sub-decoder, left alone, makes a factory of its own (htmljsonld: one per script
    element); the extractor met no code shape it does not understand. -/
theorem factories_not_shared :
    Gen.HtmlFacts.subFacts.map (·.sub) = [.jsonld, .microdata, .rdfa] ∧
    Gen.HtmlFacts.subFacts.all (fun f => !f.passesFactory && f.defaultFresh) = true ∧
    Gen.HtmlFacts.jsonldDecoderPerScript = true ∧
    Gen.HtmlFacts.unknowns = [] := by decide

/-- T2: the iterator slice is `[jsonld, microdata, rdfa]`, and Microdata is configured with the item-type resolver
    (the vocabulary rule Spec.MicrodataFragment describes). -/
theorem chain_order :
    Gen.HtmlFacts.chainOrder = [.jsonld, .microdata, .rdfa] ∧ Gen.HtmlFacts.microdataResolverIsItemtype = true := by decide

/-- Non-vacuity of `rdfa_roundtrip`'s hypothesis in the initial context the library uses. -/
example : Spec.Rdfa.expressible
    (Spec.Rdfa.bodyCtx (asc "http://ex.org/dir/page.html#x") Gen.HtmlFacts.initialPrefixes Gen.HtmlFacts.terms11 {}).env
    ([⟨.iri (asc "http://ex.org/a"), asc "http://schema.org/name", .lit (asc "A b") xsdString none⟩,
      ⟨.bnode 3, asc "urn:p:x", .iri (asc "mailto:a@b.example")⟩,
      ⟨.iri (asc "http://ex.org/a"), asc "http://p.example/q", .lit (asc "x") rdfLangString (some (asc "en"))⟩] :
        List (Triple Nat)) = true := by decide +kernel

end RdfModel.C11
