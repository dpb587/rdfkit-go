/-
  Definitions used by the C10 theorems (core-only: the driver evaluates these predicates too).

  * `WFQuad` / `WFDataset`: the datasets a JSON-LD document can denote — subjects and graph names are
    IRIs or blank nodes, every IRI (also datatypes and predicates) is absolute in the sense of the
    fragment (`JL.absIri`), a literal has a language tag iff its datatype is rdf:langString, tags are
    well-formed (`JL.langOK`);
  * hypotheses of the encoder theorem: default graph only, no literal the encoder writes as a native
    JSON value, and the certificate `encCert`.
-/
import RdfModel.Spec.JsonLdWriter
import RdfModel.Model.JsonLdEncoder
namespace RdfModel.C10
open RdfModel RdfModel.Desc RdfModel.JL

variable {β : Type}

/-- a term in object position -/
def wfObj : Term β → Bool
  | .iri v => absIri v
  | .bnode _ => true
  | .lit _ dt (some l) => dt == rdfLangString && langOK l
  | .lit _ dt none => absIri dt

/-- a term in subject or graph-name position -/
def wfNode : Term β → Bool
  | .iri v => absIri v
  | .bnode _ => true
  | .lit _ _ _ => false

def wfQuad (q : DQuad β) : Bool :=
  wfNode q.t.s && absIri q.t.p && wfObj q.t.o &&
  (match q.g with
   | none => true
   | some g => wfNode g)

/-- the dataset is one a JSON-LD document can denote -/
def WFDataset (d : List (DQuad β)) : Prop := ∀ q ∈ d, wfQuad q = true

instance (d : List (DQuad β)) : Decidable (WFDataset d) := by unfold WFDataset; exact inferInstance

/-! ### the encoder: hypotheses and certificate -/

section Encoder
variable [DecidableEq β]
open RdfModel.JLEnc

/-- the dataset lives in the default graph (the encoder drops named graphs) -/
def defaultGraphOnly (d : List (DQuad β)) : Bool := d.all (fun q => q.g.isNone)

/-- the encoder writes this literal as a native JSON number or boolean -/
def isNativeLit : Term β → Bool
  | .lit lex dt none =>
    (dt == xsdInteger && isNativeInteger lex) || (dt == xsdDouble && isNativeDouble lex) ||
    (dt == xsdBoolean && (lex == asc "true" || lex == asc "false"))
  | _ => false

/-- no literal of a datatype the encoder may write natively (xsd:integer, xsd:double, xsd:boolean) -/
def noNativeTyped (d : List (DQuad β)) : Bool :=
  d.all (fun q => match q.t.o with
    | .lit _ dt _ => !(dt == xsdInteger || dt == xsdDouble || dt == xsdBoolean)
    | _ => true)

/-- every IRI of a term (its datatype for a literal) -/
def termIris : Term β → List Str
  | .iri v => [v]
  | .bnode _ => []
  | .lit _ dt _ => [dt]

def quadIris (q : DQuad β) : List Str :=
  termIris q.t.s ++ [q.t.p] ++ termIris q.t.o ++ (match q.g with | some g => termIris g | none => [])

/-- finding C10-K2: some IRI of the dataset has, before its first colon, the name of a prefix the
    encoder may declare, and is not followed by `//`: written in full it is read back as a compact IRI
    once that prefix is in the `@context` -/
def schemeClash (cfg : Cfg β) (d : List (DQuad β)) : Bool :=
  d.any fun q => (quadIris q).any fun v =>
    match splitColon v with
    | some (p, s) => s.take 2 != [cSlash, cSlash] && (cfg.prefixes.filter isPrefixTerm).any (fun m => m.1 == p)
    | none => false

/-- statements of an exported resource with the blank node each inlined resource was made from -/
inductive TStmt (β : Type) where
  | obj (p : Str) (o : Term β)
  | anon (b : β) (p : Str) (stmts : List (TStmt β))

/-- the loop of `exportResourceStatements` (default options, repaired export with the `inlined` set `V`)
    keeping the inlined blank nodes; `rec` is the recursive call -/
def foldStmtsT (B : Builder β) (rec : Term β → List β → Option (List (TStmt β) × List β)) :
    List (PO β) → List β → Option (List (TStmt β) × List β)
  | [], V => some ([], V)
  | po :: rest, V =>
    match po.2 with
    | .bnode b =>
      if B.refCount b == 1 && !decide (b ∈ V) then
        match rec po.2 V with
        | none => none
        | some (lb, V1) =>
          match foldStmtsT B rec rest V1 with
          | none => none
          | some (l, V2) => some (TStmt.anon b po.1 lb :: l, V2)
      else
        match foldStmtsT B rec rest V with
        | none => none
        | some (l, V2) => some (TStmt.obj po.1 po.2 :: l, V2)
    | _ =>
      match foldStmtsT B rec rest V with
      | none => none
      | some (l, V2) => some (TStmt.obj po.1 po.2 :: l, V2)

/-- `exportResourceStatements(subject, opts, inlined)` with tags -/
def exportT (B : Builder β) : Nat → Term β → List β → Option (List (TStmt β) × List β)
  | 0, _, _ => none
  | fuel + 1, s, V => foldStmtsT B (exportT B fuel) (B.stmts s) (markSubject V s)

/-- one loop of `ExportResources` over the subjects, with tags: `(subject, statements)` per exported resource -/
def foldRootsT (B : Builder β) (fuel : Nat) (pick : Term β → List β → Bool) :
    List (Term β) → List β → Option (List (Term β × List (TStmt β)) × List β)
  | [], V => some ([], V)
  | s :: rest, V =>
    if pick s V then
      match exportT B fuel s V with
      | none => none
      | some (st, V1) =>
        match foldRootsT B fuel pick rest V1 with
        | none => none
        | some (rs, V2) => some ((s, st) :: rs, V2)
    else foldRootsT B fuel pick rest V

/-- the member name under which the encoder files a statement (`@type`, or the compacted predicate) -/
def encKey (E : Enc) (p : Str) (o : Option (Term β)) : Str :=
  match o with
  | some (.iri _) => if p = rdfType then kType else (compactVocabIRI E p).1
  | _ => (compactVocabIRI E p).1

/-- group `(member name, predicate, value)` triples by member name in order of first occurrence, as
    `buildResource` does with `graphProperties` -/
def groupByKey (kps : List (Str × Str × Tree β)) : List (Str × Str × List (Tree β)) :=
  kps.foldl (fun acc e => alUpd (e.2.1, []) (fun x => (x.1, x.2 ++ [e.2.2])) acc e.1) []

mutual
/-- member name, predicate and tree of one statement -/
def stmtTree (E : Enc) : TStmt β → Str × Str × Tree β
  | .obj p o => (encKey E p (some o), p, .term o)
  | .anon b p l => (encKey E p (none : Option (Term β)), p, .node (.anon b) ((groupByKey (stmtTrees E l)).map (·.2)))
def stmtTrees (E : Enc) : List (TStmt β) → List (Str × Str × Tree β)
  | [] => []
  | x :: xs => stmtTree E x :: stmtTrees E xs
end

/-- the groups of a statement list -/
def groupsOf (E : Enc) (st : List (TStmt β)) : List (Str × Str × List (Tree β)) := groupByKey (stmtTrees E st)

/-- the node object expected for an exported resource: subject and tagged statements -/
def rootTree (E : Enc) (B : Builder β) (r : Term β × List (TStmt β)) : Tree β :=
  let id : NodeId β :=
    match r.1 with
    | .iri v => .iri v
    | .bnode b => if B.refCount b == 0 then .anon b else .named b
    | .lit _ _ _ => .iri []
  Tree.node id ((groupsOf E r.2).map (·.2))

/-- the forest the encoder's document is expected to denote (the certificate): one default-graph block
    with a node object per exported resource, in the order of the two passes of `ExportResources` -/
def encForest (cfg : Cfg β) (d : List (DQuad β)) (ord ord2 : List (Term β)) : Option (Forest β) :=
  let E := mkEnc cfg
  let D := dbuild d
  if !D.graphNames.contains none then some [] else
  let B := D.builder none
  let fuel := d.length + 1
  match foldRootsT B fuel (B.pick1 Opts.default) ord [] with
  | none => none
  | some (rs1, V1) =>
    match foldRootsT B fuel (B.pick2 Opts.default) ord2 V1 with
    | none => none
    | some (rs2, _) =>
      some [(none, (rs1 ++ rs2).map (rootTree E B))]

/-- the counter at which the entries of the encoder's document start: a single item is the document
    itself, several items sit in an `@graph` whose wrapper takes a blank node first -/
def encStart (F : Forest β) : Nat :=
  match F with
  | [(_, [_])] => 0
  | _ => 1

/-- The certificate of the encoder theorem: the forest validates against the dataset, and the fragment
    semantics reads the encoder's document as exactly that forest. Decidable; the driver evaluates it
    for every case of the harness (op `jl.cert`). -/
def encCert (mode11 : Bool) (base : Option Str) (cfg : Cfg β) (d : List (DQuad β)) (ord ord2 : List (Term β)) : Bool :=
  match encode cfg d ord ord2, encForest cfg d ord ord2 with
  | some doc, some F =>
    forestOK F d && decide (toRdf mode11 base doc = some (denForest cfg.label F (encStart F)).1)
  | _, _ => false

/-! ### natural hypotheses of the encoder theorem (`encoder_roundtrip_natural_partial`)

  Every condition below is decidable and LOCAL: it speaks about one IRI of the dataset, one prefix the
  encoder declares, or the configuration — never about `toRdf` of the whole document. The driver
  evaluates them for every encoder case of the harness (op `jl.cert`, flags `lbl ctx loc struct`). -/

/-- the namespace the encoder writes into `@context` for the prefix `p` (`ExpandPrefix(PrefixReference{Prefix: p})`) -/
def ctxEntry (E : Enc) (p : Str) : Option Str :=
  (Prefix.expand E.pm ⟨utf8Encode p, []⟩).map utf8Decode

/-- a prefix name the fragment semantics accepts as a term and that cannot be mistaken for anything else:
    not empty, not `_`, no `:` or `/`, not of keyword form and not starting with `@` (the last condition
    is a limit of the fragment `Spec.JsonLdFragment.processCtxObj`, which refuses every `@…` member
    it does not know; `isPrefixTerm` of the encoder only excludes the keyword form) -/
def pfxNameOK (p : Str) : Bool :=
  !(p == [] || p == [cUnderscore] || p.contains cColon || p.contains cSlash || isKeywordForm p ||
    p.head? == some cAt)

/-- the scheme of `v` (what precedes its first colon) is none of `names`, unless `//` follows -/
def schemeFree (names : List Str) (v : Str) : Bool :=
  match splitColon v with
  | some (s, rest) => rest.take 2 == [cSlash, cSlash] || !names.contains s
  | none => true

/-- the prefixes the encoder marks as used, in order of first use (`GetUsedPrefixes`) -/
def usedPrefixes (cfg : Cfg β) (d : List (DQuad β)) (ord ord2 : List (Term β)) : List Str :=
  let D := dbuild d
  let B := D.builder none
  match (if D.graphNames.contains none then B.exportResourcesV Opts.default ord ord2 (d.length + 1) else some []) with
  | none => []
  | some rs => dedupStr (buildRoots (mkEnc cfg) cfg.label B rs []).2

/-- the prefix entries of the `@context` the encoder writes: `(prefix, namespace)` -/
def declared (cfg : Cfg β) (d : List (DQuad β)) (ord ord2 : List (Term β)) : List (Str × Str) :=
  (usedPrefixes cfg d ord ord2).filterMap fun p => (ctxEntry (mkEnc cfg) p).map fun ns => (p, ns)

/-- **H-ctx**: the `@context` the encoder declares is one a JSON-LD reader accepts and reads as intended:
    the base (if any) is an absolute IRI; every declared prefix is a usable term (`pfxNameOK`) mapped to
    an absolute IRI ending in a gen-delim character whose own scheme is not a declared prefix
    (otherwise the namespace itself would be expanded as a compact IRI); and no IRI of the dataset has a
    declared prefix as its scheme (finding C10-K2, here relative to the prefixes actually declared). -/
def ctxOK (cfg : Cfg β) (d : List (DQuad β)) (ord ord2 : List (Term β)) : Bool :=
  let decl := declared cfg d ord ord2
  let names := decl.map (·.1)
  (match cfg.base with | some b => absIri b | none => true) &&
  decl.all (fun e => pfxNameOK e.1 && absIri e.2 && endsGenDelim e.2 && schemeFree names e.2) &&
  d.all (fun q => (quadIris q).all (schemeFree names))

/-- the prefix table gives back the IRI it shortened: C13's `compact_expand` seen through the UTF-8
    conversions between Go strings (bytes) and IRIs (code points) -/
def compactOK (E : Enc) (v : Str) : Bool :=
  match compactPrefix E v with
  | none => true
  | some (p, r) => (ctxEntry E p).any (fun ns => ns ++ r == v)

/-- the encoder writes `v` (a value of `@id`) as a compact IRI -/
def usesCompact (E : Enc) (v : Str) : Bool :=
  match compactPrefix E v with
  | some (_, r) => r.take 2 != [cSlash, cSlash]
  | none => false

/-- a reference relative to the base that the encoder writes for `v` is read back as `v`: RFC 3986 §5.2
    resolves it to `v` (C13's `relativize_sound` seen through the UTF-8 conversions, outside the classes of
    C10-K1). The encoder writes such a reference only when `v` has no compact form, there is a base,
    `relativizeB` answers, and the reference is not of keyword form and has no colon after its first
    character (`compactDocumentIRI`); in every other case `v` itself or a compact IRI is written and the
    test is `true`. The inner `match` on the part before the first colon is therefore reached only at
    `none`: `names` has no effect on the value. -/
def relOK (E : Enc) (names : List Str) (bs v : Str) : Bool :=
  usesCompact E v ||
  match E.base with
  | none => true
  | some b =>
    match Prefix.relativizeB b (utf8Encode v) with
    | .some rel =>
      let r := utf8Decode rel
      isKeywordForm r || colonAfterFirst r ||
      ((match (if colonAfterFirst r then splitColon r else none) with
        | some (p, s) => p != [cUnderscore] && s.take 2 != [cSlash, cSlash] && !names.contains p && !isScheme p
        | none => true) && Spec.RFC3986Lite.resolve bs r == v)
    | _ => true

/-- IRIs in `@id` position: subjects and objects -/
def docIris (q : DQuad β) : List Str := termIris q.t.s ++ (match q.t.o with | .iri v => [v] | _ => [])

/-- **H-loc**: every IRI of the dataset is shortened invertibly (`compactOK`), and with a base every
    subject / object IRI that is written as a relative reference resolves back (`relOK`) -/
def locOK (cfg : Cfg β) (d : List (DQuad β)) (ord ord2 : List (Term β)) : Bool :=
  let E := mkEnc cfg
  let names := (declared cfg d ord ord2).map (·.1)
  d.all fun q => (quadIris q).all (compactOK E) &&
    (match cfg.base with
     | some bs => (docIris q).all (relOK E names bs)
     | none => true)

/-- **H-lbl**: no blank node label is empty (`_:` alone is not a blank node identifier) -/
def labelsOK (cfg : Cfg β) (d : List (DQuad β)) : Bool :=
  d.all fun q => (termBN q.t.s ++ termBN q.t.o).all fun b => cfg.label b != []

/-- **H-struct**: the export of the resource-list builder (C17) covers the dataset: the forest of the
    exported resources validates against `d` (each quad once, inlined blank nodes distinct and not
    referenced by identifier). Independent of JSON-LD: no context, no IRI, no `toRdf`. For a default-graph
    dataset this is what C17's `flatten_export_repaired` expresses through `NewTriples`; it is NOT derived
    from that theorem here (the forest groups statements by member name, C17 flattens them in order). -/
def structOK (cfg : Cfg β) (d : List (DQuad β)) (ord ord2 : List (Term β)) : Bool :=
  match encForest cfg d ord ord2 with
  | some F => forestOK F d
  | none => false

end Encoder

end RdfModel.C10
