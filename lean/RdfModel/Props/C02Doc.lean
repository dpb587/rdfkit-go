/-
  Property C02, DOCUMENT level — the Turtle encoder's whole output (NewEncoder … Close) is accepted by
  the Turtle decoder and decodes to the input graph (theorems only; proofs in
  RdfModel/Proofs/C02Doc*.lean).

  Objects: `Model/TurtleEncoder.lean` (namespace `TtlEnc`, component `ttle`, what the driver runs against
  the Go encoder) and `Model/TurtleDoc.lean` (`TtlDoc.run`, the decoder's statement machine, component
  `ttld`), over the token layer `Model/TurtleTokens.lean` and the tables regenerated from /repo.

  PROVED
    * `writeIRI_expand`        what the decoder reads back from `writeIRI`'s text is the IRI — prefixed
                               name (C13 compaction + `pname_roundtrip`), relative reference (C13
                               `relativize_checked` + `iriref_roundtrip`), full `<…>`;
    * `plain_doc_roundtrip`    plain-triple mode (AddTriple … Close), EVERY configuration: buffered or
                               not, sorted or not, `@`-style / SPARQL-style / disabled directives (base and
                               prefix kinds independently; disabled kinds handed to the decoder as defaults),
                               header with all prefixes (unbuffered) or the used ones (buffered): the
                               encoder does not fail, the decoder accepts, and the triples come back
                               exactly (as a permutation when sections are sorted);
                               `plain_doc_iso` restates it with `Spec.GraphIso.Iso`;
    * `typed_list_witness`     D7 on the unrepaired list decision, and its absence on the repaired one.
    * `resources_doc_roundtrip_partial`  nested-resource mode (AddResource … Close) for resources of
                               NESTING DEPTH 0 WITH EXPLICIT SUBJECTS: resources whose statements are all
                               ObjectStatements — predicate-object lists with `;` and `,`, rdf:type first as
                               `a`, the multi-line tab layout — every configuration as above.
  STATED HERE as `def`, PROVED in Props/C02DocNest.lean (`resources_doc_roundtrip_holds`), which builds on this file:
    `resources_doc_roundtrip` — full nested-resource mode: `[ ]` property lists (fresh blank nodes),
    `( )` collections, anonymous roots `[]`, the BufferedTriplesEncoder composition.

  The theorems are about the REPAIRED code (token layer: D4–D6; `normalizedListSyntax`: D7).
  HYPOTHESES, all decidable (examples at the end): IRIs, namespaces and the base consist of IRI
  characters; prefix labels are PN_PREFIX-like and outside the two known-finding classes
  (`labelSafe`); the base is absolute with sane indices; whatever is written in full `<…>` next to a
  base — and every namespace and the base itself — is a fixed point of the resolver (`stableUnder`:
  excludes the classes of C12 / C18-X1); blank-node labels are valid and distinct; literals are
  well-formed (language tag iff rdf:langString).
-/
import RdfModel.Props.C02DocDefs
import RdfModel.Props.C02TokensTables
import RdfModel.Props.C05Ttl
import RdfModel.Proofs.C02DocMain
import RdfModel.Proofs.C02DocRes
import RdfModel.Proofs.C02DocCheck
import RdfModel.Proofs.C13PM
import RdfModel.Spec.GraphIso
import RdfModel.Gen.NQTables
namespace RdfModel.C02
open RdfModel RdfModel.Ttl RdfModel.TtlEnc RdfModel.TtlDoc RdfModel.Desc

/-- table facts (T1): the regenerated Turtle tables satisfy `DocTablesOK` -/
theorem gen_turtle_doc_ok : DocTablesOK Gen.turtle :=
  Proofs.C02Doc.docTablesOK_of_chk _ gen_turtle_ok (by decide)

/-- the decoder the theorems are instantiated with: the Turtle scanner the driver runs (`C05.realCfg`),
    with the C13 model of the repository's resolver -/
def docCfg : Cfg := C05.realCfg false docResolve (inRanges Gen.unicodeSpace)

theorem docCfg_ok : CfgOK docCfg Gen.turtle where
  trig := rfl
  prod := rfl
  pnBase := fun _ => rfl
  sp := by decide
  nlsp := by decide
  vis := fun c h1 h2 => rangeAvoids_sound (rs := Gen.unicodeSpace) (lo := 0x21) (hi := 0x7e) (by decide) h1 h2
  res_none := fun _ => rfl
  res_some := fun _ _ => rfl

/-- `writeIRI_expand`: for every IRI `v` of IRI characters (and, when it ends up written in full next
    to a base, stable under the resolver), whatever `writeIRI` wrote — `pfx:local` after prefix
    compaction, `<relative>` after base relativisation, or `<v>` — is read back by the decoder as `v`,
    in an environment `env` that has the encoder's base and maps the labels `D` (which must include the
    one used for `v`) as the encoder's table does; provided the token is followed by a rune that ends
    a prefixed name (`LocalStop`; the encoder writes a space or a line feed). -/
theorem writeIRI_expand {β : Type} (C : Cfg) (T : Tables) (hT : DocTablesOK T) (hC : CfgOK C T) (cfg : Config)
    (pm : Prefix.PM) (label : β → List Nat) (hcfg : ConfigOK C.isSpace T cfg pm) (env : Env)
    (D : List Nat → Prop) (henv : Proofs.C02Doc.EnvOK env cfg.base pm D) (v : List Nat)
    (hv : iriTermOK (ctxOf T cfg pm label) cfg.base v) (hD : ∀ l ∈ usedOfIRI pm v, D l) (e : NQ.End)
    (rest : List Nat) (hstop : LocalStop T e rest) :
    ∃ w, writeIRIForm (ctxOf T cfg pm label) v = .ok w ∧
      Proofs.C02Doc.decodeWritten C T e env w rest = .ok v rest := by
  obtain ⟨t, ht⟩ := Proofs.C02Doc.writeIRI_isOk (c := ctxOf T cfg pm label) hT hC rfl rfl hcfg.base v hv
  obtain ⟨w, hw, _⟩ := Proofs.C02Doc.writeIRI_ok ht
  exact ⟨w, hw, Proofs.C02Doc.decode_writeIRI hT hC _ rfl cfg.base rfl hcfg.base hcfg.labels env D henv v hv hD w hw e
    rest hstop⟩

/-- `plain_doc_roundtrip` (see the file header). `ts'` is `ts` itself unless sections are sorted
    (buffered encoder with `bufferedSort`), in which case it is the permutation the sort produces. -/
theorem plain_doc_roundtrip {β : Type} (C : Cfg) (T : Tables) (hT : DocTablesOK T) (hC : CfgOK C T) (cfg : Config)
    (pm : Prefix.PM) (label : β → List Nat) (hcfg : ConfigOK C.isSpace T cfg pm) (hlbl : LabelOK T label)
    (ts : List (Triple β)) (hts : ∀ t ∈ ts, TripleOK (ctxOf T cfg pm label) cfg.base t) :
    ∃ (doc : List Nat) (ts' : List (Triple β)), encodePlainWith T cfg pm label ts = .ok doc ∧ ts'.Perm ts ∧
      run C .eof (defaultBase cfg) (defaultPrefixes cfg pm) doc = (ts'.map (stmtOf label), .clean) := by
  have S := Proofs.C02Doc.setup_of hT hC hcfg hlbl
  have henc : encodePlainWith T cfg pm label ts = .ok (document cfg pm
      (ts.map (fun t => Proofs.C02Doc.secFlat (ctxOf T cfg pm label) (.single t))) (ts.flatMap (usedOfTriple pm))) := by
    unfold encodePlainWith
    rw [Proofs.C02Doc.mapRes_sections S ts hts]
    rfl
  -- a triple is the flat resource with one pair
  obtain ⟨ts', hperm, hrun⟩ := Proofs.C02Doc.doc_generic (C := C) hT hC hcfg ts
    (fun t => Proofs.C02Doc.secFlat (ctxOf T cfg pm label) (.single t)) (fun t => [stmtOf label t]) (usedOfTriple pm)
    (fun env D henv t ht hD K k rest => by
      rw [← Proofs.C02Doc.outFlat_single]
      exact Proofs.C02Doc.run_flat S env henv (.single t) (Proofs.C02Doc.flatOK_single (hts t ht))
        (by rw [Proofs.C02Doc.usedFlat_single]; exact hD) K k rest)
  rw [← List.map_eq_flatMap] at hrun
  exact ⟨_, ts', henc, hperm, hrun⟩

/-- the statements `plain_doc_roundtrip` speaks of are triples … -/
theorem tripleOfStmt_stmtOf {β : Type} (label : β → List Nat) (t : Triple β) :
    tripleOfStmt (stmtOf label t) = some (t.map (fun b => BN.lbl (label b))) := rfl

/-- … and with `Spec.GraphIso`: the decoded graph is isomorphic to the input (the renaming is
    `b ↦ _:label b`, injective because the labeller is). -/
theorem plain_doc_iso {β : Type} (C : Cfg) (T : Tables) (hT : DocTablesOK T) (hC : CfgOK C T) (cfg : Config)
    (pm : Prefix.PM) (label : β → List Nat) (hcfg : ConfigOK C.isSpace T cfg pm) (hlbl : LabelOK T label)
    (ts : List (Triple β)) (hts : ∀ t ∈ ts, TripleOK (ctxOf T cfg pm label) cfg.base t) :
    ∃ (doc : List Nat) (out : List Stmt) (tr : List (Triple BN)), encodePlainWith T cfg pm label ts = .ok doc ∧
      run C .eof (defaultBase cfg) (defaultPrefixes cfg pm) doc = (out, .clean) ∧
      out.map tripleOfStmt = tr.map some ∧ Spec.Iso tr ts := by
  obtain ⟨doc, ts', h1, h2, h3⟩ := plain_doc_roundtrip C T hT hC cfg pm label hcfg hlbl ts hts
  refine ⟨doc, ts'.map (stmtOf label), ts'.map (Triple.map (fun b => BN.lbl (label b))), h1, h3, ?_, ?_⟩
  · simp [List.map_map, Function.comp_def, tripleOfStmt_stmtOf]
  · refine ⟨fun b => BN.lbl (label b), ?_, h2.map _⟩
    intro a b hab
    exact hlbl.inj (by injection hab)

/-- the encoder's own prefix manager (`NewPrefixManager(cfg.prefixes)`, any tie-break of its unstable
    sort) satisfies the manager part of `ConfigOK` -/
theorem new_pm_agree (S : Prefix.Sorter) (ms : List Prefix.Mapping) : PMAgree (Prefix.new S ms) := by
  have h := Proofs.C13.new_inv S ms
  exact ⟨h.nodup, h.agree⟩

/-- FULL STATEMENT for nested-resource mode (proved as `resources_doc_roundtrip_holds` in
    Props/C02DocNest.lean, which cannot be imported here because it builds on this file; the fragment
    proved directly on the statement machine is `resources_doc_roundtrip_partial` below): for every graph of well-formed triples, both
    iteration orders of the subject map and every configuration, the document written through the
    `BufferedTriplesEncoder` (export with the default options, `AddResource` for every exported resource
    with `[ ]` property lists and `( )` collections, `Close`) is accepted by the decoder and decodes to a
    graph isomorphic to the input.

    Independent evidence besides the proof: (i) C17 `flatten_export_repaired` — the exported resource trees
    flatten back to a graph isomorphic to the input, for every iteration order; (ii) T3 — the model
    `TtlEnc.encodeResourceListWith` is byte-identical to the Go encoder on generated and on really exported
    trees (go/cmd/c02); (iii) the oracle Go encode → Go decode → isomorphic on those cases.
    The proof goes through C08 `decode_print_partial`: the encoder's text is a printed abstract document
    (induction on the fuel of `TtlEnc.write`), whose denotation is the flattening of a deep permutation of
    the exported resource list. -/
def resources_doc_roundtrip : Prop :=
  ∀ (β : Type) [DecidableEq β] (cfg : Config) (pm : Prefix.PM) (label : β → List Nat)
    (ord1 ord2 : List (Term β)) (ts : List (Triple β)),
    ConfigOK docCfg.isSpace Gen.turtle cfg pm → LabelOK Gen.turtle label →
    (∀ t ∈ ts, TripleOK (ctxOf Gen.turtle cfg pm label) cfg.base t) →
    ord1.Perm (build ts).subjects → ord2.Perm (build ts).subjects →
    ∃ (doc : List Nat) (out : List Stmt) (tr : List (Triple BN)),
      encodeResourcesWith Gen.turtle false cfg pm label ord1 ord2 ts = some (.ok doc) ∧
      run docCfg .eof (defaultBase cfg) (defaultPrefixes cfg pm) doc = (out, .clean) ∧
      out.map tripleOfStmt = tr.map some ∧ Spec.Iso tr ts

/-- the graph a list of flat resources stands for -/
def flatTriples {β : Type} (rs : List (Proofs.C02Doc.FlatRes β)) : List (Triple β) := rs.flatMap (·.triples)

/-- `flatTriples` is what `Resource.NewTriples` (Model/Description.lean) yields for them -/
theorem flatTriples_newTriples {β : Type} [DecidableEq β] (rs : List (Proofs.C02Doc.FlatRes β)) (n : Nat) :
    newTriplesList (rs.map (·.toResource)) n = ((flatTriples rs).map (Triple.map BN.orig), n) := by
  induction rs with
  | nil => rfl
  | cons r rs ih => simp [newTriplesList, Proofs.C02Doc.newTriples_flat, ih, flatTriples]

/-- `resources_doc_roundtrip_partial`: nested-resource mode restricted to resources of nesting depth 0
    with an explicit subject (`FlatRes`: subject, `(predicate, object)` pairs; at least one pair). For
    every configuration, `AddResource` for each of them and `Close` produce a document the decoder
    accepts, and the decoded graph is isomorphic to the graph the resources stand for (the statements
    come back regrouped by predicate, the sections possibly sorted: a permutation).
    Not covered here but in Props/C02DocNest.lean (`nested_doc_roundtrip`, `resources_doc_roundtrip_holds`):
    AnonResourceStatements (`[ … ]`, `( … )`), anonymous roots (`[]` subject: decoder-made blank nodes), and the
    composition with the export of `ResourceListBuilder` (C17). `d7` is irrelevant here (no list cells). -/
theorem resources_doc_roundtrip_partial {β : Type} [DecidableEq β] (C : Cfg) (T : Tables) (hT : DocTablesOK T)
    (hC : CfgOK C T) (cfg : Config) (pm : Prefix.PM) (label : β → List Nat) (hcfg : ConfigOK C.isSpace T cfg pm)
    (hlbl : LabelOK T label) (d7 : Bool) (rs : List (Proofs.C02Doc.FlatRes β))
    (hrs : ∀ r ∈ rs, Proofs.C02Doc.FlatOK (ctxOf T cfg pm label) cfg.base r) :
    ∃ (doc : List Nat) (out : List Stmt) (tr : List (Triple BN)),
      encodeResourceListWith T d7 cfg pm label (rs.map (·.toResource)) = some (.ok doc) ∧
      run C .eof (defaultBase cfg) (defaultPrefixes cfg pm) doc = (out, .clean) ∧
      out.map tripleOfStmt = tr.map some ∧ Spec.Iso tr (flatTriples rs) := by
  obtain ⟨doc, rs', h1, h2, h3⟩ := Proofs.C02Doc.flat_roundtrip hT hC hcfg hlbl d7 rs hrs
  refine ⟨doc, rs'.flatMap (Proofs.C02Doc.outFlat label),
    (rs'.flatMap (·.grouped)).map (Triple.map (fun b => BN.lbl (label b))), h1, h3, ?_, ?_⟩
  · simp only [List.map_flatMap, Proofs.C02Doc.outFlat_triples, List.map_map]
  · refine ⟨fun b => BN.lbl (label b), ?_, List.Perm.map _ ?_⟩
    · intro a b hab
      exact hlbl.inj (by injection hab)
    · -- regrouping inside each resource, then the order of the sections
      have hg : ∀ l : List (Proofs.C02Doc.FlatRes β), (l.flatMap (·.grouped)).Perm (l.flatMap (·.triples)) := by
        intro l
        induction l with
        | nil => exact List.Perm.refl _
        | cons r l ih =>
          simp only [List.flatMap_cons]
          exact (Proofs.C02Doc.grouped_perm r).append ih
      exact (hg rs').trans (h2.flatMap_right _)

/-- `<s> <p> [ a rdf:List ; rdf:first <1> ; rdf:rest rdf:nil ]` -/
def typedList : List (Stmt Nat) :=
  [Stmt.obj TtlEnc.rdfType (.iri TtlEnc.rdfList), Stmt.obj Desc.rdfFirst (.iri (asc "http://e/1")),
   Stmt.obj Desc.rdfRest (.iri Desc.rdfNil)]

/-- the predicates of the entries `normalizedListSyntax` returns -/
def viewOf (r : Option (Option (List (Stmt Nat)))) : Option (Option (List (List Nat))) :=
  r.map (·.map (·.map stmtPred))

/-- The unrepaired decision takes the typed node for a collection (the `a rdf:List` statement is not
    among the entries that get written: the triple is lost); the repaired one declines, and the node
    is written as an ordinary `[ … ]` with all three statements. -/
theorem typed_list_witness :
    viewOf (listSyntaxD7 2 typedList) = some (some [Desc.rdfFirst]) ∧
    viewOf (listSyntax 2 typedList) = some none := by decide +kernel


/-! ### Non-vacuity: a configuration and a graph that satisfy every hypothesis, and what happens to them -/

namespace Example

def cfg : Config :=
  { base := some (asc "http://e/a/b"),
    prefixes := [⟨asc "ex", asc "http://e/x/"⟩, ⟨asc "base", asc "urn:x:"⟩],
    buffered := some true, baseMode := some .sparql, prefixMode := some .at }

def pm : Prefix.PM := Prefix.new Prefix.mergeSorter cfg.prefixes

/-- two blank nodes -/
def label : Bool → List Nat := fun b => if b then asc "b1" else asc "n0.x-y"

def xsdIntegerIRI : List Nat := xsdInteger

/-- a local part starting with '-' and ending with '.', relative references (`<>`, `<c#p>`), an IRI written
    in full, the keyword `a`, a bare integer, a language tag with three subtags, a prefix label that looks like a keyword, a cycle -/
def ts : List (Triple Bool) :=
  [⟨.iri (asc "http://e/x/-x."), asc "http://e/a/c#p", .lit (asc "5") xsdInteger none⟩,
   ⟨.bnode true, TtlEnc.rdfType, .bnode false⟩,
   ⟨.bnode false, asc "urn:x:q", .iri (asc "http://other/z")⟩,
   ⟨.iri (asc "http://e/a/b"), asc "urn:x:q", .lit [0x68, 0xe9] rdfLangString (some (asc "en-GB-x"))⟩]

theorem cfg_ok : ConfigOK docCfg.isSpace Gen.turtle cfg pm where
  agree := new_pm_agree _ _
  labels := by decide +kernel
  ns := by decide +kernel
  base := by
    intro b hb
    have : b = asc "http://e/a/b" := by simpa [cfg] using hb.symm
    subst this
    decide
  empty := by decide +kernel

theorem label_ok : LabelOK Gen.turtle label where
  inj := by intro a b h; cases a <;> cases b <;> first | rfl | (exact absurd h (by decide))
  ok := by intro b; cases b <;> exact ⟨by decide, by decide⟩

theorem ts_ok : ∀ t ∈ ts, TripleOK (ctxOf Gen.turtle cfg pm label) cfg.base t := by decide +kernel

/-- the theorem applies … -/
example : ∃ (doc : List Nat) (ts' : List (Triple Bool)), encodePlainWith Gen.turtle cfg pm label ts = .ok doc ∧
    ts'.Perm ts ∧
    run docCfg .eof (defaultBase cfg) (defaultPrefixes cfg pm) doc = (ts'.map (stmtOf label), .clean) :=
  plain_doc_roundtrip docCfg Gen.turtle gen_turtle_doc_ok docCfg_ok cfg pm label cfg_ok label_ok ts ts_ok

set_option maxRecDepth 20000 in
/-- … and this is the document (sections sorted, only the used prefixes declared, SPARQL-style base) -/
example : encodePlainWith Gen.turtle cfg pm label ts = .ok (asc (
    "BASE <http://e/a/b>\n@prefix base: <urn:x:> .\n@prefix ex: <http://e/x/> .\n\n" ++
    "<> base:q \"h\u00e9\"@en-GB-x .\n" ++
    "_:b1 a _:n0.x-y .\n" ++
    "_:n0.x-y base:q <http://other/z> .\n" ++
    "ex:\\-x\\. <c#p> 5 .\n")) := by decide +kernel

/-- a flat resource: two predicates (rdf:type first, as `a`), one of them with two objects -/
def res : Proofs.C02Doc.FlatRes Bool :=
  (.iri (asc "http://e/x/s"),
   [(asc "urn:x:q", .lit (asc "1") xsdInteger none), (TtlEnc.rdfType, .iri (asc "http://e/x/C")),
    (asc "urn:x:q", .bnode true)])

theorem res_ok : Proofs.C02Doc.FlatOK (ctxOf Gen.turtle cfg pm label) cfg.base res where
  ne := by decide +kernel
  s := ⟨by decide +kernel, by decide +kernel⟩
  po := by decide +kernel

set_option maxRecDepth 20000 in
/-- what `AddResource` writes for it -/
example : encodeResourceListWith Gen.turtle false cfg pm label [res.toResource] = some (.ok (asc (
    "BASE <http://e/a/b>\n@prefix base: <urn:x:> .\n@prefix ex: <http://e/x/> .\n\n" ++
    "ex:s\n\ta ex:C ;\n\tbase:q\n\t\t1 ,\n\t\t_:b1 .\n"))) := by decide +kernel

end Example

end RdfModel.C02
