/-
  C05 — "decoders are total": statement layer of the Turtle and TriG decoders.

  All theorems are about `Model/TurtleDoc.lean` (the model the driver executes, one model for both
  packages, flag `Cfg.trig`) and hold for EVERY input, stream ending, default base, prefix table,
  resolver, white-space and PN_CHARS_BASE table. The token producers are a parameter; the
  hypotheses on them (`NoPanic`, `Consumes`, `LangNonEmpty`) are proved for the real producers
  (`real_producers_ok`), so the `…_real` corollaries speak about exactly what `ttld.dec` runs.

  What "total" means here: Lean functions terminate by construction, so the content is
    * no input reaches the explicit `panic` outcomes (unchecked type assertion in
      `reader_scan_triplesOrGraph_E1`, `r.statements[0]` after `Next() = true`, producer panics);
    * the fuel (`St.cost + 1`, at most `64·|input| + 42` scan-function calls per `Next()` and in
      total) is never exhausted: a linear bound on the number of scan steps;
    * after `Next()` has returned false it keeps returning false and `Err()` is unchanged;
    * `Next() = true` implies `r.statements` is non-empty (accessors usable).
  Memory and wall-clock are outside the model.
-/
import RdfModel.Proofs.TtlDocInv
import RdfModel.Proofs.TtlDocFuel
import RdfModel.Proofs.TtlDocReal
import RdfModel.Gen.TtlTables
namespace RdfModel.C05
open RdfModel RdfModel.TtlDoc

/-- No input reaches a panic (repaired code: D6 in the token layer, D11/D40 here). -/
theorem ttl_doc_no_panic (C : Cfg) (e : End) (hP : C.P.NoPanic) (hL : C.P.LangNonEmpty)
    (base : Option (List Nat)) (pf : List (List Nat × List Nat)) (inp : List Nat) :
    (run C e base pf inp).2 ≠ .panic :=
  (runLoop_ok hP hL _ _ (mInv_init C e base pf inp)).1

/-- The fuel `run` and `next` start with always suffices … -/
theorem ttl_fuel_suffices (C : Cfg) (e : End) (hC : C.P.Consumes)
    (base : Option (List Nat)) (pf : List (List Nat × List Nat)) (inp : List Nat) :
    (run C e base pf inp).2 ≠ .outOfFuel :=
  runLoop_fuel hC _ _ (Nat.lt_succ_self _)

/-- … also for a single `Next()` from any decoder state whatsoever, … -/
theorem ttl_next_fuel_suffices (C : Cfg) (e : End) (hC : C.P.Consumes) (st : St) : next C e st ≠ .outOfFuel :=
  (next_fuel hC st).1

/-- … and it is linear in the input: at most `64·|input| + 42` scan-function calls. -/
theorem ttl_fuel_linear (base : Option (List Nat)) (pf : List (List Nat × List Nat)) (inp : List Nat) :
    (init base pf inp).cost + 1 ≤ 64 * inp.length + 42 := by
  have := init_cost base pf inp; omega

/-- Error latch / end of iteration: once `Next()` has returned false, it returns false on each of
    the next `n` calls and `Err()` (the `err` field) never changes. No hypotheses at all. -/
theorem ttl_latch (C : Cfg) (e : End) (st st₁ : St) (h : next C e st = .no st₁) (n : Nat) :
    ∃ stₙ, afterFalse C e n st₁ = some stₙ ∧ stₙ.err = st₁.err := by
  rcases next_no_dead C e st st₁ h with hd | ⟨herr, he, _, _⟩
  · exact ⟨st₁, afterFalse_of_dead C e n st₁ hd, rfl⟩
  · exact afterFalse_of_err C e n st₁ (by rw [he]; exact herr)

/-- Accessor usability: whenever `Next()` has just returned true, `r.statements[0]` exists. -/
theorem ttl_accessors (C : Cfg) (e : End) (st st' : St) (h : next C e st = .yes st') : st'.stmts ≠ [] :=
  nextLoop_yes C e _ _ _ _ h

theorem real_producers_ok (T : Ttl.Tables) :
    (Producers.real T).NoPanic ∧ (Producers.real T).Consumes ∧ (Producers.real T).LangNonEmpty :=
  ⟨real_noPanic T, real_consumes T, real_langNonEmpty T⟩

/-- table fact (T1, regenerated on every run): NUL is not a PN_CHARS_BASE rune in either package -/
theorem gen_tables_nul : inRanges Gen.turtle.pnCharsBase 0 = false ∧ inRanges Gen.trig.pnCharsBase 0 = false := by
  decide

/-- the configuration the driver runs for package `turtle` (`trig := false`) or `trig` -/
def realCfg (trig : Bool) (resolve : Option (List Nat) → List Nat → Option (List Nat)) (isSpace : Nat → Bool) : Cfg :=
  let T := if trig then Gen.trig else Gen.turtle
  { trig := trig, P := Producers.real T, resolve := resolve, isSpace := isSpace, pnBase := inRanges T.pnCharsBase }

theorem realCfg_producers_ok (trig : Bool) (resolve : Option (List Nat) → List Nat → Option (List Nat))
    (isSpace : Nat → Bool) :
    (realCfg trig resolve isSpace).P.NoPanic ∧ (realCfg trig resolve isSpace).P.Consumes ∧
      (realCfg trig resolve isSpace).P.LangNonEmpty := by
  cases trig
  · exact real_producers_ok _
  · exact real_producers_ok _

theorem ttl_doc_total_real (trig : Bool) (resolve) (isSpace) (e : End) (base : Option (List Nat))
    (pf : List (List Nat × List Nat)) (inp : List Nat) :
    (run (realCfg trig resolve isSpace) e base pf inp).2 ≠ .panic ∧
    (run (realCfg trig resolve isSpace) e base pf inp).2 ≠ .outOfFuel := by
  obtain ⟨h1, h2, h3⟩ := realCfg_producers_ok trig resolve isSpace
  exact ⟨ttl_doc_no_panic _ e h1 h3 base pf inp, ttl_fuel_suffices _ e h2 base pf inp⟩

/-! ### Non-vacuity: the hypotheses are satisfiable (the real producers), and runs do something -/

example : (Producers.real Gen.turtle).NoPanic ∧ (Producers.real Gen.turtle).Consumes ∧ (Producers.real Gen.turtle).LangNonEmpty :=
  real_producers_ok _

/-- `<a> <b> ( 1 ) .` yields three triples and a clean end -/
example :
    let r := run (realCfg false (fun _ r => some r) (fun c => c = 0x20)) .eof none [] (asc "<a> <b> ( 1 ) .")
    r.1.length = 3 ∧ r.2 = .clean := by decide

end RdfModel.C05
