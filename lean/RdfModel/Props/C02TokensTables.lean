/-
  Properties C02 / C08, token layer — the table facts for the tables regenerated from /repo on this
  run (T1). Every proof is evaluation (`decide`, for the larger checks `decide +kernel`) of a Boolean
  check over the table *entries* (never over code points); checkers and soundness lemmas are in `Proofs/C02TokCheck.lean`.
-/
import RdfModel.Props.C02TokensDefs
import RdfModel.Gen.TtlTables
import RdfModel.Proofs.C02TokCheck
namespace RdfModel.C02
open RdfModel RdfModel.Ttl

theorem gen_turtle_ok : TablesOK Gen.turtle :=
  Proofs.C02Tok.tablesOK_of_chk _ (by decide +kernel)

theorem gen_trig_ok : TablesOK Gen.trig :=
  Proofs.C02Tok.tablesOK_of_chk _ (by decide +kernel)

/-- The extractor found `prefixLocalNameMustEscapeRune(r, pos, length)` to depend on `(pos == 0,
    pos == length-1)` only, on every probed instance (the model's `localEsc` has that shape). -/
theorem gen_localEsc_consistent : Gen.turtle_localEsc_consistent = true := by decide

/-! ### Non-vacuity of the hypotheses, and the repaired behaviour at the defect witnesses (D4–D6) -/

/-- A local name exercising every rule: leading '-', inner '.', '%', ':', '~', final '.'. -/
example : PNLocalOK Gen.turtle (asc "-a.b%c:~d.") = true := by decide
example : format_PN_LOCAL Gen.turtle (asc "-a.b%c:~d.") = some (asc "\\-a.b\\%c:\\~d\\.") := by decide +kernel
example : prefixOK Gen.turtle (asc "a.b-c") = true ∧ prefixOK Gen.turtle [] = true := by decide
example : LocalStop Gen.turtle .eof [0x20, 0x2e] := by simp only [LocalStop]; decide
example : LocalStop Gen.turtle .eof [] := rfl
example : LocalStop Gen.trig .ioerr [0x0a] := by simp only [LocalStop]; decide
example : NumStop .eof [0x20, 0x2e] := by simp only [NumStop]; decide
example : NumStop .eof [0x2e, 0x20] := by simp only [NumStop]; decide
example : NumStop .ioerr [0x3b] := by simp only [NumStop]; decide
example : langOK (asc "en-Latn-US-x-a1") = true := by decide
example : labelOK Gen.turtle (asc "b0.x-1") = true := by decide

/-- D5, repaired: a leading '-' is escaped; a non-PN_CHARS rune that is an IRI character (U+00D7)
    makes the name unrepresentable (the encoder then writes `<…>`); a rune that is not an IRI
    character at all (space) is percent-encoded — the one place where the written name differs from
    the input, excluded by `PNLocalOK` (and by well-formedness of the IRI). -/
theorem d5_witness :
    format_PN_LOCAL Gen.turtle (asc "-a") = some (asc "\\-a") ∧
    format_PN_LOCAL Gen.turtle [0x61, 0xd7] = none ∧
    format_PN_LOCAL Gen.turtle [0xb7, 0x61] = none ∧
    format_PN_LOCAL Gen.turtle (asc "a b") = some (asc "a%20b") ∧
    PNLocalOK Gen.turtle (asc "a b") = false := by decide

/-- `r = .ok v rest`, as a Boolean (`Res` carries no decidable equality). -/
def okIs {α : Type} [BEq α] (r : Res α) (v : α) (rest : List Nat) : Bool :=
  match r with
  | .ok v' r' => v' == v && r' == rest
  | _ => false

/-- D6, repaired: `:\.` is the local name "." (the unrepaired code indexed a slice at −1 here);
    `:c\.` keeps its dot; an unescaped final '.' is handed back. Both packages. -/
theorem d6_witness :
    [Gen.turtle, Gen.trig].all (fun T =>
      okIs (producePrefixedName T .eof (asc ":\\. .")) ([], asc ".") (asc " .") &&
      okIs (producePrefixedName T .eof (asc ":c\\. .")) ([], asc "c.") (asc " .") &&
      okIs (producePrefixedName T .eof (asc "p:c. ")) (asc "p", asc "c") (asc ". ")) = true := by
  decide +kernel

/-- D4, repaired: no shorthand for xsd:long, none when the lexical form is not a token of the
    datatype's grammar rule. -/
theorem d4_witness :
    literalShorthand xsdLong (asc "5") = false ∧
    literalShorthand xsdDecimal (asc "5") = false ∧
    literalShorthand xsdBoolean (asc "1") = false ∧
    literalShorthand xsdInteger (asc "abc") = false ∧
    literalShorthand xsdDouble (asc "INF") = false ∧
    literalShorthand xsdInteger (asc "+5") = true ∧
    literalShorthand xsdDecimal (asc ".5") = true ∧
    literalShorthand xsdDouble (asc "5.e0") = true ∧
    literalShorthand xsdBoolean (asc "false") = true := by decide +kernel

end RdfModel.C02
