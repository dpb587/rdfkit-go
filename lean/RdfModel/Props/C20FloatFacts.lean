/-
  C20F on the facts regenerated from /repo on this run (T2, `Gen.xsdFacts`; `C20.gen_float_ok` proves
  the conditions the theorems need), and boundary witnesses evaluated in the model (each is also a
  T3 corpus entry, so the Go code is known to agree).
-/
import RdfModel.Props.C20Float
import RdfModel.Props.C20Facts
namespace RdfModel.C20F
open RdfModel RdfModel.XsdF
open RdfModel.Xsd (Bytes FVal FloatTy TermArg mapFloat overflows termEqualsText MapRes)
open RdfModel.Spec.Xsd (accepts collapse decimalLex)

theorem gen_floatfamily_sound (T : FloatTy) (s : Bytes) (x : GF)
    (h : mapFloatX (Gen.xsdFacts.float T) s = .ok x) : accepts T.dt s = true :=
  floatfamily_sound T _ (C20.gen_float_ok T) s x h

theorem gen_decimal_complete (s : Bytes) (h : accepts .decimal s = true) :
    ∃ neg n k nd, decimalLex (collapse s) = some (neg, n, k) ∧
      mapFloat (Gen.xsdFacts.float .decimal) s =
        (if overflows 64 (decFVal neg n k nd) = true then .error .range else .ok (decFVal neg n k nd)) :=
  decimal_complete _ (C20.gen_float_ok .decimal) s h

theorem gen_decimal_value (s : Bytes) (v : FVal) (h : mapFloat (Gen.xsdFacts.float .decimal) s = .ok v) :
    ∃ neg n k nd, decimalLex (collapse s) = some (neg, n, k) ∧ v = decFVal neg n k nd :=
  decimal_value _ (C20.gen_float_ok .decimal) s v h

theorem gen_literal_reads_back (T : FloatTy) (d : Dec) (h : decWF d = true) :
    ∃ nd, mapFloat (Gen.xsdFacts.float T) (fmtF d) =
      (if overflows (bitsOf T) (decFVal d.neg (decValue d).1 (decValue d).2 nd) = true then .error .range
       else .ok (decFVal d.neg (decValue d).1 (decValue d).2 nd)) :=
  literal_reads_back T _ (C20.gen_float_ok T) d h

theorem gen_termEquals (T : FloatTy) (x : GF) (l : Bytes)
    (hl : lexGF (Gen.xsdFacts.float T).objFmt (Gen.xsdFacts.float T).objBits x = some l) (t : TermArg) :
    termEqualsText (Gen.xsdFacts.float T).datatype (Gen.xsdFacts.float T).eqDatatypeSame
      (lexGF (Gen.xsdFacts.float T).eqFmt (Gen.xsdFacts.float T).eqBits x) t
      = some (decide (t = .literal (C20.dtIRI T.dt) l)) :=
  floatfamily_termEquals T _ (C20.gen_float_ok T) x l hl t

/-- xsd:decimal is a float64 in the Go code: 2^53 + 1 is mapped to the literal of 2^53 -/
theorem witness_decimal_is_float64 :
    mapObjectX Gen.xsdFacts .decimal (asc "9007199254740993") = .ok (some (asc "9007199254740992")) := by
  decide +kernel

/-- leading `+`, leading and trailing zeros, white space are normalised away -/
theorem witness_decimal_normalises :
    mapObjectX Gen.xsdFacts .decimal (asc " +00012.3400\n") = .ok (some (asc "12.34")) ∧
    mapObjectX Gen.xsdFacts .decimal (asc ".5") = .ok (some (asc "0.5")) ∧
    mapObjectX Gen.xsdFacts .decimal (asc "5.") = .ok (some (asc "5")) := by
  decide +kernel

/-- negative zero keeps its sign (not the XSD canonical form `0`) -/
theorem witness_decimal_negative_zero :
    mapObjectX Gen.xsdFacts .decimal (asc "-0.0") = .ok (some (asc "-0")) := by decide +kernel

/-- no exponent is ever written: 1e21 and 1e-7 as xsd:double -/
theorem witness_double_plain_notation :
    mapObjectX Gen.xsdFacts .double (asc "1e21") = .ok (some (asc "1000000000000000000000")) ∧
    mapObjectX Gen.xsdFacts .double (asc "1E-7") = .ok (some (asc "0.0000001")) ∧
    mapObjectX Gen.xsdFacts .float (asc "0.1") = .ok (some (asc "0.1")) := by
  decide +kernel

theorem witness_specials :
    mapObjectX Gen.xsdFacts .double (asc "+INF") = .ok (some (asc "INF")) ∧
    mapObjectX Gen.xsdFacts .float (asc "-INF") = .ok (some (asc "-INF")) ∧
    mapObjectX Gen.xsdFacts .double (asc "NaN") = .ok (some (asc "NaN")) ∧
    mapObjectX Gen.xsdFacts .decimal (asc "NaN") = .err ∧
    mapObjectX Gen.xsdFacts .decimal (asc "1e5") = .err ∧
    mapObjectX Gen.xsdFacts .double (asc "Infinity") = .err ∧
    mapObjectX Gen.xsdFacts .double (asc "0x1p-2") = .err := by
  decide +kernel

end RdfModel.C20F
