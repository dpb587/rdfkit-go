/-
  Property C03, second part — "the canonical form depends … not on labels": relabelling invariance of
  the model of `rdfcanon.Canonicalize` for ARBITRARY datasets, the Hash N-Degree Quads phase included
  (proofs in RdfModel/Proofs/C03Rename.lean).

  PROVED: `canon_invariant_relabel` — for every well-formed quad sequence `qs` (any shape: ties,
  symmetric structures, self references, blank graph names), every hash function `H` (collisions
  allowed), every limit configuration and every injective renaming `σ` of the blank nodes: a result of
  the canonicalizer on `qs` under Go map iteration order `ord` and a result on the renamed sequence
  (same quad order) under the correspondingly renamed iteration order `ord'` have byte-identical output,
  and the issued identifier maps correspond through `σ` entry by entry in issue order.  The underlying
  statement about the specification, `spec_equivariant`, is an equation between the two complete
  computations (including "no result for this recursion bound").

  PROVED as well, for arbitrary datasets and in the quad-order / iteration-order dimension:
  `canon_invariant_unique_partial` — a blank node whose first-degree hash is unique in the dataset gets the
  same canonical identifier in every reordered, relabelled copy of the dataset, for every Go map iteration
  order and limit configuration (whenever results are returned), no matter what the N-degree phase does
  to the other nodes.  `_partial`: it speaks about those nodes only, not about the whole output.

  What this does and does not give for C03:
  * The labels themselves never influence the output: the only channels through which a relabelled,
    reordered copy of a dataset can canonicalize differently are (a) the order of the quad sequence and
    (b) the iteration order of Go's maps (`ord`).  `canon_invariant` (Props/C03.lean) is thereby reduced
    to invariance under (a) and (b) — `canon_invariant_of_order_invariant` below, proved.
  * NOT proved: invariance under (a) and (b) when the N-degree phase runs.  Note that the statement
    "`canon H ord (perm qs) = canon H ord' qs` for a suitable `ord'`" is FALSE for the model (and for
    the Go code) as an equation between results: the quad order also fixes the order of the blank node
    lists inside Hash N-Degree Quads (`hashToRelated` appends in quad order; the Heap enumeration starts
    from that arrangement and the first of several minimal paths wins), which `ord` cannot compensate;
    on a symmetric dataset the issued map then differs although the bytes agree (EVALUATED on the compiled
    model, not a theorem: the bidirectional triangle a↔b↔c↔a under SHA-256 yields three issued maps over
    72 sampled `ord` in the given quad order and three others, disjoint from them, in the reversed quad
    order; the bytes are the same in all runs).  Byte-level invariance under quad order needs the
    automorphism argument of RDFC-1.0 and stays with the harness.
  * The theorem about the model has the form "if both runs return a result, the results agree"; it does
    not exclude that one side ends in one of Go's two work-limit errors and the other does not.  (The
    specification has no work limits; for it `spec_equivariant` is an equation of outcomes, "no result
    for this recursion bound" included.)
-/
import RdfModel.Props.C03
import RdfModel.Proofs.C03Rename
import RdfModel.Proofs.C03Unique
namespace RdfModel.C03
open RdfModel RdfModel.C04

variable {β : Type} [DecidableEq β] {γ : Type} [DecidableEq γ]

/-- `ord'` is `ord` transported along the renaming `σ`: Go's map iteration visits the renamed keys in the
    order in which it visited the original ones. -/
def OrdRenamed (σ : β → γ) (ord : List β → List β) (ord' : List γ → List γ) : Prop :=
  ∀ l, ord' (l.map σ) = (ord l).map σ

/-- `perms'` enumerates the permutations of a renamed list as `perms` enumerates those of the list. -/
def PermsRenamed (σ : β → γ) (perms : List β → List (List β)) (perms' : List γ → List (List γ)) : Prop :=
  ∀ l, perms' (l.map σ) = (perms l).map (List.map σ)

/-- **spec_equivariant**: RDFC-1.0 (all sections, Hash N-Degree Quads included) commutes with injective
    renaming of the blank nodes: on the renamed dataset, with the renamed order parameters, it computes
    the renamed result — same lines, issued map renamed — or fails for the same recursion bound. -/
theorem spec_equivariant (H : Str → Str) (σ : β → γ) (hσ : Function.Injective σ)
    (ord : List β → List β) (ord' : List γ → List γ) (hord : OrdRenamed σ ord ord')
    (perms : List β → List (List β)) (perms' : List γ → List (List γ)) (hperms : PermsRenamed σ perms perms')
    (fuel : Nat) (qs : List (Quad β)) :
    Spec.RDFC10.canonFuel H ord' perms' true fuel (qs.map (Quad.map σ))
      = (Spec.RDFC10.canonFuel H ord perms true fuel qs).map
          (fun r => ⟨r.lines, r.issued.map (fun e => (σ e.1, e.2))⟩) :=
  Proofs.C03.canonFuel_rename H σ hσ ord ord' hord perms perms' hperms fuel qs

/-- Go's permuter (`cespare/permute`, Heap's algorithm in place) is positional, so it satisfies
    `PermsRenamed` for every renaming. -/
theorem heapPerms_renamed (σ : β → γ) (n : Nat) :
    PermsRenamed σ (Rdfcanon.heapPerms n) (Rdfcanon.heapPerms n) :=
  fun l => Proofs.C03.heapPerms_map σ n l

/-- **canon_invariant_relabel**: relabelling invariance of the model of `rdfcanon.Canonicalize` for
    arbitrary datasets and arbitrary hash functions (see the file header). -/
theorem canon_invariant_relabel (T : NQ.Tables) (hT : TablesCanon T) (H : Str → Str) (σ : β → γ)
    (hσ : Function.Injective σ) (lim : Rdfcanon.Limits) (ord : List β → List β) (ord' : List γ → List γ)
    (hord : OrdOK ord) (hord' : OrdOK ord') (hoo : OrdRenamed σ ord ord')
    (qs : List (Quad β)) (hwf : ∀ q ∈ qs, WFQuad T q) (out : Rdfcanon.Out β) (out' : Rdfcanon.Out γ)
    (h : Rdfcanon.canon T H lim ord qs = .ok out)
    (h' : Rdfcanon.canon T H lim ord' (qs.map (Quad.map σ)) = .ok out') :
    out'.lines.map (·.encoded) = out.lines.map (·.encoded) ∧ out'.bytes = out.bytes ∧
      out'.issued = out.issued.map (fun e => (σ e.1, e.2)) ∧
      (∀ b, Proofs.C03.labelOf out' (σ b) = Proofs.C03.labelOf out b) :=
  Proofs.C03.canon_relabel T hT H σ hσ lim ord ord' hord hord' hoo qs hwf out out' h h'

/-- Order invariance of the canonical bytes on one quad sequence (over `Nat` labels): every reordering
    of the sequence and every pair of map iteration orders give the same bytes. This is the part of
    `canon_invariant` that is NOT proved in general (it is proved when all first-degree hashes are
    distinct: `canon_invariant_simple`). -/
def OrderInvariantOn (T : NQ.Tables) (H : Str → Str) (lim : Rdfcanon.Limits) (qs : List (Quad Nat)) : Prop :=
  ∀ (qs' : List (Quad Nat)), qs'.Perm qs →
  ∀ (ord ord' : List Nat → List Nat), OrdOK ord → OrdOK ord' →
  ∀ out out', Rdfcanon.canon T H lim ord qs = .ok out → Rdfcanon.canon T H lim ord' qs' = .ok out' →
    out.bytes = out'.bytes

/-- **canon_invariant_of_order_invariant**: the reduction `canon_invariant_relabel` provides. For a
    bijective relabelling `σ` (inverse `τ`): if the canonical bytes of the relabelled sequence
    `qs.map σ` do not depend on quad order and map iteration order, then every reordered, relabelled
    copy `qs'` of `qs` canonicalizes to the bytes of `qs` — provided the run on `qs.map σ` in the
    original quad order under the transported iteration order returns a result (no work limit). -/
theorem canon_invariant_of_order_invariant (T : NQ.Tables) (hT : TablesCanon T) (H : Str → Str)
    (lim : Rdfcanon.Limits) (qs qs' : List (Quad Nat)) (σ τ : Nat → Nat) (hτσ : ∀ n, τ (σ n) = n)
    (hστ : ∀ n, σ (τ n) = n) (hp : qs'.Perm (qs.map (Quad.map σ))) (hwf : ∀ q ∈ qs, WFQuad T q)
    (hinv : OrderInvariantOn T H lim (qs.map (Quad.map σ)))
    (ord ord' : List Nat → List Nat) (hord : OrdOK ord) (hord' : OrdOK ord')
    (out out' mid : Rdfcanon.Out Nat) (h : Rdfcanon.canon T H lim ord qs = .ok out)
    (h' : Rdfcanon.canon T H lim ord' qs' = .ok out')
    (hmid : Rdfcanon.canon T H lim (fun l => (ord (l.map τ)).map σ) (qs.map (Quad.map σ)) = .ok mid) :
    out.bytes = out'.bytes := by
  have hσ : Function.Injective σ := fun a b e => by rw [← hτσ a, ← hτσ b, e]
  have hmapτσ : ∀ l : List Nat, (l.map σ).map τ = l := fun l => by simp [Function.comp_def, hτσ]
  have hmapστ : ∀ l : List Nat, (l.map τ).map σ = l := fun l => by simp [Function.comp_def, hστ]
  have hordm : OrdOK (fun l => (ord (l.map τ)).map σ) := by
    intro l
    have := (hord (l.map τ)).map σ
    rwa [hmapστ] at this
  have hoo : OrdRenamed σ ord (fun l => (ord (l.map τ)).map σ) := by
    intro l; simp only [hmapτσ]
  obtain ⟨_, hb, _, _⟩ := canon_invariant_relabel T hT H σ hσ lim ord _ hord hordm hoo qs hwf out mid h hmid
  rw [← hb]
  exact hinv qs' hp _ ord' hordm hord' mid out' hmid h'

/-- `b` is a blank node of the dataset whose first-degree hash no other blank node of the dataset has
    (it is labelled in §4.4.3 step 4, before Hash N-Degree Quads runs). -/
def UniqueHash (H : Str → Str) (qs : List (Quad β)) (b : β) : Prop := Proofs.C03.UniqueHash H qs b

/-- **canon_invariant_unique_partial** (PARTIAL: only the uniquely hashed nodes; the full statement is
    `canon_invariant`): for ANY well-formed quad sequence `qs`, any hash function, any reordered and
    injectively relabelled copy `qs'`, any two Go map iteration orders and limit configurations under which
    the canonicalizer returns results: every blank node whose first-degree hash is unique in the dataset
    has the same canonical identifier in both results (and has one). The N-degree phase, whatever it
    does with the tied nodes, cannot change these identifiers. -/
theorem canon_invariant_unique_partial (T : NQ.Tables) (hT : TablesCanon T) (H : Str → Str) (σ : β → γ)
    (hσ : Function.Injective σ) (qs : List (Quad β)) (qs' : List (Quad γ))
    (hp : qs'.Perm (qs.map (Quad.map σ))) (hwf : ∀ q ∈ qs, WFQuad T q)
    (lim lim' : Rdfcanon.Limits) (ord : List β → List β) (ord' : List γ → List γ)
    (hord : OrdOK ord) (hord' : OrdOK ord') (out : Rdfcanon.Out β) (out' : Rdfcanon.Out γ)
    (h : Rdfcanon.canon T H lim ord qs = .ok out) (h' : Rdfcanon.canon T H lim' ord' qs' = .ok out')
    (b : β) (hb : UniqueHash H qs b) :
    Proofs.C03.labelOf out' (σ b) = Proofs.C03.labelOf out b ∧ (assoc out.issued b).isSome :=
  Proofs.C03.canon_unique_labels T hT H σ hσ qs qs' hp hwf lim lim' ord ord' hord hord' out out' h h' b hb

/-- When all first-degree hashes are distinct (the hypothesis of `canon_invariant_simple`) every blank
    node of the dataset satisfies `UniqueHash`. -/
theorem uniqueHash_of_allDistinct (H : Str → Str) (qs : List (Quad β)) (hd : Proofs.C03.AllDistinct H qs)
    (b : β) (hb : b ∈ qs.flatMap Spec.RDFC10.quadBnodes) : UniqueHash H qs b :=
  Proofs.C03.uniqueHash_of_allDistinct H qs hd b hb

/-! ### Non-vacuity -/

namespace Witness

/-- The hypotheses of `canon_invariant_relabel` are satisfiable with a non-trivial renaming and a
    non-trivial iteration order: shift every label by 5, Go iterating its maps backwards. -/
example : OrdRenamed (fun n : Nat => n + 5) List.reverse List.reverse := by
  intro l; simp [List.map_reverse]

example : Function.Injective (fun n : Nat => n + 5) := fun a b h => by simpa using h

/-- `spec_equivariant`'s hypothesis on the enumeration: the Go permuter itself. -/
example : PermsRenamed (fun n : Nat => n + 5) (Rdfcanon.heapPerms 4097) (Rdfcanon.heapPerms 4097) :=
  heapPerms_renamed _ _

/-- `canon_invariant_of_order_invariant`: a bijective relabelling of `Nat` (swap 0 and 1). -/
example : ∃ σ τ : Nat → Nat, (∀ n, τ (σ n) = n) ∧ (∀ n, σ (τ n) = n) ∧ σ 0 = 1 := by
  refine ⟨fun n => if n = 0 then 1 else if n = 1 then 0 else n,
    fun n => if n = 0 then 1 else if n = 1 then 0 else n, ?_, ?_, rfl⟩ <;>
  · intro n
    by_cases h0 : n = 0
    · subst h0; rfl
    · by_cases h1 : n = 1
      · subst h1; rfl
      · simp [h0, h1]

/-- `UniqueHash` holds of a concrete node: node 0 of the two-node witness of `Props/C03.lean`. -/
example : UniqueHash (fun s => s) two 0 :=
  uniqueHash_of_allDistinct _ _ two_allDistinct 0
    (by simp [two, Spec.RDFC10.quadBnodes, Spec.RDFC10.bnodeOf])

/-- A dataset WITH a first-degree tie (the two leaves of an outward star), where the N-degree phase runs:
    the centre still satisfies `UniqueHash`. -/
def star : List (Quad Nat) := [⟨.bnode 0, C04.Witness.p, .bnode 1, none⟩, ⟨.bnode 0, C04.Witness.p, .bnode 2, none⟩]

example : UniqueHash (fun s => s) star 0 := by
  refine ⟨by simp [star, Spec.RDFC10.quadBnodes, Spec.RDFC10.bnodeOf], ?_⟩
  intro m hm
  simp only [star, Spec.RDFC10.quadBnodes, Spec.RDFC10.bnodeOf, List.flatMap_cons, List.flatMap_nil,
    List.append_nil, List.cons_append, List.nil_append, List.mem_cons, List.not_mem_nil, or_false] at hm
  rcases hm with rfl | rfl | rfl | rfl <;>
    simp [star, Spec.RDFC10.bnodeToQuads, Spec.RDFC10.quadBnodes, Spec.RDFC10.bnodeOf, addToMap,
      Spec.RDFC10.hashFirstDegree, getList, sortStr, Spec.RDFC10.nquad, Spec.RDFC10.term, C04.Witness.p, List.merge,
      Spec.RDFC10.iriRef, List.mergeSort]

end Witness

end RdfModel.C03
