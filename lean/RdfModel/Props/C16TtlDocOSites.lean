/-
  Property C16, Turtle / TriG statement layer — T2 tie of the COMMIT / HAND-BACK / ERROR-OFFSET SITES.

  `Model/TurtleDocOffsets.lean` models the sites of the table below: for every function of the statement
  layer of encoding/turtle and encoding/trig (decoder.go, decoder_scan_*.go; closures counted in the
  function declaration containing them) the number of call expressions `commit(`,
  `commitForTextOffsetRange(`, `BacktrackRunes(` and `newOffsetError(`.  `Gen.TtlCommitSites.sites` is
  regenerated from the working tree on every run (go/ast, go/cmd/extract/gen_c16d.go); the theorem says
  the sources still have exactly these sites.  A site that is added, removed or moved to another function
  breaks the tie: the model function named in the comment must be re-read against the source.  (Which
  runes each site commits, and in which order, is tied dynamically by T3, go/cmd/c16d.)
-/
import RdfModel.Gen.TtlCommitSites
namespace RdfModel.C16TtlDocO

/-- (package, file, function, commit, commitForTextOffsetRange, BacktrackRunes, newOffsetError) -/
def expectedSites : List (String × String × String × Nat × Nat × Nat × Nat) := [
  ("turtle", "decoder.go", "scan", 2, 0, 0, 0),                                                         -- skipWsO
  ("turtle", "decoder_scan_blankNodePropertyList.go", "reader_scan_blankNodePropertyList_End", 1, 0, 0, 2), -- stepFnO .bnplEnd
  ("turtle", "decoder_scan_collection.go", "reader_scan_collection", 0, 1, 1, 0),                       -- stepCollectionO
  ("turtle", "decoder_scan_collection.go", "reader_scan_collection_Continue", 0, 1, 1, 1),              -- stepFnO .collContinue
  ("turtle", "decoder_scan_object.go", "reader_scan_Object", 1, 4, 11, 15),                             -- stepObjectO, stepLiteralTailO, scanBooleanO
  ("turtle", "decoder_scan_objectList.go", "reader_scan_ObjectList_Continue", 1, 0, 1, 1),              -- stepFnO .objListContinue
  ("turtle", "decoder_scan_predicateObjectList.go", "reader_scan_PredicateObjectList", 1, 1, 2, 2),     -- stepPOLO
  ("turtle", "decoder_scan_predicateObjectList.go", "reader_scan_PredicateObjectList_Continue", 1, 0, 1, 1), -- stepFnO .polContinue
  ("turtle", "decoder_scan_predicateObjectList.go", "reader_scan_PredicateObjectList_Required", 0, 0, 0, 2), -- stepFnO .polRequired
  ("turtle", "decoder_scan_statement.go", "reader_scanStatement_Subject_AnonOrBlankNode", 1, 0, 1, 0),  -- stepFnO .subjAnonOrBNPL
  ("turtle", "decoder_scan_statement.go", "reader_scanStatement", 7, 3, 15, 32),                        -- stepStatementRuneO (+ stepAtDirectiveO, stepKwBaseO, stepKwSpaceO, stepSubjectStartO, stepParenO, .atBaseDot, .atPrefixDot)
  ("turtle", "decoder_scan_triples.go", "reader_scan_Triples_End", 1, 0, 0, 2),                         -- stepFnO .triplesEnd (trig = false)
  ("trig", "decoder.go", "scan", 2, 0, 0, 0),
  ("trig", "decoder_scan_blankNodePropertyList.go", "reader_scan_blankNodePropertyList_End", 1, 0, 0, 2),
  ("trig", "decoder_scan_collection.go", "reader_scan_collection", 0, 1, 1, 0),
  ("trig", "decoder_scan_collection.go", "reader_scan_collection_Continue", 0, 1, 1, 1),
  ("trig", "decoder_scan_object.go", "reader_scan_Object", 1, 4, 11, 15),
  ("trig", "decoder_scan_objectList.go", "reader_scan_ObjectList_Continue", 1, 0, 1, 1),
  ("trig", "decoder_scan_predicateObjectList.go", "reader_scan_PredicateObjectList", 1, 1, 2, 2),
  ("trig", "decoder_scan_predicateObjectList.go", "reader_scan_PredicateObjectList_Continue", 1, 0, 1, 1),
  ("trig", "decoder_scan_predicateObjectList.go", "reader_scan_PredicateObjectList_Required", 0, 0, 0, 2),
  ("trig", "decoder_scan_trigDoc.go", "reader_scan_trigDoc", 9, 5, 18, 38),                             -- stepStatementRuneO (trig) + .graphLabel, .graphAnonClose, .tgBracket
  ("trig", "decoder_scan_triples.go", "reader_scan_triples", 0, 3, 4, 1),                               -- stepTriplesO, stepParenO (top = false)
  ("trig", "decoder_scan_triples.go", "reader_scan_triples_End", 1, 0, 1, 2),                           -- stepFnO .triplesEnd (trig = true: hands the rune back first)
  ("trig", "decoder_scan_triples2.go", "reader_triples2_blankNodePropertyList", 1, 0, 1, 0),            -- stepFnO .triples2BNPL
  ("trig", "decoder_scan_triplesBlock.go", "reader_scan_triplesBlock", 0, 0, 2, 0),                     -- stepFnO .triplesBlock
  ("trig", "decoder_scan_triplesBlock.go", "reader_scan_triplesBlock_QUEST", 1, 0, 2, 0),               -- stepFnO .triplesBlockQuest
  ("trig", "decoder_scan_triplesOrGraph.go", "reader_scan_triplesOrGraph_E1", 1, 0, 1, 0),              -- stepFnO .tgE1
  ("trig", "decoder_scan_wrappedGraph.go", "reader_scan_wrappedGraph", 1, 0, 1, 1),                     -- stepWrappedGraphO
  ("trig", "decoder_scan_wrappedGraph.go", "reader_scan_wrappedGraph_End", 1, 0, 1, 1)                  -- stepFnO .wrappedGraphEnd
]

/-- T2: the statement layer's commit, hand-back and error-offset sites are those of the table, which the
    model follows. -/
theorem commit_sites_T2 : (Gen.TtlCommitSites.sites == expectedSites) = true :=
  beq_iff_eq.2 rfl   -- the two tables are the same term; comparing the strings by evaluation is slow

end RdfModel.C16TtlDocO
