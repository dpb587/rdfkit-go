/-
  Property C20, part F — xsd:decimal / xsd:double / xsd:float, value and output side.

  What the Go code is (ontology/xsd/xsdtype/{decimal,double,float}.go, as of commits 2b4e0f5 and
  f01365c): all three types are binary floating point (`type Decimal float64`!). `Map*` = whiteSpace
  collapse, a regular expression for the lexical space, `strconv.ParseFloat`; the literal is
  `strconv.FormatFloat(v, 'f', -1, bits)` — strconv's shortest decimal expansion of the float printed
  WITHOUT exponent — with `INF` / `-INF` substituted by `formatDouble` for double and float.

  The theorems are about `Model.Xsd` / `Model.XsdFloat`, the functions the driver executes
  (ops `xsdf.*`, compared with the Go code on every run: verdict, exact literal, bit pattern).

  * Input side, decimal — proved in full: success ⇒ lexical space (`decimal_sound`); lexical space ⇒
    success unless the number is beyond the float64 range (`decimal_complete`); the number read is
    EXACTLY the one the XSD lexical mapping assigns (`decimal_value`): sign, all digits as one
    integer, scale = number of fraction digits. The Go value is that number rounded to float64
    (`roundFV`, executable, tied by T3, no theorem about rounding).
  * Output side, all three — proved for EVERY decimal expansion satisfying strconv's post-conditions
    (`decWF`; tied by T3 op `xsdf.wf` on every formatted value): the literal is in the lexical space
    (`decimal_output_in_lexical_space`, `double_output_in_lexical_space`), has the canonical shape of
    an XSD decimal numeral except for `-0` (`decimal_output_canonical`, `double_output_canonical`),
    and denotes exactly the number the expansion denotes (`output_value`).
  * Round trip — `literal_reads_back`: mapping the literal of a well-formed expansion again reads
    exactly the number of the expansion (so idempotence holds iff strconv's shortest expansion rounds
    back to the float, which is strconv's contract, checked by T3 on every value: `_partial`).
  * TermEquals ⇔ the literal (`floatfamily_termEquals`).

  NOT XSD-canonical, by design of the Go code and stated in the theorems: xsd:double / xsd:float
  literals are plain decimal numerals (`100`, `0.000001`, `100000000000000000000000`), not the
  scientific notation of ·doubleCanonicalMap·; negative zero is written `-0` also for xsd:decimal.
-/
import RdfModel.Proofs.C20FloatOut
import RdfModel.Proofs.C20FloatExp
namespace RdfModel.C20F
open RdfModel RdfModel.XsdF
open RdfModel.Xsd (Bytes FVal FloatFact FloatTy Facts TermArg TeqRes NumErr mapFloat parseFloat overflows
  termEqualsText Formatter)
open RdfModel.C20 (floatFactOK dtIRI)
open RdfModel.Spec.Xsd (Dt accepts lexOK collapse decimalLex isCanonDecimal)
open RdfModel.Proofs.C20F (Shape fmtF_shape build)

/-- The literal of a finite value denotes exactly the number of the expansion: the XSD lexical
    mapping of strconv's `%f` rendering gives the sign, `digits · 10^(dp−nd)` and the scale. -/
theorem output_value (d : Dec) (h : decWF d = true) :
    decimalLex (fmtF d) = some (d.neg, (decValue d).1, (decValue d).2) := by
  obtain ⟨ip, fp, S⟩ := fmtF_shape d h
  rw [S.eq, Proofs.C20F.decimalLex_build d.neg ip fp S.hi S.hf S.hne, S.val, S.scale]

/-- xsd:decimal: the literal of every finite value is in the lexical space of xsd:decimal. -/
theorem decimal_output_in_lexical_space (d : Dec) (h : decWF d = true) :
    lexOK .decimal (formatFloatF (.fin d)) = true := by
  show Spec.Xsd.decimalLexOK (fmtF d) = true
  rw [← Proofs.C20F.decimalLex_isSome, output_value d h]
  rfl

/-- xsd:double / xsd:float: the literal of every value — NaN, the infinities (`INF`, `-INF`, never
    strconv's `+Inf`), finite values — is in the lexical space. -/
theorem double_output_in_lexical_space (o : FOut) (h : ∀ d, o = .fin d → decWF d = true) :
    lexOK .double (formatDouble o) = true ∧ lexOK .float (formatDouble o) = true := by
  have key : Spec.Xsd.doubleLexOK (formatDouble o) = true := by
    cases o with
    | nan => decide
    | inf neg => cases neg <;> decide
    | fin d =>
      have := decimal_output_in_lexical_space d (h d rfl)
      exact Proofs.C20F.doubleLexOK_of_decimal _ this
  exact ⟨key, key⟩

/-- xsd:decimal: the literal has the shape of the XSD 1.1 canonical representation (no `+`, no
    superfluous leading zeros, no point for an integer, no trailing fraction zeros) — except that
    negative zero is written `-0`. -/
theorem decimal_output_canonical (d : Dec) (h : decWF d = true) :
    isCanonDecimal (formatFloatF (.fin d)) = !(d.neg && d.ds.isEmpty) ∧
    (d.ds = [] → formatFloatF (.fin d) = if d.neg then asc "-0" else asc "0") := by
  obtain ⟨ip, fp, S⟩ := fmtF_shape d h
  refine ⟨?_, ?_⟩
  · show isCanonDecimal (fmtF d) = _
    rw [S.eq, Proofs.C20F.isCanon_build d.neg ip fp S.hi S.hf S.hne S.hlast S.hlead]
    by_cases hz : d.ds = []
    · obtain ⟨rfl, rfl⟩ := S.zero.2 hz
      simp [hz]
    · have hnz : ¬ (ip = [0x30] ∧ fp = []) := fun hh => hz (S.zero.1 hh)
      have hde : d.ds.isEmpty = false := by cases hd : d.ds <;> simp_all
      rw [hde]
      cases fp with
      | cons f fs => simp
      | nil =>
        have : ip ≠ [0x30] := fun hh => hnz ⟨hh, rfl⟩
        simp [this]
  · intro hz
    obtain ⟨rfl, rfl⟩ := S.zero.2 hz
    show fmtF d = _
    rw [S.eq]
    cases d.neg <;> rfl

/-- xsd:double / xsd:float: the special values are written `NaN`, `INF`, `-INF`; a finite value is
    written as the same canonical decimal numeral as for xsd:decimal (no exponent: this is the Go
    code's canonical form, not XSD's scientific ·doubleCanonicalMap·). -/
theorem double_output_canonical :
    formatDouble .nan = asc "NaN" ∧ formatDouble (.inf false) = asc "INF" ∧
    formatDouble (.inf true) = asc "-INF" ∧
    ∀ d, decWF d = true → formatDouble (.fin d) = fmtF d ∧
      isCanonDecimal (formatDouble (.fin d)) = !(d.neg && d.ds.isEmpty) :=
  ⟨rfl, rfl, rfl, fun d h => ⟨rfl, (decimal_output_canonical d h).1⟩⟩

-- a well-formed expansion (the one of 1.5e-7 printed by strconv) and what the theorems say of it
example : decWF ⟨true, asc "15", -6⟩ = true := by decide
example : fmtF ⟨true, asc "15", -6⟩ = asc "-0.00000015" := by decide
example : decValue ⟨true, asc "15", -6⟩ = (15, 8) := by decide
example : fmtF ⟨false, asc "1", 22⟩ = asc "1000000000000000000000" := by decide
example : decWF ⟨false, asc "150", 2⟩ = false := by decide

theorem fmtOut_fact (T : FloatTy) (f : FloatFact) (hf : floatFactOK T f = true) (o : FOut) :
    fmtOut f.objFmt o = some (if T = .decimal then formatFloatF o else formatDouble o) ∧
    fmtOut f.eqFmt o = fmtOut f.objFmt o := by
  have hp := Proofs.C20.floatFactOK_elim hf
  rw [hp.eqFmt, hp.objFmt]
  cases T <;> simp [fmtOut]

/-- TermEquals of a mapped value with any term: true exactly for the literal of the same datatype
    whose lexical form is the one AsObjectValue() produces. -/
theorem floatfamily_termEquals (T : FloatTy) (f : FloatFact) (hf : floatFactOK T f = true) (x : GF)
    (l : Bytes) (hl : lexGF f.objFmt f.objBits x = some l) (t : TermArg) :
    termEqualsText f.datatype f.eqDatatypeSame (lexGF f.eqFmt f.eqBits x) t
      = some (decide (t = .literal (dtIRI T.dt) l)) := by
  have hp := Proofs.C20.floatFactOK_elim hf
  have : lexGF f.eqFmt f.eqBits x = some l := by rw [hp.eqFmt, hp.eqBits, ← hp.objBits]; exact hl
  rw [this]
  cases t with
  | notLiteral => simp [termEqualsText]
  | literal dt lex =>
    simp only [termEqualsText, hp.same, hp.dt, not_true_eq_false, if_false, Option.map_some]
    exact Proofs.C20.teq_literal ..

theorem decimal_termEquals (f : FloatFact) (hf : floatFactOK .decimal f = true) (x : GF)
    (l : Bytes) (hl : lexGF f.objFmt f.objBits x = some l) (t : TermArg) :
    termEqualsText f.datatype f.eqDatatypeSame (lexGF f.eqFmt f.eqBits x) t
      = some (decide (t = .literal (dtIRI .decimal) l)) :=
  floatfamily_termEquals .decimal f hf x l hl t


/-- the exact decimal number `± n / 10^k` as strconv's reader represents it -/
def decFVal (neg : Bool) (n k nd : Nat) : FVal := .fin neg n 10 (if n ≠ 0 then -(k : Int) else 0) nd

/-- bit size of the Go type -/
def bitsOf (T : FloatTy) : Nat := if T = .float then 32 else 64

theorem mapFloatX_ok {f : FloatFact} {s : Bytes} {x : GF} (h : mapFloatX f s = .ok x) :
    ∃ v, mapFloat f s = .ok v ∧ roundFV f.bitSize v = .ok x := by
  unfold mapFloatX at h
  cases hm : mapFloat f s with
  | error e => rw [hm] at h; cases h
  | ok v => rw [hm] at h; exact ⟨v, rfl, h⟩

/-- Soundness (all three types): a Map function returns a value only for a string that, after
    whiteSpace collapse, is in the lexical space of its datatype. -/
theorem floatfamily_sound (T : FloatTy) (f : FloatFact) (hf : floatFactOK T f = true) (s : Bytes) (x : GF)
    (h : mapFloatX f s = .ok x) : accepts T.dt s = true := by
  obtain ⟨v, hm, -⟩ := mapFloatX_ok h
  exact Proofs.C20.mapFloat_sound (Proofs.C20.floatFactOK_elim hf) hm

theorem decimal_sound (f : FloatFact) (hf : floatFactOK .decimal f = true) (s : Bytes) (x : GF)
    (h : mapFloatX f s = .ok x) : accepts .decimal s = true := floatfamily_sound .decimal f hf s x h

theorem double_sound (f : FloatFact) (hf : floatFactOK .double f = true) (s : Bytes) (x : GF)
    (h : mapFloatX f s = .ok x) : accepts .double s = true := floatfamily_sound .double f hf s x h

theorem accepts_of_decimal (T : FloatTy) {s : Bytes} (h : Spec.Xsd.decimalLexOK (collapse s) = true) :
    accepts T.dt s = true := by
  rw [Proofs.C20.accepts_float]
  cases T
  · exact h
  · exact Proofs.C20F.doubleLexOK_of_decimal _ h
  · exact Proofs.C20F.doubleLexOK_of_decimal _ h

/-- Completeness and value, for every string written in plain decimal notation (the whole lexical
    space of xsd:decimal; for double/float the forms without exponent): the Map function reads
    EXACTLY the number the XSD lexical mapping assigns — sign, all digits as one integer, scale =
    number of fraction digits — and fails only with strconv's range error, i.e. when that number
    rounds beyond the largest finite value of the Go type. -/
theorem plain_numeral_map (T : FloatTy) (f : FloatFact) (hf : floatFactOK T f = true) (s : Bytes)
    (neg : Bool) (n k : Nat) (hl : decimalLex (collapse s) = some (neg, n, k)) :
    ∃ nd, mapFloat f s =
      (if overflows (bitsOf T) (decFVal neg n k nd) = true then .error .range else .ok (decFVal neg n k nd)) := by
  have hacc : accepts T.dt s = true := accepts_of_decimal T (by rw [← Proofs.C20F.decimalLex_isSome, hl]; rfl)
  rw [Proofs.C20.mapFloat_spec (Proofs.C20.floatFactOK_elim hf), if_pos hacc]
  exact Proofs.C20F.parseFloat_decimal hl (bitsOf T)

/-- xsd:decimal, completeness: every string of the lexical space is mapped, unless its value is
    beyond the float64 range. -/
theorem decimal_complete (f : FloatFact) (hf : floatFactOK .decimal f = true) (s : Bytes)
    (h : accepts .decimal s = true) :
    ∃ neg n k nd, decimalLex (collapse s) = some (neg, n, k) ∧
      mapFloat f s = (if overflows 64 (decFVal neg n k nd) = true then .error .range
                      else .ok (decFVal neg n k nd)) := by
  obtain ⟨⟨neg, n, k⟩, hl⟩ := Option.isSome_iff_exists.1 ((Proofs.C20F.decimalLex_isSome (collapse s)).trans h)
  obtain ⟨nd, hm⟩ := plain_numeral_map .decimal f hf s neg n k hl
  exact ⟨neg, n, k, nd, hl, hm⟩

/-- xsd:decimal, value: the number read by a successful MapDecimal is exactly the value the XSD
    lexical mapping assigns to the (collapsed) string. The Go value is this number rounded to float64
    (`mapFloatX f s = roundFV 64 v`, by definition; the rounding itself is tied by T3). -/
theorem decimal_value (f : FloatFact) (hf : floatFactOK .decimal f = true) (s : Bytes) (v : FVal)
    (h : mapFloat f s = .ok v) :
    ∃ neg n k nd, decimalLex (collapse s) = some (neg, n, k) ∧ v = decFVal neg n k nd := by
  have hacc := Proofs.C20.mapFloat_sound (Proofs.C20.floatFactOK_elim hf) h
  obtain ⟨neg, n, k, nd, hl, hm⟩ := decimal_complete f hf s hacc
  refine ⟨neg, n, k, nd, hl, ?_⟩
  rw [hm] at h
  split at h
  · simp at h
  · simpa using h.symm

/-- xsd:double / xsd:float, completeness of the accepted language: on EVERY string of the lexical
    space (decimal mantissa, optional exponent, `INF`, `+INF`, `-INF`, `NaN`) the Map function either
    returns a value or fails with strconv's range error (a finite number beyond the largest finite
    value of the Go type) — never with a syntax error. With `double_sound`: the accepted language is
    exactly the lexical space minus the out-of-range numbers. (The number read from an exponent form
    is not characterised here; `plain_numeral_map` does it for the forms without exponent.) -/
theorem double_complete (T : FloatTy) (f : FloatFact) (hf : floatFactOK T f = true) (s : Bytes)
    (h : accepts T.dt s = true) :
    (∃ v, mapFloat f s = .ok v) ∨ mapFloat f s = .error .range := by
  rw [Proofs.C20.mapFloat_spec (Proofs.C20.floatFactOK_elim hf), if_pos h]
  rw [Proofs.C20.accepts_float] at h
  apply Proofs.C20F.parseFloat_double
  cases T
  · exact Proofs.C20F.doubleLexOK_of_decimal _ h
  · exact h
  · exact h

/-- Round trip, syntax and exact number (all three types): the literal written for ANY well-formed
    expansion is accepted again and read as exactly the number the expansion denotes. -/
theorem literal_reads_back (T : FloatTy) (f : FloatFact) (hf : floatFactOK T f = true) (d : Dec)
    (h : decWF d = true) :
    ∃ nd, mapFloat f (fmtF d) =
      (if overflows (bitsOf T) (decFVal d.neg (decValue d).1 (decValue d).2 nd) = true then .error .range
       else .ok (decFVal d.neg (decValue d).1 (decValue d).2 nd)) := by
  apply plain_numeral_map T f hf (fmtF d)
  rw [Proofs.C20F.fmtF_collapse d h]
  exact output_value d h

theorem roundFV_ok {bits : Nat} {v : FVal} {x : GF} (h : roundFV bits v = .ok x) :
    overflows bits v = false ∧
      ∀ neg mant base exp nd, v = .fin neg mant base exp nd → ∃ neg' m q, x = .fin neg' m q := by
  cases v with
  | nan => exact ⟨rfl, nofun⟩
  | inf neg => exact ⟨rfl, nofun⟩
  | fin neg mant base exp nd =>
    unfold roundFV at h
    simp only at h
    by_cases h1 : mant = 0
    · rw [if_pos h1] at h
      exact ⟨by simp [overflows, h1], fun _ _ _ _ _ _ => ⟨_, _, _, (Except.ok.inj h).symm⟩⟩
    · rw [if_neg h1] at h
      by_cases h2 : overflows bits (.fin neg mant base exp nd) = true
      · rw [if_pos h2] at h; cases h
      · rw [if_neg h2] at h
        refine ⟨by simpa using h2, fun _ _ _ _ _ _ => ?_⟩
        by_cases h3 : Xsd.roundsToZero bits (.fin neg mant base exp nd) = true
        · rw [if_pos h3] at h; exact ⟨_, _, _, (Except.ok.inj h).symm⟩
        · rw [if_neg h3] at h
          -- what is left is `roundRat`'s result tested for `m = 0` and `q > emax`: every branch that answers `.ok` answers a `.fin`
          repeat' split at h
          all_goals first
            | exact ⟨_, _, _, (Except.ok.inj h).symm⟩
            | exact ⟨_, _, _, h.symm⟩
            | (simp at h)

/-- a number strconv refuses with the range error has no rounded value -/
theorem roundFV_overflow (bits : Nat) (v : FVal) (h : overflows bits v = true) (x : GF) :
    roundFV bits v ≠ .ok x := fun hx => by rw [(roundFV_ok hx).1] at h; cases h

/-- the idempotence clause as the property states it, for the three float-valued types: the
    literal of a mapped value is written, is a lexical form of the datatype, and maps back to the
    same value -/
def floatfamily_idempotent_full : Prop :=
  ∀ (T : FloatTy) (f : FloatFact), floatFactOK T f = true → ∀ s x, mapFloatX f s = .ok x →
    ∃ l, lexGF f.objFmt f.objBits x = some l ∧ accepts T.dt l = true ∧ mapFloatX f l = .ok x

/-- what the validation inside `GF.outChecked` establishes about a finite expansion it hands on -/
theorem outChecked_fin {bits : Nat} {x : GF} {d : Dec} (h : x.outChecked bits = some (.fin d)) :
    decWF d = true ∧ ∃ v, parseFloat (fmtF d) bits = .ok v ∧ roundFV bits v = .ok x := by
  unfold GF.outChecked at h
  split at h
  · next d' hout =>
    cases hpv : parseFloat (fmtF d') bits with
    | error e => simp [hpv] at h
    | ok v =>
      cases hrv : roundFV bits v with
      | error e => simp [hpv, hrv] at h
      | ok y =>
        simp only [hpv, hrv] at h
        by_cases hc : (d'.wf && y == x) = true
        · rw [if_pos hc] at h
          simp only [Option.some.injEq, FOut.fin.injEq] at h
          subst h
          simp only [Bool.and_eq_true, beq_iff_eq] at hc
          exact ⟨hc.1, v, hpv, by rw [hrv, hc.2]⟩
        · rw [if_neg hc] at h; simp at h
  · next hne => exact absurd h (hne d)

theorem out_fin {I : FmtInfo} {neg : Bool} {m : Nat} {q : Int} {o : FOut}
    (h : (GF.fin neg m q).out I = some o) : ∃ d, o = .fin d := by
  simp only [GF.out] at h
  by_cases hm : m = 0
  · rw [if_pos hm] at h; exact ⟨_, (Option.some.inj h).symm⟩
  · rw [if_neg hm] at h
    cases hs : shortest I m q with
    | none => rw [hs] at h; simp at h
    | some r => rw [hs] at h; simp only [Option.map_some, Option.some.injEq] at h; exact ⟨_, h.symm⟩

theorem outChecked_of_fin {bits : Nat} {neg : Bool} {m : Nat} {q : Int} {o : FOut}
    (h : (GF.fin neg m q).outChecked bits = some o) : ∃ d, o = .fin d := by
  unfold GF.outChecked at h
  split at h
  · exact ⟨_, (Option.some.inj (Option.ite_none_right_eq_some.mp h).2).symm⟩
  · exact out_fin h

/-- the value MapDecimal returns is finite -/
theorem decimal_mapped_finite (f : FloatFact) (hf : floatFactOK .decimal f = true) (s : Bytes) (x : GF)
    (h : mapFloatX f s = .ok x) : ∃ neg m q, x = .fin neg m q := by
  obtain ⟨v, hm, hr⟩ := mapFloatX_ok h
  obtain ⟨neg, n, k, nd, _, rfl⟩ := decimal_value f hf s v hm
  exact (roundFV_ok hr).2 _ _ _ _ _ rfl

theorem mapFloatX_of_parse (T : FloatTy) (f : FloatFact) (hf : floatFactOK T f = true)
    (l : Bytes) (v : FVal) (hacc : accepts T.dt l = true) (hc : collapse l = l)
    (hp : parseFloat l (bitsOf T) = .ok v) (x : GF) (hr : roundFV (bitsOf T) v = .ok x) :
    mapFloatX f l = .ok x := by
  have hpp := Proofs.C20.floatFactOK_elim hf
  unfold mapFloatX
  rw [Proofs.C20.mapFloat_spec hpp, if_pos hacc, hc]
  have hb : f.bitSize = bitsOf T := hpp.bits
  change (match parseFloat l (bitsOf T) with | .ok v => roundFV f.bitSize v | .error e => .error e) = _
  rw [hp, hb]; exact hr

/-- Idempotence (all three types), about the literal the model itself writes: when Map returns `x`
    and AsObjectValue's lexical form `l` is produced, `l` is in the lexical space of the datatype and
    maps back to exactly `x`. For a finite value this rests on the validation inside `GF.outChecked`
    (the expansion computed by `shortest` is used only after it was checked to be well-formed and to
    read back as `x`), for the special values on evaluation of the four constant literals.
    Missing from `floatfamily_idempotent_full`: that `l` is always produced, i.e. that the validation
    never fails — this is strconv's contract for the shortest expansion, which is not proved; T3
    compares `xsdf.map` (an unvalidated expansion would answer `unmodelled`) with the Go code on every
    generated string and bit pattern. -/
theorem floatfamily_idempotent_partial (T : FloatTy) (f : FloatFact) (hf : floatFactOK T f = true)
    (s : Bytes) (x : GF) (l : Bytes) (hm : mapFloatX f s = .ok x)
    (hl : lexGF f.objFmt f.objBits x = some l) :
    accepts T.dt l = true ∧ mapFloatX f l = .ok x := by
  have hp := Proofs.C20.floatFactOK_elim hf
  have hb : f.bitSize = bitsOf T := hp.bits
  have hfin : ∀ d, x.outChecked (bitsOf T) = some (.fin d) → l = fmtF d →
      accepts T.dt l = true ∧ mapFloatX f l = .ok x := by
    intro d hd hld
    obtain ⟨hwf, v, hpv, hrv⟩ := outChecked_fin hd
    have hc := Proofs.C20F.fmtF_collapse d hwf
    have hacc : accepts T.dt (fmtF d) = true :=
      accepts_of_decimal T (by rw [hc]; exact decimal_output_in_lexical_space d hwf)
    subst hld
    exact ⟨hacc, mapFloatX_of_parse T f hf _ v hacc hc hpv x hrv⟩
  unfold lexGF at hl
  rw [hp.objBits, hb] at hl
  cases hoc : x.outChecked (bitsOf T) with
  | none => rw [hoc] at hl; simp at hl
  | some o =>
    rw [hoc] at hl
    simp only at hl
    rw [(fmtOut_fact T f hf o).1] at hl
    simp only [Option.some.injEq] at hl
    cases x with
    | fin neg m q =>
      obtain ⟨d, rfl⟩ := outChecked_of_fin hoc
      apply hfin d hoc
      rw [← hl]; cases T <;> rfl
    | nan =>
      cases (Option.some.inj hoc : FOut.nan = o)
      cases T
      case decimal => obtain ⟨_, _, _, hx⟩ := decimal_mapped_finite f hf s _ hm; cases hx
      all_goals
        simp only [reduceCtorEq, if_false] at hl; subst hl
        exact ⟨by decide, mapFloatX_of_parse _ f hf _ .nan (by decide) (by decide) (Proofs.C20F.parseFloat_NaN _) .nan rfl⟩
    | inf neg =>
      cases (Option.some.inj hoc : FOut.inf neg = o)
      cases T
      case decimal => obtain ⟨_, _, _, hx⟩ := decimal_mapped_finite f hf s _ hm; cases hx
      all_goals
        simp only [reduceCtorEq, if_false] at hl; subst hl
        cases neg
        · exact ⟨by decide, mapFloatX_of_parse _ f hf _ (.inf false) (by decide) (by decide) (Proofs.C20F.parseFloat_INF _) _ rfl⟩
        · exact ⟨by decide, mapFloatX_of_parse _ f hf _ (.inf true) (by decide) (by decide) (Proofs.C20F.parseFloat_mINF _) _ rfl⟩

/-- `floatfamily_idempotent_partial` at xsd:decimal, with the hypothesis on the literal repeated in the conclusion -/
theorem decimal_canonical_idempotent_partial (f : FloatFact) (hf : floatFactOK .decimal f = true)
    (s : Bytes) (x : GF) (l : Bytes) (hm : mapFloatX f s = .ok x)
    (hl : lexGF f.objFmt f.objBits x = some l) :
    accepts .decimal l = true ∧ mapFloatX f l = .ok x ∧ lexGF f.objFmt f.objBits x = some l :=
  ⟨(floatfamily_idempotent_partial .decimal f hf s x l hm hl).1,
   (floatfamily_idempotent_partial .decimal f hf s x l hm hl).2, hl⟩

-- the hypotheses are satisfiable: 0.3 (float64 0x3fd3333333333333) has the expansion ("3", 0)
example : (GF.ofBits (fmtInfo 64) 0x3fd3333333333333).outChecked 64 = some (.fin ⟨false, asc "3", 0⟩) := by decide +kernel
example : roundFV 64 (decFVal false 3 1 1) = .ok (GF.ofBits (fmtInfo 64) 0x3fd3333333333333) := by decide +kernel
example : decimalLex (collapse (asc " +00.30 ")) = some (false, 30, 2) := by decide

end RdfModel.C20F
