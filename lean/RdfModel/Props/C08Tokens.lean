/-
  Property C08, token layer — whatever lexical form a grammar-directed writer chooses for a token
  (`Spec/TurtlePrinter.lean`: every choice the Turtle 1.1 / TriG 1.1 token grammar offers), the
  decoder's producer returns the token's value and stops exactly at the end of the token.
  One model for encoding/turtle and encoding/trig; generic in the tables (`TablesOK`, proved for the
  regenerated tables in `Props/C02TokensTables.lean`). Proofs in `Proofs/C08TokB.lean` and
  `Proofs/C02Tok*.lean`. The document layer (statements, directives, nesting) is `Model/TurtleDoc`.
-/
import RdfModel.Props.C02TokensDefs
import RdfModel.Proofs.C02Tok
import RdfModel.Proofs.C02TokA
import RdfModel.Proofs.C08TokB
namespace RdfModel.C08
open RdfModel RdfModel.Ttl RdfModel.C02 RdfModel.Spec.TtlPrint

/-- IRIREF: each rune raw (where `[^#x00-#x20<>"{}|^`\]` allows), `\uXXXX` or `\UXXXXXXXX`, hex
    digits in either case — every choice list, every scalar string, anything following. -/
theorem decode_print_iriref (T : Tables) (hT : TablesOK T) (e : End) (chs : List Choice) (s : List Nat)
    (hs : Scalars s) (rest : List Nat) :
    produceIRIREF T e (printIRIREF chs s ++ rest) = .ok s rest :=
  Proofs.C08Tok.print_iriref T hT e chs s hs rest

/-- String: the four quoting styles; each rune raw (where the style allows), ECHAR, `\uXXXX` or
    `\UXXXXXXXX`; one or two raw quote characters in a row inside long strings. `StrStop` only
    constrains what follows an *empty short* string. -/
theorem decode_print_string (T : Tables) (hT : TablesOK T) (e : End) (st : Style) (chs : List Choice)
    (s : List Nat) (hs : Scalars s) (rest : List Nat) (hstop : StrStop e st s rest) :
    produceString T e (printString st chs s ++ rest) = .ok s rest :=
  Proofs.C08Tok.print_string T hT e st chs s hs rest hstop

/-- Prefixed name: prefix label as is; each local-name rune raw (where PN_LOCAL allows it at that
    position) or as PN_LOCAL_ESC; `%XX` kept as PERCENT or written `\%XX`. `printPrefixedName`
    answers `none` exactly for values no PN_LOCAL denotes. -/
theorem decode_print_pname (T : Tables) (hT : TablesOK T) (e : End) (chs : List Choice)
    (pfx loc out rest : List Nat) (hp : prefixOK T pfx = true) (hps : Scalars pfx) (hs : Scalars loc)
    (h : printPrefixedName T chs pfx loc = some out) (hstop : LocalStop T e rest) :
    producePrefixedName T e (out ++ rest) = .ok (pfx, loc) rest := by
  simp only [printPrefixedName, Option.map_eq_some_iff] at h
  obtain ⟨l, hl, rfl⟩ := h
  simpa using Proofs.C02Tok.print_pname T hT e chs pfx loc l hp hps hs hl (.of_stop hstop)

/-- PNAME_NS alone (directives, and names with an empty local part). -/
theorem decode_print_pname_ns (T : Tables) (e : End) (pfx rest : List Nat) (hp : prefixOK T pfx = true)
    (hps : Scalars pfx) : producePNAME_NS T e (pfx ++ 0x3a :: rest) = .ok pfx rest :=
  Proofs.C02Tok.pnameNs_ok T e pfx rest hp hps

/-- Numeric shorthand: every INTEGER / DECIMAL / DOUBLE token (`bareLiteralDatatype` is the token
    grammar) is read back with its grammar rule's datatype and its exact text. -/
theorem decode_print_numeric (e : End) (lex dt rest : List Nat) (h : bareLiteralDatatype lex = some dt)
    (hdt : dt ≠ xsdBoolean) (hstop : NumStop e rest) :
    ∃ k : NumKind, k.datatype = dt ∧ produceNumericLiteral e (lex ++ rest) = .ok (k, lex) rest :=
  Proofs.C02Tok.numeric_shorthand e lex dt rest h hdt hstop

/-- Boolean keywords. -/
theorem decode_print_boolean (e : End) (rest : List Nat) :
    scanBoolean e (asc "true" ++ rest) = .bool true rest ∧
    scanBoolean e (asc "false" ++ rest) = .bool false rest :=
  ⟨Proofs.C02Tok.scanBoolean_true e rest, Proofs.C02Tok.scanBoolean_false e rest⟩

/-- LANGTAG and blank node labels: the text is the value. -/
theorem decode_print_langtag (e : End) (t rest : List Nat) (h : langOK t = true) (hstop : LangStop e rest) :
    produceLANGTAG e (0x40 :: t ++ rest) = .ok t rest := by
  have := Proofs.C02Tok.langPrimary_ok e rest hstop t [] false h (by simp) (by simp)
  simpa [produceLANGTAG, goString] using this

theorem decode_print_bnode (T : Tables) (hT : TablesOK T) (e : End) (l rest : List Nat) (hs : Scalars l)
    (hl : labelOK T l = true) (hstop : LabelStop T e rest) :
    produceBlankNode T e (0x5f :: 0x3a :: l ++ rest) = .ok l rest := by
  simpa using Proofs.C02Tok.bnode_dot T hT e l rest hs hl hstop false

end RdfModel.C08
