/-
  Part C10D (serves C10, C05, C06): theorems about `Model.JsonLdToRdf`, the executable model of the
  deserialize-to-RDF stage of /repo's JSON-LD decoder (the driver op `jld.run` runs these definitions).

  Termination: `decodeElement` and its seven companions are defined by structural recursion on the
  expanded tree (no fuel, no well-founded recursion), so the model is a total function: for EVERY
  tree the inductive type `Exp` admits, every option and every evaluation context it returns one of
  `ok` / `err` / `panic` — accepted by Lean's termination checker; nothing to assume.
-/
import RdfModel.Props.C10DDefs
import RdfModel.Props.C10Defs
import RdfModel.Proofs.C10DPanic
import RdfModel.Proofs.C10Flat
import RdfModel.Proofs.C10Digits
import RdfModel.Proofs.C10DFlat
import RdfModel.Proofs.C10DWf
namespace RdfModel.C10D
open RdfModel RdfModel.Desc RdfModel.JLD

/-- **C05, deserialize stage.** On every expanded tree in which no scalar primitive carries a nil
    inspectjson.Value and no value makes AsBuiltin/json.Encode panic (`ExpOK`, checked by the harness on
    every output of the real expansion), under every rdfDirection setting (also the ones newDecoder
    rejects) and from every evaluation context, decodeElement does not panic. -/
theorem jld_tordf_no_panic (cfg : Cfg) (c : ECtx) (e : Exp) (n : Nat) (h : ExpOK e = true) :
    decodeElement cfg c e n ≠ .panic :=
  Proofs.C10D.decodeElement_np cfg c e n h

/-- the whole run (parseRoot after expansion + the Next protocol) does not panic -/
theorem jld_run_no_panic (cfg : Cfg) (e : Exp) (h : ExpOK e = true) : run cfg e ≠ .panic := by
  have := jld_tordf_no_panic cfg ECtx.root e 0 h
  unfold run decodeRoot
  split <;> simp_all

/-- a tree with several node objects, a list, a typed value and a native number satisfying `ExpOK` -/
def okTree : Exp :=
  .arr [.obj [(kId, .prim (.str (asc "http://e/s")) .absent),
              (asc "http://e/p", .arr [.obj [(kList, .arr [.obj [(kValue, .prim (.num (.fin false [1, 5] 0)) (.text (asc "1.5")))]])],
                                       .obj [(kType, .prim (.str (asc "@json")) .absent), (kValue, .prim .object (.text (asc "{}")))]])]]

example : ExpOK okTree = true := by decide
example : (run ⟨.none⟩ okTree matches .done (_ :: _ :: _ :: _) none) = true := by decide +kernel

/-- The invariant is needed: a value object whose `@value` primitive holds a nil inspectjson.Value makes
    the model (and, replayed through the hook, the Go code: `valuePrimitive.GetGrammarName()` on a nil
    interface in the `default:` case of decodeValueNode) panic. -/
def nilValueTree : Exp := .obj [(asc "http://e/p", .arr [.obj [(kValue, .prim .nil .absent)]])]

theorem jld_panics_without_expok : ExpOK nilValueTree = false ∧ run ⟨.none⟩ nilValueTree = .panic := by decide +kernel

/-- … and so does `@type: @json` over a value on which AsBuiltin panics. -/
theorem jld_json_panics_without_expok :
    run ⟨.none⟩ (.obj [(asc "http://e/p", .arr [.obj [(kType, .prim (.str kJson) .absent), (kValue, .prim .object .panics)]])]) = .panic := by
  decide +kernel


/-- The refinement statement at full strength: for every `C10.WFDataset`. It is FALSE (see
    `flat_drops_untagged`): `C10.WFDataset` admits an untagged literal whose datatype is rdf:langString or
    rdf:dirLangString, the fragment semantics keeps it, the decoder drops it (deliberately: the repair of
    the C06 finding "explicit rdf:langString datatype yielded a tagged-string literal without a tag"). -/
def jld_refines_fragment : Prop :=
  ∀ (cfg : Cfg) (name : Nat → Str), (∀ b, name b ≠ []) → ∀ d : List (DQuad Nat), C10.WFDataset d →
    run cfg (expandFlat (JL.writeFlat name d)) = .done (d.map (toRQ name)) none

/-- **Refinement on flattened expanded documents (partial).** For every well-formed dataset `d`
    (`C10.WFDataset`, as in `writeFlat_denotes`) without untagged rdf:langString / rdf:dirLangString
    literals (`NoUntaggedLangString`, decidable; the only gap to the full statement), every labelling of
    its blank nodes by non-empty labels and every rdfDirection, the decoder model run on the expansion
    of `JL.writeFlat name d` (`expandFlat`, tied to jsonldinternal.Expand by T3) ends without error and
    yields EXACTLY the quads of `d`, in order, blank node `b` as `_:name b` — no blank node is generated. -/
theorem jld_refines_fragment_partial {β : Type} (cfg : Cfg) (name : β → Str) (hne : ∀ b, name b ≠ [])
    (d : List (DQuad β)) (hwf : C10.WFDataset d) (hpl : NoUntaggedLangString d) :
    run cfg (expandFlat (JL.writeFlat name d)) = .done (d.map (toRQ name)) none := by
  have e : expandFlat (JL.writeFlat name d) = .arr (d.map (fun q => expandFlatEntry (JL.flatEntry name q))) := by
    simp [JL.writeFlat, expandFlat, List.map_map, Function.comp_def]
  unfold run decodeRoot
  rw [e, decodeElement, Proofs.C10D.decodeItems_flat cfg name hne d 0 hwf hpl]

/-- the excluded class is really excluded: the fragment semantics keeps the literal, the decoder model
    (and the Go decoder, replayed) yields nothing -/
def untaggedDataset : List (DQuad Nat) :=
  [⟨⟨.iri (asc "http://e.org/s"), asc "http://e.org/p", .lit (asc "x") rdfLangString none⟩, none⟩]

theorem flat_drops_untagged :
    C10.WFDataset untaggedDataset ∧ ¬ NoUntaggedLangString untaggedDataset ∧
    run ⟨.none⟩ (expandFlat (JL.writeFlat (fun _ => asc "b") untaggedDataset)) = .done [] none ∧
    (JL.toRdf true none (JL.writeFlat (fun _ => asc "b") untaggedDataset)).map List.length = some 1 := by decide +kernel

theorem jld_refines_fragment_false : ¬ jld_refines_fragment := by
  intro h
  have h1 := h ⟨.none⟩ (fun _ => asc "b") (by intro b; decide) untaggedDataset flat_drops_untagged.1
  rw [flat_drops_untagged.2.2.1] at h1
  exact absurd h1 (by decide)

/-- a quad of the fragment semantics as the decoder emits it -/
def ofQ (q : DQuad B) : RQ := ⟨some q.t.s, q.t.p, some q.t.o, q.g⟩

/-- **Round trip through the decoder MODEL.** Composition of `C10.writeFlat_denotes` (as
    `Proofs.C10.writeFlat_denotes`, so that this part does not import Props/C10.lean) with
    `jld_refines_fragment_partial`: for every well-formed dataset without untagged rdf:langString
    literals, every processing mode, base and rdfDirection, the document `writeFlat name d` denotes (by
    the fragment semantics `JL.toRdf`) a dataset `out`, the decoder model run on its expansion yields
    exactly `out` (no error, same order), and `out` is `d` with blank node `b` renamed to `_:name b`. -/
theorem jld_flat_roundtrip {β : Type} (cfg : Cfg) (name : β → Str) (hne : ∀ b, name b ≠ []) (mode11 : Bool) (base : Option Str)
    (d : List (DQuad β)) (hwf : C10.WFDataset d) (hpl : NoUntaggedLangString d) :
    ∃ out, JL.toRdf mode11 base (JL.writeFlat name d) = some out ∧
      run cfg (expandFlat (JL.writeFlat name d)) = .done (out.map ofQ) none ∧
      out = d.map (DQuad.map (fun b => BN.orig (name b))) := by
  refine ⟨_, Proofs.C10.writeFlat_denotes name hne mode11 base d hwf, ?_, rfl⟩
  rw [jld_refines_fragment_partial cfg name hne d hwf hpl, List.map_map]
  rfl

namespace Witness
def name (n : Nat) : Str := JL.natDigits n
def d : List (DQuad Nat) :=
  [⟨⟨.iri (asc "http://e.org/s"), asc "http://e.org/p", .bnode 1⟩, none⟩,
   ⟨⟨.bnode 1, asc "http://e.org/q", .lit (asc "chat") rdfLangString (some (asc "fr"))⟩, some (.iri (asc "http://e.org/g"))⟩,
   ⟨⟨.bnode 1, asc "http://e.org/q", .lit (asc "1") (asc "http://www.w3.org/2001/XMLSchema#integer") none⟩, some (.bnode 2)⟩]
theorem wf : C10.WFDataset d := by decide +kernel
theorem plain : NoUntaggedLangString d := by decide +kernel
theorem flat_roundtrip : run ⟨.none⟩ (expandFlat (JL.writeFlat name d)) = .done (d.map (toRQ name)) none :=
  jld_refines_fragment_partial _ name Proofs.C10.natDigits_ne d wf plain
theorem flat_sorted : (expandFlat (JL.writeFlat name d)).membersSorted = true := by decide +kernel
theorem flat_spec : (JL.toRdf true none (JL.writeFlat name d)).map (·.map fun q => (⟨some q.t.s, q.t.p, some q.t.o, q.g⟩ : RQ)) = some (d.map (toRQ name)) := by
  rw [Proofs.C10.writeFlat_denotes name Proofs.C10.natDigits_ne true none d wf]; rfl
end Witness

/-- **C06, deserialize stage.** Every statement decodeElement appends — also the statements appended
    before an error — is well-formed (`WfRQ`: subject an IRI or blank node, never nil; predicate a
    non-empty IRI; object never nil; a literal has a datatype, and a non-empty language tag exactly when
    its datatype is rdf:langString; no untagged rdf:langString / rdf:dirLangString; graph name nil, IRI
    or blank node), for every expanded tree the type `Exp` admits (no `ExpOK` needed), every counter,
    every evaluation context satisfying `ECtx.ok` (an active property comes with an IRI/blank-node
    subject and is not empty; the graph name is an IRI or blank node) and every rdfDirection newDecoder
    admits (`cfg.dir ≠ .other`; `wf_fails_for_other` shows the hypothesis is needed). -/
theorem jld_emits_wf (cfg : Cfg) (c : ECtx) (e : Exp) (n : Nat) (hdir : cfg.dir ≠ .other) (hc : ECtx.ok c = true) :
    ∀ q ∈ R.quads (decodeElement cfg c e n), WfRQ q = true :=
  Proofs.C10D.decodeElement_wf cfg hdir c (Proofs.C10D.ctxOK_of_ok hc) e n

example : ECtx.ok { graph := some (.bnode (.fresh 0)), subj := some (.iri (asc "http://e/s")), prop := some (asc "http://e/p"), rev := true } = true := by
  decide

/-- … and so is every statement a caller of Next/Quad sees (`run`: parseRoot from the root context,
    then the iteration protocol, which after an error still yields the first appended statement). -/
theorem jld_run_emits_wf (cfg : Cfg) (e : Exp) (hdir : cfg.dir ≠ .other) :
    ∀ qs er, run cfg e = .done qs er → ∀ q ∈ qs, WfRQ q = true := by
  intro qs er h q hq
  have hwf := jld_emits_wf cfg ECtx.root e 0 hdir (by decide)
  unfold run decodeRoot at h
  split at h
  · rename_i qs' n' heq
    simp only [Outcome.done.injEq] at h
    rw [heq] at hwf
    exact hwf q (by simpa [R.quads, h.1] using hq)
  · rename_i er' qs' heq
    simp only [Outcome.done.injEq] at h
    rw [heq] at hwf
    have : q ∈ qs' := by
      rw [← h.1] at hq
      exact List.mem_of_mem_take hq
    exact hwf q (by simpa [R.quads] using this)
  · simp at h

def wfTree : Exp :=
  .arr [.obj [(kId, .prim (.str (asc "_:s")) .absent), (kType, .arr [.prim (.str (asc "http://e/T")) .absent]),
              (asc "http://e/p", .arr [.obj [(kList, .arr [.obj [(kValue, .prim (.num (.fin false [1, 5] 0)) (.text (asc "1.5")))], .obj []])],
                                       .obj [(kDirection, .prim (.str (asc "rtl")) .absent), (kLanguage, .prim (.str (asc "EN")) .absent), (kValue, .prim (.str (asc "x")) .absent)]])]]

theorem wf_witness : ∀ d ∈ [RdfDir.none, .i18n, .compound], ∀ q ∈ R.quads (decodeRoot ⟨d⟩ wfTree), WfRQ q = true :=
  fun d hd => jld_emits_wf ⟨d⟩ ECtx.root wfTree 0 (by rintro ⟨⟩; simp at hd) (by decide)

/-- `cfg.dir ≠ .other` is needed: with an rdfDirection outside the two documented values (rejected by
    newDecoder) a value object with `@direction` but no `@language` yields rdf:dirLangString with an empty language -/
theorem wf_fails_for_other :
    decodeRoot ⟨.other⟩ (.obj [(asc "http://e/p", .arr [.obj [(kDirection, .prim (.str (asc "ltr")) .absent), (kValue, .prim (.str (asc "x")) .absent)]])]) =
      .ok [⟨some (.bnode (.fresh 0)), asc "http://e/p", some (.lit (asc "x") rdfDirLangString (some (asc "--ltr"))), none⟩] 1 := by decide +kernel

end RdfModel.C10D
