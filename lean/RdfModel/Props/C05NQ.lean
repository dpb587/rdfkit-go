/-
  Properties C05 / C06 / C15 for the N-Triples and N-Quads decoders (model `RdfModel.NQ`, one model
  for both packages; `quads` selects N-Quads).
  The model has no `panic` outcome: every slice index / type assertion of the Go decoders was checked
  to be in range when the model was written, and the correspondence harness maps a recovered Go panic
  to a disagreement.
-/
import RdfModel.Model.NQuads
import RdfModel.Props.C05NQDefs
import RdfModel.Proofs.C05NQScan
namespace RdfModel.C05NQ
open RdfModel RdfModel.NQ

/-- C05 (termination, step bound): the fuel `|input| + 1` given to the `Next` loop always suffices:
    every successful `Next` consumes at least one rune. Holds for every input, both packages, both
    stream endings, any tables. -/
theorem run_fuel_suffices (T : Tables) (urlOk : List Nat → Bool) (e : End) (quads : Bool) (inp : List Nat) :
    (run T urlOk e quads inp).2 ≠ .outOfFuel :=
  Proofs.C05NQ.runFuel_verdict (V := (· ≠ .outOfFuel)) (fun _ _ _ => nofun) (fun _ => nofun) _ false inp
    (Nat.le_refl _)

/-- C05 (`Next` consumes input): a successful `Next` leaves strictly less input. -/
theorem next_shrinks (T : Tables) (urlOk : List Nat → Bool) (e : End) (quads started : Bool)
    (inp rest : List Nat) (q : Quad (List Nat)) (h : next T urlOk e quads started inp = .quad q rest) :
    rest.length < inp.length :=
  (Proofs.C05NQ.next_reads h).1

/-- C05 (latch): once `Next()` has returned false, every later call returns false and `Err()` is
    unchanged — for a clean end as well as for an error. -/
theorem latch (T : Tables) (urlOk : List Nat → Bool) (e : End) (quads : Bool) (d : Dec)
    (h : (Dec.next T urlOk e quads d).2 = false) (n : Nat) :
    (Dec.nextN T urlOk e quads n (Dec.next T urlOk e quads d).1).2 = false ∧
    (Dec.nextN T urlOk e quads n (Dec.next T urlOk e quads d).1).1.err = (Dec.next T urlOk e quads d).1.err := by
  rw [Proofs.C05NQ.nextN_of_latched _ _ _ _ _ _ (Proofs.C05NQ.latched_of_false _ _ _ _ _ h)]
  exact ⟨rfl, rfl⟩

/-- C05 (accessors usable): whenever `Next()` returns true there is a current statement. -/
theorem next_true_has_current (T : Tables) (urlOk : List Nat → Bool) (e : End) (quads : Bool) (d : Dec)
    (h : (Dec.next T urlOk e quads d).2 = true) : (Dec.next T urlOk e quads d).1.cur.isSome = true := by
  unfold Dec.next at h ⊢
  split
  · next he => simp [he] at h
  · next he =>
    simp only [he] at h
    split <;> simp_all

/-- C06: every statement the decoder yields — also the ones before an error — is well-formed, and
    every IRI in it passed the decoder's absolute-IRI check. All inputs, both endings. -/
theorem run_emits_wf (T : Tables) (urlOk : List Nat → Bool) (e : End) (quads : Bool) (inp : List Nat) :
    ∀ q ∈ (run T urlOk e quads inp).1, WFShape urlOk quads q :=
  Proofs.C05NQ.runFuel_forall
    (fun _ _ _ _ hn => (Proofs.C05NQ.next_reads hn).2.1)
    _ false inp

/-- C15 (reader errors): when the stream ends with a reader error the verdict is never a clean end. -/
theorem ioerr_reported (T : Tables) (urlOk : List Nat → Bool) (quads : Bool) (inp : List Nat) :
    ∃ x, (run T urlOk .ioerr quads inp).2 = .error x :=
  Proofs.C05NQ.ioerr_reported T urlOk quads inp

/-- C15 (truncation): the statement part of `Next()` ends cleanly only at a clean end of the stream
    and only when nothing but white space and comments remains — an input that stops inside a
    statement is therefore never a clean end.  (The other way `Next()` ends cleanly, while skipping to
    the end of the previous line, also needs a clean end of the stream: `Proofs.C05NQ.next_done`.) -/
theorem done_only_on_blank (T : Tables) (urlOk : List Nat → Bool) (e : End) (quads : Bool)
    (inp : List Nat) (h : statement T urlOk e quads inp = .done) :
    e = .eof ∧ allBlank T inp = true :=
  Proofs.C05NQ.done_only_on_blank T urlOk e quads inp h

/-- C15 (streaming): a statement, once produced, does not depend on what follows it nor on how the
    stream ends: extending the input leaves the statement and shifts the remainder. -/
theorem next_extend (T : Tables) (urlOk : List Nat → Bool) (e e' : End) (quads started : Bool)
    (inp rest more : List Nat) (q : Quad (List Nat))
    (h : next T urlOk e quads started inp = .quad q rest) :
    next T urlOk e' quads started (inp ++ more) = .quad q (rest ++ more) :=
  Proofs.C05NQ.next_extend T urlOk e e' quads started inp rest more q h

/-- C15 (prefix monotonicity): the statements decoded from a prefix of a document are, in order, a
    prefix of the statements decoded from the document. -/
theorem prefix_monotone (T : Tables) (urlOk : List Nat → Bool) (e e' : End) (quads : Bool)
    (p more : List Nat) :
    (run T urlOk e quads p).1 <+: (run T urlOk e' quads (p ++ more)).1 :=
  Proofs.C05NQ.prefix_monotone T urlOk e e' quads p more

end RdfModel.C05NQ
