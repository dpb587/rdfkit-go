/-
  Property C19 — T2 tie: structural facts regenerated from /repo's x/storage/inmemory on every run
  (go/cmd/extract/gen_c19.go → Gen/DatasetFacts.lean) that the hand-written model relies on.
-/
import RdfModel.Gen.DatasetFacts
namespace RdfModel.C19
open RdfModel.Gen

/-- Every call of `bindNode` passes the literal `true` for `write`: the model's `bindNode` has no
    `write = false` branch. -/
theorem gen_bindNode_always_writes :
    DatasetFacts.bindNodeWriteArgs ≠ [] ∧ DatasetFacts.bindNodeWriteArgs.all (· == "true") = true := by decide +kernel

/-- The dataset's state maps are written by exactly the functions the model's operations follow:
    `assertedBySubject` by `addQuad`/`DeleteQuad`, `graphs` by `NewDataset`/`createGraph`, the three
    node maps by `bindNode`. (Iterators, `HasQuad`, `GetQuadStatement` write only through
    `bindStatement → bindNode`, as modelled.) -/
theorem gen_state_writers :
    DatasetFacts.writers =
      [("assertedBySubject", "DeleteQuad"), ("assertedBySubject", "addQuad"),
       ("graphs", "NewDataset"), ("graphs", "createGraph"),
       ("nodesByBlankNodeRef", "bindNode"), ("nodesByIRI", "bindNode"), ("nodesByLiteral", "bindNode")] := by decide +kernel

end RdfModel.C19
