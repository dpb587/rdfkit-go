/-
  Further theorems about the executable model of the RDF/XML decoder (Model/RdfXmlDecoder.lean, the
  model the driver op `rxd.dec` runs).  Serves C09 (refinement for a larger fragment), C05 (latch of the Next
  protocol), C15 (reader errors and truncation are never a clean end).

  Proved here
    C09  `rxd_decode_render_full_partial`   decoder model on the tokens of a rendered well-formed plan of the
                                            FULL-PARTIAL fragment (striped fragment + parseType="Collection" whose
                                            items are rdf:about / rdf:nodeID nodes with leaf properties + rdf:type="…" and
                                            other rdf:-namespace property attributes on node elements and on empty
                                            property elements) = the intended
                                            triples up to a permutation, same blank nodes
         `rxd_refines_denote_full_partial`  … hence = `RX.denoteDoc` of the rendered tree up to a permutation
         `rxd_decode_write_full_partial`    decoder ∘ tokens ∘ `RX.write g ch` ≅ g for every choice in that fragment
         `rxd_refines_denote_id_conditional` with rdf:ID on node elements: duplicate-name error OR the denotation
                                            (that the error cannot occur on a well-formed plan stays the def
                                            `RxdNoSpuriousDuplicate`)
    C05  `rxd_latch`                        Next protocol over `decode`: after the first `false`, every further `Next`
                                            is `false`, `Err` and the statements do not change
         `rxd_next_true_has_triple`         after `true`, `Triple()` indexes inside `statements`
         `rxd_next_no_panic`                Next never panics (from `rxd_no_panic`)
    C15  `rxd_ioerr_reported`               terminator io ⇒ never a clean end; a run that is clean with EOF reports
                                            exactly the reader error when the reader fails instead, and every
                                            decoder-level error is the same under both endings
         `rxd_truncation_reported`          a token list that leaves an element open (depth > 0) never ends cleanly,
                                            whatever the terminator; `rxd_cut_inside_root`: every proper non-empty
                                            prefix of the token stream of a document tree is such a list
         determinism / chunk independence: `decode` is a FUNCTION of (parameters, default base, token list,
         terminator); how the reader chunks the bytes is not an input of the model at all (encoding/xml's tokenizer
         sits between the reader and the model and is outside), so there is nothing to prove beyond functionhood —
         `rxd_deterministic` records it.
  Still NOT proved (`RxdRefinesDenote` of Props/C09Dec.lean stays a def): collections whose items generate blank
  nodes (anonymous items, items with nested anonymous nodes / parseType="Resource": the decoder numbers the cell
  after the item, the denotation before — needs the cell/item renaming, witnessed only by the kernel-evaluated
  instance `C09Dec.Witness.rxd_refines_denote_witness`), rdf:ID on node elements (used-ID bookkeeping of the two
  sides: decoder keys by map identity, denotation by base IRI), token streams that are not the canonical stream
  of a rendered plan.
-/
import RdfModel.Props.C09Dec
import RdfModel.Proofs.C09Dec2Proto
import RdfModel.Proofs.C09Dec2Trunc
namespace RdfModel.C09Dec2
open RdfModel RdfModel.Desc RdfModel.RX RdfModel.RXD RdfModel.C09Dec

/-! ## C09: refinement for the full-partial fragment -/

theorem rxd_decode_render_full_partial (rs : Str → Str → Str) (hf : EmptyRefNoFrag rs) (render : List Tok → Option Str)
    (hr : ∀ c, render [.chars c] = some c) (base : Str) (d : PDoc) (hs : fullDoc d = true)
    (hwf : wfDoc rs ⟨base, none⟩ d = true) :
    ∃ ts, decode (mkP rs render) (some base) (tokensDoc (renderDoc d)) .eof = .ok ts ∧ ts.Perm (flatDoc d) :=
  let ⟨ts, h1, h2, _⟩ := sim_doc_full hf hr base d hs hwf
  ⟨ts, h1, h2⟩

/-- `RxdRefinesDenote` restricted to rendered plans of the full-partial fragment, with the identity renaming -/
theorem rxd_refines_denote_full_partial (rs : Str → Str → Str) (hf : EmptyRefNoFrag rs) (render : List Tok → Option Str)
    (hr : ∀ c, render [.chars c] = some c) (base : Str) (d : PDoc) (hs : fullDoc d = true)
    (hwf : wfDoc rs ⟨base, none⟩ d = true) :
    ∃ ts ds, decode (mkP rs render) (some base) (tokensDoc (renderDoc d)) .eof = .ok ts ∧
      denoteDoc rs ⟨base, none⟩ (renderDoc d) = .ok ds ∧ ts.Perm ds := by
  obtain ⟨ts, h1, h2⟩ := rxd_decode_render_full_partial rs hf render hr base d hs hwf
  exact ⟨ts, flatDoc d, h1, C09.denote_render rs ⟨base, none⟩ d hwf, h2⟩

theorem rxd_decode_write_full_partial {β : Type} (rs : Str → Str → Str) (hf : EmptyRefNoFrag rs)
    (render : List Tok → Option Str) (hr : ∀ c, render [.chars c] = some c) (base : Str) (label : β → Str)
    (hl : C09.LabelsOK label) (g : List (Triple β)) (hg : ∀ t ∈ g, C09.TripleOK rs base t) (ch : Choices β)
    (hs : fullDoc ch.plan = true) :
    ∃ (out : List T) (σ : β → BN),
      decode (mkP rs render) (some base) (tokensDoc (write rs base label g ch)) .eof = .ok out ∧
      out.Perm (g.map (Triple.map σ)) ∧ (σ = ch.rename ∨ σ = fun b => BN.named (label b)) := by
  unfold write
  split
  · rename_i hc
    simp only [Bool.and_eq_true, List.isPerm_iff] at hc
    obtain ⟨ts, h1, h2⟩ := rxd_decode_render_full_partial rs hf render hr base _ hs hc.1
    exact ⟨ts, ch.rename, h1, h2.trans hc.2, .inl rfl⟩
  · exact ⟨_, _, rxd_decode_write_flat rs hf render hr base label hl g hg, List.Perm.refl _, .inr rfl⟩

namespace Witness
def s (x : String) : Str := asc x
def ex : Str := s "http://e/"

/-- a plan with a reified three-item collection (typed item with a property, rdf:nodeID item, plain item), an empty
    collection inside parseType="Resource", next to the striped productions -/
def cplan : PDoc :=
  { sc := { base := some (s "http://b/d/") }
    nodes := [
      .mk {} (.about (s "http://b/d/a") (s "a")) none
        [.lit rdfNS (s "value") (s "v") none, .type (s "http://b/d/C") (s "C"), .lit ex (s "pa") (s "w") none,
         .lit rdfNS (s "_7") (s "z") none]
        [.ptColl { lang := some (s "en") } (.el ex (s "list")) (some (s "http://b/d/#r", s "r")) [0, 1, 2]
           [.mk {} (.about (s "http://b/d/i1") (s "i1")) (some (ex, s "T")) [.type (s "http://b/d/K") (s "K")]
              [.lit {} (.el ex (s "p")) none (s "x") (some (s "en")),
               .res {} (.el ex (s "q")) none (s "http://b/d/o") (s "o") []],
            .mk {} (.nodeID (s "n")) none [] [],
            .mk {} (.about (s "http://o/i3") (s "http://o/i3")) none [] []],
         .ptRes {} (.el ex (s "u")) none 3 [.ptColl {} (.li (rdfMember 1)) none [] []],
         .res {} (.el ex (s "q")) none (s "http://b/d/o") (s "o") [.type (s "http://b/d/C") (s "C"), .lit ex (s "pb") (s "1") none],
         .node {} (.el ex (s "w")) none (.mk {} (.anon 4) none [] [])] ] }

theorem cplan_full : fullDoc cplan = true := by decide
theorem cplan_wf : wfDoc Spec.RFC3986.resolve ⟨s "http://b/doc", none⟩ cplan = true := by decide +kernel

/-- the hypotheses of `rxd_decode_render_full_partial` are satisfiable by a plan with collections -/
example : ∃ ts, decode (mkP Spec.RFC3986.resolve LeafWitness.render) (some (s "http://b/doc")) (tokensDoc (renderDoc cplan)) .eof = .ok ts ∧
    ts.Perm (flatDoc cplan) :=
  rxd_decode_render_full_partial _ C09Dec.emptyRefNoFrag_rfc3986 LeafWitness.render (fun _ => rfl) _ cplan cplan_full cplan_wf
example : (flatDoc cplan).length = 25 := by decide
end Witness


/-! ### rdf:ID on node elements (conditional) -/

/-- **rdf:ID on node elements, conditionally.**  For well-formed plans of the fragment `idDoc` (the full-partial
    fragment with ANY subject form on node elements outside collections, rdf:ID included) the decoder model either
    reports its duplicate-name error or yields the intended triples (= `RX.denoteDoc`) up to a permutation.  What is
    NOT proved is that the first alternative cannot happen (`RxdNoSpuriousDuplicate`): the decoder keys used IDs by the
    identity of the `UsedIDs` map (a fresh map per xml:base attribute), the denotation by the base IRI; relating the
    two needs an invariant over map identities that the simulation lemmas (Proofs/C09Dec2Sim.lean) do not expose. -/
theorem rxd_refines_denote_id_conditional (rs : Str → Str → Str) (hf : EmptyRefNoFrag rs) (render : List Tok → Option Str)
    (hr : ∀ c, render [.chars c] = some c) (base : Str) (d : PDoc) (hs : idDoc d = true)
    (hwf : wfDoc rs ⟨base, none⟩ d = true) :
    (∃ ts, decode (mkP rs render) (some base) (tokensDoc (renderDoc d)) .eof = .err .duplicateName ts) ∨
    ∃ ts ds, decode (mkP rs render) (some base) (tokensDoc (renderDoc d)) .eof = .ok ts ∧
      denoteDoc rs ⟨base, none⟩ (renderDoc d) = .ok ds ∧ ts.Perm ds := by
  rcases sim_doc hf hr base d hs hwf with ⟨_, h⟩ | ⟨ts, h1, h2, _⟩
  · exact .inl h
  · exact .inr ⟨ts, flatDoc d, h1, C09.denote_render rs ⟨base, none⟩ d hwf, h2⟩

/-- the missing half (NOT proved; T3 only): on a well-formed plan the decoder's uniqueness check does not fire -/
def RxdNoSpuriousDuplicate : Prop :=
  ∀ (rs : Str → Str → Str) (render : List Tok → Option Str) (base : Str) (d : PDoc), EmptyRefNoFrag rs →
    idDoc d = true → wfDoc rs ⟨base, none⟩ d = true →
    ∀ ts, decode (mkP rs render) (some base) (tokensDoc (renderDoc d)) .eof ≠ .err .duplicateName ts

namespace Witness
/-- rdf:ID subjects: the same ID value under two different xml:base scopes, and a nested one -/
def iplan : PDoc :=
  { sc := {}
    nodes := [
      .mk { base := some (s "http://b/one") } (.id (s "http://b/one#x") (s "x")) none [] [],
      .mk { base := some (s "http://b/two") } (.id (s "http://b/two#x") (s "x")) (some (ex, s "T")) []
        [.node {} (.el ex (s "p")) none (.mk {} (.id (s "http://b/two#y") (s "y")) none [] [])] ] }

theorem iplan_id : idDoc iplan = true := by decide
theorem iplan_wf : wfDoc Spec.RFC3986.resolve ⟨s "http://b/doc", none⟩ iplan = true := by decide +kernel

example : (∃ ts, decode (mkP Spec.RFC3986.resolve LeafWitness.render) (some (s "http://b/doc")) (tokensDoc (renderDoc iplan)) .eof = .err .duplicateName ts) ∨
    ∃ ts ds, decode (mkP Spec.RFC3986.resolve LeafWitness.render) (some (s "http://b/doc")) (tokensDoc (renderDoc iplan)) .eof = .ok ts ∧
      denoteDoc Spec.RFC3986.resolve ⟨s "http://b/doc", none⟩ (renderDoc iplan) = .ok ds ∧ ts.Perm ds :=
  rxd_refines_denote_id_conditional _ C09Dec.emptyRefNoFrag_rfc3986 LeafWitness.render (fun _ => rfl) _ iplan iplan_id iplan_wf

/-- on this instance the second alternative holds (kernel evaluation) -/
example : decode (mkP Spec.RFC3986.resolve LeafWitness.render) (some (s "http://b/doc")) (tokensDoc (renderDoc iplan)) .eof =
    .ok (flatDoc iplan) := by decide +kernel
end Witness

/-! ## C05: the Next protocol -/

/-- **Latch.**  For every decoder state in which `Next` has just returned false — whatever the parameters, the
    token stream and the terminator, whether the end was clean, an error, or there was nothing to read — every
    further call of `Next` returns false and neither `Err` nor the statements change. -/
theorem rxd_latch (P : Params) (d : Dec) (h : (d.next P).1 = .no) (n : Nat) :
    (∀ o ∈ (Dec.nextN P n (d.next P).2).1, o = .no) ∧
    (Dec.nextN P n (d.next P).2).2.err = (d.next P).2.err ∧
    (Dec.nextN P n (d.next P).2).2.stmts = (d.next P).2.stmts :=
  nextN_of_done P n _ (done_of_no P d h)

/-- when `Next` returns true the statement accessor indexes inside `d.statements` (states reachable from `Dec.init`
    have `-1 ≤ idx`) -/
theorem rxd_next_true_has_triple (P : Params) (d : Dec) (hd : -1 ≤ d.idx) (h : (d.next P).1 = .yes) :
    ((d.next P).2.triple).isSome := by
  by_cases he : d.err.isSome
  · simp [Dec.next, he] at h
  · by_cases hi : d.idx = -1
    · cases hdec : decode P d.base d.toks d.fin with
      | panic => simp [Dec.next, he, hi, hdec] at h
      | err e ts => simp [Dec.next, he, hi, hdec] at h
      | ok ts =>
        by_cases hts : ts = []
        · simp [Dec.next, he, hi, hdec, hts] at h
        · have : d.next P = (.yes, { d with stmts := ts, idx := d.idx + 1 }) := by simp [Dec.next, he, hi, hdec, hts]
          rw [this]
          have hl : 0 < ts.length := List.length_pos_iff.mpr hts
          have h0 : ¬(d.idx + 1 < 0) := by omega
          have h1 : (d.idx + 1).toNat < ts.length := by omega
          simp [Dec.triple, h0, h1]
    · by_cases hlt : d.idx + 1 < (d.stmts.length : Int)
      · have : d.next P = (.yes, { d with idx := d.idx + 1 }) := by simp [Dec.next, he, hi, hlt]
        rw [this]
        have h0 : ¬(d.idx + 1 < 0) := by omega
        have h1 : (d.idx + 1).toNat < d.stmts.length := by omega
        simp [Dec.triple, h0, h1]
      · simp [Dec.next, he, hi, hlt] at h

theorem rxd_next_no_panic (P : Params) (hP : P.EmptyRefOK) (d : Dec) : (d.next P).1 ≠ .panic := by
  -- `Next` hands on a panic of `parseAll` and has none of its own
  unfold Dec.next
  split
  · simp
  · split
    · cases hd : decode P d.base d.toks d.fin with
      | panic => exact absurd hd (rxd_no_panic P hP d.base d.toks d.fin)
      | err e ts => simp
      | ok ts => simp only []; split <;> simp
    · simp only []; split <;> simp

/-- non-vacuity: an empty document latches at the first call, a failing one too -/
example : ((Dec.init none [] .eof).next rfcParams).1 = .no := by decide
example : ((Dec.init none [.directive []] .eof).next rfcParams).1 = .no := by decide

/-! ## C15: the terminator is never lost -/

/-- **A reader error is reported.**  With terminator `io` the decoder model never ends cleanly; if the same tokens
    followed by a clean EOF decode to `ts`, the verdict is exactly the reader error (the statements stay hidden);
    and an error of the decoder's own is the same under both endings. -/
theorem rxd_ioerr_reported (P : Params) (base : Option Str) (toks : List Tok) :
    (∀ ts, decode P base toks .io ≠ .ok ts) ∧
    (∀ ts, decode P base toks .eof = .ok ts → decode P base toks .io = .err .io ts) ∧
    (∀ e ts, decode P base toks .eof = .err e ts → e ≠ .eofInside → decode P base toks .io = .err e ts) :=
  run_io P _ _ _ toks

/-- **Truncation is reported.**  A token list after which some element is still open (`depthAfter 0 toks > 0`:
    every start tag counts +1, every end tag −1) never decodes cleanly, whatever the terminator (encoding/xml reports
    `syntax` there; a clean EOF inside an element would be `eofInside`). -/
theorem rxd_truncation_reported (P : Params) (base : Option Str) (toks : List Tok) (fin : Fin)
    (h : 0 < depthAfter 0 toks) : ∀ ts, decode P base toks fin ≠ .ok ts := by
  intro ts hok
  have := ((decode_sat P base toks fin).2.2 ts hok).1
  omega

/-- a clean end needs the clean terminator -/
theorem rxd_clean_needs_eof (P : Params) (base : Option Str) (toks : List Tok) (fin : Fin) (ts : List T)
    (h : decode P base toks fin = .ok ts) : fin = .eof :=
  ((decode_sat P base toks fin).2.2 ts h).2

/-- every proper non-empty prefix of the token stream of a document tree leaves the root element open, so by
    `rxd_truncation_reported` a document cut anywhere inside its root element is never decoded cleanly -/
theorem rxd_cut_inside_root (P : Params) (base : Option Str) (ns name : Str) (attrs : List Attr) (kids : List Node)
    (p q : List Tok) (h : tokensDoc (.elem ns name attrs kids) = p ++ q) (hp : p ≠ []) (hq : q ≠ []) (fin : Fin) :
    ∀ ts, decode P base p fin ≠ .ok ts :=
  rxd_truncation_reported P base p fin (cut_inside_root ns name attrs kids p q h hp hq)

/-- the hypothesis of `rxd_cut_inside_root` is satisfiable: the witness tree cut after 5 of its 19 tokens -/
example : ∀ ts, decode rfcParams (some (asc "http://b/doc")) ((tokensDoc C09Dec.Witness.wTree).take 5) .syntax ≠ .ok ts := by
  have h : tokensDoc C09Dec.Witness.wTree = (tokensDoc C09Dec.Witness.wTree).take 5 ++ (tokensDoc C09Dec.Witness.wTree).drop 5 :=
    (List.take_append_drop 5 _).symm
  exact rxd_cut_inside_root rfcParams _ _ _ _ _ _ _ h (by decide) (by decide) .syntax

/-- determinism: the verdict is a function of the token list and the terminator -/
theorem rxd_deterministic (P : Params) (base : Option Str) (toks toks' : List Tok) (fin fin' : Fin)
    (h1 : toks = toks') (h2 : fin = fin') : decode P base toks fin = decode P base toks' fin' := by
  subst h1; subst h2; rfl

end RdfModel.C09Dec2
