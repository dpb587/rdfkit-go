/-
  Property C09 — RDF/XML decoding of any grammatical document yields the graph it denotes
  (level: fragment).  Theorems only; helper lemmas live in RdfModel/Proofs/C09*.lean.

  The objects (all in Spec/RdfXmlFragment.lean, executable, run by the driver):
    `denoteDoc rs env tree`   the RDF/XML grammar (RDF 1.1 XML Syntax §7) as a denotation of an abstract
                              XML element tree; `rs` is reference resolution (RFC 3986 in the driver)
    `PDoc` (plans)            a way of writing a graph: striping, node element form (typed or
                              rdf:Description; rdf:about / rdf:ID / rdf:nodeID / anonymous), property attributes,
                              rdf:resource, rdf:nodeID, rdf:datatype, parseType Resource / Collection / Literal,
                              rdf:li, reification by rdf:ID, xml:base and xml:lang on any element, relative
                              references — each written form paired with the value it is meant to denote
    `renderDoc`, `flatDoc`    the tree of a plan; the intended triples of a plan (read off, no context)
    `wfDoc`                   executable check that written forms stand for their intended values under the
                              scoping rules and that the tree is grammatical
    `write rs base label g ch`  the writer: validates the choice `ch` (a plan plus the correspondence of
                              blank nodes) against the graph `g` and renders it, else renders the flat plan

  What is proved: for every graph of the fragment and every choice, the denotation of what the writer
  produces is the graph up to blank-node renaming (`write_denote`); the same for the switch-driven writer
  `writeAuto` of Spec/RdfXmlWriter.lean under every switch setting (`writeAuto_denote`); more generally the
  denotation of every well-formed plan is exactly its intended triples (`denote_render`), and every graph
  of the fragment has a well-formed plan (`flatPlan_ok`).  Well-definedness: attribute order does not
  influence what `denoteDoc` reads from an element (`attr_order`, at the level of the attribute record
  only: that the triples are then a permutation is not proved), insignificant white space is ignored
  (`ws_*`).  Props/C09Rfc.lean discharges the IRI side condition for RFC 3986 resolution,
  Props/C09Facts.lean ties the reserved-name sets and rdf:ID validity to the Go source (T1/T2),
  Props/C09Findings.lean records what the grammar says on the witnesses of the five decoder defects.

  What ties this to Go: go/cmd/c09 serialises the trees produced by `renderDoc` (and the W3C test
  documents parsed into trees) to XML text with random prefixes, references, attribute order and
  white space, runs rdfxml.Decoder with text-offset capture off and on, and compares with
  `denoteDoc` computed by the driver, up to blank-node isomorphism (T3).

  NOT covered by any theorem here: the XML text layer (encoding/xml, inspectxml: well-formedness
  errors, namespaces, entity and character references, DTD-defined entities); canonicalisation of
  rdf:parseType="Literal" content (the content is an opaque string); attributes without namespace;
  well-formedness of IRIs and language tags; reference resolution itself (parameter `rs`, see C12).
-/
import RdfModel.Props.C09Defs
import RdfModel.Spec.GraphIso
import RdfModel.Spec.RFC3986
import RdfModel.Proofs.C09Write
import RdfModel.Spec.RdfXmlWriter
namespace RdfModel.C09
open RdfModel RdfModel.Desc RdfModel.RX

variable {β : Type}

/-- **Round trip, plan form.**  For every resolution function, every environment and every
    well-formed plan, the denotation of the rendered tree is exactly the list of intended triples
    (same order, generated blank nodes numbered in document order). -/
theorem denote_render (rs : Str → Str → Str) (env : Env) (d : PDoc) (h : wfDoc rs env d = true) :
    denoteDoc rs env (renderDoc d) = .ok (flatDoc d) :=
  denoteDoc_render rs env d h

/-- The same for a single node element in an arbitrary state: subject, triples and final state. -/
theorem denote_render_node (rs : Str → Str → Str) (env : Env) (n : PNode) (st st' : St)
    (h : wfNode rs env st n = some st') :
    nodeElt rs env (renderNode n) st = .ok (n.subj, flatNode n, st') :=
  nodeElt_render rs n env st st' h

/-- **Every graph of the fragment can be written.**  The flat plan is well-formed and its intended
    triples are the graph with every blank node `b` named `label b`. -/
theorem flatPlan_ok (rs : Str → Str → Str) (base : Str) (label : β → Str) (hl : LabelsOK label)
    (g : List (Triple β)) (hg : ∀ t ∈ g, TripleOK rs base t) :
    wfDoc rs ⟨base, none⟩ (flatPlan label g) = true ∧
    flatDoc (flatPlan label g) = g.map (Triple.map (fun b => BN.named (label b))) :=
  RX.flatPlan_ok rs base label hl g hg

/-- **C09 (fragment).**  For every graph `g` of the fragment and every choice `ch` of how to write it
    (a plan and an injective correspondence of blank nodes), the document the writer produces denotes
    `g` up to blank-node renaming. -/
theorem write_denote (rs : Str → Str → Str) (base : Str) (label : β → Str) (hl : LabelsOK label)
    (g : List (Triple β)) (hg : ∀ t ∈ g, TripleOK rs base t) (ch : Choices β)
    (hσ : Function.Injective ch.rename) :
    ∃ out, denoteDoc rs ⟨base, none⟩ (write rs base label g ch) = .ok out ∧ Spec.Iso out g :=
  RX.write_denote rs base label hl g hg ch hσ

/-- **C09 (fragment), switch-driven writer.**  For every graph of the fragment and every setting of the
    switches (grouping, typed node elements, property attributes, rdf:li, rdf:ID, language hoisting,
    striping, xml:base with relative references) the document `writeAuto` produces denotes the graph up to
    blank-node renaming. -/
theorem writeAuto_denote [DecidableEq β] (rs : Str → Str → Str) (base : Str) (label : β → Str)
    (hl : LabelsOK label) (g : List (Triple β)) (hg : ∀ t ∈ g, TripleOK rs base t) (k : Knobs) :
    ∃ out, denoteDoc rs ⟨base, none⟩ (writeAuto rs base label g k) = .ok out ∧ Spec.Iso out g :=
  RX.write_denote rs base label hl g hg ⟨autoPlan rs base k label g, fun b => BN.named (label b)⟩
    (fun _ _ h => hl.inj (BN.named.inj h))

/-- The writer uses the chosen plan whenever it is a valid way of writing `g`. -/
theorem write_uses_choice (rs : Str → Str → Str) (base : Str) (label : β → Str) (g : List (Triple β))
    (ch : Choices β) (h1 : wfDoc rs ⟨base, none⟩ ch.plan = true)
    (h2 : (flatDoc ch.plan).Perm (g.map (Triple.map ch.rename))) :
    write rs base label g ch = renderDoc ch.plan := by
  unfold write
  rw [if_pos]
  simp only [Bool.and_eq_true, List.isPerm_iff]
  exact ⟨h1, h2⟩

/-! ### well-definedness: insignificant white space

  White-space text between property elements, between node elements, around the node element of a
  resource property element and between the items of a collection does not change the denotation
  (the serialiser of the harness inserts such text at random). -/

theorem ws_propList (rs : Str → Str → Str) (env : Env) (s : Term BN) (ws : Str) (hws : ws.all isWs = true)
    (ks : List Node) (li : Nat) (st : St) :
    propList rs env s (.text ws :: ks) li st = propList rs env s ks li st := by
  simp only [propList, propElt, hws, if_true]
  cases propList rs env s ks li st with
  | error e => rfl
  | ok r => obtain ⟨ts, st2⟩ := r; simp

theorem ws_nodeList (rs : Str → Str → Str) (env : Env) (ws : Str) (hws : ws.all isWs = true)
    (ks : List Node) (st : St) : nodeList rs env (.text ws :: ks) st = nodeList rs env ks st := by
  simp only [nodeList, hws, if_true]

theorem ws_resKids (rs : Str → Str → Str) (env : Env) (ws : Str) (hws : ws.all isWs = true)
    (ks : List Node) (st : St) : resKids rs env (.text ws :: ks) st = resKids rs env ks st := by
  simp only [resKids, hws, if_true]

theorem ws_collKids (rs : Str → Str → Str) (env : Env) (s : Term BN) (p : Str) (ws : Str)
    (hws : ws.all isWs = true) (ks : List Node) (st : St) :
    collKids rs env s p (.text ws :: ks) st = collKids rs env s p ks st := by
  simp only [collKids, hws, if_true]

/-! ### well-definedness: attribute order

  XML attributes are unordered. `denoteDoc` reads an element's attributes through `info`; for an attribute
  list with pairwise distinct names every permutation gives the same named attributes and a permutation
  of the property attributes (which only permutes the triples they produce). -/

theorem attr_order (as bs : List Attr) (h : as.Perm bs) (hn : (as.map attrKey).Nodup) :
    (info as).base = (info bs).base ∧ (info as).lang = (info bs).lang ∧ (info as).id = (info bs).id ∧
    (info as).about = (info bs).about ∧ (info as).nodeID = (info bs).nodeID ∧
    (info as).resource = (info bs).resource ∧ (info as).datatype = (info bs).datatype ∧
    (info as).parseType = (info bs).parseType ∧ (info as).props.Perm (info bs).props ∧
    (info as).bad = (info bs).bad ∧ (info as).unsup = (info bs).unsup := by
  refine ⟨getAttr_perm h hn _ _, getAttr_perm h hn _ _, getAttr_perm h hn _ _, getAttr_perm h hn _ _,
    getAttr_perm h hn _ _, getAttr_perm h hn _ _, getAttr_perm h hn _ _, getAttr_perm h hn _ _,
    h.filter _, h.any_eq, h.any_eq⟩

/-! ### non-vacuity -/

namespace Witness

def s (x : String) : Str := asc x
def ex : Str := s "http://e/"
def base : Str := s "http://b/d/doc"
def label : Bool → Str
  | true => s "x"
  | false => s "y"

theorem labelsOK : LabelsOK label :=
  -- four cases: equal arguments by `rfl`, in the two mixed ones the labels differ
  ⟨by intro a b h; cases a <;> cases b <;> first | rfl | (exact absurd h (by decide)),
   by intro b; cases b <;> decide⟩

/-- a graph of the fragment: IRI / blank subjects, plain, tagged and typed literals -/
def g : List (Triple Bool) :=
  [⟨.iri (s "http://b/d/a"), ex ++ s "p", .lit (s "v") xsdString none⟩,
   ⟨.bnode true, ex ++ s "q", .bnode false⟩,
   ⟨.bnode false, rdfMember 1, .lit (s "w") rdfLangString (some (s "en"))⟩,
   ⟨.iri (s "http://b/d/a"), ex ++ s "r", .lit (s "1") (s "http://e/dt") none⟩]

theorem g_ok : ∀ t ∈ g, TripleOK Spec.RFC3986.resolve base t := by
  intro t ht
  simp only [g, List.mem_cons, List.not_mem_nil, or_false] at ht
  rcases ht with rfl | rfl | rfl | rfl
  · exact ⟨by simp only [SubjOK, IriOK]; decide +kernel, by decide +kernel, Or.inl rfl⟩
  · exact ⟨trivial, by decide +kernel, trivial⟩
  · exact ⟨trivial, by decide +kernel, ⟨by decide +kernel, rfl⟩⟩
  · exact ⟨by simp only [SubjOK, IriOK]; decide +kernel, by decide +kernel,
      Or.inr ⟨by decide +kernel, by simp only [IriOK]; decide +kernel⟩⟩

/-- an attempt at writing `g` in striped form without typed node elements (rejected by `wfDoc`, see below): relative
    `rdf:about` under `xml:base`,
    a property attribute, an anonymous nested node element, `rdf:li`, inherited `xml:lang`,
    `rdf:datatype` -/
def plan : PDoc :=
  { sc := { base := some (s "http://b/d/"), lang := some (s "en") }
    nodes := [
      .mk {} (.anon 0) none []
        [.node {} (.el ex (s "q")) none
          (.mk {} (.anon 1) none [] [.lit {} (.li (rdfMember 1)) none (s "w") (some (s "en"))])],
      .mk { lang := some [] } (.about (s "http://b/d/a") (s "a")) none [.lit ex (s "p") (s "v") none]
        [.typed {} (.el ex (s "r")) none (s "1") (s "http://e/dt") (s "/dt")] ] }

/- `/dt` resolves against `http://b/d/` to `http://b/dt`, not `http://e/dt`: the plan above is rejected … -/
example : wfDoc Spec.RFC3986.resolve ⟨base, none⟩ plan = false := by decide +kernel

/-- … and this one is accepted -/
def plan2 : PDoc :=
  { plan with nodes := [
      .mk {} (.anon 0) none []
        [.node {} (.el ex (s "q")) none
          (.mk {} (.anon 1) none [] [.lit {} (.li (rdfMember 1)) none (s "w") (some (s "en"))])],
      .mk { lang := some [] } (.about (s "http://b/d/a") (s "a")) none [.lit ex (s "p") (s "v") none]
        [.typed { base := some (s "http://e/x") } (.el ex (s "r")) none (s "1") (s "http://e/dt") (s "dt")] ] }

theorem plan2_wf : wfDoc Spec.RFC3986.resolve ⟨base, none⟩ plan2 = true := by decide +kernel

def rename : Bool → BN
  | true => .gen 0
  | false => .gen 1

theorem rename_inj : Function.Injective rename := by
  -- as for `labelsOK`: the two mixed cases have different images
  intro a b h; cases a <;> cases b <;> first | rfl | (exact absurd h (by decide))

theorem plan2_writes_g : (flatDoc plan2).Perm (g.map (Triple.map rename)) := by
  rw [← List.isPerm_iff]; decide +kernel

/-- all switches on: the automatic plan for the witness graph is a valid way of writing it (so
    `writeAuto` renders it rather than the flat plan) -/
def knobs : Knobs :=
  { group := true, typed := true, attrs := true, li := true, useID := true, hoist := true, nest := true,
    rel := true, base := some (s "http://b/d/") }

theorem auto_used : autoPlanUsed Spec.RFC3986.resolve base label g knobs = true := by decide +kernel

end Witness

end RdfModel.C09
