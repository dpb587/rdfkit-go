/-
  Part C12W of property C12 — theorems about the executable model of `iri.ParsedIRI` on top of the
  executable model of net/url (Model/ParsedIRI.lean, Model/GoUrlFull.lean: the model the driver runs and
  go/cmd/c12 -part wrap ties to the real code field by field, exact agreement required).

  Proved (all inputs in the stated domain):
    * `parse_string_identity_partial`  `ParseIRI(s)` succeeds and `String()` gives `s` back for every `s`
                                       whose RFC 3986 components lie in `InLang` (Props/C12WrapDefs.lean)
    * `parseIRI_never_panics`, `resolveReference_never_panics`, `parseRef_no_panic`, `resolveStr_no_panic`
                                       the two slice expressions that could go out of range are unreachable,
                                       for ALL inputs (the model functions are total by construction)
    * `resolve_eq_rfc_partial`         (Props/C12WrapResolve.lean) resolution = RFC 3986 5.2 for hierarchical bases with
                                       authority and relative references, '%'-free paths
    * T1: Props/C12WrapTables.lean (the byte tables are those of the real net/url)
  Exhibited (kernel-evaluated on the model; the same inputs are corpus entries replayed on the Go code by
  go/cmd/c12): one witness per known deviation class, `deviates_*`.
  NOT proved: the full-strength statements `ParseStringIdentity` / `ResolveEqRfc` below (kept as defs).
  Witnesses use `decide +kernel` (kernel evaluation of the model; no axiom beyond the three standard ones —
  see Audit/C12Wrap.lean); everything else is ordinary tactic proof.
-/
import RdfModel.Props.C12
import RdfModel.Props.C12WrapTables
import RdfModel.Proofs.C12WrapString
import RdfModel.Proofs.C12WrapPanic
namespace RdfModel.C12W
open RdfModel.GoUrlFull RdfModel.PIRI
open RdfModel.Spec.RFC3986 (split recompose resolve)

def S (s : String) : Str := s.toList.map Char.toNat
def eAcute : Str := [0xc3, 0xa9]

/-- `ParseIRI(s).String()`; `none` on a parse error -/
def parseStr (s : Str) : Option Str :=
  match parseIRI s with
  | .ok p => some p.str
  | .error _ => none

/-- `ParseIRI(b).Parse(r).String()`; `none` on an error (or panic) -/
def resolveS (b r : Str) : Option Str :=
  match resolveStr b r with
  | .ok (some t) => some t
  | _ => none

/-- Full-strength statement of the property's "parsing an IRI and printing it again is the identity" for the
    code: every string of the grammar `valid` (the RFC 3987 recogniser, implemented in go/cmd/c12/gen.go only)
    outside the known deviation classes is accepted and printed back unchanged. NOT proved. Missing relative to
    `parse_string_identity_partial`: non-ASCII bytes in the path (there `RawPath` is not a valid encoding for
    net/url and `String()` goes through an unanchored `strings.Replace`), userinfo, IPv6 literals. -/
def ParseStringIdentity (valid : Str → Prop) : Prop :=
  ∀ s : Str, valid s → C12.classes true s [] = [] → parseStr s = some s

/-- Proved part: on the sub-language `InLang` (ASCII; lower-case scheme; `host[:port]` authorities without
    userinfo or IP literal; path bytes that net/url regards as validly encoded, including %XX of either case;
    any query; any fragment with well-formed escapes, non-ASCII included) `ParseIRI` succeeds and `String()` is the identity — no case, percent-encoding or
    host normalisation. -/
theorem parse_string_identity_partial (s : Str) (h : InLang (split s) = true) :
    ∃ p, parseIRI s = .ok p ∧ p.str = s := by
  have := parseIRI_inLang (split s) h
  rwa [C12.recompose_split] at this

theorem parseStr_identity_partial (s : Str) (h : InLang (split s) = true) : parseStr s = some s := by
  obtain ⟨p, hp, hs⟩ := parse_string_identity_partial s h
  simp [parseStr, hp, hs]

-- non-trivial members of the sub-language: escapes of either case, sub-delims that set RawPath, empty query and
-- fragment, port, opaque path, relative references
example : InLang (split (S "http://a.example:8080/p/%7e%7E/(x)!/;v=1?q=%zz&r#f%41!")) = true := by decide +kernel
example : InLang (split (S "urn:isbn:0-486-27557-4?#")) = true := by decide +kernel
example : InLang (split (S "../a/./b%2Fc?x#")) = true := by decide +kernel
-- a non-ASCII fragment and a non-ASCII query (UTF-8 bytes of é), and a fragment with a space: String() restores
-- the raw fragment over net/url's re-escaped one
example : InLang (split (S "http://h/a?" ++ eAcute ++ S "#r" ++ eAcute ++ S "sum%c3%a9 x")) = true := by decide +kernel
example : InLang (split (S "//h/a")) = true ∧ InLang (split (S "file:/etc/x")) = true ∧ InLang (split (S "*")) = true := by
  decide +kernel
-- and strings outside it
example : InLang (split (S "HTTP://h/")) = false ∧ InLang (split (S "x:/a")) = false ∧ InLang (split (S "a:b/c d")) = false := by
  decide +kernel

/-! ### no panic (for all inputs) -/

theorem parseIRI_never_panics (s : Str) : parseIRI s ≠ .error .panic := parseIRI_no_panic s

theorem resolveReference_never_panics (b r : ParsedIRI) : b.resolveReference r ≠ .panic := resolveReference_no_panic b r

theorem parseRef_no_panic (b : ParsedIRI) (r : Str) : b.parseRef r ≠ .panic ∧ b.parseRef r ≠ .err .panic := by
  unfold ParsedIRI.parseRef
  split
  · rename_i e he
    refine ⟨by simp, ?_⟩
    intro h; cases h; exact parseIRI_no_panic _ he
  · split
    · simp
    · rename_i hp; exact absurd hp (resolveReference_no_panic _ _)

/-- `ParseIRI(b)`, `.Parse(r)`, `.String()` end to end: never a panic, never the `panic` error -/
theorem resolveStr_no_panic (b r : Str) : resolveStr b r ≠ .ok none ∧ resolveStr b r ≠ .error .panic := by
  unfold resolveStr
  split
  · rename_i e he
    refine ⟨by simp, ?_⟩
    intro h; cases h; exact parseIRI_no_panic _ he
  · rename_i bp _
    have := parseRef_no_panic bp r
    split
    · simp
    · rename_i e he
      refine ⟨by simp, ?_⟩
      intro h; cases h; exact this.2 he
    · rename_i hp; exact absurd hp this.1

/-! ### the known deviation classes really deviate on the model (hence, by T3, on the code) -/

/-- D14-scheme-has-uppercase -/
theorem deviates_scheme_uppercase : parseStr (S "HTTP://e/a") = some (S "http://e/a") := by decide +kernel
/-- D14-host-non-ascii -/
theorem deviates_host_non_ascii : parseStr (S "http://" ++ eAcute ++ S "/") = some (S "http://%C3%A9/") := by decide +kernel
/-- D14-host-pct-encoded -/
theorem deviates_host_pct : parseStr (S "http://a%20b/") = none ∧ parseStr (S "http://%c3%a9/") = some (S "http://%C3%A9/") := by
  decide +kernel
/-- D14-userinfo-not-plain -/
theorem deviates_userinfo : parseStr (S "http://u!@h/") = some (S "http://u%21@h/") ∧ parseStr (S "http://" ++ eAcute ++ S "@h/") = none := by
  decide +kernel
/-- D14-host-ipvfuture -/
theorem deviates_ipvfuture : parseStr (S "http://[v1.a]/") = none := by decide +kernel
/-- D14-empty-host -/
theorem deviates_empty_host : parseStr (S "x:///a") = some (S "x:a") ∧
    resolveS (S "x://h/a") (S "//") = some (S "x://h/a") ∧ resolve (S "x://h/a") (S "//") = S "x://" := by decide +kernel
/-- D14-opaque-reclassified-abs-path -/
theorem deviates_opaque_reclassified : parseStr (S "x:/a/../b") = some (S "x:a/../b") := by decide +kernel
/-- D14-relative-path-escaped-asterisk -/
theorem deviates_escaped_asterisk : parseStr (S "%2A") = some (S "*") := by decide +kernel
/-- D14-relative-first-segment-encoded-colon -/
theorem deviates_encoded_colon : parseStr (S "%3ab/" ++ eAcute) = some (S "./%3ab/" ++ eAcute) := by decide +kernel
/-- D14-special-scheme-no-authority-base -/
theorem deviates_special_no_authority :
    resolveS (S "http:/a/b") (S "c") = some (S "http:///a/c") ∧ resolve (S "http:/a/b") (S "c") = S "http:/a/c" := by decide +kernel
/-- D14-rootless-base-path-reference -/
theorem deviates_rootless_base :
    resolveS (S "urn:a/b") (S "../c") = some (S "urn:c") ∧ resolve (S "urn:a/b") (S "../c") = S "urn:/c" := by decide +kernel
/-- D14-base-dot-segments-empty-path-reference -/
theorem deviates_base_dot_segments :
    resolveS (S "http://h/a/./b") (S "#f") = some (S "http://h/a/b#f") ∧ resolve (S "http://h/a/./b") (S "#f") = S "http://h/a/./b#f" := by
  decide +kernel
/-- D14-base-fragment-inherited -/
theorem deviates_base_fragment :
    resolveS (S "http://h/a#f") (S "") = some (S "http://h/a#f") ∧ resolve (S "http://h/a#f") (S "") = S "http://h/a" ∧
    resolveS (S "http://h/a#") (S "b") = some (S "http://h/b#") ∧ resolve (S "http://h/a#") (S "b") = S "http://h/b" := by decide +kernel
/-- D14-dotdot-then-empty-segment -/
theorem deviates_dotdot_empty :
    resolveS (S "http://h/a") (S "..//x") = some (S "http://h/x") ∧ resolve (S "http://h/a") (S "..//x") = S "http://h//x" := by
  decide +kernel
/-- D14-absolute-reference-rootless-dot-segments -/
theorem deviates_absolute_rootless :
    resolveS (S "http://h/a") (S "x:..") = some (S "x:..") ∧ resolve (S "http://h/a") (S "x:..") = S "x:" := by decide +kernel
/-- D14-empty-base-path-reference-to-root -/
theorem deviates_empty_base_path :
    resolveS (S "http://h") (S ".") = some (S "http://h") ∧ resolve (S "http://h") (S ".") = S "http://h/" := by decide +kernel
/-- D14-chain-sticky-empty-fragment: one ParsedIRI re-based twice -/
theorem deviates_chain_sticky :
    (match parseIRI (S "http://h/a#") with
      | .ok b => (match b.parseRef (S "b#x") with
        | .ok t => (match t.parseRef (S "c") with | .ok t2 => some t2.str | _ => none)
        | _ => none)
      | .error _ => none) = some (S "http://h/c#") ∧
    resolve (resolve (S "http://h/a#") (S "b#x")) (S "c") = S "http://h/c" := by decide +kernel
/-- D14-base-empty-query-dropped: the repository has the repair (commit e41d420) and the model follows it: no deviation -/
theorem repaired_base_empty_query :
    resolveS (S "http://h/a?") (S "#f") = some (S "http://h/a?#f") ∧ resolve (S "http://h/a?") (S "#f") = S "http://h/a?#f" := by
  decide +kernel

end RdfModel.C12W
