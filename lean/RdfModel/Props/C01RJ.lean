/-
  RDF/JSON leg of C01 (round trip), C05 (decoder totality) and C06 (well-formed statements).

  All theorems are about the executable model `Model/RdfJson.lean` that the driver runs.  The JSON
  text layer (`encoding/json`, the `inspectjson` tokenizer) is outside the model: the theorems speak
  about token streams, and the correspondence harness go/cmd/c01rj validates on every run that the
  real encoder's bytes tokenise to `encodeTokens` and that the real decoder behaves like `run` on
  the real tokenizer's tokens.

  `Variant` selects the version of decoder.go: `Variant.current` = with the three `fix:` patches
  (checked assertions; literal checks; rdf:dirLangString rejected), `Variant.legacy` = before them.
-/
import RdfModel.Props.C01RJDefs
import RdfModel.Proofs.C01RJDec
import RdfModel.Proofs.C01RJNext
import RdfModel.Proofs.C01RJRound
import RdfModel.Proofs.C01RJGrammar
namespace RdfModel.C01RJ
open RdfModel RdfModel.RJ
open scoped List

variable {β : Type}

/-! ## C01 — round trip -/

/-- For every list of well-formed triples, every labeller with non-empty labels and every version
    of the decoder: decoding the token stream the encoder writes on `Close` ends cleanly and yields
    a permutation of the input with every blank node replaced by its label (grouping by subject and
    predicate and key sorting reorder the statements; duplicates are kept).  IRIs, lexical forms
    and labels are arbitrary code-point strings. -/
theorem rdfjson_roundtrip (v : Variant) (label : β → List Nat) (hl : ∀ b, label b ≠ [])
    (ts : List (Triple β)) (hwf : ∀ t ∈ ts, WFTriple t) :
    ∃ out, parseRoot v (encodeTokens (addAll label ts)) .eof = .done out .clean ∧
      out ~ ts.map (relabel label) := by
  open Proofs.C01RJ in
  have hg : GoodState v (addAll label ts) :=
    stateAll_addAllFrom label (fun s hs => (goodSubj_of_wf label hl s hs).1)
      (fun o ho => (goodRec_of_wf v label hl o ho).1) ts [] hwf nofun
  open Proofs.C01RJ in
  refine ⟨_, parseRoot_rawTokens v _ (stateAll_sort _ hg), (stmtsOfState_sort v _).trans ?_⟩
  simpa [Proofs.C01RJ.stmtsOfState, addAll] using Proofs.C01RJ.stmtsOfState_addAllFrom v label hl ts [] hwf

/-- The same for what a caller observes through `Next`/`Triple`/`Err`. -/
theorem rdfjson_roundtrip_run (v : Variant) (label : β → List Nat) (hl : ∀ b, label b ≠ [])
    (ts : List (Triple β)) (hwf : ∀ t ∈ ts, WFTriple t) :
    ∃ out, run v (encodeTokens (addAll label ts)) .eof = .finished out none ∧
      out ~ ts.map (relabel label) := by
  obtain ⟨out, h1, h2⟩ := rdfjson_roundtrip v label hl ts hwf
  refine ⟨out, ?_, h2⟩
  rw [Proofs.C01RJ.run_closed_form, h1]
  rfl

/-- Relabelling by an injective labeller is injective on triples: distinct blank nodes stay
    distinct, so the permutation above is a dataset isomorphism. -/
theorem relabel_injective (label : β → List Nat) (hinj : Function.Injective label) :
    Function.Injective (relabel label) := by
  have hterm := Proofs.C01.term_map_injective (fun b => BNode.named (label b))
    fun _ _ h => hinj (BNode.named.inj h)
  intro a b h
  obtain ⟨s1, p1, o1⟩ := a
  obtain ⟨s2, p2, o2⟩ := b
  simp only [relabel, Triple.map, Triple.mk.injEq] at h
  obtain ⟨h1, h2, h3⟩ := h
  rw [hterm h1, hterm h2, hterm h3]

/-- The token stream the encoder writes is a grammatical RDF/JSON document: accepted by the
    independent recogniser `Spec.RJG.accepts` (W3C note §3: `{ "S" : { "P" : [ O ] } }`, object
    records with `type` ∈ uri/literal/bnode and `value`, optional non-empty `lang` or `datatype`
    on literals only, no duplicate members, strict commas).  Grammaticality of the *bytes* as JSON
    text is outside the model: the harness checks it with the real strict tokenizer on every
    generated dataset and feeds the real tokens to this recogniser. -/
theorem rdfjson_output_grammatical (label : β → List Nat) (ts : List (Triple β))
    (hwf : ∀ t ∈ ts, WFTriple t) :
    Spec.RJG.accepts (encodeTokens (addAll label ts)) = true :=
  Proofs.C01RJ.output_grammatical label ts hwf

/-- The recogniser is not trivial: it refuses what the lenient decoder lets through. -/
example : Spec.RJG.accepts [.beginObject, .valueSep, .endObject] = false ∧
    parseRoot .current [.beginObject, .valueSep, .endObject] .eof = .done [] .clean := by decide

def Witness.label : Nat → List Nat := fun n => [0x62, 0x30 + n]     -- "b0", "b1", …
/-- Non-vacuity: a dataset with shared blank nodes, every kind of literal, odd strings. -/
def Witness.triples : List (Triple Nat) :=
  [ ⟨.bnode 0, .iri [0x70], .bnode 1⟩,
    ⟨.iri [0x68, 0x3a, 0x73], .iri [0x70], .lit [0x22, 0x5c, 0x0a, 0x85, 0x1F41B] xsdString none⟩,
    ⟨.bnode 1, .iri [0x71], .lit [0x78] rdfLangString (some [0x65, 0x6e, 0x2d, 0x55, 0x53])⟩,
    ⟨.bnode 0, .iri [0x70], .lit [] [0x68, 0x3a, 0x64] none⟩,
    ⟨.bnode 0, .iri [0x70], .bnode 1⟩ ]

theorem Witness.labels_nonempty : ∀ b, Witness.label b ≠ [] := by intro b; simp [Witness.label]

theorem Witness.wf : ∀ t ∈ Witness.triples, WFTriple t := by
  intro t ht
  simp only [Witness.triples, List.mem_cons, List.not_mem_nil, or_false] at ht
  rcases ht with rfl | rfl | rfl | rfl | rfl
  · exact ⟨trivial, trivial, trivial⟩
  · exact ⟨by simp [WFSubject, bnPrefix?], trivial, Proofs.C01.xsd_ne_nil, Proofs.C01.xsd_ne_dir, Proofs.C01.xsd_ne_lang⟩
  · exact ⟨trivial, trivial, Proofs.C01.lang_ne_nil, Proofs.C01.lang_ne_dir, rfl, by decide⟩
  · exact ⟨trivial, trivial, by decide, asc_ne (s := "h:d") (by decide), asc_ne (s := "h:d") (by decide)⟩
  · exact ⟨trivial, trivial, trivial⟩

/-! ## C05 — no panic, sticky end state, usable accessors -/

/-- With checked type assertions (the repaired decoder.go) `parseRoot` never panics, whatever the
    token stream and however the tokenizer ends. -/
theorem rj_no_panic (v : Variant) (hv : v.checked = true) (toks : List Tok) (e : TEnd) :
    parseRoot v toks e ≠ .panic :=
  Proofs.C01RJ.parse_checked_no_panic v hv e toks .start {}

/-- … and neither does a full iteration (`Triple()` never indexes out of range, fuel suffices). -/
theorem rj_run_no_panic (v : Variant) (hv : v.checked = true) (toks : List Tok) (e : TEnd) :
    run v toks e ≠ .panic ∧ run v toks e ≠ .outOfFuel := by
  rw [Proofs.C01RJ.run_closed_form]
  have := rj_no_panic v hv toks e
  cases h : parseRoot v toks e with
  | panic => exact absurd h this
  | done ss vd => simp

/-- No version of the decoder — in particular not the one before the repair, with unchecked
    assertions — panics on token streams that are `WellNested` — what the `inspectjson` tokenizer produces unless its `EmitWhitespace` option is on
    (that guarantee is an assumption about third-party code, validated by T3 on every run). -/
theorem rj_no_panic_legacy (v : Variant) (toks : List Tok) (e : TEnd) (h : WellNested toks = true) :
    parseRoot v toks e ≠ .panic :=
  Proofs.C01RJ.parse_wellNested_no_panic v e toks .start [.root] {} (List.mem_singleton.2 rfl) h

/-- Without that hypothesis the unrepaired decoder does panic: `{"s":{` followed by a whitespace
    token (bytes `{"s":{ "p":[]}}` with `EmitWhitespace`; replayed on the real code). -/
theorem rj_legacy_panics :
    parseRoot .legacy [.beginObject, .str [0x73], .nameSep, .beginObject, .other 4, .str [0x70]] .eof = .panic ∧
    WellNested [.beginObject, .str [0x73], .nameSep, .beginObject, .other 4, .str [0x70]] = false := by
  decide

/-- … and so it does at a member-name position. -/
theorem rj_legacy_panics_member :
    parseRoot .legacy [.beginObject, .str [0x73], .nameSep, .beginObject, .str [0x70], .nameSep,
      .beginArray, .beginObject, .other 4] .eof = .panic := by
  decide

example : WellNested [.beginObject, .str [0x73], .nameSep, .beginObject, .str [0x70], .nameSep,
    .beginArray, .beginObject, .str kType, .nameSep, .str vUri, .valueSep, .valueSep, .endObject,
    .valueSep, .other 0, .endArray, .endObject, .valueSep, .endObject] = true := by decide

/-- `statementsIdx ≥ -1` is preserved by `Next()` (it holds for a fresh decoder). -/
theorem rj_idx_inv (v : Variant) (toks : List Tok) (e : TEnd) (d d' : Dec) (b : Bool)
    (hi : -1 ≤ d.idx) (h : next v toks e d = .ret d' b) : -1 ≤ d'.idx := by
  rcases Proofs.C01RJ.next_ret h with ⟨_, rfl, _⟩ | ⟨_, ss, vd, rfl, _⟩ | ⟨_, rfl, _⟩
  · exact hi
  · simp
  · simp; omega

/-- Latch: once `Next()` has returned false, every later call returns false and `Err()` does not
    change — from any state a fresh decoder can reach, for any number `k` of further calls. -/
theorem rj_latch (v : Variant) (toks : List Tok) (e : TEnd) (d d' : Dec)
    (hi : -1 ≤ d.idx) (h : next v toks e d = .ret d' false) (k : Nat) : StaysEnded v toks e d' k :=
  Proofs.C01RJ.staysEnded_of_ended v toks e k d' (Proofs.C01RJ.ended_of_false v toks e d d' hi h)

/-- Accessors: when `Next()` has just returned true, `Triple()` is in range. -/
theorem rj_accessor (v : Variant) (toks : List Tok) (e : TEnd) (d d' : Dec)
    (hi : -1 ≤ d.idx) (h : next v toks e d = .ret d' true) :
    ∃ t, current d' = some t ∧ t ∈ d'.stmts := by
  have key : 0 ≤ d'.idx ∧ d'.idx < (d'.stmts.length : Int) := by
    rcases Proofs.C01RJ.next_ret h with ⟨_, _, hb⟩ | ⟨_, ss, vd, rfl, hb⟩ | ⟨_, rfl, hb⟩
    · cases hb
    · exact ⟨by simp, of_decide_eq_true hb.symm⟩
    · exact ⟨by simp; omega, of_decide_eq_true hb.symm⟩
  obtain ⟨h0, h1⟩ := key
  have hlt : d'.idx.toNat < d'.stmts.length := by omega
  refine ⟨d'.stmts[d'.idx.toNat], ?_, List.getElem_mem hlt⟩
  unfold current
  rw [if_neg (by omega)]
  exact List.getElem?_eq_getElem hlt

example : (-1 : Int) ≤ ({} : Dec).idx := by decide

/-- A full iteration in closed form.  Note the second case: when `parseRoot` returns an error after
    having recognised statements, exactly the first of them is still handed out (the first `Next()`
    returns true although `Err()` is already set). -/
theorem rj_run_closed_form (v : Variant) (toks : List Tok) (e : TEnd) :
    run v toks e =
      match parseRoot v toks e with
      | .panic => .panic
      | .done ss vd => .finished (yieldedOf ss vd) vd.toErr :=
  Proofs.C01RJ.run_closed_form v toks e

/-! ## C06 — every emitted statement is well-formed -/

/-- With the literal checks in force, every statement `parseRoot` appends — also those before an
    error — is well-formed: subject IRI/blank node, predicate IRI, object IRI/blank node/literal
    with a non-empty datatype and a non-empty language tag exactly for rdf:langString; with
    `dirCheck` also: never rdf:dirLangString (the model has no directional tags). -/
theorem rj_emits_wf (v : Variant) (hl : v.litChecks = true) (toks : List Tok) (e : TEnd)
    (ss : List (Triple BNode)) (vd : Verdict) (h : parseRoot v toks e = .done ss vd) :
    ∀ t ∈ ss, WFOut v.dirCheck t :=
  Proofs.C01RJ.parse_wf v hl e toks .start {} ss vd trivial (by intro t ht; cases ht) h

/-- The same for the statements a caller actually sees, for the fully repaired decoder. -/
theorem rj_yields_wf (toks : List Tok) (e : TEnd) (ys : List (Triple BNode)) (err : Option EClass)
    (h : run .current toks e = .finished ys err) : ∀ t ∈ ys, WFOut true t := by
  rw [Proofs.C01RJ.run_closed_form] at h
  cases hp : parseRoot .current toks e with
  | panic => rw [hp] at h; cases h
  | done ss vd =>
    rw [hp] at h
    simp only [Outcome.finished.injEq] at h
    obtain ⟨rfl, _⟩ := h
    have hall := rj_emits_wf .current rfl toks e ss vd hp
    intro t ht
    apply hall t
    cases vd with
    | clean => exact ht
    | error c => exact List.mem_of_mem_take ht

/-! ### The defects the literal checks repair (witnesses on the model of the unrepaired code;
    each was replayed on the real decoder) -/

/-- The object record `{"type":"literal","value":"x", …}` inside `{"s":{"p":[ … ]}}`. -/
def Witness.doc (extra : List Tok) : List Tok :=
  [.beginObject, .str [0x73], .nameSep, .beginObject, .str [0x70], .nameSep, .beginArray, .beginObject,
   .str kType, .nameSep, .str vLiteral, .valueSep, .str kValue, .nameSep, .str [0x78]] ++ extra ++
  [.endObject, .endArray, .endObject, .endObject]

def Witness.emits (v : Variant) (extra : List Tok) (o : Term BNode) : Prop :=
  parseRoot v (Witness.doc extra) .eof = .done [⟨.iri [0x73], .iri [0x70], o⟩] .clean

def Witness.rejects (v : Variant) (extra : List Tok) : Prop :=
  parseRoot v (Witness.doc extra) .eof = .done [] (.error .syntax)

instance (v : Variant) (x : List Tok) (o : Term BNode) : Decidable (Witness.emits v x o) := by
  unfold Witness.emits; exact inferInstance
instance (v : Variant) (x : List Tok) : Decidable (Witness.rejects v x) := by
  unfold Witness.rejects; exact inferInstance

/-- `"lang": ""` gave an rdf:langString literal with an empty language tag. -/
theorem legacy_empty_lang :
    Witness.emits .legacy [.valueSep, .str kLang, .nameSep, .str []] (.lit [0x78] rdfLangString (some [])) ∧
    Witness.rejects .current [.valueSep, .str kLang, .nameSep, .str []] := by decide +kernel

/-- `"datatype": rdf:langString` (with or without `lang`) gave an rdf:langString literal without tag. -/
theorem legacy_langString_datatype :
    Witness.emits .legacy [.valueSep, .str kDatatype, .nameSep, .str rdfLangString] (.lit [0x78] rdfLangString none) ∧
    Witness.emits .legacy [.valueSep, .str kLang, .nameSep, .str [0x65, 0x6e], .valueSep, .str kDatatype, .nameSep, .str rdfLangString]
      (.lit [0x78] rdfLangString none) ∧
    Witness.rejects .current [.valueSep, .str kDatatype, .nameSep, .str rdfLangString] ∧
    Witness.emits .current [.valueSep, .str kLang, .nameSep, .str [0x65, 0x6e], .valueSep, .str kDatatype, .nameSep, .str rdfLangString]
      (.lit [0x78] rdfLangString (some [0x65, 0x6e])) := by decide +kernel

/-- `"datatype": ""` gave a literal without a datatype IRI. -/
theorem legacy_empty_datatype :
    Witness.emits .legacy [.valueSep, .str kDatatype, .nameSep, .str []] (.lit [0x78] [] none) ∧
    Witness.rejects .current [.valueSep, .str kDatatype, .nameSep, .str []] := by decide +kernel

/-- `"datatype": rdf:dirLangString` gives a literal that cannot carry its direction. -/
theorem legacy_dirLangString :
    Witness.emits .legacy [.valueSep, .str kDatatype, .nameSep, .str rdfDirLangString] (.lit [0x78] rdfDirLangString none) ∧
    Witness.rejects .current [.valueSep, .str kDatatype, .nameSep, .str rdfDirLangString] := by decide +kernel

/-- An empty blank-node label is not an ill-formed node: it denotes a fresh anonymous node. -/
example : parseRoot .current [.beginObject, .str [0x5f, 0x3a], .nameSep, .beginObject, .str [0x70], .nameSep,
    .beginArray, .beginObject, .str kType, .nameSep, .str vBnode, .valueSep, .str kValue, .nameSep,
    .str [0x5f, 0x3a], .endObject, .endArray, .endObject, .endObject] .eof
    = .done [⟨.bnode (.anon 0), .iri [0x70], .bnode (.anon 1)⟩] .clean := by decide

end RdfModel.C01RJ
