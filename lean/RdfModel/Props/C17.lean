/-
  Property C17 — resource descriptions built from triples flatten back to the same graph
  (theorems only; helper lemmas live in RdfModel/Proofs/C17*.lean).

  Model: RdfModel/Model/Description.lean (`build`, `exportResources`, `newTriplesList`, `dbuild`, …),
  the code the driver runs. `Spec.Iso`/`Spec.IsoQ`: RdfModel/Spec/GraphIso.lean.

  Two versions of the export are modelled (the harness records which one /repo currently behaves like;
  they coincide on inputs satisfying `Acyclic1`):
  * the code BEFORE patch `fix-c17-export-cycles` (`exportResources`, …). For it the full statement
    (`flatten_export_all`, `export_terminates_all`, `dataset_flatten_export_all`) is FALSE; the three
    witnesses below prove the negations on the model, and the harness replays them on the Go code. What
    is proved for all inputs is the statement under the decidable shape hypotheses `Acyclic1` (no cycle
    consisting solely of once-referenced blank nodes, needed only with `Inline`) and
    `NoSharedAnonymized` (cross-graph), for all four option combinations and every map iteration order;
  * the code AFTER the patch (`exportResourcesV`, …): `flatten_export_repaired` is the FULL single-graph
    statement with no hypothesis, `export_terminates_repaired` is unconditional; the dataset statement
    still needs `NoSharedAnonymized` (`not_dataset_flatten_export_all_repaired`).
-/
import RdfModel.Props.C17Defs
import RdfModel.Spec.GraphIso
import RdfModel.Proofs.C17Dataset
import RdfModel.Proofs.C17Cycle
import RdfModel.Proofs.C17VMain
namespace RdfModel.C17
open RdfModel RdfModel.Desc RdfModel.Spec

variable {β : Type} [DecidableEq β]

/-! ## the shape hypothesis -/

/-- `Acyclic1` (the decidable climb check) says exactly: there is no closed walk all of whose nodes are
    blank nodes referenced exactly once. -/
theorem acyclic1_iff_no_cycle1 (T : List (Triple β)) : Acyclic1 T ↔ ¬ ∃ c, Cycle1 T c :=
  ⟨Proofs.C17.no_cycle_of_acyclic1 T, Proofs.C17.acyclic1_of_no_cycle T⟩

/-! ## termination -/

/-- Under `Acyclic1` (needed only with `Inline`), `ExportResource(s, opts)` — hence
    `ExportResourceStatements` and every element of `ExportResources` — returns for every subject `s`,
    with a call stack no deeper than `|T|+1` frames. -/
theorem export_terminates_partial (T : List (Triple β)) (opts : Opts) (h : opts.inline = true → Acyclic1 T)
    (s : Term β) : ((build T).exportResource opts (T.length + 1) s).isSome := by
  unfold Builder.exportResource
  rw [Option.isSome_map]
  exact Proofs.C17.export_isSome T opts h s

/-- The fuel only bounds the depth: once a result exists, more fuel gives the same result. -/
theorem export_fuel_irrelevant (B : Builder β) (opts : Opts) (k k' : Nat) (hk : k ≤ k') (s : Term β)
    (r : Resource β) (h : B.exportResource opts k s = some r) : B.exportResource opts k' s = some r := by
  unfold Builder.exportResource at h ⊢
  obtain ⟨st, hst, hr⟩ := Option.map_eq_some_iff.1 h
  exact Option.map_eq_some_iff.2 ⟨st, Proofs.C17.export_mono_le B opts hk hst, hr⟩

/-- Divergence: with `Inline`, the export of any node on a cycle of once-referenced blank nodes exceeds
    every depth bound (Go: unbounded recursion, fatal stack overflow). -/
theorem export_diverges_of_cycle (T : List (Triple β)) (opts : Opts) (hi : opts.inline = true)
    (c : List β) (hc : Cycle1 T c) (b : β) (hb : b ∈ c) (fuel : Nat) :
    (build T).exportResource opts fuel (Term.bnode b) = none := by
  unfold Builder.exportResource
  rw [Proofs.C17.export_diverges_on_cycle T opts hi c hc fuel b hb]
  rfl

/-- the witness `{_:a p _:a}` -/
def selfLoop : List (Triple Nat) := [⟨Term.bnode 0, [112], Term.bnode 0⟩]

theorem export_diverges_witness (useAnon : Bool) (fuel : Nat) :
    (build selfLoop).exportResource ⟨useAnon, true⟩ fuel (Term.bnode 0) = none :=
  export_diverges_of_cycle selfLoop ⟨useAnon, true⟩ rfl [0]
    ⟨0, [], rfl, by decide, ⟨⟨[112], by decide⟩, trivial⟩⟩ 0 (by simp) fuel

/-- "Building never recurses without bound", full strength: FALSE for `exportResource`, the export without the
    `inlined` set (`not_export_terminates_all`); for `exportResourceV1` see `export_terminates_repaired`. -/
def export_terminates_all : Prop :=
  ∀ (T : List (Triple Nat)) (opts : Opts) (s : Term Nat), ∃ fuel, ((build T).exportResource opts fuel s).isSome

theorem not_export_terminates_all : ¬ export_terminates_all := by
  intro h
  obtain ⟨fuel, hf⟩ := h selfLoop ⟨true, true⟩ (Term.bnode 0)
  rw [export_diverges_witness true fuel] at hf
  cases hf

/-! ## one graph -/

/-- C17 for one graph, all four option combinations, every iteration order `ord` of the subject map and
    every state `n` of the blank node factory: the export terminates and the flattening of the exported
    resources is isomorphic to the input — a blank-node renaming that is an injective function maps
    the input onto the output as a multiset (nothing dropped, nothing duplicated, no two nodes merged,
    none split). Hypothesis: `Acyclic1 T` when `Inline` is set. -/
theorem flatten_export_partial (T : List (Triple β)) (opts : Opts) (ord : List (Term β))
    (hord : ord.Perm (build T).subjects) (h : opts.inline = true → Acyclic1 T) (n : Nat) :
    ∃ rs, (build T).exportResources opts ord (T.length + 1) = some rs ∧ Iso (newTriplesList rs n).1 T :=
  Proofs.C17.flatten_export T opts ord hord h n

/-- The full statement of C17 for one graph (no shape hypothesis). FALSE for `exportResources`, the export
    without the `inlined` set (`not_flatten_export_all`); for `exportResourcesV` it is `flatten_export_repaired`. -/
def flatten_export_all : Prop :=
  ∀ (T : List (Triple Nat)) (opts : Opts) (ord : List (Term Nat)), ord.Perm (build T).subjects → ∀ n,
    ∃ rs, (build T).exportResources opts ord (T.length + 1) = some rs ∧ Iso (newTriplesList rs n).1 T

/-- the witness `{_:a p _:c . _:c p _:a}` -/
def twoCycle : List (Triple Nat) := [⟨Term.bnode 0, [112], Term.bnode 1⟩, ⟨Term.bnode 1, [112], Term.bnode 0⟩]

/-- With `Inline`, `ExportResources` yields nothing at all for the two-node cycle, whatever the iteration
    order and the depth bound: both triples are dropped. -/
theorem two_cycle_dropped (useAnon : Bool) (ord : List (Term Nat)) (hord : ord.Perm (build twoCycle).subjects)
    (fuel : Nat) : (build twoCycle).exportResources ⟨useAnon, true⟩ ord fuel = some [] := by
  have h : ∀ s ∈ (build twoCycle).subjects, (build twoCycle).isInl ⟨useAnon, true⟩ s = true := by
    cases useAnon <;> decide
  have hroots : (build twoCycle).roots ⟨useAnon, true⟩ ord = [] :=
    List.filter_eq_nil_iff.2 fun s hs => by simp [h s (hord.mem_iff.1 hs)]
  unfold Builder.exportResources
  rw [hroots]
  rfl

theorem not_flatten_export_all : ¬ flatten_export_all := by
  intro h
  obtain ⟨rs, hrs, σ, _, hp⟩ := h twoCycle ⟨true, true⟩ _ (List.Perm.refl _) 0
  rw [two_cycle_dropped true _ (List.Perm.refl _)] at hrs
  cases hrs
  have := hp.length_eq
  simp [newTriplesList, twoCycle] at this

/-! ## datasets -/

/-- C17 for datasets (one builder per graph name): for every iteration order of the graph map (`gord`)
    and of each graph's subject map (`sord`), the flattened export is isomorphic to the input quads
    (graph names renamed by the same `σ`). Hypotheses: `Acyclic1` per graph when `Inline` is set, and
    no blank node that one graph's export anonymizes occurs in another graph or as a graph name. -/
theorem dataset_flatten_export_partial (Q : List (DQuad β)) (opts : Opts) (gord : List (Option (Term β)))
    (sord : Option (Term β) → List (Term β))
    (hg : gord.Perm (dbuild Q).graphNames)
    (hs : ∀ g ∈ gord, (sord g).Perm ((dbuild Q).builder g).subjects)
    (hac : opts.inline = true → ∀ g, Acyclic1 (graphTriples Q g))
    (hsh : NoSharedAnonymized Q opts) (n : Nat) :
    ∃ rs, (dbuild Q).exportResources opts gord sord (Q.length + 1) = some rs ∧
      IsoQ (newQuadsList rs n).1 Q :=
  Proofs.C17.dataset_flatten_export Q opts gord sord hg hs hac hsh n

/-- The dataset statement without the cross-graph hypothesis. FALSE (`not_dataset_flatten_export_all`), and for the
    export with the `inlined` set as well (`not_dataset_flatten_export_all_repaired`). -/
def dataset_flatten_export_all : Prop :=
  ∀ (Q : List (DQuad Nat)) (opts : Opts) (gord : List (Option (Term Nat))) (sord : Option (Term Nat) → List (Term Nat)),
    gord.Perm (dbuild Q).graphNames → (∀ g ∈ gord, (sord g).Perm ((dbuild Q).builder g).subjects) →
    (opts.inline = true → ∀ g, Acyclic1 (graphTriples Q g)) → ∀ n,
    ∃ rs, (dbuild Q).exportResources opts gord sord (Q.length + 1) = some rs ∧ IsoQ (newQuadsList rs n).1 Q

/-- the witness: `<1> p _:b .` in the default graph, `_:b p <2> .` in graph `<9>` -/
def crossGraph : List (DQuad Nat) :=
  [⟨⟨Term.iri [1], [112], Term.bnode 0⟩, none⟩, ⟨⟨Term.bnode 0, [112], Term.iri [2]⟩, some (Term.iri [9])⟩]

/-- what the dataset export of `crossGraph` flattens to (default options, insertion order): `_:b` has
    become two different fresh nodes -/
theorem cross_graph_split :
    ((dbuild crossGraph).exportResources Opts.default (dbuild crossGraph).graphNames
        (fun g => ((dbuild crossGraph).builder g).subjects) 3).map (fun rs => (newQuadsList rs 0).1) =
      some [⟨⟨Term.iri [1], [112], Term.bnode (BN.fresh 0)⟩, none⟩,
            ⟨⟨Term.bnode (BN.fresh 1), [112], Term.iri [2]⟩, some (Term.iri [9])⟩] := by
  decide

/-- an export of `crossGraph` that flattens to the split form is not isomorphic to it -/
theorem cross_graph_split_not_iso {res : Option (List (DResource Nat))} {rs : List (DResource Nat)}
    (hsplit : res.map (fun rs => (newQuadsList rs 0).1) =
      some [⟨⟨Term.iri [1], [112], Term.bnode (BN.fresh 0)⟩, none⟩,
            ⟨⟨Term.bnode (BN.fresh 1), [112], Term.iri [2]⟩, some (Term.iri [9])⟩])
    (hrs : res = some rs) : ¬ IsoQ (newQuadsList rs 0).1 crossGraph := by
  subst hrs
  rw [Option.map_some, Option.some.injEq] at hsplit
  rw [hsplit]
  rintro ⟨σ, _, hp⟩
  have h1 := hp.mem_iff (a := ⟨⟨Term.iri [1], [112], Term.bnode (BN.fresh 0)⟩, none⟩)
  have h2 := hp.mem_iff (a := ⟨⟨Term.bnode (BN.fresh 1), [112], Term.iri [2]⟩, some (Term.iri [9])⟩)
  simp [crossGraph, DQuad.map, Triple.map, Term.map] at h1 h2
  rw [← h1] at h2
  cases h2

theorem not_dataset_flatten_export_all : ¬ dataset_flatten_export_all := by
  intro h
  obtain ⟨rs, hrs, hiso⟩ := h crossGraph Opts.default (dbuild crossGraph).graphNames
    (fun g => ((dbuild crossGraph).builder g).subjects) (List.Perm.refl _) (fun _ _ => List.Perm.refl _)
    (fun _ g => by
      by_cases h1 : g = none
      · subst h1; decide
      · by_cases h2 : g = some (Term.iri [9])
        · subst h2; decide
        · have h3 : graphTriples crossGraph g = [] := by
            simp [graphTriples, crossGraph, Ne.symm h1, Ne.symm h2]
          rw [h3]; intro t ht; cases ht) 0
  exact cross_graph_split_not_iso cross_graph_split hrs hiso

/-! ## the export after patch `fix-c17-export-cycles` (model functions with suffix `V`)

  The repaired Go code keeps a set of the blank nodes it has described and makes a second pass over the
  subject map. For it the single-graph property holds at FULL strength — no shape hypothesis — and the
  export always terminates. The cross-graph defect of the dataset builder is untouched by the patch. -/

/-- Repaired code: `ExportResource(s, opts)` returns for every input, every `s`, within depth `|T|+1`. -/
theorem export_terminates_repaired (T : List (Triple β)) (opts : Opts) (s : Term β) :
    ((build T).exportResourceV1 opts (T.length + 1) s).isSome := by
  unfold Builder.exportResourceV1 Builder.exportResourceV
  rw [Option.isSome_map, Option.isSome_map]
  exact Proofs.C17.exportV_isSome T opts (T.length + 1) (Nat.le_refl _) s []

/-- Repaired code, one graph, FULL statement of C17: for every list of triples, every option value, every
    pair of iteration orders of the two loops and every state of the blank node factory, the export
    terminates and its flattening is isomorphic to the input. -/
theorem flatten_export_repaired (T : List (Triple β)) (opts : Opts) (ord1 ord2 : List (Term β))
    (hord1 : ord1.Perm (build T).subjects) (hord2 : ord2.Perm (build T).subjects) (n : Nat) :
    ∃ rs, (build T).exportResourcesV opts ord1 ord2 (T.length + 1) = some rs ∧
      Iso (newTriplesList rs n).1 T :=
  (Proofs.C17.graph_strongV T opts ord1 ord2 hord1 hord2 (T.length + 1) (Nat.le_refl _)).iso n

/-- Repaired code, datasets: only the cross-graph hypothesis remains. -/
theorem dataset_flatten_export_repaired_partial (Q : List (DQuad β)) (opts : Opts) (gord : List (Option (Term β)))
    (sord1 sord2 : Option (Term β) → List (Term β))
    (hg : gord.Perm (dbuild Q).graphNames)
    (hs1 : ∀ g ∈ gord, (sord1 g).Perm ((dbuild Q).builder g).subjects)
    (hs2 : ∀ g ∈ gord, (sord2 g).Perm ((dbuild Q).builder g).subjects)
    (hsh : NoSharedAnonymized Q opts) (n : Nat) :
    ∃ rs, (dbuild Q).exportResourcesV opts gord sord1 sord2 (Q.length + 1) = some rs ∧
      IsoQ (newQuadsList rs n).1 Q := by
  apply Proofs.C17.dataset_iso Q opts gord
    (fun g => ((dbuild Q).builder g).exportResourcesV opts (sord1 g) (sord2 g) (Q.length + 1)) hg _ hsh n
  intro g hgm
  have h1 := hs1 g hgm
  have h2 := hs2 g hgm
  rw [Proofs.C17.builder_dbuild] at h1 h2 ⊢
  exact Proofs.C17.graph_strongV (graphTriples Q g) opts (sord1 g) (sord2 g) h1 h2 (Q.length + 1)
    (by have := Proofs.C17.graphTriples_length_le Q g; omega)

/-- The dataset statement for the repaired code without the cross-graph hypothesis. Still FALSE. -/
def dataset_flatten_export_all_repaired : Prop :=
  ∀ (Q : List (DQuad Nat)) (opts : Opts) (gord : List (Option (Term Nat)))
    (sord1 sord2 : Option (Term Nat) → List (Term Nat)),
    gord.Perm (dbuild Q).graphNames → (∀ g ∈ gord, (sord1 g).Perm ((dbuild Q).builder g).subjects) →
    (∀ g ∈ gord, (sord2 g).Perm ((dbuild Q).builder g).subjects) → ∀ n,
    ∃ rs, (dbuild Q).exportResourcesV opts gord sord1 sord2 (Q.length + 1) = some rs ∧ IsoQ (newQuadsList rs n).1 Q

theorem cross_graph_split_repaired :
    ((dbuild crossGraph).exportResourcesV Opts.default (dbuild crossGraph).graphNames
        (fun g => ((dbuild crossGraph).builder g).subjects) (fun g => ((dbuild crossGraph).builder g).subjects) 3).map
        (fun rs => (newQuadsList rs 0).1) =
      some [⟨⟨Term.iri [1], [112], Term.bnode (BN.fresh 0)⟩, none⟩,
            ⟨⟨Term.bnode (BN.fresh 1), [112], Term.iri [2]⟩, some (Term.iri [9])⟩] := by
  decide

theorem not_dataset_flatten_export_all_repaired : ¬ dataset_flatten_export_all_repaired := by
  intro h
  obtain ⟨rs, hrs, hiso⟩ := h crossGraph Opts.default (dbuild crossGraph).graphNames
    (fun g => ((dbuild crossGraph).builder g).subjects) (fun g => ((dbuild crossGraph).builder g).subjects)
    (List.Perm.refl _) (fun _ _ => List.Perm.refl _) (fun _ _ => List.Perm.refl _) 0
  exact cross_graph_split_not_iso cross_graph_split_repaired hrs hiso

/-- the witnesses `twoCycle` and `selfLoop`, on the repaired export: nothing is dropped, nothing diverges -/
example : ((build twoCycle).exportResourcesV Opts.default (build twoCycle).subjects (build twoCycle).subjects 3).map
    (fun rs => (newTriplesList rs 0).1) =
    some [⟨Term.bnode (BN.fresh 0), [112], Term.bnode (BN.orig 0)⟩, ⟨Term.bnode (BN.orig 0), [112], Term.bnode (BN.fresh 0)⟩] := by
  decide
example : ((build selfLoop).exportResourceV1 Opts.default 2 (Term.bnode 0)).isSome = true := by decide

/-! ## histories on one builder (repaired export)

  Several calls on the same `ResourceListBuilder`: `Add`, complete exports, exports the consumer abandons
  after `k` resources (a `break` out of the `iter.Seq`, `ToResourceWriter` returning on a writer
  error), with any options. In the model — as in the repaired Go code, where the `inlined` set is a local
  of the iterator function — an export leaves no trace on the builder. The harness runs such histories
  on the Go code (`desc.hist`, `oracle.hist`) and compares with `Builder.run`. -/

/-- the builder after any history is the builder of the triples added, in order -/
theorem history_state (h : List (HStep β)) : Builder.empty.run h = build (addedBy h) :=
  Proofs.C17.run_eq_add h _

/-- An export depends on nothing but the triples added before it: two histories that added the same
    triples — whatever complete, abandoned or single-resource exports they contain, with whatever options,
    iteration orders and cut-off points — give the same result for every later export. -/
theorem export_independent_of_history (h h' : List (HStep β)) (hadd : addedBy h = addedBy h')
    (opts : Opts) (ord1 ord2 : List (Term β)) (fuel : Nat) (take : Option Nat) :
    (Builder.empty.run h).exportResourcesVTake opts ord1 ord2 fuel take =
      (Builder.empty.run h').exportResourcesVTake opts ord1 ord2 fuel take := by
  rw [history_state, history_state, hadd]

/-- an abandoned export hands over a prefix of what the complete export hands over -/
theorem abandoned_export_prefix (B : Builder β) (opts : Opts) (ord1 ord2 : List (Term β)) (fuel k : Nat) :
    B.exportResourcesVTake opts ord1 ord2 fuel (some k) =
      (B.exportResourcesVTake opts ord1 ord2 fuel none).map (List.take k) := by
  simp [Builder.exportResourcesVTake]

/-- FULL statement of C17 after an arbitrary history: the complete export that follows is isomorphic to
    all triples added so far. -/
theorem flatten_export_after_history (h : List (HStep β)) (opts : Opts) (ord1 ord2 : List (Term β))
    (hord1 : ord1.Perm (Builder.empty.run h).subjects) (hord2 : ord2.Perm (Builder.empty.run h).subjects)
    (n : Nat) :
    ∃ rs, (Builder.empty.run h).exportResourcesVTake opts ord1 ord2 ((addedBy h).length + 1) none = some rs ∧
      Iso (newTriplesList rs n).1 (addedBy h) := by
  rw [history_state] at hord1 hord2 ⊢
  obtain ⟨rs, hrs, hiso⟩ := flatten_export_repaired (addedBy h) opts ord1 ord2 hord1 hord2 n
  exact ⟨rs, by simp [Builder.exportResourcesVTake, hrs], hiso⟩

/-- a history with an abandoned export between two `Add`s (the shape of seeded defect C17r2-1): the
    complete export that follows yields both resources, the once-referenced `_:0` inlined -/
example : ((Builder.empty.run
      [HStep.add [⟨Term.iri [1], [112], Term.bnode 0⟩, ⟨Term.bnode 0, [112], Term.iri [2]⟩],
       HStep.exportRs Opts.default [Term.iri [1], Term.bnode 0] [Term.iri [1], Term.bnode 0] (some 0),
       HStep.add [⟨Term.iri [3], [112], Term.bnode 1⟩]]).exportResourcesVTake Opts.default
        [Term.iri [1], Term.bnode 0, Term.iri [3]] [Term.iri [1], Term.bnode 0, Term.iri [3]] 4 none).map
      (fun rs => (rs.length, (newTriplesList rs 0).1.length)) = some (2, 3) := by
  decide

/-! ## rdfdescriptionutil.NewObjectValueListStatement -/

omit [DecidableEq β] in
/-- The list statement for `v :: vs` under subject `x` flattens to the RDF collection
    `listTriples`: one fresh cell per value, `rdf:first` the value, `rdf:rest` the next cell, the last
    `rdf:rest` is `rdf:nil`, plus the link `x p firstCell`; the factory advances by the number of values. -/
theorem list_statement_flatten (x : Term (BN β)) (p : List Nat) (v : Term β) (vs : List (Term β)) (n : Nat) :
    Stmt.newTriples x (listStatement p (v :: vs)) n =
      (Proofs.C17.listTriples n v vs ++ [⟨x, p, Term.bnode (BN.fresh n)⟩], n + 1 + vs.length) := by
  simp [listStatement, Proofs.C17.newTriples_anon, Proofs.C17.listCells_flatten]

omit [DecidableEq β] in
/-- the empty list is the object `rdf:nil` -/
theorem list_statement_nil (x : Term (BN β)) (p : List Nat) (n : Nat) :
    Stmt.newTriples x (listStatement (β := β) p []) n = ([⟨x, p, Term.iri rdfNil⟩], n) := by
  simp [listStatement, Proofs.C17.newTriples_obj, Term.map]

/-! ## non-vacuity -/

/-- a graph with nesting three deep, a shared node, a node referenced once and never described, and a
    legal cycle (one of its nodes is referenced twice) satisfies `Acyclic1` -/
def sample : List (Triple Nat) :=
  [⟨Term.iri [1], [112], Term.bnode 0⟩, ⟨Term.bnode 0, [112], Term.bnode 1⟩, ⟨Term.bnode 1, [112], Term.bnode 2⟩,
   ⟨Term.bnode 2, [113], Term.lit [120] xsdString none⟩,
   ⟨Term.iri [1], [113], Term.bnode 3⟩, ⟨Term.iri [2], [113], Term.bnode 3⟩, ⟨Term.bnode 3, [112], Term.bnode 4⟩,
   ⟨Term.bnode 5, [112], Term.bnode 6⟩, ⟨Term.bnode 6, [112], Term.bnode 5⟩, ⟨Term.iri [2], [112], Term.bnode 5⟩]

example : Acyclic1 sample := by decide
example : ¬ Acyclic1 twoCycle := by decide
example : ¬ Acyclic1 selfLoop := by decide
example : Cycle1 twoCycle [0, 1] :=
  ⟨0, [1], rfl, by decide, ⟨⟨[112], by decide⟩, ⟨[112], by decide⟩, trivial⟩⟩

/-- the hypotheses of `flatten_export_partial` hold for `sample` with the default options and insertion order -/
example : ∃ rs, (build sample).exportResources Opts.default (build sample).subjects (sample.length + 1) = some rs ∧
    Iso (newTriplesList rs 0).1 sample :=
  flatten_export_partial sample Opts.default _ (List.Perm.refl _) (fun _ => by decide) 0

/-- a dataset in which a blank node is shared between two graphs without being anonymized in either
    (referenced twice in each) satisfies the cross-graph hypothesis -/
def sampleQ : List (DQuad Nat) :=
  [⟨⟨Term.iri [1], [112], Term.bnode 0⟩, none⟩, ⟨⟨Term.iri [2], [112], Term.bnode 0⟩, none⟩,
   ⟨⟨Term.iri [1], [112], Term.bnode 0⟩, some (Term.iri [9])⟩, ⟨⟨Term.iri [2], [112], Term.bnode 0⟩, some (Term.iri [9])⟩,
   ⟨⟨Term.iri [1], [112], Term.bnode 1⟩, some (Term.bnode 7)⟩, ⟨⟨Term.bnode 1, [112], Term.iri [3]⟩, some (Term.bnode 7)⟩]

example : NoSharedAnonymized sampleQ Opts.default := by decide
example : ¬ NoSharedAnonymized crossGraph Opts.default := by decide

end RdfModel.C17
