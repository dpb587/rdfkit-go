/-
  Statement layer of Turtle/TriG: locality of the scan functions (statement-layer half of C15
  `prefix_monotone_d43_partial`).  A prefix is a stream that ends: the short run is at `.eof`, the long one at any ending.  A scan-function call that is given a rune, succeeds and leaves something
  other than nothing or a lone `.` in the buffer (`Rem`) behaves identically on every extension of
  the input: same `rsNext`, same pushes, same statement, same environment, and the buffer extended
  by the same runes (`scanFn_local`).
-/
import RdfModel.Proofs.TtlDocLocal
import RdfModel.Proofs.TtlDocIter
namespace RdfModel.TtlDoc
open RdfModel

/-- the buffer is not exhausted: neither empty nor a lone (pushed-back) `.` -/
def Rem (r : List Nat) : Prop := r ≠ [] ∧ r ≠ [0x2e]

def extOut (s : List Nat) (o : Out) : Out := { o with inp := o.inp ++ s }

variable {C : Cfg}

theorem matchKw_local (s : List Nat) : ∀ (kw : List (Nat × Nat)) (rest : List Nat),
    (∀ r, matchKw kw rest = .ok r → matchKw kw (rest ++ s) = .ok (r ++ s)) ∧
    (matchKw kw rest = .mismatch → matchKw kw (rest ++ s) = .mismatch) := by
  intro kw
  induction kw with
  | nil => intro rest; simp [matchKw]
  | cons p kw ih =>
    intro rest
    obtain ⟨u, l⟩ := p
    cases rest with
    | nil => simp [matchKw]
    | cons c r =>
      simp only [List.cons_append, matchKw]
      by_cases hc : c = u ∨ c = l
      · simp only [hc, if_true]; exact ih r
      · simp [hc]

theorem iriIRIREF_local (hL : C.P.Local) (env : Env) (i v r s : List Nat)
    (h : iriIRIREF C .eof env i = .ok v r) : iriIRIREF C .eof env (i ++ s) = .ok v (r ++ s) :=
  let ⟨v', hp, hv⟩ := iriIRIREF_ok_iff.mp h
  iriIRIREF_ok_iff.mpr ⟨v', hL.iriref .eof i v' r s hp, hv⟩

theorem iriPName_local (hL : C.P.Local) (env : Env) (i v r s : List Nat)
    (h : iriPName C .eof env i = .ok v r) (hr : Rem r) : iriPName C .eof env (i ++ s) = .ok v (r ++ s) :=
  let ⟨ns, loc, hp, hv⟩ := iriPName_ok_iff.mp h
  iriPName_ok_iff.mpr ⟨ns, loc, hL.pname .eof i (ns, loc) r s hp hr, hv⟩

theorem Kind.term_local (hL : C.P.Local) (K : Kind) (env env' : Env) (i : List Nat) (t : T) (r s : List Nat)
    (h : K.term C .eof env i = .ok t r env') (hr : Rem r) : K.term C .eof env (i ++ s) = .ok t (r ++ s) env' := by
  cases K with
  | iriref =>
    obtain ⟨v, hi, ht, he⟩ := IriRes.toTerm_ok_iff.mp h
    exact IriRes.toTerm_ok_iff.mpr ⟨v, iriIRIREF_local hL env i v r s hi, ht, he⟩
  | pname =>
    obtain ⟨v, hi, ht, he⟩ := IriRes.toTerm_ok_iff.mp h
    exact IriRes.toTerm_ok_iff.mpr ⟨v, iriPName_local hL env i v r s hi hr, ht, he⟩
  | bnode =>
    obtain ⟨l, hp, ht, he⟩ := termBNode_ok_iff.mp h
    exact termBNode_ok_iff.mpr ⟨l, hL.bnode .eof i l r s hp hr, ht, he⟩

def TermRes.ext (s : List Nat) : TermRes → TermRes
  | .ok t r env => .ok t (r ++ s) env
  | x => x

/-- functions that turn a token into an outcome whose buffer is what the token left -/
structure Passes (F : TermRes → FnRes) : Prop where
  ok : ∀ t r env o, F (.ok t r env) = .ok o → o.inp = r ∧ ∀ s, F (.ok t (r ++ s) env) = .ok (extOut s o)
  other : ∀ tr o, F tr = .ok o → ∃ t r env, tr = .ok t r env

theorem passes_subjectOf (x : Ectx) : Passes (subjectOf x) where
  ok := by intro t r env o h; simp only [subjectOf, subjectTail] at h ⊢; injection h with h; subst h; exact ⟨rfl, fun s => rfl⟩
  other := by intro tr o h; cases tr <;> simp [subjectOf] at h; exact ⟨_, _, _, rfl⟩

theorem passes_labelOrSubject (x : Ectx) : Passes (labelOrSubject x) where
  ok := by intro t r env o h; simp only [labelOrSubject] at h ⊢; injection h with h; subst h; exact ⟨rfl, fun s => rfl⟩
  other := by intro tr o h; cases tr <;> simp [labelOrSubject] at h; exact ⟨_, _, _, rfl⟩

theorem passes_polOfTerm (x : Ectx) : Passes (polOfTerm x) where
  ok := by intro t r env o h; simp only [polOfTerm, polGo] at h ⊢; injection h with h; subst h; exact ⟨rfl, fun s => rfl⟩
  other := by intro tr o h; cases tr <;> simp [polOfTerm] at h; exact ⟨_, _, _, rfl⟩

theorem passes_emitOfTerm (x : Ectx) : Passes (emitOfTerm x) where
  ok := by intro t r env o h; simp only [emitOfTerm] at h ⊢; injection h with h; subst h; exact ⟨rfl, fun s => rfl⟩
  other := by intro tr o h; cases tr <;> simp [emitOfTerm] at h; exact ⟨_, _, _, rfl⟩

theorem passes_graphOfTerm (x : Ectx) : Passes (graphOfTerm x) where
  ok := by intro t r env o h; simp only [graphOfTerm] at h ⊢; injection h with h; subst h; exact ⟨rfl, fun s => rfl⟩
  other := by intro tr o h; cases tr <;> simp [graphOfTerm] at h; exact ⟨_, _, _, rfl⟩

theorem passes_local (hL : C.P.Local) {F : TermRes → FnRes} (hF : Passes F) (K : Kind) (env : Env) (i : List Nat) (o : Out)
    (s : List Nat) (h : F (K.term C .eof env i) = .ok o) (hr : Rem o.inp) : F (K.term C .eof env (i ++ s)) = .ok (extOut s o) := by
  obtain ⟨t, r, env', htr⟩ := hF.other _ _ h
  rw [htr] at h
  obtain ⟨hinp, hext⟩ := hF.ok t r env' o h
  rw [hinp] at hr
  rw [K.term_local hL env env' i t r s htr hr]; exact hext s

/-- what "local" means for a function of the input after the current rune -/
def LocalAt (s : List Nat) (F : List Nat → FnRes) (rest : List Nat) : Prop :=
  ∀ o, F rest = .ok o → Rem o.inp → F (rest ++ s) = .ok (extOut s o)

section -- the statement binds `hmk`, which it does not use
set_option linter.unusedVariables false

theorem localAt_const {s : List Nat} {rest : List Nat} (mk : List Nat → Out) (hmk : ∀ r, (mk r).inp = r)
    (hext : ∀ r, mk (r ++ s) = extOut s (mk r)) (f : List Nat → List Nat) (hf : f (rest ++ s) = f rest ++ s) :
    LocalAt s (fun r => .ok (mk (f r))) rest := by
  intro o h _
  simp only [] at h ⊢
  injection h with h; subst h
  rw [hf, hext]

end

theorem localAt_ok {s rest : List Nat} (mk : List Nat → Out)
    (hext : ∀ r, mk (r ++ s) = extOut s (mk r) := by intro; rfl) : LocalAt s (fun r => .ok (mk r)) rest :=
  fun o h _ => by injection h with h; subst h; exact congrArg FnRes.ok (hext rest)

/-- A test that does not look at the rest of the buffer.  (The instance may mention it: after `Arg.orNul` is
    unfolded it does.) -/
theorem LocalAt.ite {s rest : List Nat} {p : Prop} {d : List Nat → Decidable p} {F G : List Nat → FnRes}
    (hF : p → LocalAt s F rest) (hG : ¬ p → LocalAt s G rest) :
    LocalAt s (fun r => @_root_.ite _ p (d r) (F r) (G r)) rest := by
  by_cases hp : p
  · simp only [if_pos hp]; exact hF hp
  · simp only [if_neg hp]; exact hG hp

theorem LocalAt.err {s rest : List Nat} {k : EClass} : LocalAt s (fun _ => .err k) rest :=
  fun _ h => nomatch h

theorem kwFallback_local (hL : C.P.Local) (x : Ectx) (env : Env) (c : Nat) (rest s : List Nat) :
    LocalAt s (fun r => kwFallback C .eof x env (c :: r)) rest := by
  simp only [kwFallback]
  exact .ite (fun _ o h hr => passes_local hL (passes_labelOrSubject x) .pname env (c :: rest) o s h hr) fun _ =>
    localAt_ok _

theorem stepAtDirective_local (x : Ectx) (env : Env) (rest s : List Nat) :
    LocalAt s (stepAtDirective .eof x env) rest := by
  intro o h _
  cases rest with
  | nil => simp [stepAtDirective] at h
  | cons r1 rest1 =>
    simp only [List.cons_append, stepAtDirective] at h ⊢
    by_cases h1 : r1 = 0x62
    · rw [if_pos h1] at h ⊢
      cases hm : matchKw (kwExact "ase") rest1 with
      | eoi => rw [hm] at h; cases h
      | mismatch => rw [hm] at h; cases h
      | ok r =>
        rw [hm] at h; simp only [] at h
        rw [(matchKw_local s _ _).1 r hm]; simp only []
        injection h with h; subst h; rfl
    · rw [if_neg h1] at h ⊢
      by_cases h2 : r1 = 0x70
      · rw [if_pos h2] at h ⊢
        cases hm : matchKw (kwExact "refix") rest1 with
        | eoi => rw [hm] at h; cases h
        | mismatch => rw [hm] at h; cases h
        | ok r =>
          rw [hm] at h; simp only [] at h
          rw [(matchKw_local s _ _).1 r hm]; simp only []
          injection h with h; subst h; rfl
      · rw [if_neg h2] at h; cases h

theorem stepKwBase_local (hL : C.P.Local) (x : Ectx) (env : Env) (c : Nat) (rest s : List Nat) :
    LocalAt s (stepKwBase C .eof x env c) rest := by
  intro o h hr
  simp only [stepKwBase] at h ⊢
  cases hm : matchKw (kwCI "ASE") rest with
  | eoi => rw [hm] at h; cases h
  | mismatch =>
    rw [hm] at h; simp only [] at h
    rw [(matchKw_local s _ _).2 hm]; simp only []
    exact kwFallback_local hL x env c rest s o h hr
  | ok r =>
    rw [hm] at h; simp only [] at h
    rw [(matchKw_local s _ _).1 r hm]; simp only []
    cases r with
    | nil => simp at h
    | cons r4 rest4 =>
      simp only [List.cons_append] at h ⊢
      by_cases h1 : r4 = 0x3c
      · rw [if_pos h1] at h ⊢; injection h with h; subst h; rfl
      · rw [if_neg h1] at h ⊢
        by_cases h2 : (!C.isSpace r4) = true
        · rw [if_pos h2] at h ⊢; exact kwFallback_local hL x env c rest s o h hr
        · rw [if_neg h2] at h ⊢; injection h with h; subst h; rfl

theorem stepKwSpace_local (hL : C.P.Local) (x : Ectx) (env : Env) (kw : List (Nat × Nat)) (k : Cont) (c : Nat)
    (rest s : List Nat) : LocalAt s (stepKwSpace C .eof x env kw k c) rest := by
  intro o h hr
  simp only [stepKwSpace] at h ⊢
  cases hm : matchKw kw rest with
  | eoi => rw [hm] at h; cases h
  | mismatch =>
    rw [hm] at h; simp only [] at h
    rw [(matchKw_local s _ _).2 hm]; simp only []
    exact kwFallback_local hL x env c rest s o h hr
  | ok r =>
    rw [hm] at h; simp only [] at h
    rw [(matchKw_local s _ _).1 r hm]; simp only []
    cases r with
    | nil => simp at h
    | cons r6 rest6 =>
      simp only [List.cons_append] at h ⊢
      by_cases h2 : (!C.isSpace r6) = true
      · rw [if_pos h2] at h ⊢; exact kwFallback_local hL x env c rest s o h hr
      · rw [if_neg h2] at h ⊢; injection h with h; subst h; rfl

theorem stepSubjectStart_local (hL : C.P.Local) (x : Ectx) (env : Env) (c : Nat) (rest s : List Nat) :
    LocalAt s (stepSubjectStart C .eof x env c) rest :=
  stepSubjectStart_cases x env c (motive := fun F => LocalAt s F rest)
    (err := fun _ _ h => nomatch h)
    (label := fun _ K o h hr => passes_local hL (passes_labelOrSubject x) K env (c :: rest) o s h hr)
    (token := fun _ _ => localAt_ok _)
    (bracketG := fun _ _ => localAt_ok _)
    (bracket := fun _ _ => localAt_ok _)
    (paren := fun _ => localAt_ok _)

theorem stepStatementRune_local (hL : C.P.Local) (x : Ectx) (env : Env) (c : Nat) (rest s : List Nat) :
    LocalAt s (stepStatementRune C .eof x env c) rest :=
  stepStatementRune_cases x env c (motive := fun F => LocalAt s F rest)
    (at_ := fun _ => stepAtDirective_local x env rest s)
    (base := fun _ => stepKwBase_local hL x env c rest s)
    (pfx := fun _ => stepKwSpace_local hL x env _ _ c rest s)
    (graph := fun _ _ => stepKwSpace_local hL x env _ _ c rest s)
    (brace := fun _ _ => by simp only [stepWrappedGraph]; exact .ite (fun _ => .err) fun _ => localAt_ok _)
    (subject := stepSubjectStart_local hL x env c rest s)

theorem stepPOL_local (hL : C.P.Local) (x : Ectx) (env : Env) (c : Nat) (rest s : List Nat) :
    LocalAt s (stepPOL C .eof x env c) rest := by
  have hterm : ∀ K : Kind, LocalAt s (fun r => polOfTerm x (K.term C .eof env (c :: r))) rest :=
    fun K o h hr => passes_local hL (passes_polOfTerm x) K env (c :: rest) o s h hr
  show LocalAt s (fun r => stepPOL C .eof x env c r) rest
  simp only [stepPOL]
  refine .ite (fun _ => hterm .iriref) fun _ => .ite (fun _ => ?a) fun _ => .ite (fun _ => hterm .pname) fun _ =>
    localAt_ok _
  intro o h hr
  cases rest with
  | nil => simp at h
  | cons r1 rest1 =>
    simp only [List.cons_append] at h ⊢
    by_cases h3 : (!C.isSpace r1) = true
    · rw [if_pos h3] at h ⊢; exact hterm .pname o h hr
    · rw [if_neg h3] at h ⊢; simp only [polGo] at h ⊢; injection h with h; subst h; rfl

theorem stepLiteralTail_local (hL : C.P.Local) (x : Ectx) (env : Env) (lex rest s : List Nat) :
    LocalAt s (stepLiteralTail C .eof x env lex) rest := by
  intro o h hr
  cases rest with
  | nil => simp [stepLiteralTail] at h
  | cons c rest0 =>
    simp only [List.cons_append, stepLiteralTail] at h ⊢
    by_cases h1 : c = 0x40
    · rw [if_pos h1] at h ⊢
      cases hp : C.P.langtag .eof (c :: rest0) with
      | panic => rw [hp] at h; cases h
      | err k => rw [hp] at h; cases h
      | ok tag r =>
        rw [hp] at h; simp only [] at h
        injection h with h; subst h
        have := hL.langtag .eof (c :: rest0) tag r s hp hr.1
        rw [List.cons_append] at this
        rw [this]; rfl
    · rw [if_neg h1] at h ⊢
      by_cases h2 : c = 0x5e
      · rw [if_pos h2] at h ⊢
        cases rest0 with
        | nil => simp at h
        | cons c1 rest1 =>
          simp only [List.cons_append] at h ⊢
          by_cases h3 : c1 ≠ 0x5e
          · rw [if_pos h3] at h; cases h
          · rw [if_neg h3] at h ⊢
            cases rest1 with
            | nil => simp at h
            | cons c2 rest2 =>
              simp only [List.cons_append] at h ⊢
              by_cases h4 : c2 = 0x3c
              · simp only [h4, if_true] at h ⊢
                cases hi : iriIRIREF C .eof env (0x3c :: rest2) with
                | panic => rw [hi] at h; cases h
                | err k => rw [hi] at h; cases h
                | ok dt r =>
                  rw [hi] at h; simp only [] at h
                  have := iriIRIREF_local hL env (0x3c :: rest2) dt r s hi
                  rw [List.cons_append] at this
                  rw [this]; simp only []
                  split at h
                  · cases h
                  · next hd => rw [if_neg hd]; injection h with h; subst h; rfl
              · simp only [h4, if_false] at h ⊢
                cases hi : iriPName C .eof env (c2 :: rest2) with
                | panic => rw [hi] at h; cases h
                | err k => rw [hi] at h; cases h
                | ok dt r =>
                  rw [hi] at h; simp only [] at h
                  split at h
                  · cases h
                  · next hd =>
                    injection h with h; subst h
                    have := iriPName_local hL env (c2 :: rest2) dt r s hi hr
                    rw [List.cons_append] at this
                    rw [this]; simp only []
                    rw [if_neg hd]; rfl
      · rw [if_neg h2] at h ⊢; injection h with h; subst h; rfl

theorem emitOfNumeric_local (x : Ectx) (env : Env) (res : Ttl.Res (Ttl.NumKind × List Nat)) (o : Out)
    (h : emitOfNumeric x env res = .ok o) :
    ∃ v r, res = .ok v r ∧ o.inp = r ∧ ∀ s, emitOfNumeric x env (.ok v (r ++ s)) = .ok (extOut s o) := by
  cases res with
  | panic => cases h
  | err k => cases h
  | ok v r =>
    obtain ⟨kind, lex⟩ := v
    simp only [emitOfNumeric] at h
    injection h with h; subst h
    exact ⟨_, _, rfl, rfl, fun s => rfl⟩

theorem stepObject_local (hL : C.P.Local) (x : Ectx) (env : Env) (c : Nat) (rest s : List Nat) :
    LocalAt s (stepObject C .eof x env c) rest := by
  have hterm : ∀ K : Kind, LocalAt s (fun r => emitOfTerm x (K.term C .eof env (c :: r))) rest :=
    fun K o h hr => passes_local hL (passes_emitOfTerm x) K env (c :: rest) o s h hr
  have hnum : LocalAt s (fun r => emitOfNumeric x env (C.P.numeric .eof (c :: r))) rest := by
    intro o h hr
    obtain ⟨v, r, h1, h2, h3⟩ := emitOfNumeric_local x env _ o h
    rw [h2] at hr
    have := hL.numeric .eof (c :: rest) v r s h1 hr
    rw [List.cons_append] at this
    simp only [this]; exact h3 s
  show LocalAt s (fun r => stepObject C .eof x env c r) rest
  simp only [stepObject]
  refine .ite (fun _ => hterm .iriref) fun _ => .ite (fun _ => hterm .bnode) fun _ =>
    .ite (fun _ => localAt_ok _) fun _ => .ite (fun _ => localAt_ok _) fun _ =>
    .ite (fun _ => ?string) fun _ => .ite (fun _ => .ite (fun _ => ?dot) fun _ => hnum) fun _ =>
    .ite (fun _ => ?boolean) fun _ => .ite (fun _ => localAt_ok _) fun _ => .err
  case string =>
    intro o h hr
    simp only [] at h ⊢
    cases hp : C.P.string .eof (c :: rest) with
    | panic => rw [hp] at h; cases h
    | err k => rw [hp] at h; cases h
    | ok lex r =>
      rw [hp] at h; simp only [] at h
      have hne : r ≠ [] := by
        intro hr'; subst hr'; simp [stepLiteralTail] at h
      have := hL.string .eof (c :: rest) lex r s hp hne
      rw [List.cons_append] at this
      rw [this]; simp only []
      exact stepLiteralTail_local hL x env lex r s o h hr
  case dot =>
    intro o h hr
    cases rest with
    | nil => simp at h
    | cons r1 rest1 =>
      simp only [List.cons_append] at h ⊢
      by_cases h8 : r1 < 0x30 ∨ r1 > 0x39
      · rw [if_pos h8] at h; cases h
      · rw [if_neg h8] at h ⊢; exact hnum o h hr
  case boolean =>
    intro o h hr
    simp only [] at h ⊢
    have hb := hL.boolean .eof (c :: rest) s
    rw [List.cons_append] at hb
    cases hp : C.P.boolean .eof (c :: rest) with
    | err k => rw [hp] at h; cases h
    | other =>
      rw [hp] at h; simp only [] at h
      rw [hb.2 hp]; simp only []
      injection h with h; subst h; rfl
    | bool b r =>
      rw [hp] at h; simp only [] at h
      rw [hb.1 b r hp]; simp only []
      injection h with h; subst h; rfl

theorem stepTriples_local (x : Ectx) (env : Env) (c : Nat) (rest s : List Nat) :
    LocalAt s (stepTriples C x env c) rest :=
  stepTriples_cases x env c (motive := fun F => LocalAt s F rest)
    (err := fun _ _ h => nomatch h)
    (token := fun _ => localAt_ok _)
    (bracket := fun _ _ _ => localAt_ok _)
    (paren := fun _ => localAt_ok _)

theorem stepCollection_local (x : Ectx) (env : Env) (c : Nat) (o' : T) (rest s : List Nat) :
    LocalAt s (fun r => stepCollection x env c r o') rest := by
  simp only [stepCollection]
  refine .ite (fun _ => localAt_ok _) fun _ => ?_
  cases x.subj <;> exact localAt_ok _

theorem stepParen_local (top : Bool) (x : Ectx) (env : Env) (bn : T) (c : Nat) (rest s : List Nat) :
    LocalAt s (fun r => stepParen top x env bn (.rune c r)) rest := by
  simp only [stepParen, Arg.orNul]
  exact .ite (fun _ => localAt_ok _) fun _ => localAt_ok _

theorem withSelf_local (x : Ectx) {s : List Nat} {F : List Nat → FnRes} {rest : List Nat} (hF : LocalAt s F rest) :
    LocalAt s (fun r => withSelf x (F r)) rest := by
  intro o h hr
  simp only [] at h ⊢
  cases hf : F rest with
  | panic => rw [hf] at h; cases h
  | err k => rw [hf] at h; cases h
  | ok o' =>
    rw [hf] at h; simp only [withSelf] at h
    injection h with h; subst h
    rw [hF o' hf hr]; rfl

/-- closures that only compare the rune and pass the rest of the buffer on: every branch of the first run is an
    error (nothing to show) or a literal answer, and the second run takes the same branch because the tests look at
    the rune only -/
macro "simple_local" : tactic =>
  `(tactic| (intro o h _
             simp only [stepFn, Arg.orNul, stepWrappedGraph] at h ⊢
             repeat' split at h
             all_goals first
               | (cases h; done)
               | (injection h with h; subst h
                  simp only [*, ↓reduceIte, ne_eq, not_true_eq_false, not_false_eq_true]
                  first | rfl | (split <;> first | rfl | contradiction))))

theorem stepFn_local (hL : C.P.Local) (k : Cont) (x : Ectx) (env : Env) (c : Nat) (rest s : List Nat) :
    LocalAt s (fun r => stepFn C .eof k x env (.rune c r)) rest := by
  cases k with
  | statement =>
    simp only [stepFn]
    exact withSelf_local x (stepStatementRune_local hL x env c rest s)
  | atBaseIRI | sparqlBaseIRI | atPrefixIRI ns | sparqlPrefixIRI ns =>
    intro o h hr
    simp only [stepFn] at h ⊢
    cases hp : C.P.iriref .eof (c :: rest) with
    | panic => rw [hp] at h; cases h
    | err k => rw [hp] at h; cases h
    | ok v r =>
      rw [hp] at h; simp only [] at h
      have := hL.iriref .eof (c :: rest) v r s hp
      rw [List.cons_append] at this
      rw [this]; simp only []
      cases hr' : resolveURL C env v with
      | none => rw [hr'] at h; cases h
      | some b => rw [hr'] at h; injection h with h; subst h; rfl
  | atPrefixNS | sparqlPrefixNS =>
    intro o h hr
    simp only [stepFn] at h ⊢
    cases hp : C.P.pnameNS .eof (c :: rest) with
    | panic => rw [hp] at h; cases h
    | err k => rw [hp] at h; cases h
    | ok v r =>
      rw [hp] at h; simp only [] at h
      have := hL.pnameNS .eof (c :: rest) v r s hp
      rw [List.cons_append] at this
      rw [this]; simp only []
      injection h with h; subst h; rfl
  | atBaseDot b | atPrefixDot ns b | subjAnonOrBNPL | triplesEnd | polContinue | objListContinue | collContinue | bnplEnd
  | wrappedGraph | wrappedGraphEnd | triplesBlock | triplesBlockQuest | triples2BNPL => simple_local
  | subjIRIREF =>
    intro o h hr
    exact passes_local hL (passes_subjectOf x) .iriref env (c :: rest) o s h hr
  | subjPName =>
    intro o h hr
    exact passes_local hL (passes_subjectOf x) .pname env (c :: rest) o s h hr
  | subjBNode =>
    intro o h hr
    exact passes_local hL (passes_subjectOf x) .bnode env (c :: rest) o s h hr
  | pol => simp only [stepFn]; exact stepPOL_local hL x env c rest s
  | polRequired =>
    intro o h hr
    simp only [stepFn] at h ⊢
    cases hp : stepPOL C .eof x env c rest with
    | panic => rw [hp] at h; cases h
    | err k => rw [hp] at h; cases h
    | ok o' =>
      rw [hp] at h; simp only [] at h
      split at h
      · cases h
      · next hc =>
        injection h with h; subst h
        rw [stepPOL_local hL x env c rest s o' hp hr]; simp only []
        rw [if_neg (by simpa [extOut] using hc)]
  | object => simp only [stepFn]; exact stepObject_local hL x env c rest s
  | objectPName =>
    intro o h hr
    exact passes_local hL (passes_emitOfTerm x) .pname env (c :: rest) o s h hr
  | collOpenObj => simp only [stepFn]; exact stepCollection_local x _ c _ rest s
  | collOpenSubj o' => simp only [stepFn, Arg.orNul]; exact stepCollection_local x _ c _ rest s
  | parenTop bn => simp only [stepFn]; exact stepParen_local true x env bn c rest s
  | parenBlock bn => simp only [stepFn]; exact stepParen_local false x env bn c rest s
  | graphLabel =>
    exact graphLabel_cases x env c (motive := fun F => LocalAt s F rest) (fun _ => localAt_ok _)
      fun K o h hr => passes_local hL (passes_graphOfTerm x) K env (c :: rest) o s h hr
  | graphAnonClose =>
    simp only [stepFn, Arg.orNul]
    exact .ite (fun _ => .err) fun _ => localAt_ok _
  | triples => simp only [stepFn]; exact stepTriples_local x env c rest s
  | tgE1 v =>
    simp only [stepFn, Arg.orNul]
    refine .ite (fun _ => localAt_ok _) fun _ => ?_
    cases v with
    | lit lex dt lang => exact fun _ h => nomatch h
    | iri i => exact localAt_ok _
    | bnode b => exact localAt_ok _
  | tgBracket bn =>
    simp only [stepFn, Arg.orNul]
    exact .ite (fun _ => localAt_ok _) fun _ => localAt_ok _

theorem skipWs_local (C : Cfg) (s : List Nat) : ∀ (b : Bool) (i : List Nat) (c : Nat) (rest : List Nat),
    skipWs C .eof b i = .rune c rest → skipWs C .eof b (i ++ s) = .rune c (rest ++ s) := by
  intro b i
  induction i generalizing b with
  | nil => intro c rest h; cases b <;> simp [skipWs] at h
  | cons a r ih =>
    intro c rest h
    cases b with
    | true =>
      simp only [List.cons_append, skipWs] at h ⊢
      split at h
      · next h1 => rw [if_pos h1]; exact ih _ _ _ h
      · next h1 => rw [if_neg h1]; exact ih _ _ _ h
    | false =>
      simp only [List.cons_append, skipWs] at h ⊢
      split at h
      · next h1 => rw [if_pos h1]; exact ih _ _ _ h
      · next h1 =>
        rw [if_neg h1]
        split at h
        · next h2 => rw [if_pos h2]; exact ih _ _ _ h
        · next h2 =>
          rw [if_neg h2]
          injection h with q1 q2; subst q1; subst q2; rfl

theorem scanFn_local (hL : C.P.Local) (f : Frame) (i : List Nat) (env : Env) (o : Out) (s : List Nat)
    (hne : skipWs C .eof false i ≠ .end_) (h : scanFn C .eof f i env = .ok o) (hr : Rem o.inp) :
    scanFn C .eof f (i ++ s) env = .ok (extOut s o) := by
  unfold scanFn at h ⊢
  cases hs : skipWs C .eof false i with
  | commentIo => rw [hs] at h; cases h
  | end_ => exact absurd hs hne
  | rune c rest =>
    rw [hs] at h; simp only [] at h
    rw [skipWs_local C s _ _ _ _ hs]; simp only []
    exact stepFn_local hL f.k f.x env c rest s o h hr

def St.ext (s : List Nat) (st : St) : St := { st with inp := st.inp ++ s }

theorem applyOut_ext (s : List Nat) (st : St) (o : Out) :
    applyOut (st.ext s) (extOut s o) = (applyOut st o).ext s := by
  cases ht : o.term <;> simp [applyOut, St.ext, extOut, ht]

theorem iter_local (hL : C.P.Local) (cur : Option Frame) (st : St) (s : List Nat) :
    (∀ r, iter C .eof cur st = .done (.yes r) → iter C .eof cur (st.ext s) = .done (.yes (r.ext s))) ∧
    (∀ c2 st2, iter C .eof cur st = .cont c2 st2 → st2.err = none → skipWs C .eof false st.inp ≠ .end_ → Rem st2.inp →
      iter C .eof cur (st.ext s) = .cont c2 (st2.ext s)) := by
  constructor
  · intro r h
    obtain ⟨_, h'⟩ | ⟨herr, hne, h'⟩ | ⟨_, _, _, h'⟩ | ⟨_, _, _, _, _, _, h'⟩ := iter_done_iff.1 h <;> cases h'
    exact iter_done_iff.2 (.inr (.inl ⟨herr, hne, by cases cur <;> rfl⟩))
  · intro c2 st2 h herr2 hne hrem
    obtain ⟨herr, hst, f, st1, hp, ⟨k, _, _, rfl⟩ | ⟨o, hsc, rfl, rfl⟩⟩ := iter_cont_iff.1 h
    · cases herr2
    obtain ⟨t, hfr, rfl⟩ := popFrame_iff.1 hp
    exact iter_cont_iff.2 ⟨herr, hst, f, _, popFrame_iff.2 ⟨t, hfr, rfl⟩, .inr ⟨extOut s o,
      scanFn_local hL f _ _ o s hne hsc (by simpa [applyOut] using hrem), rfl, (applyOut_ext ..).symm⟩⟩

/-- `Next()` of the run on the prefix answers `true` (state `a'`) and every scan-function call on the
    way was handed a rune and did not exhaust the buffer -/
inductive LocalYes (C : Cfg) : Option Frame → St → St → Prop where
  | done {cur a a'} : iter C .eof cur a = .done (.yes a') → LocalYes C cur a a'
  | step {cur a c2 a2 a'} : iter C .eof cur a = .cont c2 a2 → a2.err = none →
      skipWs C .eof false a.inp ≠ .end_ → Rem a2.inp → LocalYes C c2 a2 a' → LocalYes C cur a a'

theorem localYes_ext (hL : C.P.Local) (s : List Nat) {cur : Option Frame} {a a' : St} (h : LocalYes C cur a a') :
    Reach C .eof cur (a.ext s) (.yes (a'.ext s)) := by
  induction h with
  | done hi => exact .done ((iter_local hL _ _ s).1 _ hi)
  | step hi herr hne hrem _ ih => exact .step ((iter_local hL _ _ s).2 _ _ hi herr hne hrem) ih

/-- the statements yielded by the leading `Next()` calls of the run on the prefix that are local -/
inductive Common (C : Cfg) : St → List Stmt → Prop where
  | nil {a} : Common C a []
  | cons {a a' x rest l} : LocalYes C none a.dropFirst a' → a'.stmts = x :: rest → Common C a' l → Common C a (x :: l)

theorem common_prefix (hL : C.P.Local) (s : List Nat) {a : St} {lc : List Stmt} (h : Common C a lc) :
    ∀ n lf v, runLoop C .eof n (a.ext s) = (lf, v) → v ≠ .outOfFuel → lc <+: lf := by
  induction h with
  | nil => intro n lf v _ _; exact List.nil_prefix
  | @cons a a' x rest l hy hst _ ih =>
    intro n lf v hrun hv
    cases n with
    | zero => simp [runLoop] at hrun; exact absurd hrun.2.symm hv
    | succ n =>
      rcases next_of_reach (a := a.ext s) (localYes_ext hL s hy) with hn | hn
      · rw [runLoop_yes hn (show (a'.ext s).stmts = x :: rest from hst), Prod.mk.injEq] at hrun
        obtain ⟨rfl, hv'⟩ := hrun
        exact List.cons_prefix_cons.mpr ⟨rfl, ih n _ _ rfl (hv' ▸ hv)⟩
      · rw [runLoop, hn, Prod.mk.injEq] at hrun
        exact absurd hrun.2.symm hv

theorem St.ext_nil (a : St) : a.ext [] = a := by cases a; simp [St.ext]

theorem prefix_lockstep (hC : C.P.Consumes) (hL : C.P.Local) (base : Option (List Nat)) (pf : List (List Nat × List Nat))
    (p s : List Nat) (lc : List Stmt) (h : Common C (init base pf p) lc) :
    lc <+: (run C .eof base pf p).1 ∧ lc <+: (run C .eof base pf (p ++ s)).1 := by
  constructor
  · have := common_prefix hL [] h ((init base pf p).cost + 1) (run C .eof base pf p).1 (run C .eof base pf p).2
      (by rw [St.ext_nil]; rfl) (runLoop_fuel hC _ _ (Nat.lt_succ_self _))
    exact this
  · exact common_prefix hL s h ((init base pf (p ++ s)).cost + 1) (run C .eof base pf (p ++ s)).1
      (run C .eof base pf (p ++ s)).2 rfl (runLoop_fuel hC _ _ (Nat.lt_succ_self _))

def Skip.isEnd : Skip → Bool
  | .end_ => true
  | _ => false

def remB (r : List Nat) : Bool := !(r.isEmpty) && !(r == [0x2e])

theorem rem_of_remB (r : List Nat) : remB r = true → Rem r := by
  intro h
  simp only [remB, Bool.and_eq_true, Bool.not_eq_true', beq_eq_false_iff_ne, ne_eq] at h
  refine ⟨?_, h.2⟩
  intro hr; subst hr; simp at h

def localNext (C : Cfg) : Nat → Option Frame → St → Option St
  | 0, _, _ => none
  | n + 1, cur, a =>
    match iter C .eof cur a with
    | .done (.yes a') => some a'
    | .done _ => none
    | .cont c2 a2 =>
      if a2.err.isNone && !(skipWs C .eof false a.inp).isEnd && remB a2.inp then localNext C n c2 a2 else none

theorem localNext_sound : ∀ (n : Nat) (cur : Option Frame) (a a' : St),
    localNext C n cur a = some a' → LocalYes C cur a a' := by
  intro n
  induction n with
  | zero => intro cur a a' h; simp [localNext] at h
  | succ n ih =>
    intro cur a a' h
    unfold localNext at h
    cases hi : iter C .eof cur a with
    | done r =>
      rw [hi] at h
      cases r with
      | yes st => simp only [] at h; injection h with h; subst h; exact .done hi
      | no st => simp at h
      | panic => simp at h
      | outOfFuel => simp at h
    | cont c2 a2 =>
      rw [hi] at h; simp only [] at h
      split at h
      · next hc =>
        simp only [Bool.and_eq_true, Bool.not_eq_true', Option.isNone_iff_eq_none] at hc
        obtain ⟨⟨h1, h2⟩, h3⟩ := hc
        refine .step hi h1 ?_ (rem_of_remB _ h3) (ih _ _ _ h)
        intro he; rw [he] at h2; simp [Skip.isEnd] at h2
      · cases h

def commonRun (C : Cfg) : Nat → St → List Stmt
  | 0, _ => []
  | n + 1, a =>
    match localNext C (a.dropFirst.cost + 1) none a.dropFirst with
    | none => []
    | some a' =>
      match a'.stmts with
      | [] => []
      | x :: _ => x :: commonRun C n a'

theorem commonRun_sound : ∀ (n : Nat) (a : St), Common C a (commonRun C n a) := by
  intro n
  induction n with
  | zero => intro a; exact .nil
  | succ n ih =>
    intro a
    unfold commonRun
    cases hl : localNext C (a.dropFirst.cost + 1) none a.dropFirst with
    | none => exact .nil
    | some a' =>
      simp only []
      cases hs : a'.stmts with
      | nil => exact .nil
      | cons x rest => exact .cons (localNext_sound _ _ _ _ hl) hs (ih a')

end RdfModel.TtlDoc
