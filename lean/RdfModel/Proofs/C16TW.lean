import RdfModel.Props.C16Defs
namespace RdfModel.Proofs.C16
open RdfModel RdfModel.TW RdfModel.NQO RdfModel.C16

theorem ite_ind {ρ : Sort _} {motive : ρ → Prop} {p : Prop} [Decidable p] {a b : ρ} (ha : p → motive a) (hb : ¬p → motive b) :
    motive (if p then a else b) := by
  split
  · exact ha ‹_›
  · exact hb ‹_›

theorem map_ite {ρ σ : Sort _} {f : ρ → σ} {c : Prop} [Decidable c] {a b : ρ} {a' b' : σ} (ha : c → f a = a')
    (hb : ¬c → f b = b') : f (if c then a else b) = if c then a' else b' := by
  split
  · exact ha ‹_›
  · exact hb ‹_›

@[simp] theorem size_nil : size [] = 0 := rfl
@[simp] theorem size_cons (r : RP) (rs : List RP) : size (r :: rs) = r.2 + size rs := rfl

@[simp] theorem size_append (a b : List RP) : size (a ++ b) = size a + size b := by
  induction a with
  | nil => simp
  | cons r a ih => simp [ih]; omega

@[simp] theorem size_reverse (a : List RP) : size a.reverse = size a := by
  induction a with
  | nil => rfl
  | cons r a ih => simp [ih]; omega

@[simp] theorem runes_nil : runes [] = [] := rfl
@[simp] theorem runes_cons (r : RP) (rs : List RP) : runes (r :: rs) = r.1 :: runes rs := rfl
@[simp] theorem runes_append (a b : List RP) : runes (a ++ b) = runes a ++ runes b := by
  simp [runes]
@[simp] theorem runes_reverse (a : List RP) : runes a.reverse = (runes a).reverse := by
  simp [runes]

@[simp] theorem runes_eq_nil (a : List RP) : runes a = [] ↔ a = [] := by
  simp [runes]

@[simp] theorem countLF_nil : countLF [] = 0 := rfl

theorem countLF_append (a b : List RP) : countLF (a ++ b) = countLF a + countLF b := by
  induction a with
  | nil => simp
  | cons r a ih => simp [countLF, ih]; omega

theorem colAfter_append (a b : List RP) (acc : Nat) :
    colAfter (a ++ b) acc = colAfter b (colAfter a acc) := by
  induction a generalizing acc with
  | nil => rfl
  | cons r a ih =>
    simp only [List.cons_append, colAfter]
    split
    · exact ih 0
    · split
      · exact ih acc
      · exact ih (acc + 1)

theorem posAfter_append (o : Offset) (a b : List RP) : posAfter (posAfter o a) b = posAfter o (a ++ b) := by
  simp only [posAfter, size_append, countLF_append, colAfter_append]
  congr 1 <;> omega

@[simp] theorem posAfter_nil (o : Offset) : posAfter o [] = o := by
  simp [posAfter, colAfter]

theorem lineCol_line (cols : List Nat → Nat) (seg : List Nat) (rs : List RP) (l c : Nat) :
    (lineCol cols seg rs l c).1 = l + countLF rs := by
  induction rs generalizing seg l c with
  | nil => simp [lineCol]
  | cons r rs ih =>
    simp only [lineCol, countLF]
    split
    · rw [ih]; omega
    · split
      · rw [ih]; omega
      · rw [ih]; omega

@[simp] theorem write_byte (cols : List Nat → Nat) (o : Offset) (rs : List RP) :
    (write cols o rs).byte = o.byte + size rs := rfl

@[simp] theorem write_line (cols : List Nat → Nat) (o : Offset) (rs : List RP) :
    (write cols o rs).line = o.line + countLF rs := by
  simp [write, lineCol_line]

theorem simple_cons {c : Nat} {rs : List Nat} : simple (c :: rs) = true ↔ simpleRune c = true ∧ simple rs = true := by
  simp [simple]

theorem simple_append {a b : List Nat} : simple (a ++ b) = true ↔ simple a = true ∧ simple b = true := by
  simp [simple, List.all_append]

theorem simple_reverse {a : List Nat} : simple a.reverse = simple a := by
  simp [simple]

theorem flush_simple {cols : List Nat → Nat} (hc : ColsSimple cols) (seg : List Nat) (c : Nat)
    (hs : simple seg = true) : flush cols seg c = c + seg.length := by
  cases seg with
  | nil => simp [flush]
  | cons x seg =>
    simp only [flush]
    rw [hc _ (by rw [simple_reverse]; exact hs)]
    simp

theorem lineCol_col_simple {cols : List Nat → Nat} (hc : ColsSimple cols) (seg : List Nat)
    (rs : List RP) (l c : Nat) (hseg : simple seg = true) (hrs : simple (runes rs) = true) :
    (lineCol cols seg rs l c).2 = colAfter rs (c + seg.length) := by
  induction rs generalizing seg l c with
  | nil => simp [lineCol, colAfter, flush_simple hc seg c hseg]
  | cons r rs ih =>
    simp only [runes_cons, simple_cons] at hrs
    simp only [lineCol, colAfter]
    split
    · rw [ih [] _ _ rfl hrs.2]; simp
    · split
      · rw [ih [] _ _ rfl hrs.2, flush_simple hc seg c hseg]; simp
      · rw [ih (r.1 :: seg) _ _ (simple_cons.2 ⟨hrs.1, hseg⟩) hrs.2]
        simp only [List.length_cons]
        congr 1

/-- On simple text the column `write` computes is the position in the line, whatever the cluster counter. -/
theorem write_simple {cols : List Nat → Nat} (hc : ColsSimple cols) (o : Offset) (rs : List RP)
    (hrs : simple (runes rs) = true) : write cols o rs = posAfter o rs := by
  simp only [write, posAfter, Offset.mk.injEq, true_and]
  refine ⟨lineCol_line cols [] rs o.line o.col, ?_⟩
  rw [lineCol_col_simple hc [] rs _ _ rfl hrs]; simp

@[simp] theorem histRunes_nil : histRunes [] = [] := rfl
@[simp] theorem histRunes_cons (c : Chunk) (h : Hist) : histRunes (c :: h) = histRunes h ++ c := rfl
@[simp] theorem histOffset_nil (cols : List Nat → Nat) (init : Offset) : histOffset cols init [] = init := rfl
@[simp] theorem histOffset_cons (cols : List Nat → Nat) (init : Offset) (c : Chunk) (h : Hist) :
    histOffset cols init (c :: h) = write cols (histOffset cols init h) c := rfl

theorem histOffset_byte (cols : List Nat → Nat) (init : Offset) (h : Hist) :
    (histOffset cols init h).byte = init.byte + size (histRunes h) := by
  induction h with
  | nil => simp
  | cons c h ih => simp [ih]; omega

theorem histOffset_line (cols : List Nat → Nat) (init : Offset) (h : Hist) :
    (histOffset cols init h).line = init.line + countLF (histRunes h) := by
  induction h with
  | nil => simp
  | cons c h ih => simp [ih, countLF_append]; omega

theorem histOffset_simple {cols : List Nat → Nat} (hc : ColsSimple cols) (init : Offset) (h : Hist)
    (hs : simple (runes (histRunes h)) = true) : histOffset cols init h = posAfter init (histRunes h) := by
  induction h with
  | nil => simp
  | cons c h ih =>
    simp only [histRunes_cons, runes_append, simple_append] at hs
    rw [histOffset_cons, ih hs.1, write_simple hc _ _ hs.2, posAfter_append, histRunes_cons]

theorem shift_zero (o : Offset) : shift o zero = o := by
  simp [shift, zero]

theorem flush_shift (cols : List Nat → Nat) (seg : List Nat) (oc l c : Nat) :
    flush cols seg (if l = 0 then oc + c else c) = if l = 0 then oc + flush cols seg c else flush cols seg c := by
  cases seg with
  | nil => simp [flush]
  | cons x seg => simp only [flush]; split <;> omega

theorem lineCol_shift (cols : List Nat → Nat) (ol oc : Nat) (seg : List Nat) (rs : List RP) (l c : Nat) :
    lineCol cols seg rs (ol + l) (if l = 0 then oc + c else c)
      = (ol + (lineCol cols seg rs l c).1,
          if (lineCol cols seg rs l c).1 = 0 then oc + (lineCol cols seg rs l c).2
          else (lineCol cols seg rs l c).2) := by
  induction rs generalizing seg l c with
  | nil => simp only [lineCol]; rw [flush_shift]; by_cases hl : l = 0 <;> simp [hl]
  | cons r rs ih =>
    simp only [lineCol]
    split
    · have := ih [] (l + 1) 0
      simp only [Nat.add_eq_zero_iff, Nat.succ_ne_self, and_false, if_false] at this
      rw [← this]; rfl
    · split
      · rw [flush_shift]; exact ih [] l (flush cols seg c)
      · exact ih (r.1 :: seg) l c

theorem write_shift (cols : List Nat → Nat) (o p : Offset) (rs : List RP) :
    write cols (shift o p) rs = shift o (write cols p rs) := by
  simp only [write, shift, Offset.mk.injEq]
  have h := lineCol_shift cols o.line o.col [] rs p.line p.col
  refine ⟨by omega, ?_, ?_⟩
  · simp only [h]
  · simp only [h]; by_cases hl : (lineCol cols [] rs p.line p.col).fst = 0 <;> simp [hl]

theorem histOffset_shift (cols : List Nat → Nat) (o : Offset) (h : Hist) :
    histOffset cols o h = shift o (histOffset cols zero h) := by
  induction h with
  | nil => simp [shift_zero]
  | cons c h ih => rw [histOffset_cons, ih, write_shift, histOffset_cons]

theorem getLast?_cons_some {α : Type} {a d : α} {l : List α} (h : l.getLast? = some d) : (a :: l).getLast? = some d := by
  cases l with
  | nil => cases h
  | cons b l => rwa [List.getLast?_cons_cons]

theorem rangeAt_of (cols : List Nat → Nat) (init : Offset) (fr un : Hist) (pre tok : List RP)
    (h1 : histRunes fr = pre) (h2 : histRunes un = pre ++ tok) :
    RangeAt cols init pre tok (histOffset cols init fr) (histOffset cols init un) := by
  refine ⟨by rw [histOffset_byte, h1], by rw [histOffset_byte, h2]; simp; omega,
    by rw [histOffset_line, h1], by rw [histOffset_line, h2, countLF_append]; omega, ?_⟩
  intro hc hs
  have hs' := hs
  simp only [runes_append, simple_append] at hs'
  exact ⟨by rw [histOffset_simple hc init fr (by rw [h1]; exact hs'.1), h1],
    by rw [histOffset_simple hc init un (by rw [h2]; exact hs), h2]⟩

theorem errInside_of_bound (cols : List Nat → Nat) (init : Offset) (x : EOff) (n : Nat)
    (h : EOff.bound x ≤ n) : ErrInside init n (evalEOff cols init x) := by
  cases x with
  | none => trivial
  | byte b => simpa [evalEOff, ErrInside, EOff.bound] using h
  | text hh unc =>
    simp only [EOff.bound] at h
    simp only [evalEOff, ErrInside]
    split
    · simp [histOffset_byte]; omega
    · simp [histOffset_byte]; omega
  | range f u =>
    simp only [EOff.bound, Nat.max_le] at h
    simp only [evalEOff, ErrInside, histOffset_byte]
    omega

end RdfModel.Proofs.C16
