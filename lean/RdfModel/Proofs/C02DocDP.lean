/-
  "Deep permutation" of statement trees and resource lists: reordering the statements of every (nested) statement list,
  reordering the resources, dropping resources without statements. The Turtle encoder's nested-resource mode writes a
  deep permutation of its input (grouping by predicate, sorted sections); flattening is invariant under it up to graph
  isomorphism (`Proofs/C02DocPermIso.lean`).
-/
import RdfModel.Model.Description
import RdfModel.Proofs.GroupPerm
namespace RdfModel.Proofs.C02Doc
open RdfModel RdfModel.Desc

inductive DP {β : Type} : List (Stmt β) → List (Stmt β) → Prop
  | nil : DP [] []
  | obj (p : List Nat) (o : Term β) {l l' : List (Stmt β)} : DP l l' → DP (.obj p o :: l) (.obj p o :: l')
  | anon (p : List Nat) {a a' l l' : List (Stmt β)} : DP a a' → DP l l' → DP (.anon p a :: l) (.anon p a' :: l')
  | swap (x y : Stmt β) (l : List (Stmt β)) : DP (x :: y :: l) (y :: x :: l)
  | trans {a b c : List (Stmt β)} : DP a b → DP b c → DP a c

def resStmts {β : Type} : Resource β → List (Stmt β)
  | .subject _ st => st
  | .anon st => st

/-- explicit subject; `none` for `[]`-style roots (`.anon st` and `.subject none st` flatten identically) -/
def resSubj {β : Type} : Resource β → Option (Term β)
  | .subject s _ => s
  | .anon _ => none

inductive RP {β : Type} : List (Resource β) → List (Resource β) → Prop
  | nil : RP [] []
  | cons {r r' : Resource β} {rs rs' : List (Resource β)} : resSubj r = resSubj r' → DP (resStmts r) (resStmts r') →
      RP rs rs' → RP (r :: rs) (r' :: rs')
  | drop {r : Resource β} {rs rs' : List (Resource β)} : resStmts r = [] → RP rs rs' → RP (r :: rs) rs'
  | swap (x y : Resource β) (l : List (Resource β)) : RP (x :: y :: l) (y :: x :: l)
  | trans {a b c : List (Resource β)} : RP a b → RP b c → RP a c

variable {β : Type}

theorem DP.refl : (l : List (Stmt β)) → DP l l
  | [] => .nil
  | .obj p o :: l => .obj p o (DP.refl l)
  | .anon p a :: l => .anon p (DP.refl a) (DP.refl l)

theorem DP.cons (x : Stmt β) {l l' : List (Stmt β)} (h : DP l l') : DP (x :: l) (x :: l') := by
  cases x with
  | obj p o => exact .obj p o h
  | anon p a => exact .anon p (DP.refl a) h

theorem DP.of_perm {l l' : List (Stmt β)} (h : l.Perm l') : DP l l' := by
  induction h with
  | nil => exact .nil
  | cons x _ ih => exact DP.cons x ih
  | swap x y l => exact .swap y x l
  | trans _ _ ih1 ih2 => exact .trans ih1 ih2

theorem DP.append_left (a : List (Stmt β)) {b b' : List (Stmt β)} (h : DP b b') : DP (a ++ b) (a ++ b') := by
  induction a with
  | nil => exact h
  | cons x a ih => exact DP.cons x ih

theorem DP.append_right {a a' : List (Stmt β)} (b : List (Stmt β)) (h : DP a a') : DP (a ++ b) (a' ++ b) := by
  induction h with
  | nil => exact DP.refl b
  | obj p o _ ih => exact .obj p o ih
  | anon p ha _ _ ih => exact .anon p ha ih
  | swap x y l => exact .swap x y (l ++ b)
  | trans _ _ ih1 ih2 => exact .trans ih1 ih2

theorem DP.append {a a' b b' : List (Stmt β)} (h1 : DP a a') (h2 : DP b b') : DP (a ++ b) (a' ++ b') :=
  .trans (DP.append_right b h1) (DP.append_left a' h2)

theorem RP.refl : (rs : List (Resource β)) → RP rs rs
  | [] => .nil
  | _ :: rs => .cons rfl (DP.refl _) (RP.refl rs)

theorem RP.of_perm {rs rs' : List (Resource β)} (h : rs.Perm rs') : RP rs rs' := by
  induction h with
  | nil => exact .nil
  | cons x _ ih => exact .cons rfl (DP.refl _) ih
  | swap x y l => exact .swap y x l
  | trans _ _ ih1 ih2 => exact .trans ih1 ih2

theorem regroup_perm {ν : Type} : ∀ (ps : List (List Nat)) (pos : List (List Nat × ν)), ps.Nodup →
    (∀ po ∈ pos, po.1 ∈ ps) →
    (ps.flatMap (fun p => (pos.filter (fun po => po.1 == p)).map (fun po => (p, po.2)))).Perm pos := by
  intro ps pos hn hall
  refine .trans (.of_eq ?_) (group_perm_all (·.1) pos ps hn hall)
  congr 1
  funext p
  refine ((List.map_congr_left (g := id) ?_).trans (List.map_id _)).trans
    (List.filter_congr fun _ _ => Bool.eq_iff_iff.2 (by simp))
  intro po hpo
  simp only [List.mem_filter, beq_iff_eq] at hpo
  rw [← hpo.2]; rfl

end RdfModel.Proofs.C02Doc
