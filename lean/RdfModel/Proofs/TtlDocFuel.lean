/-
  Statement layer of Turtle/TriG: the step budget. Every iteration of the loop in `Next` lowers
  `potential`, so the fuel `St.cost + 1` that `next` and `run` start with is never exhausted.
-/
import RdfModel.Proofs.TtlDocBasic
import RdfModel.Proofs.TtlDocCases
import RdfModel.Proofs.TtlDocBuffer
namespace RdfModel.TtlDoc
open RdfModel

variable {C : Cfg} {e : End}

def argCost : Arg → Nat
  | .fail => 0
  | .rune c r => inputCost (c :: r)

/-- the model's `readyCost` for one frame: what a scan function that is not `ready` costs while it is the next to run -/
def Cont.surcharge (k : Cont) : Nat := if k.ready then 0 else 40

/-- surcharge of the next frame to run when the frames below are not known: at most 40 -/
def headCost : List Frame → Nat
  | [] => 40
  | f :: _ => f.k.surcharge

/-- what a call leaves behind apart from the buffer: the frames it returns and pushes, the surcharge of the one that
    runs next, the statement it emits -/
def Out.stackCost (o : Out) : Nat :=
  framesCost (o.cur.toList ++ o.push.reverse) + headCost (o.cur.toList ++ o.push.reverse) + o.emit.toList.length

def OutCost (o : Out) : Nat := inputCost o.inp + o.stackCost

def ResCost (B : Nat) : FnRes → Prop
  | .ok o => OutCost o + 1 ≤ B
  | _ => True

theorem ResCost.mono {B B' : Nat} {r : FnRes} (h : ResCost B r) (hb : B ≤ B') : ResCost B' r := by
  cases r <;> simp_all [ResCost]; omega

/-- For a concrete answer `hw` is closed and holds by `rfl`; `hin` compares the buffer left with the budget.
    The constants `m` in the lemmas below are found as `stackCost + 1` of the dearest answer (weights of `cur` and of what is
    pushed, 40 if the frame that runs next is not `ready`, 1 for a statement); where the budget is given as `n ≤ B + k` for a
    token that has eaten a rune, `k` is 64 minus that.  `Cont.weight` and the 40 of `readyCost` (model) were chosen so that
    every answer of a scan function fits into its own weight and surcharge, plus 64 when it consumes a rune: `stepFn_cost`
    is that check, answer by answer. -/
theorem ResCost.of_slack {cur : Option Frame} {push : List Frame} {emit : Option Stmt} {inp : List Nat} {env : Env}
    {term : Bool} {B : Nat} (m : Nat)
    (hw : (Out.stackCost { cur := cur, push := push, emit := emit, inp := inp, env := env, term := term } + 1).ble m = true)
    (hin : inputCost inp + m ≤ B) :
    ResCost B (.ok { cur := cur, push := push, emit := emit, inp := inp, env := env, term := term }) := by
  have := Nat.le_of_ble_eq_true hw
  simp only [ResCost, OutCost]
  omega

theorem ResCost.ok {cur : Option Frame} {push : List Frame} {emit : Option Stmt} {inp : List Nat} {env : Env}
    {term : Bool} {i : List Nat} {B : Nat} (n : Nat) (hin : inputCost inp + n ≤ inputCost i)
    (hw : (Out.stackCost { cur := cur, push := push, emit := emit, inp := inp, env := env, term := term } + 1).ble (n + B) = true) :
    ResCost (inputCost i + B) (.ok { cur := cur, push := push, emit := emit, inp := inp, env := env, term := term }) :=
  .of_slack (n + B) hw (by omega)

theorem inputCost_tail {c : Nat} (h : c ≠ 0) (r : List Nat) : inputCost r + 64 ≤ inputCost (c :: r) :=
  cost_cons h (List.suffix_refl r)

def TermCost (n : Nat) : TermRes → Prop
  | .ok _ r _ => inputCost r + 64 ≤ n
  | _ => True

theorem LeftBy.cost (hC : C.P.Consumes) {i r : List Nat} (h : LeftBy C e i r) : inputCost r + 64 ≤ inputCost i := by
  rcases h with ⟨v, h⟩ | ⟨v, h⟩ | ⟨l, h⟩
  · exact hC.iriref _ _ _ _ h
  · exact hC.pname _ _ _ _ h
  · exact hC.bnode _ _ _ _ h

theorem Kind.term_cost (hC : C.P.Consumes) (env : Env) (inp : List Nat) (K : Kind) :
    TermCost (inputCost inp) (K.term C e env inp) := by
  cases h : K.term C e env inp with
  | ok t r env' => exact (Kind.term_leftBy h).cost hC
  | err k => trivial
  | panic => trivial

theorem subjectTail_cost (x : Ectx) (s : T) (inp : List Nat) (env : Env) {B : Nat} (h : inputCost inp + 45 ≤ B) :
    ResCost B (subjectTail x s inp env) := by
  exact .of_slack 45 rfl h

theorem subjectOf_cost (x : Ectx) {tr : TermRes} {n B : Nat} (h : TermCost n tr) (hb : n ≤ B + 19) :
    ResCost B (subjectOf x tr) := by
  cases tr with
  | ok t r env => exact subjectTail_cost x t r env (by simp [TermCost] at h; omega)
  | err k => trivial
  | panic => trivial

theorem labelOrSubject_cost (x : Ectx) {tr : TermRes} {n B : Nat} (h : TermCost n tr) (hb : n ≤ B + 11) :
    ResCost B (labelOrSubject x tr) := by
  cases tr with
  | ok t r env => exact .of_slack 53 rfl (by simp only [TermCost] at h; omega)
  | err k => trivial
  | panic => trivial

theorem graphOfTerm_cost (x : Ectx) {tr : TermRes} {n B : Nat} (h : TermCost n tr) (hb : n ≤ B + 21) :
    ResCost B (graphOfTerm x tr) := by
  cases tr with
  | ok t r env => exact .of_slack 43 rfl (by simp only [TermCost] at h; omega)
  | err k => trivial
  | panic => trivial

theorem kwFallback_cost (hC : C.P.Consumes) (x : Ectx) (env : Env) (inp : List Nat) {B : Nat}
    (hb : inputCost inp + 4 ≤ B) : ResCost B (kwFallback C e x env inp) := by
  unfold kwFallback
  split
  · exact labelOrSubject_cost x (Kind.term_cost hC env inp .pname) (by omega)
  · exact .of_slack 4 rfl hb

theorem stepWrappedGraph_cost (x : Ectx) (env : Env) (a : Arg) {B : Nat} (hb : argCost a ≤ B + 19) :
    ResCost B (stepWrappedGraph e x env a) := by
  unfold stepWrappedGraph
  split
  · trivial
  · next c r =>
    split
    · trivial
    · next hc =>
      have := inputCost_tail (c := c) (by omega) r
      exact .of_slack 45 rfl (by simp only [argCost] at hb; omega)

theorem withSelf_cost (x : Ectx) {r : FnRes} {B : Nat} (h : ResCost B r) : ResCost (B + 1) (withSelf x r) := by
  cases r with
  | ok o =>
    simp only [withSelf, ResCost, OutCost, Out.stackCost] at h ⊢
    have h1 : framesCost (o.cur.toList ++ (⟨x, .statement⟩ :: o.push).reverse) =
        framesCost (o.cur.toList ++ o.push.reverse) + 1 := by
      simp only [List.reverse_cons, ← List.append_assoc]
      generalize o.cur.toList ++ o.push.reverse = l
      induction l with
      | nil => simp [framesCost, Cont.weight]
      | cons a l ih => simp [framesCost, ih]; omega
    have h2 : headCost (o.cur.toList ++ (⟨x, .statement⟩ :: o.push).reverse) ≤
        headCost (o.cur.toList ++ o.push.reverse) := by
      simp only [List.reverse_cons, ← List.append_assoc]
      generalize o.cur.toList ++ o.push.reverse = l
      cases l with
      | nil => simp [headCost, Cont.surcharge, Cont.ready]
      | cons a l => simp [headCost]
    omega
  | err k => trivial
  | panic => trivial

theorem stepAtDirective_cost (x : Ectx) (env : Env) (rest : List Nat) {B : Nat} (hb : inputCost rest + 43 ≤ B) :
    ResCost B (stepAtDirective e x env rest) := by
  unfold stepAtDirective
  split
  · trivial
  · next r1 rest1 =>
    simp only [inputCost] at hb
    split
    · split <;> try trivial
      next r h => have := inputCost_le_of_suffix (matchKw_suffix _ _ _ h); exact .of_slack 43 rfl (by omega)
    · split
      · split <;> try trivial
        next r h => have := inputCost_le_of_suffix (matchKw_suffix _ _ _ h); exact .of_slack 43 rfl (by omega)
      · trivial

theorem stepKwBase_cost (hC : C.P.Consumes) (x : Ectx) (env : Env) (c : Nat) (rest : List Nat) {B : Nat}
    (hc : c ≠ 0) (hb : inputCost (c :: rest) + 4 ≤ B) : ResCost B (stepKwBase C e x env c rest) := by
  have h64 := runeCost_eq hc
  unfold stepKwBase
  split
  · trivial
  · exact kwFallback_cost hC x env _ hb
  · next r h =>
    have := inputCost_le_of_suffix (matchKw_suffix _ _ _ h)
    simp only [inputCost] at hb
    split
    · trivial
    · next r4 rest4 =>
      simp only [inputCost] at this
      split
      · exact .of_slack 43 rfl (by simp only [inputCost]; omega)
      · split
        · exact kwFallback_cost hC x env _ (by simp only [inputCost]; omega)
        · exact .of_slack 43 rfl (by omega)

theorem stepKwSpace_cost (hC : C.P.Consumes) (x : Ectx) (env : Env) (kw : List (Nat × Nat)) (k : Cont) (c : Nat)
    (rest : List Nat) {B : Nat} (hc : c ≠ 0) (hk : k.weight ≤ 2) (hb : inputCost (c :: rest) + 4 ≤ B) :
    ResCost B (stepKwSpace C e x env kw k c rest) := by
  have h64 := runeCost_eq hc
  unfold stepKwSpace
  split
  · trivial
  · exact kwFallback_cost hC x env _ hb
  · next r h =>
    have := inputCost_le_of_suffix (matchKw_suffix _ _ _ h)
    simp only [inputCost] at hb
    split
    · trivial
    · next r6 rest6 =>
      simp only [inputCost] at this
      split
      · exact kwFallback_cost hC x env _ (by simp only [inputCost]; omega)
      · simp only [ResCost, OutCost, Out.stackCost, headCost, Cont.surcharge, framesCost, Option.toList, List.reverse_nil, List.append_nil,
          List.length_nil]
        split <;> omega

theorem stepSubjectStart_cost (hC : C.P.Consumes) (x : Ectx) (env : Env) (c : Nat) (rest : List Nat) {B : Nat}
    (hb : inputCost (c :: rest) + 4 ≤ B) : ResCost B (stepSubjectStart C e x env c rest) := by
  have h64 : c = 0x5b ∨ c = 0x28 → inputCost rest + 64 ≤ inputCost (c :: rest) := fun h => inputCost_tail (by omega) rest
  apply stepSubjectStart_cases (motive := fun F => ResCost B (F rest))
  case err => exact fun _ => trivial
  case label => exact fun _ K => labelOrSubject_cost x (K.term_cost hC env _) (by omega)
  case token => intro _ K; cases K <;> exact .of_slack 4 rfl hb
  case bracketG => intro hc _; have := h64 (.inl hc); exact .of_slack 61 rfl (by omega)
  case bracket => intro hc _; have := h64 (.inl hc); exact .of_slack 55 rfl (by omega)
  case paren => intro hc; have := h64 (.inr hc); exact .of_slack 57 rfl (by omega)

theorem stepStatementRune_cost (hC : C.P.Consumes) (x : Ectx) (env : Env) (c : Nat) (rest : List Nat) :
    ResCost (inputCost (c :: rest) + 40) (stepStatementRune C e x env c rest) := by
  apply stepStatementRune_cases (motive := fun F => ResCost (inputCost (c :: rest) + 40) (F rest))
  case at_ =>
    intro hc
    have := runeCost_eq (c := c) (by omega)
    exact stepAtDirective_cost x env rest (by simp only [inputCost]; omega)
  case base => exact fun hc => stepKwBase_cost hC x env c rest (by omega) (by omega)
  case pfx => exact fun hc => stepKwSpace_cost hC x env _ _ c rest (by omega) (by decide) (by omega)
  case graph => exact fun _ hc => stepKwSpace_cost hC x env _ _ c rest (by omega) (by decide) (by omega)
  case brace => exact fun _ _ => stepWrappedGraph_cost x env _ (by simp only [argCost]; omega)
  case subject => exact stepSubjectStart_cost hC x env c rest (by omega)

theorem stepCollection_cost (x : Ectx) (env : Env) (c : Nat) (rest : List Nat) (o : T) {B : Nat}
    (hb : inputCost (c :: rest) + 6 ≤ B) : ResCost B (stepCollection x env c rest o) := by
  unfold stepCollection
  split
  · next hc =>
    have := inputCost_tail (c := c) (by omega) rest
    exact .of_slack 42 rfl (by omega)
  · split <;> exact .of_slack 6 rfl hb

theorem polGo_cost (x : Ectx) (p : T) (inp : List Nat) (env : Env) {B : Nat} (hb : inputCost inp + 5 ≤ B) :
    ResCost B (polGo x p inp env) := by
  exact .of_slack 5 rfl hb

theorem polOfTerm_cost (x : Ectx) {tr : TermRes} {n B : Nat} (h : TermCost n tr) (hb : n ≤ B + 59) :
    ResCost B (polOfTerm x tr) := by
  cases tr with
  | ok t r env => exact polGo_cost x t r env (by simp [TermCost] at h; omega)
  | err k => trivial
  | panic => trivial

theorem stepPOL_cost (hC : C.P.Consumes) (x : Ectx) (env : Env) (c : Nat) (rest : List Nat) :
    ResCost (inputCost (c :: rest) + 42) (stepPOL C e x env c rest) := by
  unfold stepPOL
  split
  · exact polOfTerm_cost x (Kind.term_cost hC env _ .iriref) (by omega)
  · split
    · next hc =>
      have := runeCost_eq (c := c) (by omega)
      split
      · trivial
      · split
        · exact polOfTerm_cost x (Kind.term_cost hC env _ .pname) (by omega)
        · exact polGo_cost x _ _ env (by simp only [inputCost]; omega)
    · split
      · exact polOfTerm_cost x (Kind.term_cost hC env _ .pname) (by omega)
      · exact .ok 0 (Nat.le_refl _) rfl

theorem emitOfTerm_cost (x : Ectx) {tr : TermRes} {n B : Nat} (h : TermCost n tr) (hb : n ≤ B + 22) :
    ResCost B (emitOfTerm x tr) := by
  cases tr with
  | ok t r env => exact .of_slack 42 rfl (by simp only [TermCost] at h; omega)
  | err k => trivial
  | panic => trivial

theorem stepLiteralTail_cost (hC : C.P.Consumes) (x : Ectx) (env : Env) (lex rest : List Nat) {B : Nat}
    (hb : inputCost rest + 42 ≤ B) : ResCost B (stepLiteralTail C e x env lex rest) := by
  apply stepLiteralTail_cases (motive := ResCost B)
  case err => exact fun _ => trivial
  case panic => exact fun _ => trivial
  case lang => intro tag r h; have := hC.langtag _ _ _ _ h; exact .of_slack 42 rfl (by omega)
  case typed =>
    intro c2 rest2 dt r hrest hdt _ _
    have : inputCost r + 64 ≤ inputCost (c2 :: rest2) :=
      hdt.leftBy.cost hC
    simp only [hrest, inputCost] at hb this
    exact .of_slack 42 rfl (by omega)
  case plain => exact fun _ => .of_slack 42 rfl hb

theorem emitOfNumeric_cost (x : Ectx) (env : Env) {r : Ttl.Res (Ttl.NumKind × List Nat)} {n B : Nat}
    (h : ∀ v rest, r = .ok v rest → inputCost rest + 64 ≤ n) (hb : n ≤ B + 22) : ResCost B (emitOfNumeric x env r) := by
  cases r with
  | ok v rest => obtain ⟨k, lex⟩ := v; have := h _ _ rfl; exact .of_slack 42 rfl (by omega)
  | err k => trivial
  | panic => trivial

theorem stepObject_cost (hC : C.P.Consumes) (x : Ectx) (env : Env) (c : Nat) (rest : List Nat) :
    ResCost (inputCost (c :: rest) + 2) (stepObject C e x env c rest) := by
  have h64 : c = 0x28 ∨ c = 0x5b → inputCost rest + 64 ≤ inputCost (c :: rest) := fun h => inputCost_tail (by omega) rest
  apply stepObject_cases
  case err => exact fun _ => trivial
  case panic => exact fun _ => trivial
  case term => exact fun K => emitOfTerm_cost x (K.term_cost hC env _) (by omega)
  case coll => exact fun hc => .ok 64 (h64 (.inl hc)) rfl
  case bnpl => exact fun hc nx _ => .ok 64 (h64 (.inr hc)) rfl
  case string =>
    intro lex r h
    have := hC.string _ _ _ _ h
    exact stepLiteralTail_cost hC x env lex r (by omega)
  case numeric => exact fun hdot => emitOfNumeric_cost x env (fun v r h => hC.numeric _ _ _ _ _ h hdot) (by omega)
  case bool => exact fun b r h => .ok 64 (hC.boolean _ _ _ _ h) rfl
  case pname => exact .ok 0 (Nat.le_refl _) rfl

theorem stepTriples_cost (x : Ectx) (env : Env) (c : Nat) (rest : List Nat) :
    ResCost (inputCost (c :: rest) + 2) (stepTriples C x env c rest) := by
  have h64 : c = 0x5b ∨ c = 0x28 → inputCost rest + 64 ≤ inputCost (c :: rest) := fun h => inputCost_tail (by omega) rest
  apply stepTriples_cases (motive := fun F => ResCost (inputCost (c :: rest) + 2) (F rest))
  case err => exact fun _ => trivial
  case token => intro K; cases K <;> exact .ok 0 (Nat.le_refl _) rfl
  case bracket => exact fun hc x' _ => .ok 64 (h64 (.inl hc)) rfl
  case paren => exact fun hc => .ok 64 (h64 (.inr hc)) rfl

theorem stepParen_cost (top : Bool) (x : Ectx) (env : Env) (bn : T) (a : Arg) :
    ResCost (argCost a + 56) (stepParen top x env bn a) := by
  unfold stepParen
  simp only []
  cases a with
  | fail =>
    simp only [Arg.orNul, show ¬ (0 : Nat) = 0x29 by omega, ite_false]
    cases top <;> exact .of_slack 49 rfl (by decide)
  | rune c r =>
    simp only [Arg.orNul]
    by_cases hc : c = 0x29
    · simp only [hc, ite_true]
      cases top <;> exact .of_slack 47 rfl (by simp only [argCost, inputCost]; omega)
    · simp only [hc, ite_false]
      cases top <;> exact .of_slack 49 rfl (by simp only [argCost]; omega)

theorem budget_le {n w : Nat} (h : n.ble w = true) (i : List Nat) : inputCost i + n ≤ inputCost i + w :=
  Nat.add_le_add_left (Nat.le_of_ble_eq_true h) _

theorem stepFn_cost (hC : C.P.Consumes) (k : Cont) (x : Ectx) (env : Env) (a : Arg) :
    ResCost (argCost a + (k.weight + k.surcharge)) (stepFn C e k x env a) := by
  cases a with
  | fail =>
    -- only the top-level function and the closures that ignore `err` answer a failed read
    cases k with
    | statement => cases e <;> first | trivial | exact .of_slack 41 rfl (Nat.le_refl _)
    | collOpenSubj o => exact stepCollection_cost x env _ _ o (Nat.le_of_ble_eq_true rfl)
    | parenTop bn => exact (stepParen_cost true x env bn .fail).mono (Nat.le_of_ble_eq_true rfl)
    | parenBlock bn => exact (stepParen_cost false x env bn .fail).mono (Nat.le_of_ble_eq_true rfl)
    | tgE1 v => cases v <;> first | trivial | exact .of_slack 47 rfl (Nat.le_of_ble_eq_true rfl)
    | tgBracket bn => exact .of_slack 55 rfl (Nat.le_of_ble_eq_true rfl)
    | _ => trivial
  | rune c r =>
    have h64 : ∀ d, d ≠ 0 → c = d → inputCost r + 64 ≤ inputCost (c :: r) := fun d hd h => inputCost_tail (h ▸ hd) r
    cases k with
    | statement =>
      have := withSelf_cost x (stepStatementRune_cost (e := e) hC x env c r)
      simpa [stepFn, Cont.surcharge, Cont.ready, Cont.weight, argCost, Nat.add_assoc] using this
    | atBaseIRI | sparqlBaseIRI | atPrefixIRI ns | sparqlPrefixIRI ns =>
      simp only [stepFn]
      split <;> try trivial
      next v r' h =>
      split <;> first | trivial | exact .ok 64 (hC.iriref _ _ _ _ h) rfl
    | atPrefixNS | sparqlPrefixNS =>
      simp only [stepFn]
      split <;> first | trivial | exact .ok 64 (hC.pnameNS _ _ _ _ ‹_›) rfl
    | atBaseDot b | atPrefixDot ns b | triplesEnd | bnplEnd | wrappedGraphEnd =>
      simp only [stepFn]; split <;> try trivial
      next hc => exact .ok 64 (inputCost_tail (by omega) r) rfl
    | subjAnonOrBNPL | triples2BNPL | polContinue | objListContinue | collContinue =>
      simp only [stepFn]
      split
      · next hc => exact .ok 64 (h64 _ (by decide) hc) rfl
      · exact .ok 0 (Nat.le_refl _) rfl
    | subjIRIREF => exact subjectOf_cost x (Kind.term_cost hC env _ .iriref) (by simp only [argCost]; omega)
    | subjPName => exact subjectOf_cost x (Kind.term_cost hC env _ .pname) (by simp only [argCost]; omega)
    | subjBNode => exact subjectOf_cost x (Kind.term_cost hC env _ .bnode) (by simp only [argCost]; omega)
    | pol => exact (stepPOL_cost hC x env c r).mono (budget_le rfl _)
    | polRequired => exact polRequired_sat (fun _ => trivial) ((stepPOL_cost hC x env c r).mono (budget_le rfl _))
    | object => exact (stepObject_cost hC x env c r).mono (budget_le rfl _)
    | objectPName => exact emitOfTerm_cost x (Kind.term_cost hC env _ .pname) (by simp only [argCost]; omega)
    | collOpenObj => exact stepCollection_cost x _ c r _ (budget_le rfl _)
    | collOpenSubj o => exact stepCollection_cost x env _ _ o (budget_le rfl _)
    | parenTop bn => exact (stepParen_cost true x env bn _).mono (budget_le rfl _)
    | parenBlock bn => exact (stepParen_cost false x env bn _).mono (budget_le rfl _)
    | graphLabel =>
      exact graphLabel_cases x env c (motive := fun F => ResCost _ (F r)) (fun hc => .ok 64 (h64 _ (by decide) hc) rfl)
        fun K => graphOfTerm_cost x (Kind.term_cost hC env _ K) (by simp only [argCost]; omega)
    | graphAnonClose =>
      simp only [stepFn, Arg.orNul]
      by_cases hc : c = 0x5d
      · simp only [hc, ne_eq, not_true_eq_false, ite_false]; exact .ok 64 (inputCost_tail (by decide) r) rfl
      · simp only [ne_eq, hc, not_false_eq_true, ite_true]; trivial
    | wrappedGraph => exact stepWrappedGraph_cost (e := e) x env (.rune c r) (by omega)
    | triplesBlock => simp only [stepFn]; split <;> exact .ok 0 (Nat.le_refl _) rfl
    | triplesBlockQuest =>
      simp only [stepFn]; split
      · next hc => exact .ok 64 (h64 _ (by decide) hc) rfl
      · split <;> exact .ok 0 (Nat.le_refl _) rfl
    | triples => exact (stepTriples_cost x env c r).mono (budget_le rfl _)
    | tgE1 v =>
      simp only [stepFn, Arg.orNul]
      by_cases hc : c = 0x7b
      · simp only [hc, ite_true]; exact .ok 64 (inputCost_tail (by decide) r) rfl
      · simp only [hc, ite_false]
        split <;> first | trivial | exact .ok 0 (Nat.le_refl _) rfl
    | tgBracket bn =>
      simp only [stepFn, Arg.orNul]
      by_cases hc : c = 0x5d
      · simp only [hc, ite_true]; exact .ok 64 (inputCost_tail (by decide) r) rfl
      · simp only [hc, ite_false]; exact .ok 0 (Nat.le_refl _) rfl

theorem skipWs_cost (C : Cfg) (e : End) : ∀ (b : Bool) (inp : List Nat) (c : Nat) (r : List Nat),
    skipWs C e b inp = .rune c r → inputCost (c :: r) ≤ inputCost inp := by
  intro b inp
  induction inp generalizing b with
  | nil => intro c r h; cases b <;> simp [skipWs] at h; cases e <;> simp at h
  | cons a rest ih =>
    intro c r h
    cases b with
    | true =>
      unfold skipWs at h
      split at h <;> (have := ih _ _ _ h; simp only [inputCost] at this ⊢; omega)
    | false =>
      unfold skipWs at h
      split at h
      · have := ih _ _ _ h; simp only [inputCost] at this ⊢; omega
      · split at h
        · have := ih _ _ _ h; simp only [inputCost] at this ⊢; omega
        · injection h with hc hr; subst hc; subst hr; exact Nat.le_refl _

theorem framesCost_append (l1 l2 : List Frame) : framesCost (l1 ++ l2) = framesCost l1 + framesCost l2 := by
  induction l1 with
  | nil => simp [framesCost]
  | cons a l ih => simp [framesCost, ih]; omega

theorem readyCost_le (l : List Frame) : readyCost l ≤ 40 := by
  cases l with
  | nil => simp [readyCost]
  | cons a l => simp only [readyCost]; split <;> omega

theorem readyCost_append_le (l1 l2 : List Frame) : readyCost (l1 ++ l2) ≤ headCost l1 := by
  cases l1 with
  | nil => simpa [headCost] using readyCost_le l2
  | cons a l => simp [readyCost, headCost, Cont.surcharge]

theorem readyCost_toList_le (cur : Option Frame) (l : List Frame) : readyCost cur.toList ≤ headCost (cur.toList ++ l) := by
  cases cur with
  | none => simp [readyCost]
  | some f => simp [readyCost, headCost, Cont.surcharge]

theorem scan_potential (hC : C.P.Consumes) {cur : Option Frame} {st : St} {f : Frame} {st1 : St}
    (hp : popFrame cur st = some (f, st1)) {cur' : Option Frame} {st2 : St} (hs : scan C e f st1 = .ok cur' st2) :
    potential cur' st2 + 1 ≤ potential cur st := by
  obtain ⟨t, hfr, rfl⟩ := popFrame_iff.1 hp
  unfold scan at hs
  cases hsc : scanFn C e f st.inp st.env with
  | panic => simp [hsc] at hs
  | err k => simp [hsc] at hs
  | ok o =>
    simp only [hsc] at hs
    injection hs with h1 h2
    subst h1; subst h2
    have hcost : OutCost o + 1 ≤ inputCost st.inp + f.k.weight + f.k.surcharge := by
      unfold scanFn at hsc
      split at hsc
      · cases hsc
      · have := stepFn_cost (e := e) hC f.k f.x st.env .fail
        rw [hsc] at this
        simp only [ResCost, argCost] at this
        omega
      · next c r hsk =>
        have := stepFn_cost (e := e) hC f.k f.x st.env (.rune c r)
        rw [hsc] at this
        have h2 := skipWs_cost C e _ _ _ _ hsk
        simp only [ResCost, argCost] at this
        omega
    have hbefore : potential cur st = inputCost st.inp + (f.k.weight + framesCost t) + f.k.surcharge + st.stmts.length := by
      simp only [potential, hfr, framesCost, readyCost, Cont.surcharge]
    rw [hbefore]
    simp only [potential, applyOut, OutCost, Out.stackCost] at hcost ⊢
    have hlen : (st.stmts ++ o.emit.toList).length = st.stmts.length + o.emit.toList.length := by simp
    rw [hlen]
    by_cases ht : o.term = true
    · simp only [ht, ite_true, List.append_nil]
      have h1 : framesCost o.cur.toList ≤ framesCost (o.cur.toList ++ o.push.reverse) := by
        rw [framesCost_append]; omega
      have h2 := readyCost_toList_le o.cur o.push.reverse
      omega
    · simp only [ht, Bool.false_eq_true, ite_false]
      have h1 : framesCost (o.cur.toList ++ (o.push.reverse ++ t)) =
          framesCost (o.cur.toList ++ o.push.reverse) + framesCost t := by
        rw [← List.append_assoc, framesCost_append]
      have h2 : readyCost (o.cur.toList ++ (o.push.reverse ++ t)) ≤ headCost (o.cur.toList ++ o.push.reverse) := by
        rw [← List.append_assoc]; exact readyCost_append_le _ _
      omega

theorem potential_pushCur (cur : Option Frame) (st : St) : potential none (pushCur cur st) = potential cur st := by
  cases cur <;> simp [potential, pushCur]

theorem weight_pos (k : Cont) : 1 ≤ k.weight := by cases k <;> simp [Cont.weight]

theorem nextLoop_fuel (hC : C.P.Consumes) :
    ∀ fuel cur st, potential cur st < fuel →
      nextLoop C e fuel cur st ≠ .outOfFuel ∧
      ∀ st', nextLoop C e fuel cur st = .yes st' →
        St.cost st' ≤ potential cur st ∧ (st.stmts = [] → St.cost st' < potential cur st) := by
  intro fuel
  induction fuel with
  | zero => intro cur st h; omega
  | succ n ih =>
    intro cur st hlt
    unfold nextLoop
    split
    · exact ⟨by simp, fun st' h => by cases h⟩
    · split
      · next hne =>
        refine ⟨by simp, fun st' h => ?_⟩
        injection h with h; subst h
        refine ⟨by simp [St.cost, potential_pushCur], fun hs => ?_⟩
        simp [hs] at hne
      · split
        · exact ⟨by simp, fun st' h => by cases h⟩
        · next f st1 hp =>
          obtain ⟨t, hfr, _⟩ := popFrame_iff.1 hp
          have hpos : 1 ≤ potential cur st := by
            simp only [potential, hfr, framesCost]
            have := weight_pos f.k
            omega
          cases hsc : scan C e f st1 with
          | panic => exact ⟨by simp, fun st' h => by cases h⟩
          | err k =>
            simp only []
            -- the error is latched: the next iteration answers `false`
            cases n with
            | zero => omega
            | succ m =>
              unfold nextLoop
              simp
          | ok cur' st2 =>
            simp only []
            have hdec := scan_potential (e := e) hC hp hsc
            have := ih cur' st2 (by omega)
            refine ⟨this.1, fun st' h => ?_⟩
            have := this.2 st' h
            exact ⟨by omega, fun _ => by omega⟩

theorem next_fuel (hC : C.P.Consumes) (st : St) :
    next C e st ≠ .outOfFuel ∧ ∀ st', next C e st = .yes st' → St.cost st' < St.cost st := by
  unfold next
  simp only []
  have h := nextLoop_fuel (e := e) hC (({ st with stmts := st.stmts.drop 1 } : St).cost + 1) none
    { st with stmts := st.stmts.drop 1 } (by simp [St.cost])
  refine ⟨h.1, fun st' hy => ?_⟩
  have := h.2 st' hy
  cases hs : st.stmts with
  | nil =>
    have h0 : ({ st with stmts := st.stmts.drop 1 } : St) = st := by cases st; simp_all
    rw [h0] at this
    exact this.2 hs
  | cons a b =>
    have : potential none { st with stmts := st.stmts.drop 1 } + 1 = St.cost st := by
      simp [St.cost, potential, hs]; omega
    omega

theorem runLoop_fuel (hC : C.P.Consumes) : ∀ n st, St.cost st < n → (runLoop C e n st).2 ≠ .outOfFuel := by
  intro n
  induction n with
  | zero => intro st h; omega
  | succ n ih =>
    intro st hlt
    unfold runLoop
    have h := next_fuel (e := e) hC st
    split
    · simp
    · next hh => exact absurd hh h.1
    · next st' hh => simp; cases st'.err <;> simp
    · next st' hh =>
      have := h.2 st' hh
      split
      · simp
      · simp; exact ih st' (by omega)

theorem inputCost_le (inp : List Nat) : inputCost inp ≤ 64 * inp.length := by
  induction inp with
  | nil => simp [inputCost]
  | cons c r ih => have := runeCost_le c; simp [inputCost]; omega

theorem init_cost (base : Option (List Nat)) (pf : List (List Nat × List Nat)) (inp : List Nat) :
    St.cost (init base pf inp) ≤ 64 * inp.length + 41 := by
  have := inputCost_le inp
  simp [St.cost, potential, init, framesCost, readyCost, Cont.weight, Cont.ready]
  omega

end RdfModel.TtlDoc
