import RdfModel.Model.Term
import RdfModel.Model.BlankNodes

/-
`asc` turns a string literal into code points. Reducing `asc "…"` makes Lean decode the literal's UTF-8
bytes, which is slow both in `decide` and in the kernel; comparing two constants is cheap once the
comparison is moved to the strings themselves.
-/
namespace RdfModel

theorem asc_inj {s t : String} : asc s = asc t ↔ s = t := by
  unfold asc
  rw [List.map_inj_right (fun _ _ => Char.toNat_inj.mp), String.toList_inj]

theorem asc_ne {s t : String} (h : s ≠ t) : asc s ≠ asc t := fun e => h (asc_inj.mp e)

theorem asc_ne_nil {s : String} (h : s ≠ "") : asc s ≠ [] := fun e => h (asc_inj.mp e)

theorem asc_append (s t : String) : asc (s ++ t) = asc s ++ asc t := by
  simp only [asc, String.toList_append, List.map_append]

namespace BN

theorem asc_inj {s t : String} : BN.asc s = BN.asc t ↔ s = t := RdfModel.asc_inj

theorem asc_ne {s t : String} (h : s ≠ t) : BN.asc s ≠ BN.asc t := RdfModel.asc_ne h

end BN
end RdfModel
