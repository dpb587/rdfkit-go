/-
  `simp only []`, here and in C16TtlDocOInv / C16TtlDocOErr, β/ι-reduces the `match` on the constructor that a
  preceding `cases` or `rw` has put in the scrutinee.
-/
import RdfModel.Model.TurtleDocOffsets
import RdfModel.Proofs.C16TtlErase
namespace RdfModel.Proofs.C16TtlDocO
open RdfModel RdfModel.TW RdfModel.NQO RdfModel.TtlDoc RdfModel.TtlDocO RdfModel.Proofs.C16Ttl

-- (also `Proofs.C16.runes_nil`, Proofs/C16TW; `runes_cons` is cited from there)
@[simp] theorem runes_nil : runes ([] : List RP) = [] := rfl

theorem matchKwO_erase : ∀ (ks : List (Nat × Nat)) (inp acc : List RP),
    (matchKwO ks inp acc).erase = matchKw ks (runes inp)
  | [], inp, acc => by simp [matchKwO, matchKw, KwO.erase]
  | (u, l) :: ks, [], acc => by simp [matchKwO, matchKw, KwO.erase]
  | (u, l) :: ks, c :: rest, acc => by
    simp only [matchKwO, matchKw, C16.runes_cons]
    split
    · exact matchKwO_erase ks rest (c :: acc)
    · rfl

/-- `Ttl.matchKeyword` in terms of `KwO`. -/
def kwOpt : KwO → Option (Option (List Nat))
  | .ok _ rest => some (some (runes rest))
  | .mismatch _ _ => some none
  | .eoi _ => none

theorem matchKeywordO_erase (e : End) : ∀ (ks : List Nat) (inp acc : List RP),
    kwOpt (matchKeywordO ks inp acc) = Ttl.matchKeyword e ks (runes inp)
  | [], inp, acc => by simp [matchKeywordO, Ttl.matchKeyword, kwOpt]
  | k :: ks, [], acc => by simp [matchKeywordO, Ttl.matchKeyword, kwOpt]
  | k :: ks, c :: rest, acc => by
    simp only [matchKeywordO, Ttl.matchKeyword, C16.runes_cons]
    split
    · exact matchKeywordO_erase e ks rest (c :: acc)
    · rfl

theorem scanBooleanO_erase (e : End) (inp : List RP) :
    (scanBooleanO inp).erase e = Ttl.scanBoolean e (runes inp) := by
  cases inp with
  | nil => rfl
  | cons c rest =>
    simp only [scanBooleanO, Ttl.scanBoolean, C16.runes_cons]
    split
    · rw [← matchKeywordO_erase e (asc "rue") rest []]
      cases matchKeywordO (asc "rue") rest [] <;> rfl
    · split
      · rw [← matchKeywordO_erase e (asc "alse") rest []]
        cases matchKeywordO (asc "alse") rest [] <;> rfl
      · rfl

theorem iriIRIREFO_erase (C : CfgO) (e : End) (env : Env) (s : S) (inp : List RP) :
    (iriIRIREFO C e env s inp).erase = iriIRIREF C.base e env (runes inp) := by
  unfold iriIRIREFO iriIRIREF
  show _ = match Ttl.produceIRIREF C.T e (runes inp) with
    | .panic => IriRes.panic
    | .err c => .err (ofTok c)
    | .ok v rest => match resolveIRI C.base env v with
      | none => .err .resolve
      | some i => .ok i rest
  rw [← produceIRIREF_erase C.T e s inp]
  cases TtlO.produceIRIREF C.T e s inp with
  | panic => rfl
  | err c o => rfl
  | ok v rg s' rest =>
    simp only [TtlO.RO.erase]
    cases resolveIRI C.base env v <;> rfl

theorem iriPNameO_erase (C : CfgO) (e : End) (env : Env) (s : S) (inp : List RP) :
    (iriPNameO C e env s inp).erase = iriPName C.base e env (runes inp) := by
  unfold iriPNameO iriPName
  show _ = match Ttl.producePrefixedName C.T e (runes inp) with
    | .panic => IriRes.panic
    | .err c => .err (ofTok c)
    | .ok (ns, loc) rest => match env.expand ns loc with
      | none => .err .pfx
      | some i => .ok i rest
  rw [← producePrefixedName_erase C.T e C.trig s inp]
  cases TtlO.producePrefixedName C.T e C.trig s inp with
  | panic => rfl
  | err c o => rfl
  | ok v rg s' rest =>
    obtain ⟨ns, loc⟩ := v
    simp only [TtlO.RO.erase]
    cases env.expand ns loc <;> rfl

theorem toTerm_erase (env : Env) (r : IriResO) : (r.toTerm env).erase = (r.erase).toTerm env := by
  cases r <;> rfl

theorem termIRIREFO_erase (C : CfgO) (e : End) (env : Env) (s : S) (inp : List RP) :
    (termIRIREFO C e env s inp).erase = termIRIREF C.base e env (runes inp) := by
  unfold termIRIREFO termIRIREF; rw [toTerm_erase, iriIRIREFO_erase]

theorem termPNameO_erase (C : CfgO) (e : End) (env : Env) (s : S) (inp : List RP) :
    (termPNameO C e env s inp).erase = termPName C.base e env (runes inp) := by
  unfold termPNameO termPName; rw [toTerm_erase, iriPNameO_erase]

theorem termBNodeO_erase (C : CfgO) (e : End) (env : Env) (s : S) (inp : List RP) :
    (termBNodeO C e env s inp).erase = termBNode C.base e env (runes inp) := by
  unfold termBNodeO termBNode
  show _ = match Ttl.produceBlankNode C.T e (runes inp) with
    | .panic => TermRes.panic
    | .err c => .err (ofTok c)
    | .ok l rest => .ok (env.labelled l).1 rest (env.labelled l).2
  rw [← produceBlankNode_erase C.T e false s inp]
  cases TtlO.produceBlankNode C.T e false s inp <;> rfl

theorem erase_tok {p : TtlO.RO (List Nat)} {p' : Ttl.Res (List Nat)} {f : List Nat → Rg → S → List RP → FnResO}
    {g : List Nat → List Nat → FnRes} : p.erase = p' → (∀ v rg s r, (f v rg s r).erase = g v (runes r)) →
    (match p with
      | .panic => FnResO.panic
      | .err k o => .err (ofTok k) o
      | .ok v rg s r => f v rg s r).erase
    = match p' with
      | .panic => FnRes.panic
      | .err k => .err (ofTok k)
      | .ok v r => g v r := by
  rintro rfl h
  cases p with
  | panic => rfl
  | err k o => rfl
  | ok v rg s r => exact h v rg s r

theorem erase_iri {p : IriResO} {p' : IriRes} {f : List Nat → Rg → S → List RP → FnResO}
    {g : List Nat → List Nat → FnRes} : p.erase = p' → (∀ i rg s r, (f i rg s r).erase = g i (runes r)) →
    (match p with
      | .panic => FnResO.panic
      | .err k o => .err k o
      | .ok i rg s r => f i rg s r).erase
    = match p' with
      | .panic => FnRes.panic
      | .err k => .err k
      | .ok i r => g i r := by
  rintro rfl h
  cases p with
  | panic => rfl
  | err k o => rfl
  | ok i rg s r => exact h i rg s r

theorem subjectTailO_erase (x : EctxO) (t : T) (rg : Rg) (s : S) (inp : List RP) (env : Env) :
    (subjectTailO x t rg s inp env).erase = subjectTail x.x t (runes inp) env := rfl

theorem labelOrSubjectO_erase (x : EctxO) (r : TermResO) :
    (labelOrSubjectO x r).erase = labelOrSubject x.x r.erase := by cases r <;> rfl

theorem subjectOfO_erase (x : EctxO) (r : TermResO) :
    (subjectOfO x r).erase = subjectOf x.x r.erase := by cases r <;> rfl

variable (C : CfgO) (e : End) (x : EctxO) (env : Env) (s : S) (c : RP) (rest : List RP)

theorem kwFallbackO_erase (inp : List RP) :
    (kwFallbackO C e x env s inp).erase = kwFallback C.base e x.x env (runes inp) :=
  C16.map_ite (fun _ => by rw [labelOrSubjectO_erase, termPNameO_erase]) fun _ => rfl

theorem withSelfO_erase (x : EctxO) (r : FnResO) : (withSelfO x r).erase = withSelf x.x r.erase := by
  cases r <;> rfl

theorem stepWrappedGraphO_erase (dbl : Bool) (a : ArgO) :
    (stepWrappedGraphO dbl e x env s a).erase = stepWrappedGraph e x.x env a.erase := by
  cases a with
  | fail => rfl
  | rune c rest => exact C16.map_ite (fun _ => rfl) fun _ => rfl

theorem stepAtDirectiveO_erase :
    (stepAtDirectiveO e x env s c rest).erase = stepAtDirective e x.x env (runes rest) := by
  cases rest with
  | nil => rfl
  | cons r1 rest1 =>
    simp only [stepAtDirectiveO, stepAtDirective, C16.runes_cons]
    split
    · rw [← matchKwO_erase (kwExact "ase") rest1 []]
      cases matchKwO (kwExact "ase") rest1 [] <;> rfl
    · split
      · rw [← matchKwO_erase (kwExact "refix") rest1 []]
        cases matchKwO (kwExact "refix") rest1 [] <;> rfl
      · rfl

theorem stepKwBaseO_erase :
    (stepKwBaseO C e x env s c rest).erase = stepKwBase C.base e x.x env c.1 (runes rest) := by
  simp only [stepKwBaseO, stepKwBase]
  rw [← matchKwO_erase (kwCI "ASE") rest []]
  cases matchKwO (kwCI "ASE") rest [] with
  | eoi rd => rfl
  | mismatch rd c' => simp only [KwO.erase]; rw [kwFallbackO_erase]; rfl
  | ok rd r =>
    simp only [KwO.erase]
    cases r with
    | nil => rfl
    | cons r4 rest4 =>
      simp only [C16.runes_cons]
      split
      · rfl
      · show _ = if (!C.isSpace r4.1) = true then _ else _
        split
        · rw [kwFallbackO_erase]; rfl
        · rfl

theorem stepKwSpaceO_erase (kw : List (Nat × Nat)) (k : Cont) :
    (stepKwSpaceO C e x env s kw k c rest).erase = stepKwSpace C.base e x.x env kw k c.1 (runes rest) := by
  simp only [stepKwSpaceO, stepKwSpace]
  rw [← matchKwO_erase kw rest []]
  cases matchKwO kw rest [] with
  | eoi rd => rfl
  | mismatch rd c' => simp only [KwO.erase]; rw [kwFallbackO_erase]; rfl
  | ok rd r =>
    simp only [KwO.erase]
    cases r with
    | nil => rfl
    | cons r6 rest6 =>
      simp only [C16.runes_cons]
      show _ = if (!C.isSpace r6.1) = true then _ else _
      split
      · rw [kwFallbackO_erase]; rfl
      · rfl

theorem stepSubjectStartO_erase :
    (stepSubjectStartO C e x env s c rest).erase = stepSubjectStart C.base e x.x env c.1 (runes rest) := by
  have lab (r : TermResO) (r' : TermRes) (h : r.erase = r') : (labelOrSubjectO x r).erase = labelOrSubject x.x r' :=
    h ▸ labelOrSubjectO_erase x r
  exact C16.map_ite (fun _ => C16.map_ite (fun _ => lab _ _ (termIRIREFO_erase ..)) fun _ => rfl) fun _ =>
    C16.map_ite (fun _ => C16.map_ite (fun _ => lab _ _ (termBNodeO_erase ..)) fun _ => rfl) fun _ =>
    C16.map_ite (fun _ => C16.map_ite (fun _ => rfl) fun _ => rfl) fun _ =>
    C16.map_ite (fun _ => rfl) fun _ =>
    C16.map_ite (fun _ => C16.map_ite (fun _ => lab _ _ (termPNameO_erase ..)) fun _ => rfl) fun _ => rfl

theorem stepStatementRuneO_erase :
    (stepStatementRuneO C e x env s c rest).erase = stepStatementRune C.base e x.x env c.1 (runes rest) := by
  exact C16.map_ite (fun _ => stepAtDirectiveO_erase e x env s c rest) fun _ =>
    C16.map_ite (fun _ => stepKwBaseO_erase C e x env s c rest) fun _ =>
    C16.map_ite (fun _ => stepKwSpaceO_erase C e x env s c rest _ _) fun _ =>
    C16.map_ite (fun _ => stepKwSpaceO_erase C e x env s c rest _ _) fun _ =>
    C16.map_ite (fun _ => stepWrappedGraphO_erase e x env s C.dbl (.rune c rest)) fun _ =>
    stepSubjectStartO_erase C e x env s c rest

theorem stepCollectionO_erase (o : T) (org : Rg) :
    (stepCollectionO x env s c rest o org).erase = stepCollection x.x env c.1 (runes rest) o := by
  refine C16.map_ite (fun _ => rfl) fun _ => ?_
  cases h : x.x.subj <;> rfl

theorem polGoO_erase (x : EctxO) (p : T) (prg : Rg) (s : S) (inp : List RP) (env : Env) :
    (polGoO x p prg s inp env).erase = polGo x.x p (runes inp) env := rfl

theorem polOfTermO_erase (x : EctxO) (r : TermResO) : (polOfTermO x r).erase = polOfTerm x.x r.erase := by
  cases r <;> rfl

theorem stepPOLO_erase :
    (stepPOLO C e x env s c rest).erase = stepPOL C.base e x.x env c.1 (runes rest) := by
  have pol (r : TermResO) (r' : TermRes) (h : r.erase = r') : (polOfTermO x r).erase = polOfTerm x.x r' :=
    h ▸ polOfTermO_erase x r
  refine C16.map_ite (fun _ => pol _ _ (termIRIREFO_erase ..)) fun _ => C16.map_ite (fun _ => ?_) fun _ =>
    C16.map_ite (fun _ => pol _ _ (termPNameO_erase ..)) fun _ => rfl
  cases rest with
  | nil => rfl
  | cons r1 rest1 => exact C16.map_ite (fun _ => pol _ _ (termPNameO_erase ..)) fun _ => rfl

theorem emitOfTermO_erase (x : EctxO) (r : TermResO) : (emitOfTermO x r).erase = emitOfTerm x.x r.erase := by
  cases r <;> rfl

theorem emitOfNumericO_erase (x : EctxO) (env : Env) (r : TtlO.RO (Ttl.NumKind × List Nat)) :
    (emitOfNumericO x env r).erase = emitOfNumeric x.x env r.erase := by
  cases r with
  | ok v rg s rest => obtain ⟨k, l⟩ := v; rfl
  | err c o => rfl
  | panic => rfl

theorem stepLiteralTailO_erase (lex : List Nat) (lrg : Rg) :
    (stepLiteralTailO C e x env lex lrg s rest).erase = stepLiteralTail C.base e x.x env lex (runes rest) := by
  cases rest with
  | nil => rfl
  | cons c rest0 =>
    refine C16.map_ite (fun _ => ?_) fun _ => C16.map_ite (fun _ => ?_) fun _ => rfl
    · exact erase_tok (produceLANGTAG_erase e s (c :: rest0)) fun _ _ _ _ => by rfl
    · cases rest0 with
      | nil => rfl
      | cons c1 rest1 =>
        refine C16.map_ite (fun _ => rfl) fun _ => ?_
        cases rest1 with
        | nil => rfl
        | cons c2 rest2 =>
          refine erase_iri ?_ fun _ _ _ _ => by exact C16.map_ite (fun _ => rfl) fun _ => rfl
          rw [apply_ite IriResO.erase, iriIRIREFO_erase, iriPNameO_erase]; rfl

theorem stepObjectO_erase :
    (stepObjectO C e x env s c rest).erase = stepObject C.base e x.x env c.1 (runes rest) := by
  have emit (r : TermResO) (r' : TermRes) (h : r.erase = r') : (emitOfTermO x r).erase = emitOfTerm x.x r' :=
    h ▸ emitOfTermO_erase x r
  have num : (emitOfNumericO x env (TtlO.produceNumericLiteral e s (c :: rest))).erase
      = emitOfNumeric x.x env (C.base.P.numeric e (c.1 :: runes rest)) := by
    rw [emitOfNumericO_erase, produceNumericLiteral_erase]; rfl
  refine C16.map_ite (fun _ => emit _ _ (termIRIREFO_erase ..)) fun _ =>
    C16.map_ite (fun _ => emit _ _ (termBNodeO_erase ..)) fun _ =>
    C16.map_ite (fun _ => rfl) fun _ => C16.map_ite (fun _ => rfl) fun _ =>
    C16.map_ite (fun _ => ?str) fun _ => C16.map_ite (fun _ => C16.map_ite (fun _ => ?dot) fun _ => num) fun _ =>
    C16.map_ite (fun _ => ?bool) fun _ => C16.map_ite (fun _ => rfl) fun _ => rfl
  case str =>
    exact erase_tok (produceString_erase C.T e false s (c :: rest)) fun lex lrg s' r => by
      exact stepLiteralTailO_erase C e x env s' r lex lrg
  case dot =>
    cases rest with
    | nil => rfl
    | cons r1 rest1 => exact C16.map_ite (fun _ => rfl) fun _ => num
  case bool =>
    show FnResO.erase (match scanBooleanO (c :: rest) with | .err rd => _ | .other => _ | .bool b rd r => _) =
      match Ttl.scanBoolean e (runes (c :: rest)) with | .err k => _ | .other => _ | .bool b r => _
    rw [← scanBooleanO_erase e (c :: rest)]
    cases scanBooleanO (c :: rest) with
    | other => rfl
    | bool b rd r => rfl
    | err rd => cases e <;> rfl

theorem stepTriplesO_erase :
    (stepTriplesO C x env s c rest).erase = stepTriples C.base x.x env c.1 (runes rest) := by
  exact C16.map_ite (fun _ => rfl) fun _ => C16.map_ite (fun _ => rfl) fun _ => C16.map_ite (fun _ => rfl) fun _ =>
    C16.map_ite (fun _ => rfl) fun _ => C16.map_ite (fun _ => rfl) fun _ => rfl

theorem orNul_erase (a : ArgO) : a.erase.orNul = (a.orNul.1.1, runes a.orNul.2) := by
  cases a <;> rfl

theorem stepParenO_erase (top : Bool) (bn : T) (rg : Rg) (a : ArgO) :
    (stepParenO top x env bn rg s a).erase = stepParen top x.x env bn a.erase := by
  have h := orNul_erase a
  unfold stepParenO stepParen
  rw [h]
  refine C16.map_ite (fun _ => ?_) fun _ => ?_ <;> cases top <;> rfl

theorem iriDirective_erase
    (f : List Nat → S → List RP → FnResO) (g : List Nat → List Nat → FnRes)
    (hfg : ∀ b s' r, (f b s' r).erase = g b (runes r)) :
    (match TtlO.produceIRIREF C.T e s (c :: rest) with
      | .panic => FnResO.panic
      | .err t o => .err (ofTok t) o
      | .ok v rg s' r =>
        match resolveURL C.base env v with
        | none => .err .resolve (rangeErr rg)
        | some b => f b s' r).erase
    = match C.base.P.iriref e (c.1 :: runes rest) with
      | .panic => FnRes.panic
      | .err t => .err (ofTok t)
      | .ok v r =>
        match resolveURL C.base env v with
        | none => .err .resolve
        | some b => g b r :=
  erase_tok (produceIRIREF_erase C.T e s (c :: rest)) fun v _ s' r => by
    cases resolveURL C.base env v with
    | none => rfl
    | some b => exact hfg b s' r

theorem stepFnO_erase_rune (k : Cont) (r : Rg) (c : RP) (rest : List RP) :
    (stepFnO C e k r x env s (.rune c rest)).erase = stepFn C.base e k x.x env (.rune c.1 (runes rest)) := by
  have two {c : Prop} [Decidable c] {a b : FnResO} {a' b' : FnRes} (ha : a.erase = a') (hb : b.erase = b') :
      (if c then a else b).erase = if c then a' else b' := C16.map_ite (fun _ => ha) fun _ => hb
  cases k with
  | statement => exact (withSelfO_erase ..).trans (congrArg _ (stepStatementRuneO_erase ..))
  | atBaseIRI | sparqlBaseIRI | atPrefixIRI ns' | sparqlPrefixIRI ns' =>
    exact iriDirective_erase C e env s c rest _ _ fun _ _ _ => rfl
  | atPrefixNS | sparqlPrefixNS => exact erase_tok (producePNAME_NS_erase C.T e C.trig s (c :: rest)) fun _ _ _ _ => by rfl
  | atBaseDot _ | atPrefixDot _ _ | subjAnonOrBNPL | polContinue | objListContinue | collContinue | bnplEnd
  | wrappedGraphEnd | triplesBlock | triples2BNPL | graphAnonClose | tgBracket _ => exact two rfl rfl
  | triplesEnd => exact C16.map_ite (fun _ => rfl) fun _ => by cases C.trig <;> rfl
  | triplesBlockQuest => exact two rfl (two rfl rfl)
  | subjIRIREF => exact (subjectOfO_erase ..).trans (congrArg _ (termIRIREFO_erase ..))
  | subjPName => exact (subjectOfO_erase ..).trans (congrArg _ (termPNameO_erase ..))
  | subjBNode => exact (subjectOfO_erase ..).trans (congrArg _ (termBNodeO_erase ..))
  | pol => exact stepPOLO_erase C e x env s c rest
  | polRequired =>
    show FnResO.erase (match stepPOLO C e x env s c rest with | .ok o => _ | r => r) = _
    simp only [stepFn]
    rw [← stepPOLO_erase C e x env s c rest]
    cases stepPOLO C e x env s c rest with
    | panic => rfl
    | err k o => rfl
    | ok o =>
      simp only [FnResO.erase]
      cases h : o.cur <;> simp [OutO.erase, h]
  | object => exact stepObjectO_erase C e x env s c rest
  | objectPName => exact (emitOfTermO_erase ..).trans (congrArg _ (termPNameO_erase ..))
  | collOpenObj => exact stepCollectionO_erase x _ s c rest _ r
  | collOpenSubj o => exact stepCollectionO_erase x env s _ _ o r
  | parenTop bn => exact stepParenO_erase x env s true bn r (.rune c rest)
  | parenBlock bn => exact stepParenO_erase x env s false bn r (.rune c rest)
  | graphLabel =>
    refine C16.map_ite (fun _ => rfl) fun _ => ?_
    have hTr : (if c.1 = 0x5f then termBNodeO C e env s (c :: rest)
          else if c.1 = 0x3c then termIRIREFO C e env s (c :: rest) else termPNameO C e env s (c :: rest)).erase
        = if c.1 = 0x5f then termBNode C.base e env (c.1 :: runes rest)
          else if c.1 = 0x3c then termIRIREF C.base e env (c.1 :: runes rest)
          else termPName C.base e env (c.1 :: runes rest) := by
      rw [apply_ite TermResO.erase, apply_ite TermResO.erase, termBNodeO_erase, termIRIREFO_erase, termPNameO_erase]; rfl
    show FnResO.erase (match (if c.1 = 0x5f then _ else _ : TermResO) with | .panic => _ | .err t o => _ | .ok g rg s' rr env' => _) =
      match (if c.1 = 0x5f then _ else _ : TermRes) with | .panic => _ | .err t => _ | .ok g rr env' => _
    rw [← hTr]
    generalize (if c.1 = 0x5f then termBNodeO C e env s (c :: rest)
          else if c.1 = 0x3c then termIRIREFO C e env s (c :: rest) else termPNameO C e env s (c :: rest)) = tr
    cases tr <;> rfl
  | wrappedGraph => exact stepWrappedGraphO_erase e x env s C.dbl (.rune c rest)
  | triples => exact stepTriplesO_erase C x env s c rest
  | tgE1 v => exact C16.map_ite (fun _ => rfl) fun _ => by cases v <;> rfl

/-- A failed read: the top-level function decides how the run ends, a closure that ignores `err` sees the zero
    rune, every other scan function returns the stream's error — in both machines. -/
theorem stepFnO_erase (k : Cont) (r : Rg) (a : ArgO) :
    (stepFnO C e k r x env s a).erase = stepFn C.base e k x.x env a.erase := by
  cases a with
  | rune c rest => exact stepFnO_erase_rune C e x env s k r c rest
  | fail =>
    cases k with
    | collOpenSubj o => exact stepFnO_erase_rune C e x env s (.collOpenSubj o) r (0, 0) []
    | tgE1 v => exact stepFnO_erase_rune C e x env s (.tgE1 v) r (0, 0) []
    | _ => first | rfl | (cases e <;> rfl)

theorem skipWsO_erase (C : CfgO) (e : End) : ∀ (inp : List RP) (b : Bool) (s : S) (unc : Chunk),
    (skipWsO C e b s inp unc).erase = skipWs C.base e b (runes inp)
  | [], false, s, unc => rfl
  | [], true, s, unc => by cases e <;> rfl
  | c :: rest, true, s, unc => by
    simp only [skipWsO, skipWs, C16.runes_cons]
    split
    · exact skipWsO_erase C e rest false _ _
    · exact skipWsO_erase C e rest true _ _
  | c :: rest, false, s, unc => by
    simp only [skipWsO, skipWs, C16.runes_cons]
    split
    · exact skipWsO_erase C e rest true _ _
    · split
      · exact skipWsO_erase C e rest false _ _
      · rfl

theorem scanFnO_erase (C : CfgO) (e : End) (f : FrameO) (inp : List RP) (env : Env) (s : S) :
    (scanFnO C e f inp env s).erase = scanFn C.base e f.erase (runes inp) env := by
  unfold scanFnO scanFn
  rw [← skipWsO_erase C e inp false s []]
  cases skipWsO C e false s inp [] with
  | commentIo => rfl
  | end_ s' => exact stepFnO_erase C e f.x env s' f.k f.r .fail
  | rune s' c rest => exact stepFnO_erase C e f.x env s' f.k f.r (.rune c rest)

theorem applyOutO_erase (st : StO) (o : OutO) : (applyOutO st o).erase = applyOut st.erase o.erase := by
  obtain ⟨cur, push, emit, inp, env, s, term⟩ := o
  cases term <;> cases emit <;> simp [applyOutO, applyOut, StO.erase, OutO.erase, List.map_append, List.map_reverse]

def eraseScan : ScanResO → ScanRes
  | .ok cur st => .ok (cur.map FrameO.erase) st.erase
  | .err e _ => .err e
  | .panic => .panic

theorem scanO_erase (C : CfgO) (e : End) (f : FrameO) (st : StO) :
    eraseScan (scanO C e f st) = scan C.base e f.erase st.erase := by
  unfold scanO scan
  show _ = match scanFn C.base e f.erase (runes st.inp) st.env with
    | .panic => ScanRes.panic
    | .err k => .err k
    | .ok o => .ok o.cur (applyOut st.erase o)
  rw [← scanFnO_erase C e f st.inp st.env st.s]
  cases scanFnO C e f st.inp st.env st.s with
  | panic => rfl
  | err k o => rfl
  | ok o => simp only [FnResO.erase, eraseScan, applyOutO_erase]; rfl

def eraseNext : NextResO → NextRes
  | .yes st => .yes st.erase
  | .no st => .no st.erase
  | .panic => .panic
  | .outOfFuel => .outOfFuel

theorem popFrameO_erase (cur : Option FrameO) (st : StO) :
    (popFrameO cur st).map (fun p => (p.1.erase, p.2.erase)) = popFrame (cur.map FrameO.erase) st.erase := by
  cases cur with
  | some f => rfl
  | none =>
    cases h : st.stack with
    | nil => simp [popFrameO, popFrame, StO.erase, h]
    | cons f s => simp [popFrameO, popFrame, StO.erase, h]

theorem pushCurO_erase (cur : Option FrameO) (st : StO) :
    (pushCurO cur st).erase = pushCur (cur.map FrameO.erase) st.erase := by
  cases cur <;> rfl

theorem nextLoopO_erase (C : CfgO) (e : End) : ∀ (fuel : Nat) (cur : Option FrameO) (st : StO),
    eraseNext (nextLoopO C e fuel cur st) = nextLoop C.base e fuel (cur.map FrameO.erase) st.erase
  | 0, _, _ => rfl
  | fuel + 1, cur, st => by
    simp only [nextLoopO, nextLoop]
    have hErr : st.erase.err.isSome = st.err.isSome := by cases h : st.err <;> simp [StO.erase, h]
    have hSt : st.erase.stmts.isEmpty = st.stmts.isEmpty := by cases h : st.stmts <;> simp [StO.erase, h]
    rw [hErr, hSt]
    split
    · rfl
    · split
      · simp only [eraseNext, pushCurO_erase]
      · have hp := popFrameO_erase cur st
        cases hq : popFrameO cur st with
        | none => rw [hq] at hp; rw [← hp]; rfl
        | some p =>
          obtain ⟨f, st1⟩ := p
          rw [hq] at hp; rw [← hp]
          simp only [Option.map_some]
          rw [← scanO_erase C e f st1]
          cases scanO C e f st1 with
          | panic => rfl
          | err k o => simp only [eraseScan]; exact nextLoopO_erase C e fuel none _
          | ok cur' st2 => simp only [eraseScan]; exact nextLoopO_erase C e fuel cur' st2

theorem nextO_erase (C : CfgO) (e : End) (st : StO) : eraseNext (nextO C e st) = TtlDoc.next C.base e st.erase := by
  unfold nextO TtlDoc.next
  have h : ({ st with stmts := st.stmts.drop 1 } : StO).erase = { st.erase with stmts := st.erase.stmts.drop 1 } := by
    simp [StO.erase]
  simp only []
  rw [← h]
  exact nextLoopO_erase C e _ none _

def eraseRun (r : RunO) : List Stmt × Verdict := (r.stmts.map (·.st), r.verdict)

theorem runLoopO_erase (C : CfgO) (e : End) : ∀ (n : Nat) (st : StO),
    eraseRun (runLoopO C e n st) = runLoop C.base e n st.erase
  | 0, _ => rfl
  | n + 1, st => by
    simp only [runLoopO, runLoop]
    rw [← nextO_erase C e st]
    cases nextO C e st with
    | panic => rfl
    | outOfFuel => rfl
    | no st' =>
      simp only [eraseNext]
      cases h : st'.err with
      | none => simp [eraseRun, StO.erase, h]
      | some p => obtain ⟨k, o⟩ := p; simp [eraseRun, StO.erase, h]
    | yes st' =>
      simp only [eraseNext]
      cases h : st'.stmts with
      | nil => simp [eraseRun, StO.erase, h]
      | cons s ss =>
        have h' : st'.erase.stmts = s.st :: ss.map (·.st) := by simp [StO.erase, h]
        rw [h']
        simp only []
        rw [← runLoopO_erase C e n st']
        rfl

theorem runO_erase (C : CfgO) (e : End) (capture : Bool) (base : Option (List Nat))
    (prefixes : List (List Nat × List Nat)) (inp : List RP) :
    eraseRun (runO C e capture base prefixes inp) = run C.base e base prefixes (runes inp) := by
  unfold runO TtlDoc.run
  have h : (initO capture base prefixes inp).erase = init base prefixes (runes inp) := rfl
  simp only []
  rw [← h]
  exact runLoopO_erase C e _ _

end RdfModel.Proofs.C16TtlDocO
