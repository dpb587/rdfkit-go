/-
  Nested-resource mode as a printed abstract document, list level: object lists
  (`o1 , o2`), predicate-object lists (`v os ; v os`) and collection items, with the encoder's layout
  (`lead`: a space or a line feed and tabs before every element) put into the slot of the token before.
-/
import RdfModel.Proofs.C02DocNestObj
namespace RdfModel.Proofs.C02Doc
open RdfModel RdfModel.Ttl RdfModel.TtlEnc RdfModel.C02 RdfModel.Desc RdfModel.Spec.TtlPrint

variable {T : Tables} {β : Type}

theorem noGlue_default : noGlue [({} : TA.Slot)] := by
  intro s hs
  simp only [List.mem_singleton] at hs
  subst hs
  rfl

theorem after_tok (k : TA.Prev) (cs : List Choice) (t : List Nat) (h : WS t) (hne : t ≠ []) (rest : List Nat) :
    TA.after T k (tokSlot cs t) rest = t ++ rest := after_ws k _ t h hne rfl rest

/-- a written statement in object position: the abstract object with its slots (as a function of the white space after
    it) and its text, the statement it stands for, the prefixes used, whether it spans lines -/
structure SItem (β : Type) where
  x : TA.Obj
  sl : List Nat → List TA.Slot
  text : List Nat
  s' : Stmt β
  used : List (List Nat)
  multi : Bool

def objsSl (ld : List Nat) : List (SItem β) → List Nat → List TA.Slot
  | [], _ => []
  | [o], t => o.sl t ++ [{}]
  | o :: o2 :: os, t => o.sl [sp] ++ tokSlot [] ld :: objsSl ld (o2 :: os) t

def objsBody (ld : List Nat) : List (SItem β) → List Nat
  | [] => []
  | [o] => o.text
  | o :: o2 :: os => o.text ++ sp :: 0x2c :: (ld ++ objsBody ld (o2 :: os))

theorem objsSl_len (ld : List Nat) : ∀ (os : List (SItem β)), (∀ o ∈ os, ObjSyn T o.x o.sl o.text) → ∀ t,
    (objsSl ld os t).length = TA.objsSlots (os.map (·.x))
  | [], _, _ => rfl
  | [o], h, t => by
    simp [objsSl, TA.objsSlots, (h o List.mem_cons_self).len]
  | o :: o2 :: os, h, t => by
    have ih := objsSl_len ld (o2 :: os) (fun x hx => h x (List.mem_cons_of_mem _ hx)) t
    simp only [objsSl, List.length_append, List.length_cons, (h o List.mem_cons_self).len, ih, List.map_cons,
      TA.objsSlots]
    omega

theorem objsSl_ng (ld : List Nat) : ∀ (os : List (SItem β)), (∀ o ∈ os, ObjSyn T o.x o.sl o.text) → ∀ t,
    noGlue (objsSl ld os t)
  | [], _, _ => noGlue_nil
  | [o], h, t => by
    simp only [objsSl]
    exact noGlue_append.2 ⟨(h o List.mem_cons_self).ng t, noGlue_default⟩
  | o :: o2 :: os, h, t => by
    have ih := objsSl_ng ld (o2 :: os) (fun x hx => h x (List.mem_cons_of_mem _ hx)) t
    simp only [objsSl]
    exact noGlue_append.2 ⟨(h o List.mem_cons_self).ng _, noGlue_cons.2 ⟨rfl, ih⟩⟩

theorem objs_print (ld : List Nat) (hld : WS ld) (hne : ld ≠ []) : ∀ (os : List (SItem β)),
    (∀ o ∈ os, ObjSyn T o.x o.sl o.text) → os ≠ [] →
    ∀ (ch : TA.Choices) (i : Nat) (t rest : List Nat), WS t → t ≠ [] → Agree ch i (objsSl ld os t) →
      TA.pObjs ⟨T, ch⟩ i (os.map (·.x)) rest = objsBody ld os ++ (t ++ rest)
  | [], _, h, _, _, _, _, _, _, _ => absurd rfl h
  | [o], h, _, ch, i, t, rest, ht, htn, hag => by
    simp only [objsSl] at hag
    simp only [List.map_cons, List.map_nil, TA.pObjs, objsBody]
    exact (h o List.mem_cons_self).pr ch i t rest ht htn (agree_append.1 hag).1
  | o :: o2 :: os, h, _, ch, i, t, rest, ht, htn, hag => by
    have ho := h o List.mem_cons_self
    simp only [objsSl] at hag
    obtain ⟨h1, h2⟩ := agree_append.1 hag
    obtain ⟨h2, h3⟩ := agree_cons.1 h2
    rw [ho.len] at h2 h3
    have ih := objs_print ld hld hne (o2 :: os) (fun x hx => h x (List.mem_cons_of_mem _ hx)) (by simp) ch
      (i + TA.objSlots o.x + 1) t rest ht htn h3
    simp only [List.map_cons] at ih ⊢
    simp only [TA.pObjs, objsBody]
    rw [ho.pr ch i [sp] _ ws_sp.1 ws_sp.2 h1, ih]
    simp only [TA.pPunct, h2, after_tok _ _ ld hld hne]
    simp

theorem itemsWf_of (T : Tables) : ∀ (os : List TA.Obj), (∀ o ∈ os, C08.objWf T o = true) → C08.itemsWf T os = true
  | [], _ => rfl
  | o :: os, h => by
    simp [C08.itemsWf, h o List.mem_cons_self, itemsWf_of T os (fun x hx => h x (List.mem_cons_of_mem _ hx))]

theorem itemsNoBool_of : ∀ (os : List TA.Obj), (∀ o ∈ os, C08.objNoBoolPfx o = true) → C08.itemsNoBoolPfx os = true
  | [], _ => rfl
  | o :: os, h => by
    simp [C08.itemsNoBoolPfx, h o List.mem_cons_self, itemsNoBool_of os (fun x hx => h x (List.mem_cons_of_mem _ hx))]

theorem joinSep_objs (ld : List Nat) : ∀ (os : List (SItem β)), os ≠ [] →
    joinSep [sp, 0x2c] (os.map (fun o => ld ++ o.text)) = ld ++ objsBody ld os
  | [], h => absurd rfl h
  | [o], _ => rfl
  | o :: o2 :: os, _ => by
    have ih := joinSep_objs ld (o2 :: os) (by simp)
    simp only [List.map_cons] at ih ⊢
    simp only [joinSep, objsBody, ih]
    simp

/-- a written group `verb objectList` with its slots (without the `;` slot) and its text, the statements it stands for,
    the prefixes used, whether it spans lines -/
structure GW (β : Type) where
  po : TA.PO
  sl : List Nat → List TA.Slot
  body : List Nat
  l' : List (Stmt β)
  used : List (List Nat)
  multi : Bool

structure POSyn (T : Tables) (po : TA.PO) (sl : List Nat → List TA.Slot) (body : List Nat) : Prop where
  wf : C08.poWf T po = true
  nb : C08.poNoBoolPfx po = true
  len : ∀ t, (sl t).length + 1 = TA.poSlots po
  ng : ∀ t, noGlue (sl t)
  pr : ∀ (ch : TA.Choices) (i : Nat) (t rest : List Nat), WS t → t ≠ [] → Agree ch i (sl t) →
    TA.pPO ⟨T, ch⟩ i po rest = body ++ (t ++ rest)

theorem po_syn (v : TA.Verb) (csv : List Choice) (vtext : List Nat) (hvwf : C08.verbWf T v = true)
    (hvpr : ∀ (ch : TA.Choices) (i : Nat) (t rest : List Nat), WS t → t ≠ [] → ch.at i = tokSlot csv t →
      TA.pVerb ⟨T, ch⟩ i v rest = vtext ++ (t ++ rest))
    (ld : List Nat) (hld : WS ld) (hne : ld ≠ []) (os : List (SItem β)) (hos : ∀ o ∈ os, ObjSyn T o.x o.sl o.text)
    (hon : os ≠ []) :
    POSyn T (.mk v (os.map (·.x))) (fun t => tokSlot csv ld :: objsSl ld os t) (vtext ++ (ld ++ objsBody ld os)) where
  wf := by
    simp only [C08.poWf, hvwf, Bool.true_and, Bool.and_eq_true, Bool.not_eq_true', List.isEmpty_eq_false_iff, ne_eq,
      List.map_eq_nil_iff]
    refine ⟨hon, itemsWf_of T _ ?_⟩
    intro x hx
    obtain ⟨o, ho, rfl⟩ := List.mem_map.1 hx
    exact (hos o ho).wf
  nb := by
    simp only [C08.poNoBoolPfx]
    refine itemsNoBool_of _ ?_
    intro x hx
    obtain ⟨o, ho, rfl⟩ := List.mem_map.1 hx
    exact (hos o ho).nb
  len := by
    intro t
    simp only [List.length_cons, objsSl_len ld os hos t, TA.poSlots]
    omega
  ng := by
    intro t
    exact noGlue_cons.2 ⟨rfl, objsSl_ng ld os hos t⟩
  pr := by
    intro ch i t rest ht htn hag
    obtain ⟨h1, h2⟩ := agree_cons.1 hag
    simp only [TA.pPO]
    rw [hvpr ch i ld _ hld hne h1, objs_print ld hld hne os hos hon ch (i + 1) t rest ht htn h2]
    simp

def posSl (ld : List Nat) : List (GW β) → List Nat → List TA.Slot
  | [], _ => []
  | [g], t => g.sl t ++ [{}]
  | g :: g2 :: gs, t => g.sl [sp] ++ tokSlot [] ld :: posSl ld (g2 :: gs) t

def posBody (ld : List Nat) : List (GW β) → List Nat
  | [] => []
  | [g] => g.body
  | g :: g2 :: gs => g.body ++ sp :: 0x3b :: (ld ++ posBody ld (g2 :: gs))

theorem posSl_len (ld : List Nat) : ∀ (gs : List (GW β)), (∀ g ∈ gs, POSyn T g.po g.sl g.body) → ∀ t,
    (posSl ld gs t).length = TA.posSlots (gs.map (·.po))
  | [], _, _ => rfl
  | [g], h, t => by
    simp [posSl, TA.posSlots, (h g List.mem_cons_self).len]
  | g :: g2 :: gs, h, t => by
    have ih := posSl_len ld (g2 :: gs) (fun x hx => h x (List.mem_cons_of_mem _ hx)) t
    have := (h g List.mem_cons_self).len [sp]
    simp only [posSl, List.length_append, List.length_cons, ih, List.map_cons, TA.posSlots]
    omega

theorem posSl_ng (ld : List Nat) : ∀ (gs : List (GW β)), (∀ g ∈ gs, POSyn T g.po g.sl g.body) → ∀ t, noGlue (posSl ld gs t)
  | [], _, _ => noGlue_nil
  | [g], h, t => by
    simp only [posSl]
    exact noGlue_append.2 ⟨(h g List.mem_cons_self).ng t, noGlue_default⟩
  | g :: g2 :: gs, h, t => by
    have ih := posSl_ng ld (g2 :: gs) (fun x hx => h x (List.mem_cons_of_mem _ hx)) t
    simp only [posSl]
    exact noGlue_append.2 ⟨(h g List.mem_cons_self).ng _, noGlue_cons.2 ⟨rfl, ih⟩⟩

theorem pos_print (ld : List Nat) (hld : WS ld) (hne : ld ≠ []) : ∀ (gs : List (GW β)),
    (∀ g ∈ gs, POSyn T g.po g.sl g.body) → gs ≠ [] →
    ∀ (ch : TA.Choices) (i : Nat) (t rest : List Nat), WS t → t ≠ [] → Agree ch i (posSl ld gs t) →
      TA.pPOs ⟨T, ch⟩ i (gs.map (·.po)) rest = posBody ld gs ++ (t ++ rest)
  | [], _, h, _, _, _, _, _, _, _ => absurd rfl h
  | [g], h, _, ch, i, t, rest, ht, htn, hag => by
    have hg := h g List.mem_cons_self
    simp only [posSl] at hag
    obtain ⟨h1, h2⟩ := agree_append.1 hag
    have h2 := agree_one h2
    have hl := hg.len t
    have hidx : i + TA.poSlots g.po - 1 = i + (g.sl t).length := by omega
    simp only [List.map_cons, List.map_nil, TA.pPOs, posBody, hidx, h2]
    simp only [TA.semis]
    exact hg.pr ch i t rest ht htn h1
  | g :: g2 :: gs, h, _, ch, i, t, rest, ht, htn, hag => by
    have hg := h g List.mem_cons_self
    simp only [posSl] at hag
    obtain ⟨h1, h2⟩ := agree_append.1 hag
    obtain ⟨h2, h3⟩ := agree_cons.1 h2
    have hl := hg.len [sp]
    have hidx : i + TA.poSlots g.po - 1 = i + (g.sl [sp]).length := by omega
    have hidx2 : i + (g.sl [sp]).length + 1 = i + TA.poSlots g.po := by omega
    rw [hidx2] at h3
    have ih := pos_print ld hld hne (g2 :: gs) (fun x hx => h x (List.mem_cons_of_mem _ hx)) (by simp) ch
      (i + TA.poSlots g.po) t rest ht htn h3
    simp only [List.map_cons] at ih ⊢
    simp only [TA.pPOs, posBody, hidx, h2]
    have hn : (tokSlot [] ld).n = 0 := rfl
    simp only [hn, Nat.zero_mod, Nat.add_zero, TA.semis, TA.pPunct, h2, after_tok _ _ ld hld hne]
    rw [hg.pr ch i [sp] _ ws_sp.1 ws_sp.2 h1, ih]
    simp

theorem posWf_of (T : Tables) : ∀ (pos : List TA.PO), (∀ po ∈ pos, C08.poWf T po = true) → C08.posWf T pos = true
  | [], _ => rfl
  | po :: pos, h => by
    simp [C08.posWf, h po List.mem_cons_self, posWf_of T pos (fun x hx => h x (List.mem_cons_of_mem _ hx))]

theorem posNoBool_of : ∀ (pos : List TA.PO), (∀ po ∈ pos, C08.poNoBoolPfx po = true) → C08.posNoBoolPfx pos = true
  | [], _ => rfl
  | po :: pos, h => by
    simp [C08.posNoBoolPfx, h po List.mem_cons_self, posNoBool_of pos (fun x hx => h x (List.mem_cons_of_mem _ hx))]

theorem joinSep_pos (ld : List Nat) : ∀ (gs : List (GW β)), gs ≠ [] →
    joinSep [sp, 0x3b] (gs.map (fun g => ld ++ g.body)) = ld ++ posBody ld gs
  | [], h => absurd rfl h
  | [g], _ => rfl
  | g :: g2 :: gs, _ => by
    have ih := joinSep_pos ld (g2 :: gs) (by simp)
    simp only [List.map_cons] at ih ⊢
    simp only [joinSep, posBody, ih]
    simp

/-- what a whole predicate-object list is printed as -/
structure POsSyn (T : Tables) (pos : List TA.PO) (sl : List Nat → List TA.Slot) (body : List Nat) : Prop where
  ne : pos ≠ []
  wf : C08.posWf T pos = true
  nb : C08.posNoBoolPfx pos = true
  len : ∀ t, (sl t).length = TA.posSlots pos
  ng : ∀ t, noGlue (sl t)
  pr : ∀ (ch : TA.Choices) (i : Nat) (t rest : List Nat), WS t → t ≠ [] → Agree ch i (sl t) →
    TA.pPOs ⟨T, ch⟩ i pos rest = body ++ (t ++ rest)

theorem pos_syn (ld : List Nat) (hld : WS ld) (hne : ld ≠ []) (gs : List (GW β)) (hgs : ∀ g ∈ gs, POSyn T g.po g.sl g.body)
    (hgn : gs ≠ []) : POsSyn T (gs.map (·.po)) (posSl ld gs) (posBody ld gs) where
  ne := by simpa using hgn
  wf := by
    refine posWf_of T _ ?_
    intro x hx
    obtain ⟨g, hg, rfl⟩ := List.mem_map.1 hx
    exact (hgs g hg).wf
  nb := by
    refine posNoBool_of _ ?_
    intro x hx
    obtain ⟨g, hg, rfl⟩ := List.mem_map.1 hx
    exact (hgs g hg).nb
  len := posSl_len ld gs hgs
  ng := posSl_ng ld gs hgs
  pr := pos_print ld hld hne gs hgs hgn

def itemsSl (ld last : List Nat) : List (SItem β) → List TA.Slot
  | [] => []
  | [o] => o.sl last
  | o :: o2 :: os => o.sl ld ++ itemsSl ld last (o2 :: os)

def itemsBody (ld last : List Nat) : List (SItem β) → List Nat
  | [] => []
  | [o] => o.text ++ last
  | o :: o2 :: os => o.text ++ (ld ++ itemsBody ld last (o2 :: os))

theorem itemsSl_len (ld last : List Nat) : ∀ (os : List (SItem β)), (∀ o ∈ os, ObjSyn T o.x o.sl o.text) →
    (itemsSl ld last os).length = TA.itemsSlots (os.map (·.x))
  | [], _ => rfl
  | [o], h => by simp [itemsSl, TA.itemsSlots, (h o List.mem_cons_self).len]
  | o :: o2 :: os, h => by
    have ih := itemsSl_len ld last (o2 :: os) (fun x hx => h x (List.mem_cons_of_mem _ hx))
    simp only [itemsSl, List.length_append, (h o List.mem_cons_self).len, ih, List.map_cons, TA.itemsSlots]

theorem itemsSl_ng (ld last : List Nat) : ∀ (os : List (SItem β)), (∀ o ∈ os, ObjSyn T o.x o.sl o.text) →
    noGlue (itemsSl ld last os)
  | [], _ => noGlue_nil
  | [o], h => (h o List.mem_cons_self).ng _
  | o :: o2 :: os, h => by
    have ih := itemsSl_ng ld last (o2 :: os) (fun x hx => h x (List.mem_cons_of_mem _ hx))
    simp only [itemsSl]
    exact noGlue_append.2 ⟨(h o List.mem_cons_self).ng _, ih⟩

theorem items_print (ld last : List Nat) (hld : WS ld) (hne : ld ≠ []) (hlast : WS last) (hln : last ≠ []) :
    ∀ (os : List (SItem β)), (∀ o ∈ os, ObjSyn T o.x o.sl o.text) → os ≠ [] →
    ∀ (ch : TA.Choices) (i : Nat) (rest : List Nat), Agree ch i (itemsSl ld last os) →
      TA.pItems ⟨T, ch⟩ i (os.map (·.x)) rest = itemsBody ld last os ++ rest
  | [], _, h, _, _, _, _ => absurd rfl h
  | [o], h, _, ch, i, rest, hag => by
    simp only [itemsSl] at hag
    simp only [List.map_cons, List.map_nil, TA.pItems, itemsBody]
    rw [(h o List.mem_cons_self).pr ch i last rest hlast hln hag]
    simp
  | o :: o2 :: os, h, _, ch, i, rest, hag => by
    have ho := h o List.mem_cons_self
    simp only [itemsSl] at hag
    obtain ⟨h1, h2⟩ := agree_append.1 hag
    rw [ho.len] at h2
    have ih := items_print ld last hld hne hlast hln (o2 :: os) (fun x hx => h x (List.mem_cons_of_mem _ hx))
      (by simp) ch (i + TA.objSlots o.x) rest h2
    simp only [List.map_cons] at ih ⊢
    rw [TA.pItems, ho.pr ch i ld _ hld hne h1, ih]
    simp [itemsBody]

theorem flatMap_items (ld last : List Nat) : ∀ (os : List (SItem β)), os ≠ [] →
    os.flatMap (fun o => ld ++ o.text) ++ last = ld ++ itemsBody ld last os
  | [], h => absurd rfl h
  | [o], _ => by simp [itemsBody]
  | o :: o2 :: os, _ => by
    have ih := flatMap_items ld last (o2 :: os) (by simp)
    simp only [List.flatMap_cons, List.append_assoc] at ih ⊢
    simp only [itemsBody, ih]

theorem coll_syn (ld last : List Nat) (hld : WS ld) (hne : ld ≠ []) (hlast : WS last) (hln : last ≠ [])
    (os : List (SItem β)) (hos : ∀ o ∈ os, ObjSyn T o.x o.sl o.text) (hon : os ≠ []) :
    ObjSyn T (.coll (os.map (·.x))) (fun t => tokSlot [] ld :: (itemsSl ld last os ++ [tokSlot [] t]))
      (0x28 :: (ld ++ itemsBody ld last os ++ [0x29])) where
  wf := by
    simp only [C08.objWf]
    refine itemsWf_of T _ ?_
    intro x hx
    obtain ⟨o, ho, rfl⟩ := List.mem_map.1 hx
    exact (hos o ho).wf
  nb := by
    simp only [C08.objNoBoolPfx]
    refine itemsNoBool_of _ ?_
    intro x hx
    obtain ⟨o, ho, rfl⟩ := List.mem_map.1 hx
    exact (hos o ho).nb
  len := by
    intro t
    simp only [List.length_cons, List.length_append, itemsSl_len ld last os hos, TA.objSlots, List.length_nil]
    omega
  ng := by
    intro t
    exact noGlue_cons.2 ⟨rfl, noGlue_append.2 ⟨itemsSl_ng ld last os hos, noGlue_tok _ _⟩⟩
  pr := by
    intro ch i t rest ht htn hag
    obtain ⟨h1, h2⟩ := agree_cons.1 hag
    obtain ⟨h2, h3⟩ := agree_append.1 h2
    have h3 := agree_one h3
    rw [itemsSl_len ld last os hos] at h3
    simp only [TA.pObj, TA.pPunct, h1, h3, after_tok _ _ ld hld hne, after_tok _ _ t ht htn]
    rw [items_print ld last hld hne hlast hln os hos hon ch (i + 1) _ h2]
    simp

theorem bnpl_syn (pos : List TA.PO) (sl : List Nat → List TA.Slot) (body ld last : List Nat)
    (h : POsSyn T pos sl body) (hld : WS ld) (hne : ld ≠ []) (hlast : WS last) (hln : last ≠ []) :
    ObjSyn T (.bnpl pos) (fun t => tokSlot [] ld :: (sl last ++ [tokSlot [] t]))
      (0x5b :: (ld ++ body ++ last ++ [0x5d])) where
  wf := by
    simp only [C08.objWf, h.wf, Bool.and_true, Bool.not_eq_true', List.isEmpty_eq_false_iff]
    exact h.ne
  nb := by simp only [C08.objNoBoolPfx, h.nb]
  len := by
    intro t
    simp only [List.length_cons, List.length_append, h.len, TA.objSlots, List.length_nil]
    omega
  ng := by
    intro t
    exact noGlue_cons.2 ⟨rfl, noGlue_append.2 ⟨h.ng _, noGlue_tok _ _⟩⟩
  pr := by
    intro ch i t rest ht htn hag
    obtain ⟨h1, h2⟩ := agree_cons.1 hag
    obtain ⟨h2, h3⟩ := agree_append.1 h2
    have h3 := agree_one h3
    rw [h.len] at h3
    simp only [TA.pObj, TA.pPunct, h1, h3, after_tok _ _ ld hld hne, after_tok _ _ t ht htn]
    rw [h.pr ch (i + 1) last _ hlast hln h2]
    simp

theorem anon_syn : ObjSyn T .anon (fun t => [tokSlot [] [], tokSlot [] t]) (asc "[]") where
  wf := rfl
  nb := rfl
  len := fun _ => rfl
  ng := by
    intro t s hs
    simp only [List.mem_cons, List.mem_nil_iff, or_false] at hs
    rcases hs with rfl | rfl <;> rfl
  pr := by
    intro ch i t rest ht htn hag
    obtain ⟨h1, h2⟩ := agree_two hag
    simp only [TA.pObj, TA.pPunct, h1, h2, after_tok _ _ t ht htn]
    rw [after_punct_nil _ rfl]
    rfl

end RdfModel.Proofs.C02Doc
