import RdfModel.Props.C20FloatDefs
import RdfModel.Proofs.C20Str
namespace RdfModel.Proofs.C20F
open RdfModel RdfModel.Xsd
open RdfModel.Proofs.C20 (nv isDigit_eq)

abbrev spanD := Spec.Xsd.spanDigits

/-- the numeral production `[0-9]+(\.[0-9]*)?|\.[0-9]+` with its value: all digits as one number, the number
    of fraction digits, and what follows the numeral -/
def numeralVal (s : Bytes) : Option (Nat × Nat × Bytes) :=
  match (spanD s).2 with
  | 0x2E :: r2 =>
    if (spanD s).1.isEmpty && (spanD r2).1.isEmpty then none
    else some (Spec.Xsd.natValue ((spanD s).1 ++ (spanD r2).1), (spanD r2).1.length, (spanD r2).2)
  | rest => if (spanD s).1.isEmpty then none else some (Spec.Xsd.natValue (spanD s).1, 0, rest)

theorem numeralVal_rest (s : Bytes) : Spec.Xsd.unsignedNumeral s = (numeralVal s).map (·.2.2) := by
  unfold Spec.Xsd.unsignedNumeral numeralVal spanD
  generalize Spec.Xsd.spanDigits s = q
  obtain ⟨i, r⟩ := q
  by_cases hr : ∃ r2, r = 0x2E :: r2
  · obtain ⟨r2, rfl⟩ := hr
    generalize Spec.Xsd.spanDigits r2 = q2
    obtain ⟨f, r3⟩ := q2
    simp only
    split <;> rfl
  · -- in this form `split` finds the fact in the context and discards the alternative `0x2E :: _`
    have hr' : ∀ r2, r = 0x2E :: r2 → False := fun r2 h => hr ⟨r2, h⟩
    simp only
    split <;> rfl

theorem signSplit_snd (s : Bytes) : (Spec.Xsd.signSplit s).2 = Spec.Xsd.dropSign s := by
  cases s with
  | nil => rfl
  | cons b r => rw [C20.signSplit_go]; rfl

theorem decimalLex_eq (a : Bytes) :
    Spec.Xsd.decimalLex a =
      match numeralVal (Spec.Xsd.signSplit a).2 with
      | some (n, k, []) => some ((Spec.Xsd.signSplit a).1, n, k)
      | _ => none := by
  unfold Spec.Xsd.decimalLex numeralVal spanD
  generalize Spec.Xsd.signSplit a = p
  obtain ⟨ng, r⟩ := p
  simp only
  generalize Spec.Xsd.spanDigits r = q
  obtain ⟨i, r1⟩ := q
  simp only
  cases r1 with
  | nil => by_cases hi : i.isEmpty = true <;> simp [hi]
  | cons c r2 =>
    by_cases hc : c = 0x2E
    · subst hc
      simp only [if_true]
      generalize Spec.Xsd.spanDigits r2 = q2
      obtain ⟨f, r3⟩ := q2
      cases r3 <;> by_cases h : (i.isEmpty && f.isEmpty) = true <;> simp [h]
    · by_cases hi : i.isEmpty = true <;> simp [hc, hi]

theorem decimalLex_body {a : Bytes} {neg : Bool} {n k : Nat}
    (h : Spec.Xsd.decimalLex a = some (neg, n, k)) :
    (Spec.Xsd.signSplit a).1 = neg ∧ numeralVal (Spec.Xsd.signSplit a).2 = some (n, k, []) := by
  rw [decimalLex_eq] at h
  split at h
  · next heq => cases h; exact ⟨rfl, heq⟩
  · cases h

theorem decimalLex_isSome (s : Bytes) : (Spec.Xsd.decimalLex s).isSome = Spec.Xsd.decimalLexOK s := by
  rw [decimalLex_eq, Spec.Xsd.decimalLexOK, ← signSplit_snd, numeralVal_rest]
  cases numeralVal (Spec.Xsd.signSplit s).2 with
  | none => rfl
  | some v => obtain ⟨n, k, r⟩ := v; cases r <;> rfl

theorem rfLoop_nil (st : RF) : rfLoop 10 st [] = (st, []) := by simp [rfLoop]

theorem rfLoop_dot (st : RF) (r : Bytes) (h : st.sawdot = false) :
    rfLoop 10 st (0x2E :: r) = rfLoop 10 { st with sawdot := true, dp := st.nd } r := by
  simp [rfLoop, h]

theorem rfLoop_digit (st : RF) (c : Nat) (r : Bytes) (h : Spec.Xsd.isDigit c = true) :
    rfLoop 10 st (c :: r) =
      if c = 0x30 ∧ st.nd = 0 then rfLoop 10 { st with sawdigits := true, dp := st.dp - 1 } r
      else rfLoop 10 { st with sawdigits := true, nd := st.nd + 1, mant := st.mant * 10 + (c - 0x30) } r := by
  have h' := (C20.isDigit_iff c).1 h
  have h1 : c ≠ 0x5F := by omega
  have h2 : c ≠ 0x2E := by omega
  rw [rfLoop]
  simp only [h1, h2, if_false, isDigit_eq, h, if_true]

theorem rfLoop_nondigit (st : RF) (c : Nat) (r : Bytes) (h : Spec.Xsd.isDigit c = false)
    (h1 : c ≠ 0x5F) (h2 : c ≠ 0x2E) : rfLoop 10 st (c :: r) = (st, c :: r) := by
  rw [rfLoop]
  simp [h1, h2, isDigit_eq, h]

theorem rfLoop_span (s : Bytes) : ∀ st : RF, (st.nd = 0 → st.mant = 0) →
    ∃ st' : RF, rfLoop 10 st s = rfLoop 10 st' (spanD s).2 ∧
      st'.mant = nv st.mant (spanD s).1 ∧
      (st'.nd : Int) - st'.dp = st.nd - st.dp + (spanD s).1.length ∧
      st'.sawdot = st.sawdot ∧ st'.underscores = st.underscores ∧
      st'.sawdigits = (st.sawdigits || !(spanD s).1.isEmpty) ∧
      (st'.nd = 0 → st'.mant = 0) := by
  induction s with
  | nil => intro st h; exact ⟨st, by simp [spanD, Spec.Xsd.spanDigits, nv]; exact h⟩
  | cons c r ih =>
    intro st h
    by_cases hc : Spec.Xsd.isDigit c = true
    · have hsd : spanD (c :: r) = (c :: (spanD r).1, (spanD r).2) := by
        simp [spanD, Spec.Xsd.spanDigits, hc]
      rw [hsd, rfLoop_digit st c r hc]
      by_cases hz : c = 0x30 ∧ st.nd = 0
      · rw [if_pos hz]
        obtain ⟨st', e1, e2, e3, e4, e5, e6, e7⟩ :=
          ih { st with sawdigits := true, dp := st.dp - 1 } (by simpa using h)
        refine ⟨st', e1, ?_, ?_, e4, e5, ?_, e7⟩
        · rw [e2]; simp [nv, h hz.2, hz.1]
        · rw [e3]; simp; omega
        · rw [e6]; simp
      · rw [if_neg hz]
        obtain ⟨st', e1, e2, e3, e4, e5, e6, e7⟩ :=
          ih { st with sawdigits := true, nd := st.nd + 1, mant := st.mant * 10 + (c - 0x30) } (by simp)
        refine ⟨st', e1, ?_, ?_, e4, e5, ?_, e7⟩
        · rw [e2]; simp [nv]
        · rw [e3]; simp; omega
        · rw [e6]; simp
    · have hc' : Spec.Xsd.isDigit c = false := by simpa using hc
      have hsd : spanD (c :: r) = ([], c :: r) := C20.spanDigits_nondigit hc'
      rw [hsd]
      exact ⟨st, by simp [nv]; exact h⟩


theorem rfLoop_numeral {s rest : Bytes} {n k : Nat} (h : numeralVal s = some (n, k, rest))
    (hr : ∀ st, rfLoop 10 st rest = (st, rest)) :
    ∃ st : RF, rfLoop 10 {} s = (st, rest) ∧ st.sawdigits = true ∧ st.underscores = false ∧
      st.mant = n ∧ (if st.sawdot then st.dp else (st.nd : Int)) - st.nd = -(k : Int) := by
  obtain ⟨st1, e1, m1, d1, w1, u1, g1, z1⟩ := rfLoop_span s {} (by simp)
  have w1' : st1.sawdot = false := w1
  unfold numeralVal at h
  split at h
  · next r2 hr2 =>
    split at h
    · simp at h
    · next hne =>
      simp only [Option.some.injEq, Prod.mk.injEq] at h
      obtain ⟨hn, hk, hrest⟩ := h
      obtain ⟨st2, e2, m2, d2, w2, u2, g2, -⟩ := rfLoop_span r2 { st1 with sawdot := true, dp := st1.nd } z1
      have w2' : st2.sawdot = true := w2
      rw [hr2, rfLoop_dot st1 r2 w1', e2, hrest, hr st2] at e1
      refine ⟨st2, e1, ?_, u2.trans u1, ?_, ?_⟩
      · rw [g2]; simp only [g1]
        cases hi : (spanD s).1 <;> cases hf : (spanD r2).1 <;> simp [hi, hf] at hne ⊢
      · rw [m2, ← hn]; simp only [m1]
        simp [nv, Spec.Xsd.natValue, List.foldl_append]
      · rw [if_pos w2', ← hk]
        simp only at d2
        omega
  · split at h
    · simp at h
    · next hne =>
      simp only [Option.some.injEq, Prod.mk.injEq] at h
      obtain ⟨hn, hk, hrest⟩ := h
      rw [hrest, hr st1] at e1
      refine ⟨st1, e1, ?_, u1, ?_, ?_⟩
      · rw [g1]; simpa using hne
      · rw [m1, ← hn]; rfl
      · rw [w1', ← hk]; simp

theorem signSplit_cases {a s1 : Bytes} {neg : Bool} (hsp : Spec.Xsd.signSplit a = (neg, s1)) (ha : a ≠ []) :
    (a = 0x2B :: s1 ∧ neg = false) ∨ (a = 0x2D :: s1 ∧ neg = true) ∨
    (a = s1 ∧ neg = false ∧ ∀ z t, s1 = z :: t → z ≠ 0x2B ∧ z ≠ 0x2D) := by
  cases a with
  | nil => exact absurd rfl ha
  | cons b r =>
    by_cases h1 : b = 0x2B
    · subst h1; simp [Spec.Xsd.signSplit] at hsp; simp [hsp]
    · by_cases h2 : b = 0x2D
      · subst h2; simp [Spec.Xsd.signSplit] at hsp; simp [hsp]
      · simp [Spec.Xsd.signSplit, h1, h2] at hsp
        obtain ⟨rfl, rfl⟩ := hsp
        refine Or.inr (Or.inr ⟨rfl, rfl, ?_⟩)
        intro z t hz; cases hz; exact ⟨h1, h2⟩

/-- the exponent part after a decimal mantissa, as `readFloat` reads it: the decimal point moved by the exponent,
    the underscore flag, the unread rest. Spelt as in `readFloat` (same order of cases, `r1` itself in both default
    branches): `readFloat_dec` closes each case by `rfl` against the model's own `match`. -/
def expPart (dp : Int) (us : Bool) (r1 : Bytes) : Option (Int × Bool × Bytes) :=
  match r1 with
  | e :: r2 =>
    if lower e = 0x65 then
      (match r2 with
       | [] => none
       | sg :: r3 =>
         let (esign, r4) : Int × Bytes := if sg = 0x2B then (1, r3) else if sg = 0x2D then (-1, r3) else (1, r2)
         match r4 with
         | d :: _ =>
           if isDigit d then
             let (ev, us', r5) := rfExp 0 us r4
             some (dp + (ev : Int) * esign, us', r5)
           else none
         | [] => none)
    else some (dp, us, r1)
  | [] => some (dp, us, r1)

theorem readFloat_dec {a s1 r1 : Bytes} {neg : Bool} {st : RF}
    (hsp : Spec.Xsd.signSplit a = (neg, s1)) (ha : a ≠ [])
    (hx : ∀ z x c r, s1 = z :: x :: c :: r → ¬(z = 0x30 ∧ lower x = 0x78))
    (hloop : rfLoop 10 {} s1 = (st, r1)) (hd : st.sawdigits = true) :
    readFloat a =
      match expPart (if st.sawdot then st.dp else (st.nd : Int)) st.underscores r1 with
      | none => none
      | some (dp', us, rest) =>
        if us && !underscoreOK (a.take (a.length - rest.length)) then none
        else some (.fin neg st.mant 10 (if st.mant ≠ 0 then dp' - st.nd else 0) st.nd, a.length - rest.length) := by
  unfold readFloat
  -- the sign and the `0x` test are split off as equations between small terms and decided there;
  -- the body is simplified once
  split
  rename_i neg' s1' heq
  have e1 : (neg', s1') = (neg, s1) := by
    rw [← heq]
    rcases signSplit_cases hsp ha with ⟨rfl, rfl⟩ | ⟨rfl, rfl⟩ | ⟨rfl, rfl, hb⟩
    · rfl
    · rfl
    · rcases a with _ | ⟨z, t⟩
      · exact absurd rfl ha
      · obtain ⟨h1, h2⟩ := hb z t rfl
        simp only [h1, h2, if_false]
  cases e1
  rw [if_neg ha]
  split
  rename_i base s2 heq2
  have e2 : (base, s2) = (10, s1) := by
    rw [← heq2]
    split
    · next z x c r => rw [if_neg (hx z x c r rfl)]
    · rfl
  cases e2
  simp only [hloop, hd, ↓reduceIte, Bool.not_true, Bool.false_eq_true, Nat.reduceEqDiff]
  rfl

theorem lower_ne_x : ∀ x, x < 0x3A → 0x2E ≤ x → lower x ≠ 0x78 := by decide

theorem numeral_head {s rest : Bytes} (h : Spec.Xsd.unsignedNumeral s = some rest) :
    ∃ x t, s = x :: t ∧ (Spec.Xsd.isDigit x = true ∨ x = 0x2E) := by
  cases s with
  | nil => simp [Spec.Xsd.unsignedNumeral, Spec.Xsd.spanDigits] at h
  | cons x t =>
    refine ⟨x, t, rfl, ?_⟩
    by_cases hx : Spec.Xsd.isDigit x = true
    · exact Or.inl hx
    · have hx' : Spec.Xsd.isDigit x = false := by simpa using hx
      unfold Spec.Xsd.unsignedNumeral at h
      rw [C20.spanDigits_nondigit hx'] at h
      simp only at h
      split at h
      · next heq => simp only [List.cons.injEq] at heq; exact Or.inr heq.1
      · simp at h

theorem numeral_nohex {s rest : Bytes} (h : Spec.Xsd.unsignedNumeral s = some rest)
    (hr : ∀ e r, rest = e :: r → lower e ≠ 0x78) :
    ∀ z x c r, s = z :: x :: c :: r → ¬(z = 0x30 ∧ lower x = 0x78) := by
  intro z x c r hs ⟨hz, hl⟩
  subst hs hz
  by_cases hx : Spec.Xsd.isDigit x = true
  · have := (C20.isDigit_iff x).1 hx
    exact lower_ne_x x (by omega) (by omega) hl
  · have hx' : Spec.Xsd.isDigit x = false := by simpa using hx
    have hsd : Spec.Xsd.spanDigits (0x30 :: x :: c :: r) = ([0x30], x :: c :: r) := by
      have h0 : Spec.Xsd.isDigit 0x30 = true := by decide
      rw [Spec.Xsd.spanDigits, C20.spanDigits_nondigit hx']
      simp [h0]
    unfold Spec.Xsd.unsignedNumeral at h
    rw [hsd] at h
    simp only at h
    split at h
    · next heq =>
      simp only [List.cons.injEq] at heq
      rw [heq.1] at hl; revert hl; decide
    · simp at h
      exact hr x (c :: r) h.symm hl

theorem cpl_zero {x : Nat} {t p : Bytes} {q : Nat} (h : Spec.Xsd.isDigit x = true ∨ x = 0x2E)
    (hq : 0x61 ≤ q) : commonPrefixLenIC (x :: t) (q :: p) = 0 := by
  have hx : x ≤ 0x39 := by
    rcases h with h | h
    · exact ((C20.isDigit_iff x).1 h).2
    · omega
  simp only [commonPrefixLenIC]
  have : ¬(0x41 ≤ x ∧ x ≤ 0x5A) := by omega
  rw [if_neg this, if_neg (by omega)]

theorem special_none {a s1 : Bytes} {neg : Bool} {x : Nat} {t : Bytes}
    (hsp : Spec.Xsd.signSplit a = (neg, s1)) (hs : s1 = x :: t)
    (hx : Spec.Xsd.isDigit x = true ∨ x = 0x2E) : special a = none := by
  have hinf : asc "infinity" = [0x69, 0x6E, 0x66, 0x69, 0x6E, 0x69, 0x74, 0x79] := by decide
  have hnan : asc "nan" = [0x6E, 0x61, 0x6E] := by decide
  have hx39 : x ≤ 0x39 ∧ 0x2E ≤ x := by
    rcases hx with h | h
    · have := (C20.isDigit_iff x).1 h; omega
    · omega
  cases a with
  | nil => rfl
  | cons b r =>
    subst hs
    unfold special
    simp only [hinf, hnan]
    rcases signSplit_cases hsp (List.cons_ne_nil b r) with ⟨e, -⟩ | ⟨e, -⟩ | ⟨e, -, hb⟩
    · cases e; simp [cpl_zero hx]
    · cases e; simp [cpl_zero hx]
    · cases e
      obtain ⟨h1, h2⟩ := hb x t rfl
      have e1 : x ≠ 0x69 := by omega
      have e2 : x ≠ 0x49 := by omega
      have e3 : x ≠ 0x6E := by omega
      have e4 : x ≠ 0x4E := by omega
      simp [h1, h2, e1, e2, e3, e4]

theorem readFloat_decimal {a : Bytes} {neg : Bool} {n k : Nat}
    (h : Spec.Xsd.decimalLex a = some (neg, n, k)) :
    ∃ nd, special a = none ∧
      readFloat a = some (.fin neg n 10 (if n ≠ 0 then -(k : Int) else 0) nd, a.length) := by
  obtain ⟨hneg, hb⟩ := decimalLex_body h
  have hsp : Spec.Xsd.signSplit a = (neg, (Spec.Xsd.signSplit a).2) := by rw [← hneg]
  have hnum : Spec.Xsd.unsignedNumeral (Spec.Xsd.signSplit a).2 = some [] := by rw [numeralVal_rest, hb]; rfl
  obtain ⟨x, t, hs, hx⟩ := numeral_head hnum
  obtain ⟨st, hl, hd, hu, hm, he⟩ := rfLoop_numeral hb rfLoop_nil
  have ha : a ≠ [] := by
    intro h0; subst h0; simp [Spec.Xsd.signSplit] at hs
  refine ⟨st.nd, special_none hsp hs hx, ?_⟩
  rw [readFloat_dec hsp ha (numeral_nohex hnum (fun _ _ e => by cases e)) hl hd, ← hm, ← he]
  simp [expPart, hu]

theorem parseFloat_of_read {a : Bytes} {v : FVal} (hs : special a = none) (hr : readFloat a = some (v, a.length))
    (bits : Nat) : parseFloat a bits = if overflows bits v = true then .error .range else .ok v := by
  unfold parseFloat
  rw [hs, hr]
  simp

/-- on a string of the xsd:decimal lexical space strconv.ParseFloat (the model) reads exactly the number
    the XSD lexical mapping assigns: mantissa = all digits as one number, exponent = −(number of
    fraction digits) (0 when the mantissa is 0); it fails only with the range error -/
theorem parseFloat_decimal {a : Bytes} {neg : Bool} {n k : Nat}
    (h : Spec.Xsd.decimalLex a = some (neg, n, k)) (bits : Nat) :
    ∃ nd, parseFloat a bits =
      (if overflows bits (.fin neg n 10 (if n ≠ 0 then -(k : Int) else 0) nd) = true then .error .range
       else .ok (.fin neg n 10 (if n ≠ 0 then -(k : Int) else 0) nd)) := by
  obtain ⟨nd, hs, hr⟩ := readFloat_decimal h
  exact ⟨nd, parseFloat_of_read hs hr bits⟩

end RdfModel.Proofs.C20F
