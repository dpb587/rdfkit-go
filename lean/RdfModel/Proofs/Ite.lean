/-
  A fact about `if … then … else …` that lets a proof follow the one path through a model function on
  which a given value can arise, instead of splitting the whole body into cases.
-/
namespace RdfModel

theorem ite_ne {α : Type} {c : Prop} [Decidable c] {a b x : α} (ha : a ≠ x) (hb : b ≠ x) :
    (if c then a else b) ≠ x := by
  split <;> assumption

end RdfModel
