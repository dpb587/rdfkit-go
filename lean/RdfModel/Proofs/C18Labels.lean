import RdfModel.Props.C18Defs
import RdfModel.Proofs.C14Trace
namespace RdfModel.Proofs.C18
open RdfModel RdfModel.Pipe RdfModel.C18 RdfModel.BN RdfModel.C14 RdfModel.Proofs.C14

/-- the label provider `p` has fixed for `n` in state `s` (`[]` if none) -/
def sigmaOf (U : Nat → Bytes) (s : State) (p : ProvRef) (n : Node) : Bytes :=
  match peek U s p n with
  | some (.label l) => l
  | _ => []

theorem sigmaOf_of_peek {U : Nat → Bytes} {s : State} {p : ProvRef} {n : Node} {l : Bytes}
    (h : peek U s p n = some (.label l)) : sigmaOf U s p n = l := by simp [sigmaOf, h]

/-- every blank node of `ns` has a label fixed in `s` -/
def Fixed (U : Nat → Bytes) (s : State) (p : ProvRef) (ns : List Node) : Prop :=
  ∀ n ∈ ns, peek U s p n = some (.label (sigmaOf U s p n))

/-! ### labelling extends the state and keeps the invariant, because every request for a label does -/

def Keeps (a b : State) : Prop := Ext a b ∧ (Inv a → Inv b)

theorem Keeps.refl (s : State) : Keeps s s := ⟨Ext.refl s, id⟩

theorem Keeps.trans {a b c : State} (h1 : Keeps a b) (h2 : Keeps b c) : Keeps a c :=
  ⟨Ext.trans h1.1 h2.1, fun h => h2.2 (h1.2 h)⟩

theorem labelTerm_keeps (U : Nat → Bytes) (p : ProvRef) (s : State) (t : Term Node) :
    Keeps s (labelTerm U p s t).1 := by
  cases t with
  | bnode n =>
    have h : Keeps s (getLabel U s p n).1 := ⟨getLabel_ext U s p n, fun hI => getLabel_inv U hI p n⟩
    simp only [labelTerm]
    generalize getLabel U s p n = r at h
    obtain ⟨s', o⟩ := r
    cases o <;> exact h
  | _ => exact Keeps.refl s

theorem labelQuad_keeps (U : Nat → Bytes) (p : ProvRef) (s : State) (q : Quad Node) :
    Keeps s (labelQuad U p s q).1 := by
  obtain ⟨qs, qp, qo, qg⟩ := q
  have e := ((labelTerm_keeps U p s qs).trans (labelTerm_keeps U p _ qp)).trans (labelTerm_keeps U p _ qo)
  cases qg with
  | none => exact e
  | some g => exact e.trans (labelTerm_keeps U p _ g)

theorem labelQuads_keeps (U : Nat → Bytes) (p : ProvRef) (s : State) (qs : List (Quad Node)) :
    Keeps s (labelQuads U p s qs).1 := by
  induction qs generalizing s with
  | nil => exact Keeps.refl s
  | cons q rest ih => exact (labelQuad_keeps U p s q).trans (ih _)

theorem consOpt_some {α : Type} {a : Option α} {l : Option (List α)} {r : List α} (h : consOpt a l = some r) :
    ∃ x xs, a = some x ∧ l = some xs ∧ r = x :: xs := by
  cases a <;> cases l <;> simp [consOpt] at h
  exact ⟨_, _, rfl, rfl, h.symm⟩

/-! ### the provider installed by `PropagateDecoderPipeBlankNodeStringProvider` always answers -/

theorem getLabel_good (U : Nat → Bytes) {s : State} {i : Nat} (hg : Good s i) (j : Nat) (n : Node) :
    ∃ l, (getLabel U s (.pass j (.uuid i)) n).2 = .label l := by
  obtain ⟨pr, hp, hf⟩ := hg
  rcases pass_cases j n with ⟨v, rfl⟩ | hno
  · exact ⟨v, by rw [getLabel_pass_own]⟩
  · rw [getLabel_pass_other U s j _ n hno]
    simp only [getLabel, hp]
    cases BN.assoc n pr.known with
    | some pos => exact ⟨U pos, by simp [hf, sprintf1_s]⟩
    | none => exact ⟨U s.uuidPos, by simp [hf, sprintf1_s]⟩

/-! ### labelling with a provider that always answers: every position gets the label that any later state
has fixed -/

section Labelled
variable (U : Nat → Bytes) {p : ProvRef} {i : Nat}
  (ha : ∀ {s}, Good s i → ∀ n, ∃ l, (getLabel U s p n).2 = .label l) {s : State} (hg : Good s i) (sF : State)
include ha hg

theorem labelTerm_labelled (t : Term Node) (hE : Ext (labelTerm U p s t).1 sF) :
    Fixed U sF p (termNodes t) ∧ (labelTerm U p s t).2 = some (t.map (sigmaOf U sF p)) := by
  cases t with
  | bnode n =>
    obtain ⟨l, hl⟩ := ha hg n
    have hp := getLabel_peek U s p n (by rw [hl]; nofun)
    simp only [labelTerm] at hE ⊢
    generalize getLabel U s p n = r at hl hp hE
    obtain ⟨s', o⟩ := r
    cases hl
    have hpk := peek_ext U hE _ n _ hp
    have hs := sigmaOf_of_peek hpk
    refine ⟨fun m hm => ?_, by simp [Term.map, hs]⟩
    cases List.mem_singleton.mp hm
    rw [hs]; exact hpk
  | _ => exact ⟨nofun, rfl⟩

theorem labelQuad_labelled (q : Quad Node) (hE : Ext (labelQuad U p s q).1 sF) :
    Fixed U sF p (quadNodes q) ∧ (labelQuad U p s q).2 = some (q.map (sigmaOf U sF p)) := by
  obtain ⟨qs, qp, qo, qg⟩ := q
  have e1 := (labelTerm_keeps U p s qs).1
  have e2 := (labelTerm_keeps U p (labelTerm U p s qs).1 qp).1
  have e3 := (labelTerm_keeps U p (labelTerm U p (labelTerm U p s qs).1 qp).1 qo).1
  have g1 := good_ext e1 hg
  have g2 := good_ext e2 g1
  simp only [labelQuad] at hE ⊢
  -- subject, predicate and object are labelled before the graph name, whatever it is
  have hE3 : Ext (labelTerm U p (labelTerm U p (labelTerm U p s qs).1 qp).1 qo).1 sF := by
    cases qg with
    | none => exact hE
    | some g => exact Ext.trans (labelTerm_keeps U p _ g).1 hE
  obtain ⟨f1, t1⟩ := labelTerm_labelled U ha hg sF qs (Ext.trans (Ext.trans e2 e3) hE3)
  obtain ⟨f2, t2⟩ := labelTerm_labelled U ha g1 sF qp (Ext.trans e3 hE3)
  obtain ⟨f3, t3⟩ := labelTerm_labelled U ha g2 sF qo hE3
  have f := List.forall_mem_append.mpr ⟨List.forall_mem_append.mpr ⟨f1, f2⟩, f3⟩
  cases qg with
  | none => exact ⟨List.forall_mem_append.mpr ⟨f, nofun⟩, by simp only [t1, t2, t3]; rfl⟩
  | some g =>
    obtain ⟨f4, t4⟩ := labelTerm_labelled U ha (good_ext e3 g2) sF g hE
    exact ⟨List.forall_mem_append.mpr ⟨f, f4⟩, by simp only [t1, t2, t3, t4]; rfl⟩

theorem labelQuads_labelled (qs : List (Quad Node)) (hE : Ext (labelQuads U p s qs).1 sF) :
    Fixed U sF p (nodesOf qs) ∧ (labelQuads U p s qs).2 = some (qs.map (Quad.map (sigmaOf U sF p))) := by
  induction qs generalizing s with
  | nil => exact ⟨nofun, rfl⟩
  | cons q rest ih =>
    simp only [labelQuads] at hE ⊢
    obtain ⟨fr, tr⟩ := ih (good_ext (labelQuad_keeps U p s q).1 hg) hE
    obtain ⟨fq, tq⟩ := labelQuad_labelled U ha hg sF q (Ext.trans (labelQuads_keeps U p _ rest).1 hE)
    refine ⟨?_, by simp only [tq, tr]; rfl⟩
    rw [nodesOf, List.flatMap_cons]
    exact List.forall_mem_append.mpr ⟨fq, fr⟩

end Labelled

theorem sigma_injective (U : Nat → Bytes) (hU : Function.Injective U) {s : State} (hI : Inv s) {i : Nat}
    (hg : Good s i) (j : Nat) (ns : List Node) (hf : Fixed U s (.pass j (.uuid i)) ns)
    (hcol : ∀ v, some (.bnString j v) ∈ ns → ∀ k, v ≠ U k) :
    ∀ n ∈ ns, ∀ m ∈ ns, sigmaOf U s (.pass j (.uuid i)) n = sigmaOf U s (.pass j (.uuid i)) m → n = m := by
  intro n hn m hm heq
  have pn := hf n hn
  have pm := hf m hm
  rw [heq] at pn
  generalize sigmaOf U s (.pass j (.uuid i)) m = l at pn pm
  rcases peek_pass pn with ⟨v, rfl, e⟩ | ⟨_, pn⟩ <;> rcases peek_pass pm with ⟨w, rfl, e'⟩ | ⟨_, pm⟩
  · cases e; cases e'; rfl
  · cases e
    obtain ⟨k, hk⟩ := peek_uuid_label U hg m _ pm
    exact absurd hk (hcol l hn k)
  · cases e'
    obtain ⟨k, hk⟩ := peek_uuid_label U hg n _ pn
    exact absurd hk (hcol l hm k)
  · exact peek_inj_leaf U hU hI (.uuid i) rfl n m l pn pm

theorem pipeProvider_strf (U : Nat → Bytes) (s : State) (j : Nat) (hj : j < s.strfs.length) :
    pipeProvider U s (some (.strf j)) =
      ({ s with uuids := s.uuids ++ [{ format := BN.asc "%s", known := [] }] }, some (.pass j (.uuid s.uuids.length))) := by
  simp [pipeProvider, step, hj]

theorem pipe_labels (U : Nat → Bytes) (hU : Function.Injective U) (s : State) (hI : Inv s) (j : Nat)
    (hj : j < s.strfs.length) (qs : List (Quad Node))
    (hcol : ∀ v, some (.bnString j v) ∈ nodesOf qs → ∀ k, v ≠ U k) :
    ∃ (p : ProvRef) (s1 : State) (σ : Node → Bytes),
      pipeProvider U s (some (.strf j)) = (s1, some p) ∧
      (labelQuads U p s1 qs).2 = some (qs.map (Quad.map σ)) ∧
      (∀ n ∈ nodesOf qs, ∀ m ∈ nodesOf qs, σ n = σ m → n = m) ∧
      (∀ v, σ (some (.bnString j v)) = v) ∧
      (∀ n ∈ nodesOf qs, (∃ v, n = some (.bnString j v)) ∨ ∃ k, σ n = U k) := by
  have hpp := pipeProvider_strf U s j hj
  have hI1 := step_inv U hI (.propagate (some (.strf j)))
  simp only [step, hj, ↓reduceIte] at hI1
  have hg : Good { s with uuids := s.uuids ++ [{ format := BN.asc "%s", known := [] }] } s.uuids.length :=
    ⟨{ format := BN.asc "%s", known := [] }, by simp, asc_fmtS⟩
  generalize ({ s with uuids := s.uuids ++ [{ format := BN.asc "%s", known := [] }] } : State) = s1 at hpp hI1 hg
  obtain ⟨hE, hIF⟩ := labelQuads_keeps U (.pass j (.uuid s.uuids.length)) s1 qs
  obtain ⟨hfix, hmap⟩ := labelQuads_labelled U (fun hg n => getLabel_good U hg j n) hg _ qs (Ext.refl _)
  refine ⟨_, s1, _, hpp, hmap, ?_, ?_, ?_⟩
  · exact sigma_injective U hU (hIF hI1) (good_ext hE hg) j _ hfix hcol
  · intro v
    exact sigmaOf_of_peek (peek_pass_own U _ j _ v)
  · intro n hn
    rcases peek_pass (hfix n hn) with ⟨v, hv, _⟩ | ⟨_, h⟩
    · exact .inl ⟨v, hv⟩
    · exact .inr (peek_uuid_label U (good_ext hE hg) n _ h)

end RdfModel.Proofs.C18
