/-
  Proofs.C07Tok — token level of "every N-Triples document is Turtle": what the N-Triples/N-Quads
  scanners (Model/NQuads.lean) accept, the Turtle/TriG producers read the same way.
-/
import RdfModel.Props.C02TokensDefs
namespace RdfModel.Proofs.C07Tok
open RdfModel RdfModel.Ttl

/-- Only this direction and only `.ok` is stated; the clauses of the two functions are the same text. -/
theorem scanIRI_sub (Tn : NQ.Tables) (T : Tables) (hhex : Tn.hexDec = T.hexDec) (e : End)
    (inp : List Nat) : ∀ (st : SState) (acc v r : List Nat),
      NQ.scanIRI Tn e st inp acc = .ok v r → scanIRIREF T e st inp acc = .ok (goString v) r := by
  intro st acc v r h
  -- clause by clause: the runes `NQ.scanIRI` refuses are `iriForbidden`, and under `hhex` the `.hex` states
  -- look the same digit up
  fun_induction NQ.scanIRI Tn e st inp acc <;> simp_all [scanIRIREF, iriForbidden]

theorem scanLit_sub (Tn : NQ.Tables) (T : Tables) (hhex : Tn.hexDec = T.hexDec) (e : End)
    (inp : List Nat) : ∀ (st : SState) (acc v r : List Nat),
      NQ.scanLit Tn e st inp acc = .ok v r →
      scanString T e 0x22 false st inp acc = .ok (goString v) r := by
  intro st acc v r h
  fun_induction NQ.scanLit Tn e st inp acc <;> simp_all [scanString, echarDecode]
  -- a `'` in the body is an ordinary rune of a `"`-string
  rintro rfl; assumption

/-- Whole strings: after the opening `"` the Turtle producer first looks whether a second quote follows
    (empty or long string); `""` is the one place where it looks further than the N-Triples scanner,
    hence `EmptyStrStop`. Otherwise it is the body scanner (`scanLit_sub`). -/
theorem produceString_sub (Tn : NQ.Tables) (T : Tables) (hhex : Tn.hexDec = T.hexDec) (e : End)
    (inp v r : List Nat) (h : NQ.scanLit Tn e .body inp [] = .ok v r)
    (hstop : v = [] → C02.EmptyStrStop e r) :
    produceString T e (0x22 :: inp) = .ok (goString v) r := by
  cases inp with
  | nil => simp [NQ.scanLit] at h
  | cons c1 r1 =>
    by_cases hq : c1 = 0x22
    · subst hq
      rw [NQ.scanLit] at h
      simp only [if_true] at h
      cases h
      have hstop := hstop rfl
      cases r with
      | nil => simp only [C02.EmptyStrStop] at hstop; subst hstop; simp [produceString, goString]
      | cons c2 r2 =>
        simp only [C02.EmptyStrStop] at hstop
        simp [produceString, hstop, goString]
    · have := scanLit_sub Tn T hhex e (c1 :: r1) _ _ _ _ h
      simp only [produceString, true_or, if_true]
      rw [if_neg hq]
      exact this

end RdfModel.Proofs.C07Tok
