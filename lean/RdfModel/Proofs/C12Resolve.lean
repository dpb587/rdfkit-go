import RdfModel.Proofs.C12Rds
namespace RdfModel.Proofs.C12
open RdfModel.Spec.RFC3986

theorem resolve_abs_nodots (b r : Str) (h : (split r).scheme.isSome) (hn : NoDotSegments (split r).path) :
    resolve b r = r := by
  unfold resolve resolveParts
  rw [if_pos h, rds_noDot_id hn]
  exact recompose_split r

theorem split_scheme_eq (s : Str) : (split s).scheme = (splitScheme s).1 := rfl

theorem splitScheme_of_scheme {s x : Str} (hx : (split s).scheme = some x) (rest : Str) :
    splitScheme (x ++ cColon :: rest) = (some x, rest) := by
  rw [split_scheme_eq] at hx
  rcases hs : splitScheme s with ⟨o, r1⟩
  rw [hs] at hx
  simp only at hx
  subst hx
  obtain ⟨_, hne, htw⟩ := splitScheme_some hs
  have hall : ∀ c ∈ x, notGenDelim c = true := by
    intro c hc; rw [htw] at hc; exact mem_takeWhile hc
  obtain ⟨e1, e2⟩ := span_append hall (stops_cons (c := cColon) (by decide) rest)
  unfold splitScheme
  rw [e2, e1]
  simp [hne]

theorem recompose_scheme (P : Parts) (x : Str) (h : P.scheme = some x) :
    ∃ rest, recompose P = x ++ cColon :: rest := by
  unfold recompose
  rw [h]
  exact ⟨authorityPart P.authority ++ P.path ++ queryPart P.query ++ fragmentPart P.fragment, by simp [schemePart]⟩

/-- the components of §5.2.2 that do not depend on which of its five branches is taken -/
theorem resolveParts_fields (B R : Parts) :
    (resolveParts B R).scheme = (if R.scheme.isSome then R.scheme else B.scheme) ∧
    (resolveParts B R).fragment = R.fragment ∧
    (R.query.isSome → (resolveParts B R).query = R.query) := by
  unfold resolveParts
  by_cases h1 : R.scheme.isSome
  · simp [h1]
  · by_cases h2 : R.authority.isSome
    · simp [h1, h2]
    · by_cases h3 : R.path = []
      · simp +contextual [h1, h2, h3]
      · by_cases h4 : R.path.head? = some cSlash
        · simp [h1, h2, h3, h4]
        · simp [h1, h2, h3, h4]

theorem resolveParts_scheme (B R : Parts) :
    (resolveParts B R).scheme = if R.scheme.isSome then R.scheme else B.scheme :=
  (resolveParts_fields B R).1

theorem resolve_scheme (b r : Str) (hb : (split b).scheme.isSome) :
    (split (resolve b r)).scheme = if (split r).scheme.isSome then (split r).scheme else (split b).scheme := by
  have key : ∀ (src : Str) (x : Str), (split src).scheme = some x →
      (resolveParts (split b) (split r)).scheme = some x → (split (resolve b r)).scheme = some x := by
    intro src x hsrc hres
    obtain ⟨rest, hrec⟩ := recompose_scheme _ x hres
    unfold resolve
    rw [hrec, split_scheme_eq, splitScheme_of_scheme hsrc rest]
  rw [resolveParts_scheme] at key
  by_cases hr : (split r).scheme.isSome
  · rw [if_pos hr] at key ⊢
    obtain ⟨x, hx⟩ := Option.isSome_iff_exists.mp hr
    rw [hx]; exact key r x hx hx
  · rw [if_neg hr] at key ⊢
    obtain ⟨x, hx⟩ := Option.isSome_iff_exists.mp hb
    rw [hx]; exact key b x hx hx

theorem resolve_is_absolute (b r : Str) (hb : (split b).scheme.isSome) :
    (split (resolve b r)).scheme.isSome := by
  rw [resolve_scheme b r hb]
  by_cases hr : (split r).scheme.isSome
  · rw [if_pos hr]; exact hr
  · rw [if_neg hr]; exact hb

theorem resolveParts_fragment (B R : Parts) : (resolveParts B R).fragment = R.fragment :=
  (resolveParts_fields B R).2.1

theorem resolveParts_query (B R : Parts) (h : R.query.isSome) : (resolveParts B R).query = R.query :=
  (resolveParts_fields B R).2.2 h

theorem recompose_empty_fragment (P : Parts) (h : P.fragment = some []) :
    recompose P = recompose { P with fragment := none } ++ [cHash] := by
  unfold recompose; rw [h]; simp [fragmentPart]

theorem recompose_empty_query (P : Parts) (hf : P.fragment = none) (h : P.query = some []) :
    recompose P = recompose { P with query := none } ++ [cQuest] := by
  unfold recompose; rw [h, hf]; simp [fragmentPart, queryPart]

theorem split_fragment_none {s : Str} (h : cHash ∉ s) : (split s).fragment = none := by
  cases hf : (split s).fragment with
  | none => rfl
  | some f => exact absurd (by rw [← recompose_split s, recompose, hf]; simp [fragmentPart]) h

theorem split_query_none {s : Str} (h : cQuest ∉ s) : (split s).query = none := by
  cases hq : (split s).query with
  | none => rfl
  | some q => exact absurd (by rw [← recompose_split s, recompose, hq]; simp [queryPart]) h

theorem split_fragment_some {pre : Str} (h : cHash ∉ pre) (f : Str) :
    (split (pre ++ cHash :: f)).fragment = some f := by
  have hw := wf_split pre
  have hr := recompose_split pre
  have hf := split_fragment_none h
  have : split (pre ++ cHash :: f) = { split pre with fragment := some f } :=
    (split_eq_iff _ _).2
      ⟨by rw [show pre ++ cHash :: f = recompose (split pre) ++ cHash :: f by rw [hr]]
          simp [recompose, hf, fragmentPart],
       ⟨hw.scheme, hw.authority, hw.path, hw.query, hw.rooted, hw.noNet, hw.noColon⟩⟩
  rw [this]

theorem split_distinguishes_empty (s : Str) (hq : cQuest ∉ s) (hh : cHash ∉ s) :
    (split (s ++ [cHash])).fragment = some [] ∧ (split s).fragment = none ∧
    (split (s ++ [cQuest])).query = some [] ∧ (split s).query = none := by
  refine ⟨split_fragment_some hh [], split_fragment_none hh, ?_, split_query_none hq⟩
  have hw := wf_split s
  have hr := recompose_split s
  have : split (s ++ [cQuest]) = { split s with query := some [] } :=
    (split_eq_iff _ _).2
      ⟨by rw [show s ++ [cQuest] = recompose (split s) ++ [cQuest] by rw [hr]]
          simp [recompose, split_fragment_none hh, split_query_none hq, fragmentPart, queryPart],
       ⟨hw.scheme, hw.authority, hw.path, by rintro q ⟨⟩; simp, hw.rooted, hw.noNet, hw.noColon⟩⟩
  rw [this]

end RdfModel.Proofs.C12
