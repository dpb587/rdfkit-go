/-
  A model of `Decoder.Next / Err / Triple` (the three methods of that name in decoder.go) on top of `RXD.decode`, with its
  latch; and a reader error is never a clean end (C15).
-/
import RdfModel.Proofs.C09Steps
namespace RdfModel.RXD
open RdfModel RdfModel.Desc RdfModel.RX

/-- the `Decoder` struct as far as `Next` is concerned: the reader (token stream + terminator), `statements`,
    `statementsIdx` (starts at -1), `err` -/
structure Dec where
  base : Option Str
  toks : List Tok
  fin : Fin
  stmts : List T := []
  idx : Int := -1
  err : Option E := none
  deriving Repr

inductive NextOut where
  | yes | no | panic
  deriving Repr, DecidableEq

/-- `func (d *Decoder) Next() bool` -/
def Dec.next (P : Params) (d : Dec) : NextOut × Dec :=
  if d.err.isSome then (.no, d)
  else if d.idx = -1 then
    -- d.parseAll()
    match decode P d.base d.toks d.fin with
    | .panic => (.panic, d)
    | .err e _ => (.no, { d with err := some e })
    | .ok ts =>
      let d1 := { d with stmts := ts, idx := d.idx + 1 }
      (if d1.idx < (ts.length : Int) then .yes else .no, d1)
  else
    let d1 := { d with idx := d.idx + 1 }
    (if d1.idx < (d.stmts.length : Int) then .yes else .no, d1)

/-- `func (r *Decoder) Triple() rdf.Triple`: `r.statements[r.statementsIdx]` (`none` = index out of range = panic) -/
def Dec.triple (d : Dec) : Option T := if d.idx < 0 then none else d.stmts[d.idx.toNat]?

def Dec.init (base : Option Str) (toks : List Tok) (fin : Fin) : Dec := { base := base, toks := toks, fin := fin }

def Dec.Done (d : Dec) : Prop := d.err.isSome ∨ (0 ≤ d.idx ∧ (d.stmts.length : Int) ≤ d.idx)

theorem next_of_done (P : Params) (d : Dec) (h : d.Done) :
    (d.next P).1 = .no ∧ (d.next P).2.Done ∧ (d.next P).2.err = d.err ∧ (d.next P).2.stmts = d.stmts := by
  by_cases he : d.err.isSome
  · have : d.next P = (.no, d) := by simp [Dec.next, he]
    rw [this]; exact ⟨rfl, h, rfl, rfl⟩
  · rcases h with h | ⟨h1, h2⟩
    · exact absurd h he
    · have hi : d.idx ≠ -1 := by omega
      have hlt : ¬(d.idx + 1 < (d.stmts.length : Int)) := by omega
      have : d.next P = (.no, { d with idx := d.idx + 1 }) := by simp [Dec.next, he, hi, hlt]
      rw [this]
      refine ⟨rfl, .inr ⟨?_, ?_⟩, rfl, rfl⟩
      · show 0 ≤ d.idx + 1; omega
      · show (d.stmts.length : Int) ≤ d.idx + 1; omega

theorem done_of_no (P : Params) (d : Dec) (h : (d.next P).1 = .no) : (d.next P).2.Done := by
  by_cases he : d.err.isSome
  · have : d.next P = (.no, d) := by simp [Dec.next, he]
    rw [this]; exact .inl he
  · by_cases hi : d.idx = -1
    · cases hd : decode P d.base d.toks d.fin with
      | panic => simp [Dec.next, he, hi, hd] at h
      | err e ts =>
        have : d.next P = (.no, { d with err := some e }) := by simp [Dec.next, he, hi, hd]
        rw [this]; exact .inl rfl
      | ok ts =>
        by_cases hts : ts = []
        · have : d.next P = (.no, { d with stmts := ts, idx := d.idx + 1 }) := by simp [Dec.next, he, hi, hd, hts]
          rw [this]
          refine .inr ⟨?_, ?_⟩
          · show 0 ≤ d.idx + 1; omega
          · show (ts.length : Int) ≤ d.idx + 1; simp [hts, hi]
        · simp [Dec.next, he, hi, hd, hts] at h
    · by_cases hlt : d.idx + 1 < (d.stmts.length : Int)
      · simp [Dec.next, he, hi, hlt] at h
      · have : d.next P = (.no, { d with idx := d.idx + 1 }) := by simp [Dec.next, he, hi, hlt]
        rw [this]
        have h0 : -1 ≤ d.idx ∨ d.idx < -1 := by omega
        rcases h0 with h0 | h0
        · refine .inr ⟨?_, ?_⟩
          · show 0 ≤ d.idx + 1; omega
          · show (d.stmts.length : Int) ≤ d.idx + 1; omega
        · exfalso; apply hlt; omega

def Dec.nextN (P : Params) : Nat → Dec → List NextOut × Dec
  | 0, d => ([], d)
  | n + 1, d => let r := d.next P; let rs := Dec.nextN P n r.2; (r.1 :: rs.1, rs.2)

theorem nextN_of_done (P : Params) (n : Nat) (d : Dec) (h : d.Done) :
    (∀ o ∈ (Dec.nextN P n d).1, o = .no) ∧ (Dec.nextN P n d).2.err = d.err ∧ (Dec.nextN P n d).2.stmts = d.stmts := by
  induction n generalizing d with
  | zero => simp [Dec.nextN]
  | succ n ih =>
    obtain ⟨h1, h2, h3, h4⟩ := next_of_done P d h
    obtain ⟨i1, i2, i3⟩ := ih (d.next P).2 h2
    simp only [Dec.nextN]
    refine ⟨?_, by rw [i2, h3], by rw [i3, h4]⟩
    intro o ho
    simp only [List.mem_cons] at ho
    rcases ho with rfl | ho
    · exact h1
    · exact i1 o ho

theorem run_io (P : Params) (ctx0 : Ctx) (stk : List Frame) (st : St) (toks : List Tok) :
    (∀ ts, run P ctx0 stk st toks .io ≠ .ok ts) ∧
    (∀ ts, run P ctx0 stk st toks .eof = .ok ts → run P ctx0 stk st toks .io = .err .io ts) ∧
    (∀ e ts, run P ctx0 stk st toks .eof = .err e ts → e ≠ .eofInside → run P ctx0 stk st toks .io = .err e ts) := by
  -- the terminator is only looked at by `finish`
  simp only [run_eq_steps]
  cases steps P ctx0 stk st toks with
  | panic => exact ⟨nofun, nofun, nofun⟩
  | fail e st1 => exact ⟨nofun, nofun, fun _ _ h _ => h⟩
  | cont stk1 st1 =>
    cases stk1 with
    | nil => exact ⟨nofun, fun ts h => by cases h; rfl, nofun⟩
    | cons f below => exact ⟨nofun, nofun, fun e ts h hne => by cases h; exact absurd rfl hne⟩

end RdfModel.RXD
