import RdfModel.Model.IriUnify
import RdfModel.Proofs.C12WrapCut
namespace RdfModel.Proofs.IriUnify
open RdfModel RdfModel.GoUrlFull

def okE {α : Type} : Except PErr α → Bool
  | .ok _ => true
  | .error _ => false

def unm {α : Type} : Except PErr α → Bool
  | .error .unmodelled => true
  | _ => false

theorem unm_error {α : Type} (e : PErr) : unm (.error e : Except PErr α) = true ↔ e = .unmodelled := by
  cases e <;> simp [unm]

theorem unm_eq {α : Type} {x : Except PErr α} (h : unm x = true) : x = .error .unmodelled := by
  cases x with
  | ok _ => cases h
  | error e => rw [(unm_error e).1 h]

@[simp] theorem unm_ok {α : Type} (x : α) : unm (.ok x : Except PErr α) = false := rfl
@[simp] theorem unm_unmodelled {α : Type} : unm (.error .unmodelled : Except PErr α) = true := rfl
@[simp] theorem okE_ok {α : Type} (x : α) : okE (.ok x : Except PErr α) = true := rfl
@[simp] theorem okE_error {α : Type} (e : PErr) : okE (.error e : Except PErr α) = false := rfl

theorem cut_eq (sep : Nat) (s : List Nat) : GoUrl.cut sep s = GoUrlFull.cut sep s := by
  induction s <;> simp_all [GoUrl.cut, GoUrlFull.cut]

theorem hasCTL_eq (s : List Nat) : GoUrl.hasCTL s = GoUrlFull.hasCTL s := by
  unfold GoUrl.hasCTL GoUrlFull.hasCTL
  congr 1

theorem isDigitC_eq (c : Nat) : GoUrl.isDigitC c = GoUrlFull.isDigitC c := rfl

theorem isHexC_eq (c : Nat) : GoUrl.isHexC c = GoUrlFull.ishex c := rfl

theorem isAlphaC_eq (c : Nat) : GoUrl.isAlphaC c = (isLowerC c || isUpperC c) := rfl

theorem validOptionalPort_eq (s : List Nat) : GoUrl.validOptionalPort s = GoUrlFull.validOptionalPort s := by
  cases s with
  | nil => rfl
  | cons c rest =>
    simp [GoUrl.validOptionalPort, GoUrlFull.validOptionalPort]
    rfl

theorem validUserinfo_eq (s : List Nat) : GoUrl.validUserinfo s = GoUrlFull.validUserinfo s := by
  unfold GoUrl.validUserinfo GoUrlFull.validUserinfo
  congr 1

theorem getSchemeAux_eq (whole s : List Nat) (i : Nat) :
    GoUrl.getSchemeAux whole s i = GoUrlFull.getSchemeAux whole s i := by
  induction s generalizing i with
  | nil => rfl
  | cons c rest ih =>
    unfold GoUrl.getSchemeAux GoUrlFull.getSchemeAux
    simp only [isAlphaC_eq, isDigitC_eq, ih, beq_iff_eq, decide_eq_true_eq, Bool.or_eq_true]

theorem getScheme_eq (s : List Nat) : GoUrl.getScheme s = GoUrlFull.getScheme s :=
  getSchemeAux_eq s s 0

theorem unm_unescape (mode : Mode) (s : List Nat) : unm (unescape mode s) = false := by
  cases h : unescape mode s with
  | ok r => rfl
  | error e => rcases C12W.unescape_error h with rfl | rfl <;> rfl

theorem okE_unescape_pct (mode : Mode) (hm : mode ≠ .host) (s : List Nat) :
    okE (unescape mode s) = GoUrl.pctOk s := by
  fun_induction unescape mode s <;> simp_all [okE, GoUrl.pctOk, isHexC_eq]

theorem hostCharOk_low : ∀ c, c < 128 → GoUrl.hostCharOk c = !(shouldEscape c .host) := by
  decide +kernel

theorem hostCharOk_eq (c : Nat) :
    GoUrl.hostCharOk c = !(decide (c < 0x80) && shouldEscape c .host) := by
  by_cases h : c < 128
  · rw [hostCharOk_low c h]; simp [h]
  · have : c ≥ 128 := by omega
    simp [GoUrl.hostCharOk, h, this]

theorem unhexC_eq (c : Nat) (h : ishex c = true) : GoUrl.unhexC c = unhex c := by
  unfold GoUrl.unhexC unhex
  unfold ishex at h
  rw [isDigitC_eq]
  split
  · rfl
  · split
    · rfl
    · simp_all

theorem okE_unescape_host (s : List Nat) : okE (unescape .host s) = GoUrl.hostEscOk s := by
  fun_induction unescape .host s <;> simp_all [okE, GoUrl.hostEscOk, isHexC_eq, hostCharOk_eq]
  -- left over are the places where the two models test differently: an escape `%ab`, refused (case2) or accepted
  -- (case3), where `GoUrl` asks `unhexC a ≥ 8` and the full model `unhex a < 8`; and a plain byte (case8), where
  -- `hostCharOk c` is "`c ≥ 0x80` or not escaped in host mode"
  case case2 a b _ h1 h2 => rw [unhexC_eq a h1.1]; omega
  case case3 a b _ _ h1 h2 _ _ => rw [unhexC_eq a h1.1]; omega
  case case8 c _ _ _ h _ _ => exact (Nat.lt_or_ge c 128).elim (fun h' => .inr (h h')) .inl

theorem unescape_ok_self (mode : Mode) (s r : List Nat) (hs : s.contains 0x25 = false)
    (h : unescape mode s = .ok r) : r = s := by
  fun_induction unescape mode s generalizing r <;> simp_all

theorem lastIndexOf_go (c : Nat) (xs : List Nat) (i : Nat) (acc : Option Nat) :
    GoUrl.lastIndexOf.go c xs i acc =
      match GoUrlFull.lastIndexOf c xs with
      | some j => some (i + j)
      | none => acc := by
  fun_induction GoUrlFull.lastIndexOf c xs generalizing i acc <;> simp_all [GoUrl.lastIndexOf.go] <;> omega

theorem lastIndexOf_eq (c : Nat) (s : List Nat) : GoUrl.lastIndexOf c s = GoUrlFull.lastIndexOf c s := by
  unfold GoUrl.lastIndexOf
  rw [lastIndexOf_go]
  cases GoUrlFull.lastIndexOf c s <;> simp

theorem indexPct25_nopct (s : List Nat) (hs : s.contains 0x25 = false) : GoUrl.indexPct25 s = none := by
  induction s <;> simp_all [GoUrl.indexPct25, List.isPrefixOf]

theorem parseHost_rel (host : List Nat) :
    unm (parseHost host) = true ∨ okE (parseHost host) = GoUrl.parseHostOk host := by
  unfold parseHost GoUrl.parseHostOk
  simp only [lastIndexOf_eq, validOptionalPort_eq]
  cases GoUrlFull.lastIndexOf 0x5b host with
  | none =>
    right
    simp only
    cases GoUrlFull.lastIndexOf 0x3a host with
    | none => simp [okE_unescape_host]
    | some i =>
      simp only
      by_cases hv : GoUrlFull.validOptionalPort (host.drop i) = true
      · simp [hv, okE_unescape_host]
      · simp [hv, okE]
  | some ob =>
    simp only
    cases GoUrlFull.lastIndexOf 0x5d host with
    | none => right; simp [okE]
    | some cb =>
      simp only
      generalize List.drop (cb + 1) host = colonPort
      generalize List.drop (ob + 1) (List.take cb host) = hostname
      cases hvp : GoUrlFull.validOptionalPort colonPort with
      | false => right; simp [okE]
      | true =>
        have h1 := okE_unescape_host colonPort
        cases hcp : unescape Mode.host colonPort with
        | error e =>
          right
          rw [hcp] at h1
          simp [okE] at h1 ⊢
          simp [h1]
        | ok ucp =>
          rw [hcp] at h1
          simp only [okE] at h1
          rw [← h1]
          by_cases hlt : cb < ob + 1
          · right
            have : ¬ cb > ob := by omega
            simp [okE, hlt, this]
          · have hgt : cb > ob := by omega
            cases hpc : hostname.contains 37 with
            | true => left; simp [unm, hlt]
            | false =>
              right
              have h2 := okE_unescape_host hostname
              simp only [GoUrl.ipLiteralOk, indexPct25_nopct hostname hpc, hpc]
              cases hh : unescape Mode.host hostname with
              | error e =>
                rw [hh] at h2
                simp [okE] at h2 ⊢
                simp [h2, hlt]
              | ok uh =>
                rw [hh] at h2
                have := unescape_ok_self _ _ _ hpc hh
                subst this
                simp only [okE] at h2
                simp [← h2, hlt, hgt, okE]
                cases parseAddrIs6 uh uh <;> simp

theorem pctOk_cons_ne (c : Nat) (hc : ¬ c = 37) (rest : List Nat) :
    GoUrl.pctOk (c :: rest) = GoUrl.pctOk rest := by
  rw [GoUrl.pctOk.eq_4]
  · intro a b r h; exact absurd h hc
  · exact hc

theorem isHex_colon : ishex 0x3a = false := by decide

theorem pctOk_cut (s : List Nat) :
    GoUrl.pctOk s =
      (GoUrl.pctOk (GoUrlFull.cut 0x3a s).1 && GoUrl.pctOk ((GoUrlFull.cut 0x3a s).2.getD [])) := by
  fun_induction GoUrl.pctOk s with
  | case1 => simp [GoUrlFull.cut, GoUrl.pctOk]
  | case2 a b rest ih =>
    by_cases ha : a = 0x3a
    · subst ha; simp [GoUrlFull.cut, GoUrl.pctOk, isHexC_eq, isHex_colon]
    · by_cases hb : b = 0x3a
      · subst hb; simp [GoUrlFull.cut, GoUrl.pctOk, isHexC_eq, isHex_colon, ha]
      · simp [GoUrlFull.cut, ha, hb, GoUrl.pctOk]
        rw [ih]
        simp [Bool.and_assoc]
  | case3 tl hx =>
    match tl with
    | [] => simp [GoUrlFull.cut, GoUrl.pctOk]
    | [a] => by_cases ha : a = 0x3a <;> simp [GoUrlFull.cut, GoUrl.pctOk, ha]
    | a :: b :: r => exact absurd rfl (hx a b r)
  | case4 c rest _ hc ih =>
    have hc' : ¬ c = 37 := hc
    by_cases h : c = 0x3a
    · subst h; simp [GoUrlFull.cut, GoUrl.pctOk]
    · simp [GoUrlFull.cut, h, pctOk_cons_ne c hc']
      exact ih

theorem parseAuthority_rel (a : List Nat) :
    unm (parseAuthority a) = true ∨ okE (parseAuthority a) = GoUrl.parseAuthorityOk a := by
  unfold parseAuthority GoUrl.parseAuthorityOk
  simp only [lastIndexOf_eq, validUserinfo_eq]
  cases GoUrlFull.lastIndexOf 0x40 a with
  | none =>
    simp only
    rcases parseHost_rel a with h | h
    · exact .inl (by simp [unm_eq h])
    · right; rw [← h]; cases hp : parseHost a <;> simp [okE]
  | some i =>
    simp only
    generalize List.drop (i + 1) a = hs
    generalize List.take i a = ui
    rcases parseHost_rel hs with h | h
    · exact .inl (by simp [unm_eq h])
    · rw [← h]
      right
      cases hp : parseHost hs with
      | error e => simp [okE]
      | ok host =>
        simp only [okE, Bool.true_and]
        cases hv : GoUrlFull.validUserinfo ui with
        | false => simp
        | true =>
          simp only [Bool.true_and, Bool.not_true, Bool.false_eq_true, if_false]
          have hu := okE_unescape_pct .userPassword (by decide)
          cases hc : ui.contains 0x3a with
          | false =>
            simp only [Bool.not_false, if_true]
            rw [← hu ui]
            cases unescape Mode.userPassword ui <;> simp [okE]
          | true =>
            simp only [Bool.not_true, Bool.false_eq_true, if_false]
            rw [pctOk_cut ui, ← hu, ← hu]
            cases unescape Mode.userPassword (GoUrlFull.cut 0x3a ui).1 with
            | error e => simp [okE]
            | ok un =>
              cases unescape Mode.userPassword ((GoUrlFull.cut 0x3a ui).2.getD []) <;> simp [okE]

theorem queryCut_fst (r : List Nat) : (queryCut r).1 = (GoUrlFull.cut 0x3f r).1 := by
  unfold queryCut
  split
  · rename_i h
    simp only [Bool.and_eq_true, beq_iff_eq] at h
    obtain ⟨ys, rfl⟩ := List.getLast?_eq_some_iff.1 h.1
    have hys : 0x3f ∉ ys := fun hm => by
      have h1 := C12W.countByte_pos hm
      have h2 : countByte 0x3f ys + 1 = 1 := (C12W.countByte_append 0x3f ys [0x3f]).symm.trans h.2
      omega
    rw [C12W.cut_append_sep _ _ _ hys]
    simp
  · rfl

theorem unm_setPath (u : URL) (p : List Nat) : unm (setPath u p) = false := by
  unfold setPath
  have := unm_unescape .path p
  cases h : unescape .path p with
  | ok x => simp
  | error e => rw [h] at this; cases e <;> first | rfl | cases this

theorem setPath_scheme (u u' : URL) (p : List Nat) (h : setPath u p = .ok u') : u'.scheme = u.scheme := by
  unfold setPath at h
  cases h2 : unescape .path p with
  | ok x => rw [h2] at h; simp at h; rw [← h]
  | error e => rw [h2] at h; simp at h

theorem unm_setFragment (u : URL) (p : List Nat) : unm (setFragment u p) = false := by
  unfold setFragment
  have := unm_unescape .fragment p
  cases h : unescape .fragment p with
  | ok x => simp
  | error e => rw [h] at this; cases e <;> first | rfl | cases this

theorem setFragment_scheme (u u' : URL) (p : List Nat) (h : setFragment u p = .ok u') :
    u'.scheme = u.scheme := by
  unfold setFragment at h
  cases h2 : unescape .fragment p with
  | ok x => rw [h2] at h; simp at h; rw [← h]
  | error e => rw [h2] at h; simp at h

/-- the two models agree on a result: the full model declines, or both fail, or both succeed with schemes
    that are empty together -/
def Rel (r : Except PErr URL) (o : Option (List Nat)) : Prop :=
  unm r = true ∨ r.toOption.map (·.scheme.isEmpty) = o.map List.isEmpty

theorem Rel_error (e : PErr) : Rel (.error e) none := .inr rfl

theorem Rel_ok (u : URL) (sch : List Nat) (h : u.scheme.isEmpty = sch.isEmpty) : Rel (.ok u) (some sch) :=
  .inr (congrArg some h)

theorem Rel_setPath (u : URL) (p sch : List Nat) (h : u.scheme.isEmpty = sch.isEmpty) :
    Rel (setPath u p) (if GoUrl.pctOk p then some sch else none) := by
  rw [← okE_unescape_pct .path (by decide) p]
  unfold setPath
  cases unescape .path p with
  | error e => exact Rel_error e
  | ok x => exact Rel_ok _ _ h

theorem startsWith_eq (p s : List Nat) : GoUrl.startsWith p s = GoUrlFull.startsWith p s := rfl

/-- the body of `GoUrl.parseNoFrag` after `getScheme` -/
def restOk (scheme rest0 : List Nat) : Option (List Nat) :=
  let rest := (GoUrlFull.cut 0x3f rest0).1
  if !startsWith [0x2f] rest then
    if !scheme.isEmpty then some scheme
    else if ((GoUrlFull.cut 0x2f rest).1).contains 0x3a then none
    else (if GoUrl.pctOk rest then some scheme else none)
  else if (!scheme.isEmpty || !startsWith [0x2f, 0x2f, 0x2f] rest) && startsWith [0x2f, 0x2f] rest then
    if GoUrl.parseAuthorityOk (GoUrlFull.cut 0x2f (rest.drop 2)).1 &&
        GoUrl.pctOk (C12W.slashTail (GoUrlFull.cut 0x2f (rest.drop 2)).2) then some scheme else none
  else if GoUrl.pctOk rest then some scheme else none

theorem parseNoFrag_restOk (u : List Nat) :
    GoUrl.parseNoFrag u =
      if hasCTL u then none
      else if u = [0x2a] then some []
      else match getScheme u with
        | none => none
        | some (scheme, rest0) => restOk scheme rest0 := by
  unfold GoUrl.parseNoFrag restOk
  simp only [cut_eq, hasCTL_eq, getScheme_eq, startsWith_eq]
  by_cases h1 : hasCTL u = true
  · simp [h1]
  · by_cases h2 : u = [0x2a]
    · simp [h2]
    · simp only [h1, h2, if_false]
      cases hg : getScheme u with
      | none => rfl
      | some pr =>
        obtain ⟨scheme, rest0⟩ := pr
        simp only
        generalize (GoUrlFull.cut 0x3f rest0).1 = rest
        rcases hc : GoUrlFull.cut 0x2f (List.drop 2 rest) with ⟨authority, tail⟩
        cases tail <;> simp [C12W.slashTail]

theorem startsWith2_1 (rest : List Nat) (h : startsWith [0x2f] rest = false) :
    startsWith [0x2f, 0x2f] rest = false := by
  cases rest with
  | nil => rfl
  | cons c r =>
    simp only [startsWith, List.isPrefixOf, Bool.and_true, beq_eq_false_iff_ne, ne_eq] at h
    have : (47 == c) = false := by simpa using h
    simp [startsWith, List.isPrefixOf, this]

theorem parseRest_rel (sch' scheme rest0 : List Nat) (he : sch'.isEmpty = scheme.isEmpty) :
    Rel (parseRest sch' rest0) (restOk scheme rest0) := by
  unfold parseRest restOk
  simp only [queryCut_fst]
  generalize (GoUrlFull.cut 0x3f rest0).1 = rest
  generalize (queryCut rest0).2.1 = fq
  generalize (queryCut rest0).2.2 = rq
  cases hs : startsWith [0x2f] rest with
  | false =>
    cases hse : scheme.isEmpty with
    | false =>
      rw [hse] at he
      simp only [he, Bool.not_false, Bool.and_self, if_true]
      exact Rel_ok _ _ (by simp [he, hse])
    | true =>
      rw [hse] at he
      simp only [he, Bool.not_false, Bool.not_true, Bool.and_false, Bool.false_eq_true, if_false, if_true,
        Bool.true_and, Bool.false_or, startsWith2_1 rest hs, Bool.and_false]
      cases hcol : ((GoUrlFull.cut 0x2f rest).1).contains 0x3a with
      | true => simp only [if_true]; exact Rel_error _
      | false =>
        simp only [Bool.false_eq_true, if_false]
        exact Rel_setPath _ _ _ (by simp [he, hse])
  | true =>
    simp only [Bool.not_true, Bool.false_and, Bool.false_eq_true, if_false]
    rw [he]
    split
    · rw [C12W.authCut_eq]
      simp only
      generalize (GoUrlFull.cut 0x2f (List.drop 2 rest)).1 = auth
      generalize C12W.slashTail (GoUrlFull.cut 0x2f (List.drop 2 rest)).2 = path
      rcases parseAuthority_rel auth with h | h
      · exact .inl (by simp [unm_eq h])
      · rw [← h]
        cases hp : parseAuthority auth with
        | error e => simp only [okE_error, Bool.false_and, Bool.false_eq_true, if_false]; exact Rel_error _
        | ok x =>
          obtain ⟨user, host⟩ := x
          simp only [okE_ok, Bool.true_and]
          exact Rel_setPath _ _ _ (by simp [he])
    · exact Rel_setPath _ _ _ (by simp [he])

theorem parseNoFrag_rel (u : List Nat) : Rel (GoUrlFull.parseNoFrag u) (GoUrl.parseNoFrag u) := by
  rw [parseNoFrag_restOk]
  unfold GoUrlFull.parseNoFrag
  by_cases h1 : hasCTL u = true
  · simp only [h1, if_true]; exact Rel_error _
  · by_cases h2 : u = [0x2a]
    · simp only [h2, if_true]; exact Rel_ok _ _ rfl
    · simp only [h1, h2, if_false]
      cases hg : getScheme u with
      | none => exact Rel_error _
      | some pr =>
        obtain ⟨scheme, rest0⟩ := pr
        exact parseRest_rel _ _ _ (by simp)

/-- acceptance and `IsAbs` of a result of the full model -/
def absE : Except PErr URL → Bool
  | .ok u => u.isAbs
  | .error _ => false

theorem parse_main (s : List Nat) (h : unm (parse s) = false) :
    GoUrl.parseOk s = okE (parse s) ∧ GoUrl.parseAbsOk s = absE (parse s) := by
  unfold GoUrl.parseOk GoUrl.parseAbsOk
  unfold parse at h ⊢
  rw [cut_eq]
  rcases hc : GoUrlFull.cut 0x23 s with ⟨u, frag⟩
  rw [hc] at h
  simp only at h ⊢
  rcases parseNoFrag_rel u with hr | hr
  · cases hp : GoUrlFull.parseNoFrag u <;> simp_all
  · cases hp : GoUrlFull.parseNoFrag u with
    | error e => cases ho : GoUrl.parseNoFrag u <;> simp_all [absE, Except.toOption]
    | ok x =>
      cases ho : GoUrl.parseNoFrag u with
      | none => simp_all [Except.toOption]
      | some sch =>
        have hsch : x.scheme.isEmpty = sch.isEmpty := by simpa [hp, ho, Except.toOption] using hr
        match frag with
        | none => simp [absE, URL.isAbs, hsch]
        | some [] => simp [absE, URL.isAbs, hsch, GoUrl.pctOk]
        | some (c :: f) =>
          simp only [List.isEmpty_cons, Bool.false_eq_true, if_false]
          rw [← okE_unescape_pct .fragment (by decide) (c :: f)]
          unfold setFragment
          cases unescape .fragment (c :: f) <;> simp [absE, URL.isAbs, hsch]

theorem fullUnmodelled_eq (s : List Nat) : RdfModel.IriUnify.fullUnmodelled s = unm (parse s) := by
  unfold RdfModel.IriUnify.fullUnmodelled
  cases parse s with
  | ok u => rfl
  | error e => cases e <;> rfl

theorem fullOk_eq (s : List Nat) : RdfModel.IriUnify.fullOk s = okE (parse s) := by
  unfold RdfModel.IriUnify.fullOk
  cases parse s <;> rfl

theorem fullAbsOk_eq (s : List Nat) : RdfModel.IriUnify.fullAbsOk s = absE (parse s) := by
  unfold RdfModel.IriUnify.fullAbsOk
  cases parse s <;> rfl

theorem parseAbsOk_eq_full (s : List Nat) (h : RdfModel.IriUnify.fullUnmodelled s = false) :
    RdfModel.GoUrl.parseAbsOk s = RdfModel.IriUnify.fullAbsOk s := by
  rw [fullUnmodelled_eq] at h
  rw [fullAbsOk_eq]
  exact (parse_main s h).2

theorem parseOk_eq_full (s : List Nat) (h : RdfModel.IriUnify.fullUnmodelled s = false) :
    RdfModel.GoUrl.parseOk s = RdfModel.IriUnify.fullOk s := by
  rw [fullUnmodelled_eq] at h
  rw [fullOk_eq]
  exact (parse_main s h).1

theorem absOkBytes_eq (s : List Nat) :
    RdfModel.IriUnify.absOkBytes s = RdfModel.GoUrl.parseAbsOk s := by
  have h := parse_main s
  unfold RdfModel.IriUnify.absOkBytes
  cases hp : parse s with
  | ok u => rw [hp] at h; exact (h rfl).2.symm
  | error e =>
    rw [hp] at h
    -- on `unmodelled` the definition hands over to the acceptance model; every other error is a refusal of both
    cases e with
    | unmodelled => rfl
    | _ => exact (h rfl).2.symm

end RdfModel.Proofs.IriUnify
