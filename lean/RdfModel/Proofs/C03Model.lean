import RdfModel.Proofs.C04Final
import RdfModel.Proofs.C04Fuel
import RdfModel.Proofs.C03Simple
namespace RdfModel.Proofs.C03
open RdfModel RdfModel.Proofs.StrOrd RdfModel.C04 RdfModel.Proofs.C04


variable {β : Type} [DecidableEq β]

theorem canon_ne_panic (T : NQ.Tables) (hT : TablesCanon T) (H : Str → Str) (lim : Rdfcanon.Limits)
    (ord : List β → List β) (hord : OrdOK ord) (qs : List (Quad β)) (hwf : ∀ q ∈ qs, WFQuad T q) :
    Rdfcanon.canon T H lim ord qs ≠ .panic := fun h => by
  -- `perms` is taken to be Go's own enumeration `heapPerms (lim.maxPermutations + 1)`, which agrees with
  -- itself: `PermsAgree` holds by `rfl`, and unification reads `perms` off that proof
  have hs := canon_structure T hT H lim ord hord _ (fun _ _ => rfl) qs hwf
  rw [h] at hs
  exact hs

/-- The renaming applied: blank node ↦ issued canonical identifier. -/
def labelOf (out : Rdfcanon.Out β) (b : β) : Str := (assoc out.issued b).getD []

omit [DecidableEq β] in
theorem mem_lineList (lab : β → Str) (qs : List (Quad β)) (idx : Nat) (l : Rdfcanon.Line)
    (h : l ∈ lineList lab qs idx) : ∃ i q, qs[i]? = some q ∧ l = ⟨idx + i, Spec.RDFC10.nquad lab q⟩ := by
  rw [lineList_eq] at h
  obtain ⟨p, hp, rfl⟩ := List.mem_map.1 h
  obtain ⟨hle, hq⟩ := List.mem_zipIdx_iff_le_and_getElem?_sub.1 hp
  exact ⟨p.2 - idx, p.1, hq, by rw [Nat.add_sub_cancel' hle]⟩

omit [DecidableEq β] in
theorem lineList_idx (lab : β → Str) (qs : List (Quad β)) (idx : Nat) :
    (lineList lab qs idx).map (·.idx) = List.range' idx qs.length := by
  rw [lineList_eq, List.map_map]
  exact List.zipIdx_map_snd idx qs

/-- A result of `canon` on `qs`: the lines are the relabelled quads, sorted; every blank node of `qs` has an issued
    identifier; identifiers are distinct, are what `identifier` returns, and are `c14n` followed by a number. -/
structure Shape (T : NQ.Tables) (qs : List (Quad β)) (out : Rdfcanon.Out β) : Prop where
  lines : out.lines = (lineList (labelOf out) qs 0).mergeSort (fun a b => strLe a.encoded b.encoded)
  total : ∀ q ∈ qs, ∀ b ∈ Spec.RDFC10.quadBnodes q, (assoc out.issued b).isSome
  inj : ∀ b b' v, assoc out.issued b = some v → assoc out.issued b' = some v → b = b'
  ident : ∀ b v, assoc out.issued b = some v → out.identifier b = v
  form : ∀ b v, assoc out.issued b = some v → ∃ k, v = Spec.RDFC10.c14nPrefix ++ decimal k

theorem shape_of_ok (T : NQ.Tables) (hT : TablesCanon T) (H : Str → Str) (lim : Rdfcanon.Limits)
    (ord : List β → List β) (hord : OrdOK ord) (qs : List (Quad β)) (hwf : ∀ q ∈ qs, WFQuad T q)
    (out : Rdfcanon.Out β) (h : Rdfcanon.canon T H lim ord qs = .ok out) : Shape T qs out := by
  have hs := canon_structure T hT H lim ord hord _ (fun _ _ => rfl) qs hwf
  rw [h] at hs
  obtain ⟨cs5, _, hc, hknown, hlines⟩ := hs
  have hiss : out.issued = cs5.issued := issued_eq hc
  have hlab : (fun b => (cs5.get? b).getD []) = labelOf out := by
    funext b; simp [labelOf, hiss, Spec.RDFC10.Issuer.get?]
  constructor
  · rw [hlines, hlab]
  · intro q hq b hb
    rw [hiss]; exact hknown q hq b hb
  · intro b b' v h1 h2
    rw [hiss] at h1 h2
    have hvals : (cs5.issued.map (·.2)).Nodup := by
      rw [hc.seq]
      have hr : (List.range cs5.counter).Nodup := List.nodup_range
      unfold List.Nodup at hr ⊢
      rw [List.pairwise_map]
      exact hr.imp (fun {x y} hxy heq => hxy (decimal_injective (List.append_cancel_left heq)))
    have := inj_of_nodup_map (fun e : β × Str => e.2) cs5.issued hvals (b, v) (assoc_mem _ _ _ h1)
      (b', v) (assoc_mem _ _ _ h2) rfl
    exact (Prod.mk.inj this).1
  · intro b v h1
    rw [hiss] at h1
    unfold Rdfcanon.Out.identifier
    rw [hc.get_known b v h1]
  · intro b v h1
    rw [hiss] at h1
    have hm : v ∈ cs5.issued.map (·.2) := List.mem_map.mpr ⟨(b, v), assoc_mem _ _ _ h1, rfl⟩
    rw [hc.seq, hc.cpfx] at hm
    obtain ⟨k, _, hk⟩ := List.mem_map.mp hm
    exact ⟨k, hk.symm⟩

theorem lines_encoded {T : NQ.Tables} {qs : List (Quad β)} {out : Rdfcanon.Out β} (hs : Shape T qs out) :
    out.lines.map (·.encoded) = sortStr (qs.map (Spec.RDFC10.nquad (labelOf out))) := by
  rw [hs.lines, lineList_sorted_encoded]

theorem canon_ok_of_allDistinct (T : NQ.Tables) (hT : TablesCanon T) (H : Str → Str) (lim : Rdfcanon.Limits)
    (ord : List β → List β) (hord : OrdOK ord) (qs : List (Quad β)) (hwf : ∀ q ∈ qs, WFQuad T q)
    (hd : AllDistinct H qs) : ∃ out, Rdfcanon.canon T H lim ord qs = .ok out := by
  have henc := encOK_of_tables T hT
  obtain ⟨st0, hi1, _, _, hb0⟩ := ingest_init T qs hwf
  rw [canon_unfold T H lim ord qs st0 hi1, h2bM_eq_h2bS T henc H ord hb0]
  have hfil : (sortByKey (h2bS H ord (Spec.RDFC10.bnodeToQuads true qs))).filter
      (fun e => e.2.length > 1) = [] := by
    rw [List.filter_eq_nil_iff]
    intro e he
    have he' : e ∈ h2bS H ord (Spec.RDFC10.bnodeToQuads true qs) := by simpa [sortByKey] using he
    have := filter_hash_length_le_one _ _ (hd.ord hord) e.1
    rw [← mem_group _ _ e he'] at this
    simpa using this
  rw [hfil]
  simp only [Rdfcanon.step5]
  exact ⟨_, rfl⟩

omit [DecidableEq β] in
theorem wf_pred (T : NQ.Tables) (q : Quad β) (h : WFQuad T q) : ∀ b, q.p ≠ .bnode b := by
  intro b hb
  have := h.p
  rw [hb] at this
  simp [WFPredicate] at this

omit [DecidableEq β] in
theorem wfQuad_map {γ : Type} (T : NQ.Tables) (σ : β → γ) (q : Quad β) (h : WFQuad T q) :
    WFQuad T (q.map σ) := by
  obtain ⟨s, p, o, g⟩ := q
  obtain ⟨hs, hp, ho, hg⟩ := h
  refine ⟨by cases s <;> exact hs, by cases p <;> exact hp, by cases o <;> exact ho, fun g' hg' => ?_⟩
  cases g with
  | none => cases hg'
  | some g0 => cases hg'; cases g0 <;> exact hg _ rfl

omit [DecidableEq β] in
theorem wfQuad_perm_map {γ : Type} {T : NQ.Tables} {σ : β → γ} {qs : List (Quad β)} {qs' : List (Quad γ)}
    (hp : qs'.Perm (qs.map (Quad.map σ))) (hwf : ∀ q ∈ qs, WFQuad T q) : ∀ q ∈ qs', WFQuad T q := by
  intro q hq
  obtain ⟨q0, hq0, rfl⟩ := List.mem_map.mp (hp.subset hq)
  exact wfQuad_map T σ q0 (hwf q0 hq0)

theorem limit_never_wrong (T : NQ.Tables) (hT : TablesCanon T) (H : Str → Str) (lim : Rdfcanon.Limits)
    (ord : List β → List β) (hord : OrdOK ord) (qs : List (Quad β)) (hwf : ∀ q ∈ qs, WFQuad T q) :
    (∃ l, Rdfcanon.canon T H lim ord qs = .limit l) ∨
    (∃ out, Rdfcanon.canon T H lim ord qs = .ok out ∧ Shape T qs out ∧
      ∀ perms, PermsAgree lim.maxPermutations perms → ∀ fuel, lim.maxRecursionDepth + 1 ≤ fuel →
        Spec.RDFC10.canonFuel H ord perms true fuel qs = some (specView out)) := by
  cases h : Rdfcanon.canon T H lim ord qs with
  | limit l => exact Or.inl ⟨l, rfl⟩
  | panic => exact absurd h (canon_ne_panic T hT H lim ord hord qs hwf)
  | ok out =>
    refine Or.inr ⟨out, rfl, shape_of_ok T hT H lim ord hord qs hwf out h, ?_⟩
    intro perms hperms fuel hfuel
    exact canonFuel_mono H ord perms true qs
      (canon_refines_spec T hT H lim ord hord perms hperms qs hwf out h) hfuel

end RdfModel.Proofs.C03
