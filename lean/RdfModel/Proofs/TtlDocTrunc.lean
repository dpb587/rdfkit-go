/-
  Statement layer of Turtle/TriG: what the scan functions that IGNORE their `err` argument do when
  the input ends in front of them (C15, the closures excluded from
  `ttl_truncation_reported_partial`).  Go hands them the zero `DecodedRune`; they compare rune 0
  with the character they expect, push it back (`BacktrackRunes(r0)`: a NUL enters the buffer) and
  a later scan function reports "unexpected rune '\x00'".  Each chain is computed here iteration by
  iteration (`iter`, Proofs/TtlDocIter.lean); the result is always `Next() = false` with a syntax
  error latched — never a clean end.
-/
import RdfModel.Proofs.TtlDocIter
namespace RdfModel.TtlDoc
open RdfModel

variable {C : Cfg} {e : End}

/-- NUL is neither white space nor the start of a name (true of `unicode.IsSpace` and PN_CHARS_BASE). -/
structure NulPlain (C : Cfg) : Prop where
  space : C.isSpace 0 = false
  base : C.pnBase 0 = false

theorem scanFn_nul (hN : NulPlain C) (f : Frame) (env : Env) :
    scanFn C e f [0] env = stepFn C e f.k f.x env (.rune 0 []) := by
  simp [scanFn, skipWs, isWs, hN.space]

/-- what the chains end in -/
def SyntaxEnd (C : Cfg) (e : End) (cur : Option Frame) (st : St) : Prop :=
  ∃ st', Reach C e cur st (.no st') ∧ st'.err = some .syntax

theorem stepObject_nul (hN : NulPlain C) (x : Ectx) (env : Env) : stepObject C e x env 0 [] = .err .syntax := by
  simp [stepObject, hN.base]

theorem graphAnonClose_end (x : Ectx) {st : St} (herr : st.err = none) (hs : st.stmts = [])
    (hend : skipWs C e false st.inp = .end_) : SyntaxEnd C e (some ⟨x, .graphAnonClose⟩) st := by
  refine ⟨_, reach_latch (k := .syntax) (iter_err herr hs rfl ?_) rfl, rfl⟩
  rw [scanFn_end hend]; simp [stepFn, Arg.orNul]

theorem polRequired_nul (hN : NulPlain C) (x : Ectx) {st : St} (herr : st.err = none) (hs : st.stmts = [])
    (hinp : st.inp = [0]) : SyntaxEnd C e (some ⟨x, .polRequired⟩) st := by
  refine ⟨_, reach_latch (k := .syntax) (iter_err herr hs rfl ?_) rfl, rfl⟩
  rw [hinp, scanFn_nul hN]; simp [stepFn, stepPOL_back _ _ _ hN.base]

theorem object_nul (hN : NulPlain C) (x : Ectx) {st : St} (herr : st.err = none) (hs : st.stmts = [])
    (hinp : st.inp = [0]) : SyntaxEnd C e (some ⟨x, .object⟩) st := by
  refine ⟨_, reach_latch (k := .syntax) (iter_err herr hs rfl ?_) rfl, rfl⟩
  rw [hinp, scanFn_nul hN]; simp [stepFn, stepObject_nul hN]

theorem SyntaxEnd.step {cur c : Option Frame} {st s : St} (h : iter C e cur st = .cont c s)
    (hs : SyntaxEnd C e c s) : SyntaxEnd C e cur st := by
  obtain ⟨st', h1, h2⟩ := hs
  exact ⟨st', .step h h1, h2⟩

/-- TriG label, then end of input: `E1` finds no `{`, takes the label as subject, pushes the NUL back -/
theorem tgE1_end (hN : NulPlain C) (x : Ectx) (v : T) (hv : nodeShape v) {st : St} (herr : st.err = none)
    (hs : st.stmts = []) (hend : skipWs C e false st.inp = .end_) : SyntaxEnd C e (some ⟨x, .tgE1 v⟩) st := by
  have h1 : scanFn C e ⟨x, .tgE1 v⟩ st.inp st.env =
      .ok { cur := some ⟨{ x with subj := some v }, .polRequired⟩,
            push := [⟨{ x with subj := some v }, .triplesEnd⟩, ⟨{ x with subj := some v }, .polContinue⟩],
            inp := [0], env := st.env } := by
    rw [scanFn_end hend]
    simp only [stepFn, Arg.orNul]
    cases v <;> first | rfl | exact hv.elim
  refine SyntaxEnd.step (iter_ok herr hs rfl h1) ?_
  exact polRequired_nul hN _ (by simp [applyOut, herr]) (by simp [applyOut, hs]) (by simp [applyOut])

theorem collOpenSubj_nul (hN : NulPlain C) (x : Ectx) (o : T) (hx : x.subj = none) {st : St} (herr : st.err = none)
    (hs : st.stmts = []) (hinp : skipWs C e false st.inp = .end_ ∨ st.inp = [0]) :
    SyntaxEnd C e (some ⟨x, .collOpenSubj o⟩) st := by
  have h1 : scanFn C e ⟨x, .collOpenSubj o⟩ st.inp st.env =
      .ok { cur := some ⟨{ x with subj := some o, pred := some (.iri rdfFirst) }, .object⟩,
            push := [⟨{ x with subj := some o, pred := some (.iri rdfFirst) }, .collContinue⟩],
            inp := [0], env := st.env } := by
    rcases hinp with h | h
    · rw [scanFn_end h]; simp [stepFn, Arg.orNul, stepCollection, hx]
    · rw [h, scanFn_nul hN]; simp [stepFn, Arg.orNul, stepCollection, hx]
  refine SyntaxEnd.step (iter_ok herr hs rfl h1) ?_
  exact object_nul hN _ (by simp [applyOut, herr]) (by simp [applyOut, hs]) (by simp [applyOut])

theorem paren_end (hN : NulPlain C) (top : Bool) (x : Ectx) (bn : T) (hx : x.subj = none) {st : St}
    (herr : st.err = none) (hs : st.stmts = []) (hend : skipWs C e false st.inp = .end_) :
    SyntaxEnd C e (some ⟨x, if top then .parenTop bn else .parenBlock bn⟩) st := by
  have h1 : scanFn C e ⟨x, if top then .parenTop bn else .parenBlock bn⟩ st.inp st.env =
      .ok { cur := some ⟨x, .collOpenSubj bn⟩,
            push := (if top then [(⟨x, .triplesEnd⟩ : Frame)] else []) ++
              [⟨{ x with subj := some bn }, .polContinue⟩, ⟨{ x with subj := some bn }, .polRequired⟩],
            inp := [0], env := st.env } := by
    rw [scanFn_end hend]
    cases top <;> simp [stepFn, stepParen, Arg.orNul]
  refine SyntaxEnd.step (iter_ok herr hs rfl h1) ?_
  exact collOpenSubj_nul hN x bn hx (by simp [applyOut, herr]) (by simp [applyOut, hs]) (Or.inr (by simp [applyOut]))

/-- `[` at the top level of a TriG document, then end of input: five more scan calls, then
    `blankNodePropertyList_End` meets the NUL -/
theorem tgBracket_end (hN : NulPlain C) (x : Ectx) (bn : T) {st : St} (herr : st.err = none) (hs : st.stmts = [])
    (hend : skipWs C e false st.inp = .end_) : SyntaxEnd C e (some ⟨x, .tgBracket bn⟩) st := by
  let x1 : Ectx := { x with subj := some bn }
  have h1 : scanFn C e ⟨x, .tgBracket bn⟩ st.inp st.env =
      .ok { cur := some ⟨x1, .triples2BNPL⟩, inp := [0], env := st.env } := by
    rw [scanFn_end hend]; simp [stepFn, Arg.orNul, x1]
  refine SyntaxEnd.step (iter_ok herr hs rfl h1) ?_
  let st1 : St := applyOut st { cur := some ⟨x1, .triples2BNPL⟩, inp := [0], env := st.env }
  have h2 : scanFn C e ⟨x1, .triples2BNPL⟩ st1.inp st1.env =
      .ok { cur := some ⟨x1, .pol⟩,
            push := [⟨x1, .triplesEnd⟩, ⟨x1, .polContinue⟩, ⟨x1, .pol⟩, ⟨x1, .bnplEnd⟩, ⟨x1, .polContinue⟩],
            inp := [0], env := st.env } := by
    show scanFn C e ⟨x1, .triples2BNPL⟩ [0] st.env = _
    rw [scanFn_nul hN]; simp [stepFn]
  refine SyntaxEnd.step (iter_ok (st := st1) (by simp [st1, applyOut, herr]) (by simp [st1, applyOut, hs]) rfl h2) ?_
  let st2 : St := applyOut st1 { cur := some ⟨x1, .pol⟩, push := [⟨x1, .triplesEnd⟩, ⟨x1, .polContinue⟩, ⟨x1, .pol⟩, ⟨x1, .bnplEnd⟩, ⟨x1, .polContinue⟩], inp := [0], env := st.env }
  have h3 : scanFn C e ⟨x1, .pol⟩ st2.inp st2.env = .ok { inp := [0], env := st.env } := by
    show scanFn C e ⟨x1, .pol⟩ [0] st.env = _
    rw [scanFn_nul hN]; simp [stepFn, stepPOL_back _ _ _ hN.base]
  refine SyntaxEnd.step (iter_ok (st := st2) (by simp [st2, st1, applyOut, herr]) (by simp [st2, st1, applyOut, hs]) rfl h3) ?_
  let st3 : St := applyOut st2 { inp := [0], env := st.env }
  have hstack3 : st3.stack = ⟨x1, .polContinue⟩ :: ⟨x1, .bnplEnd⟩ :: ⟨x1, .pol⟩ :: ⟨x1, .polContinue⟩ :: ⟨x1, .triplesEnd⟩ :: st.stack := by
    simp [st3, st2, st1, applyOut]
  have h4 : scanFn C e ⟨x1, .polContinue⟩ st3.inp st3.env = .ok { inp := [0], env := st.env } := by
    show scanFn C e ⟨x1, .polContinue⟩ [0] st.env = _
    rw [scanFn_nul hN]; simp [stepFn]
  refine SyntaxEnd.step (iter_ok (st := st3) (by simp [st3, st2, st1, applyOut, herr])
    (by simp [st3, st2, st1, applyOut, hs]) hstack3 h4) ?_
  let st4 : St := applyOut { st3 with stack := ⟨x1, .bnplEnd⟩ :: ⟨x1, .pol⟩ :: ⟨x1, .polContinue⟩ :: ⟨x1, .triplesEnd⟩ :: st.stack } { inp := [0], env := st.env }
  have hstack4 : st4.stack = ⟨x1, .bnplEnd⟩ :: ⟨x1, .pol⟩ :: ⟨x1, .polContinue⟩ :: ⟨x1, .triplesEnd⟩ :: st.stack := by
    simp [st4, applyOut]
  have h5 : scanFn C e ⟨x1, .bnplEnd⟩ st4.inp st4.env = .err .syntax := by
    show scanFn C e ⟨x1, .bnplEnd⟩ [0] st.env = _
    rw [scanFn_nul hN]; simp [stepFn]
  exact ⟨_, reach_latch (k := .syntax) (iter_err (st := st4) (by simp [st4, st3, st2, st1, applyOut, herr])
    (by simp [st4, st3, st2, st1, applyOut, hs]) hstack4 h5) rfl, rfl⟩

end RdfModel.TtlDoc
