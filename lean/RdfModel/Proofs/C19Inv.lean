import RdfModel.Proofs.C19Key
import RdfModel.Proofs.C19Assoc
namespace RdfModel.Proofs.C19
open RdfModel.DS RdfModel.C19

def NodeOK (n : Node) : Prop := keyOf n.t = n.key ∧ WFTerm n.t

theorem NodeOK.key_iff {n : Node} (h : NodeOK n) {t : Term} (ht : WFTerm t) :
    n.key = keyOf t ↔ n.t = t :=
  ⟨fun hk => keyOf_injective _ _ h.2 ht (h.1.trans hk), fun e => by rw [← e]; exact h.1.symm⟩

/-- A subject's statement list: nodes fine, identities below the allocation counter, no two
    statements with the same predicate and object nodes, no two with the same identity. -/
def StmtsOK (bound : Nat) (l : List Stmt) : Prop :=
  (∀ st ∈ l, NodeOK st.p ∧ NodeOK st.o ∧ st.id < bound) ∧
  l.Pairwise (fun a b => ¬(a.p.key = b.p.key ∧ a.o.key = b.o.key)) ∧
  l.Pairwise (fun a b => a.id ≠ b.id)

def GraphInv (bound : Nat) (G : SubjMap) : Prop :=
  (keys G).Nodup ∧ ∀ k n l, (k, (n, l)) ∈ G → n.key = k ∧ NodeOK n ∧ StmtsOK bound l

def NodesInv (nodes : List (NodeKey × Node)) : Prop :=
  ∀ k n, alookup k nodes = some n → n.key = k ∧ NodeOK n

structure Inv (s : State) : Prop where
  nodes : NodesInv s.nodes
  gkeys : (keys s.graphs).Nodup
  graph : ∀ g G, (g, G) ∈ s.graphs → GraphInv s.nextId G
  gwf : ∀ g G, (g, G) ∈ s.graphs → WFGraphName g

theorem StmtsOK.mono {b b' : Nat} (h : b ≤ b') {l : List Stmt} (hl : StmtsOK b l) : StmtsOK b' l :=
  ⟨fun st hst => ⟨(hl.1 st hst).1, (hl.1 st hst).2.1, Nat.lt_of_lt_of_le (hl.1 st hst).2.2 h⟩, hl.2⟩

theorem GraphInv.mono {b b' : Nat} (h : b ≤ b') {G : SubjMap} (hG : GraphInv b G) : GraphInv b' G :=
  ⟨hG.1, fun k n l hm => ⟨(hG.2 k n l hm).1, (hG.2 k n l hm).2.1, (hG.2 k n l hm).2.2.mono h⟩⟩

theorem bindNode_graphs (s : State) (t : Term) : (bindNode s t).1.graphs = s.graphs := by
  unfold bindNode; split <;> rfl

theorem bindNode_nextId (s : State) (t : Term) : (bindNode s t).1.nextId = s.nextId := by
  unfold bindNode; split <;> rfl

/-- `bindNode` returns the node of the term itself: a node found under the term's key stores, by
    injectivity of the key, that very term. -/
theorem bindNode_spec (s : State) (t : Term) (hn : NodesInv s.nodes) (ht : WFTerm t) :
    (bindNode s t).2 = ⟨keyOf t, t⟩ ∧ NodesInv (bindNode s t).1.nodes := by
  unfold bindNode
  split
  · rename_i n hl
    obtain ⟨hk, ho⟩ := hn _ _ hl
    have := (ho.key_iff ht).1 hk
    exact ⟨by cases n; simp_all, hn⟩
  · refine ⟨rfl, fun k n h => ?_⟩
    rw [alookup_append] at h
    split at h
    · rename_i v hv; cases h; exact hn _ _ hv
    · simp only [alookup] at h
      split at h
      · rename_i hk; cases h; exact ⟨hk, rfl, ht⟩
      · cases h

theorem bindNode_term (s : State) (t : Term) (hn : NodesInv s.nodes) (ht : WFTerm t) :
    (bindNode s t).2.t = t :=
  congrArg Node.t (bindNode_spec s t hn ht).1

theorem bindNode_inv (s : State) (t : Term) (hi : Inv s) (ht : WFTerm t) : Inv (bindNode s t).1 :=
  ⟨(bindNode_spec s t hi.nodes ht).2,
   by rw [bindNode_graphs]; exact hi.gkeys,
   by rw [bindNode_graphs, bindNode_nextId]; exact hi.graph,
   by rw [bindNode_graphs]; exact hi.gwf⟩

theorem stmtsAt_congr {s s' : State} (h : s'.graphs = s.graphs) (g : Option Term) (k : NodeKey) :
    stmtsAt s' g k = stmtsAt s g k := by
  unfold stmtsAt; rw [h]

theorem abs_congr {s s' : State} (h : s'.graphs = s.graphs) : abs s' = abs s := by
  unfold abs; rw [h]

theorem setStmts_eq {s : State} {g : Option Term} {G : SubjMap} (hg : alookup g s.graphs = some G)
    (n : Node) (l : List Stmt) :
    setStmts s g n l = ⟨s.nodes, aset g (aset n.key (n, l) G) s.graphs, s.nextId⟩ := by
  unfold setStmts; rw [hg]

theorem stmtsAt_write {s : State} {g : Option Term} {G : SubjMap} (hg : alookup g s.graphs = some G)
    (n : Node) (l : List Stmt) (nodes : List (NodeKey × Node)) (b : Nat) (g' : Option Term) (k' : NodeKey) :
    stmtsAt ⟨nodes, aset g (aset n.key (n, l) G) s.graphs, b⟩ g' k'
      = if g' = g ∧ k' = n.key then l else stmtsAt s g' k' := by
  unfold stmtsAt
  simp only [alookup_aset]
  by_cases h1 : g' = g
  · subst h1
    by_cases h2 : k' = n.key <;> simp [hg, alookup_aset, h2]
  · simp [h1]

theorem createGraph_graphs (s : State) (g : Option Term) :
    (createGraph s g).graphs = aset g [] s.graphs := by
  unfold createGraph
  cases g with
  | none => rfl
  | some t => simp [bindNode_graphs]

theorem ensureGraph_nextId (s : State) (g : Option Term) : (ensureGraph s g).nextId = s.nextId := by
  unfold ensureGraph
  split
  · rfl
  · unfold createGraph
    cases g with
    | none => rfl
    | some t => simp [bindNode_nextId]

theorem ensureGraph_has (s : State) (g : Option Term) : ∃ G, alookup g (ensureGraph s g).graphs = some G := by
  unfold ensureGraph
  split
  · rename_i G h; exact ⟨G, h⟩
  · exact ⟨[], by simp [createGraph_graphs, alookup_aset]⟩

theorem abs_ensureGraph (s : State) (g : Option Term) : abs (ensureGraph s g) = abs s := by
  unfold ensureGraph
  split
  · rfl
  · rename_i h
    simp [abs, createGraph_graphs, aset_of_alookup_none _ h]

theorem stmtsAt_ensureGraph (s : State) (g g' : Option Term) (k : NodeKey) :
    stmtsAt (ensureGraph s g) g' k = stmtsAt s g' k := by
  unfold ensureGraph
  split
  · rfl
  · rename_i h
    unfold stmtsAt
    rw [createGraph_graphs, alookup_aset]
    by_cases hg : g' = g
    · subst hg; simp [h, alookup]
    · rw [if_neg hg]

theorem inv_aset_graph {s : State} (hi : Inv s) {b : Nat} (hb : s.nextId ≤ b) {g : Option Term}
    (hg : WFGraphName g) {G : SubjMap} (hG : GraphInv b G) : Inv ⟨s.nodes, aset g G s.graphs, b⟩ := by
  refine ⟨hi.nodes, nodup_keys_aset _ _ _ hi.gkeys, fun g' G' hm => ?_, fun g' G' hm => ?_⟩
  · rcases mem_aset hm with ⟨_, rfl⟩ | hm'
    · exact hG
    · exact (hi.graph g' G' hm').mono hb
  · rcases mem_aset hm with ⟨rfl, _⟩ | hm'
    · exact hg
    · exact hi.gwf g' G' hm'

theorem createGraph_inv (s : State) (g : Option Term) (hi : Inv s) (hg : WFGraphName g) :
    Inv (createGraph s g) := by
  have hG (b : Nat) : GraphInv b [] := ⟨by simp [keys], by simp⟩
  cases g with
  | none => exact inv_aset_graph hi (Nat.le_refl _) hg (hG _)
  | some t => exact inv_aset_graph (bindNode_inv s t hi hg) (Nat.le_refl _) hg (hG _)

theorem ensureGraph_inv (s : State) (g : Option Term) (hi : Inv s) (hg : WFGraphName g) :
    Inv (ensureGraph s g) := by
  unfold ensureGraph
  split
  · exact hi
  · exact createGraph_inv s g hi hg

/-- the key-level membership test of `bindStatement`: the list has a statement whose predicate and
    object nodes are those of `q` -/
def HoldsIn (l : List Stmt) (q : Quad) : Prop := ∃ st ∈ l, st.p.key = keyOf q.p ∧ st.o.key = keyOf q.o

/-- Under the invariant, a quad is stored iff it is well-formed and the subject's list in its graph
    holds a statement with its predicate and object keys. -/
theorem mem_abs_iff {s : State} (hi : Inv s) (q : Quad) :
    q ∈ abs s ↔ WFQuad q ∧ HoldsIn (stmtsAt s q.g (keyOf q.s)) q := by
  simp only [abs, List.mem_flatMap, List.mem_map, Prod.exists]
  constructor
  · rintro ⟨g, G, hg, k, n, l, hk, st, hst, rfl⟩
    obtain ⟨hGk, hGe⟩ := hi.graph g G hg
    obtain ⟨hnk, hn, hl⟩ := hGe k n l hk
    obtain ⟨hp, ho, _⟩ := hl.1 st hst
    refine ⟨⟨hn.2, hp.2, ho.2, hi.gwf g G hg⟩, st, ?_, hp.1.symm, ho.1.symm⟩
    simp only [getQuad, stmtsAt, alookup_of_mem hi.gkeys hg, hn.1, hnk, alookup_of_mem hGk hk]
    exact hst
  · rintro ⟨⟨hws, hwp, hwo, _⟩, st, hst, hp, ho⟩
    unfold stmtsAt at hst
    split at hst
    · simp at hst
    · rename_i G hG
      split at hst
      · simp at hst
      · rename_i n l hl
        have hg := alookup_some_mem hG
        have hk := alookup_some_mem hl
        obtain ⟨hnk, hn, hls⟩ := (hi.graph _ G hg).2 _ n l hk
        obtain ⟨hpo, hoo, _⟩ := hls.1 st hst
        refine ⟨q.g, G, hg, _, n, l, hk, st, hst, ?_⟩
        rw [getQuad, (hn.key_iff hws).1 hnk, (hpo.key_iff hwp).1 hp, (hoo.key_iff hwo).1 ho]

theorem wf_of_mem_abs {s : State} (hi : Inv s) {q : Quad} (h : q ∈ abs s) : WFQuad q :=
  ((mem_abs_iff hi q).1 h).1

end RdfModel.Proofs.C19
