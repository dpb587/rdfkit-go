import RdfModel.Proofs.C04Cover
namespace RdfModel.Proofs.C04
open RdfModel RdfModel.Proofs.StrOrd RdfModel.Spec.RDFC10

variable {β : Type} [DecidableEq β]

/-- `rec'` extends `rec`: wherever `rec` has a result, `rec'` has the same one. -/
def Ext (rec rec' : β → Issuer β → Option (NDResult β)) : Prop :=
  ∀ b i r, rec b i = some r → rec' b i = some r

omit [DecidableEq β] in
theorem Ext.refl (rec : β → Issuer β → Option (NDResult β)) : Ext rec rec :=
  fun _ _ _ h => h

omit [DecidableEq β] in
theorem Ext.trans {r1 r2 r3 : β → Issuer β → Option (NDResult β)}
    (h12 : Ext r1 r2) (h23 : Ext r2 r3) : Ext r1 r3 :=
  fun b i r h => h23 b i r (h12 b i r h)

/-- `rec'` has every result of `rec`, and a result only extends the issuer it was computed from. -/
structure Grow (rec rec' : β → Issuer β → Option (NDResult β)) : Prop where
  ext : Ext rec rec'
  sub : ∀ b i r, rec b i = some r → Sub i r.issuer

theorem pathLoop_sub (canon : Issuer β) (chosen : Str) :
    ∀ (l : List β) (path : Str) (ic : Issuer β) (recl : List β) p ic' r,
    pathLoop canon chosen l (path, ic, recl) = some (p, ic', r) → Sub ic ic'
  | [], path, ic, recl, p, ic', r, h => by cases h; exact Sub.refl ic
  | related :: rest, path, ic, recl, p, ic', r, h => by
    unfold pathLoop at h
    cases hc : canon.get? related with
    | some id =>
      simp only [hc] at h
      split at h
      · simp at h
      · exact pathLoop_sub canon chosen rest _ ic _ p ic' r h
    | none =>
      simp only [hc] at h
      split at h
      · simp at h
      · exact (issue_sub ic related).trans (pathLoop_sub canon chosen rest _ _ _ p ic' r h)

section
variable {rec rec' : β → Issuer β → Option (NDResult β)} (hG : Grow rec rec')
include hG

theorem recLoop_grow (chosen : Str) (l : List β) (path : Str) (ic : Issuer β)
    (h : recLoop rec chosen l path ic ≠ .out) :
    recLoop rec' chosen l path ic = recLoop rec chosen l path ic ∧
      ∀ p ic', recLoop rec chosen l path ic = .ok (p, ic') → Sub ic ic' := by
  induction l generalizing path ic with
  | nil => exact ⟨rfl, fun p ic' h => by cases h; exact Sub.refl ic⟩
  | cons related rest ih =>
    cases hr : rec related ic with
    | none => simp [recLoop, hr] at h
    | some result =>
      have hr' := hG.ext _ _ _ hr
      simp only [recLoop, hr, hr'] at h ⊢
      split
      · exact ⟨rfl, nofun⟩
      · next hp =>
        simp only [hp] at h
        obtain ⟨h1, h2⟩ := ih _ _ h
        exact ⟨h1, fun p ic' e => (hG.sub _ _ _ hr).trans (h2 p ic' e)⟩

theorem permLoop_grow {canon issuer : Issuer β} {ps : List (List β)} {cp : Str} {ci : Issuer β}
    {x : Str × Issuer β} (hci : Sub issuer ci) (h : permLoop rec canon issuer ps cp ci = some x) :
    permLoop rec' canon issuer ps cp ci = some x ∧ Sub issuer x.2 := by
  induction ps generalizing cp ci with
  | nil => cases h; exact ⟨rfl, hci⟩
  | cons p ps ih =>
    simp only [permLoop] at h ⊢
    split at h
    · exact ih hci h
    · next path ic recl hp =>
      have hr := recLoop_grow hG cp recl path ic
      split at h
      · cases h
      · next e => rw [e] at hr; rw [(hr nofun).1]; exact ih hci h
      · next path' ic' e =>
        rw [e] at hr
        rw [(hr nofun).1]
        split at h
        · next hc =>
          simp only [hc, if_true]
          exact ih ((pathLoop_sub canon cp p [] issuer [] path ic recl hp).trans ((hr nofun).2 _ _ rfl)) h
        · next hc => simp only [hc]; exact ih hci h

theorem groupLoop_grow {canon : Issuer β} {perms : List β → List (List β)} {gs : List (Str × List β)}
    {data : Str} {issuer : Issuer β} {x : Str × Issuer β}
    (h : groupLoop rec canon perms gs data issuer = some x) :
    groupLoop rec' canon perms gs data issuer = some x ∧ Sub issuer x.2 := by
  induction gs generalizing data issuer with
  | nil => cases h; exact ⟨rfl, Sub.refl _⟩
  | cons g gs ih =>
    obtain ⟨relatedHash, blankNodeList⟩ := g
    simp only [groupLoop] at h ⊢
    split at h
    · cases h
    · next hp =>
      obtain ⟨e, hs⟩ := permLoop_grow hG (Sub.refl issuer) hp
      rw [e]
      exact ⟨(ih h).1, hs.trans (ih h).2⟩

end

theorem hashNDegree_grow (H : Str → Str) (perms : List β → List (List β)) (b2q : B2Q β) (canon : Issuer β)
    {f f' : Nat} (hle : f ≤ f') :
    Grow (hashNDegree H perms b2q canon f) (hashNDegree H perms b2q canon f') := by
  induction f generalizing f' with
  | zero => exact ⟨fun _ _ _ h => (nomatch h), fun _ _ _ h => (nomatch h)⟩
  | succ f ih =>
    obtain ⟨f', rfl⟩ : ∃ k, f' = k + 1 := ⟨f' - 1, by omega⟩
    have key : ∀ b i r, hashNDegree H perms b2q canon (f + 1) b i = some r →
        hashNDegree H perms b2q canon (f' + 1) b i = some r ∧ Sub i r.issuer := by
      intro b i r h
      simp only [hashNDegree] at h ⊢
      split at h
      · cases h
      · next hg =>
        obtain ⟨e, hs⟩ := groupLoop_grow (ih (f' := f') (by omega)) hg
        rw [e]
        cases h
        exact ⟨rfl, hs⟩
    exact ⟨fun b i r h => (key b i r h).1, fun b i r h => (key b i r h).2⟩

section step5
variable (H : Str → Str) (perms : List β → List (List β)) (b2q : B2Q β) {f f' : Nat} (hle : f ≤ f')
include hle

theorem hashPathList_grow (canon : Issuer β) (l : List β) {hpl : List (NDResult β)}
    (h : hashPathList H perms b2q canon f l = some hpl) :
    hashPathList H perms b2q canon f' l = some hpl ∧
      ∀ n ∈ l, (canon.get? n).isSome ∨ ∃ r ∈ hpl, (r.issuer.get? n).isSome := by
  induction l generalizing hpl with
  | nil => exact ⟨h, nofun⟩
  | cons a rest ih =>
    simp only [hashPathList] at h ⊢
    split at h
    · next hk =>
      obtain ⟨e, hc⟩ := ih h
      exact ⟨by rw [if_pos hk]; exact e, List.forall_mem_cons.2 ⟨.inl hk, hc⟩⟩
    · next hk =>
      rw [if_neg hk]
      split at h
      · cases h
      · next r hnd =>
        have e := (hashNDegree_grow H perms b2q canon hle).ext _ _ _ hnd
        have hs := (hashNDegree_grow H perms b2q canon hle).sub _ _ _ hnd
        rw [e]
        cases hrest : hashPathList H perms b2q canon f rest with
        | none => simp [hrest] at h
        | some rs =>
          obtain ⟨e', hc⟩ := ih hrest
          simp only [hrest, Option.map_some, Option.some.injEq] at h
          subst h
          refine ⟨by rw [e']; rfl, List.forall_mem_cons.2 ⟨.inr ⟨r, List.mem_cons_self, hs.isSome a (issue_knows _ a)⟩, ?_⟩⟩
          exact fun n hn => (hc n hn).imp_right fun ⟨r', hr', h2⟩ => ⟨r', List.mem_cons_of_mem _ hr', h2⟩

theorem step5_grow (gs : List (Str × List β)) (canon : Issuer β) {canon' : Issuer β}
    (h : step5 H perms b2q f gs canon = some canon') :
    step5 H perms b2q f' gs canon = some canon' ∧ Sub canon canon' ∧
      ∀ g ∈ gs, ∀ n ∈ g.2, (canon'.get? n).isSome := by
  induction gs generalizing canon with
  | nil => cases h; exact ⟨rfl, Sub.refl _, nofun⟩
  | cons g rest ih =>
    obtain ⟨hsh, ids⟩ := g
    simp only [step5] at h ⊢
    split at h
    · cases h
    · next hpl hh =>
      obtain ⟨e, hcov⟩ := hashPathList_grow H perms b2q hle canon ids hh
      obtain ⟨e', h1, h2⟩ := ih _ h
      have hs1 := foldl_issueAll_sub (hpl.mergeSort (fun a b => strLe a.hash b.hash)) canon
      rw [e]
      refine ⟨e', hs1.trans h1, List.forall_mem_cons.2 ⟨fun n hn => h1.isSome n ?_, h2⟩⟩
      rcases hcov n hn with hk | ⟨r, hr, hk⟩
      · exact hs1.isSome n hk
      · exact foldl_issueAll_knows _ canon r (List.mem_mergeSort.mpr hr) n hk

end step5

theorem canonFuel_mono (H : Str → Str) (ord : List β → List β) (perms : List β → List (List β))
    (twice : Bool) (qs : List (Quad β)) {f f' : Nat} {r : Result β}
    (h : canonFuel H ord perms twice f qs = some r) (hle : f ≤ f') :
    canonFuel H ord perms twice f' qs = some r := by
  unfold canonFuel at h ⊢
  simp only at h ⊢
  split at h
  · exact absurd h (by simp)
  · rename_i c hc
    rw [(step5_grow H perms _ hle _ _ hc).1]
    exact h

end RdfModel.Proofs.C04
