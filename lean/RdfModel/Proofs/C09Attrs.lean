import RdfModel.Spec.RdfXmlFragment
namespace RdfModel.RX
open RdfModel

theorem xmlNS_ne_rdfNS : xmlNS ≠ rdfNS := by decide
theorem rdfNS_ne_nil : rdfNS ≠ [] := by decide
theorem xmlNS_ne_nil : xmlNS ≠ [] := by decide

theorem getAttr_optAttr_append (ns n : Str) (o : Option Str) (rest : List Attr) (ns' n' : Str) :
    getAttr (optAttr ns n o ++ rest) ns' n' =
      if ns = ns' ∧ n = n' then (match o with | some v => some v | none => getAttr rest ns' n')
      else getAttr rest ns' n' := by
  cases o with
  | none => simp [optAttr]
  | some v =>
    by_cases h : ns = ns' ∧ n = n'
    · simp [optAttr, getAttr, h]
    · simp [optAttr, getAttr, h]

theorem getAttr_props_xml {ps : List Attr} (h : ∀ a ∈ ps, isPropAttr a = true) (n : Str) :
    getAttr ps xmlNS n = none := by
  unfold getAttr
  rw [Option.map_eq_none_iff, List.find?_eq_none]
  intro a ha
  have := h a ha
  simp [isPropAttr] at this
  simp [this.1.2]

theorem getAttr_props_syntax {ps : List Attr} (h : ∀ a ∈ ps, isPropAttr a = true) (n : Str)
    (hn : syntaxAttrName n = true) : getAttr ps rdfNS n = none := by
  unfold getAttr
  rw [Option.map_eq_none_iff, List.find?_eq_none]
  intro a ha
  have := h a ha
  simp [isPropAttr] at this
  simp only [decide_eq_true_eq, not_and]
  intro h1 h2
  rcases this.2 with h3 | h3
  · exact h3 h1
  · rw [h2, hn] at h3; exact absurd h3.2 (by simp)

theorem filter_optAttr_xml (n : Str) (o : Option Str) : (optAttr xmlNS n o).filter isPropAttr = [] := by
  cases o <;> simp [optAttr, isPropAttr]

theorem filter_optAttr_syntax (n : Str) (hn : syntaxAttrName n = true) (o : Option Str) :
    (optAttr rdfNS n o).filter isPropAttr = [] := by
  cases o <;> simp [optAttr, isPropAttr, hn]

theorem any_optAttr_bad_xml (n : Str) (o : Option Str) : (optAttr xmlNS n o).any isBadAttr = false := by
  cases o <;> simp [optAttr, isBadAttr, xmlNS_ne_rdfNS]

theorem any_optAttr_bad_syntax (n : Str) (hn : badAttrName n = false) (o : Option Str) :
    (optAttr rdfNS n o).any isBadAttr = false := by
  cases o <;> simp [optAttr, isBadAttr, hn]

theorem any_optAttr_unsup (ns n : Str) (hns : ns ≠ []) (o : Option Str) :
    (optAttr ns n o).any isUnsupAttr = false := by
  cases o <;> simp [optAttr, isUnsupAttr, hns]

theorem props_not_bad {ps : List Attr} (h : ∀ a ∈ ps, isPropAttr a = true) : ps.any isBadAttr = false := by
  rw [List.any_eq_false]
  intro a ha
  have := h a ha
  simp [isPropAttr] at this
  simp only [isBadAttr, Bool.and_eq_true, decide_eq_true_eq, not_and, Bool.not_eq_true]
  intro h1
  rcases this.2 with h3 | h3
  · exact absurd h1 h3
  · exact h3.1

theorem props_not_unsup {ps : List Attr} (h : ∀ a ∈ ps, isPropAttr a = true) :
    ps.any isUnsupAttr = false := by
  rw [List.any_eq_false]
  intro a ha
  have := h a ha
  simp [isPropAttr] at this
  simp [isUnsupAttr, this.1.1]

theorem info_stdAttrs (i : AttrInfo) (hp : ∀ a ∈ i.props, isPropAttr a = true)
    (hb : i.bad = false) (hu : i.unsup = false) : info (stdAttrs i) = i := by
  have hx := getAttr_props_xml hp
  have hs := getAttr_props_syntax hp
  have hm : ∀ o : Option Str, (match o with | some v => some v | none => none) = o := fun o => by cases o <;> rfl
  have e9 : (stdAttrs i).filter isPropAttr = i.props := by
    simp only [stdAttrs, List.filter_append, filter_optAttr_xml]
    rw [filter_optAttr_syntax _ (by decide), filter_optAttr_syntax _ (by decide),
      filter_optAttr_syntax _ (by decide), filter_optAttr_syntax _ (by decide),
      filter_optAttr_syntax _ (by decide), filter_optAttr_syntax _ (by decide)]
    simp only [List.nil_append]
    exact List.filter_eq_self.mpr hp
  have e10 : (stdAttrs i).any isBadAttr = false := by
    simp only [stdAttrs, List.any_append, any_optAttr_bad_xml, props_not_bad hp]
    rw [any_optAttr_bad_syntax _ (by decide), any_optAttr_bad_syntax _ (by decide),
      any_optAttr_bad_syntax _ (by decide), any_optAttr_bad_syntax _ (by decide),
      any_optAttr_bad_syntax _ (by decide), any_optAttr_bad_syntax _ (by decide)]
    rfl
  have e11 : (stdAttrs i).any isUnsupAttr = false := by
    simp only [stdAttrs, List.any_append, props_not_unsup hp,
      any_optAttr_unsup _ _ xmlNS_ne_nil, any_optAttr_unsup _ _ rdfNS_ne_nil]
    rfl
  unfold info
  rw [e9, e10, e11]
  simp only [stdAttrs, List.append_assoc, getAttr_optAttr_append]
  simp (decide := true) only [hx, hs, hm, if_true, if_false]
  cases i
  simp_all

theorem getAttr_cons (a : Attr) (as : List Attr) (ns n : Str) :
    getAttr (a :: as) ns n = if a.ns = ns ∧ a.name = n then some a.val else getAttr as ns n := by
  by_cases h : a.ns = ns ∧ a.name = n <;> simp [getAttr, List.find?, h]

theorem getAttr_none_of_not_mem {as : List Attr} {ns n : Str} (h : (ns, n) ∉ as.map attrKey) :
    getAttr as ns n = none := by
  induction as with
  | nil => rfl
  | cons a as ih =>
    simp only [List.map_cons, List.mem_cons, not_or] at h
    rw [getAttr_cons, if_neg, ih h.2]
    intro hc
    exact h.1 (by simp [attrKey, hc.1, hc.2])

theorem getAttr_perm {as bs : List Attr} (h : as.Perm bs) (hn : (as.map attrKey).Nodup) (ns n : Str) :
    getAttr as ns n = getAttr bs ns n := by
  induction h with
  | nil => rfl
  | cons a _ ih =>
    simp only [List.map_cons, List.nodup_cons] at hn
    rw [getAttr_cons, getAttr_cons, ih hn.2]
  | swap a b l =>
    simp only [List.map_cons, List.nodup_cons, List.mem_cons, not_or] at hn
    simp only [getAttr_cons]
    by_cases ha : a.ns = ns ∧ a.name = n
    · by_cases hb : b.ns = ns ∧ b.name = n
      · exact absurd (by simp [attrKey, ha.1, ha.2, hb.1, hb.2] : attrKey b = attrKey a) hn.1.1
      · simp [ha, hb]
    · simp [ha]
  | trans h1 _ ih1 ih2 =>
    rw [ih1 hn, ih2 ((h1.map attrKey).nodup_iff.mp hn)]

end RdfModel.RX
