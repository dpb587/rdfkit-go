/-
  A case principle per larger scan function: `motive (stepX …)`
  holds if it holds of every answer; a case carries the branch conditions some invariant needs.  Where every user
  has its fact for all of a family anyway (the three `Kind`s, every error class) the case is stated for the family,
  wider than the function.
-/
import RdfModel.Model.TurtleDoc
namespace RdfModel.TtlDoc
open RdfModel

/-- the three subject tokens -/
inductive Kind where
  | iriref | pname | bnode

def Kind.cont : Kind → Cont
  | .iriref => .subjIRIREF
  | .pname => .subjPName
  | .bnode => .subjBNode

def Kind.term (C : Cfg) (e : End) (env : Env) (inp : List Nat) : Kind → TermRes
  | .iriref => termIRIREF C e env inp
  | .pname => termPName C e env inp
  | .bnode => termBNode C e env inp

def Kind.ofRune (c : Nat) : Kind := if c = 0x3c then .iriref else if c = 0x5f then .bnode else .pname

theorem Kind.stepFn (C : Cfg) (e : End) (K : Kind) (x : Ectx) (env : Env) (c : Nat) (rest : List Nat) :
    TtlDoc.stepFn C e K.cont x env (.rune c rest) = subjectOf x (K.term C e env (c :: rest)) := by
  cases K <;> rfl

variable {C : Cfg} {e : End} {motive : FnRes → Prop}

/-- the closures that never look at `err` (they read `Arg.orNul`).  `C15.Cont.checksErr` (Props/C15Ttl.lean, part of a
    property statement) enumerates the others, the top-level function apart: `C15.Cont.checksErr_true`. -/
def Cont.ignoresErr : Cont → Bool
  | .collOpenSubj _ | .parenTop _ | .parenBlock _ | .graphAnonClose | .tgE1 _ | .tgBracket _ => true
  | _ => false

theorem stepFn_fail (k : Cont) (x : Ectx) (env : Env) :
    k = .statement ∨ stepFn C e k x env .fail = .err (endCls e) ∨
      (k.ignoresErr = true ∧ stepFn C e k x env .fail = stepFn C e k x env (.rune 0 [])) := by
  cases k <;> first | exact .inl rfl | exact .inr (.inl rfl) | exact .inr (.inr ⟨rfl, rfl⟩)

def LeftBy (C : Cfg) (e : End) (i r : List Nat) : Prop :=
  (∃ v, C.P.iriref e i = .ok v r) ∨ (∃ v, C.P.pname e i = .ok v r) ∨ ∃ l, C.P.bnode e i = .ok l r

theorem iriIRIREF_ok_iff {env : Env} {i dt r : List Nat} :
    iriIRIREF C e env i = .ok dt r ↔ ∃ v, C.P.iriref e i = .ok v r ∧ resolveIRI C env v = some dt := by
  unfold iriIRIREF
  refine ⟨fun h => ?_, fun ⟨v, hp, hr⟩ => by rw [hp]; simp only [hr]⟩
  cases hp : C.P.iriref e i with
  | panic => rw [hp] at h; cases h
  | err c => rw [hp] at h; cases h
  | ok v r' =>
    rw [hp] at h; simp only [] at h
    cases hr : resolveIRI C env v with
    | none => rw [hr] at h; cases h
    | some i' => rw [hr] at h; injection h with h1 h2; subst h1; subst h2; exact ⟨v, rfl, hr⟩

theorem iriPName_ok_iff {env : Env} {i dt r : List Nat} :
    iriPName C e env i = .ok dt r ↔ ∃ ns loc, C.P.pname e i = .ok (ns, loc) r ∧ env.expand ns loc = some dt := by
  unfold iriPName
  refine ⟨fun h => ?_, fun ⟨ns, loc, hp, hr⟩ => by rw [hp]; simp only [hr]⟩
  cases hp : C.P.pname e i with
  | panic => rw [hp] at h; cases h
  | err c => rw [hp] at h; cases h
  | ok v r' =>
    obtain ⟨ns, loc⟩ := v
    rw [hp] at h; simp only [] at h
    cases hr : env.expand ns loc with
    | none => rw [hr] at h; cases h
    | some i' => rw [hr] at h; injection h with h1 h2; subst h1; subst h2; exact ⟨ns, loc, rfl, hr⟩

theorem IriRes.toTerm_ok_iff {env env' : Env} {ir : IriRes} {t : T} {r : List Nat} :
    ir.toTerm env = .ok t r env' ↔ ∃ i, ir = .ok i r ∧ t = .iri i ∧ env' = env := by
  refine ⟨fun h => ?_, fun ⟨i, hi, ht, he⟩ => by rw [hi, ht, he]; rfl⟩
  cases ir with
  | ok i r' => injection h with h1 h2 h3; subst h1; subst h2; subst h3; exact ⟨i, rfl, rfl, rfl⟩
  | err c => cases h
  | panic => cases h

theorem termBNode_ok_iff {env env' : Env} {i r : List Nat} {t : T} :
    termBNode C e env i = .ok t r env' ↔
      ∃ l, C.P.bnode e i = .ok l r ∧ t = (env.labelled l).1 ∧ env' = (env.labelled l).2 := by
  unfold termBNode
  refine ⟨fun h => ?_, fun ⟨l, hp, ht, he⟩ => by rw [hp, ht, he]⟩
  cases hp : C.P.bnode e i with
  | panic => rw [hp] at h; cases h
  | err c => rw [hp] at h; cases h
  | ok l r' => rw [hp] at h; injection h with h1 h2 h3; subst h1; subst h2; subst h3; exact ⟨l, rfl, rfl, rfl⟩

theorem iriIRIREF_leftBy {env : Env} {i dt r : List Nat} (h : iriIRIREF C e env i = .ok dt r) : LeftBy C e i r :=
  let ⟨v, hp, _⟩ := iriIRIREF_ok_iff.mp h
  .inl ⟨v, hp⟩

theorem iriPName_leftBy {env : Env} {i dt r : List Nat} (h : iriPName C e env i = .ok dt r) : LeftBy C e i r :=
  let ⟨_, _, hp, _⟩ := iriPName_ok_iff.mp h
  .inr (.inl ⟨_, hp⟩)

theorem Kind.term_leftBy {K : Kind} {env env' : Env} {i r : List Nat} {t : T} (h : K.term C e env i = .ok t r env') :
    LeftBy C e i r := by
  cases K with
  | iriref => obtain ⟨_, hi, _⟩ := IriRes.toTerm_ok_iff.mp h; exact iriIRIREF_leftBy hi
  | pname => obtain ⟨_, hi, _⟩ := IriRes.toTerm_ok_iff.mp h; exact iriPName_leftBy hi
  | bnode => obtain ⟨l, hp, _⟩ := termBNode_ok_iff.mp h; exact .inr (.inr ⟨l, hp⟩)

/-- The answers are stated as functions of the runes after `c`, so that a motive may compare runs on two inputs. -/
theorem stepSubjectStart_cases {motive : (List Nat → FnRes) → Prop} (x : Ectx) (env : Env) (c : Nat)
    (err : ∀ k, motive fun _ => .err k)
    (label : C.trig = true → ∀ K : Kind, motive fun rest => labelOrSubject x (K.term C e env (c :: rest)))
    (token : C.trig = false → ∀ K : Kind,
      motive fun rest => .ok { cur := some ⟨x, K.cont⟩, push := [⟨x, .triplesEnd⟩], inp := c :: rest, env := env })
    (bracketG : c = 0x5b → C.trig = true →
      motive fun rest => .ok { cur := some ⟨x, .tgBracket env.fresh.1⟩, inp := rest, env := env.fresh.2 })
    (bracket : c = 0x5b → C.trig = false →
      motive fun rest => .ok { cur := some ⟨{ x with subj := some env.fresh.1 }, .subjAnonOrBNPL⟩, inp := rest,
                               env := env.fresh.2 })
    (paren : c = 0x28 →
      motive fun rest => .ok { cur := some ⟨x, .parenTop env.fresh.1⟩, inp := rest, env := env.fresh.2 }) :
    motive fun rest => stepSubjectStart C e x env c rest := by
  have tok : ∀ K : Kind, motive fun rest => if C.trig = true then labelOrSubject x (K.term C e env (c :: rest))
      else .ok { cur := some ⟨x, K.cont⟩, push := [⟨x, .triplesEnd⟩], inp := c :: rest, env := env } := by
    intro K
    cases ht : C.trig
    · exact token ht K
    · exact label ht K
  unfold stepSubjectStart
  by_cases c1 : c = 0x3c
  · simp only [if_pos c1]; exact tok .iriref
  simp only [if_neg c1]
  by_cases c2 : c = 0x5f
  · simp only [if_pos c2]; exact tok .bnode
  simp only [if_neg c2]
  by_cases c3 : c = 0x5b
  · simp only [if_pos c3]
    cases ht : C.trig
    · exact bracket c3 ht
    · exact bracketG c3 ht
  simp only [if_neg c3]
  by_cases c4 : c = 0x28
  · simp only [if_pos c4]; exact paren c4
  simp only [if_neg c4]
  by_cases c5 : c = 0x3a ∨ C.pnBase c = true
  · simp only [if_pos c5]; exact tok .pname
  simp only [if_neg c5]; exact err _

theorem stepStatementRune_cases {motive : (List Nat → FnRes) → Prop} (x : Ectx) (env : Env) (c : Nat)
    (at_ : c = 0x40 → motive (stepAtDirective e x env))
    (base : c = 0x42 ∨ c = 0x62 → motive (stepKwBase C e x env c))
    (pfx : c = 0x50 ∨ c = 0x70 → motive (stepKwSpace C e x env (kwCI "REFIX") .sparqlPrefixNS c))
    (graph : C.trig = true → c = 0x47 ∨ c = 0x67 → motive (stepKwSpace C e x env (kwCI "RAPH") .graphLabel c))
    (brace : C.trig = true → c = 0x7b → motive fun rest => stepWrappedGraph e x env (.rune c rest))
    (subject : motive (stepSubjectStart C e x env c)) :
    motive fun rest => stepStatementRune C e x env c rest := by
  unfold stepStatementRune
  by_cases c1 : c = 0x40
  · simp only [if_pos c1]; exact at_ c1
  simp only [if_neg c1]
  by_cases c2 : c = 0x42 ∨ c = 0x62
  · simp only [if_pos c2]; exact base c2
  simp only [if_neg c2]
  by_cases c3 : c = 0x50 ∨ c = 0x70
  · simp only [if_pos c3]; exact pfx c3
  simp only [if_neg c3]
  by_cases c4 : C.trig = true ∧ (c = 0x47 ∨ c = 0x67)
  · simp only [if_pos c4]; exact graph c4.1 c4.2
  simp only [if_neg c4]
  by_cases c5 : C.trig = true ∧ c = 0x7b
  · simp only [if_pos c5]; exact brace c5.1 c5.2
  simp only [if_neg c5]; exact subject

def DatatypeOf (C : Cfg) (e : End) (env : Env) (i : List Nat) (tr : IriRes) : Prop :=
  tr = iriIRIREF C e env i ∨ tr = iriPName C e env i

theorem DatatypeOf.leftBy {env : Env} {i dt r : List Nat} (h : DatatypeOf C e env i (.ok dt r)) : LeftBy C e i r :=
  h.elim (fun h => iriIRIREF_leftBy h.symm) fun h => iriPName_leftBy h.symm

theorem stepLiteralTail_cases (x : Ectx) (env : Env) (lex rest : List Nat)
    (err : ∀ k, motive (.err k))
    (panic : (∃ i, C.P.langtag e i = .panic ∨ iriIRIREF C e env i = .panic ∨ iriPName C e env i = .panic) →
      motive .panic)
    (lang : ∀ tag r, C.P.langtag e rest = .ok tag r →
      motive (.ok { emit := some (mkStmt x (.lit lex rdfLangString (some tag))), inp := r, env := env }))
    (typed : ∀ c2 rest2 dt r, rest = 0x5e :: 0x5e :: c2 :: rest2 → DatatypeOf C e env (c2 :: rest2) (.ok dt r) →
      dt ≠ rdfLangString → dt ≠ rdfDirLangString →
      motive (.ok { emit := some (mkStmt x (.lit lex dt none)), inp := r, env := env }))
    (plain : rest ≠ [] → motive (.ok { emit := some (mkStmt x (.lit lex xsdString none)), inp := rest, env := env })) :
    motive (stepLiteralTail C e x env lex rest) := by
  unfold stepLiteralTail
  cases rest with
  | nil => exact err _
  | cons c rest0 =>
    simp only []
    by_cases c1 : c = 0x40
    · rw [if_pos c1]
      cases hl : C.P.langtag e (c :: rest0) with
      | panic => exact panic ⟨_, Or.inl hl⟩
      | err k => exact err _
      | ok tag r => exact lang tag r hl
    rw [if_neg c1]
    by_cases c2 : c = 0x5e
    · rw [if_pos c2]
      cases rest0 with
      | nil => exact err _
      | cons c1 rest1 =>
        simp only []
        by_cases c3 : c1 ≠ 0x5e
        · rw [if_pos c3]; exact err _
        rw [if_neg c3]
        cases rest1 with
        | nil => exact err _
        | cons c2' rest2 =>
          simp only []
          have hd : DatatypeOf C e env (c2' :: rest2)
              (if c2' = 0x3c then iriIRIREF C e env (c2' :: rest2) else iriPName C e env (c2' :: rest2)) := by
            by_cases c4 : c2' = 0x3c
            · rw [if_pos c4]; exact Or.inl rfl
            · rw [if_neg c4]; exact Or.inr rfl
          generalize (if c2' = 0x3c then iriIRIREF C e env (c2' :: rest2) else iriPName C e env (c2' :: rest2)) = tr at hd
          cases tr with
          | panic => exact panic ⟨_, hd.imp (fun h => Or.inr (Or.inl h.symm)) (fun h => Or.inr (Or.inr h.symm)) |>.elim id id⟩
          | err k => exact err _
          | ok dt r =>
            simp only []
            by_cases c5 : dt = rdfLangString ∨ dt = rdfDirLangString
            · rw [if_pos c5]; exact err _
            rw [if_neg c5]
            exact typed c2' rest2 dt r (by rw [c2, Classical.not_not.mp c3]) hd (fun h => c5 (Or.inl h)) (fun h => c5 (Or.inr h))
    rw [if_neg c2]
    exact plain (by simp)

theorem stepObject_cases (x : Ectx) (env : Env) (c : Nat) (rest : List Nat)
    (err : ∀ k, motive (.err k))
    (panic : C.P.string e (c :: rest) = .panic → motive .panic)
    (term : ∀ K : Kind, motive (emitOfTerm x (K.term C e env (c :: rest))))
    (coll : c = 0x28 → motive (.ok { cur := some ⟨x, .collOpenObj⟩, inp := rest, env := env }))
    (bnpl : c = 0x5b → ∀ nx : Ectx, nx = { x with subj := some env.fresh.1, pred := none } →
      motive (.ok { push := [⟨nx, .bnplEnd⟩, ⟨nx, .polContinue⟩, ⟨nx, .pol⟩], emit := some (mkStmt x env.fresh.1),
                    inp := rest, env := env.fresh.2 }))
    (string : ∀ lex r, C.P.string e (c :: rest) = .ok lex r → motive (stepLiteralTail C e x env lex r))
    (numeric : (c = 0x2e → ∃ d rest', rest = d :: rest' ∧ 0x30 ≤ d ∧ d ≤ 0x39) →
      motive (emitOfNumeric x env (C.P.numeric e (c :: rest))))
    (bool : ∀ b r, C.P.boolean e (c :: rest) = .bool b r →
      motive (.ok { emit := some (mkStmt x (.lit (asc (if b then "true" else "false")) Ttl.xsdBoolean none)),
                    inp := r, env := env }))
    (pname : motive (.ok { cur := some ⟨x, .objectPName⟩, inp := c :: rest, env := env })) :
    motive (stepObject C e x env c rest) := by
  unfold stepObject
  by_cases c1 : c = 0x3c
  · rw [if_pos c1]; exact term .iriref
  rw [if_neg c1]
  by_cases c2 : c = 0x5f
  · rw [if_pos c2]; exact term .bnode
  rw [if_neg c2]
  by_cases c3 : c = 0x28
  · rw [if_pos c3]; exact coll c3
  rw [if_neg c3]
  by_cases c4 : c = 0x5b
  · rw [if_pos c4]; exact bnpl c4 _ rfl
  rw [if_neg c4]
  by_cases c5 : c = 0x22 ∨ c = 0x27
  · rw [if_pos c5]
    cases hs : C.P.string e (c :: rest) with
    | panic => exact panic hs
    | err k => exact err _
    | ok lex r => exact string lex r hs
  rw [if_neg c5]
  by_cases c6 : c = 0x2b ∨ c = 0x2d ∨ (0x30 ≤ c ∧ c ≤ 0x39) ∨ c = 0x2e
  · rw [if_pos c6]
    by_cases c7 : c = 0x2e
    · rw [if_pos c7]
      cases rest with
      | nil => exact err _
      | cons r1 rest1 =>
        simp only []
        by_cases c8 : r1 < 0x30 ∨ r1 > 0x39
        · rw [if_pos c8]; exact err _
        · rw [if_neg c8]; exact numeric (fun _ => ⟨r1, rest1, rfl, by omega, by omega⟩)
    · rw [if_neg c7]; exact numeric (fun h => absurd h c7)
  rw [if_neg c6]
  by_cases c7 : c = 0x74 ∨ c = 0x66
  · rw [if_pos c7]
    cases hb : C.P.boolean e (c :: rest) with
    | err k => exact err _
    | other => exact pname
    | bool b r => exact bool b r hb
  rw [if_neg c7]
  by_cases c8 : C.pnBase c = true ∨ c = 0x3a
  · rw [if_pos c8]; exact pname
  · rw [if_neg c8]; exact err _

/-- The answers as functions of the runes after `c`: the motive may compare runs on two inputs. -/
theorem stepTriples_cases {motive : (List Nat → FnRes) → Prop} (x : Ectx) (env : Env) (c : Nat)
    (err : ∀ k, motive fun _ => .err k)
    (token : ∀ K : Kind, motive fun rest => .ok { cur := some ⟨x, K.cont⟩, inp := c :: rest, env := env })
    (bracket : c = 0x5b → ∀ x' : Ectx, x' = { x with subj := some env.fresh.1 } →
      motive fun rest => .ok { cur := some ⟨x', .pol⟩,
                               push := [⟨x', .polContinue⟩, ⟨x', .pol⟩, ⟨x', .bnplEnd⟩, ⟨x', .polContinue⟩],
                               inp := rest, env := env.fresh.2 })
    (paren : c = 0x28 →
      motive fun rest => .ok { cur := some ⟨x, .parenBlock env.fresh.1⟩, inp := rest, env := env.fresh.2 }) :
    motive fun rest => stepTriples C x env c rest := by
  unfold stepTriples
  by_cases c1 : c = 0x3c
  · simp only [if_pos c1]; exact token .iriref
  simp only [if_neg c1]
  by_cases c2 : c = 0x5f
  · simp only [if_pos c2]; exact token .bnode
  simp only [if_neg c2]
  by_cases c3 : c = 0x5b
  · simp only [if_pos c3]; exact bracket c3 _ rfl
  simp only [if_neg c3]
  by_cases c4 : c = 0x28
  · simp only [if_pos c4]; exact paren c4
  simp only [if_neg c4]
  by_cases c5 : c = 0x3a ∨ C.pnBase c = true
  · simp only [if_pos c5]; exact token .pname
  · simp only [if_neg c5]; exact err _

/-- `GRAPH` label: the token's term becomes the graph of the block that follows -/
def graphOfTerm (x : Ectx) : TermRes → FnRes
  | .panic => .panic
  | .err t => .err t
  | .ok g r env' => .ok { cur := some ⟨{ x with graph := some g }, .wrappedGraph⟩, inp := r, env := env' }

theorem graphLabel_cases {motive : (List Nat → FnRes) → Prop} (x : Ectx) (env : Env) (c : Nat)
    (anon : c = 0x5b → motive fun rest => .ok { cur := some ⟨x, .graphAnonClose⟩, inp := rest, env := env })
    (label : ∀ K : Kind, motive fun rest => graphOfTerm x (K.term C e env (c :: rest))) :
    motive fun rest => stepFn C e .graphLabel x env (.rune c rest) := by
  simp only [stepFn]
  by_cases c1 : c = 0x5b
  · simp only [if_pos c1]; exact anon c1
  simp only [if_neg c1]
  by_cases c2 : c = 0x5f
  · simp only [if_pos c2]; exact label .bnode
  simp only [if_neg c2]
  by_cases c3 : c = 0x3c
  · simp only [if_pos c3]; exact label .iriref
  · simp only [if_neg c3]; exact label .pname

theorem stepPOL_back {c : Nat} (h1 : c ≠ 0x3c) (h2 : c ≠ 0x61) (h3 : c ≠ 0x3a) (hb : C.pnBase c = false) (x : Ectx)
    (env : Env) (rest : List Nat) : stepPOL C e x env c rest = .ok { inp := c :: rest, env := env } := by
  simp [stepPOL, h1, h2, h3, hb]

/-- `PredicateObjectList_Required` answers as `PredicateObjectList` does, or with an error: what holds of that answer and
    of every error holds of its own. -/
theorem polRequired_sat {R : FnRes → Prop} (hE : ∀ k, R (.err k)) {x : Ectx} {env : Env} {c : Nat} {rest : List Nat}
    (h : R (stepPOL C e x env c rest)) : R (stepFn C e .polRequired x env (.rune c rest)) := by
  simp only [stepFn]
  revert h
  generalize stepPOL C e x env c rest = res
  intro h
  cases res with
  | ok o => simp only []; split <;> first | exact hE _ | exact h
  | err k => exact h
  | panic => exact h

end RdfModel.TtlDoc
