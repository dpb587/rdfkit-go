import RdfModel.Proofs.C10EncBuild
namespace RdfModel.Proofs.C10
open RdfModel RdfModel.Desc RdfModel.JL RdfModel.JLEnc RdfModel.C10

variable {β : Type} [DecidableEq β]

theorem foldStmtsT_map (B : Builder β)
    (recT : Term β → List β → Option (List (TStmt β) × List β))
    (recV : Term β → List β → Option (List (Stmt β) × List β))
    (hrec : ∀ s V, recV s V = (recT s V).map fun r => (untags r.1, r.2)) :
    ∀ (l : List (PO β)) (V : List β),
      B.foldStmtsV Opts.default recV l V = (foldStmtsT B recT l V).map fun r => (untags r.1, r.2)
  | [], V => rfl
  | (p, o) :: rest, V => by
    have keep : B.isInlV Opts.default V o = false →
        B.foldStmtsV Opts.default recV ((p, o) :: rest) V =
          (foldStmtsT B recT rest V).map fun r => (untags (TStmt.obj p o :: r.1), r.2) := fun h => by
      simp only [Builder.foldStmtsV, h, Bool.false_eq_true, if_false, foldStmtsT_map B recT recV hrec rest V]
      cases foldStmtsT B recT rest V <;> rfl
    cases o with
    | bnode b =>
      simp only [foldStmtsT]
      split
      · rename_i hc
        have hV : B.isInlV Opts.default V (Term.bnode b) = true := by simpa [Builder.isInlV, Opts.default] using hc
        simp only [Builder.foldStmtsV, hV, if_true, hrec]
        cases recT (Term.bnode b) V with
        | none => rfl
        | some r =>
          simp only [Option.map_some, foldStmtsT_map B recT recV hrec rest r.2]
          cases foldStmtsT B recT rest r.2 <;> rfl
      · rename_i hc
        rw [keep (by simpa [Builder.isInlV, Opts.default] using hc)]
        cases foldStmtsT B recT rest V <;> rfl
    | iri v => rw [keep rfl]; simp only [foldStmtsT]; cases foldStmtsT B recT rest V <;> rfl
    | lit a b c => rw [keep rfl]; simp only [foldStmtsT]; cases foldStmtsT B recT rest V <;> rfl

theorem exportT_map (B : Builder β) : ∀ (fuel : Nat) (s : Term β) (V : List β),
    B.exportStatementsV Opts.default fuel s V = (exportT B fuel s V).map fun r => (untags r.1, r.2)
  | 0, _, _ => rfl
  | fuel + 1, _, _ => foldStmtsT_map B _ _ (exportT_map B fuel) _ _

def toRes (B : Builder β) (r : Term β × List (TStmt β)) : Resource β := B.resourceOf Opts.default r.1 (untags r.2)

theorem foldRootsT_map (B : Builder β) (fuel : Nat) (pick : Term β → List β → Bool) :
    ∀ (ord : List (Term β)) (V : List β),
      B.foldRootsV Opts.default fuel pick ord V = (foldRootsT B fuel pick ord V).map fun r => (r.1.map (toRes B), r.2)
  | [], V => rfl
  | s :: ord, V => by
    simp only [foldRootsT, Builder.foldRootsV, Builder.exportResourceV, exportT_map]
    split
    · cases exportT B fuel s V with
      | none => rfl
      | some r =>
        simp only [Option.map_some, foldRootsT_map B fuel pick ord r.2]
        cases foldRootsT B fuel pick ord r.2 <;> rfl
    · exact foldRootsT_map B fuel pick ord V

theorem foldStmtsT_pos (B : Builder β) (recT : Term β → List β → Option (List (TStmt β) × List β))
    (hrec : ∀ s V lt V', recT s V = some (lt, V') → ∀ po ∈ tposL lt, ∃ s', po ∈ B.stmts s') :
    ∀ (l : List (PO β)) (V : List β) (lt : List (TStmt β)) (V' : List β),
      foldStmtsT B recT l V = some (lt, V') → ∀ po ∈ tposL lt, po ∈ l ∨ ∃ s', po ∈ B.stmts s' := by
  intro l
  induction l with
  | nil =>
    intro V lt V' h
    simp only [foldStmtsT, Option.some.injEq, Prod.mk.injEq] at h
    obtain ⟨rfl, rfl⟩ := h
    intro po hpo; simp [tposL] at hpo
  | cons po0 rest ih =>
    intro V lt V' h
    obtain ⟨p, o⟩ := po0
    have plain : ∀ {V0 : List β},
        (match foldStmtsT B recT rest V0 with
          | none => none
          | some (l, V2) => some (TStmt.obj p o :: l, V2)) = some (lt, V') →
        ∀ po ∈ tposL lt, po ∈ (p, o) :: rest ∨ ∃ s', po ∈ B.stmts s' := by
      intro V0 h
      cases hf : foldStmtsT B recT rest V0 with
      | none => rw [hf] at h; cases h
      | some r2 =>
        obtain ⟨l2, V2⟩ := r2
        simp only [hf, Option.some.injEq, Prod.mk.injEq] at h
        obtain ⟨rfl, rfl⟩ := h
        intro po hpo
        simp only [tposL, tpos, List.singleton_append, List.mem_cons] at hpo
        rcases hpo with rfl | hpo
        · exact Or.inl (by simp)
        · exact (ih _ _ _ hf po hpo).imp (List.mem_cons_of_mem _) id
    cases o with
    | bnode b =>
      simp only [foldStmtsT] at h
      split at h
      · cases hr : recT (Term.bnode b) V with
        | none => simp [hr] at h
        | some r =>
          obtain ⟨lb, V1⟩ := r
          simp only [hr] at h
          cases hf : foldStmtsT B recT rest V1 with
          | none => simp [hf] at h
          | some r2 =>
            obtain ⟨l2, V2⟩ := r2
            simp only [hf, Option.some.injEq, Prod.mk.injEq] at h
            obtain ⟨rfl, rfl⟩ := h
            intro po hpo
            simp only [tposL, tpos, List.cons_append, List.mem_cons, List.mem_append] at hpo
            rcases hpo with rfl | hpo | hpo
            · exact Or.inl (by simp)
            · exact Or.inr (hrec _ _ _ _ hr po hpo)
            · exact (ih _ _ _ hf po hpo).imp (List.mem_cons_of_mem _) id
      · exact plain h
    | iri v => simp only [foldStmtsT] at h; exact plain h
    | lit a b c => simp only [foldStmtsT] at h; exact plain h

theorem exportT_pos (B : Builder β) : ∀ (fuel : Nat) (s : Term β) (V : List β) (lt : List (TStmt β)) (V' : List β),
    exportT B fuel s V = some (lt, V') → ∀ po ∈ tposL lt, ∃ s', po ∈ B.stmts s' := by
  intro fuel
  induction fuel with
  | zero => intro s V lt V' h; simp [exportT] at h
  | succ k ih =>
    intro s V lt V' h po hpo
    simp only [exportT] at h
    rcases foldStmtsT_pos B _ ih _ _ _ _ h po hpo with h' | h'
    · exact ⟨s, h'⟩
    · exact h'

theorem foldRootsT_pos (B : Builder β) (fuel : Nat) (pick : Term β → List β → Bool) :
    ∀ (ord : List (Term β)) (V : List β) (rs : List (Term β × List (TStmt β))) (V' : List β),
      foldRootsT B fuel pick ord V = some (rs, V') →
      ∀ r ∈ rs, r.1 ∈ ord ∧ ∀ po ∈ tposL r.2, ∃ s', po ∈ B.stmts s' := by
  intro ord
  induction ord with
  | nil =>
    intro V rs V' h
    simp only [foldRootsT, Option.some.injEq, Prod.mk.injEq] at h
    obtain ⟨rfl, rfl⟩ := h
    intro r hr; cases hr
  | cons s ord ih =>
    intro V rs V' h
    simp only [foldRootsT] at h
    by_cases hp : pick s V = true
    · simp only [hp, if_true] at h
      cases he : exportT B fuel s V with
      | none => simp [he] at h
      | some r =>
        obtain ⟨st, V1⟩ := r
        simp only [he] at h
        cases hf : foldRootsT B fuel pick ord V1 with
        | none => simp [hf] at h
        | some r2 =>
          obtain ⟨rs2, V2⟩ := r2
          simp only [hf, Option.some.injEq, Prod.mk.injEq] at h
          obtain ⟨rfl, rfl⟩ := h
          intro r hr
          rcases List.mem_cons.1 hr with rfl | hr
          · exact ⟨by simp, exportT_pos B fuel s V st V1 he⟩
          · obtain ⟨h1, h2⟩ := ih _ _ _ hf r hr
            exact ⟨List.mem_cons_of_mem _ h1, h2⟩
    · simp only [hp, if_false, Bool.false_eq_true] at h
      intro r hr
      obtain ⟨h1, h2⟩ := ih _ _ _ h r hr
      exact ⟨List.mem_cons_of_mem _ h1, h2⟩


/-- the node object `j` of the top level / of `@graph` is read as the tree `t` -/
def RootRel (label : β → Str) (c : Ctx) (j : Json) (t : Tree β) : Prop :=
  ∃ ms id G, j = .obj ms ∧ t = .node id G ∧ (ms.map (·.1)).Nodup ∧ wfMembers ms = true ∧
    kContext ∉ ms.map (·.1) ∧ kGraph ∉ ms.map (·.1) ∧
    (∀ n, evalId c (getKey kId ms) n = some (denId label id n)) ∧
    (∀ g s dflt rest n, evalMembers c g s dflt (ms ++ rest) n =
        andThen (some (denGroups label g s G n)) (fun n1 => evalMembers c g s dflt rest n1))

structure RootFacts (E : Enc) (U names : List Str) (bs : Option Str) (r : Term β × List (TStmt β)) : Prop where
  node : wfNode r.1 = true
  subj : ∀ v, r.1 = .iri v → IriG E U names v ∧ ∀ b, bs = some b → relOK E names b v = true
  pos : ∀ po ∈ tposL r.2, POk E U names bs po

section Roots
variable {E : Enc} {label : β → Str} {c : Ctx} {U names : List Str} {bs : Option Str}

theorem evalMembers_id_cons (c : Ctx) (g : Option T) (s : T) (dflt : Bool) (x : Str) (ms : List (Str × Json)) (n : Nat) :
    evalMembers c g s dflt ((kId, .str x) :: ms) n = evalMembers c g s dflt ms n := by
  -- `eq_4`: the value, a string, is neither an array nor an object (numbering: Proofs/C10Flat)
  rw [evalMembers.eq_4 _ _ _ _ _ _ _ _ (by intro xs e; cases e) (by intro ms e; cases e), classifyKey_id]
  simp only [andThen_some, List.nil_append]
  cases evalMembers c g s dflt ms n with
  | none => rfl
  | some r => rfl

omit [DecidableEq β] in
theorem rootRel_props {props : List (Str × List Json)} {groups : List (Str × Str × List (Tree β))}
    (hgr : GR label c props groups) (hnd : (props.map (·.1)).Nodup) (id : NodeId β)
    (hid : ∀ n, evalId c none n = some (denId label id n)) :
    RootRel label c (.obj (propMembers props)) (.node id (groups.map (·.2))) := by
  obtain ⟨hk, hsp⟩ := propMembers_keys hgr
  rw [← hk] at hnd hsp
  exact ⟨_, id, _, rfl, rfl, hnd, wfMembers_props hgr, fun h => (hsp _ h).2.2.2.1 rfl, fun h => (hsp _ h).2.2.2.2.2 rfl,
    fun n => by rw [getKey_none_of_not_mem fun h => (hsp _ h).2.2.2.2.1 rfl]; exact hid n,
    evalMembers_props label c hgr⟩

omit [DecidableEq β] in
theorem rootRel_id {props : List (Str × List Json)} {groups : List (Str × Str × List (Tree β))}
    (hgr : GR label c props groups) (hnd : (props.map (·.1)).Nodup) (id : NodeId β) (x : Str)
    (hid : ∀ n, evalId c (some (.str x)) n = some (denId label id n)) :
    RootRel label c (.obj ((kId, .str x) :: propMembers props)) (.node id (groups.map (·.2))) := by
  obtain ⟨hk, hsp⟩ := propMembers_keys hgr
  rw [← hk] at hnd hsp
  have hne : kContext ≠ kId ∧ kGraph ≠ kId := by simp [asc_consts]
  refine ⟨_, id, _, rfl, rfl, List.nodup_cons.2 ⟨fun h => (hsp _ h).2.2.2.2.1 rfl, hnd⟩, ?_, ?_, ?_, ?_, ?_⟩
  · simp [wfMembers, Json.wf, wfMembers_props hgr]
  · exact fun h => (List.mem_cons.1 h).elim hne.1 fun h => (hsp _ h).2.2.2.1 rfl
  · exact fun h => (List.mem_cons.1 h).elim hne.2 fun h => (hsp _ h).2.2.2.2.2 rfl
  · simpa [getKey] using hid
  · intro g s dflt rest n
    rw [List.cons_append, evalMembers_id_cons]
    exact evalMembers_props label c hgr g s dflt rest n

theorem root_rel (hc : GoodCtx E bs U names c) (hbase : bs.isSome = E.base.isSome) (hne : ∀ b, label b ≠ [])
    (B : Builder β) (r : Term β × List (TStmt β)) (t : Tree β) (hf : RootFacts E U names bs r)
    (ht1 : ∀ v, r.1 = .iri v → t = .node (.iri v) ((groupsOf E r.2).map (·.2)))
    (ht2 : ∀ b, r.1 = .bnode b →
      t = .node (if B.refCount b == 0 then .anon b else .named b) ((groupsOf E r.2).map (·.2)))
    (hU : ∀ q ∈ (buildRoot E label B (toRes B r) []).2, q ∈ U) :
    RootRel label c (buildRoot E label B (toRes B r) []).1 t := by
  obtain ⟨s, lt⟩ := r
  obtain ⟨hb2, hb3⟩ := build_rel (c := c) (U := U) (names := names) (bs := bs) (E := E) (label := label) hc hbase hne lt
  have hnd := hb2 [] List.nodup_nil
  cases s with
  | lit a b d => exact absurd hf.node (by simp [wfNode])
  | iri v =>
    simp only [toRes, Builder.resourceOf, buildRoot] at hU ⊢
    obtain ⟨hvG, hvrel⟩ := hf.subj v rfl
    have hgr := hb3 [] [] (fun q hq => hU q (by simp [hq])) hf.pos F2.nil
    have hv : IriOK E U names v := iriOK_of hvG (fun q hq => hU q (by simp [doc_pfx, hq]))
    rw [ht1 v rfl]
    exact rootRel_id hgr hnd _ _ fun n => by simp [evalId, docForm hc hbase hv hvrel, nodeRef, hvG.abs, denId]
  | bnode b =>
    simp only [toRes, Builder.resourceOf, Opts.default, Bool.true_and] at hU ⊢
    rw [ht2 b rfl]
    by_cases h0 : (B.refCount b == 0) = true
    · simp only [h0, if_true, buildRoot] at hU ⊢
      exact rootRel_props (hb3 [] [] hU hf.pos F2.nil) hnd _ fun n => by simp [evalId, denId]
    · have h0' : B.refCount b > 0 := Nat.pos_of_ne_zero (by simpa using h0)
      simp only [h0, Bool.false_eq_true, if_false, buildRoot, h0', if_true] at hU ⊢
      have : expandIri c false true (cUnderscore :: cColon :: label b) = .bnode (label b) := expandIri_bnode c false true _ nofun
      exact rootRel_id (hb3 [] [] hU hf.pos F2.nil) hnd _ _ fun n => by simp [evalId, this, nodeRef, hne b, denId]

theorem buildRoot_frame (E : Enc) (label : β → Str) (B : Builder β) (r : Resource β) (used : List Str) :
    buildRoot E label B r used = ((buildRoot E label B r []).1, used ++ (buildRoot E label B r []).2) := by
  unfold buildRoot
  split <;> (try split) <;> rw [buildStmts_frame] <;> simp [List.append_assoc]

theorem buildRoots_frame (E : Enc) (label : β → Str) (B : Builder β) : ∀ (rs : List (Resource β)) (used : List Str),
    buildRoots E label B rs used = ((buildRoots E label B rs []).1, used ++ (buildRoots E label B rs []).2)
  | [], used => by simp [buildRoots]
  | r :: rs, used => by
    simp only [buildRoots]
    rw [buildRoot_frame E label B r used, buildRoots_frame E label B rs (used ++ _),
      buildRoots_frame E label B rs (buildRoot E label B r []).2]
    simp [List.append_assoc]

end Roots

section Doc
variable {E : Enc} {label : β → Str} {c : Ctx} {U names : List Str} {bs : Option Str}

theorem roots_rel (hc : GoodCtx E bs U names c) (hbase : bs.isSome = E.base.isSome) (hne : ∀ b, label b ≠ [])
    (B : Builder β) (tr : Term β × List (TStmt β) → Tree β)
    (ht1 : ∀ r v, r.1 = .iri v → tr r = .node (.iri v) ((groupsOf E r.2).map (·.2)))
    (ht2 : ∀ r b, r.1 = .bnode b →
      tr r = .node (if B.refCount b == 0 then .anon b else .named b) ((groupsOf E r.2).map (·.2))) :
    ∀ (rs : List (Term β × List (TStmt β))),
      (∀ q ∈ (buildRoots E label B (rs.map (toRes B)) []).2, q ∈ U) →
      (∀ r ∈ rs, RootFacts E U names bs r) →
      F2 (RootRel label c) (buildRoots E label B (rs.map (toRes B)) []).1 (rs.map tr)
  | [], _, _ => F2.nil
  | r :: rs, hU, hf => by
    simp only [List.map_cons, buildRoots] at hU ⊢
    rw [buildRoots_frame] at hU ⊢
    exact F2.cons
      (root_rel hc hbase hne B r (tr r) (hf r List.mem_cons_self) (ht1 r) (ht2 r)
        fun q hq => hU q (List.mem_append_left _ hq))
      (roots_rel hc hbase hne B tr ht1 ht2 rs (fun q hq => hU q (List.mem_append_right _ hq))
        fun r' hr' => hf r' (List.mem_cons_of_mem _ hr'))

omit [DecidableEq β] in
theorem nodes_eval {js : List Json} {ts : List (Tree β)} (h : F2 (RootRel label c) js ts) (g : Option T) (n : Nat) :
    evalNodes c g js n = some (denNodes label g ts n) ∧ wfList js = true := by
  induction h generalizing n with
  | nil => exact ⟨by simp [evalNodes, denNodes], rfl⟩
  | @cons j t js' ts' hjt _ ih =>
    obtain ⟨ms, id, G, rfl, rfl, hnd, hwf, hctx, hgraph, hid, hev⟩ := hjt
    constructor
    · rw [evalNodes.eq_2]  -- the first item is an object
      have hh : nodeHead c false ms n = some (c, (denId label id n).1, (denId label id n).2, false) := by
        simp [nodeHead, getKey_none_of_not_mem hctx, hid n]
      have hm := hev g (denId label id n).1 false [] (denId label id n).2
      rw [List.append_nil] at hm
      simp only [hh, hm, andThen_some, evalMembers, (ih _).1, denNodes, denNode, Option.map_some, List.append_nil]
    · simp only [wfList, Json.wf, hwf, (ih n).2, Bool.and_true, decide_eq_true_eq]
      exact hnd

end Doc

/-- as in `encode` (`encode_doc` in Proofs/C10EncMain checks it) -/
def ctxTail (ctxms : List (Str × Json)) : List (Str × Json) :=
  if ctxms = [] then [] else [(kContext, Json.obj ctxms)]

/-- the value `Close` hands to the JSON encoder: a single node object is the document itself, otherwise the
    items sit in `@graph`; `tail` is the `@context` member, if any (a copy of the end of `encode`, which
    `encode_doc` checks) -/
def docOf (items : List Json) (tail : List (Str × Json)) : Json :=
  match items with
  | [.obj ms] => .obj (ms ++ tail)
  | js => .obj ((kGraph, .arr js) :: tail)

theorem docOf_multi (js : List Json) (tail : List (Str × Json)) (h : ∀ ms, js ≠ [.obj ms]) :
    docOf js tail = .obj ((kGraph, .arr js) :: tail) := by
  unfold docOf
  split
  · exact absurd rfl (h _)
  · rfl

theorem wfMembers_append (a b : List (Str × Json)) : wfMembers (a ++ b) = (wfMembers a && wfMembers b) := by
  induction a with
  | nil => simp [wfMembers]
  | cons m a ih => obtain ⟨k, v⟩ := m; simp [wfMembers, ih, Bool.and_assoc]

theorem ctxMs_wf (bs : Option Str) (decl : List (Str × Str)) (h : DeclOK bs decl) : (Json.obj (ctxMs bs decl)).wf = true := by
  have hw : ∀ l : List (Str × Str), wfMembers (l.map (fun e => (e.1, Json.str e.2))) = true := by
    intro l; induction l with
    | nil => rfl
    | cons e l ih => simp [wfMembers, Json.wf, ih]
  have hk : (decl.map (fun e => (e.1, Json.str e.2))).map (·.1) = decl.map (·.1) := by simp
  have hb : kBase ∉ decl.map (·.1) := h.not_kw (by decide)
  unfold ctxMs
  cases bs with
  | none => simp only [List.nil_append, Json.wf, hk, hw, Bool.and_true, decide_eq_true_eq]; exact h.nodup
  | some b =>
    simp only [List.cons_append, List.nil_append, Json.wf, wfMembers, List.map_cons, hk, hw, Bool.and_true,
      decide_eq_true_eq, List.nodup_cons]
    exact ⟨hb, h.nodup⟩

section Whole
variable {label : β → Str} {c : Ctx}

omit [DecidableEq β] in
theorem tail_eval (c : Ctx) (g : Option T) (s : T) (dflt : Bool) (ctxms : List (Str × Json)) (n : Nat) :
    evalMembers c g s dflt (ctxTail ctxms) n = some ([], n) := by
  unfold ctxTail
  split
  · simp [evalMembers]
  · rw [evalMembers.eq_3]  -- the value of `@context` is an object
    have : classifyKey c kContext = .context := by unfold classifyKey; rw [if_pos rfl]
    simp [this, andThen_some, evalMembers]

structure CtxRead (c0 c : Ctx) (ctxms : List (Str × Json)) : Prop where
  proc : processCtxObj c0 ctxms = some c
  empty : ctxms = [] → c = c0
  wf : (Json.obj ctxms).wf = true

omit [DecidableEq β] in
theorem doc_single (mode11 : Bool) (base : Option Str) (ctxms : List (Str × Json))
    (hcr : CtxRead (Ctx.initial mode11 base) c ctxms) {ms : List (Str × Json)} {t : Tree β}
    (h : RootRel label c (.obj ms) t) :
    toRdf mode11 base (.obj (ms ++ ctxTail ctxms)) = some (denNodes label none [t] 0).1 := by
  obtain ⟨ms', id, G, e, rfl, hnd, hwf, hctx, hgraph, hid, hev⟩ := h
  cases e
  have hkeys_tail : ∀ k, k ≠ kContext → getKey k (ctxTail ctxms) = none := by
    intro k hk; unfold ctxTail; split
    · rfl
    · simp [getKey, Ne.symm hk]
  have hwfdoc : (Json.obj (ms ++ ctxTail ctxms)).wf = true := by
    simp only [Json.wf, wfMembers_append, hwf, Bool.true_and, List.map_append, Bool.and_eq_true, decide_eq_true_eq]
    unfold ctxTail
    split
    · simpa [wfMembers] using hnd
    · refine ⟨?_, by simpa [wfMembers] using hcr.wf⟩
      rw [List.nodup_append]
      exact ⟨hnd, by simp, by intro a ha b hb; simp at hb; subst hb; intro e; subst e; exact hctx ha⟩
  have hidk : getKey kId (ms ++ ctxTail ctxms) = getKey kId ms := by
    rw [getKey_append, hkeys_tail kId (by simp [asc_consts])]; simp
  have hhead : ∃ dflt, nodeHead (Ctx.initial mode11 base) true (ms ++ ctxTail ctxms) 0 =
      some (c, (denId label id 0).1, (denId label id 0).2, dflt) := by
    have hck : getKey kContext (ms ++ ctxTail ctxms) = getKey kContext (ctxTail ctxms) := by
      rw [getKey_append, getKey_none_of_not_mem hctx]; simp
    unfold nodeHead
    rw [hck, hidk]
    unfold ctxTail
    by_cases he : ctxms = []
    · rw [hcr.empty he]
      simp only [he, if_true, getKey]
      rw [← hcr.empty he, hid 0]
      exact ⟨_, rfl⟩
    · simp only [he, if_false, getKey, if_true, processLocal, hcr.proc, hid 0]
      exact ⟨_, rfl⟩
  obtain ⟨dflt, hhead⟩ := hhead
  unfold toRdf
  rw [hwfdoc]
  simp only [Bool.not_true, Bool.false_eq_true, if_false, evalNode, hhead, hev, tail_eval, andThen_some,
    Option.map_some, denNodes, denNode, List.append_nil]

omit [DecidableEq β] in
theorem doc_multi (mode11 : Bool) (base : Option Str) (ctxms : List (Str × Json))
    (hcr : CtxRead (Ctx.initial mode11 base) c ctxms) {js : List Json} {ts : List (Tree β)}
    (h : F2 (RootRel label c) js ts) :
    toRdf mode11 base (.obj ((kGraph, .arr js) :: ctxTail ctxms)) = some (denNodes label none ts 1).1 := by
  obtain ⟨hev, hwl⟩ := nodes_eval h none 1
  have hwfdoc : (Json.obj ((kGraph, .arr js) :: ctxTail ctxms)).wf = true := by
    unfold ctxTail
    split
    · simp [Json.wf, wfMembers, hwl]
    · have := hcr.wf
      simp +decide [Json.wf, wfMembers, hwl] at this ⊢
      exact this
  have hhead : nodeHead (Ctx.initial mode11 base) true ((kGraph, .arr js) :: ctxTail ctxms) 0 =
      some (c, .bnode (.fresh 0), 1, true) := by
    unfold nodeHead ctxTail
    by_cases he : ctxms = []
    · rw [hcr.empty he]
      simp +decide [he, getKey, evalId]
    · simp +decide [he, getKey, processLocal, hcr.proc, evalId]
  have hg : classifyKey c kGraph = .graph := classifyKey_graph c
  unfold toRdf
  rw [hwfdoc]
  -- `evalMembers.eq_2`: the value of `@graph` is an array
  simp only [Bool.not_true, Bool.false_eq_true, if_false, evalNode, hhead, evalMembers.eq_2, hg, if_true, hev,
    tail_eval, andThen_some, Option.map_some, List.append_nil]

omit [DecidableEq β] in
theorem doc_roots (mode11 : Bool) (base : Option Str) (ctxms : List (Str × Json))
    (hcr : CtxRead (Ctx.initial mode11 base) c ctxms) {js : List Json} {ts : List (Tree β)}
    (h : F2 (RootRel label c) js ts) :
    toRdf mode11 base (docOf js (ctxTail ctxms)) = some (denForest label [(none, ts)] (encStart [(none, ts)])).1 := by
  have hm := doc_multi mode11 base ctxms hcr h
  cases h with
  | nil => simpa [docOf, denForest, encStart] using hm
  | cons h1 hr =>
    cases hr with
    | nil =>
      obtain ⟨ms, id, G, rfl, rest⟩ := h1
      simpa [docOf, denForest, encStart] using doc_single mode11 base ctxms hcr ⟨ms, id, G, rfl, rest⟩
    | cons h2 hr =>
      obtain ⟨ms, id, G, rfl, _⟩ := h1
      simpa [docOf, denForest, encStart] using hm

end Whole

end RdfModel.Proofs.C10
