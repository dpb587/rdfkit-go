import RdfModel.Proofs.C02DocNestWrite
import RdfModel.Proofs.C02DocRes -- `mem_predicateList`, `predicateList_nodup`; C02DocMain (header, configurations) comes with it
namespace RdfModel.Proofs.C02Doc
open RdfModel RdfModel.Ttl RdfModel.TtlEnc RdfModel.C02 RdfModel.Desc RdfModel.Spec.TtlPrint

variable {T : Tables} {β : Type} [DecidableEq β] {C : TtlDoc.Cfg} {c : Ctx β} {base : Option (List Nat)}

abbrev mkS (x : TA.Obj) (sl : List Nat → List TA.Slot) (text : List Nat) (s' : Stmt β) (used : List (List Nat))
    (multi : Bool) : SItem β := { x := x, sl := sl, text := text, s' := s', used := used, multi := multi }

abbrev mkG (po : TA.PO) (sl : List Nat → List TA.Slot) (body : List Nat) (l' : List (Stmt β)) (used : List (List Nat))
    (multi : Bool) : GW β := { po := po, sl := sl, body := body, l' := l', used := used, multi := multi }

omit [DecidableEq β] in
theorem all2_objsyn {l : List (Stmt β)} {ws : List (SItem β)} (h : All2 (StmtInv T C c base) l ws) :
    ∀ o ∈ ws, ObjSyn T o.x o.sl o.text := by
  intro o ho
  obtain ⟨_, _, hq⟩ := all2_mem_right h o ho
  exact hq.1

omit [DecidableEq β] in
theorem all2_objden {l : List (Stmt β)} {ws : List (SItem β)} (h : All2 (StmtInv T C c base) l ws) {q : List Nat}
    (hq : ∀ e ∈ l, stmtPred e = q) :
    ∀ o ∈ ws, ObjDen C c base o.x o.s' o.used ∧ stmtPred o.s' = q := by
  intro o ho
  obtain ⟨e, he, hi⟩ := all2_mem_right h o ho
  exact ⟨hi.2.2.2, hi.2.2.1.trans (hq e he)⟩

/-- The bounds: `write` calls itself twice per nesting level (`.stmt` of an anonymous node → `.put`/`.list` of its
    statements → `.stmt`), hence `2 · depth`; `fuelFor` (`3 · depth + 3`) is above both (`fuelFor_ok`, Proofs/C02DocNestDoc.lean). -/
theorem write_inv (S : Setup C T c base) (hC : NestCfgOK C T) (tp : TokPrint T) : ∀ (fuel : Nat),
    (∀ (ind : Nat) (s : Stmt β), StmtOK c base s → 2 * stmtDepth s + 1 ≤ fuel →
      ∃ w : SItem β, write c false fuel (.stmt ind s) = OR.ok w.piece ∧ StmtInv T C c base s w) ∧
    (∀ (ind : Nat) (l : List (Stmt β)), l ≠ [] → StmtsOK c base l → 2 * stmtsDepth l + 2 ≤ fuel →
      ∃ r : Piece, write c false fuel (.put ind l) = OR.ok r ∧ PutInv T C c base l r) ∧
    (∀ (ind : Nat) (es : List (Stmt β)), es ≠ [] → (∀ e ∈ es, StmtOK c base e) → 2 * stmtsDepth es + 2 ≤ fuel →
      ∃ r : Piece, write c false fuel (.list ind es) = OR.ok r ∧ ListInv T C c base ind es r) := by
  intro fuel
  induction fuel with
  | zero =>
    exact ⟨fun _ _ _ h => absurd h (by omega), fun _ _ _ _ h => absurd h (by omega),
      fun _ _ _ _ h => absurd h (by omega)⟩
  | succ fuel ih =>
    obtain ⟨ihS, ihP, ihL⟩ := ih
    refine ⟨?_, ?_, ?_⟩
    · -- writeResourceStatement
      intro ind s hok hfuel
      cases s with
      | obj p o =>
        have hok' : iriTermOK c base p ∧ objectOK c base o := by simpa [StmtOK] using hok
        obtain ⟨text, x, sl, hw, hsyn, hden⟩ := object_syn S hC tp o hok'.2
        refine ⟨mkS x sl text (.obj p o) (usedOfObject c.pm o) false, ?_,
          hsyn, DP.refl _, rfl, objDen_of_simple hden⟩
        rw [write]
        simp only [objectPiece, hw]
        rfl
      | anon p sub =>
        have hok' : iriTermOK c base p ∧ StmtsOK c base sub := by simpa [StmtOK] using hok
        simp only [stmtDepth] at hfuel
        by_cases hsub : sub = []
        · subst hsub
          refine ⟨mkS TA.Obj.anon (fun t => [tokSlot [] [], tokSlot [] t]) (asc "[]") (Stmt.anon p []) [] false, ?_,
            anon_syn, DP.refl _, rfl, anon_den p⟩
          rw [write]
          rfl
        · have hemp : sub.isEmpty = false := by
            cases sub with
            | nil => exact absurd rfl hsub
            | cons _ _ => rfl
          have hls := listSyntax_fuel (stmtsDepth sub + 1) sub (by omega)
          cases hl : listSyntaxAux false (stmtsDepth sub + 1) sub with
          | none => exact absurd hl hls
          | some res =>
            cases res with
            | some es =>
              obtain ⟨hne, hpred, hdep, hokes, hdp⟩ := listSyntax_chain (c := c) (base := base) _ sub es hl
              have hdle : stmtsDepth es ≤ stmtsDepth sub := stmtsDepth_le_of_forall hdep
              obtain ⟨r, hr, ws, hws, rfl⟩ := ihL ind es hne (hokes hok'.2) (by omega)
              have hos := all2_objsyn hws
              have hwne : ws ≠ [] := all2_ne_nil hws hne
              have hall2 : All2 (fun e e' => DP [e] [e']) es (ws.map (·.s')) :=
                all2_map_right (fun w : SItem β => w.s') (fun _ _ hq => hq.2.1) hws
              have hcd := coll_den ws hwne p (all2_objden hws hpred)
              refine ⟨mkS (.coll (ws.map (·.x)))
                (fun t => tokSlot [] (nl :: tabs (ind + 1)) ::
                  (itemsSl (nl :: tabs (ind + 1)) (nl :: tabs ind) ws ++ [tokSlot [] t]))
                (0x28 :: ((nl :: tabs (ind + 1)) ++
                  itemsBody (nl :: tabs (ind + 1)) (nl :: tabs ind) ws ++ [0x29]))
                (.anon p (chain (ws.map (·.s')))) (ws.flatMap (·.used)) true, ?_,
                coll_syn _ _ (ws_nltabs _).1 (ws_nltabs _).2 (ws_nltabs _).1 (ws_nltabs _).2 _ hos hwne,
                .anon p (hdp _ hall2) .nil, rfl, ?_⟩
              · rw [write]
                simp only [hemp, Bool.false_eq_true, ↓reduceIte, hl]
                exact hr
              · exact hcd
            | none =>
              obtain ⟨r, hr, pos, sl, ld, body, l', htext, hld, hldn, hsyn, hdp, hden⟩ :=
                ihP ind sub hsub hok'.2 (by omega)
              have hlast : WS (if r.multi then nl :: tabs ind else [sp]) ∧ (if r.multi then nl :: tabs ind else [sp]) ≠ [] := by
                cases r.multi
                · exact ws_sp
                · exact ws_nltabs ind
              refine ⟨mkS (.bnpl pos)
                (fun t => tokSlot [] ld :: (sl (if r.multi then nl :: tabs ind else [sp]) ++ [tokSlot [] t]))
                (0x5b :: (ld ++ body ++ (if r.multi then nl :: tabs ind else [sp]) ++ [0x5d]))
                (.anon p l') r.used r.multi, ?_,
                bnpl_syn pos sl body ld _ hsyn hld hldn hlast.1 hlast.2, .anon p hdp .nil, rfl,
                bnpl_den pos l' r.used p hden⟩
              rw [write]
              simp only [hemp, Bool.false_eq_true, ↓reduceIte, hl, hr, OR.bind, OR.ok, SItem.piece, htext]
              cases r.multi <;> simp
    · -- putResourceStatements
      intro ind l hne hok hfuel
      rw [write]
      dsimp only
      generalize hmulti : decide ((predicateList l).length > 1) = multi
      generalize hind1 : (if multi = true then ind + 1 else ind) = ind1
      obtain ⟨hld, hldn⟩ := ws_lead multi ind1
      have hpne : predicateList l ≠ [] := by
        obtain ⟨s0, l0, rfl⟩ := List.exists_cons_of_ne_nil hne
        intro h
        have : stmtPred s0 ∈ predicateList (s0 :: l0) := mem_predicateList.2 ⟨s0, List.mem_cons_self, rfl⟩
        rw [h] at this
        cases this
      refine bind_mapOR_step (GW.piece (lead multi ind1)) id
        (Q := fun p gw => POSyn T gw.po gw.sl gw.body ∧ DP (withPred p l) gw.l' ∧ PODen C c base gw.po gw.l' gw.used)
        (P := fun r => PutInv T C c base l r) (predicateList l) ?_ ?_
      · -- one predicate
        intro p hp
        obtain ⟨s0, hs0, hs0p⟩ := mem_predicateList.1 hp
        have hpOK : iriTermOK c base p := hs0p ▸ stmtOK_pred ((stmtsOK_iff c base l).1 hok s0 hs0)
        obtain ⟨pt, v, csv, hpt, hvwf, hvpr, hvden⟩ := predicate_syn S hC tp p hpOK
        rw [hpt]
        dsimp only
        generalize hpm : decide ((withPred p l).length > 1) = pMulti
        generalize hind2 : (if pMulti = true then ind1 + 1 else ind1) = ind2
        obtain ⟨hld2, hld2n⟩ := ws_lead pMulti ind2
        have hgne : withPred p l ≠ [] := by
          intro h
          have := mem_withPred.2 ⟨hs0, hs0p⟩
          rw [h] at this
          cases this
        refine bind_mapOR_step SItem.piece (GW.piece (lead multi ind1)) (Q := StmtInv T C c base)
          (P := fun gw => POSyn T gw.po gw.sl gw.body ∧ DP (withPred p l) gw.l' ∧ PODen C c base gw.po gw.l' gw.used)
          (withPred p l) ?_ ?_
        · intro s hs
          obtain ⟨hsl, _⟩ := mem_withPred.1 hs
          have hd := stmtDepth_le_of_mem hsl
          exact ihS ind2 s ((stmtsOK_iff c base l).1 hok s hsl) (by omega)
        · intro ws hws
          have hos := all2_objsyn hws
          have hwne : ws ≠ [] := all2_ne_nil hws hgne
          refine ⟨mkG (.mk v (ws.map (·.x)))
            (fun t => tokSlot csv (lead pMulti ind2) :: objsSl (lead pMulti ind2) ws t)
            (pt ++ (lead pMulti ind2 ++ objsBody (lead pMulti ind2) ws))
            (ws.map (·.s')) (usedOfPredicate c.pm p ++ ws.flatMap (·.used))
            (pMulti || ws.any (·.multi)), ?_,
            po_syn v csv pt hvwf hvpr _ hld2 hld2n _ hos hwne, ?_, ?_⟩
          · simp only [OR.ok, GW.piece, List.map_map, Function.comp_def, SItem.piece, List.flatMap_map, List.any_map]
            rw [joinSep_objs (lead pMulti ind2) ws hwne]
            simp
          · exact dp_of_all2 (all2_map_right (fun w : SItem β => w.s') (fun _ _ hq => hq.2.1) hws)
          · intro D st hst hD sN
            have hD1 : ∀ l ∈ usedOfPredicate c.pm p, D l := fun l hl => hD l (List.mem_append_left _ hl)
            obtain ⟨ts, h1, hp1⟩ := objs_den p ws
              (all2_objden hws (fun e he => (mem_withPred.1 he).2)) D st hst (by
              intro o ho l hl
              exact hD l (List.mem_append_right _ (List.mem_flatMap.2 ⟨o, ho, hl⟩))) sN
            refine ⟨ts, ?_, ?_⟩
            · simp only [TA.dPO, hvden D st hst hD1, h1]
            · exact hp1
      · -- all predicates
        intro gws hgws
        have hq : ∀ g ∈ gws, POSyn T g.po g.sl g.body ∧ PODen C c base g.po g.l' g.used := fun g hg =>
          let ⟨_, _, hq⟩ := all2_mem_right hgws g hg; ⟨hq.1, hq.2.2⟩
        have hgne : gws ≠ [] := all2_ne_nil hgws hpne
        refine ⟨_, rfl, gws.map (·.po), posSl (lead multi ind1) gws,
          lead multi ind1, posBody (lead multi ind1) gws, gws.flatMap (·.l'), ?_, hld, hldn, ?_, ?_, ?_⟩
        · simpa [id, GW.piece, List.map_map, Function.comp_def] using joinSep_pos (lead multi ind1) gws hgne
        · exact pos_syn (lead multi ind1) hld hldn _ (fun g hg => (hq g hg).1) hgne
        · have hall : ∀ s ∈ l, stmtPred s ∈ predicateList l := fun s hs => mem_predicateList.2 ⟨s, hs, rfl⟩
          refine .trans (DP.of_perm (withPred_regroup _ l (predicateList_nodup l) hall).symm) ?_
          -- `all2_map_right` at the identity only weakens the relation to its middle conjunct; `simpa` removes `map id`
          exact dp_flatMap (fun p => withPred p l) (fun gw : GW β => gw.l')
            (all2_map_right (fun gw : GW β => gw) (fun _ _ hq => hq.2.1) hgws |> fun h => by simpa using h)
        · simpa [id, GW.piece, List.map_map, Function.comp_def, List.flatMap_map] using
            pos_den (C := C) (c := c) (base := base) gws fun g hg => (hq g hg).2
    · -- writeResourceList
      intro ind es hne hok hfuel
      rw [write]
      have hemp : es.isEmpty = false := by
        cases es with
        | nil => exact absurd rfl hne
        | cons _ _ => rfl
      simp only [hemp, Bool.false_eq_true, ↓reduceIte]
      refine bind_mapOR_step SItem.piece id (Q := StmtInv T C c base) (P := fun r => ListInv T C c base ind es r) es ?_ ?_
      · intro e he
        have hd := stmtDepth_le_of_mem he
        exact ihS (ind + 1) e (hok e he) (by omega)
      · intro ws hws
        have hwne : ws ≠ [] := all2_ne_nil hws hne
        refine ⟨_, rfl, ws, hws, ?_⟩
        have := flatMap_items (nl :: tabs (ind + 1)) (nl :: tabs ind) ws hwne
        simp only [List.flatMap_map, SItem.piece, Piece.mk.injEq, List.cons.injEq, true_and, and_true]
        rw [← this]
        simp

end RdfModel.Proofs.C02Doc
