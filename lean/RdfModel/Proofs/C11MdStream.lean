/-
  For documents WITHOUT itemref the item-by-item order `denoteRel` — what `Spec.Microdata.denote` is once its path look-ups are
  resolved (`denote_eq_rel`, Proofs/C11MdRefSpec) — is a permutation of the STREAMING order `swP`, the order in which the decoder
  emits.
-/
import RdfModel.Proofs.C11Microdata
namespace RdfModel.Mdd.Stream
open RdfModel RdfModel.Desc RdfModel.Spec.Html RdfModel.Spec.Microdata RdfModel.Mdd RdfModel.Mdd.Typed

/-- the enclosing item as the walk carries it: subject and types -/
abbrev Cur := Option (T × List Str)

/-- the property statements the enclosing item gets from the element `t` at `here` -/
def linkOf (base : Str) (cur : Cur) (here : Path) (t : Tree) : List Tr :=
  match cur, t with
  | some c, .elem _ a _ => (names a).map (fun nm => (⟨c.1, predicate c.2 nm, value base here t⟩ : Tr))
  | _, _ => []

def typeStmts (base : Str) (a : Attrs) (here : Path) : List Tr :=
  (typesOf a).map (fun ty => (⟨subject base a here, Spec.Microdata.rdfType, .iri ty⟩ : Tr))

mutual
/-- streaming semantics: the statements in decoder order -/
def swP (base : Str) (cur : Cur) (here : Path) : Tree → List Tr
  | .text _ => []
  | .elem tag a ks =>
    linkOf base cur here (.elem tag a ks) ++
    (if a.itemscope then
      typeStmts base a here ++ swPKids base (some (subject base a here, typesOf a)) here 0 ks
    else swPKids base cur here 0 ks)
def swPKids (base : Str) (cur : Cur) (here : Path) (i : Nat) : List Tree → List Tr
  | [] => []
  | k :: ks => swP base cur (here ++ [i]) k ++ swPKids base cur here (i + 1) ks
end

mutual
/-- the property statements of the item `cur` found at or below `t` (the WHATWG crawl without itemref) -/
def propsOf (base : Str) (cur : Cur) (here : Path) : Tree → List Tr
  | .text _ => []
  | .elem tag a ks =>
    linkOf base cur here (.elem tag a ks) ++ (if a.itemscope then [] else propsOfKids base cur here 0 ks)
def propsOfKids (base : Str) (cur : Cur) (here : Path) (i : Nat) : List Tree → List Tr
  | [] => []
  | k :: ks => propsOf base cur (here ++ [i]) k ++ propsOfKids base cur here (i + 1) ks
end

mutual
/-- the triples of all items at or below `t`, item by item in tree order -/
def denoteRel (base : Str) (here : Path) : Tree → List Tr
  | .text _ => []
  | .elem _ a ks =>
    (if a.itemscope then
      typeStmts base a here ++ propsOfKids base (some (subject base a here, typesOf a)) here 0 ks
    else []) ++ denoteRelKids base here 0 ks
def denoteRelKids (base : Str) (here : Path) (i : Nat) : List Tree → List Tr
  | [] => []
  | k :: ks => denoteRel base (here ++ [i]) k ++ denoteRelKids base here (i + 1) ks
end

mutual
def noRef : Tree → Bool
  | .text _ => true
  | .elem _ a ks => a.itemref.isNone && noRefKids ks
def noRefKids : List Tree → Bool
  | [] => true
  | k :: ks => noRef k && noRefKids ks
end

theorem perm_interleave {α : Type} (a b c d : List α) : ((a ++ b) ++ (c ++ d)).Perm ((a ++ c) ++ (b ++ d)) := by
  simp only [List.append_assoc]
  apply List.Perm.append_left
  rw [← List.append_assoc, ← List.append_assoc]
  exact List.Perm.append_right d List.perm_append_comm

mutual
theorem propsOf_none (base : Str) : ∀ (t : Tree) (here : Path), propsOf base none here t = []
  | .text _, _ => by simp [propsOf]
  | .elem tag a ks, here => by
    simp only [propsOf, linkOf, List.nil_append]
    split
    · rfl
    · exact propsOfKids_none base ks here 0
theorem propsOfKids_none (base : Str) : ∀ (ks : List Tree) (here : Path) (i : Nat), propsOfKids base none here i ks = []
  | [], _, _ => by simp [propsOfKids]
  | k :: ks, here, i => by
    simp only [propsOfKids, propsOf_none base k, propsOfKids_none base ks, List.append_nil]
end

mutual
theorem swP_perm (base : Str) : ∀ (t : Tree) (cur : Cur) (here : Path),
    (swP base cur here t).Perm (propsOf base cur here t ++ denoteRel base here t)
  | .text _, _, _ => by simp [swP, propsOf, denoteRel]
  | .elem tag a ks, cur, here => by
    simp only [swP, propsOf, denoteRel]
    by_cases h : a.itemscope = true
    · simp only [h, ↓reduceIte, List.append_nil, List.append_assoc]
      apply List.Perm.append_left
      apply List.Perm.append_left
      exact swPKids_perm base ks _ here 0
    · simp only [h, Bool.false_eq_true, ↓reduceIte, List.nil_append, List.append_assoc]
      apply List.Perm.append_left
      exact swPKids_perm base ks cur here 0
theorem swPKids_perm (base : Str) : ∀ (ks : List Tree) (cur : Cur) (here : Path) (i : Nat),
    (swPKids base cur here i ks).Perm (propsOfKids base cur here i ks ++ denoteRelKids base here i ks)
  | [], _, _, _ => by simp [swPKids, propsOfKids, denoteRelKids]
  | k :: ks, cur, here, i => by
    simp only [swPKids, propsOfKids, denoteRelKids]
    exact ((swP_perm base k cur (here ++ [i])).append (swPKids_perm base ks cur here (i + 1))).trans
      (perm_interleave _ _ _ _)
end

theorem swP_perm_top (base : Str) (doc : Tree) : (swP base none [] doc).Perm (denoteRel base [] doc) := by
  have := swP_perm base doc none []
  rwa [propsOf_none, List.nil_append] at this

/-- the children `ks` are the children of the node at `here` from index `i` on -/
def KidsAt (doc : Tree) (here : Path) (i : Nat) (ks : List Tree) : Prop :=
  ∀ j k, ks[j]? = some k → nodeAt doc (here ++ [i + j]) = some k

theorem kidsAt_of_node (doc : Tree) (here : Path) (tag : Tag) (a : Attrs) (ks : List Tree)
    (h : nodeAt doc here = some (.elem tag a ks)) : KidsAt doc here 0 ks := by
  intro j k hk
  rw [nodeAt_append, h]
  simp [nodeAt, kidAt_eq, hk]

theorem kidsAt_head {doc : Tree} {here : Path} {i : Nat} {k : Tree} {ks : List Tree} (h : KidsAt doc here i (k :: ks)) :
    nodeAt doc (here ++ [i]) = some k := by simpa using h 0 k (by simp)

theorem kidsAt_tail {doc : Tree} {here : Path} {i : Nat} {k : Tree} {ks : List Tree} (h : KidsAt doc here i (k :: ks)) :
    KidsAt doc here (i + 1) ks := by
  intro j x hx
  have := h (j + 1) x (by simpa using hx)
  rwa [show i + (j + 1) = i + 1 + j by omega] at this

/-- the function `itemTriples` maps over the property elements -/
def propF (base : Str) (doc : Tree) (cur : T × List Str) (q : Path) : List Tr :=
  match nodeAt doc q with
  | some (.elem tag2 a2 ks2) =>
    (names a2).map (fun nm => (⟨cur.1, predicate cur.2 nm, value base q (.elem tag2 a2 ks2)⟩ : Tr))
  | _ => []

mutual
theorem visit_props (base : Str) (doc : Tree) (cur : T × List Str) : ∀ (t : Tree) (here : Path),
    nodeAt doc here = some t → (visit here t).flatMap (propF base doc cur) = propsOf base (some cur) here t
  | .text _, _, _ => by simp [visit, propsOf]
  | .elem tag a ks, here, h => by
    simp only [visit, propsOf, List.flatMap_append, linkOf]
    congr 1
    · by_cases hn : (names a).isEmpty = true
      · have : names a = [] := by simpa using hn
        simp [this]
      · simp [hn, propF, h]
    · split
      · rfl
      · exact visitKids_props base doc cur ks here 0 (kidsAt_of_node doc here tag a ks h)
theorem visitKids_props (base : Str) (doc : Tree) (cur : T × List Str) : ∀ (ks : List Tree) (here : Path) (i : Nat),
    KidsAt doc here i ks → (visitKids here i ks).flatMap (propF base doc cur) = propsOfKids base (some cur) here i ks
  | [], _, _, _ => by simp [visitKids, propsOfKids]
  | k :: ks, here, i, h => by
    simp only [visitKids, propsOfKids, List.flatMap_append]
    rw [visit_props base doc cur k (here ++ [i]) (kidsAt_head h), visitKids_props base doc cur ks here (i + 1) (kidsAt_tail h)]
end

mutual
theorem visit_len : ∀ (t : Tree) (here : Path), ∀ q ∈ visit here t, here.length ≤ q.length
  | .text _, _ => by simp [visit]
  | .elem tag a ks, here => by
    intro q hq
    simp only [visit, List.mem_append] at hq
    rcases hq with hq | hq
    · split at hq
      · simp at hq
      · simp only [List.mem_singleton] at hq; subst hq; exact Nat.le_refl _
    · split at hq
      · simp at hq
      · exact Nat.le_of_lt (visitKids_len ks here 0 q hq)
theorem visitKids_len : ∀ (ks : List Tree) (here : Path) (i : Nat), ∀ q ∈ visitKids here i ks, here.length < q.length
  | [], _, _ => by simp [visitKids]
  | k :: ks, here, i => by
    intro q hq
    simp only [visitKids, List.mem_append] at hq
    rcases hq with hq | hq
    · have := visit_len k (here ++ [i]) q hq
      simp at this; omega
    · exact visitKids_len ks here (i + 1) q hq
end

end RdfModel.Mdd.Stream
