import RdfModel.Model.RdfaDecoder
namespace RdfModel.Rdfad
open RdfModel RdfModel.Desc
open RdfModel.Mdd (Node Attr Bytes Subj fields trimSpace typeTokens textContent)

/-- what the theorems look at: outcome flag, statements, pending lists -/
def core (st : St) : Option Bad × List Stmt × List (List Obj) := (st.bad, st.out, st.lists)

/-- C06 for an object: a literal has a datatype, never rdf:dirLangString (the decoder has no direction), a language tag
    exactly when the datatype is rdf:langString, and the tag is not empty -/
def WFObj : Obj → Prop
  | .lit _ dt lang => dt ≠ [] ∧ dt ≠ rdfDirLangString ∧ (lang.isSome ↔ dt = rdfLangString) ∧ lang ≠ some []
  | _ => True

def Safe (st : St) : Prop := st.bad ≠ some .panic ∧ st.bad ≠ some .nilTerm

def Inv (st : St) : Prop :=
  Safe st ∧ (∀ t ∈ st.out, WFObj t.o) ∧ (∀ l ∈ st.lists, ∀ x ∈ l, WFObj x)

theorem Inv.of_core {st st' : St} (h : core st' = core st) (i : Inv st) : Inv st' := by
  simp only [core, Prod.mk.injEq] at h
  obtain ⟨hb, ho, hl⟩ := h
  unfold Inv Safe at *
  rw [hb, ho, hl]; exact i

theorem wf_subj_term (s : Subj) : WFObj s.term := by cases s <;> simp [Subj.term, WFObj]

@[simp] theorem core_fresh (st : St) : core st.fresh.2 = core st := rfl
@[simp] theorem core_ask (st : St) (k : Nat) (a b : Bytes) : core (st.ask k a b) = core st := rfl
@[simp] theorem core_setMap (st : St) (i : Nat) (m) : core (st.setMap i m) = core st := rfl
@[simp] theorem core_newMap (st : St) : core st.newMap.2 = core st := rfl
@[simp] theorem core_special (st : St) (k) : core { st with special := k } = core st := rfl
@[simp] theorem core_labels (st : St) (k) : core { st with labels := k } = core st := rfl
@[simp] theorem core_asks (st : St) (k) : core { st with asks := k } = core st := rfl
@[simp] theorem core_profile (st : St) (k) : core { st with profile := k } = core st := rfl
@[simp] theorem core_terms (st : St) (k) : core { st with terms := k } = core st := rfl
@[simp] theorem core_foundBase (st : St) (k) : core { st with foundBase := k } = core st := rfl
@[simp] theorem core_unordered (st : St) (k) : core { st with unordered := k } = core st := rfl

theorem Inv.emit {st : St} (i : Inv st) (s : Subj) (p : Bytes) (o : Obj) (ho : WFObj o) :
    Inv (st.emit (some s) p (some o)) := by
  obtain ⟨hs, ho', hl⟩ := i
  refine ⟨hs, ?_, hl⟩
  intro t ht
  simp only [St.emit, List.mem_append, List.mem_singleton] at ht
  rcases ht with ht | ht
  · exact ho' t ht
  · subst ht; exact ho

theorem getList_wf {st : St} (hl : ∀ l ∈ st.lists, ∀ x ∈ l, WFObj x) (i : Nat) : ∀ x ∈ st.getList i, WFObj x := by
  intro x hx
  unfold St.getList at hx
  rw [List.getD_eq_getElem?_getD] at hx
  cases h : st.lists[i]? with
  | none => rw [h] at hx; cases hx
  | some l => rw [h] at hx; exact hl l (List.mem_of_getElem? h) x hx

theorem Inv.pushList {st : St} (i : Inv st) (id : Nat) (o : Obj) (ho : WFObj o) : Inv (st.pushList id (some o)) := by
  obtain ⟨hs, ho', hl⟩ := i
  refine ⟨hs, ho', ?_⟩
  intro l hl'
  simp only [St.pushList] at hl'
  rcases List.mem_or_eq_of_mem_set hl' with h | h
  · exact hl l h
  · subst h
    intro x hx
    rcases List.mem_append.mp hx with hx | hx
    · exact getList_wf hl id x hx
    · simp only [List.mem_singleton] at hx; subst hx; exact ho

theorem Inv.newList {st : St} (i : Inv st) : Inv st.newList.2 := by
  obtain ⟨hs, ho', hl⟩ := i
  refine ⟨hs, ho', ?_⟩
  intro l hl'
  simp only [St.newList, List.mem_append, List.mem_singleton] at hl'
  rcases hl' with h | h
  · exact hl l h
  · subst h; intro x hx; cases hx

theorem Inv.ensureList {st : St} (i : Inv st) (m : Nat) (p : Bytes) : Inv (st.ensureList m p).2 := by
  unfold St.ensureList
  split
  · exact i
  · exact Inv.of_core (by rfl) i.newList

theorem Inv.failErr {st : St} (i : Inv st) : Inv (st.fail .err) := by
  obtain ⟨⟨h1, h2⟩, ho, hl⟩ := i
  refine ⟨⟨?_, ?_⟩, ho, hl⟩ <;> (simp only [St.fail]; split <;> simp_all)

@[simp] theorem core_bnodeRef (st : St) (v : Bytes) : core (bnodeRef st v).2 = core st := by
  unfold bnodeRef
  repeat' split
  all_goals rfl

@[simp] theorem core_tryResolve (E : Env) (st : St) (b) (c : Bool) (v : Bytes) :
    core (tryResolve E st b c v).2 = core st := by
  unfold tryResolve
  repeat' split
  all_goals rfl

@[simp] theorem core_resolvePlain (E : Env) (st : St) (v : Bytes) (b) (dv) (t : Bool) :
    core (resolvePlain E st v b dv t).2 = core st := by
  unfold resolvePlain
  have h := core_tryResolve E st b true v
  generalize tryResolve E st b true v = r at h ⊢
  obtain ⟨r1, r2⟩ := r
  simp only at h ⊢
  repeat' split
  all_goals exact h

@[simp] theorem core_resolveCurie (E : Env) (st : St) (pf) (v p r : Bytes) (b) (dv) :
    core (resolveCurie E st pf v p r b dv).2 = core st := by
  unfold resolveCurie
  have h := core_tryResolve E st b (containsPathish p) v
  generalize tryResolve E st b (containsPathish p) v = r at h ⊢
  obtain ⟨r1, r2⟩ := r
  simp only at h ⊢
  repeat' split
  all_goals first | rfl | exact h

@[simp] theorem core_resolveIRI (E : Env) (st : St) (pf) (v : Bytes) (b) (dv) (s t : Bool) :
    core (resolveIRI E st pf v b dv s t).2 = core st := by
  unfold resolveIRI
  repeat' split
  all_goals simp

@[simp] theorem core_resolveAsIRI (E : Env) (st : St) (pf) (v : Bytes) (dv) (t : Bool) :
    core (resolveAsIRI E st pf v dv t).2 = core st := by
  unfold resolveAsIRI
  split
  · rename_i h; have := core_resolveIRI E st pf v none dv false t; rw [h] at this; exact this
  · rename_i h _; have := core_resolveIRI E st pf v none dv false t
    generalize resolveIRI E st pf v none dv false t = r at *
    obtain ⟨r1, r2⟩ := r
    simp_all

@[simp] theorem core_resolveTokens (E : Env) (pf) (dv) (t : Bool) (ts : List Bytes) (st : St) :
    core (resolveTokens E pf dv t ts st).2 = core st := by
  induction ts generalizing st with
  | nil => rfl
  | cons x xs ih =>
    simp only [resolveTokens]
    rw [ih]; simp

@[simp] theorem core_filterRel (E : Env) (pf) (v) (st : St) : core (filterRel E pf v st).2 = core st := by
  unfold filterRel
  split
  · rfl
  · simp

@[simp] theorem core_res (E : Env) (st : St) (l : L) (v : Bytes) (s : Bool) : core (res E st l v s).2 = core st := by
  simp [res]

@[simp] theorem core_resOpt (E : Env) (st : St) (l : L) (v) (s : Bool) : core (resOpt E st l v s).2 = core st := by
  unfold resOpt; split <;> simp

theorem core_orElseSt {c} (r : Option Subj × St) (f : St → Option Subj × St) (hr : core r.2 = c)
    (hf : ∀ st, core st = c → core (f st).2 = c) : core (orElseSt r f).2 = c := by
  unfold orElseSt
  split
  · exact hr
  · exact hf _ hr

@[simp] theorem core_freshBn (st : St) : core (freshBn st).2 = core st := rfl

@[simp] theorem core_res3 (E : Env) (a : A) (l : L) (st : St) : core (res3 E a l st).2 = core st := by
  unfold res3
  apply core_orElseSt _ _ (by simp)
  intro st' h
  apply core_orElseSt _ _ (by simp [h])
  intro st'' h'
  simp [h']

@[simp] theorem core_res3First (E : Env) (a : A) (l : L) (st : St) : core (res3First E a l st).2 = core st := by
  unfold res3First
  repeat' split
  all_goals simp

theorem res_empty (E : Env) (st : St) (l : L) (s : Bool) : res E st l [] s = (some (.iri l.base), st) := by
  simp [res, resolveIRI]

end RdfModel.Rdfad
