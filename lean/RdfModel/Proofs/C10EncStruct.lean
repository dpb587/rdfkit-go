/-
  C10, encoder direction: the tagged export terminates whenever the export does (C17: always, for fuel |d|+1), so the forest
  `encForest` exists for every dataset and every pair of iteration orders; the document `encode` writes is read
  as that forest (`doc_reads_forest`), hence the certificate (`encCert_holds`).
-/
import RdfModel.Proofs.C10EncMain
import RdfModel.Proofs.C17VMain
namespace RdfModel.Proofs.C10
open RdfModel RdfModel.Desc RdfModel.JL RdfModel.JLEnc RdfModel.C10

variable {β : Type} [DecidableEq β]

theorem foldRootsT_isSome (B : Builder β) (fuel : Nat) (pick : Term β → List β → Bool)
    (hterm : ∀ y V, (B.exportStatementsV Opts.default fuel y V).isSome) (ord : List (Term β)) (V : List β) :
    (foldRootsT B fuel pick ord V).isSome := by
  have := C17.foldRootsV_isSome B Opts.default fuel pick hterm ord V
  rwa [foldRootsT_map, Option.isSome_map] at this

/-- The second conjunct equates denotations, not forests: a dataset without default graph has `F = []`
    and `rs = []`, and `[]` is not `[(none, [])]`, though both denote no quad. -/
theorem encForest_roots (cfg : Cfg β) (d : List (DQuad β)) (ord ord2 : List (Term β)) :
    ∃ (rs : List (Term β × List (TStmt β))) (F : Forest β),
      encForest cfg d ord ord2 = some F ∧
      (denForest cfg.label F (encStart F)).1 =
        (denForest cfg.label [(none, rs.map (rootTree (mkEnc cfg) ((dbuild d).builder none)))]
          (encStart [(none, rs.map (rootTree (mkEnc cfg) ((dbuild d).builder none)))])).1 ∧
      (if (dbuild d).graphNames.contains none then
        ((dbuild d).builder none).exportResourcesV Opts.default ord ord2 (d.length + 1) else some []) =
        some (rs.map (toRes ((dbuild d).builder none))) ∧
      ∀ r ∈ rs, (r.1 ∈ ord ∨ r.1 ∈ ord2) ∧ ∀ po ∈ tposL r.2, ∃ s', po ∈ ((dbuild d).builder none).stmts s' := by
  unfold encForest
  simp only []
  cases hdg : (dbuild d).graphNames.contains none with
  | false => exact ⟨[], [], rfl, rfl, rfl, nofun⟩
  | true =>
    have hterm : ∀ y V, (((dbuild d).builder none).exportStatementsV Opts.default (d.length + 1) y V).isSome := by
      intro y V
      rw [C17.builder_dbuild]
      exact C17.exportV_isSome _ Opts.default (d.length + 1)
        (by have := C17.graphTriples_length_le d none; omega) y V
    obtain ⟨⟨rs1, V1⟩, h1⟩ := Option.isSome_iff_exists.1 (foldRootsT_isSome _ (d.length + 1)
      (((dbuild d).builder none).pick1 Opts.default) hterm ord [])
    obtain ⟨⟨rs2, V2⟩, h2⟩ := Option.isSome_iff_exists.1 (foldRootsT_isSome _ (d.length + 1)
      (((dbuild d).builder none).pick2 Opts.default) hterm ord2 V1)
    refine ⟨rs1 ++ rs2, _, by simp only [Bool.not_true, Bool.false_eq_true, if_false, h1, h2], rfl, ?_, fun r hr => ?_⟩
    · simp only [if_true, Builder.exportResourcesV, foldRootsT_map, h1, h2, Option.map_some,
        List.map_append]
    · rcases List.mem_append.1 hr with hr | hr
      · exact (foldRootsT_pos _ _ _ _ _ _ _ h1 r hr).imp_left .inl
      · exact (foldRootsT_pos _ _ _ _ _ _ _ h2 r hr).imp_left .inr

theorem encForest_isSome (cfg : Cfg β) (d : List (DQuad β)) (ord ord2 : List (Term β)) :
    (encForest cfg d ord ord2).isSome := by
  obtain ⟨_, F, h, _⟩ := encForest_roots cfg d ord ord2
  rw [h]; rfl

theorem doc_reads_forest (mode11 : Bool) (base : Option Str) (cfg : Cfg β) (d : List (DQuad β)) (ord ord2 : List (Term β))
    (hne : ∀ b, cfg.label b ≠ []) (hord : ∀ s ∈ ord, s ∈ defaultOrd d) (hord2 : ∀ s ∈ ord2, s ∈ defaultOrd d)
    (hwf : WFDataset d) (hnn : noNativeTyped d = true) (hctx : ctxOK cfg d ord ord2 = true)
    (hloc : locOK cfg d ord ord2 = true) :
    ∃ doc F, encode cfg d ord ord2 = some doc ∧ encForest cfg d ord ord2 = some F ∧
      toRdf mode11 base doc = some (denForest cfg.label F (encStart F)).1 := by
  have hdecl := declOK_of_ctxOK cfg d ord ord2 hctx
  obtain ⟨c, hproc, _, hc⟩ := goodCtx_of_decl (mkEnc cfg) cfg.base (usedPrefixes cfg d ord ord2)
    (usedPrefixes_nodup cfg d ord ord2) (Ctx.initial mode11 base) rfl rfl rfl hdecl
  have hcr : CtxRead (Ctx.initial mode11 base) c (ctxMs cfg.base (declared cfg d ord ord2)) :=
    ⟨hproc, fun he => initial_ctx_empty mode11 base c (he ▸ hproc), ctxMs_wf _ _ hdecl⟩
  have hbase : cfg.base.isSome = (mkEnc cfg).base.isSome := by simp [mkEnc]
  obtain ⟨rs, F, hF, hden, hexp, hpos⟩ := encForest_roots cfg d ord ord2
  obtain ⟨hu, henc⟩ := encode_doc cfg d ord ord2 _ hexp
  have hfacts : ∀ r ∈ rs, RootFacts (mkEnc cfg) (usedPrefixes cfg d ord ord2)
      ((declared cfg d ord ord2).map (·.1)) cfg.base r := by
    intro r hr
    obtain ⟨q, hq, _, hqs⟩ := subject_mem d r.1 ((hpos r hr).1.elim (hord _) (hord2 _))
    obtain ⟨_, hnode, hsubj⟩ := pok_of cfg d ord ord2 hwf hnn hctx hloc hq
    rw [hqs] at hnode hsubj
    refine ⟨hnode, hsubj, fun po hpo => ?_⟩
    obtain ⟨s', hs'⟩ := (hpos r hr).2 po hpo
    exact (pok_of cfg d ord ord2 hwf hnn hctx hloc (stmt_mem d s' po hs')).1
  have hrel := roots_rel hc hbase hne ((dbuild d).builder none)
    (rootTree (mkEnc cfg) ((dbuild d).builder none))
    (fun r v hv => by simp only [rootTree, hv]) (fun r b hb => by simp only [rootTree, hb])
    rs (fun q hq => hu ▸ dedupStr_mem.2 hq) hfacts
  exact ⟨_, F, henc, hF, by rw [doc_roots mode11 base _ hcr hrel, hden]⟩

theorem encCert_holds (mode11 : Bool) (base : Option Str) (cfg : Cfg β) (d : List (DQuad β)) (ord ord2 : List (Term β))
    (hne : ∀ b, cfg.label b ≠ []) (hord : ∀ s ∈ ord, s ∈ defaultOrd d) (hord2 : ∀ s ∈ ord2, s ∈ defaultOrd d)
    (hwf : WFDataset d) (hnn : noNativeTyped d = true) (hctx : ctxOK cfg d ord ord2 = true)
    (hloc : locOK cfg d ord ord2 = true) (hst : structOK cfg d ord ord2 = true) :
    encCert mode11 base cfg d ord ord2 = true := by
  obtain ⟨doc, F, he, hF, ht⟩ := doc_reads_forest mode11 base cfg d ord ord2 hne hord hord2 hwf hnn hctx hloc
  unfold structOK at hst
  rw [hF] at hst
  unfold encCert
  simp only [he, hF, hst, ht, Bool.true_and, decide_true]

end RdfModel.Proofs.C10
