import RdfModel.Proofs.C17Main
namespace RdfModel.Proofs.C17
open RdfModel RdfModel.Desc RdfModel.C17

variable {β : Type} [DecidableEq β]

theorem graphNames_add1 (D : DBuilder β) (q : DQuad β) :
    (D.add1 q).graphNames = addKey D.graphNames q.g :=
  keys_alUpd _ _ _ _

theorem graphNames_add (Q : List (DQuad β)) : ∀ D : DBuilder β,
    (D.add Q).graphNames = (Q.map (·.g)).foldl addKey D.graphNames := fun _ =>
  (List.foldl_hom DBuilder.graphNames fun D q => (graphNames_add1 D q).symm).symm.trans List.foldl_map.symm

theorem builder_add1 (D : DBuilder β) (q : DQuad β) (g : Option (Term β)) :
    (D.add1 q).builder g = if q.g = g then (D.builder q.g).add1 q.t else D.builder g := by
  simp [DBuilder.add1, DBuilder.builder, alGet_alUpd]

theorem graphTriples_cons (q : DQuad β) (Q : List (DQuad β)) (g : Option (Term β)) :
    graphTriples (q :: Q) g = if q.g = g then q.t :: graphTriples Q g else graphTriples Q g := by
  unfold graphTriples
  by_cases h : q.g = g <;> simp [h]

theorem builder_add (Q : List (DQuad β)) : ∀ (D : DBuilder β) (g : Option (Term β)),
    (D.add Q).builder g = (D.builder g).add (graphTriples Q g) := by
  induction Q with
  | nil => intro D g; rfl
  | cons q Q ih =>
    intro D g
    have : D.add (q :: Q) = (D.add1 q).add Q := rfl
    rw [this, ih, builder_add1, graphTriples_cons]
    by_cases h : q.g = g
    · subst h; simp only [if_true]; rfl
    · simp [h]

theorem builder_dbuild (Q : List (DQuad β)) (g : Option (Term β)) :
    (dbuild Q).builder g = build (graphTriples Q g) := by
  rw [dbuild, builder_add]
  rfl

theorem graphNames_dbuild_nodup (Q : List (DQuad β)) : (dbuild Q).graphNames.Nodup := by
  rw [dbuild, graphNames_add]
  exact foldl_addKey_nodup _ _ List.nodup_nil

theorem mem_graphNames_dbuild (Q : List (DQuad β)) (g : Option (Term β)) :
    g ∈ (dbuild Q).graphNames ↔ ∃ q ∈ Q, q.g = g := by
  rw [dbuild, graphNames_add, mem_foldl_addKey]
  simp [DBuilder.empty, DBuilder.graphNames]

theorem graphTriples_length_le (Q : List (DQuad β)) (g : Option (Term β)) :
    (graphTriples Q g).length ≤ Q.length := by
  unfold graphTriples
  rw [List.length_map]
  exact List.length_filter_le _ _

theorem mem_graphTriples {Q : List (DQuad β)} {g : Option (Term β)} {t : Triple β} :
    t ∈ graphTriples Q g ↔ ∃ q ∈ Q, q.g = g ∧ q.t = t := by
  unfold graphTriples
  simp only [List.mem_map, List.mem_filter, decide_eq_true_eq]
  constructor
  · rintro ⟨q, ⟨hq, hg⟩, rfl⟩; exact ⟨q, hq, hg, rfl⟩
  · rintro ⟨q, hq, hg, rfl⟩; exact ⟨q, ⟨hq, hg⟩, rfl⟩

def mkQ (g : Option (Term β)) (t : Triple β) : DQuad β := ⟨t, g⟩
def mkQ' (g : Option (Term β)) (t : Triple (BN β)) : DQuad (BN β) := ⟨t, g.map (Term.map BN.orig)⟩

omit [DecidableEq β] in
theorem newQuadsList_cons (g : Option (Term β)) (r : Resource β) (rs : List (DResource β)) (n : Nat) :
    newQuadsList ((g, r) :: rs) n =
      ((r.newTriples n).1.map (mkQ' g) ++ (newQuadsList rs (r.newTriples n).2).1,
        (newQuadsList rs (r.newTriples n).2).2) := by
  simp [newQuadsList, mkQ']

omit [DecidableEq β] in
theorem newQuadsList_append (l₁ l₂ : List (DResource β)) (n : Nat) :
    newQuadsList (l₁ ++ l₂) n =
      ((newQuadsList l₁ n).1 ++ (newQuadsList l₂ (newQuadsList l₁ n).2).1,
        (newQuadsList l₂ (newQuadsList l₁ n).2).2) := by
  induction l₁ generalizing n with
  | nil => simp [newQuadsList]
  | cons e l ih =>
    obtain ⟨g, r⟩ := e
    simp only [List.cons_append, newQuadsList_cons, ih, List.append_assoc]

omit [DecidableEq β] in
theorem newQuadsList_map (g : Option (Term β)) (rs : List (Resource β)) (n : Nat) :
    newQuadsList (rs.map (fun r => (g, r))) n =
      ((newTriplesList rs n).1.map (mkQ' g), (newTriplesList rs n).2) := by
  induction rs generalizing n with
  | nil => simp [newQuadsList, newTriplesList]
  | cons r rs ih => simp only [List.map_cons, newQuadsList_cons, ih, newTriplesList_cons, List.map_append]

theorem quads_group_perm (Q : List (DQuad β)) (gs : List (Option (Term β))) (hn : gs.Nodup)
    (hall : ∀ q ∈ Q, q.g ∈ gs) :
    (gs.flatMap (fun g => (graphTriples Q g).map (mkQ g))).Perm Q := by
  refine List.Perm.trans (List.Perm.of_eq ?_) (group_perm_all (·.g) Q gs hn hall)
  congr 1
  funext g
  unfold graphTriples
  rw [List.map_map]
  have : ∀ q ∈ Q.filter (fun q => q.g = g), (mkQ g ∘ fun q => q.t) q = id q := by
    intro q hq
    simp only [List.mem_filter, decide_eq_true_eq] at hq
    obtain ⟨_, rfl⟩ := hq
    rfl
  rw [List.map_congr_left this, List.map_id]

theorem anonymized_occurs (T : List (Triple β)) (opts : Opts) (b : β) (h : anonymizedIn T opts b = true) :
    ∃ t ∈ T, b ∈ tripleNodes t := by
  unfold anonymizedIn at h
  simp only [Bool.or_eq_true, Bool.and_eq_true, beq_iff_eq, List.any_eq_true, decide_eq_true_eq] at h
  rcases h with ⟨_, h1⟩ | ⟨_, t, ht, hts⟩
  · obtain ⟨t, ht, hto⟩ := exists_of_refs_pos T b (by omega)
    exact ⟨t, ht, mem_tripleNodes_o hto⟩
  · exact ⟨t, ht, mem_tripleNodes_s hts⟩

/-- two different graphs never anonymize / share the same node (from `NoSharedAnonymized`) -/
theorem shared_contra (Q : List (DQuad β)) (opts : Opts) (hsh : NoSharedAnonymized Q opts)
    (g g' : Option (Term β)) (hgg : g' ≠ g) (b : β)
    (ha : anonymizedIn (graphTriples Q g) opts b = true)
    (t' : Triple β) (ht' : t' ∈ graphTriples Q g') (hb' : b ∈ tripleNodes t') : False := by
  obtain ⟨t, ht, hb⟩ := anonymized_occurs _ opts b ha
  obtain ⟨q, hq, hqg, rfl⟩ := mem_graphTriples.1 ht
  obtain ⟨q', hq', hqg', rfl⟩ := mem_graphTriples.1 ht'
  have := (hsh q hq b hb (by rw [hqg]; exact ha)).1 q' hq' (by rw [hqg, hqg']; exact hgg)
  exact this hb'

omit [DecidableEq β] in
theorem opt_term_map_congr (g : Option (Term β)) (σ τ : β → BN β)
    (h : ∀ b, g = some (Term.bnode b) → σ b = τ b) : g.map (Term.map σ) = g.map (Term.map τ) := by
  cases g with
  | none => rfl
  | some x =>
    simp only [Option.map_some, Option.some.injEq]
    exact term_map_congr x σ τ (fun b hb => h b (by rw [hb]))

/-- the per-graph results combined over a list of graph names -/
theorem dataset_good (Q : List (DQuad β)) (opts : Opts)
    (expG : Option (Term β) → Option (List (Resource β))) (hsh : NoSharedAnonymized Q opts) :
    ∀ gs : List (Option (Term β)), gs.Nodup →
      (∀ g ∈ gs, GraphStrong (graphTriples Q g) opts (expG g)) →
      ∃ (rss : List (List (DResource β))) (WQ : List (DQuad β)) (al : List β),
        mapOpt (fun g => (expG g).map (fun rs => rs.map (fun r => (g, r)))) gs = some rss ∧
        WQ.Perm (gs.flatMap (fun g => (graphTriples Q g).map (mkQ g))) ∧
        al.Nodup ∧
        (∀ b ∈ al, ∃ g ∈ gs, anonymizedIn (graphTriples Q g) opts b = true) ∧
        (∀ n, (newQuadsList rss.flatten n).2 = n + al.length) ∧
        (∀ n (σ : β → BN β), al.map σ = (List.range' n al.length).map BN.fresh →
          (∀ g ∈ gs, (∀ t ∈ graphTriples Q g, ∀ b ∈ tripleNodes t, b ∉ al → σ b = BN.orig b) ∧
            (∀ b, g = some (Term.bnode b) → σ b = BN.orig b)) →
          (newQuadsList rss.flatten n).1 = WQ.map (DQuad.map σ)) := by
  intro gs
  induction gs with
  | nil =>
    intro _ _
    exact ⟨[], [], [], rfl, by simp, by simp, by simp, by intro n; simp [newQuadsList],
      by intro n σ _ _; simp [newQuadsList]⟩
  | cons g gs ih =>
    intro hn hs
    rw [List.nodup_cons] at hn
    obtain ⟨rss', WQ', al', hrss', hp', hnd', han', hc', hi'⟩ :=
      ih hn.2 (fun g' hg' => hs g' (by simp [hg']))
    obtain ⟨rs, W, alg, hrs, hpW, hndg, hang, hcg, hig⟩ := hs g (by simp)
    have hno : ∀ g' ∈ gs, ∀ t ∈ graphTriples Q g', ∀ b ∈ tripleNodes t, b ∉ alg := by
      intro g' hg' t ht b hb hbg
      exact shared_contra Q opts hsh g g' (fun e => hn.1 (e ▸ hg')) b (hang b hbg) t ht hb
    have hno' : ∀ t ∈ graphTriples Q g, ∀ b ∈ tripleNodes t, b ∉ al' := by
      intro t ht b hb hb'
      obtain ⟨g', hg', ha'⟩ := han' b hb'
      exact shared_contra Q opts hsh g' g (fun e => hn.1 (e ▸ hg')) b ha' t ht hb
    refine ⟨rs.map (fun r => (g, r)) :: rss', W.map (mkQ g) ++ WQ', alg ++ al', ?_, ?_, ?_, ?_, ?_, ?_⟩
    · refine mapOpt_cons_some.2 ⟨_, _, ?_, hrss', rfl⟩
      rw [hrs]; rfl
    · simp only [List.flatMap_cons]
      exact List.Perm.append (hpW.map _) hp'
    · rw [List.nodup_append]
      refine ⟨hndg, hnd', fun a ha b hb hab => ?_⟩
      obtain ⟨t, ht, hat⟩ := anonymized_occurs _ opts a (hang a ha)
      exact hno' t ht a hat (hab ▸ hb)
    · intro b hb
      rcases List.mem_append.1 hb with h | h
      · exact ⟨g, by simp, hang b h⟩
      · obtain ⟨g', hg', ha'⟩ := han' b h
        exact ⟨g', by simp [hg'], ha'⟩
    · intro n
      simp only [List.flatten_cons, newQuadsList_append, newQuadsList_map, hcg, hc', List.length_append]
      omega
    · intro n σ hal hfix
      obtain ⟨hal1, hal2⟩ := split_alloc hal
      simp only [List.flatten_cons, newQuadsList_append, newQuadsList_map, hcg]
      have hfg := hfix g (by simp)
      have e1 : (newTriplesList rs n).1 = W.map (Triple.map σ) := by
        apply hig n σ hal1
        intro t ht b hb hbn
        exact hfg.1 t ht b hb fun hmem => (List.mem_append.1 hmem).elim hbn (hno' t ht b hb)
      have e2 : (newQuadsList rss'.flatten (n + alg.length)).1 = WQ'.map (DQuad.map σ) := by
        apply hi' (n + alg.length) σ hal2
        intro g' hg'
        have hf' := hfix g' (by simp [hg'])
        refine ⟨?_, hf'.2⟩
        intro t ht b hb hbn
        exact hf'.1 t ht b hb fun hmem => (List.mem_append.1 hmem).elim (hno g' hg' t ht b hb) hbn
      rw [e1, e2, List.map_append]
      congr 1
      rw [List.map_map, List.map_map]
      apply List.map_congr_left
      intro t _
      simp only [Function.comp, mkQ', mkQ, DQuad.map]
      congr 1
      exact (opt_term_map_congr g σ BN.orig hfg.2).symm

theorem dataset_iso (Q : List (DQuad β)) (opts : Opts) (gord : List (Option (Term β)))
    (expG : Option (Term β) → Option (List (Resource β)))
    (hg : gord.Perm (dbuild Q).graphNames)
    (hs : ∀ g ∈ gord, GraphStrong (graphTriples Q g) opts (expG g))
    (hsh : NoSharedAnonymized Q opts) (n : Nat) :
    ∃ rs, (mapOpt (fun g => (expG g).map (fun rs => rs.map (fun r => (g, r)))) gord).map List.flatten = some rs ∧
      Spec.IsoQ (newQuadsList rs n).1 Q := by
  have hn : gord.Nodup := (hg.nodup_iff).2 (graphNames_dbuild_nodup Q)
  obtain ⟨rss, WQ, al, hrss, hp, hnd, han, _, hi⟩ := dataset_good Q opts expG hsh gord hn hs
  refine ⟨rss.flatten, by simp [hrss], sigmaOf al n, sigmaOf_injective al n, ?_⟩
  have hall : ∀ q ∈ Q, q.g ∈ gord := fun q hq => hg.mem_iff.2 ((mem_graphNames_dbuild Q q.g).2 ⟨q, hq, rfl⟩)
  rw [hi n (sigmaOf al n) (sigmaOf_map al n hnd)]
  · exact (hp.trans (quads_group_perm Q gord hn hall)).map _
  · intro g hgm
    refine ⟨fun _ _ b _ hb => sigmaOf_not_mem al n b hb, ?_⟩
    intro b hgb
    apply sigmaOf_not_mem
    intro hmem
    obtain ⟨g', _, ha'⟩ := han b hmem
    obtain ⟨t, ht, hbt⟩ := anonymized_occurs _ opts b ha'
    obtain ⟨q, hq, hqg, rfl⟩ := mem_graphTriples.1 ht
    obtain ⟨q', hq', hqg'⟩ := (mem_graphNames_dbuild Q g).1 (hg.mem_iff.1 hgm)
    exact (hsh q hq b hbt (by rw [hqg]; exact ha')).2 q' hq' (by rw [hqg', hgb])

theorem dataset_flatten_export (Q : List (DQuad β)) (opts : Opts) (gord : List (Option (Term β)))
    (sord : Option (Term β) → List (Term β))
    (hg : gord.Perm (dbuild Q).graphNames)
    (hs : ∀ g ∈ gord, (sord g).Perm ((dbuild Q).builder g).subjects)
    (hac : opts.inline = true → ∀ g, Acyclic1 (graphTriples Q g))
    (hsh : NoSharedAnonymized Q opts) (n : Nat) :
    ∃ rs, (dbuild Q).exportResources opts gord sord (Q.length + 1) = some rs ∧
      Spec.IsoQ (newQuadsList rs n).1 Q := by
  apply dataset_iso Q opts gord
    (fun g => ((dbuild Q).builder g).exportResources opts (sord g) (Q.length + 1)) hg _ hsh n
  intro g hgm
  have hsg := hs g hgm
  rw [builder_dbuild] at hsg ⊢
  exact graph_strong (graphTriples Q g) opts (sord g) hsg (fun hi => hac hi g) (Q.length + 1)
    (by have := graphTriples_length_le Q g; omega)

end RdfModel.Proofs.C17
