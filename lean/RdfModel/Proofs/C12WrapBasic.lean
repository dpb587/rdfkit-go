import RdfModel.Props.C12WrapDefs
namespace RdfModel.C12W
open RdfModel.GoUrlFull RdfModel.PIRI

theorem cut_append_sep (sep : Nat) : ∀ (a b : Str), sep ∉ a → cut sep (a ++ sep :: b) = (a, some b)
  | [], b, _ => by simp [cut]
  | c :: a, b, h => by
    rw [List.mem_cons, not_or] at h
    simp [cut, Ne.symm h.1, cut_append_sep sep a b h.2]

theorem cut_none (sep : Nat) : ∀ (a : Str), sep ∉ a → cut sep a = (a, none)
  | [], _ => by simp [cut]
  | c :: a, h => by
    rw [List.mem_cons, not_or] at h
    simp [cut, Ne.symm h.1, cut_none sep a h.2]

theorem lastIndexOf_none (sep : Nat) : ∀ (a : Str), sep ∉ a → lastIndexOf sep a = none
  | [], _ => by simp [lastIndexOf]
  | c :: a, h => by
    rw [List.mem_cons, not_or] at h
    simp [lastIndexOf, Ne.symm h.1, lastIndexOf_none sep a h.2]

theorem escape_id (mode : Mode) : ∀ (s : Str), s.all (fun c => !shouldEscape c mode) = true → escape mode s = s
  | [], _ => by simp [escape]
  | c :: s, h => by
    simp only [List.all_cons, Bool.and_eq_true, Bool.not_eq_true'] at h
    simp [escape, h.1, escape_id mode s h.2]

theorem replaceFirst_same : ∀ (s x : Str), RdfModel.IRI.replaceFirst s x x = s
  | [], x => by
    unfold RdfModel.IRI.replaceFirst
    split
    · rename_i h
      have : x = [] := by cases x <;> simp_all
      simp [this]
    · rfl
  | c :: s, x => by
    unfold RdfModel.IRI.replaceFirst
    split
    · rename_i h
      have := List.isPrefixOf_iff_prefix.mp h
      obtain ⟨t, ht⟩ := this
      rw [← ht]; simp
    · simp [replaceFirst_same s x]

theorem urlNoFrag_frag (P : Spec.RFC3986.Parts) : (urlNoFrag P).fragment = [] ∧ (urlNoFrag P).rawFragment = [] := by
  unfold urlNoFrag
  split
  · exact ⟨rfl, rfl⟩
  · dsimp only
    split
    · exact ⟨rfl, rfl⟩
    · split <;> exact ⟨rfl, rfl⟩

theorem unescOk_elim {mode : Mode} {s : Str} (h : unescOk mode s = true) : ∃ r, unescape mode s = .ok r := by
  unfold unescOk at h
  split at h
  · rename_i r hr; exact ⟨r, hr⟩
  · cases h

theorem unescapesTo_self {mode : Mode} {s r : Str} (h : unescape mode s = .ok r) : unescapesTo mode s r = true := by
  simp [unescapesTo, h]

/-- `setPath` on a validly encoded path: `EscapedPath` gives the path back, whether or not `RawPath` is set -/
theorem setPath_spec (u : URL) (p path : Str) (hu : unescape .path p = .ok path)
    (hv : validEncoded .path p = true) (hstar : p ≠ pctStar) :
    setPath u p = .ok { u with path := path, rawPath := if escape .path path = p then [] else p } ∧
    ({ u with path := path, rawPath := if escape .path path = p then [] else p } : URL).escapedPath = p := by
  refine ⟨by simp [setPath, hu], ?_⟩
  unfold URL.escapedPath
  by_cases he : escape .path path = p
  · simp only [he, if_true]
    have hne : path ≠ [0x2a] := by
      intro h
      apply hstar
      rw [← he, h]; decide
    simp [hne]
  · have hp : p ≠ [] := by
      intro h
      subst h
      simp [unescape] at hu
      subst hu
      exact he (by simp [escape])
    have hp' : p.isEmpty = false := by cases p <;> simp_all
    simp [he, hp', hv, unescapesTo_self hu]

theorem setFragment_spec (u : URL) (f frag : Str) (hu : unescape .fragment f = .ok frag)
    (hv : validEncoded .fragment f = true) :
    setFragment u f = .ok { u with fragment := frag, rawFragment := if escape .fragment frag = f then [] else f } ∧
    ({ u with fragment := frag, rawFragment := if escape .fragment frag = f then [] else f } : URL).escapedFragment = f := by
  refine ⟨by simp [setFragment, hu], ?_⟩
  unfold URL.escapedFragment
  by_cases he : escape .fragment frag = f
  · simp [he]
  · have hp : f ≠ [] := by
      intro h
      subst h
      simp [unescape] at hu
      subst hu
      exact he (by simp [escape])
    have hp' : f.isEmpty = false := by cases f <;> simp_all
    simp [he, hp', hv, unescapesTo_self hu]

theorem unescape_error {mode : Mode} {s : Str} {e : PErr} (h : unescape mode s = .error e) :
    e = .escape ∨ e = .hostchar := by
  fun_induction unescape mode s <;> simp_all

theorem unescape_ne_nil {mode : Mode} {s r : Str} (h : unescape mode s = .ok r) (hs : s ≠ []) : r ≠ [] := by
  fun_induction unescape mode s generalizing r <;> simp_all <;> (rintro rfl; simp_all)

theorem unescape_host_id : ∀ (a : Str), a.all hostByteOk = true → unescape .host a = .ok a
  | [], _ => by simp [unescape]
  | c :: a, h => by
    simp only [List.all_cons, Bool.and_eq_true] at h
    have hc := h.1
    unfold hostByteOk at hc
    simp only [Bool.and_eq_true, decide_eq_true_eq, Bool.not_eq_true', bne_iff_ne, ne_eq] at hc
    have h25 : c ≠ 0x25 := by
      intro e; subst e
      have : shouldEscape 0x25 .host = true := by decide
      simp [this] at hc
    unfold unescape
    simp [h25, hc.1.1, hc.1.2, unescape_host_id a h.2]

theorem escape_host_id (a : Str) (h : a.all hostByteOk = true) : escape .host a = a := by
  apply escape_id
  apply List.all_eq_true.mpr
  intro c hc
  have := List.all_eq_true.mp h c hc
  unfold hostByteOk at this
  simp only [Bool.and_eq_true, decide_eq_true_eq, Bool.not_eq_true', bne_iff_ne, ne_eq] at this
  simp [this.1.2]

/-- `strings.Replace(pre + old + suf, old, new, 1)` when the first byte of `old` does not occur in `pre` -/
theorem replaceFirst_at (c : Nat) (o new suf : Str) : ∀ (pre : Str), c ∉ pre →
    RdfModel.IRI.replaceFirst (pre ++ (c :: o) ++ suf) (c :: o) new = pre ++ new ++ suf
  | [], _ => by
    unfold RdfModel.IRI.replaceFirst
    have : (c :: o).isPrefixOf ([] ++ (c :: o) ++ suf) = true := by
      apply List.isPrefixOf_iff_prefix.mpr
      exact ⟨suf, by simp⟩
    rw [if_pos this]
    simp
  | x :: pre, h => by
    have hx : x ≠ c := fun e => h (by simp [e])
    have hp : c ∉ pre := fun m => h (by simp [m])
    have hnp : (c :: o).isPrefixOf (x :: pre ++ (c :: o) ++ suf) = false := by
      simp [List.isPrefixOf, Ne.symm hx]
    have ih := replaceFirst_at c o new suf pre hp
    unfold RdfModel.IRI.replaceFirst
    rw [if_neg (by rw [hnp]; simp)]
    simp only [List.cons_append]
    rw [ih]

theorem rpBody_head (elem dst : Str) (first : Bool) (h : dst.head? = some 0x2f) :
    (RdfModel.IRI.rpBody elem dst first).1.head? = some 0x2f := by
  unfold RdfModel.IRI.rpBody
  split
  · exact h
  · split
    · dsimp only
      split <;> simp
    · cases dst with
      | nil => simp at h
      | cons c t => cases first <;> simpa using h

theorem rpLoop_head : ∀ (fuel : Nat) (rem dst : Str) (first : Bool), dst.head? = some 0x2f →
    (RdfModel.IRI.rpLoop fuel rem dst first).1.head? = some 0x2f
  | 0, _, _, _, h => by simpa [RdfModel.IRI.rpLoop] using h
  | fuel + 1, rem, dst, first, h => by
    unfold RdfModel.IRI.rpLoop
    have hb := rpBody_head (RdfModel.IRI.cutSlash rem).1 dst first h
    dsimp only
    split
    · exact rpLoop_head fuel _ _ _ hb
    · exact hb

theorem rpFinish_head (r : Str × Str) (h : r.1.head? = some 0x2f) : (RdfModel.IRI.rpFinish r).head? = some 0x2f := by
  unfold RdfModel.IRI.rpFinish
  dsimp only
  have key : (if r.2 = [0x2e] ∨ r.2 = [0x2e, 0x2e] then r.1 ++ [0x2f] else r.1).head? = some 0x2f := by
    split
    · cases hr : r.1 with
      | nil => rw [hr] at h; simp at h
      | cons c t => rw [hr] at h; simpa using h
    · exact h
  split
  · rename_i heq
    rw [heq]; simp
  · exact key

theorem resolvePath_head_of_ne {base ref : Str} (h : RdfModel.IRI.fullPath base ref ≠ []) :
    (RdfModel.IRI.resolvePath base ref).head? = some 0x2f := by
  unfold RdfModel.IRI.resolvePath
  dsimp only
  rw [if_neg h]
  exact rpFinish_head _ (rpLoop_head _ _ _ _ rfl)

theorem resolvePath_head (base ref : Str) :
    RdfModel.IRI.resolvePath base ref = [] ∨ (RdfModel.IRI.resolvePath base ref).head? = some 0x2f := by
  by_cases h : RdfModel.IRI.fullPath base ref = []
  · exact .inl (by simp [RdfModel.IRI.resolvePath, h])
  · exact .inr (resolvePath_head_of_ne h)

end RdfModel.C12W
