import RdfModel.Proofs.C08MachTok
import RdfModel.Proofs.C08DocTok
import RdfModel.Proofs.C02DocIRI
import RdfModel.Proofs.C08Assemble
namespace RdfModel.Proofs.C02Doc
open RdfModel RdfModel.Ttl RdfModel.TtlEnc RdfModel.C02 RdfModel.TtlDoc
open RdfModel.C08 (Vis SkEq PNText TermTok)

variable {C : Cfg} {T : Tables} {e : NQ.End}

theorem ws_nil : WS [] := by intro c hc; cases hc

theorem ws_sp : WS [sp] ∧ [sp] ≠ [] := by
  refine ⟨?_, by simp⟩
  intro c hc
  simp only [List.mem_singleton] at hc
  exact Or.inl hc

theorem ws_tabs (n : Nat) : WS (tabs n) := by
  intro c hc
  simp only [tabs, List.mem_replicate] at hc
  exact Or.inr (Or.inl hc.2)

theorem ws_nls (k : Nat) : WS (List.replicate k 0x0a) := by
  intro c hc
  exact Or.inr (Or.inr (List.mem_replicate.1 hc).2)

theorem ws_lead (m : Bool) (ind : Nat) : WS (lead m ind) ∧ lead m ind ≠ [] := by
  unfold lead
  cases m
  · exact ws_sp
  · refine ⟨?_, by simp⟩
    intro c hc
    simp only [↓reduceIte, List.mem_cons] at hc
    rcases hc with rfl | h
    · exact Or.inr (Or.inr rfl)
    · exact ws_tabs ind c h

theorem skipWs_wsText {ws : List Nat} (hws : WS ws) (r : List Nat) : skipWs C e false (ws ++ r) = skipWs C e false r := by
  induction ws with
  | nil => rfl
  | cons w ws ih =>
    rw [List.cons_append, C08.skipWs_ws (by rcases hws w List.mem_cons_self with rfl | rfl | rfl <;> decide)]
    exact ih fun c hc => hws c (List.mem_cons_of_mem _ hc)

theorem skEq_ws {ws : List Nat} (hws : WS ws) (r : List Nat) : SkEq C (ws ++ r) r := skipWs_wsText hws r

theorem scanFn_tabs {f : Frame} {inp : List Nat} {env : Env} : ∀ k : Nat,
    scanFn C e f (tabs k ++ inp) env = scanFn C e f inp env :=
  fun k => by unfold scanFn; rw [skipWs_wsText (ws_tabs k)]

theorem run_step {k : Cont} {x : Ectx} {K : List Frame} {env : Env} {ws : List Nat} {c : Nat} {r : List Nat} (o : Out)
    (hws : WS ws) (hv : Vis C c) (h : stepFn C .eof k x env (.rune c r) = .ok o) :
    Steps C .eof ⟨⟨x, k⟩ :: K, ws ++ c :: r, env⟩ o.emit.toList
      ⟨o.cur.toList ++ (if o.term then [] else o.push.reverse ++ K), o.inp, o.env⟩ := by
  simpa using C08.Steps.tok (s := K) (skEq_ws hws _) rfl hv h (Steps.refl _)

theorem vis_ascii (hC : CfgOK C T) {c : Nat} (h : 0x21 ≤ c ∧ c ≤ 0x7e ∧ c ≠ 0x23) : Vis C c := by
  refine ⟨h.2.2, ?_⟩
  simp only [isWs, hC.vis c h.1 h.2.1, Bool.or_false, Bool.or_eq_false_iff, decide_eq_false_iff_not]
  omega

/-- a PN_CHARS_BASE rune is an ASCII letter or lies beyond them: none of the runes the scan functions dispatch on -/
theorem base_range (hT : DocTablesOK T) {c : Nat} (hb : inRanges T.pnCharsBase c = true) :
    (0x41 ≤ c ∧ c ≤ 0x5a) ∨ 0x61 ≤ c := by
  by_cases h : c < 0x80
  · have := hT.base_ascii c h hb
    simp [isAlpha, NQ.isAlpha] at this
    omega
  · omega

theorem run_statement_end (hC : CfgOK C T) (x2 x1 x0 : Ectx) (K : List Frame) (rest : List Nat) (env : Env) :
    Steps C .eof ⟨⟨x2, .objListContinue⟩ :: ⟨x1, .polContinue⟩ :: ⟨x0, .triplesEnd⟩ :: K, 0x20 :: 0x2e :: rest, env⟩ []
      ⟨K, rest, env⟩ := by
  have hv : Vis C 0x2e := vis_ascii hC (by decide)
  have r1 := run_step (k := .objListContinue) (x := x2) (K := ⟨x1, .polContinue⟩ :: ⟨x0, .triplesEnd⟩ :: K)
    (env := env) (r := rest) { inp := 0x2e :: rest, env := env } ws_sp.1 hv rfl
  have r2 := run_step (k := .polContinue) (x := x1) (K := ⟨x0, .triplesEnd⟩ :: K) (env := env) (r := rest)
    { inp := 0x2e :: rest, env := env } ws_nil hv rfl
  have r3 := run_step (k := .triplesEnd) (x := x0) (K := K) (env := env) (r := rest)
    { inp := rest, env := env } ws_nil hv rfl
  exact (r1.trans r2).trans r3

theorem run_eof (x : Ectx) (K : List Frame) (k : Nat) (env : Env) :
    Steps C .eof ⟨⟨x, .statement⟩ :: K, List.replicate k 0x0a, env⟩ [] ⟨[], [], env⟩ :=
  Steps.quiet (C08.stepConf_end x K _ env (by simpa [skipWs] using skipWs_wsText (C := C) (e := .eof) (ws_nls k) [])) (Steps.refl _)

theorem asc_true_cons : asc "true" = 0x74 :: asc "rue" := by rw [C02Tok.asc_true, C02Tok.asc_rue]
theorem asc_false_cons : asc "false" = 0x66 :: asc "alse" := by rw [C02Tok.asc_false, C02Tok.asc_alse]

/-- label characters: the first is PN_CHARS_BASE, the others PN_CHARS or '.', none is ':' -/
theorem prefixOK_cons {c : Nat} {l : List Nat} (h : prefixOK T (c :: l) = true) :
    inRanges T.pnCharsBase c = true ∧ ∀ y ∈ l, (inRanges T.pnChars y = true ∨ y = 0x2e) ∧ y ≠ 0x3a := by
  simp only [prefixOK, Bool.and_eq_true, List.all_eq_true, Bool.or_eq_true, decide_eq_true_eq, bne_iff_ne, ne_eq] at h
  exact ⟨h.1.1, fun y hy => h.2 y hy⟩

theorem label_tail_ne_lt (hT : DocTablesOK T) {c : Nat} {l : List Nat} (h : prefixOK T (c :: l) = true) :
    ∀ y ∈ l, y ≠ 0x3c := by
  intro y hy h1
  subst h1
  rcases ((prefixOK_cons h).2 _ hy).1 with h2 | h2
  · rw [hT.pn_lt] at h2; cases h2
  · cases h2

/-- A prefixed name as the scan functions see it — whatever its label looks like (`base:`, `PREFIX9:`,
    `a1:` …): the label's head is a letter or beyond ASCII (`base_ascii`), its runes are not white space
    for the decoder (`labelSafe`) and none is `<` (`pn_lt`). -/
theorem pnText_of_labelSafe (hT : DocTablesOK T) (hC : CfgOK C T) {p : List Nat} (hp : labelSafe C.isSpace T p = true)
    (more : List Nat) {c0 : Nat} {r0 : List Nat} (h0 : p ++ 0x3a :: more = c0 :: r0) : PNText C c0 r0 := by
  obtain ⟨hpo, _, hsp, _, _⟩ := labelSafe_parts hp
  have hcol := hC.vis 0x3a (by decide) (by decide)
  cases p with
  | nil =>
    simp only [List.nil_append, List.cons.injEq] at h0
    obtain ⟨rfl, rfl⟩ := h0
    exact ⟨vis_ascii hC (by decide), hcol, Or.inl rfl, fun d hd hne => fun h => hne h.symm, by decide, fun h => absurd rfl h⟩
  | cons c l =>
    simp only [List.cons_append, List.cons.injEq] at h0
    obtain ⟨rfl, rfl⟩ := h0
    have hb := (prefixOK_cons hpo).1
    have hr := base_range hT hb
    have hs := hsp c List.mem_cons_self
    refine ⟨⟨by omega, by simp only [isWs, hs, Bool.or_false, Bool.or_eq_false_iff, decide_eq_false_iff_not]; omega⟩,
      hcol, Or.inr (by rw [hC.pnBase]; exact hb), ?_, by omega,
      fun _ => ⟨l, more, rfl, fun y hy => ⟨hsp y (List.mem_cons_of_mem _ hy), label_tail_ne_lt hT hpo y hy⟩⟩⟩
    intro d hd hne
    have : d < 0x41 ∨ (0x5a < d ∧ d < 0x61) ∨ 0x7a < d ∧ d < 0x80 := by
      revert hne; revert d; decide
    intro hcd; subst hcd
    have := hT.base_ascii c (by omega) hb
    simp [isAlpha, NQ.isAlpha] at this
    omega

/-- a prefixed name under a label of the table is not taken for `true` / `false` (`labelSafe` excludes such labels) -/
theorem boolean_label (hC : CfgOK C T) {p : List Nat} (hp : labelSafe C.isSpace T p = true) (more : List Nat)
    {c0 : Nat} {r0 : List Nat} (h0 : p ++ 0x3a :: more = c0 :: r0) : C.P.boolean .eof (c0 :: r0) = .other := by
  obtain ⟨_, _, _, ht, hf⟩ := labelSafe_parts hp
  rw [hC.prod]
  exact C08.scanBoolean_other (by simp [C08.boolPrefixed, ht, hf]) more c0 r0 h0

/-- decoder-side image of an input term: blank node `b` becomes the labelled node `label b` -/
def dterm {β : Type} (label : β → List Nat) (t : Term β) : TtlDoc.T := t.map (fun b => BN.lbl (label b))

structure Setup {β : Type} (C : Cfg) (T : Tables) (c : Ctx β) (base : Option (List Nat)) : Prop where
  hT : DocTablesOK T
  hC : CfgOK C T
  cT : c.T = T
  cb : c.base = base.map Prefix.newBaseIRI
  baseOK : ∀ b, base = some b → baseOK b
  labels : ∀ m ∈ c.pm.ordered, labelSafe C.isSpace T m.pfx = true
  lbl : LabelOK T c.label

theorem Setup.writeIRI_isOk {β : Type} {c : Ctx β} {base : Option (List Nat)} (S : Setup C T c base) (v : List Nat)
    (hv : iriTermOK c base v) : ∃ t, writeIRI c v = .ok t :=
  Proofs.C02Doc.writeIRI_isOk S.hT S.hC S.cT S.cb S.baseOK v hv

/-- the denotation's state agrees with the encoder's configuration: same base, every mapping of the
    manager that the document declares (`D`) is what the state's namespace list answers -/
structure StOK (base : Option (List Nat)) (pm : Prefix.PM) (D : List Nat → Prop) (st : TA.DState) : Prop where
  base : st.base = base
  pfx : ∀ m ∈ pm.ordered, D m.pfx → TA.lookupNs m.pfx st.ns = some m.expanded

theorem StOK.next {base : Option (List Nat)} {pm : Prefix.PM} {D : List Nat → Prop} {st : TA.DState}
    (h : StOK base pm D st) (n : Nat) : StOK base pm D { st with next := n } := ⟨h.base, h.pfx⟩

theorem envOK_of_stOK {base : Option (List Nat)} {pm : Prefix.PM} {D : List Nat → Prop} {st : TA.DState}
    (h : StOK base pm D st) : EnvOK (C08.envOf st) base pm D :=
  ⟨h.base, fun m hm hD => by rw [C08.lookupNs_eq]; exact h.pfx m hm hD⟩

/-- frames on the stack once the subject of a statement at document level is read -/
def subjFrames (x : Ectx) (s : TtlDoc.T) (K : List Frame) : List Frame :=
  ⟨{ x with subj := some s }, .polRequired⟩ :: ⟨{ x with subj := some s }, .polContinue⟩ :: ⟨x, .triplesEnd⟩ ::
    ⟨x, .statement⟩ :: K

def predFrames (x : Ectx) (p : TtlDoc.T) (K : List Frame) : List Frame :=
  ⟨{ x with pred := some p }, .object⟩ :: ⟨{ x with pred := some p }, .objListContinue⟩ :: K

theorem termTok_bnode (hT : DocTablesOK T) (hC : CfgOK C T) (env : Env) (l rest : List Nat) (hs : Scalars l)
    (hl : labelOK T l = true) (hstop : LabelStop T .eof rest) :
    TermTok C env (.bnode (.lbl l)) rest 0x5f (0x3a :: (l ++ rest)) := by
  refine .bn (vis_ascii hC (by decide)) ?_
  have hne : l ≠ [] := by intro h; subst h; simp [labelOK] at hl
  have := C02.bnode_roundtrip T hT.tok .eof l rest hs hl hstop
  unfold termBNode
  rw [hC.prod]
  simp only [Producers.real]
  rw [show (0x5f :: 0x3a :: (l ++ rest)) = (0x5f :: 0x3a :: l ++ rest) by simp, this]
  simp [Env.labelled, hne]

theorem run_subject_tok (hC : CfgOK C T) {x : Ectx} {K : List Frame} (k : Nat) {env : Env} {t : TtlDoc.T} {A : List Nat}
    {c : Nat} {tl : List Nat} (h : TermTok C env t A c tl) :
    Steps C .eof ⟨⟨x, .statement⟩ :: K, List.replicate k 0x0a ++ c :: tl, env⟩ [] ⟨subjFrames x t K, A, env⟩ :=
  C08.subj_run h (skEq_ws (ws_nls k) _) (C08.fn_statement_ttl_tok hC.trig h)

/-- the two scan functions that read a verb: `reader_scan_PredicateObjectList` and its `_Required` variant -/
def IsPol (k : Cont) : Prop := k = .pol ∨ k = .polRequired

theorem stepFn_pol {k : Cont} (hk : IsPol k) (x : Ectx) (env : Env) (c : Nat) (rest : List Nat) (o : Out)
    (h : stepPOL C .eof x env c rest = .ok o) (hcur : o.cur.isSome = true) :
    stepFn C .eof k x env (.rune c rest) = .ok o := by
  rcases hk with rfl | rfl
  · simp [stepFn, h]
  · have : o.cur.isNone = false := by cases ho : o.cur <;> simp_all
    simp [stepFn, h, this]

theorem run_pol {k : Cont} (hk : IsPol k) {x : Ectx} {K : List Frame} {env : Env} {ws : List Nat} {c : Nat}
    {r rest : List Nat} (t : TtlDoc.T) (hws : WS ws) (hv : Vis C c)
    (h : stepPOL C .eof x env c r = polGo x t rest env) :
    Steps C .eof ⟨⟨x, k⟩ :: K, ws ++ c :: r, env⟩ [] ⟨predFrames x t K, rest, env⟩ :=
  run_step _ hws hv (stepFn_pol hk x env c r _ h rfl)

theorem run_pol_tok {k : Cont} (hk : IsPol k) {x : Ectx} {K : List Frame} {env : Env} {ws : List Nat}
    (hws : WS ws) {t : TtlDoc.T} {A : List Nat} {c : Nat} {tl : List Nat} (h : TermTok C env t A c tl) (hbn : c ≠ 0x5f) :
    Steps C .eof ⟨⟨x, k⟩ :: K, ws ++ c :: tl, env⟩ [] ⟨predFrames x t K, A, env⟩ :=
  run_pol hk _ hws h.vis (C08.stepPOL_tok h hbn)

theorem run_pol_a (hC : CfgOK C T) {k : Cont} (hk : IsPol k) (x : Ectx) (K : List Frame) (env : Env)
    (ws : List Nat) (hws : WS ws) (r1 : Nat) (hr1 : r1 = 0x20 ∨ r1 = 0x0a) (rest : List Nat) :
    Steps C .eof ⟨⟨x, k⟩ :: K, ws ++ 0x61 :: r1 :: rest, env⟩ [] ⟨predFrames x (.iri TtlDoc.rdfType) K, rest, env⟩ :=
  run_pol hk _ hws (vis_ascii hC (by decide))
    (C08.stepPOL_a x env r1 rest (by rcases hr1 with rfl | rfl; exact hC.sp; exact hC.nlsp))

theorem run_obj {x : Ectx} {K : List Frame} {env : Env} {ws : List Nat} {c : Nat} {r rest : List Nat} (t : TtlDoc.T)
    (hws : WS ws) (hv : Vis C c)
    (h : stepFn C .eof .object x env (.rune c r) = .ok { emit := some (mkStmt x t), inp := rest, env := env }) :
    Steps C .eof ⟨⟨x, .object⟩ :: K, ws ++ c :: r, env⟩ [mkStmt x t] ⟨K, rest, env⟩ :=
  run_step _ hws hv h

theorem run_obj_tok {x : Ectx} {K : List Frame} {env : Env} {ws : List Nat}
    (hws : WS ws) {t : TtlDoc.T} {A : List Nat} {c : Nat} {tl : List Nat} (h : TermTok C env t A c tl)
    (hsb : c = 0x74 ∨ c = 0x66 → C.P.boolean .eof (c :: tl) = .other) :
    Steps C .eof ⟨⟨x, .object⟩ :: K, ws ++ c :: tl, env⟩ [mkStmt x t] ⟨K, A, env⟩ :=
  C08.obj_run h hsb (skEq_ws hws _)

theorem formatLit_cons (lex rest : List Nat) :
    formatLiteralLexicalForm T false lex ++ rest = 0x22 :: (litBody T false lex ++ 0x22 :: rest) := by
  simp [formatLiteralLexicalForm]

theorem string_tok (hT : DocTablesOK T) (hC : CfgOK C T) (lex rest : List Nat) (hs : Scalars lex)
    (hstop : lex = [] → EmptyStrStop .eof rest) :
    C.P.string .eof (0x22 :: (litBody T false lex ++ 0x22 :: rest)) = .ok lex rest := by
  rw [hC.prod]
  simp only [Producers.real]
  rw [← formatLit_cons]
  exact C02.string_roundtrip T hT.tok .eof false lex hs rest hstop

theorem run_obj_quoted (hT : DocTablesOK T) (hC : CfgOK C T) {x : Ectx} {K : List Frame} {env : Env}
    {ws lex A rest : List Nat} (t : TtlDoc.T) (hws : WS ws) (hs : Scalars lex) (hstop : lex = [] → EmptyStrStop .eof A)
    (h : stepLiteralTail C .eof x env lex A = .ok { emit := some (mkStmt x t), inp := rest, env := env }) :
    Steps C .eof ⟨⟨x, .object⟩ :: K, ws ++ (formatLiteralLexicalForm T false lex ++ A), env⟩ [mkStmt x t]
      ⟨K, rest, env⟩ := by
  rw [formatLit_cons]
  exact run_obj _ hws (vis_ascii hC (by decide))
    ((C08.fn_object_string x env lex A _ _ (Or.inl rfl) (string_tok hT hC lex A hs hstop)).trans h)

theorem run_obj_string (hT : DocTablesOK T) (hC : CfgOK C T) (x : Ectx) (K : List Frame) (env : Env)
    (ws lex : List Nat) (c : Nat) (r0 : List Nat) (hws : WS ws) (hs : Scalars lex)
    (hc1 : c ≠ 0x40) (hc2 : c ≠ 0x5e) (hc3 : c ≠ 0x22) :
    Steps C .eof ⟨⟨x, .object⟩ :: K, ws ++ (formatLiteralLexicalForm T false lex ++ c :: r0), env⟩
      [mkStmt x (.lit lex xsdString none)] ⟨K, c :: r0, env⟩ :=
  run_obj_quoted hT hC _ hws hs (fun _ => by simp [EmptyStrStop, hc3]) (C08.literalTail_plain x env lex c r0 hc1 hc2)

theorem run_obj_lang (hT : DocTablesOK T) (hC : CfgOK C T) (x : Ectx) (K : List Frame) (env : Env)
    (ws lex tag rest : List Nat) (hws : WS ws) (hs : Scalars lex) (ht : langOK tag = true) (hstop : LangStop .eof rest) :
    Steps C .eof ⟨⟨x, .object⟩ :: K, ws ++ (formatLiteralLexicalForm T false lex ++ 0x40 :: (tag ++ rest)), env⟩
      [mkStmt x (.lit lex rdfLangString (some tag))] ⟨K, rest, env⟩ := by
  have hlang : C.P.langtag .eof (0x40 :: (tag ++ rest)) = .ok tag rest := by
    rw [hC.prod]
    simpa [Producers.real] using C02.langtag_roundtrip .eof tag rest ht hstop
  exact run_obj_quoted hT hC _ hws hs (fun _ => by simp [EmptyStrStop]) (C08.literalTail_lang x env lex tag rest hlang)

theorem run_obj_typed (hT : DocTablesOK T) (hC : CfgOK C T) (x : Ectx) (K : List Frame) (env : Env)
    (ws lex dt rest : List Nat) (hws : WS ws) (hs : Scalars lex)
    (hdt : ¬(dt = rdfLangString ∨ dt = rdfDirLangString)) {c2 : Nat} {r2 : List Nat}
    (h : TermTok C env (.iri dt) rest c2 r2) (hbn : c2 ≠ 0x5f) :
    Steps C .eof ⟨⟨x, .object⟩ :: K, ws ++ (formatLiteralLexicalForm T false lex ++ 0x5e :: 0x5e :: c2 :: r2), env⟩
      [mkStmt x (.lit lex dt none)] ⟨K, rest, env⟩ :=
  run_obj_quoted hT hC _ hws hs (fun _ => by simp [EmptyStrStop])
    (C08.literalTail_typed x env lex c2 r2 dt rest (h.iri hbn) hdt)

theorem run_obj_numeric (hC : CfgOK C T) (x : Ectx) (K : List Frame) (env : Env) (ws lex dt rest : List Nat)
    (hws : WS ws) (h : literalShorthand dt lex = true) (hdt : dt ≠ xsdBoolean) (hstop : NumStop .eof rest) :
    Steps C .eof ⟨⟨x, .object⟩ :: K, ws ++ (lex ++ rest), env⟩ [mkStmt x (.lit lex dt none)] ⟨K, rest, env⟩ := by
  have hb : bareLiteralDatatype lex = some dt := by simpa [literalShorthand] using h
  obtain ⟨k, hk, hnum⟩ := C08.decode_print_numeric .eof lex dt rest hb hdt hstop
  obtain ⟨c, lt, rfl, hc⟩ := C08.num_head lex dt hb hdt
  have hv : Vis C c := vis_ascii hC (by
    rcases hc with (rfl | rfl | hd) | ⟨rfl, _⟩
    · decide
    · decide
    · simp [isDigit, NQ.isDigit] at hd; omega
    · decide)
  exact run_obj _ hws hv (C08.fn_object_num x env _ dt rest k c (lt ++ rest) rfl hb hdt hk (by rw [hC.prod]; exact hnum))

theorem run_obj_bool (hC : CfgOK C T) (x : Ectx) (K : List Frame) (env : Env) (ws lex rest : List Nat)
    (hws : WS ws) (h : literalShorthand xsdBoolean lex = true) :
    Steps C .eof ⟨⟨x, .object⟩ :: K, ws ++ (lex ++ rest), env⟩ [mkStmt x (.lit lex xsdBoolean none)] ⟨K, rest, env⟩ := by
  have hb : bareLiteralDatatype lex = some xsdBoolean := by simpa [literalShorthand] using h
  rcases Proofs.C02Tok.boolean_shorthand .eof lex rest hb with ⟨rfl, hs⟩ | ⟨rfl, hs⟩
  · rw [asc_true_cons, List.cons_append] at hs
    conv => enter [3, 2]; rw [asc_true_cons, List.cons_append]
    exact run_obj _ hws (vis_ascii hC (by decide))
      (C08.fn_object_bool x env true rest _ _ (Or.inl rfl) (by rw [hC.prod]; exact hs))
  · rw [asc_false_cons, List.cons_append] at hs
    conv => enter [3, 2]; rw [asc_false_cons, List.cons_append]
    exact run_obj _ hws (vis_ascii hC (by decide))
      (C08.fn_object_bool x env false rest _ _ (Or.inr rfl) (by rw [hC.prod]; exact hs))

theorem run_comma (hC : CfgOK C T) (x : Ectx) (K : List Frame) (env : Env) (rest : List Nat) :
    Steps C .eof ⟨⟨x, .objListContinue⟩ :: K, 0x20 :: 0x2c :: rest, env⟩ []
      ⟨⟨x, .object⟩ :: ⟨x, .objListContinue⟩ :: K, rest, env⟩ :=
  run_step (ws := [sp]) { cur := some ⟨x, .object⟩, push := [⟨x, .objListContinue⟩], inp := rest, env := env }
    ws_sp.1 (vis_ascii hC (by decide)) rfl

theorem run_semicolon (hC : CfgOK C T) (x2 x1 : Ectx) (K : List Frame) (env : Env) (rest : List Nat) :
    Steps C .eof ⟨⟨x2, .objListContinue⟩ :: ⟨x1, .polContinue⟩ :: K, 0x20 :: 0x3b :: rest, env⟩ []
      ⟨⟨x1, .pol⟩ :: ⟨x1, .polContinue⟩ :: K, rest, env⟩ := by
  have hv : Vis C 0x3b := vis_ascii hC (by decide)
  have r1 := run_step (k := .objListContinue) (x := x2) (K := ⟨x1, .polContinue⟩ :: K) (env := env) (r := rest)
    { inp := 0x3b :: rest, env := env } ws_sp.1 hv rfl
  exact r1.trans (run_step (ws := []) { cur := some ⟨x1, .pol⟩, push := [⟨x1, .polContinue⟩], inp := rest, env := env }
    ws_nil hv rfl)

end RdfModel.Proofs.C02Doc
