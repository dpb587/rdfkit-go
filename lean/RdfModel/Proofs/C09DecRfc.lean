import RdfModel.Model.RdfXmlDecoder
import RdfModel.Proofs.C12Split
namespace RdfModel.RXD
open RdfModel RdfModel.RX RdfModel.Spec.RFC3986

theorem dropFragment_noHash (s : List Nat) (h : ∀ c ∈ s, c ≠ (0x23 : Nat)) : dropFragment s = s := by
  induction s with
  | nil => rfl
  | cons a s ih =>
    have ha : a ≠ (0x23 : Nat) := h a (by simp)
    have ih' := ih (fun c hc => h c (by simp [hc]))
    simp only [dropFragment] at ih' ⊢
    rw [List.takeWhile_cons]
    have : decide (a ≠ RX.cHash) = true := by simpa using ha
    rw [this, if_pos rfl, ih']

theorem resolve_nil_noHash (b : List Nat) : ∀ c ∈ resolve b [], c ≠ (0x23 : Nat) := by
  have h0 : split [] = { scheme := none, authority := none, path := [], query := none, fragment := none } := by rfl
  simp only [resolve, h0, resolveParts, Option.isSome_none, Bool.false_eq_true, if_false, if_true, recompose, fragmentPart,
    List.append_nil]
  intro c hc e
  subst e
  exact (Proofs.C12.wf_split b).noHash hc

end RdfModel.RXD
