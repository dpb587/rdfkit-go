import RdfModel.Proofs.Asc
import RdfModel.Proofs.AscAttr
import RdfModel.Model.Description

namespace RdfModel

@[asc_consts] theorem asc_eq_asc {s t : String} : (asc s = asc t) = (s = t) := propext asc_inj
@[asc_consts] theorem asc_eq_nil {s : String} : (asc s = []) = (s = "") := propext (asc_inj (t := ""))
@[asc_consts] theorem nil_eq_asc {s : String} : ([] = asc s) = ("" = s) := propext (asc_inj (s := ""))

attribute [asc_consts] xsdString rdfLangString rdfDirLangString Desc.rdfFirst Desc.rdfRest Desc.rdfNil

end RdfModel
