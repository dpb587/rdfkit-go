import RdfModel.Proofs.C09Round
import RdfModel.Props.C09Defs
import RdfModel.Spec.GraphIso
namespace RdfModel.RX
open RdfModel RdfModel.Desc RdfModel.C09

variable (rs : Str → Str → Str)

theorem nodeList_render : ∀ (ns : List PNode) (env : Env) (st st' : St), wfNodes rs env st ns = some st' →
    nodeList rs env (renderNodes ns) st = .ok (flatNodes ns, st')
  | [], env, st, st', h => by
    simp only [wfNodes, Option.some.injEq] at h
    simp [renderNodes, nodeList, flatNodes, h]
  | n :: ns, env, st, st', h => by
    obtain ⟨st1, hn, h⟩ := wfNodes_cons_inv h
    have h1 := nodeElt_render rs n env st st1 hn
    have h2 := nodeList_render ns env st1 st' h
    cases n
    simp only [renderNode] at h1
    simp only [renderNodes, renderNode, nodeList, h1, h2, flatNodes]

theorem denoteDoc_render (env : Env) (d : PDoc) (h : wfDoc rs env d = true) :
    denoteDoc rs env (renderDoc d) = .ok (flatDoc d) := by
  simp only [wfDoc, Option.isSome_iff_exists] at h
  obtain ⟨st', h⟩ := h
  have h1 := nodeList_render rs d.nodes _ _ _ h
  simp only [renderDoc, denoteDoc]
  rw [info_stdAttrs _ (by simp) rfl rfl]
  simp [h1, flatDoc]

theorem splitAt_append (p : Str) : ∀ (fuel i : Nat) (ns name : Str),
    splitAt p fuel i = some (ns, name) → ns ++ name = p
  | 0, _, _, _, h => by simp [splitAt] at h
  | fuel + 1, i, ns, name, h => by
    simp only [splitAt] at h
    split at h
    · simp only [Option.some.injEq, Prod.mk.injEq] at h
      rw [← h.1, ← h.2]; exact List.take_append_drop i p
    · exact splitAt_append p fuel (i + 1) ns name h

theorem predOK_facts (p : Str) (h : predOK p = true) :
    wfName 0 (predName p) = true ∧ (predName p).pred = p := by
  simp only [predOK] at h
  simp only [predName]
  split at h
  · rename_i ns name hs
    exact ⟨h, splitAt_append p _ _ ns name hs⟩
  · exact absurd h (by simp)

theorem push_none (env : Env) : env.push rs none none = env := by
  cases env; rfl

variable {β : Type}

theorem flatPlanNode_ok (base : Str) (label : β → Str) (hl : LabelsOK label) (t : Triple β)
    (ht : TripleOK rs base t) (st : St) :
    wfNode rs ⟨base, none⟩ st (flatPlanNode label t) = some st ∧
    flatNode (flatPlanNode label t) = [Triple.map (fun b => BN.named (label b)) t] := by
  obtain ⟨hn, hp⟩ := predOK_facts t.p ht.pred
  have hs := ht.subj
  have ho := ht.obj
  obtain ⟨s, p, o⟩ := t
  simp only at hp
  have e0 : (wfTyp none && wfPAttrs rs ⟨base, none⟩ []) = true := by simp [wfTyp, wfPAttrs]
  have e1 : wfSubj rs ⟨base, none⟩ st (flatSubj label s) = some st ∧
      (flatSubj label s).term = s.map (fun b => BN.named (label b)) := by
    cases s with
    | iri i => simp only [SubjOK, IriOK] at hs; simp [flatSubj, wfSubj, hs, Subj.term, Term.map]
    | bnode b => simp [flatSubj, wfSubj, hl.ncname b, Subj.term, Term.map]
    | lit _ _ _ => exact absurd hs (by simp [SubjOK])
  have hnl : PName.nextLi 0 (predName p) = 0 := by
    simp only [predName]; split <;> rfl
  have e2 : ∀ S : Term BN, wfProp rs ⟨base, none⟩ 0 st (flatProp1 label p o) = some (0, st) ∧
      flatProp S (flatProp1 label p o) = [⟨S, p, o.map (fun b => BN.named (label b))⟩] := by
    intro S
    cases o with
    | iri i =>
      simp only [ObjOK, IriOK] at ho
      simp [flatProp1, wfProp, push_none, hn, ho, wfPAttrs, wfId, hnl, flatProp, withReify, PId.iri, hp, Term.map]
    | bnode b =>
      simp [flatProp1, wfProp, push_none, hn, hl.ncname b, wfPAttrs, wfId, hnl, flatProp, withReify, PId.iri, hp, Term.map]
    | lit lex dt lang =>
      cases lang with
      | some l =>
        simp only [ObjOK] at ho
        have hpush : Env.push rs ⟨base, none⟩ none (some l) = ⟨base, some l⟩ := by
          cases l with
          | nil => exact absurd rfl ho.1
          | cons c cs => rfl
        by_cases hlex : lex = [] <;>
          simp [flatProp1, hlex, wfProp, hpush, hn, wfId, hnl, flatProp, withReify, PId.iri, hp, Term.map, mkLit, ho.2]
      | none =>
        simp only [ObjOK, IriOK] at ho
        by_cases hdt : dt = xsdString
        · by_cases hlex : lex = [] <;>
            simp [flatProp1, hdt, hlex, wfProp, push_none, hn, wfId, hnl, flatProp, withReify, PId.iri, hp, Term.map, mkLit]
        · rcases ho with ho | ho
          · exact absurd ho hdt
          · simp [flatProp1, hdt, wfProp, push_none, hn, wfId, hnl, ho.1, ho.2, flatProp, withReify, PId.iri, hp, Term.map]
  obtain ⟨w2, f2⟩ := e2 (s.map (fun b => BN.named (label b)))
  simp only [flatPlanNode, wfNode, push_none, if_pos e0, e1.1, wfProps, w2, flatNode, typTriple, List.map_nil,
    List.nil_append, flatProps, List.append_nil, e1.2, f2, Triple.map, and_self]

theorem flatPlan_ok (base : Str) (label : β → Str) (hl : LabelsOK label) (g : List (Triple β))
    (hg : ∀ t ∈ g, TripleOK rs base t) :
    wfDoc rs ⟨base, none⟩ (flatPlan label g) = true ∧
    flatDoc (flatPlan label g) = g.map (Triple.map (fun b => BN.named (label b))) := by
  have : ∀ (g : List (Triple β)) (st : St), (∀ t ∈ g, TripleOK rs base t) →
      wfNodes rs ⟨base, none⟩ st (g.map (flatPlanNode label)) = some st ∧
      flatNodes (g.map (flatPlanNode label)) = g.map (Triple.map (fun b => BN.named (label b))) := by
    intro g
    induction g with
    | nil => exact fun _ _ => ⟨rfl, rfl⟩
    | cons t g ih =>
      intro st hg
      obtain ⟨h1, h2⟩ := flatPlanNode_ok rs base label hl t (hg t (by simp)) st
      obtain ⟨h3, h4⟩ := ih st (fun t' ht' => hg t' (by simp [ht']))
      simp only [List.map_cons, wfNodes, h1, h3, flatNodes, h2, h4, List.singleton_append, and_self]
  simp only [wfDoc, flatPlan, push_none, flatDoc, (this g St.init hg).1, (this g St.init hg).2, Option.isSome_some, and_self]

theorem write_denote (base : Str) (label : β → Str) (hl : LabelsOK label) (g : List (Triple β))
    (hg : ∀ t ∈ g, TripleOK rs base t) (ch : Choices β) (hσ : Function.Injective ch.rename) :
    ∃ out, denoteDoc rs ⟨base, none⟩ (write rs base label g ch) = .ok out ∧ Spec.Iso out g := by
  unfold write
  split
  · rename_i hc
    simp only [Bool.and_eq_true, List.isPerm_iff] at hc
    exact ⟨flatDoc ch.plan, denoteDoc_render rs _ _ hc.1, ch.rename, hσ, hc.2⟩
  · refine ⟨flatDoc (flatPlan label g), denoteDoc_render rs _ _ (flatPlan_ok rs base label hl g hg).1,
      fun b => BN.named (label b), ?_, ?_⟩
    · intro a b hab
      exact hl.inj (BN.named.inj hab)
    · rw [(flatPlan_ok rs base label hl g hg).2]

end RdfModel.RX
