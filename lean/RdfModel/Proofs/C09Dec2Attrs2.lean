import RdfModel.Proofs.C09Dec2Attrs
namespace RdfModel.RXD
open RdfModel RdfModel.Desc RdfModel.RX RdfModel.C09Dec

variable {rs : Str → Str → Str} {render : List Tok → Option Str}

theorem rdfPropName_pelt {a : Attr} (h : RdfPropName a) :
    a.name ≠ n_ID ∧ a.name ≠ n_resource ∧ a.name ≠ n_parseType ∧ a.name ≠ n_nodeID ∧ a.name ≠ n_datatype ∧
    emptyAttrForbidden.contains a.name = false := by
  obtain ⟨h1, h2⟩ := h
  simp only [badAttrName, syntaxAttrName, oldTerms, List.cons_append, List.nil_append, List.contains_cons, List.contains_nil,
    Bool.or_false, Bool.or_eq_false_iff, beq_eq_false_iff_ne, ne_eq] at h1 h2
  refine ⟨fun e => h2.1 e, fun e => h2.2.2.2.1 e, fun e => h2.2.2.2.2.2 e, fun e => h2.2.2.1 e, fun e => h2.2.2.2.2.1 e, ?_⟩
  simp only [emptyAttrForbidden, List.contains_cons, List.contains_nil, Bool.or_false, Bool.or_eq_false_iff,
    beq_eq_false_iff_ne, ne_eq]
  exact ⟨h1.1, h2.2.1, h2.2.2.2.2.2, h1.2.1, h1.2.2.1, h1.2.2.2.1, h1.2.2.2.2.1, h1.2.2.2.2.2⟩

theorem peltAttrLoop_mix (B : List Attr) (hB : ∀ a ∈ B, MixOK a) (y : PInfo) : peltAttrLoop B y = some y := by
  induction B with
  | nil => rfl
  | cons a B ih =>
    have ih' := ih (fun x hx => hB x (by simp [hx]))
    by_cases h1 : a.ns = rdfNS
    · obtain ⟨e1, e2, e3, _⟩ := rdfPropName_pelt ((hB a (by simp)).2 h1)
      simp only [peltAttrLoop, e1, e2, e3, and_false, if_false]
      exact ih'
    · simp only [peltAttrLoop, h1, false_and, if_false]
      exact ih'

theorem emptyLoop_rdfprops (B : List Attr) (hB : ∀ a ∈ B, RdfPropName a) (y : EInfo) :
    emptyLoop B y = some { y with rdfProp := if B = [] then y.rdfProp else true } := by
  induction B generalizing y with
  | nil => simp [emptyLoop]
  | cons a B ih =>
    obtain ⟨e1, e2, _, e4, e5, _⟩ := rdfPropName_pelt (hB a (by simp))
    simp only [emptyLoop, e1, e2, e4, e5, if_false]
    rw [ih (fun x hx => hB x (by simp [hx]))]
    cases B <;> simp

theorem emptyAttrLoop_mixed (hf : EmptyRefNoFrag rs) {env : Env} {ctx : Ctx} (hrel : CtxRel env ctx) (o : Term BN)
    (ho : WFSubj o) (B : List Attr) (hB : ∀ a ∈ B, MixOK a) (st : St) :
    ∃ st1, emptyAttrLoop (mkP rs render) ctx o B st = .ok () st1 ∧
      st1.out = (B.map (propAttrTriple rs env o)).reverse ++ st.out ∧ st1.next = st.next := by
  induction B generalizing st with
  | nil => exact ⟨st, rfl, by simp, rfl⟩
  | cons a B ih =>
    have hs : asSubject o = some o := by cases o <;> simp_all [asSubject, WFSubj]
    have hB' : ∀ x ∈ B, MixOK x := fun x hx => hB x (by simp [hx])
    by_cases h1 : a.ns = rdfNS
    · obtain ⟨e1, e2, _, e4, e5, e6⟩ := rdfPropName_pelt ((hB a (by simp)).2 h1)
      by_cases ht : a.name = n_type
      · obtain ⟨st1, q1, q2, q3⟩ := ih hB' (st.emit ⟨o, rdfType, .iri (rs env.base a.val)⟩)
        have t1 : n_type ≠ n_ID := by decide
        have t2 : n_type ≠ n_resource := by decide
        have t3 : n_type ≠ n_nodeID := by decide
        have t4 : n_type ≠ n_datatype := by decide
        refine ⟨st1, ?_, ?_, by rw [q3]; rfl⟩
        · simp only [emptyAttrLoop, h1, ht, t1, t2, t3, t4, or_self, and_false, if_false, and_self, if_true, hs,
            resolveIRI_sim hf hrel, q1]
        · rw [q2]; simp [St.emit, propAttrTriple, h1, ht]
      · obtain ⟨st1, q1, q2, q3⟩ := ih hB' (st.emit ⟨o, a.ns ++ a.name, mkLitCtx a.val ctx⟩)
        refine ⟨st1, ?_, ?_, by rw [q3]; rfl⟩
        · simp only [emptyAttrLoop, h1, e1, e2, e4, e5, ht, e6, or_self, and_false, if_false, Bool.false_eq_true, hs]
          rw [← h1]; exact q1
        · rw [q2]; simp [St.emit, propAttrTriple, ht, mkLitCtx, hrel.2]
    · obtain ⟨st1, q1, q2, q3⟩ := ih hB' (st.emit ⟨o, a.ns ++ a.name, mkLitCtx a.val ctx⟩)
      refine ⟨st1, ?_, ?_, by rw [q3]; rfl⟩
      · simp only [emptyAttrLoop, h1, false_and, if_false, hs, q1]
      · rw [q2]; simp [St.emit, propAttrTriple, h1, mkLitCtx, hrel.2]

theorem filter_both_nil {A : List Attr} (h1 : A.filter isRdf = []) (h2 : A.filter (fun a => !isRdf a) = []) : A = [] := by
  have := (List.filter_append_perm isRdf A).length_eq
  simp only [h1, h2, List.append_nil, List.length_nil] at this
  exact List.eq_nil_of_length_eq_zero this.symm

/-- `case xml.EndElement` for an empty property element that has property attributes, rdf:resource, rdf:nodeID or a lone
    rdf:datatype (`hsome`): the object `o` is the resource, the named node or a fresh blank node; the decoder emits the
    property attributes' statements about `o` (those in the RDF namespace first) and then the element's own statement. -/
theorem peltEnd_attrs (hf : EmptyRefNoFrag rs) (i : AttrInfo) (hp : ∀ a ∈ i.props, MixOK a) (ha : i.about = none)
    (hpt : i.parseType = none) (hnn : ∀ n, i.nodeID = some n → isNCName n = true)
    (hone : i.nodeID = none ∨ i.resource = none)
    (hsome : i.props ≠ [] ∨ i.resource.isSome ∨ i.nodeID.isSome ∨ i.datatype.isSome)
    {env : Env} {ctx : Ctx} (hrel : CtxRel env ctx) (s : Term BN) (pred : Str) (id : PId) (hi : i.id = PId.val id)
    {S S' : RX.St} (hidwf : wfId rs (env.push rs i.base i.lang) id S = some S') (st : St) :
    ∃ st1 o, peltEnd (mkP rs render) ctx s pred (stdAttrs i) i.id [] [] st = .ok () st1 ∧
      o = (match i.resource, i.nodeID with
        | some r, _ => Term.iri (rs (env.push rs i.base i.lang).base r)
        | none, some n => .bnode (.named n)
        | none, none => .bnode (.gen st.next)) ∧
      st1.out = (withReify (PId.iri id) ⟨s, pred, o⟩).reverse ++
        ((i.props.filter isRdf ++ i.props.filter (fun a => !isRdf a)).map
          (propAttrTriple rs (env.push rs i.base i.lang) o)).reverse ++ st.out ∧
      st1.next = (match i.resource, i.nodeID with | none, none => st.next + 1 | _, _ => st.next) := by
  obtain ⟨c', st1, hpca, hrel', hn, ho⟩ := processCommonAttr_std (render := render) hf i (fun a h => (hp a h).1) hrel st
  have hres := fun v => resolveIRI_sim (render := render) hf hrel' v
  have hAr : ∀ a ∈ i.props.filter isRdf, RdfPropName a := by
    intro a h
    simp only [List.mem_filter, isRdf, decide_eq_true_eq] at h
    exact (hp a h.1).2 h.2
  have hmix : ∀ a ∈ i.props.filter isRdf ++ i.props.filter (fun a => !isRdf a), MixOK a := by
    intro a h
    simp only [List.mem_append, List.mem_filter] at h
    rcases h with h | h <;> exact hp a h.1
  have hloop : emptyLoop (rdfPart i ++ i.props.filter isRdf) {} = some ⟨i.resource, i.nodeID, i.datatype.isSome,
      (if i.props.filter isRdf = [] then false else true),
      (if i.nodeID.isSome then 1 else 0) + (if i.resource.isSome then 1 else 0)⟩ := by
    rw [emptyLoop_rdfPart i ha hpt hnn, emptyLoop_rdfprops _ hAr]
  have hcond : ¬(i.props.filter (fun a => !isRdf a) = [] ∧ (if i.props.filter isRdf = [] then false else true) = false ∧
      i.resource = none ∧ i.nodeID = none ∧ i.datatype.isSome = false) := by
    intro ⟨h1, h0, h2, h3, h4⟩
    have h0' : i.props.filter isRdf = [] := by
      by_cases hx : i.props.filter isRdf = []
      · exact hx
      · simp [hx] at h0
    rcases hsome with h | h | h | h
    · exact h (filter_both_nil h0' h1)
    · simp [h2] at h
    · simp [h3] at h
    · simp [h4] at h
  have hobj : ∃ o st2, emptyObject (mkP rs render) c' ⟨i.resource, i.nodeID, i.datatype.isSome,
        (if i.props.filter isRdf = [] then false else true),
        (if i.nodeID.isSome then 1 else 0) + (if i.resource.isSome then 1 else 0)⟩ st1 = .ok o st2 ∧ WFSubj o ∧
      o = (match i.resource, i.nodeID with
        | some r, _ => Term.iri (rs (env.push rs i.base i.lang).base r)
        | none, some n => .bnode (.named n)
        | none, none => .bnode (.gen st.next)) ∧ st2.out = st1.out ∧
      st2.next = (match i.resource, i.nodeID with | none, none => st.next + 1 | _, _ => st.next) := by
    cases hR : i.resource with
    | some r => exact ⟨_, st1, by simp [emptyObject, hres], by simp [WFSubj], rfl, rfl, by simp [hn]⟩
    | none =>
      cases hN : i.nodeID with
      | some n => exact ⟨_, st1, by simp [emptyObject], by simp [WFSubj], rfl, rfl, by simp [hn]⟩
      | none => exact ⟨st1.fresh.1, st1.fresh.2, by simp [emptyObject], by simp [WFSubj, St.fresh], by simp [St.fresh, hn], rfl,
          by simp [St.fresh, hn]⟩
  obtain ⟨o, st2, hobj1, hwo, hoeq, hout2, hnext2⟩ := hobj
  obtain ⟨st3, hl1, hl2, hl3⟩ := emptyAttrLoop_mixed (render := render) hf hrel' o hwo _ hmix st2
  obtain ⟨st4, h1, h2, h3⟩ := optReify_sim (render := render) hf hrel' hidwf ⟨s, pred, o⟩ (st3.emit ⟨s, pred, o⟩) st3.out rfl
  have hnames : ¬((if i.nodeID.isSome then 1 else 0) + (if i.resource.isSome then 1 else 0) > 1) := by
    rcases hone with h | h <;> simp [h] <;> split <;> omega
  refine ⟨st4, o, ?_, hoeq, by rw [h2, hl2, hout2, ho, List.append_assoc], by rw [h3]; simp only [St.emit]; rw [hl3, hnext2]⟩
  unfold peltEnd
  simp only [ne_eq, not_true_eq_false, if_false, hpca, hloop, hnames, hcond, hobj1, List.append_assoc,
    emptyAttrLoop_rdfPart _ _ _ i ha hpt, hl1, hi, h1]

/-- the decoder emits the attributes' statements first: a permutation of the plan's -/
theorem attr_elt_sim (hf : EmptyRefNoFrag rs) (i : AttrInfo) (pattrs : List PAttr) (hprops : i.props = pattrs.map PAttr.render)
    {env : Env} (hpl : pattrs.all nodePAttr = true) (hpa : wfPAttrs rs (env.push rs i.base i.lang) pattrs = true)
    (ha : i.about = none) (hpt : i.parseType = none) (hnn : ∀ n, i.nodeID = some n → isNCName n = true)
    (hone : i.nodeID = none ∨ i.resource = none)
    (hsome : i.props ≠ [] ∨ i.resource.isSome ∨ i.nodeID.isSome ∨ i.datatype.isSome)
    {ctx : Ctx} (hrel : CtxRel env ctx) (nm : PName) (li : Nat)
    (hname : wfName li nm = true) (s : Term BN) (id : PId) (hi : i.id = PId.val id)
    {S S' : RX.St} (hidwf : wfId rs (env.push rs i.base i.lang) id S = some S')
    (ret : Ret) (below : List Frame) (ctx0 : Ctx) (st : St) :
    ∃ st1 o ts, steps (mkP rs render) ctx0 (.props ctx s li ret :: below) st
        [.start nm.ns nm.name (stdAttrs i), .end_ nm.ns nm.name] = .cont (.props ctx s (nm.nextLi li) ret :: below) st1 ∧
      o = (match i.resource, i.nodeID with
        | some r, _ => Term.iri (rs (env.push rs i.base i.lang).base r)
        | none, some n => .bnode (.named n)
        | none, none => .bnode (.gen st.next)) ∧
      st1.out = ts.reverse ++ st.out ∧
      ts.Perm (withReify (PId.iri id) ⟨s, nm.pred, o⟩ ++ pattrs.map (PAttr.triple o)) ∧
      (pattrs = [] → ts = withReify (PId.iri id) ⟨s, nm.pred, o⟩) ∧
      st1.next = (match i.resource, i.nodeID with | none, none => st.next + 1 | _, _ => st.next) := by
  have hp : ∀ a ∈ i.props, MixOK a := hprops ▸ attrs_of_wf hpl hpa
  obtain ⟨nctx, st1, h1, _, hn1, ho1⟩ := props_start_generic (render := render) hf i (fun a ha => (hp a ha).1)
    (peltAttrLoop_mix _ hp) hpt (by rw [hi]; exact pidVal_ncname hidwf) hrel nm li hname s ret below ctx0 st
  obtain ⟨st2, o, h2, hoeq, ho2, hn2⟩ := peltEnd_attrs (render := render) hf i hp ha hpt hnn hone hsome hrel s nm.pred id hi
    hidwf st1
  refine ⟨st2, o, (i.props.filter isRdf ++ i.props.filter (fun a => !isRdf a)).map
      (propAttrTriple rs (env.push rs i.base i.lang) o) ++ withReify (PId.iri id) ⟨s, nm.pred, o⟩, ?_, by rw [hoeq, hn1], ?_,
    ?_, ?_, by rw [hn2, hn1]⟩
  · rw [steps_cons_cont h1]; simp [steps, step, h2]
  · rw [ho2, ho1]; simp
  · rw [← wfPAttrs_triples rs _ _ pattrs hpa, ← hprops]
    exact (List.Perm.append_right _ (List.Perm.map _ (List.filter_append_perm isRdf _))).trans List.perm_append_comm
  · intro he
    rw [hprops, he]
    rfl

def nonNesting : PProp → Bool
  | .node _ _ _ _ | .ptRes _ _ _ _ _ | .ptColl _ _ _ _ _ => false
  | _ => true

theorem prop_sim (hf : EmptyRefNoFrag rs) (hr : ∀ c, render [.chars c] = some c) (p : PProp) (hnn : nonNesting p = true)
    (hfr : idProp p = true) {env : Env} {ctx : Ctx} (hrel : CtxRel env ctx) (s : Term BN) (li li1 : Nat) (S S1 : RX.St)
    (hwf : wfProp rs env li S p = some (li1, S1)) (ret : Ret) (below : List Frame) (ctx0 : Ctx) (st : St)
    (hn : st.next = S.next) :
    ∃ (st1 : St) (ts : List T), steps (mkP rs render) ctx0 (.props ctx s li ret :: below) st (tokens (renderProp p)) =
        .cont (.props ctx s li1 ret :: below) st1 ∧
      st1.out = ts.reverse ++ st.out ∧ ts.Perm (flatProp s p) ∧ st1.next = S1.next ∧
      (leafProp p = true → ts = flatProp s p) := by
  cases p with
  | node | ptRes | ptColl => cases hnn
  | lit sc nm id lex lang =>
    simp only [wfProp] at hwf
    obtain ⟨hc, hid, rfl⟩ := if_map_pair_some hwf
    simp only [Bool.and_eq_true, decide_eq_true_eq, ne_eq, decide_not, Bool.not_eq_true', decide_eq_false_iff_not] at hc
    obtain ⟨st1, h1, h2, h3⟩ := text_elt_sim (render := render) hf
      { base := sc.base, lang := sc.lang, id := PId.val id } rfl rfl hrel nm li hc.1.1 s lex hc.1.2 id rfl hid
      (by simp) ret below ctx0 st
    refine ⟨st1, _, ?_, ?_, .refl _, by rw [h3, hn, (wfId_facts hid).1], fun _ => rfl⟩
    · simpa [renderProp, tokens, tokensList] using h1
    · rw [h2]; simp [flatProp, hc.2]
  | typed sc nm id lex dt ref =>
    simp only [wfProp] at hwf
    obtain ⟨hc, hid, rfl⟩ := if_map_pair_some hwf
    simp only [Bool.and_eq_true, decide_eq_true_eq, ne_eq, decide_not, Bool.not_eq_true', decide_eq_false_iff_not] at hc
    obtain ⟨st1, h1, h2, h3⟩ := text_elt_sim (render := render) hf
      { base := sc.base, lang := sc.lang, id := PId.val id, datatype := some ref } rfl rfl hrel nm li hc.1.1.1.1 s lex
      hc.1.1.1.2 id rfl hid
      (by intro d hd; simp only [Option.some.injEq] at hd; subst hd; rw [hc.1.1.2]; exact ⟨hc.1.2, hc.2⟩)
      ret below ctx0 st
    refine ⟨st1, _, ?_, ?_, .refl _, by rw [h3, hn, (wfId_facts hid).1], fun _ => rfl⟩
    · simpa [renderProp, tokens, tokensList] using h1
    · rw [h2]; simp [flatProp, hc.1.1.2]
  | empty sc nm id lang =>
    simp only [wfProp] at hwf
    obtain ⟨hc, hid, rfl⟩ := if_map_pair_some hwf
    simp only [Bool.and_eq_true, decide_eq_true_eq] at hc
    obtain ⟨nctx, st1, h1, _, hn1, ho1⟩ := props_start_generic (render := render) hf
      { base := sc.base, lang := sc.lang, id := PId.val id } (by simp) (fun _ => rfl) rfl (pidVal_ncname hid) hrel nm li hc.1 s ret
      below ctx0 st
    obtain ⟨st2, h2, ho2, hn2⟩ := peltEnd_empty (render := render) hf { base := sc.base, lang := sc.lang, id := PId.val id }
      rfl rfl rfl rfl rfl rfl hrel s nm.pred id rfl hid st1
    refine ⟨st2, _, ?_, ?_, .refl _, by rw [hn2, hn1, hn, (wfId_facts hid).1], fun _ => rfl⟩
    · simp only [renderProp, tokens, tokensList]
      rw [steps_cons_cont h1]; simp [steps, step, h2]
    · rw [ho2, ho1]; simp [flatProp, hc.2]
  | ptLit sc nm id pt content =>
    simp only [wfProp] at hwf
    obtain ⟨hc, hid, rfl⟩ := if_map_pair_some hwf
    simp only [Bool.and_eq_true, ne_eq, decide_not, Bool.not_eq_true', decide_eq_false_iff_not] at hc
    obtain ⟨nctx, st1, h1, hrel', hn1, ho1⟩ := props_start_lit (render := render) hf
      { base := sc.base, lang := sc.lang, id := PId.val id, parseType := some pt } rfl rfl pt rfl hc.1.2 hc.2
      (pidVal_ncname hid) hrel nm li hc.1.1 s ret below ctx0 st
    obtain ⟨st2, h2, ho2, hn2⟩ := reifyEachID_std (render := render) hf
      { base := sc.base, lang := sc.lang, id := PId.val id, parseType := some pt } rfl rfl rfl rfl hrel' id rfl hid
      ⟨s, nm.pred, .lit content rdfXMLLiteral none⟩ (st1.emit ⟨s, nm.pred, .lit content rdfXMLLiteral none⟩) st1.out rfl
    simp only [mkP] at h2
    refine ⟨st2, _, ?_, ?_, .refl _, by rw [hn2]; exact hn1.trans (hn.trans (wfId_facts hid).1.symm), fun _ => rfl⟩
    · simp only [renderProp, tokens, tokensList]
      rw [steps_cons_cont h1]; simp [steps, step, hr, mkP, h2]
    · rw [ho2, ho1]; simp [flatProp]
  | res sc nm id iri ref pattrs =>
    simp only [idProp] at hfr
    simp only [wfProp] at hwf
    obtain ⟨hc, hid, rfl⟩ := if_map_pair_some hwf
    simp only [Bool.and_eq_true, decide_eq_true_eq] at hc
    obtain ⟨st1, o, ts, h1, hoeq, h2, hp, he, h3⟩ := attr_elt_sim (render := render) hf
      { base := sc.base, lang := sc.lang, id := PId.val id, resource := some ref, props := pattrs.map PAttr.render }
      pattrs rfl hfr hc.2 rfl rfl (by simp) (by simp) (.inr (.inl rfl)) hrel nm li hc.1.1 s id rfl hid
      ret below ctx0 st
    simp only [hc.1.2] at hoeq
    subst hoeq
    exact ⟨st1, ts, by simpa [renderProp, tokens, tokensList] using h1, h2, hp, by rw [h3, hn, (wfId_facts hid).1],
      fun hl => by simp only [leafProp, List.isEmpty_iff] at hl; subst hl; rw [he rfl]; simp [flatProp]⟩
  | bref sc nm id l pattrs =>
    simp only [idProp] at hfr
    simp only [wfProp] at hwf
    obtain ⟨hc, hid, rfl⟩ := if_map_pair_some hwf
    simp only [Bool.and_eq_true] at hc
    obtain ⟨st1, o, ts, h1, hoeq, h2, hp, he, h3⟩ := attr_elt_sim (render := render) hf
      { base := sc.base, lang := sc.lang, id := PId.val id, nodeID := some l, props := pattrs.map PAttr.render }
      pattrs rfl hfr hc.2 rfl rfl
      (by intro n hn'; simp only [Option.some.injEq] at hn'; subst hn'; exact hc.1.2) (by simp) (.inr (.inr (.inl rfl)))
      hrel nm li hc.1.1 s id rfl hid ret below ctx0 st
    simp only at hoeq
    subst hoeq
    exact ⟨st1, ts, by simpa [renderProp, tokens, tokensList] using h1, h2, hp, by rw [h3, hn, (wfId_facts hid).1],
      fun hl => by simp only [leafProp, List.isEmpty_iff] at hl; subst hl; rw [he rfl]; simp [flatProp]⟩
  | banon sc nm id k dt pattrs =>
    simp only [idProp] at hfr
    obtain ⟨⟨hname, hne, hpa⟩, rfl, S0, hid, hk, rfl⟩ := wfProp_banon_inv hwf
    have hS0 := (wfId_facts hid).1
    have hkk : k = st.next := by rw [hk, hS0, hn]
    have hsome : (pattrs.map PAttr.render) ≠ [] ∨ (none : Option Str).isSome ∨ (none : Option Str).isSome ∨ dt.isSome := by
      rcases hne with h | h
      · exact .inr (.inr (.inr h))
      · left; simpa using h
    obtain ⟨st1, o, ts, h1, hoeq, h2, hp, _, h3⟩ := attr_elt_sim (render := render) hf
      { base := sc.base, lang := sc.lang, id := PId.val id, datatype := dt, props := pattrs.map PAttr.render }
      pattrs rfl hfr hpa rfl rfl (by simp) (by simp) hsome hrel nm li hname s id rfl hid
      ret below ctx0 st
    simp only at hoeq
    subst hoeq
    exact ⟨st1, ts, by simpa [renderProp, tokens, tokensList] using h1, h2, by simpa [flatProp, hkk] using hp,
      by rw [h3, hn, hS0], Bool.noConfusion⟩

end RdfModel.RXD
