import RdfModel.Model.RdfXmlDecoder
namespace RdfModel.RXD
open RdfModel RdfModel.Desc RdfModel.RX

def steps (P : Params) (ctx0 : Ctx) : List Frame → St → List Tok → Step
  | stk, st, [] => .cont stk st
  | stk, st, tok :: rest =>
    match step P ctx0 stk st tok with
    | .cont stk1 st1 => steps P ctx0 stk1 st1 rest
    | r => r

def Step.finish (fin : Fin) : Step → Result
  | .cont stk st => RXD.finish stk st fin
  | .fail e st => .err e st.out.reverse
  | .panic => .panic

variable {P : Params} {ctx0 : Ctx}

theorem run_eq_steps (stk : List Frame) (st : St) (toks : List Tok) (fin : Fin) :
    run P ctx0 stk st toks fin = (steps P ctx0 stk st toks).finish fin := by
  induction toks generalizing stk st with
  | nil => rfl
  | cons tok rest ih =>
    simp only [run, steps]
    cases step P ctx0 stk st tok with
    | cont stk1 st1 => exact ih stk1 st1
    | fail e st1 => rfl
    | panic => rfl

theorem steps_append (stk : List Frame) (st : St) (a b : List Tok) :
    steps P ctx0 stk st (a ++ b) =
      match steps P ctx0 stk st a with
      | .cont stk1 st1 => steps P ctx0 stk1 st1 b
      | r => r := by
  induction a generalizing stk st with
  | nil => rfl
  | cons tok rest ih =>
    simp only [List.cons_append, steps]
    cases step P ctx0 stk st tok with
    | cont stk1 st1 => exact ih stk1 st1
    | fail e st1 => rfl
    | panic => rfl

theorem steps_singleton (stk : List Frame) (st : St) (tok : Tok) :
    steps P ctx0 stk st [tok] = step P ctx0 stk st tok := by
  simp only [steps]; cases step P ctx0 stk st tok <;> rfl

theorem steps_cons_cont {stk stk1 : List Frame} {st st1 : St} {tok : Tok} (h : step P ctx0 stk st tok = .cont stk1 st1)
    (rest : List Tok) : steps P ctx0 stk st (tok :: rest) = steps P ctx0 stk1 st1 rest := by
  simp only [steps, h]

theorem steps_append_cont {stk stk1 : List Frame} {st st1 : St} {a : List Tok} (h : steps P ctx0 stk st a = .cont stk1 st1)
    (b : List Tok) : steps P ctx0 stk st (a ++ b) = steps P ctx0 stk1 st1 b := by
  rw [steps_append, h]

theorem steps_append_fail {stk : List Frame} {st st1 : St} {a : List Tok} {e : E} (h : steps P ctx0 stk st a = .fail e st1)
    (b : List Tok) : steps P ctx0 stk st (a ++ b) = .fail e st1 := by
  rw [steps_append, h]

theorem run_of_steps {stk stk1 : List Frame} {st st1 : St} {a : List Tok} (h : steps P ctx0 stk st a = .cont stk1 st1)
    (rest : List Tok) (fin : Fin) : run P ctx0 stk st (a ++ rest) fin = run P ctx0 stk1 st1 rest fin := by
  rw [run_eq_steps, run_eq_steps, steps_append_cont h]

end RdfModel.RXD
