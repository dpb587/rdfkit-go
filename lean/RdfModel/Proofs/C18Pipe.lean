import RdfModel.Proofs.C18Labels
import RdfModel.Proofs.C01Enc
import RdfModel.Proofs.TermMap
namespace RdfModel.Proofs.C18
open RdfModel RdfModel.Pipe RdfModel.C18 RdfModel.BN RdfModel.C14 RdfModel.NQ RdfModel.C01

variable {β γ : Type}

theorem quadAsTriple_map (f : β → γ) (q : Quad β) : quadAsTriple (q.map f) = (quadAsTriple q).map f := by
  simp [quadAsTriple, Quad.map]

theorem getQuadsEncoder_map (f : β → γ) (k : Kind) (q : Quad β) :
    getQuadsEncoder k (q.map f) = (getQuadsEncoder k q).map f := by
  cases k <;> simp [getQuadsEncoder, quadAsTriple, Quad.map]

theorem getQuadsDecoder_map (f : β → γ) (k : Kind) (qs : List (Quad β)) :
    getQuadsDecoder k (qs.map (Quad.map f)) = (getQuadsDecoder k qs).map (Quad.map f) := by
  cases k <;> simp [getQuadsDecoder, tripleAsQuad, Quad.map, Function.comp_def]

theorem pipeStatements_map (f : β → γ) (src tgt : Kind) (qs : List (Quad β)) :
    pipeStatements src tgt (qs.map (Quad.map f)) = (pipeStatements src tgt qs).map (Quad.map f) := by
  simp only [pipeStatements, getQuadsDecoder_map, List.map_map]
  congr 1
  funext q
  simp [getQuadsEncoder_map]

theorem pipeStatements_triples (src : Kind) (qs : List (Quad β)) :
    pipeStatements src .triples qs = qs.map quadAsTriple := by
  cases src <;> simp [pipeStatements, getQuadsDecoder, getQuadsEncoder, quadAsTriple, tripleAsQuad, Function.comp_def]

theorem getQuadsEncoder_quads : getQuadsEncoder (β := β) .quads = id := by
  funext q; rfl

theorem pipeStatements_quads_quads (qs : List (Quad β)) : pipeStatements .quads .quads qs = qs := by
  simp [pipeStatements, getQuadsDecoder, getQuadsEncoder_quads]

theorem pipeStatements_triples_quads (qs : List (Quad β)) :
    pipeStatements .triples .quads qs = qs.map tripleAsQuad := by
  simp [pipeStatements, getQuadsDecoder, getQuadsEncoder_quads]

theorem pipeStatements_g_none (src : Kind) (qs : List (Quad β)) :
    ∀ q ∈ pipeStatements src .triples qs, q.g = none := by
  rw [pipeStatements_triples]
  intro q hq
  obtain ⟨q0, _, rfl⟩ := List.mem_map.mp hq
  rfl

theorem wf_getQuadsEncoder (urlOk : List Nat → Bool) (k : Kind) (q : Quad β) (h : WFQuad urlOk q) :
    WFQuad urlOk (getQuadsEncoder k q) := by
  cases k with
  | quads => exact h
  | triples => exact ⟨h.s, h.p, h.o, by intro g hg; simp [getQuadsEncoder, quadAsTriple] at hg⟩

theorem wf_pipeStatements (urlOk : List Nat → Bool) (src tgt : Kind) (qs : List (Quad β))
    (h : ∀ q ∈ qs, WFQuad urlOk q) : ∀ q ∈ pipeStatements src tgt qs, WFQuad urlOk q := by
  intro q hq
  simp only [pipeStatements, List.mem_map] at hq
  obtain ⟨q1, hq1, rfl⟩ := hq
  apply wf_getQuadsEncoder
  cases src with
  | quads => exact h q1 hq1
  | triples =>
    simp only [getQuadsDecoder, List.mem_map] at hq1
    obtain ⟨q0, hq0, rfl⟩ := hq1
    have h0 := h q0 hq0
    exact ⟨h0.s, h0.p, h0.o, by intro g hg; simp [tripleAsQuad] at hg⟩

theorem termNodes_map (f : β → γ) (t : Term β) : termNodes (t.map f) = (termNodes t).map f := by
  cases t <;> simp [termNodes, Term.map]

theorem quadNodes_map (f : β → γ) (q : Quad β) : quadNodes (q.map f) = (quadNodes q).map f := by
  obtain ⟨s, p, o, g⟩ := q
  cases g <;> simp [quadNodes, Quad.map, termNodes_map]

theorem nodesOf_map (f : β → γ) (qs : List (Quad β)) : nodesOf (qs.map (Quad.map f)) = (nodesOf qs).map f := by
  simp only [nodesOf, List.flatMap_map, List.map_flatMap, quadNodes_map]

theorem writeNode_map (T : Tables) (ascii : Bool) (σ : β → List Nat) (t : Term β) :
    writeNode T ascii id (t.map σ) = writeNode T ascii σ t := by
  cases t <;> simp [writeNode, Term.map]

theorem writeObject_map (T : Tables) (ascii : Bool) (σ : β → List Nat) (t : Term β) :
    writeObject T ascii id (t.map σ) = writeObject T ascii σ t := by
  cases t <;> simp [writeObject, writeNode, Term.map]

theorem writePredicate_map (T : Tables) (ascii : Bool) (σ : β → List Nat) (t : Term β) :
    writePredicate (β := List Nat) T ascii (t.map σ) = writePredicate T ascii t := by
  cases t <;> simp [writePredicate, Term.map]

theorem encodeQuad_map (T : Tables) (ascii quads : Bool) (σ : β → List Nat) (q : Quad β) :
    encodeQuad T ascii id quads (q.map σ) = encodeQuad T ascii σ quads q := by
  obtain ⟨s, p, o, g⟩ := q
  simp only [encodeQuad, Quad.map, writeNode_map, writeObject_map, writePredicate_map]
  cases quads <;> cases g <;> simp only [Option.map_some, Option.map_none, writeNode_map]

theorem encodeDoc_map (T : Tables) (ascii quads : Bool) (σ : β → List Nat) (qs : List (Quad β)) :
    encodeDoc T ascii id quads (qs.map (Quad.map σ)) = encodeDoc T ascii σ quads qs := by
  simp [encodeDoc, List.flatMap_map, encodeQuad_map]

theorem pipeLoop_ok (T : Tables) (ascii quads : Bool) (U : Nat → Bytes) (p : ProvRef) (l : List (Quad Node)) :
    ∀ (k : Nat) (s : State) (acc : List Nat) (out : List (Quad Bytes)),
      (labelQuads U p s l).2 = some out →
      (∀ q ∈ out, (encodeQuad T ascii id quads q).isSome) →
      pipeLoop T ascii quads U p k s l acc = .ok (acc ++ encodeDoc T ascii id quads out) := by
  induction l with
  | nil =>
    intro k s acc out h _
    simp only [labelQuads] at h
    cases h
    simp [pipeLoop, encodeDoc]
  | cons q rest ih =>
    intro k s acc out h henc
    simp only [labelQuads] at h
    obtain ⟨x, xs, hx, hxs, rfl⟩ := consOpt_some h
    obtain ⟨line, hline⟩ := Option.isSome_iff_exists.mp (henc x (by simp))
    have hstep : labelQuad U p s q = ((labelQuad U p s q).1, some x) := by rw [← hx]
    rw [pipeLoop, hstep]
    simp only [hline]
    rw [ih (k + 1) _ (acc ++ line) xs hxs (fun q' hq' => henc q' (by simp [hq']))]
    simp [encodeDoc, hline, List.append_assoc]

theorem quads_map_map {γ δ : Type} (f : β → γ) (g : γ → δ) (qs : List (Quad β)) :
    (qs.map (Quad.map f)).map (Quad.map g) = qs.map (Quad.map (g ∘ f)) := by
  rw [List.map_map]
  exact List.map_congr_left fun q _ => q.map_map f g

/-- The label stage of the pipe, for any predicate `good` on labels that the UUID texts and the source labels
    satisfy: the provider is the pass-through of factory `j`, and the statements `ps` (over the blank nodes `β`
    of the dataset, embedded by `node`) come out labelled by one assignment `a` of labels to nodes that is
    injective on the dataset, with good labels. -/
theorem pipe_assigned (good : List Nat → Prop) (U : Nat → Bytes) (hU : Function.Injective U) (hUok : ∀ k, good (U k))
    (s : State) (hI : C14.Inv s) (j : Nat) (hj : j < s.strfs.length)
    (node : β → Node) (hnode : Function.Injective node) (ps : List (Quad β))
    (hocc : ∀ b, b ∈ nodesOf ps)
    (hscope : ∀ b v, node b = some (.bnString j v) → good v ∧ ∀ k, v ≠ U k) :
    ∃ (p : ProvRef) (s1 : State) (a : Node → Bytes), Function.Injective (a ∘ node) ∧ (∀ b, good ((a ∘ node) b)) ∧
      pipeProvider U s (some (.strf j)) = (s1, some p) ∧
      (labelQuads U p s1 (ps.map (Quad.map node))).2 = some (ps.map (Quad.map (a ∘ node))) ∧
      (∀ b v, node b = some (.bnString j v) → (a ∘ node) b = v) := by
  have hcol : ∀ v, some (.bnString j v) ∈ nodesOf (ps.map (Quad.map node)) → ∀ k, v ≠ U k := by
    intro v hv
    rw [nodesOf_map] at hv
    obtain ⟨b, _, hb⟩ := List.mem_map.mp hv
    exact (hscope b v hb).2
  obtain ⟨p, s1, a, hprov, hlab, hinj, hown, hU'⟩ := pipe_labels U hU s hI j hj (ps.map (Quad.map node)) hcol
  have hmem : ∀ b, node b ∈ nodesOf (ps.map (Quad.map node)) := by
    intro b; rw [nodesOf_map]; exact List.mem_map.mpr ⟨b, hocc b, rfl⟩
  refine ⟨p, s1, a, ?_, ?_, hprov, quads_map_map node a ps ▸ hlab, ?_⟩
  · intro x y hxy
    exact hnode (hinj _ (hmem x) _ (hmem y) hxy)
  · intro b
    show good (a (node b))
    rcases hU' _ (hmem b) with ⟨v, hv⟩ | ⟨k, hk⟩
    · rw [hv, hown v]
      exact (hscope b v hv).1
    · rw [hk]
      exact hUok k
  · intro b v hb
    simp only [Function.comp, hb, hown v]

/-- Everything the round-trip theorems need, from `pipe_assigned`:
    the pipe writes `encodeDoc σ` of the adapted statements for an injective, well-formed `σ`. -/
theorem pipe_writes (T : Tables) (urlOk : List Nat → Bool) (ascii quads : Bool)
    (U : Nat → Bytes) (hU : Function.Injective U) (hUok : ∀ k, labelOK T (U k) = true)
    (s : State) (hI : Inv s) (j : Nat) (hj : j < s.strfs.length)
    (node : β → Node) (hnode : Function.Injective node) (src : Kind) (qs : List (Quad β))
    (hocc : ∀ b, b ∈ nodesOf (pipeStatements src (if quads then .quads else .triples) qs))
    (hscope : ∀ b v, node b = some (.bnString j v) → labelOK T v = true ∧ ∀ k, v ≠ U k)
    (hwf : ∀ q ∈ qs, WFQuad urlOk q) :
    ∃ σ : β → List Nat, LabelsOK T σ ∧
      pipeNQ T ascii quads U s (some (.strf j)) src (qs.map (Quad.map node)) =
        .ok (encodeDoc T ascii σ quads (pipeStatements src (if quads then .quads else .triples) qs)) := by
  generalize hps : pipeStatements src (if quads then Kind.quads else Kind.triples) qs = ps at hocc
  have hwfps : ∀ q ∈ ps, WFQuad urlOk q := by rw [← hps]; exact wf_pipeStatements urlOk _ _ qs hwf
  obtain ⟨p, s1, a, h⟩ := pipe_assigned (fun l => labelOK T l = true) U hU hUok s hI j hj node hnode ps hocc hscope
  generalize a ∘ node = σ at h
  obtain ⟨hinj, hgood, hprov, hlab, _⟩ := h
  refine ⟨σ, ⟨hinj, hgood⟩, ?_⟩
  simp only [pipeNQ, hprov, pipeStatements_map, hps]
  rw [pipeLoop_ok T ascii quads U p _ 0 s1 [] _ hlab]
  · simp [encodeDoc_map]
  · intro q' hq'
    obtain ⟨q0, hq0, rfl⟩ := List.mem_map.mp hq'
    rw [encodeQuad_map, Proofs.C01.encodeQuad_wf T ascii _ urlOk quads q0 (hwfps q0 hq0)]
    rfl

theorem dropGraph_of_g_none (q : Quad β) (h : q.g = none) : C01.Quad.dropGraph q = q := by
  obtain ⟨s, p, o, g⟩ := q
  simp only at h
  subst h
  rfl

end RdfModel.Proofs.C18
