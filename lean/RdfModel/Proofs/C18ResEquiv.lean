import RdfModel.Model.TurtleEncoder
import RdfModel.Proofs.C17Builder
namespace RdfModel.Proofs.C18Res
open RdfModel RdfModel.Desc RdfModel.TtlEnc

-- some lemmas below (the ones about `smap`, depth, predicates and the single pieces of `write`) do not compare nodes, but
-- carry the two `DecidableEq` instances of the `variable` line like the rest, so that all are applied alike
set_option linter.unusedSectionVars false

variable {β γ : Type} [DecidableEq β] [DecidableEq γ]

/-! ### renaming trees

  `smap f` renames the nodes of a statement tree. It is `smaps f = List.map (smap f)` (`smaps_eq`); the mutual pair is
  there only because the recursion through the nested `List (Stmt β)` has to be structural. -/

mutual
def smap (f : β → γ) : Stmt β → Stmt γ
  | .obj p o => .obj p (o.map f)
  | .anon p l => .anon p (smaps f l)
def smaps (f : β → γ) : List (Stmt β) → List (Stmt γ)
  | [] => []
  | s :: l => smap f s :: smaps f l
end

theorem smaps_eq (f : β → γ) (l : List (Stmt β)) : smaps f l = l.map (smap f) := by
  induction l with
  | nil => simp [smaps]
  | cons s l ih => simp [smaps, ih]

theorem smap_anon (f : β → γ) (p : List Nat) (l : List (Stmt β)) : smap f (.anon p l) = .anon p (l.map (smap f)) := by
  simp [smap, smaps_eq]

theorem smap_obj (f : β → γ) (p : List Nat) (o : Term β) : smap f (.obj p o) = .obj p (o.map f) := by
  simp [smap]

def rmap (f : β → γ) : Resource β → Resource γ
  | .subject s st => .subject (s.map (Term.map f)) (st.map (smap f))
  | .anon st => .anon (st.map (smap f))

def pomap (f : β → γ) (po : PO β) : PO γ := (po.1, po.2.map f)

theorem term_map_inj {f : β → γ} (hf : Function.Injective f) : Function.Injective (Term.map f) := by
  intro a b h
  cases a <;> cases b <;> simp [Term.map] at h ⊢
  · exact h
  · exact hf h
  · exact h

theorem term_map_eq_iff {f : β → γ} (hf : Function.Injective f) (a b : Term β) : a.map f = b.map f ↔ a = b :=
  ⟨fun h => term_map_inj hf h, fun h => by rw [h]⟩

theorem term_map_eq_iri (f : β → γ) (a : Term β) (v : List Nat) : a.map f = Term.iri v ↔ a = Term.iri v := by
  cases a <;> simp [Term.map]

theorem mem_map_inj {f : β → γ} (hf : Function.Injective f) (b : β) (V : List β) : f b ∈ V.map f ↔ b ∈ V := by
  refine ⟨fun h => ?_, List.mem_map_of_mem⟩
  obtain ⟨a, ha, hab⟩ := List.mem_map.mp h
  exact hf hab ▸ ha

/-! ### the builder

  The export reads a builder through `stmts` and `refCount` only; for `build` both have closed forms
  (`C17.stmts_build`, `C17.refCount_build`), so the builder of the renamed triples holds the renamed entries. -/

/-- `B'` holds for the renamed terms what `B` holds for the terms -/
structure Renames (f : β → γ) (B : Builder β) (B' : Builder γ) : Prop where
  stmts : ∀ s, B'.stmts (s.map f) = (B.stmts s).map (pomap f)
  refCount : ∀ b, B'.refCount (f b) = B.refCount b

open RdfModel.Proofs.C17 in
theorem renames_build {f : β → γ} (hf : Function.Injective f) (ts : List (Triple β)) :
    Renames f (build ts) (build (ts.map (Triple.map f))) where
  stmts s := by
    rw [stmts_build, stmts_build, List.filter_map, List.map_map, List.map_map]
    congr 1
    exact List.filter_congr fun t _ => by simp [Triple.map, term_map_eq_iff hf]
  refCount b := by
    rw [refCount_build, refCount_build, C17.refs, C17.refs, List.countP_map]
    refine List.countP_congr fun t _ => ?_
    simp only [Function.comp, Triple.map, decide_eq_true_eq]
    exact decide_eq_true_iff.trans (term_map_eq_iff hf t.o (Term.bnode b))

open RdfModel.Proofs.C17 in
theorem subjects_build_map {f : β → γ} (hf : Function.Injective f) (ts : List (Triple β)) :
    (build (ts.map (Triple.map f))).subjects = (build ts).subjects.map (Term.map f) := by
  rw [build, build, subjects_add, subjects_add, List.map_map, List.foldl_map, List.foldl_map]
  refine List.foldl_hom (List.map (Term.map f)) (init := []) fun ks t => ?_
  simp only [addKey, Function.comp, Triple.map, mem_map_inj (term_map_inj hf), apply_ite (List.map _), List.map_append,
    List.map_cons, List.map_nil]

theorem mark_map {f : β → γ} (hf : Function.Injective f) (V : List β) (b : β) :
    mark (V.map f) (f b) = (mark V b).map f := by
  simp only [mark, mem_map_inj hf, apply_ite (List.map f), List.map_cons]

theorem markSubject_map {f : β → γ} (hf : Function.Injective f) (V : List β) (s : Term β) :
    markSubject (V.map f) (s.map f) = (markSubject V s).map f := by
  cases s with
  | bnode b => exact mark_map hf V b
  | _ => rfl

theorem isInlV_map {f : β → γ} (hf : Function.Injective f) {B : Builder β} {B' : Builder γ} (h : Renames f B B') (opts : Opts)
    (V : List β) (t : Term β) : B'.isInlV opts (V.map f) (t.map f) = B.isInlV opts V t := by
  cases t with
  | bnode b =>
    simp only [Term.map, Builder.isInlV, h.refCount, mem_map_inj hf]
  | _ => rfl

theorem isInl_map {f : β → γ} {B : Builder β} {B' : Builder γ} (h : Renames f B B') (opts : Opts) (t : Term β) :
    B'.isInl opts (t.map f) = B.isInl opts t := by
  cases t with
  | bnode b => simp only [Term.map, Builder.isInl, h.refCount]
  | _ => rfl

/-- results of the statement export, renamed -/
def resS (f : β → γ) (r : Option (List (Stmt β) × List β)) : Option (List (Stmt γ) × List γ) :=
  r.map (fun x => (x.1.map (smap f), x.2.map f))

theorem foldStmtsV_map {f : β → γ} (hf : Function.Injective f) {B : Builder β} {B' : Builder γ}
    (h : Renames f B B') (opts : Opts)
    (rec : Term β → List β → Option (List (Stmt β) × List β))
    (rec' : Term γ → List γ → Option (List (Stmt γ) × List γ))
    (hrec : ∀ t V, rec' (t.map f) (V.map f) = resS f (rec t V)) (pos : List (PO β)) :
    ∀ V, Builder.foldStmtsV B' opts rec' (pos.map (pomap f)) (V.map f) =
      resS f (Builder.foldStmtsV B opts rec pos V) := by
  induction pos with
  | nil => intro V; rfl
  | cons po rest ih =>
    intro V
    simp only [List.map_cons, Builder.foldStmtsV, pomap, isInlV_map hf h, hrec]
    split
    · cases rec po.2 V with
      | none => rfl
      | some x =>
        obtain ⟨lb, V1⟩ := x
        simp only [resS, Option.map_some]
        rw [ih V1]
        cases Builder.foldStmtsV B opts rec rest V1 with
        | none => rfl
        | some y => simp [resS, smap_anon]
    · rw [ih V]
      cases Builder.foldStmtsV B opts rec rest V with
      | none => rfl
      | some y => simp [resS, smap_obj]

theorem exportStatementsV_map {f : β → γ} (hf : Function.Injective f) {B : Builder β} {B' : Builder γ}
    (h : Renames f B B') (opts : Opts) :
    ∀ (fuel : Nat) (s : Term β) (V : List β),
      Builder.exportStatementsV B' opts fuel (s.map f) (V.map f) =
        resS f (Builder.exportStatementsV B opts fuel s V) := by
  intro fuel
  induction fuel with
  | zero => intro s V; rfl
  | succ n ih =>
    intro s V
    simp only [Builder.exportStatementsV, h.stmts, markSubject_map hf]
    exact foldStmtsV_map hf h opts _ _ ih _ _

theorem resourceOf_map {f : β → γ} {B : Builder β} {B' : Builder γ} (h : Renames f B B') (opts : Opts) (s : Term β)
    (st : List (Stmt β)) :
    B'.resourceOf opts (s.map f) (st.map (smap f)) = rmap f (B.resourceOf opts s st) := by
  cases s with
  | bnode b =>
    simp only [Term.map, Builder.resourceOf, h.refCount]
    split <;> simp [rmap, Term.map]
  | _ => simp [Builder.resourceOf, rmap, Term.map]

def resR (f : β → γ) (r : Option (List (Resource β) × List β)) : Option (List (Resource γ) × List γ) :=
  r.map (fun x => (x.1.map (rmap f), x.2.map f))

theorem exportResourceV_map {f : β → γ} (hf : Function.Injective f) {B : Builder β} {B' : Builder γ}
    (h : Renames f B B') (opts : Opts) (fuel : Nat)
    (s : Term β) (V : List β) :
    B'.exportResourceV opts fuel (s.map f) (V.map f) =
      (B.exportResourceV opts fuel s V).map (fun x => (rmap f x.1, x.2.map f)) := by
  simp only [Builder.exportResourceV, exportStatementsV_map hf h]
  cases B.exportStatementsV opts fuel s V with
  | none => rfl
  | some x => simp [resS, resourceOf_map h]

theorem foldRootsV_map {f : β → γ} (hf : Function.Injective f) {B : Builder β} {B' : Builder γ}
    (h : Renames f B B') (opts : Opts) (fuel : Nat)
    (pick : Term β → List β → Bool) (pick' : Term γ → List γ → Bool)
    (hp : ∀ s V, pick' (s.map f) (V.map f) = pick s V) (ord : List (Term β)) :
    ∀ V, Builder.foldRootsV B' opts fuel pick' (ord.map (Term.map f)) (V.map f) =
      resR f (Builder.foldRootsV B opts fuel pick ord V) := by
  induction ord with
  | nil => intro V; rfl
  | cons s rest ih =>
    intro V
    simp only [List.map_cons, Builder.foldRootsV, hp, exportResourceV_map hf h]
    split
    · cases B.exportResourceV opts fuel s V with
      | none => rfl
      | some x =>
        obtain ⟨r, V1⟩ := x
        simp only [Option.map_some, ih V1]
        cases Builder.foldRootsV B opts fuel pick rest V1 <;> rfl
    · exact ih V

theorem exportResourcesV_map {f : β → γ} (hf : Function.Injective f) {B : Builder β} {B' : Builder γ}
    (h : Renames f B B') (opts : Opts)
    (ord1 ord2 : List (Term β)) (fuel : Nat) :
    B'.exportResourcesV opts (ord1.map (Term.map f)) (ord2.map (Term.map f)) fuel =
      (B.exportResourcesV opts ord1 ord2 fuel).map (List.map (rmap f)) := by
  simp only [Builder.exportResourcesV]
  have h1 := foldRootsV_map hf h opts fuel (B.pick1 opts) (B'.pick1 opts)
    (by intro s V; simp [Builder.pick1, isInl_map h]) ord1 []
  simp only [List.map_nil] at h1
  rw [h1]
  cases Builder.foldRootsV B opts fuel (B.pick1 opts) ord1 [] with
  | none => rfl
  | some x =>
    obtain ⟨rs1, V1⟩ := x
    simp only [resR, Option.map_some]
    rw [foldRootsV_map hf h opts fuel (B.pick2 opts) (B'.pick2 opts)
      (by intro s V; simp [Builder.pick2, isInlV_map hf h]) ord2 V1]
    cases Builder.foldRootsV B opts fuel (B.pick2 opts) ord2 V1 <;> simp [resR]


def cmap (f : β → γ) : Cell β → Cell γ
  | .last x => .last (smap f x)
  | .more x r => .more (smap f x) (r.map (smap f))
  | .notList => .notList

def jmap (f : β → γ) : Job β → Job γ
  | .put i l => .put i (l.map (smap f))
  | .stmt i s => .stmt i (smap f s)
  | .list i es => .list i (es.map (smap f))

theorem stmtPred_map (f : β → γ) (s : Stmt β) : stmtPred (smap f s) = stmtPred s := by
  cases s <;> simp [smap, stmtPred]

theorem withPred_map (f : β → γ) (p : List Nat) (l : List (Stmt β)) :
    withPred p (l.map (smap f)) = (withPred p l).map (smap f) := by
  simp [withPred, List.filter_map, Function.comp_def, stmtPred_map]

theorem preds_map (f : β → γ) (l : List (Stmt β)) : (l.map (smap f)).map stmtPred = l.map stmtPred := by
  simp [List.map_map, Function.comp_def, stmtPred_map]

theorem predicateList_map (f : β → γ) (l : List (Stmt β)) : predicateList (l.map (smap f)) = predicateList l := by
  simp only [predicateList, preds_map]

mutual
theorem stmtDepth_map (f : β → γ) : ∀ s : Stmt β, stmtDepth (smap f s) = stmtDepth s
  | .obj _ _ => by simp [smap, stmtDepth]
  | .anon p l => by simp [smap, stmtDepth, stmtsDepth_maps f l]
theorem stmtsDepth_maps (f : β → γ) : ∀ l : List (Stmt β), stmtsDepth (smaps f l) = stmtsDepth l
  | [] => by simp [smaps, stmtsDepth]
  | s :: l => by simp [smaps, stmtsDepth, stmtDepth_map f s, stmtsDepth_maps f l]
end

theorem stmtsDepth_map (f : β → γ) (l : List (Stmt β)) : stmtsDepth (l.map (smap f)) = stmtsDepth l := by
  rw [← smaps_eq]; exact stmtsDepth_maps f l

theorem listCellOf_map (f : β → γ) (d : Bool) (l : List (Stmt β)) :
    listCellOf d (l.map (smap f)) = cmap f (listCellOf d l) := by
  unfold listCellOf
  have hO : (l.map (smap f)).filter (fun s => stmtPred s != rdfType && stmtPred s != Desc.rdfFirst && stmtPred s != Desc.rdfRest)
      = (l.filter (fun s => stmtPred s != rdfType && stmtPred s != Desc.rdfFirst && stmtPred s != Desc.rdfRest)).map (smap f) := by
    simp [List.filter_map, Function.comp_def, stmtPred_map]
  simp only [withPred_map, hO, List.isEmpty_map, apply_ite (cmap f)]
  generalize withPred rdfType l = Ty
  generalize withPred Desc.rdfFirst l = F
  generalize withPred Desc.rdfRest l = R
  refine ite_congr ?_ (fun _ => rfl) fun _ => ?_
  · congr 3
    rcases Ty with _ | ⟨s, _ | ⟨s2, Ty⟩⟩
    · rfl
    · cases s <;> simp [smap_obj, smap_anon, term_map_eq_iri]
    · cases s <;> simp [smap_obj, smap_anon]
  · rcases F with _ | ⟨a, _ | ⟨a2, F⟩⟩
    · simp [cmap]
    · rcases R with _ | ⟨r, _ | ⟨r2, R⟩⟩
      · simp [cmap]
      · cases r with
        | obj p o =>
          simp only [List.map_cons, List.map_nil, smap_obj]
          by_cases ho : o = Term.iri Desc.rdfNil
          · simp [ho, cmap, Term.map]
          · have : o.map f ≠ Term.iri Desc.rdfNil := fun h => ho ((term_map_eq_iri f o _).mp h)
            simp [ho, this, cmap]
        | anon p sub => simp [smap_anon, cmap]
      · simp [cmap]
    · simp [cmap]

theorem listSyntaxAux_map (f : β → γ) (d : Bool) : ∀ (n : Nat) (l : List (Stmt β)),
    listSyntaxAux d n (l.map (smap f)) = (listSyntaxAux d n l).map (Option.map (List.map (smap f))) := by
  intro n
  induction n with
  | zero => intro l; rfl
  | succ n ih =>
    intro l
    simp only [listSyntaxAux, listCellOf_map]
    cases listCellOf d l with
    | notList => simp [cmap]
    | last x => simp [cmap]
    | more x sub =>
      simp only [cmap, ih]
      cases listSyntaxAux d n sub with
      | none => rfl
      | some r => cases r <;> simp

theorem mapOR_map {α α' δ : Type} (g : α' → OR δ) (h : α → α') (l : List α) :
    mapOR g (l.map h) = mapOR (fun a => g (h a)) l := by
  induction l with
  | nil => rfl
  | cons a l ih => simp only [List.map_cons, mapOR, ih]

section ctx
variable (T : Ttl.Tables) (cfg : Config) (pm : Prefix.PM) (label : γ → List Nat) (f : β → γ)

theorem writeSubject_map (t : Term β) :
    writeSubject (ctxOf T cfg pm label) (t.map f) = writeSubject (ctxOf T cfg pm (label ∘ f)) t := by
  cases t <;> rfl

theorem usedOfSubject_map (t : Term β) :
    usedOfSubject (ctxOf T cfg pm label).pm (t.map f) = usedOfSubject (ctxOf T cfg pm (label ∘ f)).pm t := by
  cases t <;> rfl

theorem objectPiece_map (o : Term β) :
    objectPiece (ctxOf T cfg pm label) (o.map f) = objectPiece (ctxOf T cfg pm (label ∘ f)) o := by
  cases o <;> rfl

theorem write_map (d7 : Bool) : ∀ (fuel : Nat) (j : Job β),
    write (ctxOf T cfg pm label) d7 fuel (jmap f j) = write (ctxOf T cfg pm (label ∘ f)) d7 fuel j := by
  intro fuel
  induction fuel with
  | zero => intro j; cases j <;> rfl
  | succ n ih =>
    have hstmt : ∀ i s, write (ctxOf T cfg pm label) d7 n (.stmt i (smap f s)) =
        write (ctxOf T cfg pm (label ∘ f)) d7 n (.stmt i s) := fun i s => ih (.stmt i s)
    intro j
    cases j with
    | stmt ind s =>
      cases s with
      | obj p o => simp only [jmap, smap_obj, write, objectPiece_map]
      | anon p sub =>
        simp only [jmap, smap_anon, write, List.isEmpty_map, stmtsDepth_map, listSyntaxAux_map]
        split
        · rfl
        · cases listSyntaxAux d7 (stmtsDepth sub + 1) sub with
          | none => rfl
          | some r =>
            cases r with
            | none => simp only [Option.map_some, Option.map_none, ← ih (.put ind sub), jmap]
            | some es => exact ih (.list ind es)
    | list ind es =>
      simp only [jmap, write, List.isEmpty_map, mapOR_map, hstmt]
    | put ind l =>
      simp only [jmap, write, predicateList_map, withPred_map, List.length_map, mapOR_map, hstmt]
      rfl

theorem fuelFor_map (l : List (Stmt β)) : fuelFor (l.map (smap f)) = fuelFor l := by
  simp [fuelFor, stmtsDepth_map]

theorem resourceSection_map (d7 : Bool) (r : Resource β) :
    resourceSection (ctxOf T cfg pm label) d7 (rmap f r) = resourceSection (ctxOf T cfg pm (label ∘ f)) d7 r := by
  have hput : ∀ st : List (Stmt β), write (ctxOf T cfg pm label) d7 (fuelFor st) (.put 0 (st.map (smap f))) =
      write (ctxOf T cfg pm (label ∘ f)) d7 (fuelFor st) (.put 0 st) := fun st => write_map T cfg pm label f d7 _ (.put 0 st)
  cases r with
  | anon st =>
    simp only [rmap, resourceSection, List.isEmpty_map, fuelFor_map, hput]
  | subject s st =>
    cases s with
    | none => simp only [rmap, resourceSection, List.isEmpty_map, fuelFor_map, hput, Option.map_none]
    | some t =>
      simp only [rmap, resourceSection, List.isEmpty_map, fuelFor_map, hput, Option.map_some, writeSubject_map,
        usedOfSubject_map]

theorem encodeResourceListWith_map (d7 : Bool) (rs : List (Resource β)) :
    encodeResourceListWith T d7 cfg pm label (rs.map (rmap f)) = encodeResourceListWith T d7 cfg pm (label ∘ f) rs := by
  simp only [encodeResourceListWith, mapOR_map, resourceSection_map]

theorem encodeResourcesWith_map (hf : Function.Injective f) (d7 : Bool) (ord1 ord2 : List (Term β))
    (ts : List (Triple β)) :
    encodeResourcesWith T d7 cfg pm label (ord1.map (Term.map f)) (ord2.map (Term.map f)) (ts.map (Triple.map f)) =
      encodeResourcesWith T d7 cfg pm (label ∘ f) ord1 ord2 ts := by
  simp only [encodeResourcesWith, exportResourcesV_map hf (renames_build hf ts), List.length_map]
  cases (build ts).exportResourcesV Opts.default ord1 ord2 (ts.length + 1) with
  | none => rfl
  | some rs => simp only [Option.map_some, encodeResourceListWith_map]

end ctx

/-! ### iteration orders

  `encodeResourcesWith_map` speaks of orders of the form `ord.map (Term.map f)`; an order of the renamed builder's
  subjects has that form, by `subjects_build_map` and: -/

theorem perm_map_inv {α α' : Type} (g : α → α') : ∀ (m : List α) (l : List α'), l.Perm (m.map g) →
    ∃ m' : List α, m'.Perm m ∧ l = m'.map g := by
  intro m
  induction m with
  | nil => intro l h; exact ⟨[], List.Perm.refl _, by simpa using h.eq_nil⟩
  | cons a m ih =>
    intro l h
    have hmem : g a ∈ l := h.symm.subset (by simp)
    obtain ⟨l1, l2, rfl⟩ := List.append_of_mem hmem
    have h2 : (l1 ++ l2).Perm (m.map g) :=
      (List.perm_cons (g a)).mp (by simpa using (List.perm_middle.symm.trans h))
    obtain ⟨m', hm', heq⟩ := ih _ h2
    obtain ⟨m1, m2, rfl, h1, h2'⟩ := List.append_eq_map_iff.mp heq
    refine ⟨m1 ++ a :: m2, ?_, by simp [h1, h2']⟩
    exact List.perm_middle.trans (List.Perm.cons a hm')

end RdfModel.Proofs.C18Res
