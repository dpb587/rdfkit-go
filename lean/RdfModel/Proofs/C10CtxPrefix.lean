import RdfModel.Model.JsonLdContext
namespace RdfModel.JLC
open RdfModel RdfModel.JL

theorem prefixFlag145_iff (mode : Mode) (term : Str) (simple : Bool) (e : SIri) :
    prefixFlag145 mode term simple e = true ↔
      (mode = .v10 ∨ (hasColonOrSlash term = false ∧ simple = true ∧
        ((∃ t c, e = .iri t ∧ t.getLast? = some c ∧ c ∈ genDelims) ∨ (∃ t, e = .bnode t)))) := by
  unfold prefixFlag145
  by_cases hm : mode = .v10
  · simp [hm]
  · have hm' : (mode == Mode.v10) = false := by simpa using hm
    simp only [hm', hm, false_or, Bool.false_eq_true, if_false]
    by_cases hcs : hasColonOrSlash term = true
    · simp [hcs]
    · have hcs' : hasColonOrSlash term = false := by simpa using hcs
      cases simple
      · simp [hcs']
      · simp only [hcs', Bool.not_false, Bool.and_self, if_true, true_and]
        cases e with
        | nil => simp
        | kw k => simp
        | bnode t => simp
        | iri t =>
          cases hl : t.getLast? with
          | none => simp [hl]
          | some c => simp [hl]

theorem prefixStep_ok (mode : Mode) (term : Str) (vo : List (Str × Json)) (e : SIri) (p0 p : Bool)
    (h : prefixStep mode term vo e p0 = .ok p) :
    (getKey kPrefix vo = none ∧ p = p0) ∨
    (getKey kPrefix vo = some (.bool p) ∧ mode ≠ .v10 ∧ term.contains cColon = false ∧ term.contains cSlash = false ∧
      (p = true → ∀ k, e ≠ .kw k)) := by
  unfold prefixStep at h
  split at h
  · left
    simp_all
  · right
    rename_i v hv
    split at h
    · simp at h
    · split at h
      · simp at h
      · rename_i hm hcs
        have hm' : mode ≠ .v10 := by simpa using hm
        simp only [Bool.or_eq_true, not_or, Bool.not_eq_true] at hcs
        split at h
        · split at h
          · simp at h
          · rename_i hk
            simp only [Except.ok.injEq] at h
            subst h
            refine ⟨hv, hm', hcs.1, hcs.2, fun _ k hek => ?_⟩
            exact hk k hek
        · simp only [Except.ok.injEq] at h
          subst h
          exact ⟨hv, hm', hcs.1, hcs.2, fun hf => by simp at hf⟩
        · simp at h

/-! ## `Context.clone` at the level of Go's heap

  The executable model has value semantics. What `clone` must guarantee in Go is about aliasing: Create
  Term Definition writes (`m[term] = definition`, `delete(m, term)`) through the `TermDefinitions` map of
  the context it is given. This micro-model has map objects in a heap addressed by number; a context
  refers to its map by address. `cloneH` is `clone` as coded: a fresh map object, entries copied.
  `shallowH` is the clone a seeded defect would produce (`TermDefinitions: c.TermDefinitions`). -/

abbrev Heap := List TermMap

inductive Write where
  | set (k : Str) (d : TermDef)
  | del (k : Str)

def Heap.write (h : Heap) (ref : Nat) : Write → Heap
  | .set k d => h.modify ref (mset k d)
  | .del k => h.modify ref (mdel k)

/-- `cClone.TermDefinitions = map{}; for k, v := range c.TermDefinitions { cClone.TermDefinitions[k] = v }` -/
def cloneH (h : Heap) (ref : Nat) : Heap × Nat := (h ++ [h.getD ref []], h.length)

def shallowH (h : Heap) (ref : Nat) : Heap × Nat := (h, ref)

theorem write_other (h : Heap) (ref ref' : Nat) (w : Write) (hne : ref ≠ ref') :
    (h.write ref w).getD ref' [] = h.getD ref' [] := by
  cases w <;> simp [Heap.write, List.getD, hne]

theorem write_length (h : Heap) (ref : Nat) (w : Write) : (h.write ref w).length = h.length := by
  cases w <;> simp [Heap.write]

theorem writes_other (ref ref' : Nat) (hne : ref ≠ ref') : ∀ (ws : List Write) (h : Heap),
    (ws.foldl (fun h w => h.write ref w) h).getD ref' [] = h.getD ref' []
  | [], _ => rfl
  | w :: ws, h => by
    simp only [List.foldl_cons]
    rw [writes_other ref ref' hne ws, write_other h ref ref' w hne]

theorem cloneH_copies (h : Heap) (ref : Nat) : (cloneH h ref).1.getD (cloneH h ref).2 [] = h.getD ref [] := by
  simp [cloneH, List.getD]

end RdfModel.JLC
