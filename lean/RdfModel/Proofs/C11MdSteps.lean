/-
  Model/MicrodataDecoder.walk never runs out of its depth budget `fuelFor doc`, never reaches the itemtype panic, emits
  well-formed statements (C06) and does polynomial work (C05): at most one expansion per node identity, at most N · (1 + R)
  `walk` calls (N nodes, R itemref tokens), at most N · R RecursedItemrefs entries copied (before every itemref jump the Go
  decoder builds a fresh map and copies the current one into it; the model counts the copied entries in `St.copies`) — the
  behaviour listed as C05X-microdata-itemref is QUADRATIC, not worse.
  One walk for all of these.  The argument is the visited-set discipline of the Go code: an element with `itemscope` is
  entered into `ResolvedItemscopes` BEFORE its `itemref`s are followed, and an element found there is not expanded again.
  Depth: along any chain of nested `walk` calls the items whose itemrefs are being followed are pairwise different, and
  between two itemref jumps the chain only descends the tree; so with `U` identities unresolved,
  `height n + 1 + U · (height doc + 1)` nested calls suffice.  Work: an itemref token can trigger a jump only when its
  item is expanded, a jump costs at most one walk over the (whole) tree plus the jumps of the items expanded during it,
  and the map copied has at most as many entries as there are items under expansion on the call stack, i.e. at most
  N − (unresolved identities).
-/
import RdfModel.Proofs.C11MdWf
namespace RdfModel.Mdd
open RdfModel RdfModel.Desc

def lookupR (r : List (Nat × Subj)) (id : Nat) : Option Subj :=
  match r.find? (fun e => e.1 == id) with
  | some e => some e.2
  | none => none

theorem lookup_eq (st : St) (id : Nat) : st.lookup id = lookupR st.resolved id := rfl

theorem lookupR_cons (i : Nat) (s : Subj) (r : List (Nat × Subj)) (j : Nat) :
    lookupR ((i, s) :: r) j = if i = j then some s else lookupR r j := by
  unfold lookupR
  simp only [List.find?_cons]
  by_cases h : i = j
  · simp [h]
  · have : (i == j) = false := by simpa using h
    simp [this, h]

theorem find_none_of_lookupR {r : List (Nat × Subj)} {m : Nat} (h : lookupR r m = none) :
    r.find? (fun e => e.1 == m) = none := by
  unfold lookupR at h
  split at h
  · cases h
  · assumption

/-- number of nodes of the document whose identity is not yet in ResolvedItemscopes -/
def unresR (doc : Node) (r : List (Nat × Subj)) : Nat :=
  ((subnodes doc).filter (fun m => (lookupR r m.id).isNone)).length

theorem filter_sum_lt {α : Type} (l : List α) (g : α → Nat) (p q : α → Bool) (hqp : ∀ x, q x = true → p x = true)
    (n : α) (hn : n ∈ l) (hpn : p n = true) (hqn : q n = false) :
    ((l.filter q).map g).sum + g n ≤ ((l.filter p).map g).sum := by
  have hle : ∀ ys : List α, ((ys.filter q).map g).sum ≤ ((ys.filter p).map g).sum := by
    intro ys
    induction ys with
    | nil => simp
    | cons y ys ih =>
      simp only [List.filter_cons]
      cases hq : q y <;> cases hp : p y
      · simpa using ih
      · simp; omega
      · have := hqp y hq; simp [hp] at this
      · simp; omega
  obtain ⟨l1, l2, rfl⟩ := List.append_of_mem hn
  have h1 := hle l1
  have h2 := hle l2
  simp only [List.filter_append, List.filter_cons, hpn, hqn, ↓reduceIte, Bool.false_eq_true, List.map_append,
    List.map_cons, List.sum_append, List.sum_cons]
  omega

theorem unres_cons_sum (doc n : Node) (hn : n ∈ subnodes doc) (g : Node → Nat) (r : List (Nat × Subj)) (s : Subj)
    (hun : lookupR r n.id = none) :
    (((subnodes doc).filter (fun m => (lookupR ((n.id, s) :: r) m.id).isNone)).map g).sum + g n ≤
      (((subnodes doc).filter (fun m => (lookupR r m.id).isNone)).map g).sum := by
  apply filter_sum_lt _ _ _ _ _ n hn
  · simp [hun]
  · simp [lookupR_cons]
  · intro x hx
    simp only [lookupR_cons] at hx
    split at hx
    · simp at hx
    · exact hx

theorem unresR_cons_lt (doc n : Node) (hn : n ∈ subnodes doc) (r : List (Nat × Subj)) (s : Subj)
    (hun : lookupR r n.id = none) : unresR doc ((n.id, s) :: r) + 1 ≤ unresR doc r := by
  simpa [unresR, List.map_const', List.sum_replicate_nat] using unres_cons_sum doc n hn (fun _ => 1) r s hun

theorem unres_init (doc : Node) : unresR doc [] ≤ (subnodes doc).length := by
  unfold unresR
  exact List.length_filter_le _ _

def refTok (m : Node) : Nat := (fields (trimSpace (scanAttrs m.attrs {}).itemref)).length

/-- itemref tokens on the nodes whose identity is not yet in ResolvedItemscopes -/
def phiR (doc : Node) (r : List (Nat × Subj)) : Nat :=
  (((subnodes doc).filter (fun m => (lookupR r m.id).isNone)).map refTok).sum

theorem phiR_cons (doc n : Node) (hn : n ∈ subnodes doc) (r : List (Nat × Subj)) (s : Subj)
    (hun : lookupR r n.id = none) : phiR doc ((n.id, s) :: r) + refTok n ≤ phiR doc r :=
  unres_cons_sum doc n hn refTok r s hun

/-- the RecursedItemrefs map is no larger than the number of identities already resolved: its entries belong to
    items under expansion on the call stack -/
def InvC (doc : Node) (ctx : Ctx) (st : St) : Prop :=
  ctx.recursed.length + unresR doc st.resolved ≤ (subnodes doc).length

/-- `st'` is reachable from `st` without a failure, with `b` extra steps and `c` extra copied RecursedItemrefs entries
    beyond what the potential pays for; what is resolved stays resolved; under well-formed mappers the statements stay
    well-formed. Six parts, read by position: the failure flag, steps, expansions, copies, the unresolved count
    (`Run.unres`), well-formedness -/
def Run (E : Env) (doc : Node) (b c : Nat) (st st' : St) : Prop :=
  st'.bad = st.bad ∧
  st'.steps + (subnodes doc).length * phiR doc st'.resolved ≤ st.steps + b + (subnodes doc).length * phiR doc st.resolved ∧
  st'.expansions + unresR doc st'.resolved ≤ st.expansions + unresR doc st.resolved ∧
  st'.copies + (subnodes doc).length * phiR doc st'.resolved ≤ st.copies + c + (subnodes doc).length * phiR doc st.resolved ∧
  unresR doc st'.resolved ≤ unresR doc st.resolved ∧
  (MapsWf E → AllWf E st → AllWf E st')

theorem run_refl (E : Env) (doc : Node) (st : St) : Run E doc 0 0 st st :=
  ⟨rfl, by omega, by omega, by omega, Nat.le_refl _, fun _ h => h⟩

theorem run_trans {E : Env} {doc : Node} {b1 b2 c1 c2 : Nat} {x y z : St} (h1 : Run E doc b1 c1 x y)
    (h2 : Run E doc b2 c2 y z) : Run E doc (b1 + b2) (c1 + c2) x z := by
  obtain ⟨p0, p1, p2, p3, p4, p5⟩ := h1
  obtain ⟨q0, q1, q2, q3, q4, q5⟩ := h2
  exact ⟨q0.trans p0, by omega, by omega, by omega, by omega, fun hE h => q5 hE (p5 hE h)⟩

theorem run_weaken {E : Env} {doc : Node} {b b' c c' : Nat} {x y : St} (hb : b ≤ b') (hc : c ≤ c') (h : Run E doc b c x y) :
    Run E doc b' c' x y := by
  obtain ⟨p0, p1, p2, p3, p4, p5⟩ := h
  exact ⟨p0, by omega, p2, by omega, p4, p5⟩

theorem run_emit {E : Env} {doc : Node} {x y : St} (h : y.skel = x.skel) (hw : MapsWf E → AllWf E x → AllWf E y) :
    Run E doc 0 0 x y := by
  unfold Run
  rw [skel_steps h, skel_resolved h, skel_expansions h, skel_copies h, skel_bad h]
  exact ⟨rfl, by omega, by omega, by omega, Nat.le_refl _, hw⟩

theorem Run.unres {E : Env} {doc : Node} {b c : Nat} {x y : St} (h : Run E doc b c x y) :
    unresR doc y.resolved ≤ unresR doc x.resolved := h.2.2.2.2.1

theorem invC_mono {E : Env} {doc : Node} {ctx : Ctx} {b c : Nat} {x y : St} (h : Run E doc b c x y) (i : InvC doc ctx x) :
    InvC doc ctx y := by
  have := h.unres; unfold InvC at *; omega

/-- what the induction over the budget provides for the recursive calls `w`: with at most `U` identities unresolved,
    `height n + 1 + U · (height doc + 1)` nested calls suffice -/
def WRun (E : Env) (w : Ctx → Node → St → St) (doc : Node) (f : Nat) : Prop :=
  ∀ (ctx : Ctx) (n : Node) (st : St) (U : Nat), n ∈ subnodes doc → InvC doc ctx st → unresR doc st.resolved ≤ U →
    height n + 1 + U * (height doc + 1) ≤ f → Run E doc (subnodes n).length 0 st (w ctx n st)

theorem kids_run {E : Env} {w : Ctx → Node → St → St} {doc : Node} {f : Nat} (ih : WRun E w doc f) (ctx : Ctx) (ks : List Node) (st : St)
    (U : Nat) (hks : ∀ k ∈ ks, k ∈ subnodes doc ∧ height k + 1 + U * (height doc + 1) ≤ f) (hi : InvC doc ctx st)
    (hU : unresR doc st.resolved ≤ U) : Run E doc (subnodesL ks).length 0 st (walkKidsWith w ctx ks st) := by
  unfold walkKidsWith
  induction ks generalizing st with
  | nil => exact run_refl E doc st
  | cons k ks ihk =>
    simp only [List.foldl_cons, subnodesL, List.length_append]
    have h1 := ih ctx k st U (hks k (by simp)).1 hi hU (hks k (by simp)).2
    exact run_trans h1 (ihk _ (fun x hx => hks x (by simp [hx])) (invC_mono h1 hi) (Nat.le_trans h1.unres hU))

theorem kids_of {doc n : Node} {U f : Nat} (hn : n ∈ subnodes doc) (hf : height n + U * (height doc + 1) ≤ f) :
    ∀ k ∈ n.kids, k ∈ subnodes doc ∧ height k + 1 + U * (height doc + 1) ≤ f := by
  intro k hk
  have := height_kid hk
  exact ⟨kid_sub hn hk, by omega⟩

/-- the itemref loop of an item under expansion: every token costs at most one walk over the whole tree and one copy
    of a map that is smaller than the tree -/
theorem itemrefs_run {E : Env} {w : Ctx → Node → St → St} {doc : Node} {f : Nat} (ih : WRun E w doc f) (ctx : Ctx) (n : Node)
    (refs : List Bytes) (st : St) (U : Nat) (hi : ctx.recursed.length + 1 + unresR doc st.resolved ≤ (subnodes doc).length)
    (hU : unresR doc st.resolved ≤ U) (hf : height doc + 1 + U * (height doc + 1) ≤ f) :
    Run E doc (refs.length * (subnodes doc).length) (refs.length * (subnodes doc).length) st
      (itemrefsWith w doc ctx n refs st) := by
  unfold itemrefsWith
  induction refs generalizing st with
  | nil => simpa using run_refl E doc st
  | cons ref refs ihr =>
    simp only [List.foldl_cons, List.length_cons]
    have hstep : Run E doc (subnodes doc).length (subnodes doc).length st (itemrefStep w doc ctx n st ref) := by
      have h0 := run_weaken (Nat.zero_le (subnodes doc).length) (Nat.zero_le (subnodes doc).length) (run_refl E doc st)
      unfold itemrefStep
      split
      · exact h0
      · split
        · exact h0
        · rename_i target ht
          split
          · exact h0
          · split
            · exact h0
            · have hh := height_sub doc target (findId_mem ht)
              obtain ⟨p0, p1, p2, p3, p4, p5⟩ := ih { ctx with recursed := ref :: ctx.recursed } target
                { st with copies := st.copies + ctx.recursed.length } U (findId_mem ht)
                (by unfold InvC; simp only [List.length_cons]; omega) hU (by omega)
              have := size_sub doc target (findId_mem ht)
              simp only at p0 p1 p2 p3 p4
              exact ⟨p0, by omega, p2, by omega, p4, p5⟩
    have h4 := hstep.unres
    have := run_trans hstep (ihr _ (by omega) (by omega))
    rw [Nat.succ_mul]
    exact run_weaken (by omega) (by omega) this

/-- entering `n` into ResolvedItemscopes releases the potential of its itemref tokens: it pays `k · N` steps and copies -/
theorem run_resolve {E : Env} {doc : Node} {x y : St} {e : Nat × Subj} {k : Nat}
    (h : Run E doc ((subnodes doc).length * k) ((subnodes doc).length * k)
      { x with resolved := e :: x.resolved, expansions := x.expansions + 1 } y)
    (hphi : phiR doc (e :: x.resolved) + k ≤ phiR doc x.resolved)
    (hlt : unresR doc (e :: x.resolved) + 1 ≤ unresR doc x.resolved) : Run E doc 0 0 x y := by
  obtain ⟨p0, p1, p2, p3, p4, p5⟩ := h
  have hmul := Nat.mul_le_mul_left (subnodes doc).length hphi
  rw [Nat.mul_add] at hmul
  dsimp only at p0 p1 p2 p3 p4
  exact ⟨p0, by omega, by omega, by omega, by omega, p5⟩

theorem expand_run {E : Env} {w : Ctx → Node → St → St} {doc : Node} {f : Nat} (ih : WRun E w doc f) (ctx : Ctx) (n : Node)
    (a : ItemAttrs) (ha : a = scanAttrs n.attrs {}) (next : Subj) (st : St) (U : Nat) (hn : n ∈ subnodes doc)
    (hun : lookupR st.resolved n.id = none) (hi : InvC doc ctx st) (hU : unresR doc st.resolved ≤ U)
    (hf : height n + U * (height doc + 1) ≤ f) :
    Run E doc (subnodesL n.kids).length 0 st (expandItem E w doc ctx n a next st) := by
  unfold expandItem
  simp only
  generalize hR : (if a.itemtype ≠ [] then emitTypes E next (typeTokens a.itemtype) st else ([], st)) = R
  have hsk : R.2.skel = st.skel := by
    rw [← hR]; split
    · exact emitTypes_skel E _ _ st (typeTokens_ne _)
    · rfl
  have c0 : Run E doc 0 0 st R.2 := run_emit hsk fun _ h => by
    rw [← hR]; split
    · exact emitTypes_wf E _ _ (typeTokens_ne _) st h
    · exact h
  rw [← skel_resolved hsk] at hun hU
  have hphi := phiR_cons doc n hn R.2.resolved next hun
  have hlt := unresR_cons_lt doc n hn R.2.resolved next hun
  -- resolving `n` leaves one identity fewer: the calls below get by with `V = U - 1`
  obtain ⟨V, rfl⟩ : ∃ V, U = V + 1 := ⟨U - 1, by omega⟩
  have hmul : (V + 1) * (height doc + 1) = V * (height doc + 1) + (height doc + 1) := Nat.succ_mul _ _
  have hnd := height_sub doc n hn
  have hi' := invC_mono c0 hi
  -- the jumps are paid for by the potential released when `n` became resolved
  have c1 : Run E doc 0 0 R.2 (if a.itemref ≠ [] then
      itemrefsWith w doc { ctx with subj := some next, types := R.1 } n (fields (trimSpace a.itemref))
        { R.2 with resolved := (n.id, next) :: R.2.resolved, expansions := R.2.expansions + 1 }
      else { R.2 with resolved := (n.id, next) :: R.2.resolved, expansions := R.2.expansions + 1 }) := by
    refine run_resolve (k := refTok n) ?_ hphi hlt
    split
    · have := itemrefs_run ih { ctx with subj := some next, types := R.1 } n (fields (trimSpace a.itemref))
        { R.2 with resolved := (n.id, next) :: R.2.resolved, expansions := R.2.expansions + 1 } V
        (by unfold InvC at hi'; show ctx.recursed.length + 1 + unresR doc ((n.id, next) :: R.2.resolved) ≤ _; omega)
        (show unresR doc ((n.id, next) :: R.2.resolved) ≤ V by omega) (by omega)
      have hlen : (fields (trimSpace a.itemref)).length = refTok n := by rw [ha]; rfl
      rw [hlen, Nat.mul_comm] at this
      exact this
    · exact run_weaken (Nat.zero_le _) (Nat.zero_le _) (run_refl E doc _)
  have c01 := run_trans c0 c1
  have c2 := kids_run ih { ctx with subj := some next, types := R.1 } n.kids _ (V + 1)
    (kids_of hn hf) (invC_mono c01 hi) (Nat.le_trans c01.unres (by rw [skel_resolved hsk] at hU; exact hU))
  have := run_trans c01 c2
  simpa using this

theorem step_run {E : Env} {w : Ctx → Node → St → St} {doc : Node} {f : Nat} (ih : WRun E w doc f) :
    WRun E (walkStep E w doc) doc (f + 1) := by
  intro ctx n st U hn hi hU hf
  have hW : (subnodes n).length = 1 + (subnodesL n.kids).length := by rw [subnodes_eq]; simp; omega
  have c0 : Run E doc 1 0 st { st with steps := st.steps + 1 } := ⟨rfl, by simp, by simp, by simp, Nat.le_refl _, fun _ h => h⟩
  have hi0 : InvC doc ctx { st with steps := st.steps + 1 } := hi
  have hU0 : unresR doc ({ st with steps := st.steps + 1 } : St).resolved ≤ U := hU
  have hk := kids_of hn (show height n + U * (height doc + 1) ≤ f by omega)
  unfold walkStep
  simp only
  generalize hS0 : ({ st with steps := st.steps + 1 } : St) = st0 at c0 hi0 hU0
  rw [hW]
  split
  · exact run_trans c0 (kids_run ih ctx n.kids st0 U hk hi0 hU0)
  · split
    · unfold visitItem
      simp only
      obtain ⟨k, hsub⟩ := itemSubject_nextBn E (scanAttrs n.attrs {}) (st0.lookup n.id) st0
      generalize itemSubject E (scanAttrs n.attrs {}) (st0.lookup n.id) st0 = r at hsub
      have hkl := linkItem_skel E ctx (scanAttrs n.attrs {}) r.1 r.2
      have c1 : Run E doc 0 0 st0 (linkItem E ctx (scanAttrs n.attrs {}) r.1 r.2) :=
        run_trans (b1 := 0) (c1 := 0) (by rw [hsub]; exact run_refl E doc st0)
          (run_emit hkl fun _ => linkItem_wf E ctx _ r.1 r.2)
      split
      · exact run_weaken (by omega) (Nat.le_refl _) (run_trans c0 c1)
      · rename_i hnone
        have c2 := expand_run (E := E) ih ctx n (scanAttrs n.attrs {}) rfl r.1 (linkItem E ctx (scanAttrs n.attrs {}) r.1 r.2) U hn
          (by rw [skel_resolved hkl, hsub]; exact hnone) (invC_mono c1 hi0) (Nat.le_trans c1.unres hU0) (by omega)
        have := run_trans (run_trans c0 c1) c2
        simpa using this
    · have c1 : Run E doc 0 0 st0 (propElem E ctx n (scanAttrs n.attrs {}) st0) :=
        run_emit (propElem_skel E ctx n _ st0) fun hE => propElem_wf E hE ctx n _ st0
      have := run_trans (run_trans c0 c1) (kids_run ih ctx n.kids _ U hk (invC_mono c1 hi0) (Nat.le_trans c1.unres hU0))
      simpa using this

theorem walk_run (E : Env) (doc : Node) : ∀ f, WRun E (walk E doc f) doc f := by
  intro f
  induction f with
  | zero => intro ctx n st U _ _ _ hf; omega
  | succ f ih => exact step_run ih

/-- total number of itemref tokens in the document -/
def refTokens (doc : Node) : Nat := ((subnodes doc).map refTok).sum

theorem phiR_nil (doc : Node) : phiR doc [] = refTokens doc := by
  unfold phiR refTokens
  have : (subnodes doc).filter (fun m => (lookupR [] m.id).isNone) = subnodes doc := by
    apply List.filter_eq_self.mpr
    intro m _
    simp [lookupR]
  rw [this]

theorem run_run (E : Env) (doc : Node) : Run E doc (subnodes doc).length 0 {} (run E doc) := by
  have hu := unres_init doc
  exact walk_run E doc (fuelFor doc) {} doc {} (subnodes doc).length (self_mem doc)
    (by unfold InvC; simpa using hu) (by simpa using hu) (by
      unfold fuelFor
      have := Nat.succ_mul (subnodes doc).length (height doc + 1)
      simp only [Nat.succ_eq_add_one] at this
      omega)

theorem run_bad_none (E : Env) (doc : Node) : (run E doc).bad = none := (run_run E doc).1

theorem decode_eq_run (E : Env) (t : Node) :
    decode E t = .ok (run E (relabel t)).out.reverse (run E (relabel t)).hooks.reverse := by
  unfold decode finish; rw [run_bad_none]

theorem run_steps_le (E : Env) (doc : Node) :
    (run E doc).steps ≤ (subnodes doc).length * (1 + refTokens doc) := by
  have h := (run_run E doc).2.1
  have h0 : ({} : St).resolved = [] := rfl
  have h1 : ({} : St).steps = 0 := rfl
  rw [h0, h1, phiR_nil] at h
  rw [Nat.mul_add]
  omega

theorem run_expansions_le (E : Env) (doc : Node) : (run E doc).expansions ≤ (subnodes doc).length := by
  have h := (run_run E doc).2.2.1
  have h0 : ({} : St).resolved = [] := rfl
  have h1 : ({} : St).expansions = 0 := rfl
  have := unres_init doc
  rw [h0, h1] at h
  omega

theorem run_copies_le (E : Env) (doc : Node) : (run E doc).copies ≤ (subnodes doc).length * refTokens doc := by
  have h := (run_run E doc).2.2.2.1
  have h0 : ({} : St).resolved = [] := rfl
  have h1 : ({} : St).copies = 0 := rfl
  rw [h0, h1, phiR_nil] at h
  omega

theorem run_wf (E : Env) (hE : MapsWf E) (doc : Node) : ∀ t ∈ (run E doc).out, WfStmt E t :=
  (run_run E doc).2.2.2.2.2 hE (by intro t ht; simp at ht)

end RdfModel.Mdd
