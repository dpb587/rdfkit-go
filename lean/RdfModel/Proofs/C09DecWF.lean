/-
  One pass over the decoder model for three facts: every statement it appends is well-formed, no piece of it reaches
  `panic` unless `Base.Parse("")` can fail, and the height of the frame stack is the nesting depth of the tokens read
  (so a token list that leaves an element open never ends cleanly).
  Invariant: all statements appended so far are well-formed (`OutWF`), every language held by a context is
  non-empty (`LangOK`), every subject held by a frame is an IRI or a blank node (`FrameOK`).  The places that can
  panic need nothing of the stack: the indexings into `d.statements` follow an append, the type assertion
  `.(rdf.SubjectValue)` is applied to an object the code has just built.
-/
import RdfModel.Props.C09DecDefs
import RdfModel.Proofs.C01Consts
namespace RdfModel.RXD
open RdfModel RdfModel.Desc RdfModel.RX RdfModel.C09Dec

/-- `(*iri.ParsedIRI).Parse("")` never fails (`url.Parse("")` succeeds) -/
def Params.EmptyRefOK (P : Params) : Prop := ∀ b, P.resolve b [] ≠ none

def LangOK (c : Ctx) : Prop := ∀ l, c.lang = some l → l ≠ []
def OutWF (st : St) : Prop := ∀ t ∈ st.out, WFTriple t

/-- postcondition of a piece of straight-line code: the statements stay well-formed (also when it fails), and it
    panics only if the empty reference can fail to resolve -/
def Res.Sat {α : Type} (P : Params) (x : Res α) (Q : α → St → Prop) : Prop :=
  match x with
  | .ok a st => OutWF st ∧ Q a st
  | .fail _ st => OutWF st
  | .panic => ¬P.EmptyRefOK

def FrameOK : Frame → Prop
  | .rdf ctx => LangOK ctx
  | .props ctx subj _ ret => LangOK ctx ∧ WFSubj subj ∧ (match ret with | .node s => WFSubj s | .resource => True)
  | .pelt ctx nctx subj _ _ _ _ _ _ => LangOK ctx ∧ LangOK nctx ∧ WFSubj subj
  | .lit ctx subj _ _ _ _ => LangOK ctx ∧ WFSubj subj
  | .coll ctx subj _ _ last => LangOK ctx ∧ WFSubj subj ∧ (∀ l, last = some l → WFSubj l)

def StackOK (stk : List Frame) : Prop := ∀ f ∈ stk, FrameOK f

def Frame.height : Frame → Nat
  | .lit _ _ _ _ depth _ => depth + 1
  | _ => 1

def height (stk : List Frame) : Nat := (stk.map Frame.height).sum

/-- open elements after one more token (an end tag at depth 0 is ignored by `decodeRoot`; `encoding/xml` never
    delivers one) -/
def tokDepth (d : Nat) : Tok → Nat
  | .start _ _ _ => d + 1
  | .end_ _ _ => d - 1
  | _ => d

def depthAfter (d : Nat) (toks : List Tok) : Nat := toks.foldl tokDepth d

theorem height_cons (f : Frame) (stk : List Frame) : height (f :: stk) = f.height + height stk := rfl

def Step.Sat (P : Params) (d : Nat) : Step → Prop
  | .cont stk st => StackOK stk ∧ OutWF st ∧ height stk = d
  | .fail _ st => OutWF st
  | .panic => ¬P.EmptyRefOK

variable {P : Params}

/- `rdfXMLLiteral` is spelt as code points, the other datatype IRIs as string literals, which are dear to evaluate:
   this is the one evaluation. -/
theorem rdfXMLLiteral_eq : rdfXMLLiteral = asc "http://www.w3.org/1999/02/22-rdf-syntax-ns#XMLLiteral" := by
  decide +kernel

theorem xmlLit_ne_lang : rdfXMLLiteral ≠ rdfLangString := rdfXMLLiteral_eq ▸ asc_ne (by decide)
theorem xmlLit_ne_dir : rdfXMLLiteral ≠ rdfDirLangString := rdfXMLLiteral_eq ▸ asc_ne (by decide)

theorem resolveIRI_np (h : P.EmptyRefOK) (ctx : Ctx) (v : Str) : ∃ r, resolveIRI P ctx v = .ok r := by
  unfold resolveIRI
  split
  · exact ⟨_, rfl⟩
  · rename_i b _
    split
    · have := h b
      split
      · contradiction
      · exact ⟨_, rfl⟩
    · split <;> exact ⟨_, rfl⟩

theorem resolveIRI_panic {ctx : Ctx} {v : Str} (h : resolveIRI P ctx v = .panic) : ¬P.EmptyRefOK := by
  intro hP
  obtain ⟨r, hr⟩ := resolveIRI_np hP ctx v
  rw [hr] at h
  cases h

theorem wfObj_of_wfSubj {t : Term BN} (h : WFSubj t) : WFObj t := by
  cases t <;> simp_all [WFSubj, WFObj]

theorem wfSubj_iri (v : Str) : WFSubj (.iri v : Term BN) := by simp [WFSubj]
theorem wfSubj_bnode (b : BN) : WFSubj (.bnode b : Term BN) := by simp [WFSubj]
theorem wfObj_iri (v : Str) : WFObj (.iri v : Term BN) := by simp [WFObj]

theorem mkLitCtx_wf {ctx : Ctx} (h : LangOK ctx) (v : Str) : WFObj (mkLitCtx v ctx) := by
  unfold mkLitCtx mkLit
  cases hl : ctx.lang with
  | none => simp [WFObj, Proofs.C01.xsd_ne_lang, Proofs.C01.xsd_ne_dir]
  | some l => simp [WFObj, Proofs.C01.lang_ne_dir, h l hl]

theorem outWF_emit {st : St} {t : T} (h : OutWF st) (ht : WFTriple t) : OutWF (st.emit t) := by
  intro x hx
  simp only [St.emit, List.mem_cons] at hx
  rcases hx with rfl | hx
  · exact ht
  · exact h x hx

theorem outWF_fresh {st : St} (h : OutWF st) : OutWF st.fresh.2 := h
theorem wfSubj_fresh (st : St) : WFSubj st.fresh.1 := by simp [St.fresh, WFSubj]

theorem asSubject_some {o s : Term BN} (h : asSubject o = some s) : WFSubj s := by
  cases o <;> simp_all [asSubject, WFSubj] <;> subst h <;> trivial

theorem commonLoop_sat (as : List Attr) (ctx : Ctx) (ra oa : List Attr) (st : St) (hc : LangOK ctx) (ho : OutWF st) :
    (commonLoop P as ctx ra oa st).Sat P (fun c _ => LangOK c.ctx) := by
  induction as generalizing ctx ra oa st with
  | nil => exact ⟨ho, hc⟩
  | cons a rest ih =>
    unfold commonLoop
    split
    · exact ih _ _ _ _ hc ho
    · split
      · split
        · refine ih _ _ _ _ ?_ ho
          intro l hl
          simp only at hl
          split at hl
          · simp at hl
          · simp only [Option.some.injEq] at hl; subst hl; assumption
        · split
          · cases hr : resolveIRI P ctx a.val with
            | panic => exact resolveIRI_panic hr
            | ok b =>
              simp only []
              split
              · exact ih _ _ _ _ hc ho
              · exact ho
          · exact ih _ _ _ _ hc ho
      · split
        · exact ih _ _ _ _ hc ho
        · split
          · exact ih _ _ _ _ hc ho
          · exact ih _ _ _ _ hc ho

theorem processCommonAttr_sat (ctx : Ctx) (as : List Attr) (st : St) (hc : LangOK ctx) (ho : OutWF st) :
    (processCommonAttr P ctx as st).Sat P (fun c _ => LangOK c.ctx) := commonLoop_sat _ _ _ _ _ hc ho

theorem addReify_sat (ctx : Ctx) (id : Str) (i : Nat) (st : St) (ho : OutWF st) (hi : i < st.out.length) :
    (addReify P ctx id i st).Sat P (fun _ _ => True) := by
  unfold addReify
  rw [List.getElem?_eq_getElem hi]
  have ht : WFTriple st.out[i] := ho _ (List.getElem_mem hi)
  cases hr : resolveIRI P ctx (cHash :: id) with
  | panic => exact resolveIRI_panic hr
  | ok idr =>
      refine ⟨?_, trivial⟩
      intro x hx
      simp only [List.mem_cons] at hx
      rcases hx with rfl | rfl | rfl | rfl | hx
      · exact ⟨wfSubj_iri _, ht.2⟩
      · exact ⟨wfSubj_iri _, wfObj_iri _⟩
      · exact ⟨wfSubj_iri _, wfObj_of_wfSubj ht.1⟩
      · exact ⟨wfSubj_iri _, wfObj_iri _⟩
      · exact ho x hx

theorem addReify_length {ctx : Ctx} {id : Str} {i : Nat} {st st1 : St} (h : addReify P ctx id i st = .ok () st1) :
    st.out.length ≤ st1.out.length := by
  unfold addReify at h
  split at h
  · cases h
  · split at h
    · cases h
    · cases h
      simp only [List.length_cons]
      omega

theorem optReify_sat (ctx : Ctx) (id : Option Str) (i : Nat) (st : St) (ho : OutWF st) (hi : i < st.out.length) :
    (optReify P ctx id i st).Sat P (fun _ _ => True) := by
  cases id with
  | none => exact ⟨ho, trivial⟩
  | some v => exact addReify_sat ctx v i st ho hi

theorem reifyEachID_sat (ctx : Ctx) (as : List Attr) (st : St) (ho : OutWF st) (hi : 0 < st.out.length) :
    (reifyEachID P ctx as st).Sat P (fun _ _ => True) := by
  induction as generalizing st with
  | nil => exact ⟨ho, trivial⟩
  | cons a rest ih =>
    unfold reifyEachID
    split
    · match hr : addReify P ctx a.val 0 st, addReify_sat (P := P) ctx a.val 0 st ho hi with
      | .panic, h1 => exact h1
      | .fail _ _, h1 => exact h1
      | .ok u st1, h1 => exact ih st1 h1.1 (Nat.lt_of_lt_of_le hi (addReify_length hr))
    · exact ih st ho hi

theorem subjLoop_sat (ctx : Ctx) (as : List Attr) (s : Option (Term BN)) (n : Nat) (st : St)
    (hs : ∀ x, s = some x → WFSubj x) (ho : OutWF st) :
    (subjLoop P ctx as s n st).Sat P (fun r _ => ∀ x, r.1 = some x → WFSubj x) := by
  induction as generalizing s n st with
  | nil => exact ⟨ho, hs⟩
  | cons a rest ih =>
    unfold subjLoop
    split
    · split
      · exact ho
      · cases hr : resolveIRI P ctx (cHash :: a.val) with
        | panic => exact resolveIRI_panic hr
        | ok r =>
          simp only []
          split
          · exact ho
          · exact ih _ _ _ (by intro x hx; simp only [Option.some.injEq] at hx; subst hx; exact wfSubj_iri _) ho
    · split
      · split
        · exact ho
        · exact ih _ _ _ (by intro x hx; simp only [Option.some.injEq] at hx; subst hx; exact wfSubj_bnode _) ho
      · split
        · cases hr : resolveIRI P ctx a.val with
          | panic => exact resolveIRI_panic hr
          | ok r =>
            exact ih _ _ _ (by intro x hx; simp only [Option.some.injEq] at hx; subst hx; exact wfSubj_iri _) ho
        · exact ih _ _ _ hs ho

theorem nodeRdfLoop_sat (ctx : Ctx) (s : Term BN) (as extra : List Attr) (st : St) (hs : WFSubj s) (ho : OutWF st) :
    (nodeRdfLoop P ctx s as extra st).Sat P (fun _ _ => True) := by
  induction as generalizing extra st with
  | nil => exact ⟨ho, trivial⟩
  | cons a rest ih =>
    unfold nodeRdfLoop
    split
    · exact ih _ _ ho
    · split
      · cases hr : resolveIRI P ctx a.val with
        | panic => exact resolveIRI_panic hr
        | ok r => exact ih _ _ (outWF_emit ho ⟨hs, wfObj_iri _⟩)
      · split
        · exact ho
        · exact ih _ _ ho

theorem litAttrLoop_wf (ctx : Ctx) (s : Term BN) (as : List Attr) (st : St) (hc : LangOK ctx) (hs : WFSubj s)
    (ho : OutWF st) : OutWF (litAttrLoop ctx s as st) := by
  induction as generalizing st with
  | nil => exact ho
  | cons a rest ih => exact ih _ (outWF_emit ho ⟨hs, mkLitCtx_wf hc _⟩)

theorem subjOrFresh_wf (s? : Option (Term BN)) (st : St) (hs : ∀ x, s? = some x → WFSubj x) (ho : OutWF st) :
    WFSubj (subjOrFresh s? st).1 ∧ OutWF (subjOrFresh s? st).2 := by
  cases s? with
  | none => exact ⟨wfSubj_fresh st, ho⟩
  | some x => exact ⟨hs x rfl, ho⟩

theorem nodeEntry_sat (ctx : Ctx) (ns name : Str) (as : List Attr) (st : St) (hc : LangOK ctx) (ho : OutWF st) :
    (nodeEntry P ctx ns name as st).Sat P (fun f _ => FrameOK f ∧ f.height = 1) := by
  unfold nodeEntry
  match processCommonAttr P ctx as st, processCommonAttr_sat (P := P) ctx as st hc ho with
  | .panic, h1 => exact h1
  | .fail _ _, h1 => exact h1
  | .ok c st1, h1 =>
    simp only []
    match subjLoop P c.ctx c.rdfAttrs none 0 st1, subjLoop_sat (P := P) c.ctx c.rdfAttrs none 0 st1 (by simp) h1.1 with
    | .panic, h2 => exact h2
    | .fail _ _, h2 => exact h2
    | .ok r st2, h2 =>
      simp only []
      split
      · exact h2.1
      · have h3 := subjOrFresh_wf r.1 st2 h2.2 h2.1
        have h4 : OutWF (if ns = rdfNS ∧ name = n_Description then (subjOrFresh r.1 st2).2
            else (subjOrFresh r.1 st2).2.emit ⟨(subjOrFresh r.1 st2).1, rdfType, .iri (ns ++ name)⟩) := by
          split
          · exact h3.2
          · exact outWF_emit h3.2 ⟨h3.1, wfObj_iri _⟩
        match nodeRdfLoop P c.ctx (subjOrFresh r.1 st2).1 c.rdfAttrs []
            (if ns = rdfNS ∧ name = n_Description then (subjOrFresh r.1 st2).2 else (subjOrFresh r.1 st2).2.emit
            ⟨(subjOrFresh r.1 st2).1, rdfType, .iri (ns ++ name)⟩),
            nodeRdfLoop_sat (P := P) c.ctx (subjOrFresh r.1 st2).1 c.rdfAttrs [] _ h3.1 h4 with
        | .panic, h5 => exact h5
        | .fail _ _, h5 => exact h5
        | .ok extra st5, h5 =>
          exact ⟨litAttrLoop_wf _ _ _ _ h1.2 h3.1 h5.1, ⟨h1.2, h3.1, h3.1⟩, rfl⟩

theorem datatypeLoop_sat (ctx : Ctx) (as : List Attr) (dt : Option Str) (st : St)
    (hd : ∀ d, dt = some d → d ≠ rdfLangString ∧ d ≠ rdfDirLangString) (ho : OutWF st) :
    (datatypeLoop P ctx as dt st).Sat P (fun r _ => ∀ d, r = some d → d ≠ rdfLangString ∧ d ≠ rdfDirLangString) := by
  induction as generalizing dt st with
  | nil => exact ⟨ho, hd⟩
  | cons a rest ih =>
    unfold datatypeLoop
    split
    · cases hr : resolveIRI P ctx a.val with
      | panic => exact resolveIRI_panic hr
      | ok r =>
        simp only []
        split
        · exact ho
        · rename_i hne
          refine ih _ _ ?_ ho
          intro d hd'
          simp only [Option.some.injEq] at hd'
          subst hd'
          exact ⟨fun h => hne (.inl h), fun h => hne (.inr h)⟩
    · exact ih _ _ hd ho

theorem emptyObject_sat (ctx : Ctx) (i : EInfo) (st : St) (ho : OutWF st) :
    (emptyObject P ctx i st).Sat P (fun o _ => WFSubj o) := by
  unfold emptyObject
  cases i.resource with
  | some r =>
    simp only []
    cases hr : resolveIRI P ctx r with
    | panic => exact resolveIRI_panic hr
    | ok v => exact ⟨ho, wfSubj_iri _⟩
  | none =>
    simp only []
    cases i.nodeID with
    | some n => exact ⟨ho, wfSubj_bnode _⟩
    | none => exact ⟨ho, wfSubj_fresh st⟩

theorem emptyAttrLoop_sat (ctx : Ctx) (o : Term BN) (hso : WFSubj o) (as : List Attr) (st : St) (hc : LangOK ctx)
    (ho : OutWF st) : (emptyAttrLoop P ctx o as st).Sat P (fun _ _ => True) := by
  have hs : asSubject o = some o := by cases o <;> simp_all [asSubject, WFSubj]
  induction as generalizing st with
  | nil => exact ⟨ho, trivial⟩
  | cons a rest ih =>
    unfold emptyAttrLoop
    split
    · exact ih _ ho
    · split
      · rw [hs]
        simp only []
        cases hr : resolveIRI P ctx a.val with
        | panic => exact resolveIRI_panic hr
        | ok r => exact ih _ (outWF_emit ho ⟨hso, wfObj_iri _⟩)
      · split
        · exact ho
        · rw [hs]
          exact ih _ (outWF_emit ho ⟨hso, mkLitCtx_wf hc _⟩)

theorem peltEnd_sat (ctx : Ctx) (subj : Term BN) (pred : Str) (as : List Attr) (rdfID : Option Str)
    (found chars : Str) (st : St) (hc : LangOK ctx) (hs : WFSubj subj) (ho : OutWF st) :
    (peltEnd P ctx subj pred as rdfID found chars st).Sat P (fun _ _ => True) := by
  unfold peltEnd
  by_cases hf : found ≠ []
  · rw [if_pos hf]; exact ⟨ho, trivial⟩
  · rw [if_neg hf]
    have h1 := processCommonAttr_sat (P := P) ctx as st hc ho
    cases hca : processCommonAttr P ctx as st with
    | panic => rw [hca] at h1; split <;> exact h1
    | fail e st1 => rw [hca] at h1; split <;> exact h1
    | ok c st1 =>
      rw [hca] at h1
      by_cases hch : chars ≠ []
      · rw [if_pos hch]
        simp only []
        match datatypeLoop P c.ctx c.rdfAttrs none st1,
            datatypeLoop_sat (P := P) c.ctx c.rdfAttrs none st1 (by simp) h1.1 with
        | .panic, h2 => exact h2
        | .fail _ _, h2 => exact h2
        | .ok dt st2, h2 =>
          simp only []
          refine optReify_sat _ _ _ _ (outWF_emit h2.1 ⟨hs, ?_⟩) (Nat.succ_pos _)
          cases dt with
          | none => exact mkLitCtx_wf h1.2 _
          | some d =>
            have := h2.2 d rfl
            simp [WFObj, this.1, this.2]
      · rw [if_neg hch]
        simp only []
        cases he : emptyLoop c.rdfAttrs {} with
        | none => exact h1.1
        | some i =>
          simp only []
          split
          · exact h1.1
          · split
            · exact optReify_sat _ _ _ _ (outWF_emit h1.1 ⟨hs, mkLitCtx_wf h1.2 _⟩) (Nat.succ_pos _)
            · match emptyObject P c.ctx i st1, emptyObject_sat (P := P) c.ctx i st1 h1.1 with
              | .panic, h3 => exact h3
              | .fail _ _, h3 => exact h3
              | .ok o st2, h3 =>
                simp only []
                match emptyAttrLoop P c.ctx o (c.rdfAttrs ++ c.others) st2,
                    emptyAttrLoop_sat (P := P) c.ctx o h3.2 (c.rdfAttrs ++ c.others) st2 h1.2 h3.1 with
                | .panic, h4 => exact h4
                | .fail _ _, h4 => exact h4
                | .ok u st3, h4 =>
                  exact optReify_sat _ _ _ _ (outWF_emit h4.1 ⟨hs, wfObj_of_wfSubj h3.2⟩) (Nat.succ_pos _)

theorem peltEntry_sat (ctx : Ctx) (subj : Term BN) (li : Nat) (ns name : Str) (as : List Attr) (st : St)
    (hc : LangOK ctx) (hs : WFSubj subj) (ho : OutWF st) :
    (peltEntry P ctx subj li ns name as st).Sat P (fun r _ => FrameOK r.2 ∧ r.2.height = 1) := by
  unfold peltEntry
  cases hi : peltAttrLoop as {} with
  | none => exact ho
  | some i =>
    simp only []
    have h1 := processCommonAttr_sat (P := P) ctx as st hc ho
    split
    · exact ho
    · split
      · match processCommonAttr P ctx as st, h1 with
        | .panic, h1 => exact h1
        | .fail _ _, h1 => exact h1
        | .ok c st1, h1 => exact ⟨h1.1, ⟨h1.2, hs⟩, rfl⟩
      · split
        · match processCommonAttr P ctx as st, h1 with
          | .panic, h1 => exact h1
          | .fail _ _, h1 => exact h1
          | .ok c st1, h1 =>
            simp only []
            match reifyEachID P c.ctx c.rdfAttrs (st1.fresh.2.emit ⟨subj, propPred ns name li, st1.fresh.1⟩),
                reifyEachID_sat (P := P) c.ctx c.rdfAttrs (st1.fresh.2.emit ⟨subj, propPred ns name li, st1.fresh.1⟩)
                    (outWF_emit (outWF_fresh h1.1) ⟨hs, wfObj_of_wfSubj (wfSubj_fresh st1)⟩) (Nat.succ_pos _) with
            | .panic, h2 => exact h2
            | .fail _ _, h2 => exact h2
            | .ok u st3, h2 => exact ⟨h2.1, ⟨h1.2, wfSubj_fresh st1, trivial⟩, rfl⟩
        · split
          · match processCommonAttr P ctx as st, h1 with
            | .panic, h1 => exact h1
            | .fail _ _, h1 => exact h1
            | .ok c st1, h1 => exact ⟨h1.1, ⟨h1.2, hs, by simp⟩, rfl⟩
          · match processCommonAttr P ctx as st, h1 with
            | .panic, h1 => exact h1
            | .fail _ _, h1 => exact h1
            | .ok c st1, h1 => exact ⟨h1.1, ⟨hc, h1.2, hs⟩, rfl⟩

theorem stackOK_tail {f : Frame} {below : List Frame} (h : StackOK (f :: below)) : StackOK below :=
  fun g hg => h g (by simp [hg])

theorem stackOK_cons {f : Frame} {below : List Frame} (hf : FrameOK f) (h : StackOK below) : StackOK (f :: below) := by
  intro g hg
  simp only [List.mem_cons] at hg
  rcases hg with rfl | hg
  · exact hf
  · exact h g hg

theorem callNode_sat (ctx : Ctx) (ns name : Str) (as : List Attr) (stk : List Frame) (st : St)
    (hc : LangOK ctx) (hk : StackOK stk) (ho : OutWF st) : (callNode P ctx ns name as stk st).Sat P (height stk + 1) := by
  unfold callNode
  match nodeEntry P ctx ns name as st, nodeEntry_sat (P := P) ctx ns name as st hc ho with
  | .panic, h1 => exact h1
  | .fail _ _, h1 => exact h1
  | .ok f st1, h1 => exact ⟨stackOK_cons h1.2.1 hk, h1.1, by rw [height_cons, h1.2.2, Nat.add_comm]⟩

theorem nodeReturn_sat (s : Term BN) (stk : List Frame) (st : St) (hs : WFSubj s) (hk : StackOK stk) (ho : OutWF st) :
    (nodeReturn P s stk st).Sat P (height stk) := by
  unfold nodeReturn
  split
  · rename_i ctx nctx subj pred attrs rdfID found chars child below
    have hf : FrameOK (.pelt ctx nctx subj pred attrs rdfID found chars child) := hk _ (by simp)
    have hb : StackOK below := fun g hg => hk g (by simp [hg])
    match optReify P nctx rdfID 0 (st.emit ⟨subj, pred, s⟩),
        optReify_sat (P := P) nctx rdfID 0 (st.emit ⟨subj, pred, s⟩) (outWF_emit ho ⟨hf.2.2, wfObj_of_wfSubj hs⟩)
            (Nat.succ_pos _) with
    | .panic, h1 => exact h1
    | .fail _ _, h1 => exact h1
    | .ok u st1, h1 => exact ⟨stackOK_cons (f := .pelt ctx nctx subj pred attrs rdfID child chars child) hf hb, h1.1, rfl⟩
  · rename_i ctx subj pred rdfID last below
    have hf : FrameOK (.coll ctx subj pred rdfID last) := hk _ (by simp)
    have hb : StackOK below := fun g hg => hk g (by simp [hg])
    have hcell : WFSubj st.fresh.1 := wfSubj_fresh st
    have hnew : StackOK (Frame.coll ctx subj pred rdfID (some st.fresh.1) :: below) := by
      intro g hg
      simp only [List.mem_cons] at hg
      rcases hg with rfl | hg
      · exact ⟨hf.1, hf.2.1, by intro l hl; simp only [Option.some.injEq] at hl; subst hl; exact hcell⟩
      · exact hb g hg
    simp only []
    cases last with
    | none =>
      simp only []
      match optReify P ctx rdfID 1 ((st.fresh.2.emit ⟨subj, pred, st.fresh.1⟩).emit ⟨st.fresh.1, RX.rdfFirst, s⟩),
          optReify_sat (P := P) ctx rdfID 1 ((st.fresh.2.emit ⟨subj, pred, st.fresh.1⟩).emit
              ⟨st.fresh.1, RX.rdfFirst, s⟩) (outWF_emit (outWF_emit (outWF_fresh ho) ⟨hf.2.1, wfObj_of_wfSubj hcell⟩)
              ⟨hcell, wfObj_of_wfSubj hs⟩) (Nat.succ_lt_succ (Nat.succ_pos _)) with
      | .panic, h1 => exact h1
      | .fail _ _, h1 => exact h1
      | .ok u st1, h1 => exact ⟨hnew, h1.1, rfl⟩
    | some l =>
      exact ⟨hnew, outWF_emit (outWF_emit (outWF_fresh ho) ⟨hf.2.2 l rfl, wfObj_of_wfSubj hcell⟩) ⟨hcell, wfObj_of_wfSubj hs⟩, rfl⟩
  · exact ⟨hk, ho, rfl⟩

theorem height_pop {f : Frame} {below : List Frame} (hf : f.height = 1) (ns name : Str) :
    height below = tokDepth (height (f :: below)) (.end_ ns name) := by
  rw [height_cons, hf]
  exact (Nat.add_sub_cancel_left ..).symm

theorem step_sat (ctx0 : Ctx) (stk : List Frame) (st : St) (tok : Tok) (h0 : LangOK ctx0) (hk : StackOK stk) (ho : OutWF st) :
    (step P ctx0 stk st tok).Sat P (tokDepth (height stk) tok) := by
  cases stk with
  | nil =>
    cases tok with
    | start ns name attrs =>
      simp only [step]
      split
      · match processCommonAttr P ctx0 attrs st, processCommonAttr_sat (P := P) ctx0 attrs st h0 ho with
        | .panic, h1 => exact h1
        | .fail _ _, h1 => exact h1
        | .ok c st1, h1 =>
          simp only []
          split
          · exact h1.1
          · exact ⟨stackOK_cons h1.2 hk, h1.1, rfl⟩
      · exact callNode_sat _ _ _ _ _ _ h0 hk ho
    | directive s => exact ho
    | _ => exact ⟨hk, ho, rfl⟩
  | cons f below =>
    have hf : FrameOK f := hk f (by simp)
    have hb : StackOK below := stackOK_tail hk
    cases f with
    | rdf ctx =>
      cases tok with
      | start ns name attrs =>
        simp only [step]
        split
        · exact ho
        · exact callNode_sat _ _ _ _ _ _ hf hk ho
      | end_ ns name => exact ⟨hb, ho, height_pop rfl _ _⟩
      | _ => exact ⟨hk, ho, rfl⟩
    | props ctx subj li ret =>
      cases tok with
      | start ns name attrs =>
        simp only [step]
        split
        · exact ho
        · match peltEntry P ctx subj li ns name attrs st,
              peltEntry_sat (P := P) ctx subj li ns name attrs st hf.1 hf.2.1 ho with
          | .panic, h1 => exact h1
          | .fail _ _, h1 => exact h1
          | .ok r st1, h1 =>
            exact ⟨stackOK_cons h1.2.1 (stackOK_cons (f := .props ctx subj r.1 ret) hf hb), h1.1,
              by rw [height_cons, h1.2.2, Nat.add_comm]; rfl⟩
      | end_ ns name =>
        simp only [step, propsReturn]
        cases ret with
        | resource => exact ⟨hb, ho, height_pop rfl _ _⟩
        | node s => exact height_pop (f := .props ctx subj li (.node s)) rfl ns name ▸ nodeReturn_sat _ _ _ hf.2.2 hb ho
      | _ => exact ⟨hk, ho, rfl⟩
    | pelt ctx nctx subj pred attrs rdfID found chars child =>
      cases tok with
      | start ns name cattrs =>
        simp only [step]
        split
        · exact ho
        · split
          · exact ho
          · exact callNode_sat _ _ _ _ _ _ hf.2.1 (stackOK_cons (f := .pelt ctx nctx subj pred attrs rdfID found chars (ns ++ name)) hf hb) ho
      | end_ ns name =>
        simp only [step]
        match peltEnd P ctx subj pred attrs rdfID found chars st,
            peltEnd_sat (P := P) ctx subj pred attrs rdfID found chars st hf.1 hf.2.2 ho with
        | .panic, h1 => exact h1
        | .fail _ _, h1 => exact h1
        | .ok r st1, h1 => exact ⟨hb, h1.1, height_pop rfl _ _⟩
      | chars s => exact ⟨stackOK_cons (f := .pelt ctx nctx subj pred attrs rdfID found (chars ++ s) child) hf hb, ho, rfl⟩
      | _ => exact ⟨hk, ho, rfl⟩
    | lit ctx subj pred rdfAttrs depth content =>
      have hnew : ∀ d c, StackOK (.lit ctx subj pred rdfAttrs d c :: below) :=
        fun d c => stackOK_cons (f := .lit ctx subj pred rdfAttrs d c) hf hb
      cases tok with
      | end_ ns name =>
        simp only [step]
        split
        · rename_i hd
          cases hr : P.render content.reverse with
          | none => exact ho
          | some lex =>
            simp only []
            match reifyEachID P ctx rdfAttrs (st.emit ⟨subj, pred, .lit lex rdfXMLLiteral none⟩),
                reifyEachID_sat (P := P) ctx rdfAttrs (st.emit ⟨subj, pred, .lit lex rdfXMLLiteral none⟩)
                    (outWF_emit ho ⟨hf.2, by simp [WFObj, xmlLit_ne_lang, xmlLit_ne_dir]⟩) (Nat.succ_pos _) with
            | .panic, h1 => exact h1
            | .fail _ _, h1 => exact h1
            | .ok u st1, h1 => exact ⟨hb, h1.1, height_pop (by rw [hd]; rfl) _ _⟩
        · rename_i hd
          split
          · exact ho
          · refine ⟨hnew _ _, ho, ?_⟩
            simp only [height_cons, Frame.height, tokDepth]
            omega
      | start ns name cattrs =>
        simp only [step]
        split
        · exact ho
        · exact ⟨hnew _ _, ho, by simp only [height_cons, Frame.height, tokDepth]; omega⟩
      | _ => simp only [step]; split; exact ho; exact ⟨hnew _ _, ho, rfl⟩
    | coll ctx subj pred rdfID last =>
      cases tok with
      | start ns name attrs =>
        simp only [step]
        split
        · exact ho
        · exact callNode_sat _ _ _ _ _ _ hf.1 hk ho
      | end_ ns name =>
        simp only [step]
        cases last with
        | none =>
          simp only []
          match optReify P ctx rdfID 0 (st.emit ⟨subj, pred, .iri RX.rdfNil⟩),
              optReify_sat (P := P) ctx rdfID 0 (st.emit ⟨subj, pred, .iri RX.rdfNil⟩)
                  (outWF_emit ho ⟨hf.2.1, wfObj_iri _⟩) (Nat.succ_pos _) with
          | .panic, h1 => exact h1
          | .fail _ _, h1 => exact h1
          | .ok u st1, h1 => exact ⟨hb, h1.1, height_pop rfl _ _⟩
        | some l => exact ⟨hb, outWF_emit ho ⟨hf.2.2 l rfl, wfObj_iri _⟩, height_pop rfl _ _⟩
      | _ => exact ⟨hk, ho, rfl⟩

theorem run_sat (ctx0 : Ctx) (stk : List Frame) (st : St) (toks : List Tok) (fin : Fin)
    (h0 : LangOK ctx0) (hk : StackOK stk) (ho : OutWF st) :
    (∀ t ∈ emitted (run P ctx0 stk st toks fin), WFTriple t) ∧ (run P ctx0 stk st toks fin = .panic → ¬P.EmptyRefOK) ∧
    (∀ ts, run P ctx0 stk st toks fin = .ok ts → depthAfter (height stk) toks = 0 ∧ fin = .eof) := by
  induction toks generalizing stk st with
  | nil =>
    have hw : ∀ t ∈ st.out.reverse, WFTriple t := fun t ht => ho t (List.mem_reverse.mp ht)
    unfold run finish
    cases fin with
    | eof =>
      cases stk with
      | nil => exact ⟨hw, nofun, fun _ _ => ⟨rfl, rfl⟩⟩
      | cons f below => exact ⟨hw, nofun, nofun⟩
    | _ => exact ⟨hw, nofun, nofun⟩
  | cons tok rest ih =>
    unfold run
    have h1 := step_sat (P := P) ctx0 stk st tok h0 hk ho
    cases hs : step P ctx0 stk st tok with
    | panic => rw [hs] at h1; exact ⟨nofun, fun _ => h1, nofun⟩
    | fail e st1 => rw [hs] at h1; exact ⟨fun t ht => h1 t (List.mem_reverse.mp ht), nofun, nofun⟩
    | cont stk1 st1 =>
      rw [hs] at h1
      have := ih _ _ h1.1 h1.2.1
      rw [h1.2.2] at this
      exact this

theorem decode_sat (P : Params) (base : Option Str) (toks : List Tok) (fin : Fin) :
    (∀ t ∈ emitted (decode P base toks fin), WFTriple t) ∧ (decode P base toks fin = .panic → ¬P.EmptyRefOK) ∧
    (∀ ts, decode P base toks fin = .ok ts → depthAfter 0 toks = 0 ∧ fin = .eof) :=
  run_sat _ _ _ _ _ (fun _ hl => nomatch hl) (fun _ hf => nomatch hf) (fun _ ht => nomatch ht)

end RdfModel.RXD
