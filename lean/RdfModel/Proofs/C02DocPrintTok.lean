/-
  The text the Turtle *encoder* model writes for a token (`formatIRI`,
  `formatLiteralLexicalForm`, `format_PN_LOCAL` of Model/TurtleTokens.lean) is a text the abstract
  *printer* (Spec/TurtlePrinter.lean) writes for the same value under some choice list.
-/
import RdfModel.Props.C02TokensTables
import RdfModel.Proofs.C02Tok
namespace RdfModel.Proofs.C02Doc
open RdfModel RdfModel.Ttl RdfModel.C02 RdfModel.Spec.TtlPrint

/-- Facts about the regenerated tables the printer comparison needs on top of `TablesOK`.
    Each is a statement over every code point. -/
structure PrintTablesOK (T : Tables) : Prop where
  /-- a rune `formatLiteralLexicalForm` leaves raw is neither LF nor CR (it may stand raw in `"…"`) -/
  lit_raw_nl : ∀ a c, lookup (T.litEsc a) 0 c = 0 → c ≠ 0x0a ∧ c ≠ 0x0d
  /-- a rune written `\UXXXXXXXX` is a code point (the top nibble Go masks with `0x7` is zero) -/
  lit_u8 : ∀ a c, lookup (T.litEsc a) 0 c = 3 → c ≤ 0x10FFFF

def printTablesChk (T : Tables) : Bool :=
  C02Tok.both (fun t => C02Tok.badNZ t [(0x0a, 0x0a), (0x0d, 0x0d)]) T.litEsc &&
  C02Tok.both (fun t => C02Tok.entAll t (fun _ hi v => v != 3 || decide (hi ≤ 0x10FFFF))) T.litEsc

theorem printTablesOK_of_chk (T : Tables) (h : printTablesChk T = true) : PrintTablesOK T := by
  simp only [printTablesChk, Bool.and_eq_true] at h
  obtain ⟨h1, h2⟩ := h
  exact {
    lit_raw_nl := fun a c h0 => by
      have := C02Tok.raw_of_bad _ _ (C02Tok.both_elim h1 a) c h0
      simp only [inRanges, Bool.or_eq_false_iff, Bool.and_eq_false_iff,
        decide_eq_false_iff_not] at this
      omega
    lit_u8 := fun a => C02Tok.mode_bound 3 0x10FFFF (by decide) _ (C02Tok.both_elim h2 a) }

theorem gen_turtle_print_ok : PrintTablesOK Gen.turtle := printTablesOK_of_chk _ (by decide)

theorem gen_trig_print_ok : PrintTablesOK Gen.trig := printTablesOK_of_chk _ (by decide)

theorem print_iri_eq (T : Tables) (hT : TablesOK T) (r : List Nat) (hr : Scalars r) :
    ∃ cs : List Choice, printIRIREF cs r = 0x3c :: (formatIRI T false r ++ [0x3e]) :=
  ⟨r.map (C02Tok.iriChoice T false), by rw [printIRIREF, C02Tok.formatIRI_print T hT false r hr]⟩

def litChoice (T : Tables) (c : Nat) : Choice := C02Tok.litModeChoice (lookup (T.litEsc false) 0 c)

theorem pt_litRune (T : Tables) (hT : TablesOK T) (hP : PrintTablesOK T) (c : Nat) :
    printStrRune .dq (litChoice T c) c = escLitRune T false c :=
  C02Tok.printStrRune_mode (hT.lit_mode false c)
    (fun h => ⟨hT.lit_raw false c h, hP.lit_raw_nl false c h⟩) (hT.lit_echar false c)
    (hT.lit_u4 false c) (hP.lit_u8 false c)

theorem print_string_eq (T : Tables) (hT : TablesOK T) (hP : PrintTablesOK T) (lex : List Nat) :
    ∃ cs : List Choice, printString .dq cs lex = formatLiteralLexicalForm T false lex := by
  refine ⟨lex.map (litChoice T), ?_⟩
  simp [printString, quotes, Style.long, Style.delim, formatLiteralLexicalForm, litBody,
    C02Tok.printStrBody_map _ _ lex (fun c _ => pt_litRune T hT hP c) 0]

theorem print_local_eq (T : Tables) (hT : TablesOK T) (loc out : List Nat) (hs : Scalars loc)
    (hok : PNLocalOK T loc = true) (hfmt : format_PN_LOCAL T loc = some out) :
    ∃ cs : List Choice, printLocal T cs loc = some out := by
  obtain ⟨o, h1, h2⟩ := C02Tok.formatLocalFrom_print T hT loc true hs hok
  obtain rfl : o = out := Option.some.inj (h1.symm.trans hfmt)
  exact ⟨_, h2⟩

end RdfModel.Proofs.C02Doc
