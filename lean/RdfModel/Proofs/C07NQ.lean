import RdfModel.Proofs.C05NQScan
import RdfModel.Props.C07NQDefs
namespace RdfModel.Proofs.C07NQ
open RdfModel RdfModel.NQ RdfModel.C07NQ

theorem afterObject_of_expectDot (T : Tables) (e : End) (b : Bool) (inp r : List Nat)
    (h : expectDot T e b inp = .ok () r) : afterObject T e b inp = .ok none r := by
  fun_induction expectDot T e b inp
  all_goals (try (simp at h; done))
  all_goals (try (simp_all [afterObject]; done))

theorem statement_nt_quad (T : Tables) (urlOk : List Nat → Bool) (e : End) (inp rest : List Nat)
    (q : Quad (List Nat)) (h : statement T urlOk e false inp = .quad q rest) :
    statement T urlOk e true inp = .quad q rest ∧ q.g = none := by
  obtain ⟨inp', s, r1, p, r2, o, r3, hsk, hs, hp, ho, hrest⟩ :=
    Proofs.C05NQ.statement_quad h
  rcases hrest with ⟨hq, _⟩ | ⟨hq, _⟩ | ⟨_, hd, rfl⟩
  · cases hq
  · cases hq
  · exact ⟨by simp only [statement, hsk, hs, hp, ho, if_true, afterObject_of_expectDot T e _ _ _ hd], rfl⟩

theorem statement_done_quads (T : Tables) (urlOk : List Nat → Bool) (e : End) (quads quads' : Bool)
    (inp : List Nat) (h : statement T urlOk e quads inp = .done) :
    statement T urlOk e quads' inp = .done := by
  obtain ⟨rfl, hb⟩ := Proofs.C05NQ.done_only_on_blank T urlOk e quads inp h
  simp only [allBlank, Option.isNone_iff_eq_none] at hb
  simp [statement, hb]

theorem next_nt_quad (T : Tables) (urlOk : List Nat → Bool) (e : End) (started : Bool)
    (inp rest : List Nat) (q : Quad (List Nat))
    (h : next T urlOk e false started inp = .quad q rest) :
    next T urlOk e true started inp = .quad q rest ∧ q.g = none := by
  obtain ⟨inp', hs, ⟨rfl, rfl⟩ | ⟨rfl, ht⟩⟩ := Proofs.C05NQ.next_quad h
  · exact statement_nt_quad T urlOk e _ _ q hs
  · simp only [next, if_true, ht]
    exact statement_nt_quad T urlOk e _ _ q hs

theorem next_nt_done (T : Tables) (urlOk : List Nat → Bool) (e : End) (started : Bool)
    (inp : List Nat) (h : next T urlOk e false started inp = .done) :
    next T urlOk e true started inp = .done := by
  unfold next at h ⊢
  split at h
  · next hst =>
    rw [if_pos hst]
    split at h
    · rfl
    · simp at h
    · next r ht => exact statement_done_quads T urlOk e _ _ _ h
  · next hst =>
    rw [if_neg hst]
    exact statement_done_quads T urlOk e _ _ _ h

theorem runFuel_nt_sub_nq (T : Tables) (urlOk : List Nat → Bool) (e : End) :
    ∀ (fuel : Nat) (started : Bool) (inp : List Nat) (qs : List (Quad (List Nat))),
      runFuel T urlOk e false fuel started inp = (qs, .clean) →
      runFuel T urlOk e true fuel started inp = (qs, .clean) := by
  intro fuel
  induction fuel with
  | zero => intro _ _ _ h; simp [runFuel] at h
  | succ f ih =>
    intro started inp qs h
    unfold runFuel at h ⊢
    split at h
    · next hn => rw [next_nt_done T urlOk e started inp hn]; exact h
    · simp at h
    · next q rest hn =>
      rw [(next_nt_quad T urlOk e started inp rest q hn).1]
      simp only at h ⊢
      generalize hr : runFuel T urlOk e false f true rest = res at h
      obtain ⟨qs', v⟩ := res
      simp only [Prod.mk.injEq] at h
      obtain ⟨rfl, rfl⟩ := h
      rw [ih true rest qs' hr]

theorem nt_sub_nq (T : Tables) (urlOk : List Nat → Bool) (e : End) (inp : List Nat)
    (qs : List (Quad (List Nat))) (h : run T urlOk e false inp = (qs, .clean)) :
    run T urlOk e true inp = (qs, .clean) :=
  runFuel_nt_sub_nq T urlOk e _ false inp qs h

/-! ### the decoder reads only `hexDec`, `pnCharsU`, `pnChars`, `space` -/

-- No decoder function projects `iriEsc`, `litEsc` or `echar` out of its tables, so with both records
-- taken apart the two runs are the same term.  The recursions are on the input, a variable here, and
-- smart unfolding would leave them folded: it is off so that the definitions unfold as they are stored.
set_option smartUnfolding false in
theorem run_eq_of_fields (a b a' b' : Bool → RangeTable) (c c' hx : RangeTable) (pu pn sp : RangeSet)
    (urlOk : List Nat → Bool) (e : End) (quads : Bool) (inp : List Nat) :
    run ⟨a, b, c, hx, pu, pn, sp⟩ urlOk e quads inp = run ⟨a', b', c', hx, pu, pn, sp⟩ urlOk e quads inp :=
  rfl

variable {T T' : Tables}

theorem run_congr (h : DecoderTablesEqual T T') (urlOk : List Nat → Bool) (e : End) (quads : Bool)
    (inp : List Nat) : run T urlOk e quads inp = run T' urlOk e quads inp := by
  obtain ⟨a, b, c, hx, pu, pn, sp⟩ := T
  obtain ⟨a', b', c', hx', pu', pn', sp'⟩ := T'
  obtain ⟨h1, h2, h3, h4⟩ := h
  simp only at h1 h2 h3 h4
  subst h1 h2 h3 h4
  exact run_eq_of_fields ..

end RdfModel.Proofs.C07NQ
