/-
  Let `σ` send the anonymised blank nodes of a forest `F` (`tagsForest F`), in document order, to the
  fresh nodes counted from `n` (`Agree`) and the blank nodes written with their identifier
  (`namedForest F`) to that identifier (`Keeps`). Then `denForest` started at `n` yields the image of the
  forest's own quads (`flatForest F`) under `σ`. One relation, `Reads`, says this at every level (cells,
  values, groups, nodes, graphs); `Reads.seq` composes two denotations that follow each other.
-/
import RdfModel.Spec.JsonLdWriter
namespace RdfModel.Proofs.C10
open RdfModel RdfModel.Desc RdfModel.JL

variable {β : Type}

/-- `σ` sends the `i`-th element of `tags` to the fresh node `n + i` -/
def Agree (σ : β → B) (tags : List β) (n : Nat) : Prop := ∀ b k, (b, k) ∈ tags.zipIdx n → σ b = BN.fresh k

/-- `σ` keeps the identifier of every element of `bs` -/
def Keeps (name : β → Str) (σ : β → B) (bs : List β) : Prop := ∀ b ∈ bs, σ b = BN.orig (name b)

theorem agree_nil (σ : β → B) (n : Nat) : Agree σ [] n := by
  intro b k h; simp at h

theorem agree_append {σ : β → B} {l₁ l₂ : List β} {n : Nat} :
    Agree σ (l₁ ++ l₂) n ↔ Agree σ l₁ n ∧ Agree σ l₂ (n + l₁.length) := by
  unfold Agree
  simp only [List.zipIdx_append, List.mem_append]
  constructor
  · intro h; exact ⟨fun b k hb => h b k (Or.inl hb), fun b k hb => h b k (Or.inr hb)⟩
  · rintro ⟨h₁, h₂⟩ b k (hb | hb)
    · exact h₁ b k hb
    · exact h₂ b k hb

theorem agree_cons {σ : β → B} {b : β} {l : List β} {n : Nat} :
    Agree σ (b :: l) n ↔ σ b = BN.fresh n ∧ Agree σ l (n + 1) := by
  unfold Agree
  simp only [List.zipIdx_cons, List.mem_cons]
  constructor
  · intro h; exact ⟨h b n (Or.inl rfl), fun b' k hb => h b' k (Or.inr hb)⟩
  · rintro ⟨h₁, h₂⟩ b' k (hb | hb)
    · cases hb; exact h₁
    · exact h₂ b' k hb

theorem keeps_append {name : β → Str} {σ : β → B} {l₁ l₂ : List β} :
    Keeps name σ (l₁ ++ l₂) ↔ Keeps name σ l₁ ∧ Keeps name σ l₂ := List.forall_mem_append

theorem keeps_cons {name : β → Str} {σ : β → B} {b : β} {l : List β} :
    Keeps name σ (b :: l) ↔ σ b = BN.orig (name b) ∧ Keeps name σ l := List.forall_mem_cons

theorem keeps_nil (name : β → Str) (σ : β → B) : Keeps name σ [] := by
  intro b h; cases h

theorem outTerm_eq {name : β → Str} {σ : β → B} {t : Term β} (h : Keeps name σ (termBN t)) :
    outTerm name t = t.map σ := by
  cases t with
  | iri v => rfl
  | lit l d g => rfl
  | bnode b =>
    have := h b (by simp [termBN])
    simp [outTerm, Term.map, this]

abbrev mq (σ : β → B) (q : DQuad β) : Q := DQuad.map σ q

theorem mq_mk (σ : β → B) (s : Term β) (p : Str) (o : Term β) (g : Option (Term β)) :
    mq σ ⟨⟨s, p, o⟩, g⟩ = quad (s.map σ) p (o.map σ) (g.map (Term.map σ)) := rfl

theorem denCells_eq (name : β → Str) (σ : β → B) (g : Option (Term β)) :
    ∀ (cells : List (β × Term β)) (cell : β) (n : Nat),
      Agree σ (cells.map (·.1)) n → Keeps name σ (cells.flatMap (fun c => termBN c.2)) →
      denCells name (g.map (Term.map σ)) (.bnode (σ cell)) cells n =
        ((flatCells g cell cells).map (mq σ), n + cells.length) := by
  intro cells
  induction cells with
  | nil => intro cell n _ _; simp [denCells, flatCells, mq_mk, Term.map, quad]
  | cons c rest ih =>
    intro cell n ha hk
    obtain ⟨b, x⟩ := c
    simp only [List.map_cons, agree_cons] at ha
    simp only [List.flatMap_cons, keeps_append] at hk
    have hb : σ b = BN.fresh n := ha.1
    have := ih b (n + 1) ha.2 hk.2
    rw [hb] at this
    simp only [denCells, flatCells, List.map_cons, this, mq_mk, Term.map, hb, outTerm_eq hk.1, List.length_cons]
    exact Prod.ext rfl (by simp only []; omega)

theorem denList_eq (name : β → Str) (σ : β → B) (g : Option (Term β)) (s : Term β) (p : Str)
    (cells : List (β × Term β)) (n : Nat)
    (ha : Agree σ (cells.map (·.1)) n) (hk : Keeps name σ (cells.flatMap (fun c => termBN c.2))) :
    denList name (g.map (Term.map σ)) (s.map σ) p cells n =
      ((flatVal g s p (Tree.list cells)).map (mq σ), n + cells.length) := by
  cases cells with
  | nil => simp [denList, flatVal, mq_mk, Term.map]
  | cons c rest =>
    obtain ⟨b, x⟩ := c
    simp only [List.map_cons, agree_cons] at ha
    simp only [List.flatMap_cons, keeps_append] at hk
    have hb : σ b = BN.fresh n := ha.1
    have := denCells_eq name σ g rest b (n + 1) ha.2 hk.2
    rw [hb] at this
    simp only [denList, flatVal, List.map_cons, this, mq_mk, Term.map, hb, outTerm_eq hk.1, List.length_cons]
    exact Prod.ext rfl (by simp only []; omega)

/-- `den` numbers the nodes `tags` from its counter on, keeps the identifiers of `named`, and yields the image of
    `flat` under `σ` -/
def Reads (name : β → Str) (σ : β → B) (den : Nat → List Q × Nat) (flat : List (DQuad β)) (tags named : List β) : Prop :=
  ∀ n, Agree σ tags n → Keeps name σ named → den n = (flat.map (mq σ), n + tags.length)

theorem Reads.nil {name : β → Str} {σ : β → B} : Reads name σ (fun n => ([], n)) [] [] [] := fun _ _ _ => rfl

theorem Reads.seq {name : β → Str} {σ : β → B} {d₁ d₂ : Nat → List Q × Nat} {f₁ f₂ : List (DQuad β)} {t₁ t₂ m₁ m₂ : List β}
    (h₁ : Reads name σ d₁ f₁ t₁ m₁) (h₂ : Reads name σ d₂ f₂ t₂ m₂) :
    Reads name σ (fun n => ((d₁ n).1 ++ (d₂ (d₁ n).2).1, (d₂ (d₁ n).2).2)) (f₁ ++ f₂) (t₁ ++ t₂) (m₁ ++ m₂) := by
  intro n ha hk
  rw [agree_append] at ha
  rw [keeps_append] at hk
  simp only [h₁ n ha.1 hk.1, h₂ _ ha.2 hk.2, List.map_append, List.length_append, Nat.add_assoc]

def ValOK (name : β → Str) (σ : β → B) (t : Tree β) : Prop :=
  ∀ (g : Option (Term β)) (s : Term β) (p : Str),
    Reads name σ (denVal name (g.map (Term.map σ)) (s.map σ) p t) (flatVal g s p t) (tagsTree t) (namedTree t)

def ValsOK (name : β → Str) (σ : β → B) (vs : List (Tree β)) : Prop :=
  ∀ (g : Option (Term β)) (s : Term β) (p : Str),
    Reads name σ (denVals name (g.map (Term.map σ)) (s.map σ) p vs) (flatVals g s p vs) (tagsVals vs) (namedVals vs)

def GroupsOK (name : β → Str) (σ : β → B) (gs : List (Str × List (Tree β))) : Prop :=
  ∀ (g : Option (Term β)) (s : Term β),
    Reads name σ (denGroups name (g.map (Term.map σ)) (s.map σ) gs) (flatGroups g s gs) (tagsGroups gs) (namedGroups gs)

theorem node_eq (name : β → Str) (σ : β → B) (id : NodeId β) (groups : List (Str × List (Tree β)))
    (ih : GroupsOK name σ groups) (g : Option (Term β)) (n : Nat)
    (ha : Agree σ (tagsTree (.node id groups)) n) (hk : Keeps name σ (namedTree (.node id groups))) :
    (denId name id n).1 = id.subj.map σ ∧
      denGroups name (g.map (Term.map σ)) (denId name id n).1 groups (denId name id n).2 =
        ((flatGroups g id.subj groups).map (mq σ), n + (tagsTree (.node id groups)).length) := by
  cases id with
  | iri v => exact ⟨rfl, ih g (.iri v) n ha hk⟩
  | named b =>
    obtain ⟨hb, hk'⟩ := keeps_cons.1 hk
    have := ih g (.bnode b) n ha hk'
    simp only [Term.map, hb] at this
    exact ⟨by simp [denId, NodeId.subj, Term.map, hb], this⟩
  | anon b =>
    obtain ⟨hb, ha'⟩ := agree_cons.1 ha
    have := ih g (.bnode b) (n + 1) ha' hk
    simp only [Term.map, hb] at this
    refine ⟨by simp [denId, NodeId.subj, Term.map, hb], ?_⟩
    simp only [denId, NodeId.subj, this, tagsTree, List.length_cons]
    exact Prod.ext rfl (by simp only []; omega)

theorem node_step (name : β → Str) (σ : β → B) (id : NodeId β) (groups : List (Str × List (Tree β)))
    (ih : GroupsOK name σ groups) : ValOK name σ (.node id groups) := by
  intro g s p n ha hk
  obtain ⟨h1, h2⟩ := node_eq name σ id groups ih g n ha hk
  rw [h1] at h2
  simp only [denVal, h1, h2, flatVal, List.map_append, List.map_cons, List.map_nil, mq_mk]

theorem term_step (name : β → Str) (σ : β → B) (t : Term β) : ValOK name σ (.term t) := by
  intro g s p n _ hk
  have hk' : Keeps name σ (termBN t) := by simpa [namedTree] using hk
  simp [denVal, flatVal, mq_mk, outTerm_eq hk', tagsTree]

theorem list_step (name : β → Str) (σ : β → B) (cells : List (β × Term β)) : ValOK name σ (.list cells) := by
  intro g s p n ha hk
  have ha' : Agree σ (cells.map (·.1)) n := by simpa [tagsTree] using ha
  have hk' : Keeps name σ (cells.flatMap (fun c => termBN c.2)) := by simpa [namedTree] using hk
  simp [denVal, denList_eq name σ g s p cells n ha' hk', tagsTree]

theorem groups_ok (name : β → Str) (σ : β → B) (gs : List (Str × List (Tree β))) : GroupsOK name σ gs :=
  Tree.rec_1 (motive_1 := ValOK name σ) (motive_2 := GroupsOK name σ) (motive_3 := fun pv => ValsOK name σ pv.2)
    (motive_4 := ValsOK name σ) (node_step name σ) (term_step name σ) (list_step name σ) (fun _ _ => .nil)
    (fun pv _ ihh iht g s => .seq (ihh g s pv.1) (iht g s)) (fun _ _ ih => ih) (fun _ _ _ => .nil)
    (fun _ _ ihv ihvs g s p => .seq (ihv g s p) (ihvs g s p)) gs

theorem denNode_eq (name : β → Str) (σ : β → B) (g : Option (Term β)) (t : Tree β) (n : Nat)
    (hn : isNode t = true) (ha : Agree σ (tagsTree t) n) (hk : Keeps name σ (namedTree t)) :
    denNode name (g.map (Term.map σ)) t n = ((flatTree g t).map (mq σ), n + (tagsTree t).length) := by
  cases t with
  | term t => simp [isNode] at hn
  | list cells => simp [isNode] at hn
  | node id groups => exact (node_eq name σ id groups (groups_ok name σ groups) g n ha hk).2

theorem denNodes_eq (name : β → Str) (σ : β → B) (g : Option (Term β)) : ∀ (ts : List (Tree β)), ts.all isNode = true →
    Reads name σ (denNodes name (g.map (Term.map σ)) ts) (flatNodes g ts) (tagsNodes ts) (namedNodes ts)
  | [], _ => .nil
  | t :: ts, hn => by
    simp only [List.all_cons, Bool.and_eq_true] at hn
    exact .seq (fun n => denNode_eq name σ g t n hn.1) (denNodes_eq name σ g ts hn.2)

theorem denForest_eq (name : β → Str) (σ : β → B) : ∀ (F : Forest β), F.all (fun blk => blk.2.all isNode) = true →
    Reads name σ (denForest name F) (flatForest F) (tagsForest F) (namedForest F)
  | [], _ => .nil
  | (g, ns) :: rest, hn => by
    simp only [List.all_cons, Bool.and_eq_true] at hn
    intro n ha hk
    obtain ⟨⟨hkg, hkn⟩, hkr⟩ := by simpa only [namedForest, keeps_append] using hk
    have hg : g.map (outTerm name) = g.map (Term.map σ) := by
      cases g with
      | none => rfl
      | some t => exact congrArg some (outTerm_eq hkg)
    simpa only [denForest, hg, flatForest, tagsForest] using
      (denNodes_eq name σ g ns hn.1).seq (denForest_eq name σ rest hn.2) n ha (keeps_append.2 ⟨hkn, hkr⟩)

end RdfModel.Proofs.C10
