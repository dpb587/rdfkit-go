/-
  Proofs.C02Tok — the encoder's formatters are inverted by the decoder's producers
  (formatIRI / produceIRIREF, formatLiteralLexicalForm / produceString,
   format_PN_LOCAL / producePrefixedName).
  IRIREF and prefixed names: what the encoder writes IS a printed form of `Spec/TurtlePrinter.lean`
  (`formatIRI_print`, `formatLocalFrom_print`), so the round trip is the one `Proofs/C08TokB.lean`
  proves for every printed form, at the encoder's choices. Strings: each rune is written in a form the
  scanner reads back (`StrForm`), but `TablesOK` lets a table leave LF / CR raw, which no printed `"…"`
  string does; the body keeps its own induction.
  `pnameNs_ok` and `print_pname` have no encoder in them; they are here because the prefixed-name round
  trip needs them first.
-/
import RdfModel.Props.C02TokensDefs
import RdfModel.Proofs.C08TokB
namespace RdfModel.Proofs.C02Tok
open RdfModel RdfModel.Ttl RdfModel.C02

section
open RdfModel.Spec.TtlPrint RdfModel.Proofs.C08Tok

theorem u4_eq_uchar {c : Nat} (hc : c ≤ 0xFFFF) : 0x5c :: 0x75 :: hex4 c = uchar false false c := by
  rw [uchar, if_pos (by simpa using hc)]
  rfl

/-- `hex8` masks the top digit with 7, as the Go code does; for a code point it is 0 either way. -/
theorem u8_eq_uchar {c : Nat} (hc : c ≤ 0x10FFFF) : 0x5c :: 0x55 :: hex8 c = uchar true false c := by
  have h : c / 0x10000000 % 8 = c / 0x10000000 % 16 := by omega
  simp only [uchar, hex8, h]
  rfl

/-! `iriModeChoice`, `litModeChoice` and the `*_mode`, `*Body_map` lemmas: the Turtle and the N-Quads encoder
alike look up a mode per rune (0 raw, then ECHAR for strings, `\uXXXX`, `\UXXXXXXXX`) and write the rune accordingly. Whatever table the mode comes from, the text is
the printer's at the choice that goes with the mode. -/

def iriModeChoice : Nat → Choice
  | 1 => .u4 false
  | 2 => .u8 false
  | _ => .raw

def litModeChoice : Nat → Choice
  | 1 => .echar
  | 2 => .u4 false
  | 3 => .u8 false
  | _ => .raw

theorem printIriRune_mode {m c : Nat} (hm : m ≤ 2) (h0 : m = 0 → iriRawOK c = true)
    (h1 : m = 1 → c ≤ 0xFFFF) (hc : c ≤ 0x10FFFF) :
    printIriRune (iriModeChoice m) c =
      (match (generalizing := false) m with
        | 1 => 0x5c :: 0x75 :: hex4 c
        | 2 => 0x5c :: 0x55 :: hex8 c
        | _ => [c]) := by
  obtain rfl | rfl | rfl : m = 0 ∨ m = 1 ∨ m = 2 := by omega
  · simp [iriModeChoice, printIriRune, h0 rfl]
  · exact (u4_eq_uchar (h1 rfl)).symm
  · exact (u8_eq_uchar hc).symm

/-- `e` is the rune the encoder writes after the backslash in mode 1. The code-point bound is asked per
    mode (`h3`) because for strings it comes from a table fact (`PrintTablesOK.lit_u8`, `TablesGrammar`),
    not from `Scalars` as for IRIs (`printIriRune_mode`'s `hc`). -/
theorem printStrRune_mode {m c e : Nat} (hm : m ≤ 3)
    (h0 : m = 0 → (c ≠ 0x22 ∧ c ≠ 0x5c) ∧ c ≠ 0x0a ∧ c ≠ 0x0d)
    (h1 : m = 1 → echarDecode e = some c) (h2 : m = 2 → c ≤ 0xFFFF) (h3 : m = 3 → c ≤ 0x10FFFF) :
    printStrRune .dq (litModeChoice m) c =
      (match (generalizing := false) m with
        | 1 => [0x5c, e]
        | 2 => 0x5c :: 0x75 :: hex4 c
        | 3 => 0x5c :: 0x55 :: hex8 c
        | _ => [c]) := by
  obtain rfl | rfl | rfl | rfl : m = 0 ∨ m = 1 ∨ m = 2 ∨ m = 3 := by omega
  · obtain ⟨⟨a, b⟩, c', d⟩ := h0 rfl
    simp [litModeChoice, printStrRune, strRawOK, Style.delim, Style.long, a, b, c', d]
  · simp only [litModeChoice, printStrRune, strEsc, echarOf_of_decode (h1 rfl)]
  · exact (u4_eq_uchar (h2 rfl)).symm
  · exact (u8_eq_uchar (h3 rfl)).symm

theorem printIriBody_map (ch : Nat → Choice) (esc : Nat → List Nat) (v : List Nat)
    (h : ∀ c ∈ v, printIriRune (ch c) c = esc c) : printIriBody (v.map ch) v = v.flatMap esc := by
  induction v with
  | nil => rfl
  | cons c v ih =>
    simp only [List.map_cons, printIriBody, List.head?_cons, Option.getD_some, List.tail_cons,
      List.flatMap_cons, h c List.mem_cons_self, ih fun x hx => h x (List.mem_cons_of_mem _ hx)]

theorem printStrBody_map (ch : Nat → Choice) (esc : Nat → List Nat) (v : List Nat)
    (h : ∀ c ∈ v, printStrRune .dq (ch c) c = esc c) (k : Nat) :
    printStrBody .dq k (v.map ch) v = v.flatMap esc := by
  induction v generalizing k with
  | nil => rfl
  | cons c v ih =>
    simp only [List.map_cons, printStrBody, Style.long, Bool.false_and, Bool.false_eq_true, if_false,
      List.head?_cons, Option.getD_some, List.tail_cons, List.flatMap_cons, h c List.mem_cons_self,
      ih (fun x hx => h x (List.mem_cons_of_mem _ hx)) 0]

def iriChoice (T : Tables) (a : Bool) (c : Nat) : Choice := iriModeChoice (lookup (T.iriEsc a) 0 c)

theorem escIRIRune_print (T : Tables) (hT : TablesOK T) (a : Bool) {c : Nat} (hc : IsScalar c) :
    printIriRune (iriChoice T a c) c = escIRIRune T a c :=
  printIriRune_mode (hT.iri_mode a c) (fun h => by simp [iriRawOK_eq, hT.iri_raw a c h])
    (hT.iri_u4 a c) (isScalar_le hc)

theorem formatIRI_print (T : Tables) (hT : TablesOK T) (a : Bool) (s : List Nat) (hs : Scalars s) :
    printIriBody (s.map (iriChoice T a)) s = formatIRI T a s :=
  printIriBody_map _ _ s fun c hc => escIRIRune_print T hT a (hs c hc)

end

theorem iriref_roundtrip (T : Tables) (hT : TablesOK T) (e : End) (ascii : Bool) (s : List Nat)
    (hs : Scalars s) (rest : List Nat) :
    produceIRIREF T e (0x3c :: (formatIRI T ascii s ++ 0x3e :: rest)) = .ok s rest := by
  have := C08Tok.print_iriref T hT e (s.map (iriChoice T ascii)) s hs rest
  simpa [Spec.TtlPrint.printIRIREF, formatIRI_print T hT ascii s hs] using this

section
open RdfModel.Spec.TtlPrint RdfModel.Proofs.C08Tok

theorem escLitRune_form (T : Tables) (hT : TablesOK T) (a : Bool) {c : Nat} (hc : c ≤ 0x10FFFF) :
    StrForm 0x22 c (escLitRune T a c) := by
  have hm := hT.lit_mode a c
  have h0 := hT.lit_raw a c
  have h1 := hT.lit_echar a c
  have h2 := hT.lit_u4 a c
  unfold escLitRune
  generalize lookup (T.litEsc a) 0 c = m at hm h0 h1 h2 ⊢
  obtain rfl | rfl | rfl | rfl : m = 0 ∨ m = 1 ∨ m = 2 ∨ m = 3 := by omega
  · exact .raw (h0 rfl).2 (h0 rfl).1
  · exact .echar (h1 rfl)
  · exact u4_eq_uchar (h2 rfl) ▸ .uchar _ _
  · exact u8_eq_uchar hc ▸ .uchar _ _

theorem scanString_format (T : Tables) (hT : TablesOK T) (e : End) (ascii : Bool) (s : List Nat)
    (hs : Scalars s) (rest acc : List Nat) :
    scanString T e 0x22 false .body (litBody T ascii s ++ 0x22 :: rest) acc
      = .ok (goString (acc.reverse ++ s)) rest := by
  induction s generalizing acc with
  | nil => simp [litBody, scanString]
  | cons c s ih =>
    simp only [litBody, List.flatMap_cons, List.append_assoc] at ih ⊢
    have hc := isScalar_le (scalars_head hs)
    rw [scanString_form T hT e false (escLitRune_form T hT ascii hc) hc, ih (scalars_tail hs)]
    simp

end

theorem string_roundtrip (T : Tables) (hT : TablesOK T) (e : End) (ascii : Bool) (s : List Nat)
    (hs : Scalars s) (rest : List Nat) (hstop : s = [] → EmptyStrStop e rest) :
    produceString T e (formatLiteralLexicalForm T ascii s ++ rest) = .ok s rest := by
  cases s with
  | nil =>
    have hstop := hstop rfl
    simp only [formatLiteralLexicalForm, litBody, List.flatMap_nil, List.nil_append, List.cons_append]
    cases rest with
    | nil =>
      simp only [EmptyStrStop] at hstop
      subst hstop
      simp [produceString]
    | cons c r =>
      simp only [EmptyStrStop] at hstop
      simp [produceString, hstop]
  | cons c s =>
    -- the body does not begin with `"`: the producer goes into the short-string loop
    obtain ⟨x, tl, hxt, hx⟩ :=
      (escLitRune_form T hT ascii (isScalar_le (C08Tok.scalars_head hs))).head (by decide)
    have hb := scanString_format T hT e ascii (c :: s) hs rest []
    simp only [formatLiteralLexicalForm, litBody, List.flatMap_cons, List.cons_append,
      List.append_assoc, List.nil_append, hxt] at hb ⊢
    simp only [produceString, true_or, if_true]
    rw [if_neg hx, hb]
    simp [goString_id_of_scalar hs]

theorem pnameNsLoop_ok (T : Tables) (e : End) (xs : List Nat) :
    ∀ acc rest, (∀ x ∈ xs, ((inRanges T.pnChars x || x = 0x2e) && x != 0x3a) = true) →
      pnameNsLoop T e (xs ++ 0x3a :: rest) acc = .ok (goString (acc.reverse ++ xs)) rest := by
  induction xs with
  | nil => intro acc rest _; simp [pnameNsLoop]
  | cons x xs ih =>
    intro acc rest h
    have hx := h x List.mem_cons_self
    simp only [Bool.and_eq_true, bne_iff_ne, ne_eq] at hx
    simp only [List.cons_append]
    unfold pnameNsLoop
    rw [if_neg hx.2, if_pos hx.1, ih _ _ (fun y hy => h y (List.mem_cons_of_mem _ hy))]
    simp

theorem pnameNs_ok (T : Tables) (e : End) (p rest : List Nat) (hp : prefixOK T p = true)
    (hs : Scalars p) : producePNAME_NS T e (p ++ 0x3a :: rest) = .ok p rest := by
  cases p with
  | nil => simp [producePNAME_NS]
  | cons c xs =>
    simp only [prefixOK, Bool.and_eq_true, List.all_eq_true, bne_iff_ne, ne_eq] at hp
    obtain ⟨⟨h1, h2⟩, h3⟩ := hp
    simp only [List.cons_append, producePNAME_NS]
    rw [if_neg h2, if_pos h1, pnameNsLoop_ok T e xs [c] rest
      (fun x hx => by simpa [Bool.and_eq_true] using h3 x hx)]
    simp [goString_id_of_scalar hs]

section
open RdfModel.Spec.TtlPrint RdfModel.Proofs.C08Tok

theorem localRawOK_of_mode0 (T : Tables) (hT : TablesOK T) (first last : Bool) {c : Nat}
    (hc : c ≤ 0x10FFFF) (h : lookup (T.localEsc first last) 0 c = 0) :
    localRawOK T first last c = true ∧ c ≠ 0x25 := by
  cases first
  · have hb := hT.loc_raw_body last c hc h
    have hdot := hT.loc_raw_last false c
    simp only [Bool.or_eq_true, decide_eq_true_eq] at hb
    refine ⟨?_, fun h25 => by subst h25; simp [hT.pn_pct] at hb⟩
    -- `hb`: PN_CHARS, `.` or `:`. Inside the name that is `localRawOK` with the disjuncts reordered;
    -- at its end `localRawOK` leaves `.` out, and `hdot` says a raw last rune is not `.`
    cases last <;>
      simp only [localRawOK, Bool.false_eq_true, if_false, if_true, Bool.or_eq_true, decide_eq_true_eq] <;>
      grind
  · have hf := hT.loc_raw_first last c hc h
    refine ⟨by simpa [localRawOK] using hf, ?_⟩
    intro h25; subst h25; simp [hT.pnU_pct, isDigit, NQ.isDigit] at hf

def localChoices (T : Tables) : Bool → List Nat → List Choice
  | _, [] => []
  | first, c :: rest =>
    (if lookup (T.localEsc first rest.isEmpty) 0 c = 0 then .raw else .echar) :: localChoices T false rest

theorem printLocalFrom_raw (T : Tables) (first : Bool) (chs : List Choice) {c : Nat} (loc : List Nat)
    (hpct : c ≠ 0x25) (hraw : localRawOK T first loc.isEmpty c = true) :
    printLocalFrom T first (.raw :: chs) (c :: loc)
      = (printLocalFrom T false chs loc).map (fun t => c :: t) := by
  conv => lhs; unfold printLocalFrom
  simp [hpct, hraw]

theorem printLocalFrom_echar (T : Tables) (first : Bool) (chs : List Choice) {c : Nat} (loc : List Nat)
    (hesc : localEscapable c = true) :
    printLocalFrom T first (.echar :: chs) (c :: loc)
      = (printLocalFrom T false chs loc).map (fun t => 0x5c :: c :: t) := by
  conv => lhs; unfold printLocalFrom
  by_cases hpct : c = 0x25
  · simp [hpct]
  · simp [hpct, hesc]

theorem formatLocalFrom_print (T : Tables) (hT : TablesOK T) (loc : List Nat) :
    ∀ (first : Bool), Scalars loc → localOKFrom T first loc = true →
      ∃ out, formatLocalFrom T first loc = some out ∧
        printLocalFrom T first (localChoices T first loc) loc = some out := by
  induction loc with
  | nil => intro _ _ _; exact ⟨[], rfl, rfl⟩
  | cons c loc ih =>
    intro first hs hok
    simp only [localOKFrom, Bool.and_eq_true, Bool.or_eq_true, decide_eq_true_eq] at hok
    obtain ⟨hm, hok'⟩ := hok
    obtain ⟨t, ht, hp⟩ := ih false (scalars_tail hs) hok'
    unfold formatLocalFrom
    rcases hm with hm | hm
    · obtain ⟨hraw, hpct⟩ := localRawOK_of_mode0 T hT first _ (isScalar_le (scalars_head hs)) hm
      rw [hm, localChoices, if_pos hm, printLocalFrom_raw T first _ loc hpct hraw, ht, hp]
      exact ⟨_, rfl, rfl⟩
    · rw [hm, localChoices, if_neg (by omega), printLocalFrom_echar T first _ loc (hT.loc_esc _ _ c hm),
        ht, hp]
      exact ⟨_, rfl, rfl⟩

theorem print_pname (T : Tables) (hT : TablesOK T) (e : End) (chs : List Choice)
    (pfx loc l : List Nat) (hp : prefixOK T pfx = true) (hps : Scalars pfx) (hs : Scalars loc)
    (hl : printLocal T chs loc = some l) {rest : List Nat} (hend : LocalEnd T e rest) :
    producePrefixedName T e (pfx ++ 0x3a :: (l ++ rest)) = .ok (pfx, loc) rest := by
  unfold producePrefixedName
  rw [pnameNs_ok T e pfx _ hp hps]
  simp only
  rw [print_local T hT e chs loc l hs hl hend]

end

theorem pname_roundtrip (T : Tables) (hT : TablesOK T) (e : End) (pfx loc rest : List Nat)
    (hp : prefixOK T pfx = true) (hps : Scalars pfx) (hs : Scalars loc)
    (hok : PNLocalOK T loc = true) (hstop : LocalStop T e rest) :
    ∃ out, format_PN_LOCAL T loc = some out ∧
      producePrefixedName T e (pfx ++ 0x3a :: (out ++ rest)) = .ok (pfx, loc) rest := by
  obtain ⟨out, hout, hpr⟩ := formatLocalFrom_print T hT loc true hs hok
  exact ⟨out, hout, print_pname T hT e _ pfx loc out hp hps hs hpr (.of_stop hstop)⟩

end RdfModel.Proofs.C02Tok
