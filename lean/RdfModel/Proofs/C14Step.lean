import RdfModel.Proofs.C14Basic
namespace RdfModel.Proofs.C14
open RdfModel.BN RdfModel.C14

theorem getElem?_append_some {α : Type} {l : List α} {i : Nat} {x : α} (y : List α) (h : l[i]? = some x) :
    (l ++ y)[i]? = some x := by
  rw [List.getElem?_append_left (lt_length_of_getElem? h)]; exact h

/-- The clause of `Ext` for one kind of object (`tag`: its format or factory): objects are never freed or
    re-tagged, and their tables only gain keys. -/
def Grows {α τ β : Type} (tag : α → τ) (known : α → List (Node × β)) (l l' : List α) : Prop :=
  ∀ (i : Nat) p, l[i]? = some p → ∃ p', l'[i]? = some p' ∧ tag p' = tag p ∧
    ∀ k v, assoc k (known p) = some v → assoc k (known p') = some v

section
variable {α τ β : Type} {tag : α → τ} {known : α → List (Node × β)}

theorem Grows.refl {l : List α} : Grows tag known l l := fun _ p h => ⟨p, h, rfl, fun _ _ h => h⟩

theorem Grows.trans {a b c : List α} (h1 : Grows tag known a b) (h2 : Grows tag known b c) :
    Grows tag known a c := fun i p hp => by
  obtain ⟨q, hq, hf, hk⟩ := h1 i p hp
  obtain ⟨r, hr, hf', hk'⟩ := h2 i q hq
  exact ⟨r, hr, hf'.trans hf, fun k v h => hk' k v (hk k v h)⟩

theorem Grows.append {l : List α} (y : List α) : Grows tag known l (l ++ y) := fun _ p h =>
  ⟨p, getElem?_append_some y h, rfl, fun _ _ h => h⟩

theorem Grows.set {l : List α} {i : Nat} {p q : α} {n : Node} {x : β} (hp : l[i]? = some p)
    (ht : tag q = tag p) (hn : assoc n (known p) = none) (hq : known q = (n, x) :: known p) :
    Grows tag known l (l.set i q) := fun j r hr => by
  by_cases hij : i = j
  · subst hij
    rw [hp] at hr; cases hr
    exact ⟨q, List.getElem?_set_self (lt_length_of_getElem? hp), ht, fun k v hk => hq ▸ assoc_cons_of_none hn hk⟩
  · exact ⟨r, by rw [List.getElem?_set_ne hij]; exact hr, rfl, fun _ _ h => h⟩
end

theorem Ext.refl (s : State) : Ext s s where
  dflt := Nat.le_refl _
  bnfs := fun _ c h => ⟨c, h, Nat.le_refl _⟩
  strfs := fun _ _ h => h
  int64s := Grows.refl
  uuids := Grows.refl
  mappers := Grows.refl
  uuidPos := Nat.le_refl _

theorem Ext.trans {a b c : State} (h1 : Ext a b) (h2 : Ext b c) : Ext a c where
  dflt := Nat.le_trans h1.dflt h2.dflt
  bnfs := fun f x hx => by
    obtain ⟨y, hy, hxy⟩ := h1.bnfs f x hx
    obtain ⟨z, hz, hyz⟩ := h2.bnfs f y hy
    exact ⟨z, hz, Nat.le_trans hxy hyz⟩
  strfs := fun j x hx => h2.strfs j x (h1.strfs j x hx)
  int64s := Grows.trans h1.int64s h2.int64s
  uuids := Grows.trans h1.uuids h2.uuids
  mappers := Grows.trans h1.mappers h2.mappers
  uuidPos := Nat.le_trans h1.uuidPos h2.uuidPos

theorem issued_mono {s s' : State} (h : Ext s s') {id : Ident} (hi : Issued s id) : Issued s' id := by
  cases id with
  | bn f v =>
    obtain ⟨c, hc, hv⟩ := hi
    obtain ⟨c', hc', hcc⟩ := h.bnfs f c hc
    exact ⟨c', hc', Nat.le_trans hv hcc⟩
  | bnDefault v => exact Nat.le_trans hi h.dflt
  | bnString f v => trivial

theorem lt_bnfs_mono {s s' : State} (h : Ext s s') {a : Nat} (ha : a < s.bnfs.length) : a < s'.bnfs.length := by
  obtain ⟨_, hc, _⟩ := h.bnfs a _ (List.getElem?_eq_getElem ha)
  exact lt_length_of_getElem? hc

theorem validFactory_mono {s s' : State} (h : Ext s s') {f : FactoryRef} (hv : validFactory s f = true) :
    validFactory s' f = true := by
  cases f with
  | dflt => rfl
  | bnf i => exact decide_eq_true (lt_bnfs_mono h (of_decide_eq_true hv))
  | strf j =>
    have hj : j < s.strfs.length := of_decide_eq_true hv
    exact decide_eq_true (lt_length_of_getElem? (h.strfs j _ (List.getElem?_eq_getElem hj)))

theorem ext_of_fresh {s s' : State} {f : FactoryRef} {id : Ident} (h : fresh s f = some (s', id)) : Ext s s' := by
  rcases fresh_eq h with ⟨rfl, _⟩ | ⟨a, c, hc, rfl, _⟩
  · exact { Ext.refl s with dflt := Nat.le_succ _ }
  · refine { Ext.refl s with bnfs := fun g c' hg => ?_ }
    by_cases hag : a = g
    · subst hag
      rw [hc] at hg; cases hg
      exact ⟨c + 1, List.getElem?_set_self (lt_length_of_getElem? hc), Nat.le_succ c⟩
    · exact ⟨c', by rw [List.getElem?_set_ne hag]; exact hg, Nat.le_refl _⟩

/-- The clauses of `Inv` for one table: its values satisfy `B` and belong to one key each. -/
structure Table {β : Type} (B : β → Prop) (t : List (Node × β)) : Prop where
  bound : ∀ k v, (k, v) ∈ t → B v
  inj : ∀ k k' v, (k, v) ∈ t → (k', v) ∈ t → k = k'

theorem Table.nil {β : Type} {B : β → Prop} : Table B [] := ⟨nofun, nofun⟩

theorem Table.cons {β : Type} {B B' : β → Prop} {t : List (Node × β)} (h : Table B t) (hB : ∀ v, B v → B' v)
    {x : β} (hx : B' x) (hnx : ¬ B x) (n : Node) : Table B' ((n, x) :: t) := by
  refine ⟨fun k v hk => ?_, fun k k' v hk hk' => ?_⟩
  · rcases List.mem_cons.mp hk with e | hk
    · cases e; exact hx
    · exact hB v (h.bound k v hk)
  · rcases List.mem_cons.mp hk with e | hk <;> rcases List.mem_cons.mp hk' with e' | hk'
    · cases e; cases e'; rfl
    · cases e; exact absurd (h.bound k' _ hk') hnx
    · cases e'; exact absurd (h.bound k _ hk) hnx
    · exact h.inj k k' v hk hk'

theorem old_or {α : Type} {l l' : List α} {Q : α → Prop} (h : ∀ p ∈ l', p ∈ l ∨ Q p)
    (hl : ∀ (i : Nat) p, l[i]? = some p → Q p) (i : Nat) (p : α) (hp : l'[i]? = some p) : Q p :=
  (h p (List.mem_of_getElem? hp)).elim (fun h' => (List.getElem?_of_mem h').elim fun i' => hl i' p) id

/-- How every operation re-establishes the invariant: the new state extends the old one, and each of its
    objects is an object of the old state or is in order in the new state. Only the list that an operation
    changes needs an argument. Trap: the default `fun _ => .inl` of an omitted argument elaborates only where the
    list of `s'` is the list of `s` by definition, i.e. where `s'` is written as a record update of `s`. -/
theorem inv_of_ext {s s' : State} (hI : Inv s) (hE : Ext s s')
    (hs : ∀ a ∈ s'.strfs, a ∈ s.strfs ∨ a < s'.bnfs.length := by exact fun _ => .inl)
    (hm : ∀ mp ∈ s'.mappers, mp ∈ s.mappers ∨ (validFactory s' mp.factory = true ∧ Table (Issued s') mp.known) := by
      exact fun _ => .inl)
    (hi : ∀ p ∈ s'.int64s, p ∈ s.int64s ∨ Table (· < p.next) p.known := by exact fun _ => .inl)
    (hu : ∀ p ∈ s'.uuids, p ∈ s.uuids ∨ Table (· < s'.uuidPos) p.known := by exact fun _ => .inl) : Inv s' := by
  have hs' := old_or hs fun j a h => lt_bnfs_mono hE (hI.strfs_valid j a h)
  have hm' := old_or hm fun m mp h => ⟨validFactory_mono hE (hI.mapper_factory m mp h),
    fun k v hk => issued_mono hE (hI.mapper_issued m mp h k v hk), hI.mapper_inj m mp h⟩
  have hi' := old_or hi fun i p h => ⟨hI.int64_bound i p h, hI.int64_inj i p h⟩
  have hu' := old_or hu fun i p h =>
    ⟨fun k v hk => Nat.lt_of_lt_of_le (hI.uuid_bound i p h k v hk) hE.uuidPos, hI.uuid_inj i p h⟩
  exact ⟨hs', fun m mp h => (hm' m mp h).1, fun m mp h => (hm' m mp h).2.bound, fun m mp h => (hm' m mp h).2.inj,
    fun i p h => (hi' i p h).bound, fun i p h => (hi' i p h).inj,
    fun i p h => (hu' i p h).bound, fun i p h => (hu' i p h).inj⟩

theorem mem_snoc {α : Type} {l : List α} {y p : α} (h : p ∈ l ++ [y]) : p ∈ l ∨ p = y := by simpa using h

theorem inv_of_fresh {s s' : State} {f : FactoryRef} {id : Ident} (hI : Inv s) (h : fresh s f = some (s', id)) :
    Inv s' := by
  have hE := ext_of_fresh h
  -- the case split only turns `s'` into a record update of `s`, which the defaults of `inv_of_ext` need
  rcases fresh_eq h with ⟨rfl, _⟩ | ⟨a, c, hc, rfl, _⟩ <;> exact inv_of_ext hI hE

theorem fresh_isSome {s : State} (hI : Inv s) {f : FactoryRef} (hv : validFactory s f = true) :
    ∃ s' id, fresh s f = some (s', id) := by
  cases f with
  | dflt => exact ⟨_, _, rfl⟩
  | bnf i =>
    simp [validFactory] at hv
    simp [fresh, List.getElem?_eq_getElem hv]
  | strf j =>
    simp [validFactory] at hv
    have ha := hI.strfs_valid j s.strfs[j] (by simp [hv])
    simp [fresh, List.getElem?_eq_getElem hv, List.getElem?_eq_getElem ha]

theorem getLabel_ext (U : Nat → Bytes) (s : State) (p : ProvRef) (n : Node) : Ext s (getLabel U s p n).1 :=
  getLabel_state U s n (Ext.refl s)
    (fun _ _ hp hn => { Ext.refl s with int64s := Grows.set hp rfl hn rfl })
    (fun _ _ hp hn => { Ext.refl s with uuids := Grows.set hp rfl hn rfl, uuidPos := Nat.le_succ _ }) p

theorem getLabel_inv (U : Nat → Bytes) {s : State} (hI : Inv s) (p : ProvRef) (n : Node) :
    Inv (getLabel U s p n).1 := by
  refine getLabel_state U s n (P := fun s' => Ext s s' → Inv s') (fun _ => hI) (fun i pr hp hn hE => ?_)
    (fun i pr hp hn hE => ?_) p (getLabel_ext U s p n)
  · refine inv_of_ext hI hE (hi := fun q hq => (List.mem_or_eq_of_mem_set hq).imp_right ?_)
    rintro rfl
    exact (Table.mk (hI.int64_bound i pr hp) (hI.int64_inj i pr hp)).cons
      (fun _ => Nat.lt_succ_of_lt) (Nat.lt_succ_self _) (Nat.lt_irrefl _) n
  · refine inv_of_ext hI hE (hu := fun q hq => (List.mem_or_eq_of_mem_set hq).imp_right ?_)
    rintro rfl
    exact (Table.mk (hI.uuid_bound i pr hp) (hI.uuid_inj i pr hp)).cons
      (fun _ => Nat.lt_succ_of_lt) (Nat.lt_succ_self _) (Nat.lt_irrefl _) n

/-- Whatever holds of `s`, and of `s` after a call of the mapper's factory and with a new key in the mapper's
    table, holds of the state after `mapNode`. -/
theorem mapNode_state (s : State) (m : Nat) (n : Node) {P : State → Prop} (h0 : P s)
    (h1 : ∀ mp s' id, s.mappers[m]? = some mp → assoc n mp.known = none → fresh s mp.factory = some (s', id) →
      P { s' with mappers := s'.mappers.set m { mp with known := (n, id) :: mp.known } }) :
    P (mapNode s m n).1 := by
  simp only [mapNode]
  split
  · exact h0
  · rename_i mp hm
    split
    · exact h0
    · rename_i hn
      split
      · exact h0
      · rename_i s' id hf; exact h1 mp s' id hm hn hf

theorem mapNode_ext (s : State) (m : Nat) (n : Node) : Ext s (mapNode s m n).1 :=
  mapNode_state s m n (Ext.refl s) fun mp s' _ hm hn hf => Ext.trans (ext_of_fresh hf)
    { Ext.refl s' with mappers := Grows.set (p := mp) (fresh_mappers hf ▸ hm) rfl hn rfl }

theorem mapNode_inv {s : State} (hI : Inv s) (m : Nat) (n : Node) : Inv (mapNode s m n).1 := by
  refine mapNode_state s m n hI fun mp s' id hm hn hf => ?_
  have hm' : s'.mappers[m]? = some mp := fresh_mappers hf ▸ hm
  refine inv_of_ext (inv_of_fresh hI hf) { Ext.refl s' with mappers := Grows.set hm' rfl hn rfl }
    (hm := fun q hq => (List.mem_or_eq_of_mem_set hq).imp_right ?_)
  rintro rfl
  exact ⟨validFactory_mono (ext_of_fresh hf) (hI.mapper_factory m mp hm),
    (Table.mk (hI.mapper_issued m mp hm) (hI.mapper_inj m mp hm)).cons (fun _ => issued_mono (ext_of_fresh hf))
      (fresh_issued hf).2 (fresh_issued hf).1 n⟩

/-- Whatever holds of `s`, of `s` after a call of a factory, a provider or a mapper, and of `s` with one new
    object, holds of the state after any operation. -/
theorem step_state (U : Nat → Bytes) (s : State) (op : Op) {P : State → Prop} (h0 : P s)
    (hf : ∀ f s' id, fresh s f = some (s', id) → P s')
    (hl : ∀ p n, P (getLabel U s p n).1)
    (hm : ∀ m n, op = .mapNode m n → P (mapNode s m n).1)
    (hnf : P { s with bnfs := s.bnfs ++ [0] })
    (hns : P { s with bnfs := s.bnfs ++ [0], strfs := s.strfs ++ [s.bnfs.length] })
    (hni : ∀ fmt, P { s with int64s := s.int64s ++ [{ format := fmt, next := 0, known := [] }] })
    (hnu : ∀ fmt, P { s with uuids := s.uuids ++ [{ format := fmt, known := [] }] })
    (hnm : ∀ f, validFactory s f = true → P { s with mappers := s.mappers ++ [{ factory := f, known := [] }] }) :
    P (step U s op).1 := by
  cases op with
  | newFactory => exact hnf
  | newStringFactory => exact hns
  | newBlankNode f =>
    simp only [step]
    split
    · rename_i hf'; exact hf _ _ _ hf'
    · exact h0
  | newStringBlankNode j l =>
    simp only [step]
    split
    · split
      · split
        · rename_i hf'; exact hf _ _ _ hf'
        · exact h0
      · exact h0
    · exact h0
  | newInt64Provider fmt => exact hni _
  | newUUIDProvider fmt => exact hnu _
  | getStringProvider j fb => simp only [step]; split <;> exact h0
  | getLabel p n => exact hl p n
  | newMapper f =>
    simp only [step]
    split
    · rename_i hv; exact hnm _ hv
    · exact h0
  | mapNode m n => exact hm m n rfl
  | propagate h =>
    simp only [step]
    split
    · split
      · exact hnu _
      · exact h0
    · split <;> exact h0
    · exact h0
  | termEquals a b => exact h0

theorem step_ext (U : Nat → Bytes) (s : State) (op : Op) : Ext s (step U s op).1 :=
  step_state U s op (Ext.refl s) (fun _ _ _ => ext_of_fresh) (getLabel_ext U s) (fun m n _ => mapNode_ext s m n)
    { Ext.refl s with bnfs := fun _ c h => ⟨c, getElem?_append_some _ h, Nat.le_refl _⟩ }
    { Ext.refl s with
      bnfs := fun _ c h => ⟨c, getElem?_append_some _ h, Nat.le_refl _⟩
      strfs := fun _ _ h => getElem?_append_some _ h }
    (fun _ => { Ext.refl s with int64s := Grows.append _ })
    (fun _ => { Ext.refl s with uuids := Grows.append _ })
    (fun _ _ => { Ext.refl s with mappers := Grows.append _ })

theorem step_inv (U : Nat → Bytes) {s : State} (hI : Inv s) (op : Op) : Inv (step U s op).1 :=
  step_state U s op (P := fun s' => Ext s s' → Inv s') (fun _ => hI) (fun _ _ _ hf _ => inv_of_fresh hI hf)
    (fun p n _ => getLabel_inv U hI p n) (fun m n _ _ => mapNode_inv hI m n)
    (fun hE => inv_of_ext hI hE)
    (fun hE => inv_of_ext hI hE (hs := fun a ha => (mem_snoc ha).imp_right (by rintro rfl; simp)))
    (fun _ hE => inv_of_ext hI hE (hi := fun p hp => (mem_snoc hp).imp_right (by rintro rfl; exact Table.nil)))
    (fun _ hE => inv_of_ext hI hE (hu := fun p hp => (mem_snoc hp).imp_right (by rintro rfl; exact Table.nil)))
    (fun _ hv hE => inv_of_ext hI hE
      (hm := fun p hp => (mem_snoc hp).imp_right (by rintro rfl; exact ⟨hv, Table.nil⟩)))
    (step_ext U s op)

theorem inv_init (d : Nat) : Inv (init d) := by
  constructor <;> intros <;> simp_all [init]

end RdfModel.Proofs.C14
