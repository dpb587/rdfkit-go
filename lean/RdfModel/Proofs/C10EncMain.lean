import RdfModel.Proofs.C10EncRoot
import RdfModel.Proofs.C17Dataset
namespace RdfModel.Proofs.C10
open RdfModel RdfModel.Desc RdfModel.JL RdfModel.JLEnc RdfModel.C10

variable {β : Type} [DecidableEq β]

theorem initial_ctx_empty (mode11 : Bool) (base : Option Str) (c : Ctx)
    (h : processCtxObj (Ctx.initial mode11 base) [] = some c) : c = Ctx.initial mode11 base := by
  simp [processCtxObj, getKey, Ctx.initial] at h
  exact h.symm

section Facts
variable (cfg : Cfg β) (d : List (DQuad β)) (ord ord2 : List (Term β))

theorem usedPrefixes_nodup : (usedPrefixes cfg d ord ord2).Nodup := by
  unfold usedPrefixes
  simp only []
  split
  · exact List.nodup_nil
  · exact dedupStr_nodup _

theorem declOK_of_ctxOK (h : ctxOK cfg d ord ord2 = true) : DeclOK cfg.base (declared cfg d ord ord2) := by
  simp only [ctxOK, Bool.and_eq_true, List.all_eq_true] at h
  obtain ⟨⟨hb, hd⟩, _⟩ := h
  exact
    { base := by intro b hbs; rw [hbs] at hb; exact hb
      name := fun e he => (hd e he).1.1.1
      abs := fun e he => (hd e he).1.1.2
      gd := fun e he => (hd e he).1.2
      sch := fun e he => (hd e he).2
      nodup := declOf_names_nodup _ _ (usedPrefixes_nodup cfg d ord ord2) }

theorem iriG_of (hctx : ctxOK cfg d ord ord2 = true) (hloc : locOK cfg d ord ord2 = true)
    {q : DQuad β} (hq : q ∈ d) {v : Str} (hv : v ∈ quadIris q) (habs : absIri v = true) :
    IriG (mkEnc cfg) (usedPrefixes cfg d ord ord2) ((declared cfg d ord ord2).map (·.1)) v := by
  simp only [ctxOK, Bool.and_eq_true, List.all_eq_true] at hctx
  simp only [locOK, List.all_eq_true, Bool.and_eq_true] at hloc
  have hcomp : compactOK (mkEnc cfg) v = true := (hloc q hq).1 v hv
  refine ⟨habs, hctx.2 q hq v hv, hcomp, ?_⟩
  intro p r hcp hpu
  obtain ⟨ns, hns, _⟩ := compactOK_spec hcomp hcp
  have hm : (p, ns) ∈ declared cfg d ord ord2 := by
    rw [declared_eq]; exact mem_declOf.2 ⟨hpu, hns⟩
  exact (hctx.1.2 (p, ns) hm).1.1.1

theorem relOK_of (hloc : locOK cfg d ord ord2 = true) {q : DQuad β} (hq : q ∈ d) {v : Str} (hv : v ∈ docIris q) :
    ∀ b, cfg.base = some b → relOK (mkEnc cfg) ((declared cfg d ord ord2).map (·.1)) b v = true := by
  intro b hb
  simp only [locOK, List.all_eq_true, Bool.and_eq_true] at hloc
  have := (hloc q hq).2
  rw [hb] at this
  simp only [List.all_eq_true] at this
  exact this v hv

theorem pok_of (hwf : WFDataset d) (hnn : noNativeTyped d = true) (hctx : ctxOK cfg d ord ord2 = true)
    (hloc : locOK cfg d ord ord2 = true) {q : DQuad β} (hq : q ∈ d) :
    POk (mkEnc cfg) (usedPrefixes cfg d ord ord2) ((declared cfg d ord ord2).map (·.1)) cfg.base (q.t.p, q.t.o) ∧
    wfNode q.t.s = true ∧
    (∀ v, q.t.s = .iri v →
      IriG (mkEnc cfg) (usedPrefixes cfg d ord ord2) ((declared cfg d ord ord2).map (·.1)) v ∧
      ∀ b, cfg.base = some b → relOK (mkEnc cfg) ((declared cfg d ord ord2).map (·.1)) b v = true) := by
  have hw := hwf q hq
  simp only [wfQuad, Bool.and_eq_true] at hw
  obtain ⟨⟨⟨hs, hp⟩, ho⟩, _⟩ := hw
  have hn := (List.all_eq_true.1 hnn) q hq
  refine ⟨⟨iriG_of cfg d ord ord2 hctx hloc hq (by simp [quadIris]) hp, ho, ?_, ?_⟩, hs, ?_⟩
  · intro v hv
    simp only at hv
    have habs : absIri v = true := by rw [hv] at ho; simpa [wfObj] using ho
    exact ⟨iriG_of cfg d ord ord2 hctx hloc hq (by simp [quadIris, hv, termIris]) habs,
      relOK_of cfg d ord ord2 hloc hq (by simp [docIris, hv])⟩
  · intro lex dt lang hv
    simp only at hv
    rw [hv] at hn ho
    simp only [Bool.not_eq_true'] at hn
    refine ⟨hn, iriG_of cfg d ord ord2 hctx hloc hq (by simp [quadIris, hv, termIris]) ?_⟩
    cases lang with
    | none => simpa [wfObj] using ho
    | some l =>
      simp only [wfObj, Bool.and_eq_true, beq_iff_eq] at ho
      rw [ho.1]; decide +kernel
  · intro v hv
    have habs : absIri v = true := by rw [hv] at hs; simpa [wfNode] using hs
    exact ⟨iriG_of cfg d ord ord2 hctx hloc hq (by simp [quadIris, hv, termIris]) habs,
      relOK_of cfg d ord ord2 hloc hq (by simp [docIris, hv, termIris])⟩

omit [DecidableEq β] in
theorem dummy : True := trivial

theorem stmt_mem (s : Term β) (po : PO β) (h : po ∈ ((dbuild d).builder none).stmts s) :
    (⟨⟨s, po.1, po.2⟩, none⟩ : DQuad β) ∈ d := by
  rw [C17.builder_dbuild, C17.stmts_build] at h
  obtain ⟨t, ht, rfl⟩ := List.mem_map.1 h
  simp only [List.mem_filter, decide_eq_true_eq] at ht
  obtain ⟨q, hq, hg, rfl⟩ := C17.mem_graphTriples.1 ht.1
  obtain ⟨⟨qs, qp, qo⟩, qg⟩ := q
  simp only at hg ht
  subst hg
  rw [← ht.2]
  simpa [C17.poOf] using hq

theorem subject_mem (s : Term β) (h : s ∈ defaultOrd d) : ∃ q ∈ d, q.g = none ∧ q.t.s = s := by
  unfold defaultOrd at h
  rw [C17.builder_dbuild, C17.mem_subjects_build] at h
  obtain ⟨t, ht, rfl⟩ := h
  obtain ⟨q, hq, hg, rfl⟩ := C17.mem_graphTriples.1 ht
  exact ⟨q, hq, hg, rfl⟩

end Facts

theorem encode_doc (cfg : Cfg β) (d : List (DQuad β)) (ord ord2 : List (Term β)) (rs : List (Resource β))
    (hexp : (if (dbuild d).graphNames.contains none then
        ((dbuild d).builder none).exportResourcesV Opts.default ord ord2 (d.length + 1) else some []) = some rs) :
    usedPrefixes cfg d ord ord2 = dedupStr (buildRoots (mkEnc cfg) cfg.label ((dbuild d).builder none) rs []).2 ∧
    encode cfg d ord ord2 = some (docOf (buildRoots (mkEnc cfg) cfg.label ((dbuild d).builder none) rs []).1
      (ctxTail (ctxMs cfg.base (declared cfg d ord ord2)))) := by
  have hu : usedPrefixes cfg d ord ord2 = dedupStr (buildRoots (mkEnc cfg) cfg.label ((dbuild d).builder none) rs []).2 := by
    unfold usedPrefixes; simp only []; rw [hexp]
  have hd : declared cfg d ord ord2 = declOf (mkEnc cfg) (dedupStr (buildRoots (mkEnc cfg) cfg.label ((dbuild d).builder none) rs []).2) := by
    rw [declared_eq, hu]
  refine ⟨hu, ?_⟩
  unfold encode
  simp only []
  rw [hexp]
  simp only []
  rw [ctxMembers_eq, ← hd]
  have ht : ctxTail (ctxMs cfg.base (declared cfg d ord ord2)) =
      if ctxMs cfg.base (declared cfg d ord ord2) = [] then [] else [(kContext, .obj (ctxMs cfg.base (declared cfg d ord ord2)))] := rfl
  cases hcb : cfg.base <;> simp only [hcb, ctxMs] at ht ⊢ <;> rw [← ht] <;> split
  -- `encode` splits the items by a matcher of its own
  · rename_i heq; rw [heq]; rfl
  · exact congrArg some (docOf_multi _ _ ‹_›).symm
  · rename_i heq; rw [heq]; rfl
  · exact congrArg some (docOf_multi _ _ ‹_›).symm

end RdfModel.Proofs.C10
