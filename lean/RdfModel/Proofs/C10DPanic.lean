import RdfModel.Props.C10DDefs
import RdfModel.Proofs.AscConsts
namespace RdfModel.Proofs.C10D
open RdfModel RdfModel.Desc RdfModel.JLD RdfModel.C10D

attribute [asc_consts] kId kType kValue kLanguage kDirection kList kGraph kIncluded kReverse kJson
  rdfNs rdfType rdfValue rdfDirection rdfLanguage rdfJSON xsdNs xsdBoolean xsdInteger xsdDouble

theorem andThen_np {r : R} {f : Nat → R} (hr : r ≠ .panic) (hf : ∀ n, f n ≠ .panic) : r.andThen f ≠ .panic := by
  cases r with
  | panic => exact absurd rfl hr
  | err e q => simp [R.andThen]
  | ok q n =>
    have := hf n
    simp only [R.andThen]
    cases h : f n with
    | panic => exact absurd h this
    | err e q => simp
    | ok q n => simp

theorem pre_np {qs : List RQ} {r : R} (hr : r ≠ .panic) : R.pre qs r ≠ .panic := by
  cases r <;> simp_all [R.pre]

theorem ite_np {c : Prop} [Decidable c] {a b : R} (ha : a ≠ .panic) (hb : b ≠ .panic) : (if c then a else b) ≠ .panic := by
  split <;> assumption

theorem wrapList_np {r : R} (hr : r ≠ .panic) : r.wrapList ≠ .panic := by
  cases r <;> simp_all [R.wrapList]

theorem lookup_ok {k : Str} : ∀ {ms : List (Str × Exp)} {v : Exp}, okMembers ms = true → JLD.lookup k ms = some v → ExpOK v = true
  | [], _, _, h => by simp [JLD.lookup] at h
  | (k', v') :: ms, v, hok, h => by
    simp only [okMembers, Bool.and_eq_true] at hok
    simp only [JLD.lookup] at h
    split at h
    · cases h; exact hok.1
    · exact lookup_ok hok.2 h

theorem typeStage_np (g : Option T) (s : T) (ms : List (Str × Exp)) (n : Nat) : typeStage g s ms n ≠ .panic := by
  unfold typeStage
  split
  · simp
  · split <;> simp
  · simp

theorem taggedString_np (cfg : Cfg) (g s : Option T) (p lex : Str) (lang? dir? : Option Str) (n : Nat) :
    taggedString cfg g s p lex lang? dir? n ≠ .panic := by
  unfold taggedString
  simp only []
  -- every leaf is an `.ok …`
  repeat' split
  all_goals simp

theorem decodeStringValue_np (cfg : Cfg) (g s : Option T) (p dt0 lex : Str) (atLang atDir : Option Exp) (n : Nat) :
    decodeStringValue cfg g s p dt0 lex atLang atDir n ≠ .panic := by
  unfold decodeStringValue
  simp only []
  -- the leaves are `.err …`, `.ok …` (closed by `simp`) and the calls of `taggedString`
  repeat' split
  all_goals first
    | exact taggedString_np _ _ _ _ _ _ _ _
    | simp

theorem decodeValuePrim_np (cfg : Cfg) (g s : Option T) (p dt0 : Str) (atLang atDir : Option Exp) (v : PVal) (jt : JText) (n : Nat)
    (h1 : v ≠ .nil) (h2 : jt ≠ .panics) : decodeValuePrim cfg g s p dt0 atLang atDir v jt n ≠ .panic := by
  unfold decodeValuePrim
  simp only []
  split
  · split <;> simp_all
  · split
    · exact decodeStringValue_np _ _ _ _ _ _ _ _ _
    all_goals simp_all

theorem decodeValueNode_np (cfg : Cfg) (g s : Option T) (p : Str) (ms : List (Str × Exp)) (n : Nat)
    (hok : okMembers ms = true) : decodeValueNode cfg g s p ms n ≠ .panic := by
  unfold decodeValueNode
  simp only []
  split
  · simp
  · split
    · simp
    · split
      · rename_i v jt hv
        have := lookup_ok hok hv
        simp only [ExpOK, Bool.and_eq_true, bne_iff_ne, ne_eq] at this
        exact decodeValuePrim_np _ _ _ _ _ _ _ _ _ _ this.1 this.2
      · simp
      · simp

theorem reverseMembers_eq (cfg : Cfg) (c : ECtx) : ∀ (ms : List (Str × Exp)) (n : Nat),
    reverseMembers cfg c ms n = members cfg { c with rev := true } ms n
  | [], n => by rw [reverseMembers, members]
  | (k, v) :: rest, n => by
    rw [reverseMembers, members, funext (reverseMembers_eq cfg c rest)]

mutual
theorem decodeElement_np (cfg : Cfg) (c : ECtx) : ∀ (e : Exp) (n : Nat), ExpOK e = true → decodeElement cfg c e n ≠ .panic
  | .nil, n, _ => by simp [decodeElement]
  | .arr xs, n, h => by
    rw [decodeElement]; exact decodeItems_np cfg c xs n (by simpa [ExpOK] using h)
  | .prim _ _, n, _ => by simp [decodeElement]
  | .obj ms, n, h => by
    have hms : okMembers ms = true := by simpa [ExpOK] using h
    rw [decodeElement]
    split
    · exact decodeValueNode_np cfg _ _ _ ms n hms
    · split
      · exact findList_np cfg c ms n hms
      · split
        · simp
        · simp
        · apply pre_np
          apply andThen_np (findReverse_np cfg _ ms _ hms)
          intro n2
          apply andThen_np (typeStage_np _ _ _ _)
          intro n3
          apply andThen_np (ite_np (findKeyArr_np cfg _ _ ms _ hms) (by simp))
          intro n4
          apply andThen_np (findKeyArr_np cfg _ _ ms _ hms)
          intro n5
          exact members_np cfg _ ms _ hms

theorem decodeItems_np (cfg : Cfg) (c : ECtx) : ∀ (xs : List Exp) (n : Nat), okList xs = true → decodeItems cfg c xs n ≠ .panic
  | [], n, _ => by simp [decodeItems]
  | x :: xs, n, h => by
    simp only [okList, Bool.and_eq_true] at h
    rw [decodeItems]
    exact andThen_np (decodeElement_np cfg c x n h.1) (fun n1 => decodeItems_np cfg c xs n1 h.2)

theorem findList_np (cfg : Cfg) (c : ECtx) : ∀ (ms : List (Str × Exp)) (n : Nat), okMembers ms = true → findList cfg c ms n ≠ .panic
  | [], n, _ => by simp [findList]
  | (k, v) :: rest, n, h => by
    simp only [okMembers, Bool.and_eq_true] at h
    unfold findList
    split
    · cases v with
      | arr xs =>
        cases xs with
        | nil => dsimp only; split <;> simp
        | cons x xs => exact pre_np (listCells_np cfg c _ true (x :: xs) _ (by simpa [ExpOK] using h.1))
      | _ => simp
    · exact findList_np cfg c rest n h.2

theorem listCells_np (cfg : Cfg) (c : ECtx) (cell : T) (first : Bool) : ∀ (xs : List Exp) (n : Nat), okList xs = true →
    JLD.listCells cfg c cell first xs n ≠ .panic
  | [], n, _ => by rw [JLD.listCells]; split <;> simp
  | x :: xs, n, h => by
    simp only [okList, Bool.and_eq_true] at h
    rw [JLD.listCells]
    split
    · exact pre_np (andThen_np (wrapList_np (decodeElement_np cfg _ x _ h.1)) (fun n1 => listCells_np cfg c _ false xs n1 h.2))
    · exact andThen_np (wrapList_np (decodeElement_np cfg _ x _ h.1)) (fun n1 => listCells_np cfg c _ false xs n1 h.2)

theorem findKeyArr_np (cfg : Cfg) (c : ECtx) (key : Str) : ∀ (ms : List (Str × Exp)) (n : Nat), okMembers ms = true →
    findKeyArr cfg c key ms n ≠ .panic
  | [], n, _ => by simp [findKeyArr]
  | (k, v) :: rest, n, h => by
    simp only [okMembers, Bool.and_eq_true] at h
    unfold findKeyArr
    split
    · cases v with
      | arr xs => exact decodeItems_np cfg c xs n (by simpa [ExpOK] using h.1)
      | _ => simp
    · exact findKeyArr_np cfg c key rest n h.2

theorem findReverse_np (cfg : Cfg) (c : ECtx) : ∀ (ms : List (Str × Exp)) (n : Nat), okMembers ms = true →
    findReverse cfg c ms n ≠ .panic
  | [], n, _ => by simp [findReverse]
  | (k, v) :: rest, n, h => by
    simp only [okMembers, Bool.and_eq_true] at h
    unfold findReverse
    split
    · cases v with
      | obj rms =>
        simp only [reverseMembers_eq]
        exact members_np cfg _ rms n (by simpa [ExpOK] using h.1)
      | _ => simp
    · exact findReverse_np cfg c rest n h.2

theorem members_np (cfg : Cfg) (c : ECtx) : ∀ (ms : List (Str × Exp)) (n : Nat), okMembers ms = true →
    members cfg c ms n ≠ .panic
  | [], n, _ => by simp [members]
  | (k, v) :: rest, n, h => by
    simp only [okMembers, Bool.and_eq_true] at h
    have ih := fun n1 => members_np cfg c rest n1 h.2
    rw [members]
    split
    · exact ih n
    · refine andThen_np ?_ ih
      cases v with
      | arr xs => exact decodeItems_np cfg _ xs n (by simpa [ExpOK] using h.1)
      | _ => simp
end

theorem reverseMembers_np (cfg : Cfg) (c : ECtx) : ∀ (ms : List (Str × Exp)) (n : Nat), okMembers ms = true →
    reverseMembers cfg c ms n ≠ .panic := fun ms n h => by
  rw [reverseMembers_eq]
  exact members_np cfg _ ms n h

end RdfModel.Proofs.C10D
