import RdfModel.Props.C05TtlDefs
namespace RdfModel.TtlDoc
open RdfModel

/-- terminal state of a decoder -/
def Dead (st : St) : Prop := st.stmts = [] ∧ (st.err.isSome = true ∨ st.stack = [])

theorem eq_nil_of_not_isEmpty_false {α} {l : List α} (h : ¬(!l.isEmpty) = true) : l = [] := by
  cases l with
  | nil => rfl
  | cons a b => simp at h

/-- The frames of a decoder at rest: `rsNext` (if set) in front of the stack.  `popFrame` takes the first of them
    and leaves the rest on the stack. -/
theorem popFrame_iff {cur : Option Frame} {st st1 : St} {f : Frame} :
    popFrame cur st = some (f, st1) ↔ ∃ s, cur.toList ++ st.stack = f :: s ∧ st1 = { st with stack := s } := by
  obtain ⟨stack, a, b, c, d⟩ := st
  cases cur with
  | some g => simp [popFrame]; grind
  | none => cases stack <;> simp [popFrame]; grind

theorem popFrame_none_iff {cur : Option Frame} {st : St} :
    popFrame cur st = none ↔ cur.toList ++ st.stack = [] := by
  cases cur with
  | some g => simp [popFrame]
  | none => cases h : st.stack <;> simp [popFrame, h]

theorem nextLoop_no_dead (C : Cfg) (e : End) :
    ∀ fuel cur st st', st.stmts = [] ∨ st.err.isSome = true → nextLoop C e fuel cur st = .no st' →
      (st.err.isSome = true → st' = st) ∧ (st.stmts = [] → Dead st') := by
  intro fuel
  induction fuel with
  | zero => intro cur st st' _ h; simp [nextLoop] at h
  | succ n ih =>
    intro cur st st' h0 h
    unfold nextLoop at h
    split at h
    · next herr =>
      injection h with h; subst h
      exact ⟨fun _ => rfl, fun hs => ⟨hs, Or.inl herr⟩⟩
    · next herr =>
      have hst' : st.stmts = [] := by
        rcases h0 with h0 | h0
        · exact h0
        · exact absurd h0 herr
      split at h
      · simp at h
      · split at h
        · next hp =>
          injection h with h; subst h
          exact ⟨fun _ => rfl, fun hs => ⟨hs, Or.inr (List.append_eq_nil_iff.1 (popFrame_none_iff.1 hp)).2⟩⟩
        · next f st1 hp =>
          obtain ⟨t, _, rfl⟩ := popFrame_iff.1 hp
          refine ⟨fun h => absurd h herr, fun _ => ?_⟩
          split at h
          · simp at h
          · next k hsc =>
            have := ih none _ st' (Or.inr rfl) h
            have h2 := this.1 rfl
            subst h2
            exact ⟨by simp [hst'], Or.inl rfl⟩
          · next cur' st2 hsc =>
            unfold scan at hsc
            split at hsc <;> try simp at hsc
            next o ho =>
            obtain ⟨rfl, rfl⟩ := hsc
            cases hem : o.emit with
            | none =>
              have : (applyOut { st with stack := t } o).stmts = [] := by simp [applyOut, hem, hst']
              exact (ih _ _ _ (Or.inl this) h).2 this
            | some s =>
              -- a statement is pending: the next iteration answers `true`, never `false`
              cases n with
              | zero => simp [nextLoop] at h
              | succ m =>
                unfold nextLoop at h
                split at h
                · next herr2 =>
                  simp [applyOut] at herr2
                  exact absurd herr2 herr
                · simp [applyOut, hem] at h

theorem next_dead (C : Cfg) (e : End) (st : St) (h : Dead st) : next C e st = .no st := by
  obtain ⟨hs, h⟩ := h
  unfold next
  simp only [hs, List.drop_nil]
  have : ({ st with stmts := [] } : St) = st := by cases st; simp_all
  rw [this]
  unfold nextLoop
  split
  · rfl
  · next herr =>
    have hstack : st.stack = [] := by
      rcases h with h | h
      · exact absurd h herr
      · exact h
    simp [hs, popFrame, hstack]

theorem next_no_dead (C : Cfg) (e : End) (st st' : St) (h : next C e st = .no st') :
    Dead st' ∨ (st.err.isSome = true ∧ st'.err = st.err ∧ st'.stack = st.stack ∧ st'.stmts = st.stmts.drop 1) := by
  unfold next at h
  by_cases herr : st.err.isSome = true
  · right
    have := (nextLoop_no_dead C e _ none { st with stmts := st.stmts.drop 1 } st' (Or.inr herr) h).1 herr
    subst this
    exact ⟨herr, rfl, rfl, rfl⟩
  · by_cases hs : st.stmts.drop 1 = []
    · left
      exact (nextLoop_no_dead C e _ none { st with stmts := st.stmts.drop 1 } st' (Or.inl hs) h).2 hs
    · -- a pending statement: `Next` answers `true`
      exfalso
      unfold nextLoop at h
      simp only [herr] at h
      cases hd : st.stmts.drop 1 with
      | nil => exact hs hd
      | cons a b => simp [hd] at h

/-- `Next() = true` ⇒ `r.statements` is not empty: `Triple()` / `Quad()` are usable. -/
theorem nextLoop_yes (C : Cfg) (e : End) :
    ∀ fuel cur st st', nextLoop C e fuel cur st = .yes st' → st'.stmts ≠ [] := by
  intro fuel
  induction fuel with
  | zero => intro cur st st' h; simp [nextLoop] at h
  | succ n ih =>
    intro cur st st' h
    unfold nextLoop at h
    split at h
    · simp at h
    · split at h
      · next hne =>
        injection h with h; subst h
        cases cur with
        | none => simp [pushCur]; intro h; simp [h] at hne
        | some f => simp [pushCur]; intro h; simp [h] at hne
      · split at h
        · simp at h
        · split at h
          · simp at h
          · exact ih _ _ _ h
          · exact ih _ _ _ h

theorem next_err (C : Cfg) (e : End) (st : St) (h : st.err.isSome = true) :
    next C e st = .no { st with stmts := st.stmts.drop 1 } := by
  unfold next
  show nextLoop C e (({ st with stmts := st.stmts.drop 1 } : St).cost + 1) none _ = _
  unfold nextLoop
  simp [h]

theorem afterFalse_of_err (C : Cfg) (e : End) :
    ∀ n st, st.err.isSome = true → ∃ st'', afterFalse C e n st = some st'' ∧ st''.err = st.err := by
  intro n
  induction n with
  | zero => intro st _; exact ⟨st, rfl, rfl⟩
  | succ n ih =>
    intro st h
    unfold afterFalse
    rw [next_err C e st h]
    obtain ⟨s, h1, h2⟩ := ih { st with stmts := st.stmts.drop 1 } h
    exact ⟨s, h1, h2⟩

theorem afterFalse_of_dead (C : Cfg) (e : End) :
    ∀ n st, Dead st → afterFalse C e n st = some st := by
  intro n
  induction n with
  | zero => intro st _; rfl
  | succ n ih =>
    intro st h
    unfold afterFalse
    rw [next_dead C e st h]
    exact ih st h

end RdfModel.TtlDoc
