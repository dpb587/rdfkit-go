import RdfModel.Proofs.C13Rfc
import RdfModel.Proofs.C13PM
namespace RdfModel.Proofs.C13
open RdfModel.Spec.RFC3986Lite RdfModel.Prefix RdfModel.C13

theorem splitColon_with (a b : Str) (ha : ∀ x ∈ a, x ≠ cColon) : splitColon (a ++ cColon :: b) = (a, some b) := by
  have := cut_at (fun c => c == cColon) a (cColon :: b) (by intro c hc; simpa using ha c hc)
    (Or.inr ⟨cColon, b, rfl, by simp⟩)
  unfold splitColon
  rw [this.1, this.2]

theorem splitColon_without (a : Str) (ha : ∀ x ∈ a, x ≠ cColon) : splitColon a = (a, none) := by
  have := upTo_all (fun c => c == cColon) a (by intro c hc; simpa using ha c hc)
  unfold splitColon
  rw [this.2]

/-- the text between the brackets (or the whole text), as `ParseCURIE` splits it -/
def curieBody (c : CURIE) : Str := if c.defaultPrefix then c.reference else c.pfx ++ cColon :: c.reference

theorem parse_body (c : CURIE) (hdp : c.defaultPrefix = true → c.pfx = [])
    (hp : ∀ x ∈ c.pfx, x ≠ cColon) (hd : c.defaultPrefix = true → ∀ x ∈ c.reference, x ≠ cColon) (safe : Bool) :
    curieOfSplit safe (splitColon (curieBody c)) = ⟨safe, c.defaultPrefix, c.pfx, c.reference⟩ := by
  unfold curieBody
  cases hdf : c.defaultPrefix with
  | true => simp only [if_true]; rw [splitColon_without _ (hd hdf), hdp hdf]; rfl
  | false => simp only [Bool.false_eq_true, if_false]; rw [splitColon_with _ _ hp]; rfl

theorem parse_string (c : CURIE) (hdp : c.defaultPrefix = true → c.pfx = [])
    (hp : ∀ x ∈ c.pfx, x ≠ cColon) (hb : c.pfx.head? ≠ some cLBr)
    (hd : c.defaultPrefix = true → ∀ x ∈ c.reference, x ≠ cColon)
    (hu : c.defaultPrefix = true → c.safe = false →
      c.reference ≠ [] ∧ ¬ (c.reference.head? = some cLBr ∧ c.reference.getLast? = some cRBr)) :
    parseCURIE c.string = some c := by
  have hbody := parse_body c hdp hp hd
  cases hs : c.safe with
  | true =>
    have hstr : c.string = cLBr :: (curieBody c ++ [cRBr]) := by
      unfold CURIE.string CURIE.safeString curieBody
      rw [hs]; cases c.defaultPrefix <;> simp
    unfold parseCURIE
    rw [hstr]
    have h2 : (cLBr :: (curieBody c ++ [cRBr])).getLast? = some cRBr := by
      rw [show cLBr :: (curieBody c ++ [cRBr]) = (cLBr :: curieBody c) ++ [cRBr] from rfl, List.getLast?_concat]
    have h3 : ((cLBr :: (curieBody c ++ [cRBr])).drop 1).take ((cLBr :: (curieBody c ++ [cRBr])).length - 2) = curieBody c := by
      simp
    have hne : cLBr :: (curieBody c ++ [cRBr]) ≠ [] := by simp
    simp only [hne, if_false, List.head?_cons, h2, and_self, if_true, h3, decide_true]
    rw [hbody true, ← hs]
  | false =>
    have hstr : c.string = curieBody c := by
      unfold CURIE.string curieBody
      rw [hs]; cases c.defaultPrefix <;> simp
    unfold parseCURIE
    rw [hstr]
    have hne : curieBody c ≠ [] := by
      unfold curieBody
      cases hdf : c.defaultPrefix with
      | true => simp only [if_true]; exact (hu hdf hs).1
      | false => simp
    have hnb : ¬ ((curieBody c).head? = some cLBr ∧ (curieBody c).getLast? = some cRBr) := by
      unfold curieBody
      cases hdf : c.defaultPrefix with
      | true => simp only [if_true]; exact (hu hdf hs).2
      | false =>
        simp only [Bool.false_eq_true, if_false]
        intro h
        cases hpf : c.pfx with
        | nil => rw [hpf] at h; simp [cColon, cLBr] at h
        | cons x xs => rw [hpf] at h hb; simp at h hb; exact hb h.1
    simp only [hne, if_false, hnb, decide_false]
    rw [hbody false, ← hs]

theorem curie_string_roundtrip (sc : Scope) (p : PM) (hinv : Inv p) (v : Str) (pr : PrefixRef)
    (hc : compact p v = some pr)
    (hp : ∀ x ∈ pr.pfx, x ≠ cColon) (hb : pr.pfx.head? ≠ some cLBr)
    (hd : (compactCURIE sc p v).defaultPrefix = true →
      (∀ x ∈ pr.reference, x ≠ cColon) ∧
      (sc.safe = false → pr.reference ≠ [] ∧ ¬ (pr.reference.head? = some cLBr ∧ pr.reference.getLast? = some cRBr))) :
    (parseCURIE (compactCURIE sc p v).string).bind (expandCURIE sc p) = some v := by
  have hrt := curie_roundtrip sc p hinv v pr hc
  have hparse : parseCURIE (compactCURIE sc p v).string = some (compactCURIE sc p v) := by
    have hform : compactCURIE sc p v = ⟨sc.safe, true, [], pr.reference⟩ ∨
        compactCURIE sc p v = ⟨sc.safe, false, pr.pfx, pr.reference⟩ := by
      unfold compactCURIE; rw [hc]; simp only; split
      · left; rfl
      · right; rfl
    rcases hform with hf | hf
    · rw [hf] at hd ⊢
      apply parse_string
      · intro _; rfl
      · intro x hx; simp at hx
      · simp
      · intro _; exact (hd rfl).1
      · intro _ hs; exact (hd rfl).2 hs
    · rw [hf]
      apply parse_string
      · intro h; simp at h
      · exact hp
      · exact hb
      · intro h; simp at h
      · intro h; simp at h
  rw [hparse]
  exact hrt

end RdfModel.Proofs.C13
