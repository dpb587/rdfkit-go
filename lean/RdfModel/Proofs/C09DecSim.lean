import RdfModel.Model.RdfXmlTokens
import RdfModel.Proofs.C09Steps
import RdfModel.Proofs.C09Round
import RdfModel.Props.C09DecDefs
namespace RdfModel.RXD
open RdfModel RdfModel.Desc RdfModel.RX RdfModel.C09Dec

/-- the parameter instance: total resolution `rs`, every base parses, `render` given -/
def mkP (rs : Str → Str → Str) (render : List Tok → Option Str) : Params :=
  { resolve := fun b v => some (rs b v), parseOK := fun _ => true, render := render }

/-- resolving the empty reference yields no fragment (RFC 3986 §5.2.2: the fragment of the reference) -/
def EmptyRefNoFrag (rs : Str → Str → Str) : Prop := ∀ b, dropFragment (rs b []) = rs b []

/-- the decoder context stands for the environment of the denotation -/
def CtxRel (env : Env) (ctx : Ctx) : Prop := ctx.base = some env.base ∧ ctx.lang = env.lang

variable {rs : Str → Str → Str} {render : List Tok → Option Str}

theorem resolveIRI_sim (hf : EmptyRefNoFrag rs) {env : Env} {ctx : Ctx} (h : CtxRel env ctx) (v : Str) :
    resolveIRI (mkP rs render) ctx v = .ok (rs env.base v) := by
  unfold resolveIRI
  rw [h.1]
  simp only [mkP]
  split
  · rename_i hv; subst hv; rw [hf]
  · rfl

theorem commonLoop_rdf (P : Params) (A B : List Attr) (hA : ∀ a ∈ A, a.ns = rdfNS) (ctx : Ctx) (ra oa : List Attr) (st : St) :
    commonLoop P (A ++ B) ctx ra oa st = commonLoop P B ctx (A.reverse ++ ra) oa st := by
  induction A generalizing ra with
  | nil => rfl
  | cons a A ih =>
    have ha : a.ns = rdfNS := hA a (by simp)
    simp only [List.cons_append, commonLoop, ha, if_true]
    rw [ih (fun x hx => hA x (by simp [hx]))]
    simp

/-- the rdf: attributes of `stdAttrs i`, in order -/
def rdfPart (i : AttrInfo) : List Attr :=
  optAttr rdfNS n_ID i.id ++ optAttr rdfNS n_about i.about ++ optAttr rdfNS n_nodeID i.nodeID ++
  optAttr rdfNS n_resource i.resource ++ optAttr rdfNS n_datatype i.datatype ++ optAttr rdfNS n_parseType i.parseType

theorem optAttr_none (ns name : Str) : optAttr ns name none = [] := rfl
theorem optAttr_some (ns name v : Str) : optAttr ns name (some v) = [⟨ns, name, v⟩] := rfl

theorem optAttr_ns {ns name : Str} {v : Option Str} {a : Attr} (h : a ∈ optAttr ns name v) : a.ns = ns := by
  cases v with
  | none => simp [optAttr] at h
  | some x => simp only [optAttr, List.mem_singleton] at h; subst h; rfl

theorem rdfPart_ns (i : AttrInfo) : ∀ a ∈ rdfPart i, a.ns = rdfNS := by
  intro a ha
  simp only [rdfPart, List.mem_append] at ha
  rcases ha with ((((ha | ha) | ha) | ha) | ha) | ha <;> exact optAttr_ns ha

/-- an attribute `processCommonAttr` files under rdfAttrList / otherAttrList without touching the context; `xmlnsSpace` is
    the Go value `Space: "xmlns"` of a namespace declaration `xmlns:p="…"`, not a namespace IRI -/
def AttrOK (a : Attr) : Prop := a.ns ≠ xmlNS ∧ a.ns ≠ xmlnsSpace ∧ a.ns ≠ []

def isRdf (a : Attr) : Bool := decide (a.ns = rdfNS)

theorem commonLoop_mixed (P : Params) (B : List Attr) (hB : ∀ a ∈ B, AttrOK a) (ctx : Ctx) (ra oa : List Attr) (st : St) :
    commonLoop P B ctx ra oa st = .ok ⟨ctx, ra.reverse ++ B.filter isRdf, oa.reverse ++ B.filter (fun a => !isRdf a)⟩ st := by
  induction B generalizing ra oa with
  | nil => simp [commonLoop]
  | cons a B ih =>
    obtain ⟨h2, h3, h4⟩ := hB a (by simp)
    have ih' := fun ra oa => ih (fun x hx => hB x (by simp [hx])) ra oa
    by_cases h1 : a.ns = rdfNS
    · simp only [commonLoop, h1, if_true, ih', List.filter_cons, isRdf, decide_true, Bool.not_true]
      simp
    · simp only [commonLoop, h1, h2, h3, h4, if_false, false_and, ih', List.filter_cons, isRdf, decide_false,
        Bool.not_false]
      simp

theorem processCommonAttr_std (hf : EmptyRefNoFrag rs) (i : AttrInfo) (hp : ∀ a ∈ i.props, AttrOK a) {env : Env} {ctx : Ctx}
    (h : CtxRel env ctx) (st : St) :
    ∃ ctx' st', processCommonAttr (mkP rs render) ctx (stdAttrs i) st =
        .ok ⟨ctx', rdfPart i ++ i.props.filter isRdf, i.props.filter (fun a => !isRdf a)⟩ st' ∧
      CtxRel (env.push rs i.base i.lang) ctx' ∧ st'.next = st.next ∧ st'.out = st.out := by
  have tail : ∀ ctx1 st1, commonLoop (mkP rs render) (rdfPart i ++ i.props) ctx1 [] [] st1 =
      .ok ⟨ctx1, rdfPart i ++ i.props.filter isRdf, i.props.filter (fun a => !isRdf a)⟩ st1 := by
    intro ctx1 st1
    rw [commonLoop_rdf _ _ _ (rdfPart_ns i), commonLoop_mixed _ _ hp]
    simp
  have hstd : stdAttrs i = optAttr xmlNS n_base i.base ++ (optAttr xmlNS n_lang i.lang ++ (rdfPart i ++ i.props)) := by
    simp [stdAttrs, rdfPart, List.append_assoc]
  unfold processCommonAttr
  rw [hstd]
  have hres := fun v => resolveIRI_sim (render := render) hf h v
  have hx := xmlNS_ne_rdfNS
  have hlb : n_lang ≠ n_base := by decide
  cases hb : i.base with
  | none =>
    cases hl : i.lang with
    | none =>
      refine ⟨ctx, st, ?_, ?_, rfl, rfl⟩
      · simpa [optAttr] using tail ctx st
      · simpa [Env.push, CtxRel] using h
    | some l =>
      refine ⟨{ ctx with lang := if l = [] then none else some l }, st, ?_, ?_, rfl, rfl⟩
      · simp only [optAttr, List.nil_append, List.cons_append, commonLoop, hx, if_false, if_true]
        exact tail _ _
      · refine ⟨h.1, ?_⟩
        cases l <;> simp [Env.push]
  | some b =>
    cases hl : i.lang with
    | none =>
      refine ⟨{ ctx with base := some (rs env.base b), used := st.maps }, { st with maps := st.maps + 1 }, ?_, ?_, rfl, rfl⟩
      · simp only [optAttr, List.nil_append, List.cons_append, commonLoop, hx, if_false, if_true, hres, hlb.symm]
        simp only [mkP, if_true]
        exact tail _ _
      · exact ⟨rfl, by simpa [Env.push] using h.2⟩
    | some l =>
      refine ⟨{ ctx with base := some (rs env.base b), used := st.maps, lang := if l = [] then none else some l },
        { st with maps := st.maps + 1 }, ?_, ?_, rfl, rfl⟩
      · simp only [optAttr, List.nil_append, List.cons_append, commonLoop, hx, if_false, if_true, hres, hlb.symm]
        simp only [mkP, if_true]
        exact tail _ _
      · refine ⟨rfl, ?_⟩
        cases l <;> simp [Env.push]

theorem processCommonAttr_std_nil (hf : EmptyRefNoFrag rs) (i : AttrInfo) (hp : i.props = []) {env : Env} {ctx : Ctx}
    (h : CtxRel env ctx) (st : St) :
    ∃ ctx' st', processCommonAttr (mkP rs render) ctx (stdAttrs i) st = .ok ⟨ctx', rdfPart i, i.props⟩ st' ∧
      CtxRel (env.push rs i.base i.lang) ctx' ∧ st'.next = st.next ∧ st'.out = st.out := by
  obtain ⟨ctx', st', h1, h2⟩ := processCommonAttr_std (render := render) hf i (by simp [hp]) h st
  exact ⟨ctx', st', by simpa [hp] using h1, h2⟩

theorem wfId_facts {env : Env} {id : PId} {S S' : RX.St} (h : wfId rs env id S = some S') :
    S'.next = S.next ∧ (∀ iri v, id = some (iri, v) → isNCName v = true ∧ rs env.base (cHash :: v) = iri) := by
  cases id with
  | none => simp only [wfId, Option.some.injEq] at h; subst h; exact ⟨rfl, by simp⟩
  | some p =>
    obtain ⟨iri, v⟩ := p
    simp only [wfId, Option.ite_none_right_eq_some, Option.some.injEq, Bool.and_eq_true, decide_eq_true_eq] at h
    obtain ⟨hc, rfl⟩ := h
    refine ⟨rfl, ?_⟩
    intro iri' v' he
    simp only [Option.some.injEq, Prod.mk.injEq] at he
    obtain ⟨rfl, rfl⟩ := he
    exact ⟨hc.1.1, hc.2⟩

def reifyL (r : Option Str) (t : T) : List T :=
  match r with
  | some r => reify r t
  | none => []

theorem withReify_eq (r : Option Str) (t : T) : withReify r t = t :: reifyL r t := by
  cases r <;> rfl

/-- `addReify(ectx, id, d.statements[len-1-i])` for an rdf:ID the plan declares -/
theorem optReify_at (hf : EmptyRefNoFrag rs) {env : Env} {ctx : Ctx} (h : CtxRel env ctx) {id : PId} {S S' : RX.St}
    (hid : wfId rs env id S = some S') (i : Nat) (t : T) (st : St) (ht : st.out[i]? = some t) :
    ∃ st', optReify (mkP rs render) ctx (PId.val id) i st = .ok () st' ∧
      st'.out = (reifyL (PId.iri id) t).reverse ++ st.out ∧ st'.next = st.next := by
  cases id with
  | none => exact ⟨st, rfl, by simp [reifyL, PId.iri], rfl⟩
  | some p =>
    obtain ⟨iri, v⟩ := p
    have hiri := ((wfId_facts hid).2 iri v rfl).2
    refine ⟨{ st with out := (reify (rs env.base (cHash :: v)) t).reverse ++ st.out },
      by simp only [optReify, PId.val, Option.map_some, addReify, ht, resolveIRI_sim hf h]; rfl, ?_, rfl⟩
    simp [reifyL, PId.iri, hiri]

theorem optReify_sim (hf : EmptyRefNoFrag rs) {env : Env} {ctx : Ctx} (h : CtxRel env ctx) {id : PId} {S S' : RX.St}
    (hid : wfId rs env id S = some S') (t : T) (st : St) (out : List T) (ho : st.out = t :: out) :
    ∃ st', optReify (mkP rs render) ctx (PId.val id) 0 st = .ok () st' ∧
      st'.out = (withReify (PId.iri id) t).reverse ++ out ∧ st'.next = st.next := by
  obtain ⟨st', h1, h2, h3⟩ := optReify_at (render := render) hf h hid 0 t st (by rw [ho]; rfl)
  exact ⟨st', h1, by rw [h2, ho, withReify_eq]; simp, h3⟩

theorem nil_ne_Literal : ([] : Str) ≠ n_Literal := by decide
theorem nil_ne_Resource : ([] : Str) ≠ n_Resource := by decide
theorem nil_ne_Collection : ([] : Str) ≠ n_Collection := by decide

theorem propNameForbidden_of_wfName {li : Nat} {nm : PName} (h : wfName li nm = true) :
    propNameForbidden nm.ns nm.name = false := by
  have := (wfName_facts li nm h).1
  simp only [propNameForbidden, Bool.and_eq_false_iff, decide_eq_false_iff_not]
  by_cases hns : nm.ns = rdfNS
  · right
    cases hb : badPropName nm.name with
    | false => rfl
    | true => exact absurd ⟨hns, hb⟩ this
  · left; exact hns

theorem peltAttrLoop_optAttr_other {ns name : Str}
    (h : ns ≠ rdfNS ∨ (name ≠ n_ID ∧ name ≠ n_resource ∧ name ≠ n_parseType)) (v : Option Str) (R : List Attr) (x : PInfo) :
    peltAttrLoop (optAttr ns name v ++ R) x = peltAttrLoop R x := by
  cases v with
  | none => rfl
  | some w =>
    have h1 : ¬(ns = rdfNS ∧ name = n_ID) := fun e => h.elim (· e.1) (·.1 e.2)
    have h2 : ¬(ns = rdfNS ∧ name = n_resource) := fun e => h.elim (· e.1) (·.2.1 e.2)
    have h3 : ¬(ns = rdfNS ∧ name = n_parseType) := fun e => h.elim (· e.1) (·.2.2 e.2)
    simp only [optAttr, List.cons_append, List.nil_append, peltAttrLoop, h1, h2, h3, if_false]

theorem peltAttrLoop_optID (v : Option Str) (hv : ∀ w, v = some w → isNCName w = true) (R : List Attr) (x : PInfo) :
    peltAttrLoop (optAttr rdfNS n_ID v ++ R) x = peltAttrLoop R { x with rdfID := v.or x.rdfID } := by
  cases v with
  | none => rfl
  | some w => simp [optAttr, peltAttrLoop, hv w rfl]

theorem peltAttrLoop_optResource (v : Option Str) (R : List Attr) (x : PInfo) :
    peltAttrLoop (optAttr rdfNS n_resource v ++ R) x = peltAttrLoop R { x with rdfResource := v.or x.rdfResource } := by
  have e : n_resource ≠ n_ID := by decide
  cases v with
  | none => rfl
  | some w => simp [optAttr, peltAttrLoop, e]

theorem peltAttrLoop_optParseType (v : Option Str) (R : List Attr) (x : PInfo) :
    peltAttrLoop (optAttr rdfNS n_parseType v ++ R) x = peltAttrLoop R
      { x with pt := match v with
                     | none => x.pt
                     | some pt => if pt = n_Literal ∨ pt = n_Resource ∨ pt = n_Collection then pt else n_Literal } := by
  have e1 : n_parseType ≠ n_ID := by decide
  have e2 : n_parseType ≠ n_resource := by decide
  cases v with
  | none => rfl
  | some w =>
    simp only [optAttr, List.cons_append, List.nil_append, peltAttrLoop, e1, e2, and_false, if_false, and_self, if_true]
    split <;> rfl

theorem peltAttrLoop_stdAttrs (i : AttrInfo) (hid : ∀ v, i.id = some v → isNCName v = true) :
    peltAttrLoop (stdAttrs i) {} = peltAttrLoop i.props
      { pt := match i.parseType with
              | none => []
              | some pt => if pt = n_Literal ∨ pt = n_Resource ∨ pt = n_Collection then pt else n_Literal
        rdfID := i.id, rdfResource := i.resource } := by
  simp only [stdAttrs, List.append_assoc]
  rw [peltAttrLoop_optAttr_other (.inl xmlNS_ne_rdfNS), peltAttrLoop_optAttr_other (.inl xmlNS_ne_rdfNS),
    peltAttrLoop_optID _ hid, peltAttrLoop_optAttr_other (.inr (by decide)), peltAttrLoop_optAttr_other (.inr (by decide)),
    peltAttrLoop_optResource, peltAttrLoop_optAttr_other (.inr (by decide)), peltAttrLoop_optParseType]
  simp only [Option.or_none]

theorem peltAttrLoop_std (i : AttrInfo) (hp : i.props = [])
    (hid : ∀ v, i.id = some v → isNCName v = true) :
    peltAttrLoop (stdAttrs i) {} = some
      { pt := match i.parseType with
              | none => []
              | some pt => if pt = n_Literal ∨ pt = n_Resource ∨ pt = n_Collection then pt else n_Literal
        rdfID := i.id, rdfResource := i.resource } := by
  rw [peltAttrLoop_stdAttrs i hid, hp]
  rfl

/-- start tag of a property element without rdf:parseType: of its property attributes only that they pass the two loops -/
theorem props_start_generic (hf : EmptyRefNoFrag rs) (i : AttrInfo) (hA : ∀ a ∈ i.props, AttrOK a)
    (hloop : ∀ y, peltAttrLoop i.props y = some y) (hpt : i.parseType = none)
    (hid : ∀ v, i.id = some v → isNCName v = true) {env : Env} {ctx : Ctx} (hrel : CtxRel env ctx) (nm : PName) (li : Nat) (hname : wfName li nm = true) (s : Term BN) (ret : Ret)
    (below : List Frame) (ctx0 : Ctx) (st : St) :
    ∃ nctx st1, step (mkP rs render) ctx0 (.props ctx s li ret :: below) st (.start nm.ns nm.name (stdAttrs i)) =
        .cont (.pelt ctx nctx s nm.pred (stdAttrs i) i.id [] [] [] :: .props ctx s (nm.nextLi li) ret :: below) st1 ∧
      CtxRel (env.push rs i.base i.lang) nctx ∧ st1.next = st.next ∧ st1.out = st.out := by
  obtain ⟨c', st1, hpca, hrel', hn, ho⟩ := processCommonAttr_std (render := render) hf i hA hrel st
  obtain ⟨_, hpred, hli⟩ := wfName_facts li nm hname
  refine ⟨c', st1, ?_, hrel', hn, ho⟩
  simp only [step, propNameForbidden_of_wfName hname, peltEntry, peltAttrLoop_stdAttrs i hid, hloop, hpt, hpca,
    nil_ne_Literal, nil_ne_Resource, nil_ne_Collection, false_and, if_false, hpred, hli]
  rfl

theorem props_start_lit (hf : EmptyRefNoFrag rs) (i : AttrInfo) (hp : i.props = [])
    (hres : i.resource = none) (pt : Str) (hpt : i.parseType = some pt) (hpt1 : pt ≠ n_Resource) (hpt2 : pt ≠ n_Collection)
    (hid : ∀ v, i.id = some v → isNCName v = true) {env : Env} {ctx : Ctx}
    (hrel : CtxRel env ctx) (nm : PName) (li : Nat) (hname : wfName li nm = true) (s : Term BN) (ret : Ret)
    (below : List Frame) (ctx0 : Ctx) (st : St) :
    ∃ nctx st1, step (mkP rs render) ctx0 (.props ctx s li ret :: below) st (.start nm.ns nm.name (stdAttrs i)) =
        .cont (.lit nctx s nm.pred (rdfPart i) 0 [] :: .props ctx s (nm.nextLi li) ret :: below) st1 ∧
      CtxRel (env.push rs i.base i.lang) nctx ∧ st1.next = st.next ∧ st1.out = st.out := by
  obtain ⟨c', st1, hpca, hrel', hn, ho⟩ := processCommonAttr_std_nil (render := render) hf i hp hrel st
  obtain ⟨_, hpred, hli⟩ := wfName_facts li nm hname
  refine ⟨c', st1, ?_, hrel', hn, ho⟩
  have hptv : (if pt = n_Literal ∨ pt = n_Resource ∨ pt = n_Collection then pt else n_Literal) = n_Literal := by
    split
    · rename_i h; rcases h with h | h | h
      · exact h
      · exact absurd h hpt1
      · exact absurd h hpt2
    · rfl
  simp only [step, propNameForbidden_of_wfName hname, peltEntry, peltAttrLoop_std i hp hid, hpt, hpca, hptv, hres,
    Option.isSome_none, Bool.false_eq_true, and_false, if_false, if_true, hpred, hli]

theorem datatypeLoop_optAttr_other {name : Str} (h : name ≠ n_datatype) (P : Params) (ctx : Ctx) (v : Option Str)
    (R : List Attr) (dt : Option Str) (st : St) :
    datatypeLoop P ctx (optAttr rdfNS name v ++ R) dt st = datatypeLoop P ctx R dt st := by
  cases v <;> simp [optAttr, datatypeLoop, h]

theorem datatypeLoop_std (hf : EmptyRefNoFrag rs) (i : AttrInfo) {env : Env} {ctx : Ctx} (hrel : CtxRel env ctx)
    (hdt : ∀ d, i.datatype = some d → rs env.base d ≠ rdfLangString ∧ rs env.base d ≠ rdfDirLangString) (st : St) :
    datatypeLoop (mkP rs render) ctx (rdfPart i) none st = .ok (i.datatype.map (rs env.base)) st := by
  rw [rdfPart, ← List.append_nil (optAttr rdfNS n_parseType _)]
  simp only [List.append_assoc]
  rw [datatypeLoop_optAttr_other (by decide), datatypeLoop_optAttr_other (by decide), datatypeLoop_optAttr_other (by decide),
    datatypeLoop_optAttr_other (by decide)]
  cases hd : i.datatype with
  | none => rw [optAttr_none, List.nil_append, datatypeLoop_optAttr_other (by decide)]; rfl
  | some d =>
    obtain ⟨h1, h2⟩ := hdt d hd
    simp only [optAttr_some, List.cons_append, List.nil_append, datatypeLoop, if_true, resolveIRI_sim hf hrel, h1, h2, or_self,
      if_false]
    rw [datatypeLoop_optAttr_other (by decide)]
    rfl

theorem peltEnd_text (hf : EmptyRefNoFrag rs) (i : AttrInfo) (hp : i.props = []) {env : Env} {ctx : Ctx}
    (hrel : CtxRel env ctx) (s : Term BN) (pred lex : Str) (hlex : lex ≠ []) (id : PId) (hi : i.id = PId.val id)
    {S S' : RX.St} (hidwf : wfId rs (env.push rs i.base i.lang) id S = some S')
    (hdt : ∀ d, i.datatype = some d → rs (env.push rs i.base i.lang).base d ≠ rdfLangString ∧
      rs (env.push rs i.base i.lang).base d ≠ rdfDirLangString) (st : St) :
    ∃ st1, peltEnd (mkP rs render) ctx s pred (stdAttrs i) i.id [] lex st = .ok () st1 ∧
      st1.out = (withReify (PId.iri id) ⟨s, pred,
        match i.datatype with
        | none => mkLit lex (env.push rs i.base i.lang).lang
        | some d => .lit lex (rs (env.push rs i.base i.lang).base d) none⟩).reverse ++ st.out ∧
      st1.next = st.next := by
  obtain ⟨c', st1, hpca, hrel', hn, ho⟩ := processCommonAttr_std_nil (render := render) hf i hp hrel st
  have hd := datatypeLoop_std (render := render) hf i hrel' hdt st1
  have hlang : c'.lang = (env.push rs i.base i.lang).lang := hrel'.2
  obtain ⟨st2, h1, h2, h3⟩ := optReify_sim (render := render) hf hrel' hidwf
    ⟨s, pred, match i.datatype with
      | none => mkLit lex (env.push rs i.base i.lang).lang
      | some d => .lit lex (rs (env.push rs i.base i.lang).base d) none⟩
    (st1.emit ⟨s, pred, match i.datatype with
      | none => mkLit lex (env.push rs i.base i.lang).lang
      | some d => .lit lex (rs (env.push rs i.base i.lang).base d) none⟩) st1.out rfl
  refine ⟨st2, ?_, by rw [h2, ho], by rw [h3]; exact hn⟩
  unfold peltEnd
  simp only [ne_eq, not_true_eq_false, if_false, hlex, not_false_eq_true, if_true, hpca, hd, hi]
  rw [← h1]
  cases i.datatype <;> simp [mkLitCtx, hlang]

/-- the empty-element scan over the rdf: attributes of a property element: rdf:ID is passed over, rdf:nodeID and rdf:resource
    are recorded and counted, rdf:datatype is flagged -/
theorem emptyLoop_rdfPart (i : AttrInfo) (ha : i.about = none) (hpt : i.parseType = none)
    (hn : ∀ n, i.nodeID = some n → isNCName n = true) (B : List Attr) :
    emptyLoop (rdfPart i ++ B) {} = emptyLoop B ⟨i.resource, i.nodeID, i.datatype.isSome, false,
      (if i.nodeID.isSome then 1 else 0) + (if i.resource.isSome then 1 else 0)⟩ := by
  have e : n_nodeID ≠ n_ID ∧ n_nodeID ≠ n_resource ∧ n_resource ≠ n_ID ∧ n_datatype ≠ n_ID ∧ n_datatype ≠ n_resource ∧
      n_datatype ≠ n_nodeID := by decide
  -- sixteen cases (each attribute present or absent), every one the scan run on the list
  cases h1 : i.id <;> cases h2 : i.nodeID <;> cases h3 : i.resource <;> cases h4 : i.datatype <;>
    simp [rdfPart, ha, hpt, optAttr, emptyLoop, h1, h2, h3, h4, e, hn]

theorem emptyAttrLoop_rdfPart (P : Params) (ctx : Ctx) (o : Term BN) (i : AttrInfo) (ha : i.about = none)
    (hpt : i.parseType = none) (B : List Attr) (st : St) :
    emptyAttrLoop P ctx o (rdfPart i ++ B) st = emptyAttrLoop P ctx o B st := by
  cases h1 : i.id <;> cases h2 : i.nodeID <;> cases h3 : i.resource <;> cases h4 : i.datatype <;>
    simp [rdfPart, ha, hpt, optAttr, emptyAttrLoop, h1, h2, h3, h4]

theorem peltEnd_empty (hf : EmptyRefNoFrag rs) (i : AttrInfo) (hp : i.props = []) (ha : i.about = none)
    (hpt : i.parseType = none) (hdt : i.datatype = none) (hnn : i.nodeID = none) (hres : i.resource = none)
    {env : Env} {ctx : Ctx} (hrel : CtxRel env ctx) (s : Term BN) (pred : Str) (id : PId) (hi : i.id = PId.val id)
    {S S' : RX.St} (hidwf : wfId rs (env.push rs i.base i.lang) id S = some S') (st : St) :
    ∃ st1, peltEnd (mkP rs render) ctx s pred (stdAttrs i) i.id [] [] st = .ok () st1 ∧
      st1.out = (withReify (PId.iri id) ⟨s, pred, mkLit [] (env.push rs i.base i.lang).lang⟩).reverse ++ st.out ∧
      st1.next = st.next := by
  obtain ⟨c', st1, hpca, hrel', hn, ho⟩ := processCommonAttr_std_nil (render := render) hf i hp hrel st
  have hlang : c'.lang = (env.push rs i.base i.lang).lang := hrel'.2
  have hloop := emptyLoop_rdfPart i ha hpt (by simp [hnn]) []
  rw [List.append_nil, hdt, hnn, hres] at hloop
  obtain ⟨st2, h1, h2, h3⟩ := optReify_sim (render := render) hf hrel' hidwf ⟨s, pred, mkLit [] (env.push rs i.base i.lang).lang⟩
    (st1.emit ⟨s, pred, mkLit [] (env.push rs i.base i.lang).lang⟩) st1.out rfl
  refine ⟨st2, ?_, by rw [h2, ho], by rw [h3]; exact hn⟩
  unfold peltEnd
  simp [hpca, hloop, emptyLoop, hp, hi, mkLitCtx, hlang, h1]

theorem pidVal_ncname {env : Env} {id : PId} {S S' : RX.St} (h : wfId rs env id S = some S') :
    ∀ v, PId.val id = some v → isNCName v = true := by
  intro v hv
  cases id with
  | none => simp [PId.val] at hv
  | some p =>
    obtain ⟨iri, w⟩ := p
    simp only [PId.val, Option.map_some, Option.some.injEq] at hv
    subst hv
    exact ((wfId_facts h).2 iri w rfl).1

theorem text_elt_sim (hf : EmptyRefNoFrag rs) (i : AttrInfo) (hp : i.props = [])
    (hpt : i.parseType = none) {env : Env} {ctx : Ctx} (hrel : CtxRel env ctx) (nm : PName) (li : Nat)
    (hname : wfName li nm = true) (s : Term BN) (lex : Str) (hlex : lex ≠ []) (id : PId) (hi : i.id = PId.val id)
    {S S' : RX.St} (hidwf : wfId rs (env.push rs i.base i.lang) id S = some S')
    (hdt : ∀ d, i.datatype = some d → rs (env.push rs i.base i.lang).base d ≠ rdfLangString ∧
      rs (env.push rs i.base i.lang).base d ≠ rdfDirLangString)
    (ret : Ret) (below : List Frame) (ctx0 : Ctx) (st : St) :
    ∃ st1, steps (mkP rs render) ctx0 (.props ctx s li ret :: below) st
        [.start nm.ns nm.name (stdAttrs i), .chars lex, .end_ nm.ns nm.name] =
        .cont (.props ctx s (nm.nextLi li) ret :: below) st1 ∧
      st1.out = (withReify (PId.iri id) ⟨s, nm.pred,
        match i.datatype with
        | none => mkLit lex (env.push rs i.base i.lang).lang
        | some d => .lit lex (rs (env.push rs i.base i.lang).base d) none⟩).reverse ++ st.out ∧
      st1.next = st.next := by
  have hidn := pidVal_ncname hidwf
  obtain ⟨nctx, st1, h1, _, hn1, ho1⟩ := props_start_generic (render := render) hf i (by simp [hp])
    (by rw [hp]; exact fun _ => rfl) hpt (by rw [hi]; exact hidn) hrel nm li hname s ret below ctx0 st
  obtain ⟨st2, h2, ho2, hn2⟩ := peltEnd_text (render := render) hf i hp hrel s nm.pred lex hlex id hi hidwf hdt st1
  exact ⟨st2, by rw [steps_cons_cont h1]; simp [steps, step, h2], by rw [ho2, ho1], by rw [hn2, hn1]⟩

theorem reifyEachID_std (hf : EmptyRefNoFrag rs) (i : AttrInfo) (ha : i.about = none) (hnn : i.nodeID = none)
    (hres : i.resource = none) (hdt : i.datatype = none) {env : Env} {ctx : Ctx} (hrel : CtxRel env ctx)
    (id : PId) (hi : i.id = PId.val id) {S S' : RX.St} (hidwf : wfId rs env id S = some S')
    (t : T) (st : St) (out : List T) (ho : st.out = t :: out) :
    ∃ st', reifyEachID (mkP rs render) ctx (rdfPart i) st = .ok () st' ∧
      st'.out = (withReify (PId.iri id) t).reverse ++ out ∧ st'.next = st.next := by
  have e1 : n_parseType ≠ n_ID := by decide
  obtain ⟨st', h1, h2, h3⟩ := optReify_sim (render := render) hf hrel hidwf t st out ho
  refine ⟨st', ?_, h2, h3⟩
  rw [← h1]
  simp only [rdfPart, ha, hnn, hres, hdt, hi, optAttr, List.append_nil]
  cases id with
  | none => cases i.parseType <;> simp [PId.val, reifyEachID, optReify, e1]
  | some p =>
    cases i.parseType <;> simp [PId.val, reifyEachID, optReify, e1] <;>
      (cases addReify (mkP rs render) ctx p.2 0 st <;> rfl)

theorem nodeNameForbidden_of_wfTyp {typ : Option (Str × Str)} (h : wfTyp typ = true) :
    nodeNameForbidden (typNs typ) (typName typ) = false := by
  have := (wfTyp_facts (.iri []) typ h).1
  simp only [nodeNameForbidden, Bool.and_eq_false_iff, decide_eq_false_iff_not]
  by_cases hns : typNs typ = rdfNS
  · right
    cases hb : badNodeName (typName typ) with
    | false => rfl
    | true => exact absurd ⟨hns, hb⟩ this
  · left; exact hns

end RdfModel.RXD
