import RdfModel.Props.C13Defs
import RdfModel.Proofs.C12Abs
namespace RdfModel.Proofs.C13
open RdfModel.Spec.RFC3986Lite RdfModel.C13

theorem upTo_append_from (stop : Nat → Bool) (s : Str) : upTo stop s ++ from_ stop s = s :=
  List.takeWhile_append_dropWhile

theorem from_head (stop : Nat → Bool) (s : Str) :
    from_ stop s = [] ∨ ∃ c r, from_ stop s = c :: r ∧ stop c = true := by
  have h := C12.stops_dropWhile (fun c => !stop c) s
  unfold from_
  cases hd : s.dropWhile (fun c => !stop c) with
  | nil => exact .inl rfl
  | cons c r => exact .inr ⟨c, r, rfl, by simpa [hd] using h c⟩

theorem upTo_clean (stop : Nat → Bool) (s : Str) : ∀ c ∈ upTo stop s, stop c = false :=
  fun c hc => by simpa using C12.mem_takeWhile hc

theorem cut_at (stop : Nat → Bool) (xs ys : Str) (hx : ∀ c ∈ xs, stop c = false)
    (hy : ys = [] ∨ ∃ c r, ys = c :: r ∧ stop c = true) :
    upTo stop (xs ++ ys) = xs ∧ from_ stop (xs ++ ys) = ys :=
  C12.span_append (by simpa using hx) (by rcases hy with rfl | ⟨c, r, rfl, hc⟩ <;> simp [C12.Stops, *])

theorem upTo_all (stop : Nat → Bool) (xs : Str) (hx : ∀ c ∈ xs, stop c = false) :
    upTo stop xs = xs ∧ from_ stop xs = [] := by
  simpa using cut_at stop xs [] hx (Or.inl rfl)

theorem splitFragment_glue (s : Str) (hs : s = [] ∨ ∃ r, s = cHash :: r) :
    fragmentPart (splitFragment s) = s := by
  rcases hs with rfl | ⟨r, rfl⟩ <;> simp [splitFragment, fragmentPart]

theorem stop_eqs : (∀ c, Spec.RFC3986.notGenDelim c = !schemeStop c) ∧ (∀ c, Spec.RFC3986.notSQH c = !authStop c) ∧
    (∀ c, Spec.RFC3986.notQH c = !pathStop c) ∧ (∀ c, Spec.RFC3986.notH c = !queryStop c) := by
  refine ⟨?_, ?_, ?_, ?_⟩ <;> intro c <;>
    simp [schemeStop, authStop, pathStop, queryStop, Spec.RFC3986.notGenDelim, Spec.RFC3986.notSQH, Spec.RFC3986.notQH,
      Spec.RFC3986.notH, bne, cColon, cSlash, cQuest, cHash]

theorem upTo_scheme (s : Str) : upTo schemeStop s = s.takeWhile Spec.RFC3986.notGenDelim :=
  congrArg (List.takeWhile · s) (funext fun c => (stop_eqs.1 c).symm)

theorem from_scheme (s : Str) : from_ schemeStop s = s.dropWhile Spec.RFC3986.notGenDelim :=
  congrArg (List.dropWhile · s) (funext fun c => (stop_eqs.1 c).symm)

theorem splitScheme_eq (s : Str) : splitScheme s = Spec.RFC3986.splitScheme s := by
  unfold splitScheme Spec.RFC3986.splitScheme
  rw [upTo_scheme, from_scheme]
  cases h1 : s.takeWhile Spec.RFC3986.notGenDelim <;> cases h2 : s.dropWhile Spec.RFC3986.notGenDelim <;> simp [cColon, Spec.RFC3986.cColon]
  rfl

theorem splitAuthority_eq (s : Str) : splitAuthority s = Spec.RFC3986.splitAuthority s := by
  have e : (fun c => !authStop c) = Spec.RFC3986.notSQH := funext fun c => (stop_eqs.2.1 c).symm
  unfold splitAuthority Spec.RFC3986.splitAuthority upTo from_
  rw [e]
  rfl

theorem splitQuery_eq (s : Str) : splitQuery s = Spec.RFC3986.splitQuery s := by
  have e : (fun c => !queryStop c) = Spec.RFC3986.notH := funext fun c => (stop_eqs.2.2.2 c).symm
  unfold splitQuery Spec.RFC3986.splitQuery upTo from_
  rw [e]
  rfl

theorem split_eq (s : Str) :
    split s = ⟨(Spec.RFC3986.split s).scheme, (Spec.RFC3986.split s).authority, (Spec.RFC3986.split s).path,
      (Spec.RFC3986.split s).query, (Spec.RFC3986.split s).fragment⟩ := by
  have e : (fun c => !pathStop c) = Spec.RFC3986.notQH := funext fun c => (stop_eqs.2.2.1 c).symm
  unfold split Spec.RFC3986.split upTo from_
  simp only [splitScheme_eq, splitAuthority_eq, splitQuery_eq, e]
  rfl

theorem recompose_eq (P : Spec.RFC3986.Parts) :
    recompose ⟨P.scheme, P.authority, P.path, P.query, P.fragment⟩ = Spec.RFC3986.recompose P := by
  obtain ⟨s, a, p, q, f⟩ := P
  cases s <;> cases a <;> cases q <;> cases f <;> rfl

theorem recompose_split (s : Str) : recompose (split s) = s := by
  rw [split_eq, recompose_eq, C12.recompose_split]

theorem queryPart_head (q : Option Str) (f : Option Str) :
    queryPart q ++ fragmentPart f = [] ∨ ∃ c r, queryPart q ++ fragmentPart f = c :: r ∧ pathStop c = true := by
  cases q with
  | some x => right; exact ⟨cQuest, x ++ fragmentPart f, rfl, by decide⟩
  | none =>
    cases f with
    | some y => right; exact ⟨cHash, y, rfl, by decide⟩
    | none => left; rfl

theorem fragmentPart_head (f : Option Str) :
    fragmentPart f = [] ∨ ∃ c r, fragmentPart f = c :: r ∧ queryStop c = true := by
  cases f with
  | some y => right; exact ⟨cHash, y, rfl, by decide⟩
  | none => left; rfl

/-- the components of the full specification as components of this one -/
def lite (P : Spec.RFC3986.Parts) : Parts := ⟨P.scheme, P.authority, P.path, P.query, P.fragment⟩

theorem lite_split_recompose {P : Spec.RFC3986.Parts} (h : C12.WF P) : split (recompose (lite P)) = lite P := by
  rw [lite, recompose_eq, split_eq, C12.split_recompose h]

/-- Appendix B on `scheme://authority path ?query #fragment` -/
theorem split_abs (sch auth path : Str) (q f : Option Str)
    (hs : SchemeLike sch) (ha : AuthLike auth)
    (hp0 : path = [] ∨ ∃ t, path = cSlash :: t)
    (hp : ∀ c ∈ path, pathStop c = false) (hq : ∀ x, q = some x → ∀ c ∈ x, queryStop c = false) :
    split (sch ++ cColon :: cSlash :: cSlash :: auth ++ path ++ queryPart q ++ fragmentPart f) =
      ⟨some sch, some auth, path, q, f⟩ := by
  obtain ⟨e1, e2, e3, e4⟩ := stop_eqs
  have := lite_split_recompose (P := ⟨some sch, some auth, path, q, f⟩)
    ⟨by rintro s ⟨⟩; exact ⟨hs.1, fun c hc => by have := hs.2 c hc; simp_all [schemeStop]⟩,
     by rintro a ⟨⟩; exact fun c hc => by have := ha c hc; simp_all [authStop],
     fun c hc => by simp [e3, hp c hc],
     by rintro x ⟨⟩; exact fun c hc => by simp [e4, hq x rfl c hc],
     fun _ => by rcases hp0 with rfl | ⟨t, rfl⟩ <;> simp [C12.Stops, Spec.RFC3986.notSQH, cSlash],
     by rintro ⟨⟩, by rintro ⟨⟩⟩
  simpa [lite, recompose, schemePart, authorityPart] using this

/-- Appendix B on a relative reference `seg tail ?query #fragment` whose first segment `seg` has no colon -/
theorem split_rel (seg tail : Str) (q f : Option Str)
    (hseg : ∀ c ∈ seg, schemeStop c = false)
    (ht : tail = [] ∨ ∃ t, tail = cSlash :: t)
    (hnet : seg ≠ [] ∨ ∀ t, tail ≠ cSlash :: cSlash :: t)
    (hp : ∀ c ∈ tail, pathStop c = false) (hq : ∀ x, q = some x → ∀ c ∈ x, queryStop c = false) :
    split (seg ++ tail ++ queryPart q ++ fragmentPart f) = ⟨none, none, seg ++ tail, q, f⟩ := by
  obtain ⟨e1, e2, e3, e4⟩ := stop_eqs
  have hts : C12.Stops Spec.RFC3986.notGenDelim tail := by
    rcases ht with rfl | ⟨t, rfl⟩ <;> simp [C12.Stops, Spec.RFC3986.notGenDelim, cSlash]
  have := lite_split_recompose (P := ⟨none, none, seg ++ tail, q, f⟩)
    ⟨by rintro s ⟨⟩, by rintro a ⟨⟩,
     fun c hc => by
      rcases List.mem_append.mp hc with hc | hc
      · have := hseg c hc; simp_all [schemeStop, pathStop]
      · simp [e3, hp c hc],
     by rintro x ⟨⟩; exact fun c hc => by simp [e4, hq x rfl c hc],
     by rintro ⟨⟩,
     fun _ t e => by
      cases seg with
      | nil => exact hnet.resolve_left (fun h => h rfl) t e
      | cons c cs => exact absurd (hseg c List.mem_cons_self) (by rw [(List.cons.inj e).1]; decide),
     fun _ _ => by
      obtain ⟨h1, h2⟩ := C12.span_append (fun c hc => by simp [e1, hseg c hc]) hts
      show (Spec.RFC3986.splitScheme (seg ++ tail)).1 = none
      unfold Spec.RFC3986.splitScheme
      rw [h2]
      rcases ht with rfl | ⟨t, rfl⟩ <;> simp [cSlash, Spec.RFC3986.cColon]⟩
  simpa [lite, recompose, schemePart, authorityPart] using this

theorem joinSegs_eq (segs : List Str) : joinSegs segs = C12.joinSlash segs := rfl

theorem joinSegs_cons (s : Str) (segs : List Str) : joinSegs (s :: segs) = cSlash :: s ++ joinSegs segs :=
  C12.joinSlash_cons s segs

theorem joinSegs_append (a b : List Str) : joinSegs (a ++ b) = joinSegs a ++ joinSegs b :=
  C12.joinSlash_append a b

theorem joinSegs_head (segs : List Str) : joinSegs segs = [] ∨ ∃ t, joinSegs segs = cSlash :: t :=
  C12.joinSlash_shape segs

theorem firstSegment_eq (inp : Str) :
    firstSegment inp = (Spec.RFC3986.firstSegment inp, Spec.RFC3986.afterFirstSegment inp) := by
  have e : (fun c => !(c == cSlash)) = (· != Spec.RFC3986.cSlash) := rfl
  cases inp with
  | nil => rfl
  | cons c r =>
    unfold firstSegment Spec.RFC3986.firstSegment Spec.RFC3986.afterFirstSegment upTo from_
    rw [e]
    by_cases hc : c = Spec.RFC3986.cSlash <;> simp [hc]

theorem rdsStep_eq (inp out : Str) : rdsStep inp out = Spec.RFC3986.rdsStep inp out := by
  unfold rdsStep Spec.RFC3986.rdsStep
  rw [firstSegment_eq]
  rfl

theorem rdsLoop_eq (n : Nat) (inp out : Str) : rdsLoop n inp out = Spec.RFC3986.rdsLoop n inp out := by
  induction n generalizing inp out with
  | zero => rfl
  | succ n ih => rw [rdsLoop, C12.rdsLoop_succ, rdsStep_eq, ih]

/-- the lite loop runs with one unit of fuel less, which is still enough -/
theorem removeDotSegments_eq (p : Str) : removeDotSegments p = Spec.RFC3986.removeDotSegments p := by
  rw [removeDotSegments, rdsLoop_eq, Spec.RFC3986.removeDotSegments, C12.rdsLoop_fuel _ _ _ (Nat.le_refl _)]

theorem plain_noSlash {segs : List Str} (hs : ∀ s ∈ segs, PlainSeg s) : C12.AllNoSlash segs :=
  fun s h c hc => ((hs s h).2.2 c hc).1

theorem plain_notDot {segs : List Str} (hs : ∀ s ∈ segs, PlainSeg s) :
    ∀ s ∈ segs, Spec.RFC3986.isDotSegment s = false :=
  fun s h => C12.not_isDot (hs s h).1 (hs s h).2.1

theorem rds_plain (segs : List Str) (hs : ∀ s ∈ segs, PlainSeg s) :
    removeDotSegments (joinSegs segs) = joinSegs segs := by
  rw [removeDotSegments_eq]
  exact C12.rds_noDot_id (C12.noDot_joinSlash (plain_noSlash hs) (plain_notDot hs))

/-- the directory of a plain path: `…/dir/` followed by `./` -/
theorem rds_dir (segs : List Str) (hs : ∀ s ∈ segs, PlainSeg s) :
    removeDotSegments (joinSegs segs ++ [cSlash, cDot, cSlash]) = joinSegs segs ++ [cSlash] := by
  have e : joinSegs segs ++ [cSlash, cDot, cSlash] = C12.joinSlash (segs ++ [[Spec.RFC3986.cDot], []]) := by
    rw [joinSegs_eq, C12.joinSlash_append]; rfl
  have hl : C12.AllNoSlash (segs ++ [[Spec.RFC3986.cDot], []]) := by
    intro s h
    rcases List.mem_append.mp h with h | h
    · exact plain_noSlash hs s h
    · simp only [List.mem_cons, List.not_mem_nil, or_false] at h
      rcases h with rfl | rfl <;> decide
  rw [removeDotSegments_eq, e, C12.rds_joinSlash hl, C12.absRun_append [] (plain_notDot hs) (by simp)]
  simp [C12.absRun, C12.absStep, C12.absLast, C12.joinSlash_append, joinSegs_eq]
  rfl

end RdfModel.Proofs.C13
