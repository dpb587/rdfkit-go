import RdfModel.Model.Xsd
namespace RdfModel.Proofs.C20
open RdfModel RdfModel.Xsd
open RdfModel.Spec.Xsd (natValue natDigits digitsAux canonInt)

/-- the fold of `natValue` started from an arbitrary accumulator -/
def nv (acc : Nat) (s : Bytes) : Nat := s.foldl (fun a b => a * 10 + (b - 0x30)) acc

theorem natValue_eq_nv (s : Bytes) : natValue s = nv 0 s := rfl

theorem nv_eq (s : Bytes) : ∀ acc, nv acc s = acc * 10 ^ s.length + nv 0 s := by
  induction s with
  | nil => intro acc; simp [nv]
  | cons c r ih =>
    intro acc
    have h1 : nv acc (c :: r) = nv (acc * 10 + (c - 0x30)) r := rfl
    have h2 : nv 0 (c :: r) = nv (0 * 10 + (c - 0x30)) r := rfl
    rw [h1, h2, ih (acc * 10 + (c - 0x30)), ih (0 * 10 + (c - 0x30))]
    simp only [List.length_cons, Nat.pow_succ]
    grind

theorem natValue_cons (c : Nat) (r : Bytes) :
    natValue (c :: r) = (c - 0x30) * 10 ^ r.length + natValue r := by
  have h : natValue (c :: r) = nv (0 * 10 + (c - 0x30)) r := rfl
  rw [h, nv_eq, natValue_eq_nv]; simp

theorem natValue_append (a b : Bytes) : natValue (a ++ b) = natValue a * 10 ^ b.length + natValue b := by
  rw [natValue_eq_nv, natValue_eq_nv, natValue_eq_nv]
  unfold nv
  rw [List.foldl_append]
  exact nv_eq b _

theorem natValue_zeros (k : Nat) : natValue (List.replicate k 0x30) = 0 := by
  induction k with
  | zero => rfl
  | succ k ih => rw [List.replicate_succ, natValue_cons]; simp [ih]

theorem natValue_nil : natValue [] = 0 := rfl

theorem isDigit_eq : Xsd.isDigit = Spec.Xsd.isDigit := rfl

theorem isDigit_iff (b : Nat) : Spec.Xsd.isDigit b = true ↔ 0x30 ≤ b ∧ b ≤ 0x39 := by
  simp [Spec.Xsd.isDigit]

theorem spanDigits_append {ds r : Bytes} (hd : ds.all Spec.Xsd.isDigit = true)
    (hr : ∀ c r', r = c :: r' → Spec.Xsd.isDigit c = false) : Spec.Xsd.spanDigits (ds ++ r) = (ds, r) := by
  induction ds with
  | nil =>
    cases r with
    | nil => rfl
    | cons c r' => simp [Spec.Xsd.spanDigits, hr c r' rfl]
  | cons b t ih =>
    simp only [List.all_cons, Bool.and_eq_true] at hd
    simp [Spec.Xsd.spanDigits, hd.1, ih hd.2]

theorem digitsAux_spec (fuel : Nat) : ∀ n acc, n < fuel → acc.all Spec.Xsd.isDigit = true →
    (digitsAux fuel n acc).all Spec.Xsd.isDigit = true ∧ digitsAux fuel n acc ≠ [] ∧
    natValue (digitsAux fuel n acc) = n * 10 ^ acc.length + natValue acc := by
  induction fuel with
  | zero => intro n acc h; omega
  | succ f ih =>
    intro n acc h ha
    have hd : Spec.Xsd.isDigit (0x30 + n % 10) = true := by
      rw [isDigit_iff]; omega
    simp only [digitsAux]
    have hdm := Nat.div_add_mod n 10
    split
    · next h0 =>
      rw [natValue_cons]
      have : 0x30 + n % 10 - 0x30 = n := by omega
      simp [this, hd, ha]
    · next h0 =>
      obtain ⟨i1, i2, i3⟩ := ih (n / 10) ((0x30 + n % 10) :: acc) (by omega) (by simp [hd, ha])
      refine ⟨i1, i2, ?_⟩
      rw [i3, natValue_cons]
      simp only [List.length_cons, Nat.pow_succ]
      have : 0x30 + n % 10 - 0x30 = n % 10 := by omega
      rw [this]
      generalize 10 ^ acc.length = p
      generalize natValue acc = a
      grind

theorem natDigits_all (n : Nat) : (natDigits n).all Spec.Xsd.isDigit = true :=
  (digitsAux_spec _ _ _ (by omega) (by simp)).1

theorem natDigits_val (n : Nat) : natValue (natDigits n) = n := by
  unfold natDigits; rw [(digitsAux_spec _ _ _ (by omega) (by simp)).2.2]; simp [natValue_nil]

theorem natDigits_ne (n : Nat) : natDigits n ≠ [] := (digitsAux_spec _ _ _ (by omega) (by simp)).2.1
theorem digits1_iff (s : Bytes) : Spec.Xsd.digits1 s = true ↔ s ≠ [] ∧ s.all Spec.Xsd.isDigit = true := by
  cases s <;> simp [Spec.Xsd.digits1]

theorem natDigits_digits1 (n : Nat) : Spec.Xsd.digits1 (natDigits n) = true :=
  (digits1_iff _).2 ⟨natDigits_ne n, natDigits_all n⟩

/-- a digit, hence neither `+` nor `-` -/
theorem natDigits_head (n : Nat) : ∃ d r, natDigits n = d :: r ∧ 0x30 ≤ d ∧ d ≤ 0x39 := by
  have h1 := natDigits_ne n
  have h2 := natDigits_all n
  cases h : natDigits n with
  | nil => exact absurd h h1
  | cons a r =>
    rw [h] at h2
    simp only [List.all_cons, Bool.and_eq_true] at h2
    exact ⟨a, r, rfl, (isDigit_iff a).1 h2.1⟩

/-! strconv.FormatUint (model: least significant digit first, then reversed) -/

theorem lsd_rev (fuel : Nat) : ∀ n acc, (lsdDigits fuel n).reverse ++ acc = digitsAux fuel n acc := by
  induction fuel with
  | zero => intro n acc; simp [lsdDigits, digitsAux]
  | succ f ih =>
    intro n acc
    simp only [lsdDigits, digitsAux]
    split
    · simp
    · next h0 =>
      simp only [List.reverse_cons, List.append_assoc, List.singleton_append]
      exact ih _ _

theorem fmtNat_eq (n : Nat) : fmtNat n = natDigits n := by
  have := lsd_rev (n + 1) n []
  simpa [fmtNat, natDigits] using this

theorem fmtInt_eq (v : Int) : fmtInt v = canonInt v := by
  unfold fmtInt canonInt
  split <;> simp [fmtNat_eq]

end RdfModel.Proofs.C20

-- in the namespace of the time family; it stands here because the float files use it too and import this module,
-- not `C20Time`
namespace RdfModel.Proofs.C20Time
open RdfModel.Xsd (Bytes)

theorem spanDigits_eq (s : Bytes) :
    Spec.Xsd.spanDigits s = (s.takeWhile Spec.Xsd.isDigit, s.dropWhile Spec.Xsd.isDigit) := by
  induction s with
  | nil => rfl
  | cons b r ih =>
    simp only [Spec.Xsd.spanDigits, List.takeWhile, List.dropWhile]
    split <;> simp_all

end RdfModel.Proofs.C20Time
