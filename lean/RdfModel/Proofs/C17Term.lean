import RdfModel.Proofs.C17Walk
namespace RdfModel.Proofs.C17
open RdfModel RdfModel.Desc RdfModel.C17

variable {β : Type} [DecidableEq β]

theorem climb_mono (T : List (Triple β)) : ∀ k x, climb T k x = true → climb T (k + 1) x = true := by
  intro k
  induction k with
  | zero =>
    intro x h
    cases x with
    | iri v => rfl
    | lit l d t => rfl
    | bnode b =>
      simp only [climb, Bool.not_eq_true', beq_eq_false_iff_ne, ne_eq] at h
      simp [climb, h]
  | succ k ih =>
    intro x h
    cases x with
    | iri v => rfl
    | lit l d t => rfl
    | bnode b =>
      simp only [climb] at h ⊢
      split
      · rename_i h1
        simp only [h1, if_true] at h
        split
        · rename_i s hs
          simp only [hs] at h
          exact ih s h
        · rfl
      · rfl

theorem climb_mono_le (T : List (Triple β)) {k k' : Nat} (hk : k ≤ k') (x : Term β)
    (h : climb T k x = true) : climb T k' x = true := by
  induction hk with
  | refl => exact h
  | step _ ih => exact climb_mono T _ x ih

theorem refs_one (T : List (Triple β)) (b : β) (h1 : refs T b = 1) (t : Triple β) (ht : t ∈ T)
    (hto : t.o = Term.bnode b) : T.filter (fun t => t.o = Term.bnode b) = [t] := by
  rw [refs, List.countP_eq_length_filter, List.length_eq_one_iff] at h1
  obtain ⟨x, hx⟩ := h1
  have : t ∈ T.filter (fun t => t.o = Term.bnode b) := List.mem_filter.2 ⟨ht, decide_eq_true hto⟩
  rw [hx] at this ⊢
  rw [List.mem_singleton.1 this]

theorem parent_of_once (T : List (Triple β)) (b : β) (h1 : refs T b = 1) (t : Triple β) (ht : t ∈ T)
    (hto : t.o = Term.bnode b) : parent? T b = some t.s := by
  rw [parent?, ← List.head?_filter, refs_one T b h1 t ht hto]; rfl

theorem climb_all (T : List (Triple β)) (h : Acyclic1 T) : ∀ x, climb T T.length x = true := by
  intro x
  cases x with
  | iri v => cases hT : T.length <;> rfl
  | lit l d t => cases hT : T.length <;> rfl
  | bnode b =>
    by_cases h1 : refs T b = 1
    · obtain ⟨t, ht, hto⟩ := exists_of_refs_pos T b (by omega)
      have := h t ht
      rwa [hto] at this
    · cases hT : T.length with
      | zero => simp [climb, h1]
      | succ n => simp [climb, h1]

/-- Termination: with `Acyclic1`, `ExportResourceStatements` never nests deeper than `|T|+1` frames.
    `j` counts the frames already descended to reach `y`: `climb T (j-1) y = false` says that the `j-1` nodes above `y`
    are all once-referenced (each frame was entered through an inlined object). `climb` cannot fail for `|T|` steps
    under `Acyclic1`, so `j ≤ |T|`, and `f` frames of fuel with `|T|+1 ≤ j+f` are enough below `y`. -/
theorem export_isSome_aux (T : List (Triple β)) (opts : Opts) (h : Acyclic1 T) :
    ∀ f y j, (j = 0 ∨ climb T (j - 1) y = false) → T.length + 1 ≤ j + f →
      ((build T).exportStatements opts f y).isSome := by
  intro f
  induction f with
  | zero =>
    intro y j hj hle
    rcases hj with rfl | hj
    · omega
    · have := climb_mono_le T (k := T.length) (k' := j - 1) (by omega) y (climb_all T h y)
      rw [this] at hj; cases hj
  | succ f ih =>
    intro y j hj hle
    rw [exportStatements_succ]
    apply mapOpt_isSome
    intro po hpo
    unfold expStmt
    by_cases hin : (build T).isInl opts po.2 = true
    · simp only [hin, if_true, Option.isSome_map]
      obtain ⟨b, hb⟩ := isInl_bnode hin
      have hin' := hin
      rw [hb] at hin'
      simp only [Builder.isInl, refCount_build, Bool.and_eq_true, beq_iff_eq] at hin'
      rw [stmts_build] at hpo
      simp only [List.mem_map, List.mem_filter, decide_eq_true_eq] at hpo
      obtain ⟨t, ⟨ht, hts⟩, htpo⟩ := hpo
      have hto : t.o = Term.bnode b := by rw [← hb, ← htpo]; rfl
      have hpar := parent_of_once T b hin'.2 t ht hto
      apply ih po.2 (j + 1) _ (by omega)
      right
      rw [hb]
      simp only [Nat.add_sub_cancel]
      cases j with
      | zero => simp [climb, hin'.2]
      | succ j' =>
        simp only [climb, hin'.2, beq_self_eq_true, if_true, hpar, hts]
        rcases hj with hj | hj
        · omega
        · simpa using hj
    · simp [hin]

theorem export_isSome_noinline (B : Builder β) (opts : Opts) (hi : opts.inline = false) (f : Nat) (y : Term β) :
    (B.exportStatements opts (f + 1) y).isSome := by
  rw [exportStatements_succ]
  apply mapOpt_isSome
  intro po _
  have : B.isInl opts po.2 = false := by
    cases h : po.2 <;> simp [Builder.isInl, hi]
  simp [expStmt, this]

theorem export_isSome (T : List (Triple β)) (opts : Opts) (h : opts.inline = true → Acyclic1 T) (y : Term β) :
    ((build T).exportStatements opts (T.length + 1) y).isSome := by
  cases hi : opts.inline with
  | false => exact export_isSome_noinline _ _ hi _ _
  | true => exact export_isSome_aux T opts (h hi) (T.length + 1) y 0 (Or.inl rfl) (by omega)

theorem export_mono (B : Builder β) (opts : Opts) :
    ∀ k y L, B.exportStatements opts k y = some L → B.exportStatements opts (k + 1) y = some L := by
  intro k
  induction k with
  | zero => intro y L h; simp [exportStatements_zero] at h
  | succ k ih =>
    intro y L h
    rw [exportStatements_succ] at h ⊢
    refine mapOpt_congr_some ?_ h
    intro po _ st hst
    unfold expStmt at hst ⊢
    by_cases hin : B.isInl opts po.2 = true
    · simp only [hin, if_true] at hst ⊢
      obtain ⟨L', hL', rfl⟩ := Option.map_eq_some_iff.1 hst
      exact Option.map_eq_some_iff.2 ⟨L', ih _ _ hL', rfl⟩
    · simpa [hin] using hst

theorem export_mono_le (B : Builder β) (opts : Opts) {k k' : Nat} (hk : k ≤ k') {y : Term β}
    {L : List (Stmt β)} (h : B.exportStatements opts k y = some L) : B.exportStatements opts k' y = some L := by
  induction hk with
  | refl => exact h
  | step _ ih => exact export_mono B opts _ _ _ ih

/-- If every node of a set `C` has an inlined successor in `C`, the export of a node of `C` exceeds every depth. -/
theorem export_diverges_of_closed (B : Builder β) (opts : Opts) (C : Term β → Prop)
    (hC : ∀ y, C y → ∃ po ∈ B.stmts y, B.isInl opts po.2 = true ∧ C po.2) :
    ∀ fuel y, C y → B.exportStatements opts fuel y = none := by
  intro fuel
  induction fuel with
  | zero => intro y _; rfl
  | succ f ih =>
    intro y hy
    obtain ⟨po, hpo, hin, hc⟩ := hC y hy
    rw [exportStatements_succ]
    apply mapOpt_none_of_mem hpo
    simp [expStmt, hin, ih po.2 hc]

end RdfModel.Proofs.C17
