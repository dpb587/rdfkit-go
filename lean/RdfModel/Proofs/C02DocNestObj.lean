/-
  Nested-resource mode as a printed abstract document, term level: the text of `writeObject` / `writePredicate` /
  `writeSubject` is `TA.pObj` / `TA.pVerb` / `TA.pSubj` of an abstract token (under some spelling choices, followed by
  whatever white space the encoder writes next), the token is well-formed for C08's theorem, and denotes the term.
-/
import RdfModel.Props.C02DocDefs
import RdfModel.Props.C08DocDefs
import RdfModel.Proofs.C02DocSteps
import RdfModel.Proofs.C08Assemble
import RdfModel.Props.C02Tokens
namespace RdfModel.Proofs.C02Doc
open RdfModel RdfModel.Ttl RdfModel.TtlEnc RdfModel.C02 RdfModel.Desc RdfModel.Spec.TtlPrint

section Syn

theorem ws_nltabs (n : Nat) : WS (nl :: tabs n) ∧ nl :: tabs n ≠ [] := by
  refine ⟨?_, by simp⟩
  intro c hc
  simp only [List.mem_cons] at hc
  rcases hc with rfl | h
  · exact Or.inr (Or.inr rfl)
  · exact ws_tabs n c h

variable {T : Tables}

/-- the encoder's spelling of a token value is one of the printer's spellings -/
structure TokPrint (T : Tables) : Prop where
  iri : ∀ r : List Nat, Scalars r → ∃ cs : List Choice, printIRIREF cs r = 0x3c :: (formatIRI T false r ++ [0x3e])
  str : ∀ lex : List Nat, ∃ cs : List Choice, printString .dq cs lex = formatLiteralLexicalForm T false lex
  loc : ∀ loc out : List Nat, Scalars loc → PNLocalOK T loc = true → format_PN_LOCAL T loc = some out →
    ∃ cs : List Choice, printLocal T cs loc = some out

/-- what the proofs need of the decoder configuration: C02's and C08's assumptions, and U+1680 is white
    space for it (Go: `unicode.IsSpace`) — `labelSafe` then keeps it out of prefix labels -/
structure NestCfgOK (C : TtlDoc.Cfg) (T : Tables) : Prop where
  c02 : C02.CfgOK C T
  c08 : C08.CfgOK T C
  og : C.isSpace 0x1680 = true

theorem scalarsB_of {s : List Nat} (h : Scalars s) : C08.scalarsB s = true := by
  simp only [C08.scalarsB, List.all_eq_true]
  intro c hc
  exact (isScalarB_iff c).2 (h c hc)

section IRI
variable {β : Type} {C : TtlDoc.Cfg}

/-- Whatever `writeIRI` wrote is the printed form of an abstract `iri` token that is well-formed, is
    not a prefixed name with a `true…` / `false…` label, and denotes the IRI. -/
theorem iri_syn (hT : DocTablesOK T) (hC : NestCfgOK C T) (tp : TokPrint T) (c : Ctx β) (hcT : c.T = T)
    (base : Option (List Nat)) (hcb : c.base = base.map Prefix.newBaseIRI) (hbase : ∀ b, base = some b → baseOK b)
    (hlab : ∀ m ∈ c.pm.ordered, labelSafe C.isSpace T m.pfx = true)
    (v : List Nat) (hv : iriTermOK c base v) (w : Written) (hw : writeIRIForm c v = .ok w) :
    ∃ (x : TA.IriS) (cs : List Choice),
      C08.iriWf T x = true ∧ C08.objNoBoolPfx (.iri x) = true ∧
      (∀ (P : TA.PCtx) (s : TA.Slot), P.T = T → s.cs = cs → TA.iriText P s x = Written.text T w) ∧
      (∀ (D : List Nat → Prop) (st : TA.DState), StOK base c.pm D st → (∀ l ∈ usedOfIRI c.pm v, D l) →
        TA.iriOf C.resolve st x = some v) := by
  rcases writeIRIForm_spec hT hC.c02 hcT hcb hbase v hv with
    ⟨m, hm, loc, out, hw', hmv, hu, hsl, hok, hfmt⟩ | ⟨r, hw', hsr, hres⟩
  · obtain rfl : w = .pname m.pfx loc out := by rw [hw'] at hw; injection hw with hw; exact hw.symm
    obtain ⟨hpo, hps, hnsp, hnt, hnf⟩ := labelSafe_parts (hlab m hm)
    obtain ⟨cs, hcs⟩ := tp.loc loc out hsl hok hfmt
    have h1680 : m.pfx.contains 0x1680 = false := by
      cases hcon : m.pfx.contains 0x1680 with
      | false => rfl
      | true =>
        have := hnsp _ (by simpa using hcon)
        rw [hC.og] at this
        cases this
    refine ⟨.pn m.pfx loc, cs, ?_, ?_, ?_, ?_⟩
    · simp only [C08.iriWf, C08.prefixOK2, hpo, h1680, scalarsB_of hps, scalarsB_of hsl, Bool.not_false, Bool.and_true,
        Bool.true_and]
      unfold printLocal at hcs ⊢
      rw [← Proofs.C08Tok.printLocal_isSome_indep T loc true cs, hcs]
      rfl
    · simp [C08.objNoBoolPfx, C08.boolPrefixed, hnt, hnf]
    · intro P s hP hs
      simp only [TA.iriText, printPrefixedName, hP, hs, hcs, Option.map_some, Option.getD_some, Written.text]
    · intro D st hst hD
      simp only [TA.iriOf]
      rw [hst.pfx m hm (hD _ hu)]
      simp [hmv]
  · obtain ⟨cs, hcs⟩ := tp.iri r hsr
    refine ⟨.ref r, cs, scalarsB_of hsr, rfl, ?_, ?_⟩
    · intro P s _ hs
      rcases hw' with hw' | hw' <;> rw [hw'] at hw <;> injection hw with hw <;> subst hw <;>
        simp only [TA.iriText, hs, hcs, Written.text]
    · intro D st hst _
      show readRef C.resolve st.base r = some v
      rw [hst.base]
      exact hres

end IRI

end Syn

/-- blank nodes of a flattening (`Desc.BN`) as blank nodes of a denotation (`TA.B`): input nodes by their
    label, the `k`-th fresh node as the `k`-th anonymous node -/
def sig {β : Type} (label : β → List Nat) : Desc.BN β → TA.B
  | .orig b => .lbl (label b)
  | .fresh k => .anon k

theorem sig_injective {β : Type} {label : β → List Nat} (h : Function.Injective label) :
    Function.Injective (sig label) := by
  intro a b hab
  cases a <;> cases b <;> simp only [sig] at hab
  · injection hab with hab; rw [h hab]
  · cases hab
  · cases hab
  · injection hab with hab; rw [hab]

/-- a triple of the default graph as the quad `TA.denote` yields -/
def quadOf (t : Triple TA.B) : TA.QuadB := ⟨t.s, .iri t.p, t.o, none⟩

theorem map_orig_sig {β : Type} (label : β → List Nat) (o : Term β) :
    (o.map Desc.BN.orig).map (sig label) = o.map (fun b => TA.B.lbl (label b)) := by
  cases o <;> rfl

theorem agree_one {ch : TA.Choices} {i : Nat} {s : TA.Slot} (h : Agree ch i [s]) : ch.at i = s :=
  (agree_cons.1 h).1

theorem agree_two {ch : TA.Choices} {i : Nat} {s s' : TA.Slot} (h : Agree ch i [s, s']) :
    ch.at i = s ∧ ch.at (i + 1) = s' :=
  ⟨(agree_cons.1 h).1, (agree_cons.1 (agree_cons.1 h).2).1⟩

variable {T : Tables}

/-- The text `text` is the printed form of the abstract object `x` under the slots `sl t`, where `t` is
    the white space that follows the object's last token. -/
structure ObjSyn (T : Tables) (x : TA.Obj) (sl : List Nat → List TA.Slot) (text : List Nat) : Prop where
  wf : C08.objWf T x = true
  nb : C08.objNoBoolPfx x = true
  len : ∀ t, (sl t).length = TA.objSlots x
  ng : ∀ t, noGlue (sl t)
  pr : ∀ (ch : TA.Choices) (i : Nat) (t rest : List Nat), WS t → t ≠ [] → Agree ch i (sl t) →
    TA.pObj ⟨T, ch⟩ i x rest = text ++ (t ++ rest)

theorem noGlue_tok (cs : List Choice) (t : List Nat) : noGlue [tokSlot cs t] := by
  intro s hs
  simp only [List.mem_singleton] at hs
  subst hs
  rfl

section Terms
variable {β : Type} {C : TtlDoc.Cfg} {c : Ctx β} {base : Option (List Nat)}

theorem iri_obj_syn (S : Setup C T c base) (hC : NestCfgOK C T) (tp : TokPrint T) (v : List Nat)
    (hv : iriTermOK c base v) (text : List Nat) (htext : writeIRI c v = .ok text) :
    ∃ (x : TA.IriS) (cs : List Choice),
      C08.iriWf T x = true ∧ C08.objNoBoolPfx (.iri x) = true ∧
      (∀ (ch : TA.Choices) (i : Nat) (t rest : List Nat), WS t → t ≠ [] → ch.at i = tokSlot cs t →
        TA.pIri ⟨T, ch⟩ i x rest = text ++ (t ++ rest)) ∧
      (∀ (D : List Nat → Prop) (st : TA.DState), StOK base c.pm D st → (∀ l ∈ usedOfIRI c.pm v, D l) →
        TA.iriOf C.resolve st x = some v) := by
  obtain ⟨w, hw, rfl⟩ := writeIRI_ok htext
  obtain ⟨x, cs, hwf, hnb, hpr, hden⟩ := iri_syn S.hT hC tp c S.cT base S.cb S.baseOK S.labels v hv w hw
  refine ⟨x, cs, hwf, hnb, ?_, hden⟩
  intro ch i t rest ht hne hat
  simp only [TA.pIri]
  rw [hat, hpr ⟨T, ch⟩ (tokSlot cs t) rfl rfl, after_ws _ _ t ht hne rfl, S.cT]

theorem object_syn (S : Setup C T c base) (hC : NestCfgOK C T) (tp : TokPrint T) (o : Term β)
    (ho : objectOK c base o) :
    ∃ (text : List Nat) (x : TA.Obj) (sl : List Nat → List TA.Slot), writeObject c o = .ok text ∧
      ObjSyn T x sl text ∧
      (∀ (D : List Nat → Prop) (st : TA.DState), StOK base c.pm D st → (∀ l ∈ usedOfObject c.pm o, D l) →
        TA.dObj C.resolve none st x = some (o.map (fun b => TA.B.lbl (c.label b)), [], st)) := by
  obtain ⟨text, htext, hform⟩ := writeObject_form S.writeIRI_isOk ho
  refine ⟨text, ?_⟩
  cases hform with
  | bnode b =>
    have hl := S.lbl.ok b
    refine ⟨.bn (c.label b), fun t => [tokSlot [] t], htext, ?_, fun _ _ _ _ => rfl⟩
    refine ⟨?_, rfl, fun _ => rfl, fun t => noGlue_tok _ t, ?_⟩
    · simp only [C08.objWf, C08.labelWf, scalarsB_of hl.2, hl.1, Bool.and_self]
    · intro ch i t rest ht hne hag
      simp only [TA.pObj, TA.pBNode]
      rw [agree_one hag, after_ws _ _ t ht hne rfl]
      simp
  | iri hv hw =>
    obtain ⟨x, cs, hwf, hnb, hpr, hden⟩ := iri_obj_syn S hC tp _ hv _ hw
    refine ⟨.iri x, fun t => [tokSlot cs t], htext, ?_, ?_⟩
    · refine ⟨hwf, hnb, fun _ => rfl, fun t => noGlue_tok _ t, ?_⟩
      intro ch i t rest ht hne hag
      simp only [TA.pObj]
      exact hpr ch i t rest ht hne (agree_one hag)
    · intro D st hst hD
      simp only [TA.dObj, hden D st hst hD, Option.map_some, Term.map]
  | bool hsh =>
    obtain ⟨bv, rfl⟩ : ∃ bv : Bool, text = TA.boolText bv := by
      rcases C02.shorthand_sound .eof xsdBoolean text [] hsh rfl with ⟨h, _⟩ | ⟨_, ⟨h, _⟩ | ⟨h, _⟩⟩
      · exact absurd rfl h
      · exact ⟨true, h⟩
      · exact ⟨false, h⟩
    refine ⟨.lit (.bool bv), fun t => [tokSlot [] t], htext, ?_, ?_⟩
    · refine ⟨rfl, rfl, fun _ => rfl, fun t => noGlue_tok _ t, ?_⟩
      intro ch i t rest ht hne hag
      simp only [TA.pObj, TA.pLit]
      rw [agree_one hag, after_ws _ _ t ht hne rfl]
    · intro D st _ _
      cases bv <;> rfl
  | @num _ dt hsh hb =>
    have hbare : bareLiteralDatatype text = some dt := by simpa [literalShorthand] using hsh
    refine ⟨.lit (.num text), fun t => [tokSlot [] t], htext, ?_, ?_⟩
    · refine ⟨?_, rfl, fun _ => rfl, fun t => noGlue_tok _ t, ?_⟩
      · simp only [C08.objWf, C08.litWf, hbare]
        simpa using hb
      · intro ch i t rest ht hne hag
        simp only [TA.pObj, TA.pLit]
        rw [agree_one hag, after_ws _ _ t ht hne rfl]
    · intro D st _ _
      simp only [TA.dObj, TA.litOf, hbare, hb, ↓reduceIte, Option.map_some, Term.map]
  | @lang lex tag hlex htag =>
    obtain ⟨cs, hcs⟩ := tp.str lex
    refine ⟨.lit (.lang lex tag), fun t => [tokSlot cs t], htext, ?_, fun _ _ _ _ => rfl⟩
    refine ⟨?_, rfl, fun _ => rfl, fun t => noGlue_tok _ t, ?_⟩
    · simp only [C08.objWf, C08.litWf, scalarsB_of hlex, htag, Bool.and_self]
    · intro ch i t rest ht hne hag
      simp only [TA.pObj, TA.pLit]
      rw [agree_one hag, after_ws _ _ t ht hne rfl]
      simp only [tokSlot, hcs, S.cT, List.append_assoc, List.cons_append]
  | @plain lex hlex =>
    obtain ⟨cs, hcs⟩ := tp.str lex
    refine ⟨.lit (.plain lex), fun t => [tokSlot cs t], htext, ?_, fun _ _ _ _ => rfl⟩
    refine ⟨?_, rfl, fun _ => rfl, fun t => noGlue_tok _ t, ?_⟩
    · simp only [C08.objWf, C08.litWf, scalarsB_of hlex]
    · intro ch i t rest ht hne hag
      simp only [TA.pObj, TA.pLit]
      rw [agree_one hag, after_ws _ _ t ht hne rfl]
      simp only [tokSlot, hcs, S.cT]
  | @typed lex dt d hlex hnl hnd hdt hd hused =>
    obtain ⟨cs, hcs⟩ := tp.str lex
    obtain ⟨x, cs2, hwf, _, hpr, hden⟩ := iri_obj_syn S hC tp dt hdt d hd
    refine ⟨.lit (.typed lex x), fun t => [tokSlot cs [], tokSlot cs2 t], htext, ?_, ?_⟩
    · refine ⟨?_, rfl, fun _ => rfl, ?_, ?_⟩
      · simp only [C08.objWf, C08.litWf, scalarsB_of hlex, hwf, Bool.and_self]
      · intro t s hs
        simp only [List.mem_cons, List.mem_nil_iff, or_false] at hs
        rcases hs with rfl | rfl <;> rfl
      · intro ch i t rest ht hne hag
        obtain ⟨h1, h2⟩ := agree_two hag
        simp only [TA.pObj, TA.pLit]
        rw [h1, hpr ch (i + 1) t rest ht hne h2]
        simp only [tokSlot, hcs, S.cT, List.append_assoc, List.cons_append]
    · intro D st hst hD
      rw [hused] at hD
      simp only [TA.dObj, TA.litOf, hden D st hst hD, hnl, hnd, or_self, ↓reduceIte, Option.map_some, Term.map]

theorem predicate_syn (S : Setup C T c base) (hC : NestCfgOK C T) (tp : TokPrint T) (p : List Nat)
    (hp : iriTermOK c base p) :
    ∃ (text : List Nat) (v : TA.Verb) (cs : List Choice), writePredicate c p = .ok text ∧
      C08.verbWf T v = true ∧
      (∀ (ch : TA.Choices) (i : Nat) (t rest : List Nat), WS t → t ≠ [] → ch.at i = tokSlot cs t →
        TA.pVerb ⟨T, ch⟩ i v rest = text ++ (t ++ rest)) ∧
      (∀ (D : List Nat → Prop) (st : TA.DState), StOK base c.pm D st → (∀ l ∈ usedOfPredicate c.pm p, D l) →
        TA.verbOf C.resolve st v = some (.iri p)) := by
  by_cases ha : p = TtlEnc.rdfType
  · refine ⟨[0x61], .a, [], by simp [writePredicate, ha], rfl, ?_, ?_⟩
    · intro ch i t rest ht hne hat
      simp only [TA.pVerb]
      rw [hat, afterKw_ws _ _ t ht hne rfl rfl]
      rfl
    · intro D st _ _
      rw [ha]
      rfl
  · obtain ⟨text, htext⟩ := S.writeIRI_isOk p hp
    obtain ⟨x, cs, hwf, _, hpr, hden⟩ := iri_obj_syn S hC tp p hp text htext
    refine ⟨text, .iri x, cs, by simp [writePredicate, ha, htext], hwf, ?_, ?_⟩
    · intro ch i t rest ht hne hat
      simp only [TA.pVerb]
      exact hpr ch i t rest ht hne hat
    · intro D st hst hD
      have hD' : ∀ l ∈ usedOfIRI c.pm p, D l := by
        intro l hl
        exact hD l (by simp [usedOfPredicate, ha, hl])
      simp only [TA.verbOf, hden D st hst hD', Option.map_some]

theorem subject_syn (S : Setup C T c base) (hC : NestCfgOK C T) (tp : TokPrint T) (s : Term β)
    (hs : subjectOK c base s) :
    ∃ (text : List Nat) (x : TA.Subj) (cs : List Choice), writeSubject c s = .ok text ∧
      C08.subjWf T x = true ∧ C08.subjNoBoolPfx x = true ∧ TA.subjSlots x = 1 ∧
      (∀ (ch : TA.Choices) (i : Nat) (t rest : List Nat), WS t → t ≠ [] → ch.at i = tokSlot cs t →
        TA.pSubj ⟨T, ch⟩ i x rest = text ++ (t ++ rest)) ∧
      (∀ (D : List Nat → Prop) (st : TA.DState), StOK base c.pm D st → (∀ l ∈ usedOfSubject c.pm s, D l) →
        TA.dSubj C.resolve none st x = some (s.map (fun b => TA.B.lbl (c.label b)), [], st)) := by
  cases s with
  | lit _ _ _ => exact absurd hs (by simp [subjectOK])
  | bnode b =>
    have hl := S.lbl.ok b
    refine ⟨0x5f :: 0x3a :: c.label b, .bn (c.label b), [], rfl, ?_, rfl, rfl, ?_, ?_⟩
    · simp only [C08.subjWf, C08.labelWf, scalarsB_of hl.2, hl.1, Bool.and_self]
    · intro ch i t rest ht hne hat
      simp only [TA.pSubj, TA.pObj, TA.pBNode]
      rw [hat, after_ws _ _ t ht hne rfl]
      simp
    · intro D st _ _
      rfl
  | iri v =>
    obtain ⟨text, htext⟩ := S.writeIRI_isOk v hs
    obtain ⟨x, cs, hwf, _, hpr, hden⟩ := iri_obj_syn S hC tp v hs text htext
    refine ⟨text, .iri x, cs, htext, hwf, rfl, rfl, ?_, ?_⟩
    · intro ch i t rest ht hne hat
      simp only [TA.pSubj, TA.pObj]
      exact hpr ch i t rest ht hne hat
    · intro D st hst hD
      simp only [TA.dSubj, TA.dObj, hden D st hst hD, Option.map_some, Term.map]

end Terms

end RdfModel.Proofs.C02Doc
