import RdfModel.Proofs.C12WrapResolveRef
namespace RdfModel.C12W
open RdfModel.GoUrlFull RdfModel.PIRI
open RdfModel.Spec.RFC3986 (Parts recompose NoDotSegments)

theorem resolve_abs_core (pb pr : ParsedIRI) (h1 : pr.u.scheme ≠ [])
    (h2 : setPathIgnore pr.u (RdfModel.IRI.resolvePath (pathOf pr.u) []) = pr.u) (h3 : pb.forceFragment = false) :
    pb.resolveReference pr = .ok pr := by
  unfold ParsedIRI.resolveReference
  simp only [isEmpty_false_of_ne h1, Bool.false_eq_true, if_false, Bool.not_false, Bool.true_or, if_true, h2, h3,
    Bool.false_or]

theorem setPathIgnore_fix (u : URL) (p : Str) (hu : unescape .path p = .ok u.path)
    (hr : u.rawPath = (if escape .path u.path = p then [] else p)) (hv : validEncoded .path p = true)
    (hstar : p ≠ pctStar) (hres : RdfModel.IRI.resolvePath p [] = p) :
    setPathIgnore u (RdfModel.IRI.resolvePath (pathOf u) []) = u := by
  obtain ⟨hset, hesc⟩ := setPath_spec u p u.path hu hv hstar
  have heta : ({ u with path := u.path, rawPath := if escape .path u.path = p then [] else p } : URL) = u := by
    cases u; simp_all
  rw [heta] at hset hesc
  have hpo : pathOf u = p := by
    unfold pathOf
    by_cases he : escape .path u.path = p
    · rw [if_pos he] at hr
      rw [hr]
      simp only [List.isEmpty_nil, Bool.not_true, Bool.false_eq_true, if_false]
      exact hesc
    · rw [if_neg he] at hr
      have hne : p ≠ [] := by
        intro e; subst e
        have hp0 : u.path = [] := by
          have : unescape .path ([] : Str) = .ok [] := rfl
          rw [this] at hu
          injection hu with hu
          exact hu.symm
        apply he
        rw [hp0]; rfl
      simp [hr, isEmpty_false_of_ne hne]
  rw [hpo, hres]
  simp [setPathIgnore, hset]

theorem resolvePath_self {p : Str} (hp : p = [] ∨ p.head? = some 0x2f) (hnd : C12.hasDotSegment p = false)
    (hdd : C12.dotdotThenEmpty p = false) : RdfModel.IRI.resolvePath p [] = p := by
  rcases hp with hp | hp
  · subst hp; decide
  · have hfull : C12.rfcFull p [] = p := by simp [C12.rfcFull]
    have := C12.resolvePath_eq_rfc_partial p [] hp (by rw [hfull]; exact hdd)
    rw [this, hfull]
    exact C12.rds_fixes_dot_free _ (Proofs.C12.noDot_of_hasDotSegment hnd)

/-- the conjuncts of `AbsLang`, by name -/
structure AbsFacts (B R : Parts) : Prop where
  inB : InLang B = true
  inR : InLang R = true
  rs : R.scheme.isSome = true
  bf : (B.fragment == some []) = false
  nd : C12.hasDotSegment R.path = false
  dd : C12.dotdotThenEmpty R.path = false

theorem absFacts {B R : Parts} (h : AbsLang B R = true) : AbsFacts B R := by
  unfold AbsLang at h
  simp only [Bool.and_eq_true, Bool.not_eq_true'] at h
  obtain ⟨⟨⟨⟨⟨h1, h2⟩, h3⟩, h4⟩, h5⟩, h6⟩ := h
  exact ⟨h1, h2, h3, h4, h5, h6⟩

theorem urlOf_path (P : Parts) : (urlOf P).path = (urlNoFrag P).path ∧ (urlOf P).rawPath = (urlNoFrag P).rawPath ∧
    (urlOf P).scheme = (urlNoFrag P).scheme := by
  rw [urlOf_eq]; exact ⟨rfl, rfl, rfl⟩

theorem unescape_unescD {mode : Mode} {s : Str} (h : unescOk mode s = true) : unescape mode s = .ok (unescD mode s) := by
  obtain ⟨r, hr⟩ := unescOk_elim h
  simp [unescD, hr]

theorem resolve_abs_pOf {B R : Parts} (h : AbsFacts B R) : (pOf B).resolveReference (pOf R) = .ok (pOf R) := by
  have fr := langFacts h.inR
  obtain ⟨sch, hsch⟩ := Option.isSome_iff_exists.mp h.rs
  have hschOk : schemeOk sch = true := by have := fr.sch; rw [hsch] at this; exact this
  have hsne := schemeOk_ne_nil hschOk
  have hne : preOf R ≠ [0x2a] := preOf_ne_star_scheme hsch hsne
  have hpok := fr.path
  unfold pathOk at hpok
  simp only [Bool.and_eq_true] at hpok
  obtain ⟨hv, huo⟩ := hpok
  have hunesc := unescape_unescD huo
  obtain ⟨e1, e2, e3⟩ := urlOf_path R
  have hshape := fr.shape
  unfold shapeOk at hshape
  apply resolve_abs_core
  · show (urlOf R).scheme ≠ []
    rw [e3]
    cases ha : R.authority with
    | some a => rw [urlNoFrag_auth hne ha, hsch]; exact hsne
    | none =>
      by_cases hh : R.path.head? = some 0x2f
      · rw [urlNoFrag_path hne ha (Or.inr hh), hsch]; exact hsne
      · rw [urlNoFrag_opaque hne ha hsch hh]; exact hsne
  · show setPathIgnore (urlOf R) (RdfModel.IRI.resolvePath (pathOf (urlOf R)) []) = urlOf R
    cases ha : R.authority with
    | some a =>
      rw [ha] at hshape
      simp only [Bool.or_eq_true, List.isEmpty_iff, beq_iff_eq] at hshape
      have hstar : R.path ≠ pctStar := by
        rcases hshape with e | e
        · rw [e]; decide
        · intro e'; rw [e'] at e; cases e
      apply setPathIgnore_fix (urlOf R) R.path
      · rw [e1, urlNoFrag_auth hne ha]; exact hunesc
      · rw [e1, e2, urlNoFrag_auth hne ha]; rfl
      · exact hv
      · exact hstar
      · exact resolvePath_self hshape h.nd h.dd
    | none =>
      by_cases hh : R.path.head? = some 0x2f
      · have hstar : R.path ≠ pctStar := by intro e'; rw [e'] at hh; cases hh
        apply setPathIgnore_fix (urlOf R) R.path
        · rw [e1, urlNoFrag_path hne ha (Or.inr hh)]; exact hunesc
        · rw [e1, e2, urlNoFrag_path hne ha (Or.inr hh)]; rfl
        · exact hv
        · exact hstar
        · exact resolvePath_self (Or.inr hh) h.nd h.dd
      · apply setPathIgnore_fix (urlOf R) []
        · rw [e1, urlNoFrag_opaque hne ha hsch hh]; rfl
        · rw [e1, e2, urlNoFrag_opaque hne ha hsch hh]; rfl
        · rfl
        · decide
        · decide
  · exact h.bf

end RdfModel.C12W
