import RdfModel.Spec.JsonLdWriter
import RdfModel.Props.C10Defs
import RdfModel.Proofs.C10Strings
namespace RdfModel.Proofs.C10
open RdfModel RdfModel.Desc RdfModel.JL RdfModel.C10

theorem expandIri_abs_of (c : Ctx) (vocab docRel : Bool) {v : Str} (h : absIri v = true)
    (hv : c.term? v = none)
    (hs : ∀ s rest, splitColon v = some (s, rest) → rest.take 2 = [cSlash, cSlash] ∨ c.term? s = none) :
    expandIri c vocab docRel v = .iri v := by
  obtain ⟨a, rest, s, rfl, ha, hsp, hsch⟩ := absIri_shape h
  have hcol : colonAfterFirst (a :: (rest ++ cColon :: s)) = true := by simp [colonAfterFirst]
  have hne : (a :: rest) ≠ [cUnderscore] := by
    intro e; simp only [List.cons.injEq] at e; exact alpha_ne_underscore ha e.1
  have hvt : (if vocab = true then c.term? (a :: (rest ++ cColon :: s)) else none) = none := by
    split
    · exact hv
    · rfl
  unfold expandIri
  rw [isKeyword_alpha ha, isKeywordForm_alpha ha]
  simp only [Bool.false_eq_true, if_false, hvt, hcol, if_true, hsp, hne]
  rcases hs _ _ hsp with h2 | h2
  · simp [h2]
  · by_cases h3 : s.take 2 = [cSlash, cSlash]
    · simp [h3]
    · simp [h3, h2, hsch]

theorem term?_none (c : Ctx) (hc : c.terms = []) (k : Str) : c.term? k = none := by simp [Ctx.term?, hc]

theorem expandIri_abs (c : Ctx) (hc : c.terms = []) (vocab docRel : Bool) {v : Str} (h : absIri v = true) :
    expandIri c vocab docRel v = .iri v :=
  expandIri_abs_of c vocab docRel h (term?_none c hc v) fun s _ _ => Or.inr (term?_none c hc s)

theorem expandIri_bnode (c : Ctx) (vocab docRel : Bool) (l : Str)
    (hv : vocab = true → c.term? (cUnderscore :: cColon :: l) = none) :
    expandIri c vocab docRel (cUnderscore :: cColon :: l) = .bnode l := by
  have hk : isKeyword (cUnderscore :: cColon :: l) = false := isKeyword_of_head (by simp [cUnderscore, cAt])
  have hf : isKeywordForm (cUnderscore :: cColon :: l) = false := isKeywordForm_of_head (by simp [cUnderscore, cAt])
  have hcol : colonAfterFirst (cUnderscore :: cColon :: l) = true := by simp [colonAfterFirst]
  have hsp : splitColon (cUnderscore :: cColon :: l) = some ([cUnderscore], l) := by
    simp [splitColon, cUnderscore, cColon]
  have hvt : (if vocab = true then c.term? (cUnderscore :: cColon :: l) else none) = none := by
    split
    · exact hv ‹_›
    · rfl
  unfold expandIri
  simp [hk, hf, hvt, hcol, hsp]

variable {β : Type}

theorem evalId_flat (name : β → Str) (hne : ∀ b, name b ≠ []) (c : Ctx) (hc : c.terms = []) {t : Term β}
    (h : wfNode t = true) (n : Nat) :
    evalId c (some (.str (flatId name t))) n = some (outTerm name t, n) := by
  cases t with
  | iri v =>
    simp only [wfNode] at h
    simp [evalId, flatId, expandIri_abs c hc false true h, nodeRef, h, outTerm, Term.map]
  | bnode b =>
    simp [evalId, flatId, bnodeId, expandIri_bnode c false true (name b) nofun, nodeRef, outTerm, Term.map, hne b]
  | lit l d g => simp [wfNode] at h

theorem classifyKey_of_expand (c : Ctx) {k p : Str} (hhead : k.head? ≠ some cAt) (hterm : c.term? k = none)
    (hexp : expandIri c true false k = .iri p) (habs : absIri p = true) :
    classifyKey c k = .prop p TermDef.plain := by
  have hne : ∀ q : Str, q.head? = some cAt → k ≠ q := fun q hq => ne_of_head hq hhead
  have hpc : cColon ∈ p := by simpa using contains_colon_of_abs habs
  unfold classifyKey
  rw [if_neg (hne _ kw_head.1), if_neg (hne _ kw_head.2.1), if_neg (hne _ kw_head.2.2.1),
    if_neg (hne _ kw_head.2.2.2), isKeyword_of_head hhead, isKeywordForm_of_head hhead]
  simp [hexp, habs, hterm, hpc]

theorem classifyKey_abs (c : Ctx) (hc : c.terms = []) {p : Str} (h : absIri p = true) :
    classifyKey c p = .prop p TermDef.plain :=
  classifyKey_of_expand c (head_of_abs h) (term?_none c hc p) (expandIri_abs c hc true false h) h

theorem classifyKey_id (c : Ctx) : classifyKey c kId = .id := by
  simp [classifyKey, asc_consts]

theorem classifyKey_type (c : Ctx) : classifyKey c kType = .type := by
  simp [classifyKey, asc_consts]

theorem classifyKey_graph (c : Ctx) : classifyKey c kGraph = .graph := by
  simp [classifyKey, asc_consts]

theorem nodeHead_flat (name : β → Str) (hne : ∀ b, name b ≠ []) (c : Ctx) (hc : c.terms = []) {t : Term β} (h : wfNode t = true)
    (k : Str) (hk : k ≠ kContext) (v : Json) (n : Nat) :
    nodeHead c false [(kId, .str (flatId name t)), (k, v)] n = some (c, outTerm name t, n, false) := by
  have h1 : getKey kContext [(kId, Json.str (flatId name t)), (k, v)] = none := by
    simp +decide [getKey, hk]
  have h2 : getKey kId [(kId, Json.str (flatId name t)), (k, v)] = some (.str (flatId name t)) := by
    simp [getKey]
  simp [nodeHead, h1, h2, evalId_flat name hne c hc h n]

/- The equation lemmas of the mutual block of Spec/JsonLdFragment are cited by number, in the order of
   its clauses. `evalItem.eq_3`: `{k: [..]}`; `eq_4`: `{k: x}` with `x` no array; `eq_5`: an object that
   is no singleton; `eq_6`: a scalar. `evalMembers.eq_2` / `eq_3` / `eq_4`: the value of the first
   member is an array / an object / neither. `evalNodes.eq_2`: the first item is an object. A clause
   after an overlapping one has side conditions "not of the earlier forms", given as `by intro …; cases e`. -/

theorem evalItem_typedValue (c : Ctx) (td : TermDef) (g : Option T) (s : T) (p x t d : Str) (n : Nat)
    (he : expandIri c true true t = .iri d) (ha : absIri d = true) :
    evalItem c td g s p (.obj [(kValue, .str x), (kType, .str t)]) n = some ([quad s p (.lit x d none) g], n) := by
  rw [evalItem.eq_5 _ _ _ _ _ _ _ (by intro k xs e; cases e) (by intro k x e; cases e)]
  simp [hasKey, valueObjQuads, evalValueObj, getKey, asc_consts, he, ha]

theorem evalItem_langValue (c : Ctx) (td : TermDef) (g : Option T) (s : T) (p x l : Str) (n : Nat)
    (hl : langOK l = true) :
    evalItem c td g s p (.obj [(kValue, .str x), (kLanguage, .str l)]) n =
      some ([quad s p (.lit x rdfLangString (some l)) g], n) := by
  rw [evalItem.eq_5 _ _ _ _ _ _ _ (by intro k xs e; cases e) (by intro k x e; cases e)]
  simp [hasKey, valueObjQuads, evalValueObj, getKey, asc_consts, hl]

theorem evalItem_idObj (c : Ctx) (g : Option T) (s : T) (p t : Str) (o : T) (n : Nat)
    (h : nodeRef (expandIri c false true t) = some o) :
    evalItem c TermDef.plain g s p (.obj [(kId, .str t)]) n = some ([quad s p o g], n) := by
  have hh : nodeHead c false [(kId, .str t)] n = some (c, o, n, false) := by
    simp [nodeHead, getKey, asc_consts, evalId, h]
  rw [evalItem.eq_4 _ _ _ _ _ _ _ _ (by intro xs e; cases e)]
  rw [if_neg (by simp [asc_consts] : kId ≠ kValue), if_neg (by simp [asc_consts] : kId ≠ kList),
    if_neg (by simp [asc_consts] : kId ≠ kSet), hh]
  simp [evalMembers, classifyKey_id, andThen]

theorem evalItem_flatObj (name : β → Str) (hne : ∀ b, name b ≠ []) (c : Ctx) (hc : c.terms = []) (g : Option T) (s : T) (p : Str)
    {o : Term β} (h : wfObj o = true) (n : Nat) :
    evalItem c TermDef.plain g s p (flatObj name o) n = some ([quad s p (outTerm name o) g], n) := by
  have hid : ∀ t : Term β, wfNode t = true → nodeRef (expandIri c false true (flatId name t)) = some (outTerm name t) :=
    fun t ht => by simpa [evalId] using evalId_flat name hne c hc ht n
  cases o with
  | iri v => exact evalItem_idObj c g s p _ _ n (hid (.iri v) (by simpa [wfObj, wfNode] using h))
  | bnode b => exact evalItem_idObj c g s p _ _ n (hid (.bnode b) rfl)
  | lit lex dt lang =>
    cases lang with
    | none => exact evalItem_typedValue c _ g s p lex dt dt n (expandIri_abs c hc true true h) h
    | some l =>
      simp only [wfObj, Bool.and_eq_true, beq_iff_eq] at h
      obtain ⟨rfl, hl⟩ := h
      exact evalItem_langValue c _ g s p lex l n hl

theorem evalMembers_flatNode (name : β → Str) (hne : ∀ b, name b ≠ []) (c : Ctx) (hc : c.terms = []) (g : Option T) {t : Triple β}
    (hp : absIri t.p = true) (ho : wfObj t.o = true) (n : Nat) :
    evalMembers c g (outTerm name t.s) false [(kId, .str (flatId name t.s)), (t.p, .arr [flatObj name t.o])] n =
      some ([quad (outTerm name t.s) t.p (outTerm name t.o) g], n) := by
  have hplain : (TermDef.plain.cont = Container.list) = False := by simp [TermDef.plain]
  simp [evalMembers, classifyKey_id, classifyKey_abs c hc hp, andThen, evalItems, hplain,
    evalItem_flatObj name hne c hc g (outTerm name t.s) t.p ho n]

theorem evalNodes_flatNode (name : β → Str) (hne : ∀ b, name b ≠ []) (c : Ctx) (hc : c.terms = []) (g : Option T) {t : Triple β}
    (hs : wfNode t.s = true) (hp : absIri t.p = true) (ho : wfObj t.o = true) (rest : List Json) (n : Nat) :
    evalNodes c g (flatNode name t :: rest) n =
      andThen (some ([quad (outTerm name t.s) t.p (outTerm name t.o) g], n)) (fun n1 => evalNodes c g rest n1) := by
  rw [flatNode, evalNodes,
    nodeHead_flat name hne c hc hs t.p (abs_ne_keyword hp kw_head.1) _ n]
  simp only [evalMembers_flatNode name hne c hc g hp ho n]

def outQuad (name : β → Str) (q : DQuad β) : Q := DQuad.map (fun b => BN.orig (name b)) q

theorem flatObj_wf (name : β → Str) (o : Term β) : (flatObj name o).wf = true := by
  cases o with
  | iri v => simp +decide [flatObj, Json.wf, wfMembers]
  | bnode b => simp +decide [flatObj, Json.wf, wfMembers]
  | lit lex dt lang => cases lang <;> simp +decide [flatObj, Json.wf, wfMembers]

theorem flatNode_wf (name : β → Str) {t : Triple β} (hp : absIri t.p = true) : (flatNode name t).wf = true := by
  have : kId ≠ t.p := fun e => abs_ne_keyword hp kw_head.2.1 e.symm
  simp [flatNode, Json.wf, wfMembers, wfList, flatObj_wf, this]

theorem flatEntry_spec (name : β → Str) (hne : ∀ b, name b ≠ []) (c : Ctx) (hc : c.terms = []) {q : DQuad β} (h : wfQuad q = true)
    (rest : List Json) (n : Nat) :
    (flatEntry name q).wf = true ∧ evalNodes c none (flatEntry name q :: rest) n =
      andThen (some ([outQuad name q], n)) (fun n1 => evalNodes c none rest n1) := by
  obtain ⟨t, g⟩ := q
  simp only [wfQuad, Bool.and_eq_true] at h
  obtain ⟨⟨⟨hs, hp⟩, ho⟩, hg⟩ := h
  have hw := flatNode_wf name (t := t) hp
  cases g with
  | none =>
    simp only [flatEntry]
    rw [evalNodes_flatNode name hne c hc none hs hp ho rest n]
    exact ⟨hw, rfl⟩
  | some gt =>
    refine ⟨by simp +decide [flatEntry, Json.wf, wfMembers, wfList, hw], ?_⟩
    simp only [flatEntry]
    rw [evalNodes, nodeHead_flat name hne c hc hg kGraph (by simp [asc_consts]) _ n]
    have h1 := evalNodes_flatNode name hne c hc (some (outTerm name gt)) hs hp ho [] n
    simp only [evalNodes, andThen, List.append_nil] at h1
    have h1' : evalNodes c (some (Term.map (fun b => BN.orig (name b)) gt)) [flatNode name t] n =
        some ([quad (outTerm name t.s) t.p (outTerm name t.o) (some (outTerm name gt))], n) := h1
    simp [evalMembers, classifyKey_id, classifyKey_graph, andThen, h1', outQuad, DQuad.map, Triple.map, quad, outTerm]

theorem flat_spec (name : β → Str) (hne : ∀ b, name b ≠ []) (c : Ctx) (hc : c.terms = []) :
    ∀ (d : List (DQuad β)) (n : Nat), WFDataset d →
      wfList (d.map (flatEntry name)) = true ∧ evalNodes c none (d.map (flatEntry name)) n = some (d.map (outQuad name), n) := by
  intro d
  induction d with
  | nil => intro n _; simp [evalNodes, wfList]
  | cons q d ih =>
    intro n h
    obtain ⟨hw, he⟩ := flatEntry_spec name hne c hc (h q (by simp)) (d.map (flatEntry name)) n
    obtain ⟨iw, ie⟩ := ih n fun q' hq' => h q' (by simp [hq'])
    simp only [List.map_cons]
    rw [he, andThen, ie]
    simp [wfList, hw, iw]

theorem writeFlat_denotes (name : β → Str) (hne : ∀ b, name b ≠ []) (mode11 : Bool) (base : Option Str) (d : List (DQuad β)) (h : WFDataset d) :
    toRdf mode11 base (writeFlat name d) = some (d.map (outQuad name)) := by
  obtain ⟨hw, he⟩ := flat_spec name hne (Ctx.initial mode11 base) rfl d 0 h
  have hwf : (writeFlat name d).wf = true := by simpa [writeFlat, Json.wf] using hw
  unfold toRdf
  rw [hwf]
  simp only [Bool.not_true, Bool.false_eq_true, if_false, writeFlat]
  rw [he]
  rfl

end RdfModel.Proofs.C10
