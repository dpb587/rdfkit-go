import RdfModel.Proofs.C20FloatParse
namespace RdfModel.Proofs.C20F
open RdfModel RdfModel.Xsd
open RdfModel.Proofs.C20 (isDigit_eq)
open RdfModel.Spec.Xsd (unsignedNumeral dropSign digits1 doubleLexOK decimalLexOK bNaN bINF signSplit)


theorem parseFloat_NaN (bits : Nat) : parseFloat bNaN bits = .ok .nan := by
  unfold parseFloat; rfl

theorem parseFloat_INF (bits : Nat) : parseFloat bINF bits = .ok (.inf false) := by
  unfold parseFloat; rfl

theorem parseFloat_pINF (bits : Nat) : parseFloat (0x2B :: bINF) bits = .ok (.inf false) := by
  unfold parseFloat; rfl

theorem parseFloat_mINF (bits : Nat) : parseFloat (0x2D :: bINF) bits = .ok (.inf true) := by
  unfold parseFloat; rfl

theorem dropSign_INF {a : Bytes} (h : dropSign a = bINF) :
    a = bINF ∨ a = 0x2B :: bINF ∨ a = 0x2D :: bINF := by
  cases a with
  | nil => simp [dropSign, bINF] at h
  | cons b r =>
    simp only [dropSign] at h
    split at h
    · next hb => subst h; rcases hb with rfl | rfl <;> simp
    · exact Or.inl h

theorem rfExp_digits (ds : Bytes) (hd : ∀ c ∈ ds, Spec.Xsd.isDigit c = true) :
    ∀ e us, ∃ ev, rfExp e us ds = (ev, us, []) := by
  induction ds with
  | nil => intro e us; exact ⟨e, by simp [rfExp]⟩
  | cons c r ih =>
    intro e us
    have hc := hd c List.mem_cons_self
    have hc' := (C20.isDigit_iff c).1 hc
    have h1 : c ≠ 0x5F := by omega
    obtain ⟨ev, hev⟩ := ih (fun x hx => hd x (List.mem_cons_of_mem _ hx))
      (if e < 10000 then e * 10 + (c - 0x30) else e) us
    refine ⟨ev, ?_⟩
    rw [rfExp]
    simp only [h1, if_false, isDigit_eq, hc, if_true]
    exact hev

theorem exponent_shape {r : Bytes} (h : digits1 (dropSign r) = true) :
    ∃ (sg : Nat) (r3 : Bytes) (es : Int) (d : Nat) (t : Bytes), r = sg :: r3 ∧
      (if sg = 0x2B then ((1 : Int), r3) else if sg = 0x2D then (-1, r3) else (1, sg :: r3)) = (es, d :: t) ∧
      (∀ c ∈ d :: t, Spec.Xsd.isDigit c = true) := by
  obtain ⟨hne, hall⟩ := (C20.digits1_iff _).1 h
  rw [List.all_eq_true] at hall
  cases r with
  | nil => exact absurd rfl hne
  | cons sg r3 =>
    simp only [dropSign] at hne hall
    by_cases hs : sg = 0x2B ∨ sg = 0x2D
    · rw [if_pos hs] at hne hall
      obtain ⟨d, t, rfl⟩ := List.exists_cons_of_ne_nil hne
      rcases hs with rfl | rfl
      · exact ⟨_, _, 1, d, t, rfl, by simp, hall⟩
      · exact ⟨_, _, -1, d, t, rfl, by simp, hall⟩
    · rw [if_neg hs] at hne hall
      obtain ⟨h1, h2⟩ := not_or.mp hs
      exact ⟨sg, r3, 1, sg, r3, rfl, by simp [h1, h2], hall⟩

theorem readFloat_sci {a : Bytes} {e : Nat} {r : Bytes}
    (hn : unsignedNumeral (dropSign a) = some (e :: r)) (he : e = 0x45 ∨ e = 0x65)
    (hr : digits1 (dropSign r) = true) :
    special a = none ∧ ∃ neg m x nd, readFloat a = some (.fin neg m 10 x nd, a.length) := by
  have hsp : signSplit a = ((signSplit a).1, dropSign a) := by rw [← signSplit_snd]
  have ha : a ≠ [] := by
    intro h0; subst h0; simp [dropSign, unsignedNumeral, Spec.Xsd.spanDigits] at hn
  have hle : lower e = 0x65 := by rcases he with rfl | rfl <;> decide
  have hstop : ∀ st, rfLoop 10 st (e :: r) = (st, e :: r) := fun st => by
    rcases he with rfl | rfl <;> exact rfLoop_nondigit st _ r (by decide) (by decide) (by decide)
  obtain ⟨x, t0, hs, hx⟩ := numeral_head hn
  have hnohex := numeral_nohex hn (by
    intro e' r' h; cases h; rw [hle]; decide)
  obtain ⟨⟨n, k, _⟩, hv, rfl⟩ := Option.map_eq_some_iff.1 ((numeralVal_rest _).symm.trans hn)
  obtain ⟨st, hl, hd, hu, -, -⟩ := rfLoop_numeral hv hstop
  obtain ⟨sg, r3, es, d, t, rfl, h4, hall⟩ := exponent_shape hr
  obtain ⟨ev, hev⟩ := rfExp_digits (d :: t) hall 0 false
  have hdd : Xsd.isDigit d = true := by rw [isDigit_eq]; exact hall d List.mem_cons_self
  refine ⟨special_none hsp hs hx, ?_⟩
  rw [readFloat_dec hsp ha hnohex hl hd]
  simp [expPart, hu, hle, h4, hdd, hev]

/-- on the lexical space of xsd:double (and xsd:float) strconv.ParseFloat (the model) never reports a
    syntax error -/
theorem parseFloat_double {a : Bytes} (h : Spec.Xsd.doubleLexOK a = true) (bits : Nat) :
    (∃ v, parseFloat a bits = .ok v) ∨ parseFloat a bits = .error .range := by
  have fin : ∀ v, parseFloat a bits = (if overflows bits v = true then .error .range else .ok v) →
      (∃ v, parseFloat a bits = .ok v) ∨ parseFloat a bits = .error .range := by
    intro v hp
    rw [hp]
    by_cases ho : overflows bits v = true
    · rw [if_pos ho]; exact Or.inr rfl
    · rw [if_neg ho]; exact Or.inl ⟨_, rfl⟩
  unfold doubleLexOK at h
  split at h
  · next hnan => subst hnan; exact Or.inl ⟨_, parseFloat_NaN bits⟩
  · split at h
    · next hinf =>
      rcases dropSign_INF hinf with rfl | rfl | rfl
      · exact Or.inl ⟨_, parseFloat_INF bits⟩
      · exact Or.inl ⟨_, parseFloat_pINF bits⟩
      · exact Or.inl ⟨_, parseFloat_mINF bits⟩
    · split at h
      · next heq =>
        obtain ⟨⟨neg, n, k⟩, hdl⟩ := Option.isSome_iff_exists.1
          ((decimalLex_isSome a).trans (by unfold decimalLexOK; rw [heq]))
        obtain ⟨nd, hp⟩ := parseFloat_decimal hdl bits
        exact fin _ hp
      · next e r heq =>
        simp only [Bool.and_eq_true, decide_eq_true_eq] at h
        obtain ⟨hsn, neg, m, x, nd, hrf⟩ := readFloat_sci heq h.1 h.2
        exact fin _ (parseFloat_of_read hsn hrf bits)
      · simp at h

end RdfModel.Proofs.C20F
