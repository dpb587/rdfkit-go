import RdfModel.Proofs.Asc
namespace RdfModel.Proofs.C01
open RdfModel

theorem term_map_injective {β γ : Type} (f : β → γ) (hinj : Function.Injective f) :
    Function.Injective (Term.map f) := by
  intro a b h
  cases a <;> cases b <;> simp_all [Term.map]
  exact hinj h

theorem asc_scalar (s : String) : ∀ c ∈ asc s, IsScalar c := by
  intro c hc
  obtain ⟨ch, _, rfl⟩ := List.mem_map.1 hc
  have := ch.valid
  simp only [UInt32.isValidChar, Nat.isValidChar] at this
  unfold IsScalar Char.toNat
  omega

theorem asc_inRange (s : String) : ∀ c ∈ asc s, c ≤ 0x10FFFF := fun c hc => by
  have := asc_scalar s c hc
  unfold IsScalar at this
  omega

theorem xsd_ne_lang : xsdString ≠ rdfLangString := asc_ne (by decide)
theorem xsd_ne_dir : xsdString ≠ rdfDirLangString := asc_ne (by decide)
theorem lang_ne_dir : rdfLangString ≠ rdfDirLangString := asc_ne (by decide)
theorem xsd_ne_nil : xsdString ≠ [] := asc_ne_nil (by decide)
theorem lang_ne_nil : rdfLangString ≠ [] := asc_ne_nil (by decide)
theorem dir_ne_nil : rdfDirLangString ≠ [] := asc_ne_nil (by decide)

end RdfModel.Proofs.C01
