/-
  The Microdata decoder model against `Spec.Microdata.denote` on item-list documents (no itemref, no nesting, canonical
  property elements): an instance of the walk over
  nested items (Proofs/C11MdNested.decode_swP).  On such a document the streaming order IS the item-by-item order of the
  denotation, and `Nested.rank` is the renaming `sigmaL`; no hypothesis on the mappers, because no element is a meter or
  a time, and none on the items' own itemprop, because no item lies inside another.
-/
import RdfModel.Proofs.C11MdNested
import RdfModel.Proofs.C11MdItems
namespace RdfModel.Mdd.Typed
open RdfModel RdfModel.Desc RdfModel.Spec.Html RdfModel.Spec.Microdata RdfModel.Mdd RdfModel.Mdd.Stream RdfModel.Mdd.Nested

section
variable {β : Type}

theorem leaves_walk (base : Str) (tm mm : List (Bytes → Option (Term Nat))) (cur : T × List Str) (here : Path) (k : Nat)
    (ts : List (Triple β)) (h : ∀ t ∈ ts, leafOk t ∧ LeafTok t) :
    elemOkKids tm mm true (ts.map canonLeaf) ∧ bnCountL (ts.map canonLeaf) = 0 ∧
    swPKids base (some cur) here k (ts.map canonLeaf) =
      ts.map (fun t => (⟨cur.1, predicate cur.2 t.p, valueOf base t.o⟩ : Tr)) := by
  induction ts generalizing k with
  | nil => simp [elemOkKids, bnCountL, swPKids]
  | cons t ts ih =>
    obtain ⟨i1, i2, i3⟩ := ih (k + 1) (fun x hx => h x (by simp [hx]))
    obtain ⟨hl, ht, _, _⟩ := h t (by simp)
    obtain ⟨s, p, o⟩ := t
    have hl1 : Spec.Html.fields p = [p] := hl.1
    have ht1 : Mdd.fields (trimSpace p) = [p] := ht
    cases o with
    | bnode b => exact absurd rfl (hl.2 b)
    | _ =>
      simp [canonLeaf, elemOkKids, elemOk, bnCountL, bnCount, selfBn, swPKids, swP, linkOf, names, uniq, value, valueOf,
        i1, i2, i3, ht1, hl1]

theorem items_walk (base : Str) (tm mm : List (Bytes → Option (Term Nat))) (here : Path) (k : Nat)
    (L : List (Attrs × List (Triple β))) (h : ∀ x ∈ L, itemOkT x ∧ ItemTok x) :
    elemOkKids tm mm false (L.map mkItem) ∧
    swPKids base none here k (L.map mkItem) = denoteRelKids base here k (L.map mkItem) := by
  induction L generalizing k with
  | nil => simp [elemOkKids, swPKids, denoteRelKids]
  | cons x xs ih =>
    obtain ⟨i1, i2⟩ := ih (k + 1) (fun y hy => h y (by simp [hy]))
    obtain ⟨⟨h1, _, h3⟩, ⟨h4, h5⟩⟩ := h x (by simp)
    obtain ⟨l1, _, l3⟩ := leaves_walk base tm mm (subject base x.1 (here ++ [k]), typesOf x.1) (here ++ [k]) 0 x.2
      (fun t ht => ⟨h3 t ht, h5 t ht⟩)
    obtain ⟨_, m2, m3⟩ := leaves_rel base (subject base x.1 (here ++ [k]), typesOf x.1) (here ++ [k]) 0 x.2 h3
    have hk : elemOk tm mm false (mkItem x) := by
      unfold mkItem elemOk
      exact ⟨nofun, h4, nofun, nofun, by rw [h1]; exact l1⟩
    refine ⟨by rw [List.map_cons]; unfold elemOkKids; exact ⟨hk, i1⟩, ?_⟩
    simp only [List.map_cons, swPKids, swP, denoteRelKids, denoteRel, mkItem, linkOf, h1, ↓reduceIte, l3, m2, m3, i2,
      List.nil_append, List.append_nil]

theorem rankKids_items (base : Str) (L : List (Attrs × List (Triple β))) (h : ∀ x ∈ L, itemOkT x ∧ ItemTok x) (j cnt : Nat)
    (hj : j < L.length) : cnt + rankKids (L.map mkItem) j [] = itemsCnt base cnt (L.take j) := by
  induction L generalizing j cnt with
  | nil => simp at hj
  | cons x xs ih =>
    cases j with
    | zero => simp [rankKids, rank_nil, itemsCnt]
    | succ j =>
      obtain ⟨⟨h1, _, h3⟩, ⟨_, h5⟩⟩ := h x (by simp)
      have hb := (leaves_walk base [] [] (Term.iri [], []) [] 0 x.2 (fun t ht => ⟨h3 t ht, h5 t ht⟩)).2.1
      simp only [List.map_cons, rankKids, List.take_succ_cons, itemsCnt, mkItem, bnCount, hb, Nat.add_zero]
      rw [← ih (fun y hy => h y (by simp [hy])) j _ (by simpa using hj), subjN_snd base x.1 cnt h1]
      omega

theorem rank_items (base : Str) (L : List (Attrs × List (Triple β))) (h : ∀ x ∈ L, itemOkT x ∧ ItemTok x) (j : Nat)
    (hj : j < L.length) : rank (docOf (L.map mkItem)) [1, j] = sigmaL base L [1, j] := by
  have := rankKids_items base L h j 0 hj
  simp only [Nat.zero_add] at this
  simp [docOf, rank, rankKids, bnCount, bnCountL, selfBn, sigmaL, this]

-- `[DecidableEq β]` is not used; the property theorem that ends in this one (Props/C11Md) has it in its statement
theorem decode_eq_denoteT [DecidableEq β] (base : Str) (tm mm : List (Bytes → Option (Term Nat)))
    (L : List (Attrs × List (Triple β))) (hL : ∀ x ∈ L, itemOkT x ∧ ItemTok x) :
    decode (specEnv base tm mm) (ofSpecDoc (docOf (L.map mkItem))) =
      .ok ((denote base (docOf (L.map mkItem))).map (Triple.map (sigmaL base L))) [] := by
  obtain ⟨e1, s1⟩ := items_walk base tm mm [1] 0 L hL
  obtain ⟨n1, _⟩ := items_rel_flat base [1] 0 L (fun x hx => (hL x hx).1)
  have hnr : noRef (docOf (L.map mkItem)) = true := by simp [docOf, noRef, noRefKids, n1]
  have hsw : swP base none [] (docOf (L.map mkItem)) = denote base (docOf (L.map mkItem)) := by
    rw [denote_eq_rel base _ hnr]
    simp [docOf, swP, swPKids, denoteRel, denoteRelKids, linkOf, s1]
  rw [decode_swP base tm mm _ hnr (by simp [docOf, elemOk, elemOkKids, e1]), hsw,
    denote_items base L (fun x hx => (hL x hx).1)]
  congr 1
  -- the two renamings agree where the denotation has blank nodes: at the item positions
  apply List.map_congr_left
  intro tr htr
  obtain ⟨⟨x, j⟩, hxj, htr⟩ := List.mem_flatMap.mp htr
  have hj : j < L.length := by have := List.mem_zipIdx hxj; omega
  have hx : x ∈ L := (List.mem_zipIdx hxj).2.2 ▸ List.getElem_mem _
  have e1 := subject_map base (rank (docOf (L.map mkItem))) x.1 [1, j] _ (hL x hx).2.1 (rank_items base L hL j hj)
  have e2 := subject_map base (sigmaL base L) x.1 [1, j] _ (hL x hx).2.1 rfl
  rcases List.mem_append.mp htr with htr | htr
  · obtain ⟨ty, _, rfl⟩ := List.mem_map.mp htr
    simp only [Triple.map, e1, e2]
    rfl
  · obtain ⟨t, ht, rfl⟩ := List.mem_map.mp htr
    simp only [Triple.map, e1, e2, valueOf_map base _ t.o ((hL x hx).2.2 t ht).2.2]

end
end RdfModel.Mdd.Typed
