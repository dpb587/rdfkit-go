import RdfModel.Model.Xsd
namespace RdfModel.Proofs.C20
open RdfModel RdfModel.Xsd
open RdfModel.Spec.Xsd (collapseGo collapse isWs WsState)

theorem trimRight_cons (b : Nat) (r : Bytes) :
    trimRight (b :: r) = if b = 0x20 ∧ trimRight r = [] then [] else b :: trimRight r := by
  rfl

theorem trimLeft_cons (b : Nat) (r : Bytes) :
    trimLeft (b :: r) = if b = 0x20 then trimLeft r else b :: r := rfl

/-- byte after the replacer -/
def rep (b : Nat) : Nat := if b = 0x9 ∨ b = 0xA ∨ b = 0xD then 0x20 else b

theorem wsReplace_cons (b : Nat) (r : Bytes) : wsReplace (b :: r) = rep b :: wsReplace r := by
  simp [wsReplace, rep]

theorem rep_ws {b : Nat} (h : isWs b = true) : rep b = 0x20 := by
  simp only [isWs, Bool.or_eq_true, beq_iff_eq] at h
  unfold rep
  rcases h with ((h | h) | h) | h <;> simp [h]

theorem rep_nws {b : Nat} (h : isWs b = false) : rep b = b ∧ b ≠ 0x20 := by
  simp only [isWs, Bool.or_eq_false_iff, beq_eq_false_iff_ne] at h
  obtain ⟨⟨⟨h1, h2⟩, h3⟩, h4⟩ := h
  exact ⟨by simp [rep, h2, h3, h4], h1⟩

/-- in a word (previous byte not a space) / after white space (a space has been emitted) -/
theorem collapse_mid (s : Bytes) :
    trimRight (collapseSpaces false (wsReplace s)) = collapseGo .inWord s ∧
    trimRight (0x20 :: collapseSpaces true (wsReplace s)) = collapseGo .pending s := by
  induction s with
  | nil => simp [wsReplace, collapseSpaces, trimRight, collapseGo]
  | cons b r ih =>
    obtain ⟨ih1, ih2⟩ := ih
    rw [wsReplace_cons]
    cases hb : isWs b with
    | true =>
      have h20 := rep_ws hb
      constructor
      · simp only [collapseSpaces, h20, collapseGo, hb, if_true]
        simpa using ih2
      · simp only [collapseSpaces, h20, collapseGo, hb, if_true]
        simpa using ih2
    | false =>
      obtain ⟨hr, hne⟩ := rep_nws hb
      constructor
      · simp only [collapseSpaces, hr, hne, collapseGo, hb, if_false]
        rw [trimRight_cons]
        simp [hne, ih1]
      · simp only [collapseSpaces, hr, hne, collapseGo, hb, if_false]
        rw [trimRight_cons, trimRight_cons]
        simp [hne, ih1]

/-- before the first word -/
theorem collapse_start (s : Bytes) :
    trimRight (trimLeft (collapseSpaces false (wsReplace s))) = collapseGo .start s ∧
    trimRight (trimLeft (collapseSpaces true (wsReplace s))) = collapseGo .start s := by
  induction s with
  | nil => simp [wsReplace, collapseSpaces, trimLeft, trimRight, collapseGo]
  | cons b r ih =>
    obtain ⟨_, ih2⟩ := ih
    rw [wsReplace_cons]
    cases hb : isWs b with
    | true =>
      have h20 := rep_ws hb
      constructor
      · simp only [collapseSpaces, h20, collapseGo, hb, if_true]
        show trimRight (trimLeft (0x20 :: collapseSpaces true (wsReplace r))) = _
        rw [trimLeft_cons, if_pos rfl]
        exact ih2
      · simp only [collapseSpaces, h20, collapseGo, hb, if_true]
        exact ih2
    | false =>
      obtain ⟨hr, hne⟩ := rep_nws hb
      have hmid := (collapse_mid r).1
      constructor <;>
      · simp only [collapseSpaces, hr, hne, collapseGo, hb, if_false]
        rw [trimLeft_cons, if_neg hne, trimRight_cons]
        simp [hne, hmid]

theorem collapse_spec (s : Bytes) : whiteSpaceCollapse s = collapse s :=
  (collapse_start s).1

end RdfModel.Proofs.C20
