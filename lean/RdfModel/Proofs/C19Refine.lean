import RdfModel.Proofs.C19Ops
import RdfModel.Proofs.C19Iter
namespace RdfModel.Proofs.C19
open RdfModel.DS RdfModel.C19
open RdfModel.Spec

def Rel (s : State) (S : List Quad) : Prop := Inv s ∧ S.Nodup ∧ ∀ x, x ∈ abs s ↔ x ∈ S

theorem Rel.perm {s : State} {S : List Quad} (h : Rel s S) : (abs s).Perm S :=
  (List.perm_ext_iff_of_nodup (nodup_abs h.1) h.2.1).2 h.2.2

theorem inv_empty : Inv ⟨[], [], 0⟩ :=
  ⟨by intro k n h; simp [alookup] at h, by simp [keys], by intro g G h; simp at h, by intro g G h; simp at h⟩

theorem inv_init : Inv init := createGraph_inv _ none inv_empty trivial

theorem rel_init : Rel init [] := ⟨inv_init, by simp, by intro x; simp [init, abs, createGraph, aset]⟩

theorem mem_graphAll_g {g : Option Term} {G : SubjMap} {x : Quad} (h : x ∈ graphAll g G) : x.g = g := by
  unfold graphAll at h
  simp only [List.mem_flatMap, List.mem_map] at h
  obtain ⟨_, _, _, _, rfl⟩ := h
  rfl

theorem filter_graph (g : Option Term) : ∀ (l : List (Option Term × SubjMap)), (keys l).Nodup →
    (l.flatMap (fun e => graphAll e.1 e.2)).filter (fun q => decide (q.g = g))
      = match alookup g l with | some G => graphAll g G | none => []
  | [], _ => rfl
  | (g', G') :: l, hnd => by
    rw [keys, List.map_cons, List.nodup_cons] at hnd
    rw [List.flatMap_cons, List.filter_append, filter_graph g l hnd.2, alookup]
    by_cases hgg : g' = g
    · subst hgg
      rw [if_pos rfl, alookup_none_iff.2 hnd.1, List.append_nil, List.filter_eq_self]
      exact fun x hx => decide_eq_true (mem_graphAll_g hx)
    · rw [if_neg hgg, List.filter_eq_nil_iff.2 fun x hx => by simp [mem_graphAll_g hx, hgg], List.nil_append]

theorem ensureGraph_gkeys (s : State) (g : Option Term) (hk : (keys s.graphs).Nodup) :
    (keys (ensureGraph s g).graphs).Nodup := by
  unfold ensureGraph
  split
  · exact hk
  · rw [createGraph_graphs]; exact nodup_keys_aset _ _ _ hk

theorem viewTriples_eq {s : State} (hk : (keys s.graphs).Nodup) (g : Option Term) (ms : List TrM) :
    viewTriples (ensureGraph s g) g ms
      = (((abs s).filter (fun q => decide (q.g = g))).map Quad.triple).filter
          (fun t => ms.all (fun m => m.matches t)) := by
  obtain ⟨G, hG⟩ := ensureGraph_has s g
  unfold viewTriples
  simp only [hG]
  rw [graphTriples_eq, ← abs_ensureGraph s g, abs_eq_graphAll, filter_graph g _ (ensureGraph_gkeys s g hk), hG]

theorem asQuad_toIn (t : Triple) (g : Option Term) : (tripleIn t).asQuad g = (t.asQuad g).toIn := rfl

theorem wf_asQuad {t : Triple} {g : Option Term} (hg : WFGraphName g) (ht : WFTriple t) : WFQuad (t.asQuad g) :=
  ⟨ht.1, ht.2.1, ht.2.2, hg⟩

theorem rel_ensureGraph {s : State} {S : List Quad} (h : Rel s S) (g : Option Term) (hg : WFGraphName g) :
    Rel (ensureGraph s g) S :=
  ⟨ensureGraph_inv s g h.1 hg, h.2.1, by rw [abs_ensureGraph]; exact h.2.2⟩

theorem rel_add {s : State} {S : List Quad} (h : Rel s S) (q : Quad) (hq : WFQuad q) :
    Rel (addQuad s q.toIn).1 (QuadSet.add S q) ∧ OutAgrees (addQuad s q.toIn).2 .unit := by
  obtain ⟨hi, ho, hm⟩ := addQuad_spec s q h.1 hq
  exact ⟨⟨hi, QuadSet.nodup_add S q h.2.1, fun x => by rw [hm, QuadSet.mem_add, h.2.2]⟩, ho ▸ trivial⟩

theorem rel_del {s : State} {S : List Quad} (h : Rel s S) (q : Quad) (hq : WFQuad q) :
    Rel (deleteQuad s q.toIn).1 (QuadSet.del S q) ∧ OutAgrees (deleteQuad s q.toIn).2 .unit := by
  obtain ⟨hi, ho, hm, _⟩ := deleteQuad_spec s q h.1 hq
  exact ⟨⟨hi, QuadSet.nodup_del S q h.2.1, fun x => by rw [hm, QuadSet.mem_del, h.2.2]⟩, ho ▸ trivial⟩

theorem rel_has {s : State} {S : List Quad} (h : Rel s S) (q : Quad) (hq : WFQuad q) :
    Rel (hasQuad s q.toIn).1 S ∧ OutAgrees (hasQuad s q.toIn).2 (.bool (decide (q ∈ S))) := by
  obtain ⟨hi, ha, ho⟩ := hasQuad_spec s q h.1 hq
  exact ⟨⟨hi, h.2.1, by rw [ha]; exact h.2.2⟩, by rw [ho]; exact decide_eq_decide.2 (h.2.2 q)⟩

theorem step_refines (s : State) (S : List Quad) (op : POp) (hop : op.WF) (h : Rel s S) :
    Rel (step s op.toOp).1 (QuadSet.step S op.spec).1 ∧
      OutAgrees (step s op.toOp).2 (QuadSet.step S op.spec).2 := by
  cases op with
  | addQuad q => exact rel_add h q hop
  | deleteQuad q => exact rel_del h q hop
  | hasQuad q => exact rel_has h q hop
  | iterQuads ms =>
    refine ⟨h, ?_⟩
    simp only [POp.toOp, step, POp.spec, QuadSet.step, OutAgrees, iterQuads_eq]
    exact h.perm.filter _
  | getGraph g => exact ⟨rel_ensureGraph h g hop, trivial⟩
  | viewAdd g t => exact rel_add (rel_ensureGraph h g hop.1) (t.asQuad g) (wf_asQuad hop.1 hop.2)
  | viewDelete g t => exact rel_del (rel_ensureGraph h g hop.1) (t.asQuad g) (wf_asQuad hop.1 hop.2)
  | viewHas g t => exact rel_has (rel_ensureGraph h g hop.1) (t.asQuad g) (wf_asQuad hop.1 hop.2)
  | viewIter g ms =>
    refine ⟨rel_ensureGraph h g hop, ?_⟩
    simp only [POp.toOp, step, POp.spec, QuadSet.step, OutAgrees, viewTriples_eq h.1.gkeys, List.filter_map,
      List.filter_filter, Function.comp_def, Bool.and_comm]
    exact (h.perm.filter _).map _

theorem run_refines : ∀ (ops : List POp), (∀ op ∈ ops, op.WF) → ∀ (s : State) (S : List Quad), Rel s S →
    Rel (run s (ops.map POp.toOp)).1 (QuadSet.run S (ops.map POp.spec)).1 ∧
      OutsAgree (run s (ops.map POp.toOp)).2 (QuadSet.run S (ops.map POp.spec)).2 := by
  intro ops
  induction ops with
  | nil => intro _ s S h; exact ⟨h, trivial⟩
  | cons op ops ih =>
    intro hwf s S h
    obtain ⟨h1, o1⟩ := step_refines s S op (hwf op (List.mem_cons_self)) h
    obtain ⟨h2, o2⟩ := ih (fun o ho => hwf o (List.mem_cons_of_mem _ ho)) _ _ h1
    exact ⟨h2, o1, o2⟩

theorem inv_of_reachable {s : State} (h : Reachable s) : Inv s := by
  obtain ⟨ops, hwf, rfl⟩ := h
  exact (run_refines ops hwf init [] rel_init).1.1

theorem refines_set (ops : List POp) (hwf : ∀ op ∈ ops, op.WF) :
    (abs (run init (ops.map POp.toOp)).1).Perm (QuadSet.run [] (ops.map POp.spec)).1 ∧
    (abs (run init (ops.map POp.toOp)).1).Nodup ∧
    OutsAgree (run init (ops.map POp.toOp)).2 (QuadSet.run [] (ops.map POp.spec)).2 := by
  obtain ⟨hr, ho⟩ := run_refines ops hwf init [] rel_init
  exact ⟨hr.perm, nodup_abs hr.1, ho⟩

theorem ensureGraph_idem (s : State) (g : Option Term) : ensureGraph (ensureGraph s g) g = ensureGraph s g := by
  obtain ⟨G, hG⟩ := ensureGraph_has s g
  generalize ensureGraph s g = s' at hG ⊢
  unfold ensureGraph
  rw [hG]

end RdfModel.Proofs.C19
