/-
  Itemref to PLAIN TARGETS (Proofs/C11MdRefSpec): the decoder model emits exactly `Ref.swR` (at an item: link statements, rdf:type statements, the properties found
  in the subtrees its itemref tokens name — in token order, repeated tokens repeated —, then its children).
-/
import RdfModel.Proofs.C11MdNested
namespace RdfModel.Mdd.Ref
open RdfModel RdfModel.Desc RdfModel.Spec.Html RdfModel.Spec.Microdata RdfModel.Mdd RdfModel.Mdd.Typed RdfModel.Mdd.Stream
  RdfModel.Mdd.Nested

theorem firstIdAttr_eq (l : List Attr) : firstIdAttr l = findAttr kId l := by
  induction l with
  | nil => rfl
  | cons a l ih => by_cases h1 : a.ns = [] <;> by_cases h2 : a.key = kId <;> simp [firstIdAttr, findAttr, h1, h2, ih]

theorem firstId_attrsOf (a : Attrs) : firstIdAttr (attrsOf a) = a.id := by
  simp [firstIdAttr_eq, kId, attrsOf, findAttr_append, findAttr_opt, findAttr_scope]

theorem hasId_elem (id : Str) (m : Nat) (atom : Bytes) (a : Attrs) (kids : List Node) :
    hasId id (.mk m 3 [] atom [] (attrsOf a) kids) = (a.id == some id) := by
  simp [hasId, Node.typ, Node.attrs, firstId_attrsOf]

mutual
theorem find_tree (id : Str) : ∀ (t : Tree) (m : Nat) (here : Path),
    (findIdNode id here t = none → (subnodes (relabelFrom m (ofSpec t)).1).find? (hasId id) = none) ∧
    (∀ q, findIdNode id here t = some q → ∃ rel t' m', q = here ++ rel ∧ nodeAt t rel = some t' ∧
      (subnodes (relabelFrom m (ofSpec t)).1).find? (hasId id) = some (relabelFrom m' (ofSpec t')).1)
  | .text s, m, here => by
    simp [findIdNode, ofSpec, relabelFrom, relabelL, subnodes, subnodesL, hasId, Node.typ]
  | .elem tag a ks, m, here => by
    have ih := find_kids id ks (m + 1) here 0
    simp only [findIdNode, ofSpec, relabelFrom, subnodes, List.find?_cons, hasId_elem]
    by_cases hid : a.id = some id
    · simp only [hid, ↓reduceIte, beq_self_eq_true]
      refine ⟨(by intro h; cases h), ?_⟩
      intro q hq
      simp only [Option.some.injEq] at hq
      subst hq
      exact ⟨[], .elem tag a ks, m, by simp, by simp [nodeAt], by simp [ofSpec, relabelFrom]⟩
    · have hb : (a.id == some id) = false := by simpa using hid
      simp only [hid, ↓reduceIte, hb]
      refine ⟨ih.1, ?_⟩
      intro q hq
      obtain ⟨j, rel, k, t', m', rfl, hk, hn, hf⟩ := ih.2 q hq
      refine ⟨j :: rel, t', m', by simp, ?_, hf⟩
      simp [nodeAt, kidAt_eq, hk, hn]
theorem find_kids (id : Str) : ∀ (ks : List Tree) (m : Nat) (here : Path) (i : Nat),
    (findIdKids id here i ks = none → (subnodesL (relabelL m (ofSpecL ks)).1).find? (hasId id) = none) ∧
    (∀ q, findIdKids id here i ks = some q → ∃ j rel k t' m', q = here ++ (i + j) :: rel ∧ ks[j]? = some k ∧
      nodeAt k rel = some t' ∧
      (subnodesL (relabelL m (ofSpecL ks)).1).find? (hasId id) = some (relabelFrom m' (ofSpec t')).1)
  | [], m, here, i => by simp [findIdKids, ofSpecL, relabelL, subnodesL]
  | k :: ks, m, here, i => by
    have ih1 := find_tree id k m (here ++ [i])
    have ih2 := find_kids id ks (relabelFrom m (ofSpec k)).2 here (i + 1)
    simp only [findIdKids, ofSpecL, relabelL, subnodesL, List.find?_append]
    cases hk : findIdNode id (here ++ [i]) k with
    | some p =>
      obtain ⟨rel, t', m', hp, hn, hf⟩ := ih1.2 p hk
      refine ⟨(by intro h; cases h), ?_⟩
      intro q hq
      simp only [Option.some.injEq] at hq
      subst hq
      exact ⟨0, rel, k, t', m', by simp [hp], by simp, hn, by simp [hf]⟩
    | none =>
      have h1 := ih1.1 hk
      simp only [h1, Option.none_or]
      refine ⟨ih2.1, ?_⟩
      intro q hq
      obtain ⟨j, rel, k', t', m', rfl, hk', hn, hf⟩ := ih2.2 q hq
      exact ⟨j + 1, rel, k', t', m', by simp [Nat.add_assoc, Nat.add_comm 1], by simpa using hk', hn, hf⟩
end

theorem findId_doc (doc : Tree) (id : Str) :
    (target doc id = none → findId (relabel (ofSpecDoc doc)) id = none) ∧
    (∀ q t, target doc id = some (q, t) → ∃ m', findId (relabel (ofSpecDoc doc)) id = some (relabelFrom m' (ofSpec t)).1) := by
  have hshape : relabel (ofSpecDoc doc) = .mk 0 2 [] [] [] [] [(relabelFrom 1 (ofSpec doc)).1] := by
    simp [relabel, ofSpecDoc, relabelFrom, relabelL]
  have hfind : findId (relabel (ofSpecDoc doc)) id = (subnodes (relabelFrom 1 (ofSpec doc)).1).find? (hasId id) := by
    rw [hshape]
    simp [findId, subnodes, subnodesL, hasId, Node.typ]
  have ht := find_tree id doc 1 []
  rw [hfind]
  constructor
  · intro h
    unfold target at h
    cases hq : findIdNode id [] doc with
    | none => exact ht.1 hq
    | some q =>
      obtain ⟨rel, t', m', hrel, hn, _⟩ := ht.2 q hq
      simp only [List.nil_append] at hrel
      subst hrel
      simp [hq, hn] at h
  · intro q t h
    obtain ⟨hq, hn⟩ := target_node doc id q t h
    obtain ⟨rel, t', m', hrel, hn', hf⟩ := ht.2 q hq
    simp only [List.nil_append] at hrel
    subst hrel
    rw [hn] at hn'
    cases hn'
    exact ⟨m', hf⟩

theorem nodeAt_ind (P : Tree → Prop) (hstep : ∀ tag a ks k, k ∈ ks → P (.elem tag a ks) → P k) :
    ∀ (q : Path) (doc t : Tree), nodeAt doc q = some t → P doc → P t := by
  intro q
  induction q with
  | nil => intro doc t h hp; rw [nodeAt_nil] at h; cases h; exact hp
  | cons i rest ih =>
    intro doc t h hp
    cases doc with
    | text s => simp [nodeAt] at h
    | elem tag a ks =>
      simp only [nodeAt, kidAt_eq] at h
      cases hk : ks[i]? with
      | none => simp [hk] at h
      | some k =>
        simp only [hk] at h
        exact ih k t h (hstep tag a ks k (List.mem_of_getElem? hk) hp)

theorem tokOkKids_mem (ks : List Tree) (k : Tree) (hk : k ∈ ks) (h : tokOkKids ks = true) : tokOk k = true := by
  induction ks with
  | nil => simp at hk
  | cons x xs ih =>
    simp only [tokOkKids, Bool.and_eq_true] at h
    rcases List.mem_cons.mp hk with rfl | hk
    · exact h.1
    · exact ih hk h.2

theorem inFragmentKids_mem (ks : List Tree) (k : Tree) (hk : k ∈ ks) (h : inFragmentKids ks = true) : inFragment k = true := by
  induction ks with
  | nil => simp at hk
  | cons x xs ih =>
    simp only [inFragmentKids, Bool.and_eq_true] at h
    rcases List.mem_cons.mp hk with rfl | hk
    · exact h.1
    · exact ih hk h.2

theorem heightL_mem (ks : List Tree) (k : Tree) (hk : k ∈ ks) : height (ofSpec k) ≤ heightL (ofSpecL ks) := by
  induction ks with
  | nil => simp at hk
  | cons x xs ih =>
    simp only [ofSpecL, heightL]
    rcases List.mem_cons.mp hk with rfl | hk
    · exact Nat.le_max_left _ _
    · exact Nat.le_trans (ih hk) (Nat.le_max_right _ _)

theorem sub_tokOk (doc t : Tree) (q : Path) (h : nodeAt doc q = some t) (hd : tokOk doc = true) : tokOk t = true :=
  nodeAt_ind (fun t => tokOk t = true) (by
    intro tag a ks k hk hp
    simp only [tokOk, Bool.and_eq_true] at hp
    exact tokOkKids_mem ks k hk hp.2) q doc t h hd

theorem sub_inFragment (doc t : Tree) (q : Path) (h : nodeAt doc q = some t) (hd : inFragment doc = true) :
    inFragment t = true :=
  nodeAt_ind (fun t => inFragment t = true) (by
    intro tag a ks k hk hp
    simp only [inFragment, Bool.and_eq_true] at hp
    exact inFragmentKids_mem ks k hk hp.2) q doc t h hd

theorem sub_height (doc t : Tree) (q : Path) (h : nodeAt doc q = some t) : height (ofSpec t) ≤ height (ofSpec doc) := by
  have := nodeAt_ind (fun t => ∀ H, height (ofSpec doc) ≤ H → height (ofSpec t) ≤ H) (by
    intro tag a ks k hk hp H hH
    have h1 := hp H hH
    have h2 := heightL_mem ks k hk
    simp only [ofSpec, height] at h1
    omega) q doc t h (fun H hH => hH)
  exact this _ (Nat.le_refl _)

structure ResP (σ : Path → Nat) (stmts : List Tr) (st r : St) : Prop where
  out : r.out = (stmts.map (Triple.map σ)).reverse ++ st.out
  bn : r.nextBn = st.nextBn
  res : r.resolved = st.resolved
  hooks : r.hooks = st.hooks

theorem ResP.trans {σ : Path → Nat} {s1 s2 : List Tr} {st r1 r2 : St} (h1 : ResP σ s1 st r1) (h2 : ResP σ s2 r1 r2) :
    ResP σ (s1 ++ s2) st r2 :=
  ⟨by rw [h2.out, h1.out]; simp, h2.bn.trans h1.bn, h2.res.trans h1.res, h2.hooks.trans h1.hooks⟩

theorem ResP.toRes {σ : Path → Nat} {s : List Tr} {st r : St} (h : ResP σ s st r) {m : Nat}
    (hlt : ∀ e ∈ st.resolved, e.1 < m) : Res σ s 0 m st r :=
  ⟨h.out, h.bn, h.hooks, by rw [h.res]; exact hlt⟩

mutual
theorem walk_plain (base : Str) (tm mm : List (Bytes → Option (Term Nat))) (hdec : Decline tm mm) (d : Node)
    (σ : Path → Nat) : ∀ (t : Tree) (f : Nat) (ctx : Ctx) (cur : Cur) (here : Path) (m : Nat) (st : St),
    height (ofSpec t) ≤ f → plain t = true → tokOk t = true → inFragment t = true → CtxRel σ ctx cur →
    ResP σ (propsOf base cur here t) st (walk (specEnv base tm mm) d f ctx (relabelFrom m (ofSpec t)).1 st)
  | .text s, f, ctx, cur, here, m, st, hf, _, _, _, _ => by
    obtain ⟨f', rfl⟩ := exists_fuel_succ hf
    rw [walk_text]
    exact ⟨rfl, rfl, rfl, rfl⟩
  | .elem tag a ks, f, ctx, cur, here, m, st, hf, hpl, htk, hif, hrel => by
    obtain ⟨f', rfl⟩ := exists_fuel_succ hf
    have hf' : heightL (ofSpecL ks) ≤ f' := by simp [ofSpec, height] at hf; omega
    simp only [plain, Bool.and_eq_true, Bool.not_eq_true', Option.isNone_iff_eq_none] at hpl
    rw [walk_elem base tm mm d σ f' ctx cur here m tag a ks st hpl.1.1 (elemOk_of hdec _ _ htk hif) hrel]
    simp only [propsOf, hpl.1.1, Bool.false_eq_true, ↓reduceIte]
    refine ResP.trans ?_ (walk_plains base tm mm hdec d σ ks f' ctx cur here 0 (m + 1)
      { st with steps := st.steps + 1,
                out := ((linkOf base cur here (.elem tag a ks)).map (Triple.map σ)).reverse ++ st.out }
      hf' hpl.2 (tokOk_elem htk).2.2 (inFragment_elem hdec hif).2.2 hrel)
    exact ⟨rfl, rfl, rfl, rfl⟩
theorem walk_plains (base : Str) (tm mm : List (Bytes → Option (Term Nat))) (hdec : Decline tm mm) (d : Node)
    (σ : Path → Nat) : ∀ (ks : List Tree) (f : Nat) (ctx : Ctx) (cur : Cur) (here : Path) (i m : Nat) (st : St),
    heightL (ofSpecL ks) ≤ f → plainKids ks = true → tokOkKids ks = true → inFragmentKids ks = true → CtxRel σ ctx cur →
    ResP σ (propsOfKids base cur here i ks) st
      (walkKidsWith (walk (specEnv base tm mm) d f) ctx (relabelL m (ofSpecL ks)).1 st)
  | [], f, ctx, cur, here, i, m, st, _, _, _, _, _ => by
    simp only [ofSpecL, relabelL, walkKidsWith, List.foldl_nil, propsOfKids]
    exact ⟨rfl, rfl, rfl, rfl⟩
  | k :: ks, f, ctx, cur, here, i, m, st, hf, hpl, htk, hif, hrel => by
    simp only [plainKids, Bool.and_eq_true] at hpl
    simp only [tokOkKids, Bool.and_eq_true] at htk
    simp only [inFragmentKids, Bool.and_eq_true] at hif
    simp only [ofSpecL, heightL] at hf
    have h1 := walk_plain base tm mm hdec d σ k f ctx cur (here ++ [i]) m st (by omega) hpl.1 htk.1 hif.1 hrel
    have h2 := walk_plains base tm mm hdec d σ ks f ctx cur here (i + 1) (relabelFrom m (ofSpec k)).2
      (walk (specEnv base tm mm) d f ctx (relabelFrom m (ofSpec k)).1 st) (by omega) hpl.2 htk.2 hif.2 hrel
    simp only [ofSpecL, relabelL, walkKidsWith, List.foldl_cons, propsOfKids]
    unfold walkKidsWith at h2
    exact h1.trans h2
end

theorem plain_not_item (t : Tree) (m : Nat) (h : plain t = true) :
    (scanAttrs (relabelFrom m (ofSpec t)).1.attrs {}).itemscope = false := by
  cases t with
  | text s => simp [ofSpec, relabelFrom, Node.attrs, scanAttrs]
  | elem tag a ks =>
    simp only [plain, Bool.and_eq_true, Bool.not_eq_true'] at h
    simp [ofSpec, relabelFrom, Node.attrs, scan_attrsOf, h.1.1]

theorem itemrefs_spec (base : Str) (tm mm : List (Bytes → Option (Term Nat))) (hdec : Decline tm mm) (doc : Tree)
    (σ : Path → Nat) (htkD : tokOk doc = true) (hifD : inFragment doc = true) (f : Nat)
    (hK : height (ofSpec doc) ≤ f) (ctx : Ctx) (cur : T × List Str) (hrel : CtxRel σ ctx (some cur))
    (hrec : ctx.recursed = []) (n : Node) (hn : n ∈ subnodes (relabel (ofSpecDoc doc)))
    (hitem : (scanAttrs n.attrs {}).itemscope = true) :
    ∀ (toks : List Str), (∀ id ∈ toks, id ≠ [] ∧ ∀ qt, target doc id = some qt → plain qt.2 = true) → ∀ (S : St),
    ResP σ (refProps base doc cur toks) S
      (itemrefsWith (walk (specEnv base tm mm) (relabel (ofSpecDoc doc)) f) (relabel (ofSpecDoc doc)) ctx n toks S) := by
  intro toks
  induction toks with
  | nil => intro _ S; simp only [itemrefsWith, List.foldl_nil, refProps, List.flatMap_nil]; exact ⟨rfl, rfl, rfl, rfl⟩
  | cons ref rest ih =>
    intro htoks S
    obtain ⟨hne, hpl⟩ := htoks ref (by simp)
    have ih' := ih (fun id hid => htoks id (by simp [hid]))
    have h0 : ref.isEmpty = false := List.isEmpty_eq_false_iff.mpr hne
    have hfd := findId_doc doc ref
    simp only [itemrefsWith, List.foldl_cons, refProps, List.flatMap_cons]
    have hstep : ResP σ (match target doc ref with | some qt => propsOf base (some cur) qt.1 qt.2 | none => []) S
        (itemrefStep (walk (specEnv base tm mm) (relabel (ofSpecDoc doc)) f) (relabel (ofSpecDoc doc)) ctx n S ref) := by
      unfold itemrefStep
      simp only [h0, Bool.false_eq_true, ↓reduceIte]
      cases htar : target doc ref with
      | none =>
        rw [hfd.1 htar]
        exact ⟨rfl, rfl, rfl, rfl⟩
      | some qt =>
        obtain ⟨q, t⟩ := qt
        obtain ⟨m', hf⟩ := hfd.2 q t htar
        rw [hf]
        simp only
        have hpt := hpl (q, t) htar
        obtain ⟨_, hnode⟩ := target_node doc ref q t htar
        have hneq : ¬ (relabelFrom m' (ofSpec t)).1.id = n.id := by
          intro heq
          have hmem := findId_mem hf
          have := nodup_map_inj Node.id _ (relabel_nodup (ofSpecDoc doc)) hmem hn heq
          have h1 := plain_not_item t m' hpt
          rw [this, hitem] at h1
          cases h1
        simp only [hneq, ↓reduceIte, hrec, List.contains_nil, Bool.false_eq_true]
        -- the step adds `ctx.recursed.length` to `copies`; with `hrec` that is `[].length`, stated to `walk_plain` as `+ 0`
        have hw := walk_plain base tm mm hdec (relabel (ofSpecDoc doc)) σ t f
          { ctx with recursed := [ref] } (some cur) q m' { S with copies := S.copies + 0 }
          (Nat.le_trans (sub_height doc t q hnode) hK) hpt (sub_tokOk doc t q hnode htkD) (sub_inFragment doc t q hnode hifD) hrel
        simp only [List.length_nil] at hw ⊢
        exact ⟨hw.out, hw.bn, hw.res, hw.hooks⟩
    have h2 := ih' (itemrefStep (walk (specEnv base tm mm) (relabel (ofSpecDoc doc)) f) (relabel (ofSpecDoc doc)) ctx n S ref)
    unfold itemrefsWith at h2
    unfold refProps at h2
    exact hstep.trans h2

mutual
/-- Go's tokenisation of every itemref agrees with HTML's -/
def tokOkRef : Tree → Bool
  | .text _ => true
  | .elem _ a ks =>
    (match a.itemref with | some v => Mdd.fields (trimSpace v) == Spec.Html.fields v | none => true) && tokOkRefKids ks
def tokOkRefKids : List Tree → Bool
  | [] => true
  | k :: ks => tokOkRef k && tokOkRefKids ks
end

mutual
theorem walk_treeR (base : Str) (tm mm : List (Bytes → Option (Term Nat))) (hdec : Decline tm mm) (doc : Tree)
    (σ : Path → Nat) (htkD : tokOk doc = true) (hifD : inFragment doc = true) :
    ∀ (t : Tree) (f : Nat) (ctx : Ctx) (cur : Cur) (here : Path) (m : Nat) (st : St),
    height (ofSpec t) + height (ofSpec doc) ≤ f → refsOk doc t = true → tokOk t = true → tokOkRef t = true →
    inFragment t = true → CtxRel σ ctx cur → ctx.recursed = [] → SOk σ here st.nextBn t →
    (∀ e ∈ st.resolved, e.1 < m) → (relabelFrom m (ofSpec t)).1 ∈ subnodes (relabel (ofSpecDoc doc)) →
    Res σ (swR base doc cur here t) (bnCount t) (relabelFrom m (ofSpec t)).2 st
      (walk (specEnv base tm mm) (relabel (ofSpecDoc doc)) f ctx (relabelFrom m (ofSpec t)).1 st)
  | .text s, f, ctx, cur, here, m, st, hf, _, _, _, _, _, _, _, hlt, _ => by
    obtain ⟨f', rfl⟩ := exists_fuel_succ (Nat.le_trans (Nat.le_add_right _ _) hf)
    rw [walk_text]
    exact ⟨rfl, rfl, rfl, fun e he => Nat.lt_succ_of_lt (hlt e he)⟩
  | .elem tag a ks, f, ctx, cur, here, m, st, hf, hro, htk, htr, hif, hrel, hrec, hσ, hlt, hmem => by
    obtain ⟨f', rfl⟩ := exists_fuel_succ (Nat.le_trans (Nat.le_add_right _ _) hf)
    have hf' : heightL (ofSpecL ks) + height (ofSpec doc) ≤ f' := by simp [ofSpec, height] at hf; omega
    obtain ⟨hrefs', hroK⟩ := refsOk_elem hro
    simp only [tokOkRef, Bool.and_eq_true] at htr
    obtain ⟨htokp, hid, htks⟩ := tokOk_elem htk
    have hifs := (inFragment_elem hdec hif).2.2
    have hkidsmem : ∀ k' ∈ (relabelL (m + 1) (ofSpecL ks)).1, k' ∈ subnodes (relabel (ofSpecDoc doc)) := by
      intro k' hk'
      simp only [ofSpec, relabelFrom] at hmem
      exact kid_sub hmem (by simpa [Node.kids] using hk')
    have hsk := sok_kids hσ
    simp only [swR, bnCount]
    by_cases hs : a.itemscope = true
    · simp only [ofSpec, relabelFrom, walk_succ, walkStep, Node.ns, Node.attrs, Node.kids, scan_attrsOf,
        ne_eq, not_true_eq_false, ↓reduceIte]
      rw [if_pos hs, if_pos hs, visitItem_spec base tm mm σ _ _ ctx cur here m tag a ks _ hs hid (fun _ => htokp) hrel
        { st with steps := st.steps + 1 } (sok_here hσ) (lookupR_none_of_lt _ _ hlt)]
      have h0 := item_res σ base cur here m tag a ks st hs hlt
      have hrel' := itemCtx_rel base σ a here ctx hid (sok_here hσ)
      have hrefs : ResP σ (refProps base doc (subject base a here, typesOf a) (refsOf a))
          (itemSt σ base cur here m tag a ks { st with steps := st.steps + 1 })
          (if a.itemref.getD [] ≠ [] then
            itemrefsWith (walk (specEnv base tm mm) (relabel (ofSpecDoc doc)) f') (relabel (ofSpecDoc doc))
              (itemCtx base a ctx st.nextBn)
              (.mk m 3 [] (atomOf tag) [] (attrsOf a) (relabelL (m + 1) (ofSpecL ks)).1)
              (Mdd.fields (trimSpace (a.itemref.getD [])))
              (itemSt σ base cur here m tag a ks { st with steps := st.steps + 1 })
           else itemSt σ base cur here m tag a ks { st with steps := st.steps + 1 }) := by
        cases hv : a.itemref with
        | none => simp only [Option.getD_none, ne_eq, not_true_eq_false, ↓reduceIte, refsOf, hv, refProps, List.flatMap_nil]
                  exact ⟨rfl, rfl, rfl, rfl⟩
        | some v =>
          by_cases hv0 : v = []
          · subst hv0
            simp only [Option.getD_some, ne_eq, not_true_eq_false, ↓reduceIte, refsOf, hv, fields_nil, refProps,
              List.flatMap_nil]
            exact ⟨rfl, rfl, rfl, rfl⟩
          · have htokr : Mdd.fields (trimSpace v) = Spec.Html.fields v := by
              have := htr.1; rw [hv] at this; simpa using this
            simp only [Option.getD_some, ne_eq, hv0, not_false_eq_true, ↓reduceIte, htokr]
            have hR : refsOf a = Spec.Html.fields v := by simp [refsOf, hv]
            rw [hR]
            apply itemrefs_spec base tm mm hdec doc σ htkD hifD f' (by omega) _ (subject base a here, typesOf a)
              hrel' hrec _ (by simpa [ofSpec, relabelFrom] using hmem) (by simp [Node.attrs, scan_attrsOf, hs])
            exact fun id hidm => ⟨fields_ne v id hidm, hrefs' id (by rw [hR]; exact hidm)⟩
      generalize (if a.itemref.getD [] ≠ [] then _ else _ : St) = S2 at hrefs
      have h1 := h0.trans (hrefs.toRes h0.lt)
      have ih := walk_treesR base tm mm hdec doc σ htkD hifD ks f' _ _ here 0 (m + 1) S2 hf' hroK htks htr.2 hifs
        hrel' hrec (by rw [h1.bn, Nat.add_zero]; exact hsk) h1.lt hkidsmem
      have h := h1.trans ih
      rw [List.append_assoc, List.append_assoc, Nat.add_zero] at h
      exact h
    · have hs0 : a.itemscope = false := by simpa using hs
      rw [if_neg hs, walk_elem base tm mm _ σ f' ctx cur here m tag a ks st hs0 (elemOk_of hdec _ _ htk hif) hrel]
      have hself : selfBn a = 0 := by simp [selfBn, hs0]
      rw [hself, Nat.add_zero] at hsk
      have h0 := link_res σ (linkOf base cur here (.elem tag a ks)) m st hlt
      have ih := walk_treesR base tm mm hdec doc σ htkD hifD ks f' ctx cur here 0 (m + 1)
        { st with steps := st.steps + 1,
                  out := ((linkOf base cur here (.elem tag a ks)).map (Triple.map σ)).reverse ++ st.out }
        hf' hroK htks htr.2 hifs hrel hrec hsk h0.lt hkidsmem
      rw [hself]
      exact h0.trans ih
theorem walk_treesR (base : Str) (tm mm : List (Bytes → Option (Term Nat))) (hdec : Decline tm mm) (doc : Tree)
    (σ : Path → Nat) (htkD : tokOk doc = true) (hifD : inFragment doc = true) :
    ∀ (ks : List Tree) (f : Nat) (ctx : Ctx) (cur : Cur) (here : Path) (i m : Nat) (st : St),
    heightL (ofSpecL ks) + height (ofSpec doc) ≤ f → refsOkKids doc ks = true → tokOkKids ks = true →
    tokOkRefKids ks = true → inFragmentKids ks = true → CtxRel σ ctx cur → ctx.recursed = [] →
    SOkK σ here i st.nextBn ks → (∀ e ∈ st.resolved, e.1 < m) →
    (∀ k' ∈ (relabelL m (ofSpecL ks)).1, k' ∈ subnodes (relabel (ofSpecDoc doc))) →
    Res σ (swRKids base doc cur here i ks) (bnCountL ks) (relabelL m (ofSpecL ks)).2 st
      (walkKidsWith (walk (specEnv base tm mm) (relabel (ofSpecDoc doc)) f) ctx (relabelL m (ofSpecL ks)).1 st)
  | [], f, ctx, cur, here, i, m, st, _, _, _, _, _, _, _, _, hlt, _ => by
    simp only [ofSpecL, relabelL, walkKidsWith, List.foldl_nil, swRKids, bnCountL]
    exact ⟨rfl, rfl, rfl, hlt⟩
  | k :: ks, f, ctx, cur, here, i, m, st, hf, hro, htk, htr, hif, hrel, hrec, hσ, hlt, hmem => by
    simp only [refsOkKids, Bool.and_eq_true] at hro
    simp only [tokOkKids, Bool.and_eq_true] at htk
    simp only [tokOkRefKids, Bool.and_eq_true] at htr
    simp only [inFragmentKids, Bool.and_eq_true] at hif
    simp only [ofSpecL, heightL] at hf
    simp only [ofSpecL, relabelL] at hmem
    have h1 := walk_treeR base tm mm hdec doc σ htkD hifD k f ctx cur (here ++ [i]) m st (by omega) hro.1 htk.1 htr.1
      hif.1 hrel hrec (sokK_head hσ) hlt (hmem _ (by simp))
    have h2 := walk_treesR base tm mm hdec doc σ htkD hifD ks f ctx cur here (i + 1) (relabelFrom m (ofSpec k)).2
      (walk (specEnv base tm mm) (relabel (ofSpecDoc doc)) f ctx (relabelFrom m (ofSpec k)).1 st) (by omega) hro.2 htk.2
      htr.2 hif.2 hrel hrec (by rw [h1.bn]; exact sokK_tail hσ) h1.lt (fun k' hk' => hmem k' (by simp [hk']))
    simp only [ofSpecL, relabelL, walkKidsWith, List.foldl_cons, swRKids, bnCountL]
    unfold walkKidsWith at h2
    exact h1.trans h2
end

/-- the fragment of this file: every itemref token names nothing or a subtree without items and itemrefs; Go
    tokenises itemprop / itemid / itemref as HTML does; meter / time values are plain words -/
def RefFrag (doc : Tree) : Prop :=
  refsOk doc doc = true ∧ tokOk doc = true ∧ tokOkRef doc = true ∧ inFragment doc = true

theorem decode_ref (base : Str) (tm mm : List (Bytes → Option (Term Nat))) (hdec : Decline tm mm) (doc : Tree)
    (hfrag : RefFrag doc) :
    decode (specEnv base tm mm) (ofSpecDoc doc) = .ok ((swR base doc none [] doc).map (Triple.map (rank doc))) [] := by
  obtain ⟨hro, htk, htr, hif⟩ := hfrag
  obtain ⟨f, hf, hmem, hd⟩ := decode_ofSpecDoc (specEnv base tm mm) doc
  have hw := walk_treeR base tm mm hdec doc (rank doc) htk hif doc f {} none [] 1 { steps := 1 } hf hro htk htr hif
    (by simp [CtxRel]) rfl (by intro p; simp) (by intro e he; simp at he) hmem
  rw [hd, hw.out, hw.hooks]
  simp

end RdfModel.Mdd.Ref
