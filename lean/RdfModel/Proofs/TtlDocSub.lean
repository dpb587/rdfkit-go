/-
  Statement layer of Turtle/TriG: the rune buffer only ever holds runes of the input, pushed-back
  `.`s and NULs (`SubL`, `Producers.SubP`, `ResSub`), and the white-space predicate `unicode.IsSpace` is only ever asked about runes
  of the buffer.  Hence two configurations that differ only in the white-space predicate, on a set
  of runes that does not occur in the input, run identically (`run_space_congr`).  Used for C07:
  the Turtle ⊂ TriG simulation holds for the driver's exact `unicode.IsSpace` on every input free of
  U+1680.  Everything is stated for a stream that ends (`.eof`), the case C07 uses.
-/
import RdfModel.Proofs.TtlDocPrefix
import RdfModel.Proofs.TtlDocBuffer
namespace RdfModel.TtlDoc
open RdfModel Ttl

/-- what every producer leaves in the buffer: runes of its input and pushed-back `.`s -/
structure Producers.SubP (P : Producers) : Prop where
  iriref : ∀ i v r, P.iriref .eof i = .ok v r → SubL i r
  string : ∀ i v r, P.string .eof i = .ok v r → SubL i r
  pnameNS : ∀ i v r, P.pnameNS .eof i = .ok v r → SubL i r
  pname : ∀ i v r, P.pname .eof i = .ok v r → SubL i r
  bnode : ∀ i v r, P.bnode .eof i = .ok v r → SubL i r
  langtag : ∀ i v r, P.langtag .eof i = .ok v r → SubL i r
  numeric : ∀ i v r, P.numeric .eof i = .ok v r → SubL i r
  boolean : ∀ i b r, P.boolean .eof i = .bool b r → SubL i r

theorem real_subP (T : Ttl.Tables) : (Producers.real T).SubP where
  iriref := fun i v r h => .of_suffix (produceIRIREF_token T .eof i v r h).sub
  string := fun i v r h => .of_suffix (produceString_token T .eof i v r h).sub
  pnameNS := fun i v r h => .of_suffix (producePNAME_NS_token T .eof i v r h).sub
  pname := fun i v r h => .of_suffix (producePrefixedName_token T .eof i v r h).sub
  bnode := fun i v r h => .of_suffix (produceBlankNode_token T .eof i v r h).sub
  langtag := fun i v r h => .of_suffix (produceLANGTAG_token .eof i v r h).sub
  numeric := fun i v r h => (produceNumericLiteral_peeks .eof i v r h).left.subL
  boolean := fun i b r h => .of_suffix ((scanBoolean_token .eof i).1 b r h).1

variable {C : Cfg}

theorem LeftBy.subL (hS : C.P.SubP) {i r : List Nat} (h : LeftBy C .eof i r) : SubL i r := by
  rcases h with ⟨v, h⟩ | ⟨v, h⟩ | ⟨l, h⟩
  · exact hS.iriref _ _ _ h
  · exact hS.pname _ _ _ h
  · exact hS.bnode _ _ _ h

def ResSub (i : List Nat) : FnRes → Prop
  | .ok o => SubL i o.inp
  | _ => True

theorem ResSub.out {i : List Nat} {r : FnRes} (h : ResSub i r) {o : Out} (hr : r = .ok o) : SubL i o.inp := by
  subst hr; exact h

theorem ResSub.trans {i j : List Nat} {r : FnRes} (h1 : SubL i j) (h2 : ResSub j r) : ResSub i r := by
  cases r with
  | ok o => exact SubL.trans h1 h2
  | err k => trivial
  | panic => trivial

theorem ResSub.tail {c : Nat} {i : List Nat} {r : FnRes} (h : ResSub i r) : ResSub (c :: i) r :=
  ResSub.trans (SubL.refl _).tail h

theorem ResSub.ite {i : List Nat} {p : Prop} [Decidable p] {a b : FnRes} (ha : ResSub i a) (hb : ResSub i b) :
    ResSub i (if p then a else b) := by
  split <;> assumption

theorem passes_sub (hS : C.P.SubP) {F : TermRes → FnRes} (hF : Passes F) (K : Kind) (env : Env) (i : List Nat) :
    ResSub i (F (K.term C .eof env i)) := by
  cases h : F (K.term C .eof env i) with
  | ok o =>
    obtain ⟨t, r, env', htr⟩ := hF.other _ _ h
    rw [htr] at h
    show SubL i o.inp
    rw [(hF.ok t r env' o h).1]
    exact (Kind.term_leftBy htr).subL hS
  | err k => trivial
  | panic => trivial

/-- closes `SubL (c :: rest) L` for `L` the input itself or its tail -/
macro "sub_close" : tactic =>
  `(tactic| first
      | exact SubL.refl _
      | exact (SubL.refl _).tail
      | exact ((SubL.refl _).tail).tail)

theorem kwFallback_sub (hS : C.P.SubP) (x : Ectx) (env : Env) (inp : List Nat) :
    ResSub inp (kwFallback C .eof x env inp) := by
  unfold kwFallback
  split
  · exact passes_sub hS (passes_labelOrSubject x) .pname env inp
  · exact SubL.refl _

theorem stepAtDirective_sub (x : Ectx) (env : Env) (rest : List Nat) :
    ResSub rest (stepAtDirective .eof x env rest) := by
  unfold stepAtDirective
  split
  · trivial
  · split
    · split
      · trivial
      · trivial
      · next r hm => exact (SubL.of_suffix (matchKw_suffix _ _ _ hm)).tail
    · split
      · split
        · trivial
        · trivial
        · next r hm => exact (SubL.of_suffix (matchKw_suffix _ _ _ hm)).tail
      · trivial

theorem stepKwBase_sub (hS : C.P.SubP) (x : Ectx) (env : Env) (c : Nat) (rest : List Nat) :
    ResSub (c :: rest) (stepKwBase C .eof x env c rest) := by
  unfold stepKwBase
  split
  · trivial
  · exact kwFallback_sub hS x env _
  · next r hm =>
    have hr := (SubL.of_suffix (matchKw_suffix _ _ _ hm)).tail (c := c)
    split
    · trivial
    · split
      · exact hr
      · split
        · exact kwFallback_sub hS x env _
        · exact hr.trans (SubL.refl _).tail

theorem stepKwSpace_sub (hS : C.P.SubP) (x : Ectx) (env : Env) (kw : List (Nat × Nat)) (k : Cont) (c : Nat)
    (rest : List Nat) : ResSub (c :: rest) (stepKwSpace C .eof x env kw k c rest) := by
  unfold stepKwSpace
  split
  · trivial
  · exact kwFallback_sub hS x env _
  · next r hm =>
    have hr := (SubL.of_suffix (matchKw_suffix _ _ _ hm)).tail (c := c)
    split
    · trivial
    · split
      · exact kwFallback_sub hS x env _
      · exact hr.trans (SubL.refl _).tail

theorem stepSubjectStart_sub (hS : C.P.SubP) (x : Ectx) (env : Env) (c : Nat) (rest : List Nat) :
    ResSub (c :: rest) (stepSubjectStart C .eof x env c rest) :=
  stepSubjectStart_cases x env c (motive := fun F => ResSub (c :: rest) (F rest))
    (err := fun _ => trivial)
    (label := fun _ K => passes_sub hS (passes_labelOrSubject x) K env _)
    (token := fun _ _ => SubL.refl _)
    (bracketG := fun _ _ => (SubL.refl _).tail)
    (bracket := fun _ _ => (SubL.refl _).tail)
    (paren := fun _ => (SubL.refl _).tail)

theorem stepWrappedGraph_sub (x : Ectx) (env : Env) (c : Nat) (rest : List Nat) :
    ResSub (c :: rest) (stepWrappedGraph .eof x env (.rune c rest)) := by
  simp only [stepWrappedGraph]
  split
  · trivial
  · exact (SubL.refl _).tail

theorem stepStatementRune_sub (hS : C.P.SubP) (x : Ectx) (env : Env) (c : Nat) (rest : List Nat) :
    ResSub (c :: rest) (stepStatementRune C .eof x env c rest) :=
  stepStatementRune_cases x env c (motive := fun F => ResSub (c :: rest) (F rest))
    (at_ := fun _ => (stepAtDirective_sub x env rest).tail)
    (base := fun _ => stepKwBase_sub hS x env c rest)
    (pfx := fun _ => stepKwSpace_sub hS x env _ _ c rest)
    (graph := fun _ _ => stepKwSpace_sub hS x env _ _ c rest)
    (brace := fun _ _ => stepWrappedGraph_sub x env c rest)
    (subject := stepSubjectStart_sub hS x env c rest)

theorem stepPOL_sub (hS : C.P.SubP) (x : Ectx) (env : Env) (c : Nat) (rest : List Nat) :
    ResSub (c :: rest) (stepPOL C .eof x env c rest) := by
  unfold stepPOL
  split
  · exact passes_sub hS (passes_polOfTerm x) .iriref env _
  · split
    · split
      · trivial
      · split
        · exact passes_sub hS (passes_polOfTerm x) .pname env _
        · exact (SubL.refl _).tail.tail
    · split
      · exact passes_sub hS (passes_polOfTerm x) .pname env _
      · exact SubL.refl _

theorem stepLiteralTail_sub (hS : C.P.SubP) (x : Ectx) (env : Env) (lex rest : List Nat) :
    ResSub rest (stepLiteralTail C .eof x env lex rest) :=
  stepLiteralTail_cases x env lex rest (motive := ResSub rest)
    (err := fun _ => trivial)
    (panic := fun _ => trivial)
    (lang := fun _ _ h => hS.langtag _ _ _ h)
    (typed := fun _ _ _ _ hrest hdt _ _ => hrest ▸ (hdt.leftBy.subL hS).tail.tail)
    (plain := fun _ => SubL.refl _)

theorem emitOfNumeric_sub (hS : C.P.SubP) (x : Ectx) (env : Env) (i : List Nat) :
    ResSub i (emitOfNumeric x env (C.P.numeric .eof i)) := by
  cases h : C.P.numeric .eof i with
  | ok v r => exact hS.numeric _ _ _ h
  | err k => trivial
  | panic => trivial

theorem stepObject_sub (hS : C.P.SubP) (x : Ectx) (env : Env) (c : Nat) (rest : List Nat) :
    ResSub (c :: rest) (stepObject C .eof x env c rest) :=
  stepObject_cases x env c rest (motive := ResSub (c :: rest))
    (err := fun _ => trivial)
    (panic := fun _ => trivial)
    (term := fun K => passes_sub hS (passes_emitOfTerm x) K env _)
    (coll := fun _ => (SubL.refl _).tail)
    (bnpl := fun _ _ _ => (SubL.refl _).tail)
    (string := fun lex r h => ResSub.trans (hS.string _ _ _ h) (stepLiteralTail_sub hS x env lex r))
    (numeric := fun _ => emitOfNumeric_sub hS x env _)
    (bool := fun _ _ h => hS.boolean _ _ _ h)
    (pname := SubL.refl _)

theorem stepTriples_sub (x : Ectx) (env : Env) (c : Nat) (rest : List Nat) :
    ResSub (c :: rest) (stepTriples C x env c rest) :=
  stepTriples_cases x env c (motive := fun F => ResSub (c :: rest) (F rest))
    (err := fun _ => trivial)
    (token := fun _ => SubL.refl _)
    (bracket := fun _ _ _ => (SubL.refl _).tail)
    (paren := fun _ => (SubL.refl _).tail)

/-- closures whose every answer passes on the buffer, or its tail, unchanged: each branch is an error or a literal answer
    for which `sub_close` applies -/
macro "simple_sub" h:ident : tactic =>
  `(tactic| (simp only [stepFn, Arg.orNul, stepWrappedGraph, stepTriples, stepCollection, stepParen] at $h:ident
             repeat' split at $h:ident
             all_goals first
               | (cases $h:ident; done)
               | (injection $h:ident with hinj; subst hinj; sub_close)))

theorem stepFn_sub_rune (hS : C.P.SubP) (k : Cont) (x : Ectx) (env : Env) (c : Nat) (rest : List Nat) (o : Out)
    (h : stepFn C .eof k x env (.rune c rest) = .ok o) : SubL (c :: rest) o.inp := by
  cases k with
  | statement =>
    simp only [stepFn] at h
    cases hA : stepStatementRune C .eof x env c rest with
    | panic => rw [hA] at h; cases h
    | err k => rw [hA] at h; cases h
    | ok o' =>
      rw [hA] at h; simp only [withSelf] at h
      injection h with h; subst h
      exact (stepStatementRune_sub hS x env c rest).out (o := o') hA
  | atBaseIRI | sparqlBaseIRI | atPrefixIRI ns | sparqlPrefixIRI ns =>
    simp only [stepFn] at h
    cases hp : C.P.iriref .eof (c :: rest) with
    | panic => rw [hp] at h; cases h
    | err k => rw [hp] at h; cases h
    | ok v r =>
      rw [hp] at h; simp only [] at h
      cases hr : resolveURL C env v with
      | none => rw [hr] at h; cases h
      | some b => rw [hr] at h; injection h with h; subst h; exact hS.iriref _ _ _ hp
  | atPrefixNS | sparqlPrefixNS =>
    simp only [stepFn] at h
    cases hp : C.P.pnameNS .eof (c :: rest) with
    | panic => rw [hp] at h; cases h
    | err k => rw [hp] at h; cases h
    | ok v r => rw [hp] at h; injection h with h; subst h; exact hS.pnameNS _ _ _ hp
  | subjIRIREF => exact (passes_sub hS (passes_subjectOf x) .iriref env _).out h
  | subjPName => exact (passes_sub hS (passes_subjectOf x) .pname env _).out h
  | subjBNode => exact (passes_sub hS (passes_subjectOf x) .bnode env _).out h
  | objectPName => exact (passes_sub hS (passes_emitOfTerm x) .pname env _).out h
  | pol => exact (stepPOL_sub hS x env c rest).out h
  | polRequired => exact (polRequired_sat (R := ResSub (c :: rest)) (fun _ => trivial) (stepPOL_sub hS x env c rest)).out h
  | object => exact (stepObject_sub hS x env c rest).out h
  | graphLabel =>
    exact (graphLabel_cases x env c (motive := fun F => ResSub (c :: rest) (F rest)) (fun _ => (SubL.refl _).tail)
      fun K => passes_sub hS (passes_graphOfTerm x) K env _).out h
  | graphAnonClose =>
    exact (ResSub.ite trivial (SubL.refl _).tail : ResSub (c :: rest) (stepFn C .eof .graphAnonClose x env (.rune c rest))).out h
  | tgE1 v =>
    refine (ResSub.ite (SubL.refl _).tail ?_ : ResSub (c :: rest) (stepFn C .eof (.tgE1 v) x env (.rune c rest))).out h
    cases v with
    | lit lex dt lang => trivial
    | iri i => exact SubL.refl _
    | bnode b => exact SubL.refl _
  | tgBracket bn =>
    exact (ResSub.ite (SubL.refl _).tail (SubL.refl _) :
      ResSub (c :: rest) (stepFn C .eof (.tgBracket bn) x env (.rune c rest))).out h
  | parenTop bn =>
    exact (ResSub.ite (SubL.refl _).tail (SubL.refl _) :
      ResSub (c :: rest) (stepFn C .eof (.parenTop bn) x env (.rune c rest))).out h
  | parenBlock bn =>
    exact (ResSub.ite (SubL.refl _).tail (SubL.refl _) :
      ResSub (c :: rest) (stepFn C .eof (.parenBlock bn) x env (.rune c rest))).out h
  | collOpenSubj o' =>
    refine (ResSub.ite (SubL.refl _).tail ?_ : ResSub (c :: rest) (stepFn C .eof (.collOpenSubj o') x env (.rune c rest))).out h
    cases x.subj <;> exact SubL.refl _
  | atBaseDot b | atPrefixDot ns b | subjAnonOrBNPL | triplesEnd | polContinue | objListContinue | collOpenObj | collContinue
  | bnplEnd | wrappedGraph | wrappedGraphEnd | triplesBlock | triplesBlockQuest | triples2BNPL => simple_sub h
  | triples => exact (stepTriples_sub x env c rest).out h

theorem stepFn_sub_fail (hS : C.P.SubP) (k : Cont) (x : Ectx) (env : Env) (o : Out)
    (h : stepFn C .eof k x env .fail = .ok o) : SubL [0] o.inp := by
  rcases stepFn_fail (e := .eof) k x env with rfl | h' | ⟨_, h'⟩
  · injection h with h; subst h; exact fun _ hy => nomatch hy
  · rw [h'] at h; cases h
  · exact stepFn_sub_rune hS k x env 0 [] o (h' ▸ h)

/-- the buffer holds only runes on which the two white-space predicates agree -/
def OkB (C : Cfg) (sp' : Nat → Bool) (inp : List Nat) : Prop := ∀ y ∈ inp, C.isSpace y = sp' y

theorem skipWs_space (sp' : Nat → Bool) (e : End) : ∀ (b : Bool) (inp : List Nat), OkB C sp' inp →
    skipWs { C with isSpace := sp' } e b inp = skipWs C e b inp := by
  intro b inp
  induction inp generalizing b with
  | nil => intro _; cases b <;> rfl
  | cons a rest ih =>
    intro hok
    have hr : OkB C sp' rest := fun y hy => hok y (List.mem_cons_of_mem _ hy)
    have ha : isWs { C with isSpace := sp' } a = isWs C a := by
      simp only [isWs]; rw [← hok a List.mem_cons_self]
    cases b with
    | true => simp only [skipWs, ih _ hr]
    | false => simp only [skipWs, ih _ hr, ha]

theorem skipWs_mem (e : End) : ∀ (b : Bool) (inp : List Nat) (c : Nat) (rest : List Nat),
    skipWs C e b inp = .rune c rest → ∀ y ∈ c :: rest, y ∈ inp := by
  intro b inp
  induction inp generalizing b with
  | nil => intro c rest h; cases b <;> simp [skipWs] at h; cases e <;> simp at h
  | cons a r ih =>
    intro c rest h y hy
    cases b with
    | true =>
      unfold skipWs at h
      split at h <;> exact List.mem_cons_of_mem _ (ih _ _ _ h y hy)
    | false =>
      unfold skipWs at h
      split at h
      · exact List.mem_cons_of_mem _ (ih _ _ _ h y hy)
      · split at h
        · exact List.mem_cons_of_mem _ (ih _ _ _ h y hy)
        · injection h with h1 h2; subst h1; subst h2; exact hy

theorem kwFallback_space (sp' : Nat → Bool) (e : End) (x : Ectx) (env : Env) (inp : List Nat) :
    kwFallback { C with isSpace := sp' } e x env inp = kwFallback C e x env inp := rfl

theorem okB_of_subL {sp' : Nat → Bool} (hd : C.isSpace 0x2e = sp' 0x2e) {i r : List Nat} (hok : OkB C sp' i)
    (h : SubL i r) : OkB C sp' r := by
  intro y hy
  rcases h y hy with h1 | h1
  · exact hok y h1
  · subst h1; exact hd

theorem stepKwBase_space (sp' : Nat → Bool) (hd : C.isSpace 0x2e = sp' 0x2e) (e : End) (x : Ectx) (env : Env) (c : Nat)
    (rest : List Nat) (hok : OkB C sp' rest) :
    stepKwBase { C with isSpace := sp' } e x env c rest = stepKwBase C e x env c rest := by
  simp only [stepKwBase, kwFallback_space]
  cases hm : matchKw (kwCI "ASE") rest with
  | eoi => rfl
  | mismatch => rfl
  | ok r =>
    cases r with
    | nil => rfl
    | cons r4 rest4 =>
      have : C.isSpace r4 = sp' r4 := okB_of_subL hd hok (SubL.of_suffix (matchKw_suffix _ _ _ hm)) r4 List.mem_cons_self
      simp only [this]

theorem stepKwSpace_space (sp' : Nat → Bool) (hd : C.isSpace 0x2e = sp' 0x2e) (e : End) (x : Ectx) (env : Env)
    (kw : List (Nat × Nat)) (k : Cont) (c : Nat) (rest : List Nat) (hok : OkB C sp' rest) :
    stepKwSpace { C with isSpace := sp' } e x env kw k c rest = stepKwSpace C e x env kw k c rest := by
  simp only [stepKwSpace, kwFallback_space]
  cases hm : matchKw kw rest with
  | eoi => rfl
  | mismatch => rfl
  | ok r =>
    cases r with
    | nil => rfl
    | cons r6 rest6 =>
      have : C.isSpace r6 = sp' r6 := okB_of_subL hd hok (SubL.of_suffix (matchKw_suffix _ _ _ hm)) r6 List.mem_cons_self
      simp only [this]

theorem stepPOL_space (sp' : Nat → Bool) (e : End) (x : Ectx) (env : Env) (c : Nat) (rest : List Nat)
    (hok : OkB C sp' rest) :
    stepPOL { C with isSpace := sp' } e x env c rest = stepPOL C e x env c rest := by
  cases rest with
  | nil => rfl
  | cons r1 rest1 =>
    have : C.isSpace r1 = sp' r1 := hok r1 List.mem_cons_self
    simp only [stepPOL, this]
    rfl

theorem stepFn_space (sp' : Nat → Bool) (hd : C.isSpace 0x2e = sp' 0x2e) (e : End) (k : Cont) (x : Ectx) (env : Env)
    (a : Arg) (hok : ∀ c rest, a = .rune c rest → OkB C sp' rest) :
    stepFn { C with isSpace := sp' } e k x env a = stepFn C e k x env a := by
  cases k with
  | statement =>
    cases a with
    | fail => rfl
    | rune c rest =>
      have hr := hok c rest rfl
      simp only [stepFn, stepStatementRune, stepKwBase_space sp' hd e x env c rest hr,
        stepKwSpace_space sp' hd e x env _ _ c rest hr]
      rfl
  | pol =>
    cases a with
    | fail => rfl
    | rune c rest => simp only [stepFn, stepPOL_space sp' e x env c rest (hok c rest rfl)]
  | polRequired =>
    cases a with
    | fail => rfl
    | rune c rest => simp only [stepFn, stepPOL_space sp' e x env c rest (hok c rest rfl)]
  | _ => rfl

theorem scanFn_space (sp' : Nat → Bool) (hd : C.isSpace 0x2e = sp' 0x2e) (e : End) (f : Frame) (inp : List Nat) (env : Env)
    (hok : OkB C sp' inp) : scanFn { C with isSpace := sp' } e f inp env = scanFn C e f inp env := by
  unfold scanFn
  rw [skipWs_space sp' e false inp hok]
  cases hs : skipWs C e false inp with
  | commentIo => rfl
  | end_ => exact stepFn_space sp' hd e f.k f.x env .fail (fun c rest h => by cases h)
  | rune c rest =>
    refine stepFn_space sp' hd e f.k f.x env _ (fun c' rest' h => ?_)
    injection h with h1 h2; subst h1; subst h2
    exact fun y hy => hok y (skipWs_mem e _ _ _ _ hs y (List.mem_cons_of_mem _ hy))

theorem scanFn_okB (hS : C.P.SubP) (sp' : Nat → Bool) (hd : C.isSpace 0x2e = sp' 0x2e) (h0 : C.isSpace 0 = sp' 0)
    (f : Frame) (inp : List Nat) (env : Env) (o : Out) (hok : OkB C sp' inp)
    (h : scanFn C .eof f inp env = .ok o) : OkB C sp' o.inp := by
  unfold scanFn at h
  cases hs : skipWs C .eof false inp with
  | commentIo => rw [hs] at h; cases h
  | end_ =>
    rw [hs] at h; simp only [] at h
    exact okB_of_subL hd (fun y hy => by rw [List.mem_singleton.mp hy]; exact h0) (stepFn_sub_fail hS f.k f.x env o h)
  | rune c rest =>
    rw [hs] at h; simp only [] at h
    exact okB_of_subL hd (fun y hy => hok y (skipWs_mem .eof _ _ _ _ hs y hy)) (stepFn_sub_rune hS f.k f.x env c rest o h)

theorem nextLoop_space (hS : C.P.SubP) (sp' : Nat → Bool) (hd : C.isSpace 0x2e = sp' 0x2e) (h0 : C.isSpace 0 = sp' 0) :
    ∀ (fuel : Nat) (cur : Option Frame) (st : St), OkB C sp' st.inp →
      nextLoop { C with isSpace := sp' } .eof fuel cur st = nextLoop C .eof fuel cur st ∧
      ∀ st', nextLoop C .eof fuel cur st = .yes st' → OkB C sp' st'.inp := by
  intro fuel
  induction fuel with
  | zero => intro cur st _; exact ⟨rfl, fun st' h => by simp [nextLoop] at h⟩
  | succ n ih =>
    intro cur st hok
    rw [nextLoop, nextLoop]
    split
    · exact ⟨rfl, fun st' h => by cases h⟩
    · split
      · refine ⟨rfl, fun st' h => ?_⟩
        injection h with h; subst h
        cases cur <;> exact hok
      · cases hp : popFrame cur st with
        | none => exact ⟨rfl, fun st' h => by cases h⟩
        | some p =>
          obtain ⟨f, st1⟩ := p
          obtain ⟨_, _, h1⟩ := popFrame_iff.1 hp
          have hok1 : OkB C sp' st1.inp := h1 ▸ hok
          have hsc : scan { C with isSpace := sp' } .eof f st1 = scan C .eof f st1 := by
            simp only [scan, scanFn_space sp' hd .eof f st1.inp st1.env hok1]
          simp only [hsc]
          cases hs : scan C .eof f st1 with
          | panic => exact ⟨rfl, fun st' h => by cases h⟩
          | err k => exact ih none { st1 with err := some k } hok1
          | ok cur' st2 =>
            refine ih cur' st2 ?_
            unfold scan at hs
            cases hf : scanFn C .eof f st1.inp st1.env with
            | panic => rw [hf] at hs; cases hs
            | err k => rw [hf] at hs; cases hs
            | ok o =>
              rw [hf] at hs; simp only [] at hs
              injection hs with _ h2; subst h2
              exact scanFn_okB hS sp' hd h0 f st1.inp st1.env o hok1 hf

theorem runLoop_space (hS : C.P.SubP) (sp' : Nat → Bool) (hd : C.isSpace 0x2e = sp' 0x2e) (h0 : C.isSpace 0 = sp' 0) :
    ∀ (n : Nat) (st : St), OkB C sp' st.inp →
      runLoop { C with isSpace := sp' } .eof n st = runLoop C .eof n st := by
  intro n
  induction n with
  | zero => intro st _; rfl
  | succ n ih =>
    intro st hok
    have hn := nextLoop_space hS sp' hd h0 (({ st with stmts := st.stmts.drop 1 } : St).cost + 1) none
      { st with stmts := st.stmts.drop 1 } hok
    have e1 : next { C with isSpace := sp' } .eof st = next C .eof st := hn.1
    unfold runLoop
    rw [e1]
    cases hx : next C .eof st with
    | panic => rfl
    | outOfFuel => rfl
    | no st' => rfl
    | yes st' =>
      simp only []
      have : OkB C sp' st'.inp := hn.2 st' hx
      rw [ih st' this]

theorem run_space_congr (hS : C.P.SubP) (sp' : Nat → Bool) (hd : C.isSpace 0x2e = sp' 0x2e) (h0 : C.isSpace 0 = sp' 0)
    (base : Option (List Nat)) (pf : List (List Nat × List Nat)) (inp : List Nat) (hok : OkB C sp' inp) :
    run { C with isSpace := sp' } .eof base pf inp = run C .eof base pf inp :=
  runLoop_space hS sp' hd h0 _ _ hok

end RdfModel.TtlDoc
