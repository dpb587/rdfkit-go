/-
  What an outcome of the context machinery can be, given what the outcomes of its callbacks can be. Both
  "never panics" and "never runs out of fuel, and `defined` only grows" are of the form `Res.Sat D pn fl`;
  every step of the algorithms either returns the state it was given, conses an entry onto `defined`,
  changes the context, or hands on what a callback answered, so one walk through each function (for
  arbitrary `D` closed under consing, `pn` and `fl`) serves both.
-/
import RdfModel.Model.JsonLdContext
namespace RdfModel.JLC
open RdfModel RdfModel.JL
variable {P : Type}

/-- an `ok` or `err` outcome carries a state whose `defined` satisfies `D`; `panic` is possible only if `pn`,
    `fuel` only if `fl`; `unmodelled` is unconstrained -/
def Res.Sat {α : Type} (D : List (Str × Bool) → Prop) (pn fl : Prop) : Res P α → Prop
  | .ok _ s => D s.defined
  | .err _ s => D s.defined
  | .panic => pn
  | .fuel => fl
  | .unmodelled => True

/-- the same for an outcome without a state: `panic` only if `pn`, `fuel` only if `fl` -/
def Out.Sat {α : Type} (pn fl : Prop) : Out α → Prop
  | .panic => pn
  | .fuel => fl
  | _ => True

structure OpsTotal (ops : IriOps P) : Prop where
  parse : ∀ s, ops.parse s ≠ .panic
  resolve : ∀ b r, ops.resolve b r ≠ none
  goAbs : ∀ s, ops.goAbs s ≠ .panic

section Sat
variable {D : List (Str × Bool) → Prop} {pn fl : Prop}

theorem Res.Sat.bind {α β : Type} {r : Res P α} {f : α → St P → Res P β}
    (hr : r.Sat D pn fl) (hf : ∀ a s, D s.defined → (f a s).Sat D pn fl) : (r.bind f).Sat D pn fl := by
  cases r <;> first | exact hf _ _ hr | exact hr

theorem Res.Sat.ite {α : Type} {c : Prop} [Decidable c] {a b : Res P α}
    (ha : c → a.Sat D pn fl) (hb : ¬c → b.Sat D pn fl) : (if c then a else b).Sat D pn fl := by
  split
  · exact ha ‹_›
  · exact hb ‹_›

theorem Res.Sat.mono {α : Type} {D' : List (Str × Bool) → Prop} (h : ∀ d, D d → D' d) {r : Res P α}
    (hr : r.Sat D pn fl) : r.Sat D' pn fl := by
  cases r <;> first | exact h _ hr | exact hr

theorem Out.Sat.ite {α : Type} {c : Prop} [Decidable c] {a b : Out α}
    (ha : c → a.Sat pn fl) (hb : ¬c → b.Sat pn fl) : (if c then a else b).Sat pn fl := by
  split
  · exact ha ‹_›
  · exact hb ‹_›

theorem Res.Sat.of_panic {α : Type} {r : Res P α} (h : r.Sat D pn fl) (e : r = .panic) : pn := by
  rw [e] at h; exact h

theorem Res.Sat.of_fuel {α : Type} {r : Res P α} (h : r.Sat D pn fl) (e : r = .fuel) : fl := by
  rw [e] at h; exact h

theorem Out.Sat.of_panic {α : Type} {r : Out α} (h : r.Sat pn fl) (e : r = .panic) : pn := by
  rw [e] at h; exact h

theorem Out.Sat.of_fuel {α : Type} {r : Out α} (h : r.Sat pn fl) (e : r = .fuel) : fl := by
  rw [e] at h; exact h

theorem Out.Sat.bind {α β : Type} {r : Out α} {f : α → Out β}
    (hr : r.Sat pn fl) (hf : ∀ a, (f a).Sat pn fl) : (r.bind f).Sat pn fl := by
  cases r <;> first | exact hf _ | exact hr

theorem expandTail_sat {ops : IriOps P} (ht : pn ∨ OpsTotal ops) (c : Core P) (st : St P) (s : Str) (d v : Bool)
    (hst : D st.defined) : (expandTail ops c st s d v).Sat D pn fl := by
  unfold expandTail
  split
  · exact hst
  · exact hst
  · split
    · split
      · split
        · exact hst
        · exact ht.elim id fun t => absurd ‹_› (t.resolve _ _)
      · exact hst
      · trivial
      · exact ht.elim id fun t => absurd ‹_› (t.parse _)
    · exact hst

theorem suppressCyclic_sat (keep : St P → Bool) {r : Res P Unit} (h : r.Sat D pn fl) :
    (suppressCyclic keep r).Sat D pn fl := by
  unfold suppressCyclic
  split
  · exact .ite (fun _ => h) fun _ => h
  · exact h

theorem iriExpandRest_sat {ops : IriOps P} (ht : pn ∨ OpsTotal ops) (ctdCb : St P → Str → Res P Unit)
    (loc : Option (List (Str × Json)))
    (hc : ∀ st t ms, loc = some ms → hasKey t ms = true → D st.defined → (ctdCb st t).Sat D pn fl)
    (st : St P) (s : Str) (d v : Bool) (hst : D st.defined) : (iriExpandRest ops ctdCb loc st s d v).Sat D pn fl := by
  unfold iriExpandRest
  split
  · refine .ite (fun _ => hst) fun _ => .ite (fun _ => hst) fun _ => .bind ?_ fun _ _ hs => ?_
    · split
      · refine .ite (fun h => suppressCyclic_sat _ (hc _ _ _ rfl ?_ hst)) fun _ => hst
        simp only [Bool.and_eq_true] at h
        exact h.1
      · exact hst
    · split
      · exact hs
      · exact .ite (fun _ => hs) fun _ => expandTail_sat ht _ _ _ _ _ hs
  · exact expandTail_sat ht _ _ _ _ _ hst

theorem iriExpandBody_sat {ops : IriOps P} (ht : pn ∨ OpsTotal ops) (ctdCb : St P → Str → Res P Unit)
    (loc : Option (List (Str × Json)))
    (hc : ∀ st t ms, loc = some ms → hasKey t ms = true → D st.defined → (ctdCb st t).Sat D pn fl)
    (st : St P) (s : Str) (d v : Bool) (hst : D st.defined) : (iriExpandBody ops ctdCb loc st s d v).Sat D pn fl := by
  unfold iriExpandBody
  refine .ite (fun _ => hst) fun _ => .ite (fun _ => hst) fun _ => .bind ?_ fun _ s' hs => ?_
  · split
    · refine .ite (fun h => suppressCyclic_sat _ (hc _ _ _ rfl ?_ hst)) fun _ => hst
      simp only [Bool.and_eq_true] at h
      exact h.1
    · exact hst
  · have hr := iriExpandRest_sat ht ctdCb loc hc s' s d v hs
    split
    · split
      · exact hs
      · exact hs
      · exact .ite (fun _ => hs) fun _ => hr
    · exact hr


section ctd
variable (hD : ∀ t v d, D d → D ((t, v) :: d)) (mode : Mode) {expand : St P → Str → Bool → Res P SIri}
  (he : ∀ st s v, D st.defined → (expand st s v).Sat D pn fl)
include he

theorem typeStep_sat (vo : List (Str × Json)) (st : St P) (hst : D st.defined) :
    (typeStep mode expand vo st).Sat D pn fl := by
  unfold typeStep
  split
  · exact hst
  · refine .bind (he _ _ _ hst) fun e s hs => ?_
    split
    · exact .ite (fun _ => hs) fun _ => .ite (fun _ => hs) fun _ => hs
    · exact .ite (fun _ => hs) fun _ => hs
    · exact hs
  · exact hst

theorem indexExpand_sat (v : Json) (st : St P) (hst : D st.defined) : (indexExpand mode expand v st).Sat D pn fl := by
  unfold indexExpand
  split
  · refine .bind (he _ _ _ hst) fun e s hs => ?_
    split
    · exact .ite (fun _ => hs) fun _ => hs
    · exact hs
  · exact hst

include hD

theorem reverseStep_sat (term : Str) (vo : List (Str × Json)) (rv : Json) (prot : Bool)
    (tm : Option SIri × Option Str) (st : St P) (hst : D st.defined) :
    (reverseStep mode expand term vo rv prot tm st).Sat D pn fl := by
  unfold reverseStep
  refine .ite (fun _ => hst) fun _ => .ite (fun _ => hst) fun _ => ?_
  split
  · refine .ite (fun _ => hst) fun _ => .bind (he _ _ _ hst) fun e s hs => .ite (fun _ => hs) fun _ => ?_
    dsimp only
    split
    · exact hs
    · split
      · exact hD _ _ _ hs
      · exact .bind (indexExpand_sat mode he _ _ (hD _ _ _ hs)) fun _ _ h => h
  · exact hst

theorem iriStep_sat (ctdCb : St P → Str → Res P Unit) (loc : List (Str × Json))
    (hc : ∀ st t, hasKey t loc = true → D st.defined → (ctdCb st t).Sat D pn fl)
    (term : Str) (vo : List (Str × Json)) (simple : Bool) (tm : Option SIri) (st : St P) (hst : D st.defined) :
    (iriStep mode expand ctdCb loc term vo simple tm st).Sat D pn fl := by
  unfold iriStep
  dsimp only
  split
  · exact hst
  · refine .ite (fun _ => hst) fun _ => .bind (he _ _ _ hst) fun e s hs => ?_
    split
    · exact hs
    · exact .bind (.ite (fun _ => .ite (fun _ => .bind (he _ _ _ (hD _ _ _ hs)) fun _ _ h => .ite (fun _ => h) fun _ => h)
        fun _ => hD _ _ _ hs) fun _ => hs) fun _ _ h => h
  · exact hst
  · split
    · refine .bind (.ite (fun hk => hc _ _ hk hst) fun _ => hst) fun _ s hs => ?_
      split
      · split <;> exact hs
      · exact .ite (fun _ => hs) fun _ => hs
    · refine .ite (fun _ => .bind (he _ _ _ hst) fun e s hs => ?_) fun _ => .ite (fun _ => hst) fun _ => ?_
      · split <;> exact hs
      · split <;> exact hst

end ctd

/-- the scoped contexts Create Term Definition validates for `term`: the `@context` entry of its value -/
def ScopedOf (loc : List (Str × Json)) (term : Str) (j : Json) : Prop :=
  ∃ value vo simple, getKey term loc = some value ∧ normalizeValue value = .ok (vo, simple) ∧ getKey kContext vo = some j

theorem ctdBody_sat {D' : List (Str × Bool) → Prop} (hD' : ∀ t v d, D' d → D' ((t, v) :: d)) (hDD : ∀ d, D' d → D d)
    (mode : Mode) (expand : St P → Str → Bool → Res P SIri) (ctdCb : St P → Str → Res P Unit)
    (nested : Context P → Json → Out (Context P)) (loc : List (Str × Json)) (st : St P) (term : Str)
    (hst : D st.defined) (hst' : mget term st.defined = none → D' ((term, false) :: st.defined))
    (he : mget term st.defined = none → ∀ s x v, D' s.defined → (expand s x v).Sat D' pn fl)
    (hc : mget term st.defined = none → ∀ s t, hasKey t loc = true → D' s.defined → (ctdCb s t).Sat D' pn fl)
    (hn : ∀ c j, ScopedOf loc term j → (nested c j).Sat pn fl)
    (hk : getKey term loc = none → pn) (baseStr : Option Str) (prot ov : Bool) :
    (ctdBody mode expand ctdCb nested loc st term baseStr prot ov).Sat D pn fl := by
  unfold ctdBody
  split
  · exact hst
  · exact hst
  rename_i hnone
  replace he := he hnone
  have h0 := hst' hnone
  refine .ite (fun _ => hst) fun _ => ?_
  dsimp only
  split
  · exact hk ‹_›
  rename_i value hv
  refine .mono hDD ?_
  split
  · exact h0
  · exact h0
  split
  · exact h0
  rename_i vo simple hnv
  split
  · exact h0
  refine .bind (typeStep_sat mode he _ _ h0) fun tm s1 h1 => ?_
  split
  · exact reverseStep_sat hD' mode he _ _ _ _ _ _ h1
  refine .bind (iriStep_sat hD' mode he ctdCb loc (hc hnone) _ _ _ _ _ h1) fun ip s2 h2 => ?_
  split
  · exact h2
  split
  · exact h2
  split
  · exact h2
  refine .bind ?_ fun index s3 h3 => .bind ?_ fun cx s4 h4 => ?_
  · split
    · exact h2
    · exact .ite (fun _ => h2) fun _ => .ite (fun _ => h2) fun _ => .bind (indexExpand_sat mode he _ _ h2) fun _ _ h => h
  · split
    · exact h3
    · refine .ite (fun _ => h3) fun _ => ?_
      have := hn s3.ctx _ ⟨value, vo, simple, hv, hnv, ‹_›⟩
      split
      · exact h3
      · exact h3
      · exact this.of_panic ‹_›
      · trivial
      · exact this.of_fuel ‹_›
  · split
    · exact h4
    · split
      · exact h4
      · exact hD' _ _ _ h4

theorem hasKey_of_mem_keys (k : Str) (ms : List (Str × Json)) (h : k ∈ ms.map (·.1)) : hasKey k ms = true := by
  simp only [hasKey, List.any_eq_true]
  simp only [List.mem_map] at h
  obtain ⟨m, hm, rfl⟩ := h
  exact ⟨m, hm, by simp⟩

theorem foldl_keys_sat (f : St P → Str → Res P Unit) :
    ∀ (keys : List Str) (acc : Res P Unit), acc.Sat D pn fl → (∀ st k, k ∈ keys → D st.defined → (f st k).Sat D pn fl) →
      (keys.foldl (fun acc key => acc.bind fun _ st => f st key) acc).Sat D pn fl
  | [], _, ha, _ => ha
  | k :: ks, _, ha, hf =>
    foldl_keys_sat f ks _ (ha.bind fun _ st hs => hf st k (List.mem_cons_self ..) hs)
      fun st k' hk' => hf st k' (List.mem_cons_of_mem _ hk')

theorem foldl_items_sat (f : Context P → Json → Out (Context P)) :
    ∀ (items : List Json) (acc : Out (Context P)), acc.Sat pn fl → (∀ c j, j ∈ items → (f c j).Sat pn fl) →
      (items.foldl (fun acc item => acc.bind fun result => f result item) acc).Sat pn fl
  | [], _, ha, _ => ha
  | x :: xs, _, ha, hf =>
    foldl_items_sat f xs _ (ha.bind fun c => hf c x (List.mem_cons_self ..)) fun c j hj => hf c j (List.mem_cons_of_mem _ hj)

theorem termsStep_sat (ctdCb : St P → Str → Bool → Res P Unit) (ms : List (Str × Json))
    (hc : ∀ st t b, hasKey t ms = true → (ctdCb st t b).Sat (fun _ => True) pn fl) (result : Context P) :
    (termsStep ctdCb result ms).Sat pn fl := by
  unfold termsStep
  dsimp only
  have h := fun cp => foldl_keys_sat (D := fun _ => True) (pn := pn) (fl := fl) (fun st key => ctdCb st key cp)
    (termKeys ms) (.ok () { ctx := result, defined := [] }) trivial
    fun st k hk _ => hc st k cp (hasKey_of_mem_keys k ms (List.mem_filter.mp hk).1)
  split
  · trivial
  · trivial
  · exact (h _).of_panic ‹_›
  · trivial
  · exact (h _).of_fuel ‹_›

theorem baseStep_sat {ops : IriOps P} (ht : pn ∨ OpsTotal ops) (result : Context P) (ms : List (Str × Json)) :
    (baseStep ops result ms).Sat pn fl := by
  unfold baseStep
  split
  · trivial
  · trivial
  · split
    · trivial
    · trivial
    · exact ht.elim id fun t => absurd ‹_› (t.parse _)
    · split
      · trivial
      · split
        · split
          · trivial
          · exact ht.elim id fun t => absurd ‹_› (t.resolve _ _)
        · trivial
  · trivial

theorem vocabStep_sat {ops : IriOps P} (ht : pn ∨ OpsTotal ops) (mode : Mode) (expandNoLocal : St P → Str → Res P SIri)
    (he : ∀ st s, (expandNoLocal st s).Sat (fun _ => True) pn fl) (result : Context P) (ms : List (Str × Json)) :
    (vocabStep ops mode expandNoLocal result ms).Sat pn fl := by
  unfold vocabStep
  split
  · trivial
  · trivial
  · refine .bind ?_ fun _ => ?_
    · unfold vocabPre
      split
      · split
        · trivial
        · trivial
        · trivial
        · exact ht.elim id fun t => absurd ‹_› (t.goAbs _)
      · trivial
    · have h := he { ctx := result, defined := [] } ‹_›
      split
      · trivial
      · trivial
      · trivial
      · trivial
      · trivial
      · exact h.of_panic ‹_›
      · trivial
      · exact h.of_fuel ‹_›
  · trivial

theorem processObj_sat {ops : IriOps P} (ht : pn ∨ OpsTotal ops) (mode : Mode)
    (expandNoLocal : St P → Str → Res P SIri) (ctdCb : St P → Str → Bool → Res P Unit)
    (he : ∀ st s, (expandNoLocal st s).Sat (fun _ => True) pn fl) (ms : List (Str × Json))
    (hc : ∀ st t b, hasKey t ms = true → (ctdCb st t b).Sat (fun _ => True) pn fl) (result : Context P) :
    (processObj ops mode expandNoLocal ctdCb result ms).Sat pn fl := by
  unfold processObj
  refine .bind ?_ fun _ => .bind ?_ fun _ => .bind (baseStep_sat ht _ _) fun _ => .bind (vocabStep_sat ht mode _ he _ _)
    fun _ => .bind ?_ fun _ => .bind ?_ fun _ => .bind ?_ fun _ => termsStep_sat _ _ hc _
  · unfold versionStep; dsimp only; repeat' split
    all_goals trivial
  · unfold importStep; repeat' split
    all_goals trivial
  · unfold langStep; split <;> trivial
  · unfold dirStep; repeat' split
    all_goals trivial
  · unfold propagateStep; repeat' split
    all_goals trivial

theorem processItem_sat {ops : IriOps P} (ht : pn ∨ OpsTotal ops) (mode : Mode)
    (expandNoLocal : St P → Str → Res P SIri) (ctdCb : List (Str × Json) → St P → Str → Bool → Res P Unit)
    (he : ∀ st s, (expandNoLocal st s).Sat (fun _ => True) pn fl) (item : Json)
    (hc : ∀ ms, item = .obj ms → ∀ st t b, hasKey t ms = true → (ctdCb ms st t b).Sat (fun _ => True) pn fl)
    (active : Context P) (ov pr : Bool) (result : Context P) :
    (processItem ops mode expandNoLocal ctdCb active ov pr result item).Sat pn fl := by
  unfold processItem
  split
  · split <;> trivial
  · trivial
  · exact processObj_sat ht mode _ _ he _ (hc _ rfl) _
  · trivial

/-- A copy of the first `let` of `processBody`; `processBody_sat` meets it after `unfold processBody`. -/
def itemsOf : Json → List Json
  | .arr xs => xs
  | x => [x]

theorem processBody_sat {ops : IriOps P} (ht : pn ∨ OpsTotal ops) (mode : Mode)
    (expandNoLocal : St P → Str → Res P SIri) (ctdCb : List (Str × Json) → St P → Str → Bool → Res P Unit)
    (he : ∀ st s, (expandNoLocal st s).Sat (fun _ => True) pn fl) (loc : Json)
    (hc : ∀ ms, Json.obj ms ∈ itemsOf loc → ∀ st t b, hasKey t ms = true → (ctdCb ms st t b).Sat (fun _ => True) pn fl)
    (active : Context P) (ov pr : Bool) :
    (processBody ops mode expandNoLocal ctdCb active loc ov pr).Sat pn fl := by
  unfold processBody
  exact .ite (fun _ => trivial) fun _ => foldl_items_sat _ _ _ trivial fun c j (hj : j ∈ itemsOf loc) =>
    processItem_sat ht mode _ _ he j (fun ms hms => hc ms (hms ▸ hj)) _ _ _ c

theorem iriExpand_sat {ops : IriOps P} (mode : Mode) (c : Context P) (v : Json) (d vo : Bool)
    (h : ∀ s, (iriExpandStr ops mode 1 none { ctx := c, defined := [] } s d vo).Sat D pn fl) :
    (iriExpand ops mode c v d vo).Sat pn fl := by
  unfold iriExpand
  split
  · trivial
  · have := h ‹_›
    split
    · trivial
    · trivial
    · exact this.of_panic ‹_›
    · trivial
    · exact this.of_fuel ‹_›
  · trivial

end Sat

def Res.NoPanic {α : Type} : Res P α → Prop
  | .panic => False
  | _ => True

@[simp] theorem Res.noPanic_ok {α : Type} (a : α) (s : St P) : (Res.ok a s).NoPanic := trivial
@[simp] theorem Res.noPanic_err {α : Type} (e : Err) (s : St P) : (Res.err e s : Res P α).NoPanic := trivial
@[simp] theorem Res.noPanic_unmodelled {α : Type} : (Res.unmodelled : Res P α).NoPanic := trivial
@[simp] theorem Res.noPanic_fuel {α : Type} : (Res.fuel : Res P α).NoPanic := trivial
@[simp] theorem Res.noPanic_panic {α : Type} : (Res.panic : Res P α).NoPanic ↔ False := Iff.rfl

theorem Res.ofExcept_noPanic {α : Type} (s : St P) (e : Except Err α) : (Res.ofExcept s e).NoPanic := by
  cases e <;> trivial

theorem getKey_of_hasKey (k : Str) : ∀ (ms : List (Str × Json)), hasKey k ms = true → getKey k ms ≠ none
  | [], h => by simp [hasKey] at h
  | (k', v) :: ms, h => by
    unfold getKey
    split
    · simp
    · rename_i hne
      apply getKey_of_hasKey k ms
      simp [hasKey] at h ⊢
      rcases h with h | h
      · exact absurd h hne
      · exact h

theorem all_noPanic {ops : IriOps P} (ht : OpsTotal ops) (mode : Mode) : ∀ (fuel : Nat),
    (∀ loc st s d v, (iriExpandStr ops mode fuel loc st s d v).Sat (fun _ => True) False True) ∧
    (∀ loc st term b p o, hasKey term loc = true →
      (ctd ops mode fuel loc st term b p o).Sat (fun _ => True) False True) ∧
    (∀ active loc b o p, (processCtx ops mode fuel active loc b o p).Sat False True)
  | 0 => ⟨fun _ _ _ _ _ => trivial, fun _ _ _ _ _ _ _ => trivial, fun _ _ _ _ _ => trivial⟩
  | fuel + 1 => by
    obtain ⟨h1, h2, h3⟩ := all_noPanic ht mode fuel
    refine ⟨fun loc st s d v => ?_, fun loc st term b p o hk => ?_, fun active loc b o p => ?_⟩
    · rw [iriExpandStr]
      refine iriExpandBody_sat (D := fun _ => True) (.inr ht) _ loc (fun st t ms hl hk _ => ?_) st s d v trivial
      subst hl
      exact h2 _ _ _ _ _ _ hk
    · rw [ctd]
      exact ctdBody_sat (D := fun _ => True) (D' := fun _ => True) (fun _ _ _ _ => trivial) (fun _ _ => trivial) mode _ _ _
        loc st term trivial (fun _ => trivial)
        (fun _ _ _ _ _ => h1 _ _ _ _ _) (fun _ _ _ hk _ => h2 _ _ _ _ _ _ hk) (fun _ _ _ => h3 _ _ _ _ _)
        (fun h => getKey_of_hasKey _ _ hk h) b p o
    · rw [processCtx]
      exact processBody_sat (.inr ht) mode _ _ (fun _ _ => h1 _ _ _ _ _) loc (fun _ _ _ _ _ hk => h2 _ _ _ _ _ _ hk) _ _ _

end RdfModel.JLC
