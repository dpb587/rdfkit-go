import RdfModel.Props.C13Defs
namespace RdfModel.Proofs.C13
open RdfModel.Prefix RdfModel.C13
open RdfModel.Spec.RFC3986Lite (Str)

theorem get_set (m : GoMap) (k v k' : Str) :
    (m.set k v).get k' = if k' = k then some v else m.get k' := by
  simp only [GoMap.get, GoMap.set, List.lookup_cons]
  by_cases h : k' = k
  · subst h; simp
  · have : (k' == k) = false := by simpa using h
    simp [this, h]

theorem get_del (m : GoMap) (k k' : Str) :
    (m.del k).get k' = if k' = k then none else m.get k' := by
  induction m with
  | nil => simp [GoMap.get, GoMap.del]
  | cons e es ih =>
    obtain ⟨a, b⟩ := e
    simp only [GoMap.get, GoMap.del] at ih ⊢
    by_cases hak : a = k
    · subst hak
      by_cases h : k' = a
      · subst h; simpa [List.filter_cons, List.lookup_cons] using ih
      · have hb : (k' == a) = false := by simpa using h
        simpa [List.filter_cons, List.lookup_cons, hb, h] using ih
    · have hne : (a != k) = true := by simpa using hak
      rw [List.filter_cons]
      simp only [hne, if_true, List.lookup_cons]
      by_cases h : k' = a
      · subst h; simp [hak]
      · have hb : (k' == a) = false := by simpa using h
        simpa [hb] using ih

/-- `cnt` is the loop's change counter (`added`, `deleted`) -/
theorem foldl_count_zero {σ α : Type} (f : σ → α → σ) (cnt : σ → Nat) (mono : ∀ s a, cnt s ≤ cnt (f s a))
    (zero : ∀ s a, cnt (f s a) = 0 → f s a = s) (l : List α) (s : σ) :
    cnt s ≤ cnt (l.foldl f s) ∧ (cnt (l.foldl f s) = 0 → l.foldl f s = s) := by
  induction l generalizing s with
  | nil => exact ⟨Nat.le_refl _, fun _ => rfl⟩
  | cons a l ih =>
    obtain ⟨h1, h2⟩ := ih (f s a)
    refine ⟨Nat.le_trans (mono s a) h1, fun h => ?_⟩
    rw [List.foldl_cons, h2 h, zero s a (Nat.le_zero.mp (h ▸ h1))]

/-- representation invariant without sortedness (holds inside the loop of AddPrefixMappings) -/
structure Inv0 (o : List Mapping) (m : GoMap) : Prop where
  nodup : (o.map (·.pfx)).Nodup
  agree : ∀ x : Mapping, x ∈ o ↔ m.get x.pfx = some x.expanded

theorem replaceFirst_map_pfx (m : Mapping) (o : List Mapping) :
    (replaceFirst m o).map (·.pfx) = o.map (·.pfx) := by
  induction o <;> simp_all [replaceFirst]
  split <;> simp_all

theorem mem_replaceFirst (m : Mapping) (o : List Mapping) (hnd : (o.map (·.pfx)).Nodup)
    (hin : m.pfx ∈ o.map (·.pfx)) (x : Mapping) :
    x ∈ replaceFirst m o ↔ x = m ∨ (x ∈ o ∧ x.pfx ≠ m.pfx) := by
  induction o with
  | nil => simp at hin
  | cons e es ih =>
    unfold replaceFirst
    have hnd' : e.pfx ∉ es.map (·.pfx) ∧ (es.map (·.pfx)).Nodup := List.nodup_cons.mp hnd
    split
    · next h =>
      -- e is the unique element with this prefix
      have hes : ∀ y ∈ es, y.pfx ≠ m.pfx := by
        intro y hy hyp
        exact hnd'.1 (by rw [h, ← hyp]; exact List.mem_map.mpr ⟨y, hy, rfl⟩)
      constructor
      · intro hx
        rcases List.mem_cons.mp hx with rfl | hx
        · exact Or.inl rfl
        · exact Or.inr ⟨List.mem_cons_of_mem _ hx, hes x hx⟩
      · rintro (rfl | ⟨hx, hne⟩)
        · exact List.mem_cons_self
        · rcases List.mem_cons.mp hx with rfl | hx
          · exact absurd h hne
          · exact List.mem_cons_of_mem _ hx
    · next h =>
      have hin' : m.pfx ∈ es.map (·.pfx) := by
        have hin0 : m.pfx ∈ e.pfx :: es.map (·.pfx) := hin
        rcases List.mem_cons.mp hin0 with h' | h'
        · exact absurd h'.symm h
        · exact h'
      have := ih hnd'.2 hin'
      constructor
      · intro hx
        rcases List.mem_cons.mp hx with rfl | hx
        · exact Or.inr ⟨List.mem_cons_self, h⟩
        · rcases this.mp hx with rfl | ⟨hx, hne⟩
          · exact Or.inl rfl
          · exact Or.inr ⟨List.mem_cons_of_mem _ hx, hne⟩
      · rintro (rfl | ⟨hx, hne⟩)
        · exact List.mem_cons_of_mem _ (this.mpr (Or.inl rfl))
        · rcases List.mem_cons.mp hx with rfl | hx
          · exact List.mem_cons_self
          · exact List.mem_cons_of_mem _ (this.mpr (Or.inr ⟨hx, hne⟩))

theorem addOne_get (s : AddSt) (m : Mapping) (k : Str) :
    (addOne s m).byPrefix.get k = if k = m.pfx then some m.expanded else s.byPrefix.get k := by
  unfold addOne
  split
  · next prev hp =>
    split
    · next he =>
      subst he
      by_cases h : k = m.pfx
      · subst h; simp [hp]
      · simp [h]
    · exact get_set _ _ _ _
  · exact get_set _ _ _ _

theorem agree_write {o o' : List Mapping} {g g' : GoMap} {m : Mapping}
    (ho : ∀ x, x ∈ o' ↔ x = m ∨ (x ∈ o ∧ x.pfx ≠ m.pfx))
    (hg : ∀ k, g'.get k = if k = m.pfx then some m.expanded else g.get k)
    (h : ∀ x : Mapping, x ∈ o ↔ g.get x.pfx = some x.expanded) (x : Mapping) :
    x ∈ o' ↔ g'.get x.pfx = some x.expanded := by
  rw [ho, hg]
  by_cases hx : x.pfx = m.pfx
  · simp only [hx, if_true, ne_eq, not_true, and_false, or_false, Option.some.injEq]
    constructor
    · rintro rfl; rfl
    · intro he; cases x; cases m; simp_all
  · simp only [hx, if_false, ne_eq, not_false_eq_true, and_true]
    rw [← h x]
    constructor
    · rintro (rfl | hx')
      · exact absurd rfl hx
      · exact hx'
    · exact Or.inr

theorem addOne_inv0 (s : AddSt) (m : Mapping) (h : Inv0 s.ordered s.byPrefix) :
    Inv0 (addOne s m).ordered (addOne s m).byPrefix := by
  have hget := addOne_get s m
  unfold addOne at hget ⊢
  split
  · next prev hp =>
    split
    · exact h
    · next hne =>
      simp only [hp, hne, if_false] at hget
      have hin : (⟨m.pfx, prev⟩ : Mapping) ∈ s.ordered := (h.agree ⟨m.pfx, prev⟩).mpr hp
      have hin' : m.pfx ∈ s.ordered.map (·.pfx) := List.mem_map.mpr ⟨_, hin, rfl⟩
      exact ⟨by simpa [replaceFirst_map_pfx] using h.nodup,
        agree_write (mem_replaceFirst m s.ordered h.nodup hin') hget h.agree⟩
  · next hp =>
    simp only [hp] at hget
    have hnin : m.pfx ∉ s.ordered.map (·.pfx) := by
      intro hin
      obtain ⟨y, hy, hyp⟩ := List.mem_map.mp hin
      have := (h.agree y).mp hy
      rw [hyp, hp] at this
      cases this
    refine ⟨?_, ?_⟩
    · show ((s.ordered ++ [m]).map (·.pfx)).Nodup
      rw [List.map_append, List.nodup_append]
      refine ⟨h.nodup, by simp, ?_⟩
      intro a ha b hb
      simp at hb
      subst hb
      intro hab
      exact hnin (hab ▸ ha)
    · refine agree_write (fun x => ?_) hget h.agree
      show x ∈ s.ordered ++ [m] ↔ _
      rw [List.mem_append, List.mem_singleton, or_comm]
      exact or_congr_right ⟨fun hx' => ⟨hx', fun e => hnin (e ▸ List.mem_map.mpr ⟨x, hx', rfl⟩)⟩, And.left⟩

theorem addOne_added_zero (s : AddSt) (m : Mapping) (h : (addOne s m).added = 0) : addOne s m = s := by
  unfold addOne at h ⊢
  split
  · split
    · rfl
    · next hp hne => simp [hp, hne] at h
  · next hp => simp [hp] at h

theorem addOne_added_mono (s : AddSt) (m : Mapping) : s.added ≤ (addOne s m).added := by
  unfold addOne
  split
  · split <;> simp
  · simp

theorem fold_inv0 (ms : List Mapping) (s : AddSt) (h : Inv0 s.ordered s.byPrefix) :
    Inv0 (ms.foldl addOne s).ordered (ms.foldl addOne s).byPrefix := by
  induction ms generalizing s with
  | nil => exact h
  | cons m ms ih => exact ih _ (addOne_inv0 s m h)

theorem fold_get (ms : List Mapping) (s : AddSt) (k : Str) :
    (ms.foldl addOne s).byPrefix.get k =
      match ms.reverse.find? (fun m => m.pfx == k) with
      | some m => some m.expanded
      | none => s.byPrefix.get k := by
  induction ms generalizing s with
  | nil => rfl
  | cons m ms ih =>
    simp only [List.foldl_cons, List.reverse_cons, List.find?_append]
    rw [ih]
    cases hf : ms.reverse.find? (fun m => m.pfx == k) with
    | some x => simp
    | none =>
      simp only [Option.none_or, List.find?_cons, List.find?_nil]
      rw [addOne_get]
      by_cases hk : k = m.pfx
      · subst hk; simp
      · have : (m.pfx == k) = false := by simpa using fun h => hk h.symm
        simp [this, hk]

theorem inv_inv0 {p : PM} (h : Inv p) : Inv0 p.ordered p.byPrefix := ⟨h.nodup, h.agree⟩

theorem add_inv (S : Sorter) (p : PM) (ms : List Mapping) (h : Inv p) : Inv (add S p ms) := by
  have h0 := fold_inv0 ms ⟨p.ordered, p.byPrefix, 0⟩ (inv_inv0 h)
  unfold add
  simp only
  split
  · next hz =>
    have := (foldl_count_zero addOne (·.added) addOne_added_mono addOne_added_zero ms ⟨p.ordered, p.byPrefix, 0⟩).2 hz
    rw [this]
    exact h
  · refine ⟨?_, S.sorted _, ?_⟩
    · exact ((S.perm _).map (·.pfx)).nodup_iff.mpr h0.nodup
    · intro x
      show x ∈ S.sort _ ↔ _
      rw [(S.perm _).mem_iff]
      exact h0.agree x

theorem add_get (S : Sorter) (p : PM) (ms : List Mapping) (k : Str) :
    (add S p ms).byPrefix.get k =
      match ms.reverse.find? (fun m => m.pfx == k) with
      | some m => some m.expanded
      | none => p.byPrefix.get k := by
  have := fold_get ms ⟨p.ordered, p.byPrefix, 0⟩ k
  unfold add
  simp only
  split <;> exact this

theorem empty_inv : Inv ⟨[], []⟩ :=
  ⟨by simp, by simp, by intro m; simp [GoMap.get]⟩

theorem new_inv (S : Sorter) (ms : List Mapping) : Inv (new S ms) := add_inv S _ ms empty_inv

theorem delOne_get (s : GoMap × Nat) (k k' : Str) :
    (delOne s k).1.get k' = if k' = k then none else s.1.get k' := by
  unfold delOne
  split
  · next h =>
    by_cases hk : k' = k
    · subst hk; simp [h]
    · simp [hk]
  · exact get_del _ _ _

theorem delFold_get (ks : List Str) (s : GoMap × Nat) (k' : Str) :
    (ks.foldl delOne s).1.get k' = if k' ∈ ks then none else s.1.get k' := by
  induction ks generalizing s with
  | nil => simp
  | cons k ks ih =>
    simp only [List.foldl_cons]
    rw [ih, delOne_get]
    by_cases h1 : k' ∈ ks
    · simp [h1]
    · by_cases h2 : k' = k
      · simp [h2]
      · simp [h1, h2]

theorem delOne_zero (s : GoMap × Nat) (k : Str) (h : (delOne s k).2 = 0) : delOne s k = s := by
  unfold delOne at h ⊢
  split
  · rfl
  · next hs => simp [hs] at h

theorem delOne_mono (s : GoMap × Nat) (k : Str) : s.2 ≤ (delOne s k).2 := by
  unfold delOne; split <;> simp

/-- number of entries of `o` whose prefix is still mapped -/
def live (o : List Mapping) (m : GoMap) : Nat := (o.filter (fun e => (m.get e.pfx).isSome)).length

theorem live_del (o : List Mapping) (m : GoMap) (k : Str) (hnd : (o.map (·.pfx)).Nodup)
    (hin : k ∈ o.map (·.pfx)) (hk : (m.get k).isSome) :
    live o (m.del k) + 1 = live o m := by
  induction o with
  | nil => simp at hin
  | cons e es ih =>
    have hnd' : e.pfx ∉ es.map (·.pfx) ∧ (es.map (·.pfx)).Nodup := List.nodup_cons.mp hnd
    unfold live at ih ⊢
    by_cases he : e.pfx = k
    · -- e is the entry; no other entry has this prefix
      have hes : ∀ y ∈ es, y.pfx ≠ k := by
        intro y hy hyk
        exact hnd'.1 (by rw [he, ← hyk]; exact List.mem_map.mpr ⟨y, hy, rfl⟩)
      have hsame : es.filter (fun e => ((m.del k).get e.pfx).isSome) = es.filter (fun e => (m.get e.pfx).isSome) := by
        apply List.filter_congr
        intro y hy
        rw [get_del]; simp [hes y hy]
      rw [List.filter_cons, List.filter_cons, hsame]
      have h1 : ((m.del k).get e.pfx).isSome = false := by rw [get_del]; simp [he]
      have h2 : (m.get e.pfx).isSome = true := by rw [he]; exact hk
      simp [h1, h2]
    · have hin' : k ∈ es.map (·.pfx) := by
        have hin0 : k ∈ e.pfx :: es.map (·.pfx) := hin
        rcases List.mem_cons.mp hin0 with h | h
        · exact absurd h.symm he
        · exact h
      have := ih hnd'.2 hin'
      rw [List.filter_cons, List.filter_cons]
      have h1 : ((m.del k).get e.pfx).isSome = (m.get e.pfx).isSome := by rw [get_del]; simp [he]
      rw [h1]
      split <;> simp_all <;> omega

/-- loop invariant of the first loop of DeletePrefixes: `deleted` plus the live entries is `len(ordered)` -/
theorem delFold_count (o : List Mapping) (m0 : GoMap) (h : Inv0 o m0) (ks : List Str) (s : GoMap × Nat)
    (hsub : ∀ k, s.1.get k = none ∨ s.1.get k = m0.get k) (hc : s.2 + live o s.1 = o.length) :
    (ks.foldl delOne s).2 + live o (ks.foldl delOne s).1 = o.length := by
  induction ks generalizing s with
  | nil => exact hc
  | cons k ks ih =>
    simp only [List.foldl_cons]
    apply ih
    · intro k'
      rw [delOne_get]
      by_cases hk : k' = k
      · simp [hk]
      · simpa [hk] using hsub k'
    · unfold delOne
      split
      · exact hc
      · next e hs =>
        have hm0 : m0.get k = some e := by
          rcases hsub k with h' | h'
          · rw [hs] at h'; cases h'
          · rw [← h', hs]
        have hin : k ∈ o.map (·.pfx) :=
          List.mem_map.mpr ⟨⟨k, e⟩, (h.agree ⟨k, e⟩).mpr hm0, rfl⟩
        have := live_del o s.1 k h.nodup hin (by rw [hs]; rfl)
        simp only
        omega

theorem live_full (o : List Mapping) (m : GoMap) (h : Inv0 o m) : live o m = o.length := by
  unfold live
  rw [List.filter_eq_self.mpr]
  intro x hx
  rw [(h.agree x).mp hx]; rfl

theorem delete_ok (p : PM) (ks : List Str) (h : Inv p) :
    ∃ p', delete p ks = some p' ∧ Inv p' ∧
      ∀ k, p'.byPrefix.get k = if k ∈ ks then none else p.byPrefix.get k := by
  have hget := delFold_get ks (p.byPrefix, 0)
  have hcount := delFold_count p.ordered p.byPrefix (inv_inv0 h) ks (p.byPrefix, 0)
    (fun k => Or.inr rfl) (by simp [live_full _ _ (inv_inv0 h)])
  unfold delete
  simp only
  split
  · next hz =>
    have := (foldl_count_zero delOne (·.2) delOne_mono delOne_zero ks (p.byPrefix, 0)).2 hz
    refine ⟨_, rfl, ?_, hget⟩
    rw [this]; exact h
  · split
    · next hlt => omega
    · refine ⟨_, rfl, ⟨?_, ?_, ?_⟩, hget⟩
      · exact List.Nodup.sublist (List.Sublist.map _ List.filter_sublist) h.nodup
      · exact h.sorted.filter _
      · intro x
        show x ∈ p.ordered.filter _ ↔ _
        rw [List.mem_filter, hget, h.agree x]
        by_cases hx : x.pfx ∈ ks
        · simp [hx]
        · simp only [hx, if_false]
          constructor
          · exact fun h' => h'.1
          · intro h'; exact ⟨h', by rw [h']; rfl⟩

/-- one call keeps the invariant and moves the table one entry along the history -/
theorem step_spec (S : Sorter) (p : PM) (op : Op) (h : Inv p) : ∃ p', step S p op = some p' ∧ Inv p' ∧
    ∀ older k, p.byPrefix.get k = lastWriteRev older k → p'.byPrefix.get k = lastWriteRev (op :: older) k := by
  cases op with
  | add ms => exact ⟨_, rfl, add_inv S p ms h, fun older k e => by rw [add_get, e]; rfl⟩
  | del ks =>
    obtain ⟨p', h1, h2, h3⟩ := delete_ok p ks h
    exact ⟨p', h1, h2, fun older k e => by rw [h3, e]; rfl⟩

theorem step_ok (S : Sorter) (p : PM) (op : Op) (h : Inv p) : ∃ p', step S p op = some p' ∧ Inv p' :=
  let ⟨p', h1, h2, _⟩ := step_spec S p op h
  ⟨p', h1, h2⟩

theorem snoc_induction {α : Type} {P : List α → Prop} (nil : P [])
    (snoc : ∀ l a, P l → P (l ++ [a])) : ∀ l, P l := by
  intro l
  have : ∀ r : List α, P r.reverse := by
    intro r
    induction r with
    | nil => exact nil
    | cons a r ih => simpa using snoc _ a ih
  simpa using this l.reverse

theorem run_snoc (S : Sorter) (init : List Mapping) (ops : List Op) (op : Op) :
    run S init (ops ++ [op]) = (run S init ops).bind (fun p => step S p op) := by
  simp [run, List.foldl_append]

theorem run_ok (S : Sorter) (init : List Mapping) (ops : List Op) :
    ∃ p, run S init ops = some p ∧ Inv p ∧ ∀ k, p.byPrefix.get k = lastWrite init ops k := by
  induction ops using snoc_induction with
  | nil =>
    -- `NewPrefixManager(init)` is `AddPrefixMappings(init)` on the empty manager
    obtain ⟨p, h1, h2, h3⟩ := step_spec S ⟨[], []⟩ (.add init) empty_inv
    exact ⟨p, h1, h2, fun k => h3 [] k rfl⟩
  | snoc ops op ih =>
    obtain ⟨p, hp, hinv, htab⟩ := ih
    obtain ⟨p', h1, h2, h3⟩ := step_spec S p op hinv
    refine ⟨p', by rw [run_snoc, hp]; exact h1, h2, fun k => ?_⟩
    rw [lastWrite, List.reverse_append]
    exact h3 _ k (htab k)

theorem run_inv (S : Sorter) (init : List Mapping) (ops : List Op) (p : PM) (h : run S init ops = some p) : Inv p := by
  obtain ⟨p', h1, h2, _⟩ := run_ok S init ops
  rw [h] at h1; cases h1; exact h2

theorem storeRun_snoc (S : Sorter) (ops : List StoreOp) (op : StoreOp) :
    storeRun S (ops ++ [op]) = (storeRun S ops).bind (fun st => storeStep S st op) := by
  simp [storeRun, List.foldl_append]

theorem histories_snoc (ops : List StoreOp) (op : StoreOp) :
    histories (ops ++ [op]) = histStep (histories ops) op := by
  simp [histories, List.foldl_append]

/-- store and per-handle histories are aligned: every manager is what its own history produces -/
def Aligned (S : Sorter) (st : List PM) (hs : List (List Mapping × List Op)) : Prop :=
  hs.map (fun h => run S h.1 h.2) = st.map some

theorem Aligned.none {S : Sorter} {st : List PM} {hs : List (List Mapping × List Op)} (h : Aligned S st hs)
    {j : Nat} (hj : st[j]? = none) : hs[j]? = none := by
  simpa [hj] using congrArg (·[j]?) h

theorem Aligned.some {S : Sorter} {st : List PM} {hs : List (List Mapping × List Op)} (h : Aligned S st hs)
    {j : Nat} {p : PM} (hj : st[j]? = some p) : ∃ init o, hs[j]? = some (init, o) ∧ run S init o = some p := by
  have := congrArg (·[j]?) h
  simp only [List.getElem?_map, hj, Option.map_some] at this
  obtain ⟨⟨init, o⟩, h1, h2⟩ := Option.map_eq_some_iff.mp this
  exact ⟨init, o, h1, h2⟩

theorem aligned_append (S : Sorter) (st : List PM) (hs : List (List Mapping × List Op)) (h : Aligned S st hs)
    (p : PM) (init : List Mapping) (o : List Op) (hr : run S init o = some p) :
    Aligned S (st ++ [p]) (hs ++ [(init, o)]) := by
  simp only [Aligned, List.map_append, List.map_cons, List.map_nil, hr] at h ⊢
  rw [h]

theorem aligned_set (S : Sorter) (st : List PM) (hs : List (List Mapping × List Op)) (h : Aligned S st hs)
    (j : Nat) (p : PM) (init : List Mapping) (o : List Op) (hr : run S init o = some p) :
    Aligned S (st.set j p) (hs.set j (init, o)) := by
  simp only [Aligned, List.map_set, hr] at h ⊢
  rw [h]

theorem store_step_aligned (S : Sorter) (st : List PM) (hs : List (List Mapping × List Op))
    (h : Aligned S st hs) (op : StoreOp) :
    ∃ st', storeStep S st op = some st' ∧ Aligned S st' (histStep hs op) := by
  cases op with
  | new ms => exact ⟨_, rfl, aligned_append S st hs h _ ms [] rfl⟩
  | clone j =>
    cases hj : st[j]? with
    | none => simp only [storeStep, histStep, hj, h.none hj]; exact ⟨st, rfl, h⟩
    | some p =>
      obtain ⟨a, b, h1, h2⟩ := h.some hj
      simp only [storeStep, histStep, hj, h1]
      exact ⟨_, rfl, aligned_append S st hs h _ a b h2⟩
  | add j ms =>
    cases hj : st[j]? with
    | none => simp only [storeStep, histStep, hj, h.none hj]; exact ⟨st, rfl, h⟩
    | some p =>
      obtain ⟨a, b, h1, h2⟩ := h.some hj
      simp only [storeStep, histStep, hj, h1]
      refine ⟨_, rfl, aligned_set S st hs h j _ a (b ++ [.add ms]) ?_⟩
      rw [run_snoc, h2]; rfl
  | del j ks =>
    cases hj : st[j]? with
    | none => simp only [storeStep, histStep, hj, h.none hj]; exact ⟨st, rfl, h⟩
    | some p =>
      obtain ⟨a, b, h1, h2⟩ := h.some hj
      obtain ⟨p', hd, _, _⟩ := delete_ok p ks (run_inv S a b p h2)
      simp only [storeStep, histStep, hj, h1, hd, Option.map_some]
      refine ⟨_, rfl, aligned_set S st hs h j _ a (b ++ [.del ks]) ?_⟩
      rw [run_snoc, h2]; exact hd

theorem store_ok (S : Sorter) (ops : List StoreOp) :
    ∃ st, storeRun S ops = some st ∧ Aligned S st (histories ops) := by
  induction ops using snoc_induction with
  | nil => exact ⟨[], rfl, rfl⟩
  | snoc ops op ih =>
    obtain ⟨st, h1, h2⟩ := ih
    obtain ⟨st', h3, h4⟩ := store_step_aligned S st (histories ops) h2 op
    exact ⟨st', by rw [storeRun_snoc, h1]; exact h3, by rw [histories_snoc]; exact h4⟩

theorem store_step_other (S : Sorter) (st st' : List PM) (op : StoreOp) (h : storeStep S st op = some st')
    (i : Nat) (hi : i < st.length) (hne : op.target ≠ some i) : st'[i]? = st[i]? := by
  cases op with
  | new ms => simp only [storeStep, Option.some.injEq] at h; subst h; exact List.getElem?_append_left hi
  | clone j =>
    simp only [storeStep] at h
    split at h <;> (simp only [Option.some.injEq] at h; subst h)
    · exact List.getElem?_append_left hi
    · rfl
  | add j ms =>
    have hji : j ≠ i := fun e => hne (by simp [StoreOp.target, e])
    simp only [storeStep] at h
    split at h <;> (simp only [Option.some.injEq] at h; subst h)
    · rw [List.getElem?_set]; simp [hji]
    · rfl
  | del j ks =>
    have hji : j ≠ i := fun e => hne (by simp [StoreOp.target, e])
    simp only [storeStep] at h
    split at h
    · cases hd : delete _ ks with
      | none => rw [hd] at h; simp at h
      | some p' =>
        rw [hd] at h; simp only [Option.map_some, Option.some.injEq] at h; subst h
        rw [List.getElem?_set]; simp [hji]
    · simp only [Option.some.injEq] at h; subst h; rfl

theorem matches_iff (m : Mapping) (v : Str) :
    (m.expanded.length ≤ v.length ∧ v.take m.expanded.length = m.expanded) ↔ m.expanded <+: v := by
  rw [List.prefix_iff_eq_take]
  constructor
  · exact fun h => h.2.symm
  · intro h
    refine ⟨?_, h.symm⟩
    have := congrArg List.length h
    rw [List.length_take] at this
    omega

theorem compactIn_some (v : Str) (l : List Mapping) (pr : PrefixRef) (h : compactIn v l = some pr) :
    ∃ l1 m l2, l = l1 ++ m :: l2 ∧ (∀ x ∈ l1, ¬ x.expanded <+: v) ∧ m.expanded <+: v ∧
      pr = ⟨m.pfx, v.drop m.expanded.length⟩ := by
  induction l with
  | nil => simp [compactIn] at h
  | cons e es ih =>
    unfold compactIn at h
    split at h
    · next hm =>
      refine ⟨[], e, es, rfl, by simp, (matches_iff e v).mp hm, ?_⟩
      simpa using h.symm
    · next hm =>
      obtain ⟨l1, m, l2, hl, h1, h2, h3⟩ := ih h
      refine ⟨e :: l1, m, l2, by simp [hl], ?_, h2, h3⟩
      intro x hx
      rcases List.mem_cons.mp hx with rfl | hx
      · exact fun hp => hm ((matches_iff _ v).mpr hp)
      · exact h1 x hx

theorem compactIn_none (v : Str) (l : List Mapping) :
    compactIn v l = none ↔ ∀ x ∈ l, ¬ x.expanded <+: v := by
  induction l with
  | nil => simp [compactIn]
  | cons e es ih =>
    unfold compactIn
    split
    · next hm =>
      simp only [reduceCtorEq, false_iff]
      intro h
      exact h e List.mem_cons_self ((matches_iff e v).mp hm)
    · next hm =>
      rw [ih]
      constructor
      · intro h x hx
        rcases List.mem_cons.mp hx with rfl | hx
        · exact fun hp => hm ((matches_iff _ v).mpr hp)
        · exact h x hx
      · exact fun h x hx => h x (List.mem_cons_of_mem _ hx)

theorem compact_spec (p : PM) (h : Inv p) (v : Str) (pr : PrefixRef) (hc : compact p v = some pr) :
    ∃ ns, p.byPrefix.get pr.pfx = some ns ∧ ns ++ pr.reference = v ∧
      ∀ x ∈ p.ordered, x.expanded <+: v → x.expanded.length ≤ ns.length := by
  obtain ⟨l1, m, l2, hl, h1, h2, h3⟩ := compactIn_some v p.ordered pr hc
  have hm : m ∈ p.ordered := by rw [hl]; simp
  refine ⟨m.expanded, ?_, ?_, ?_⟩
  · rw [h3]; exact (h.agree m).mp hm
  · rw [h3]
    show m.expanded ++ v.drop m.expanded.length = v
    have := List.prefix_iff_eq_take.mp h2
    conv => lhs; rw [this]
    rw [List.length_take_of_le (by have := (matches_iff m v).mpr h2; exact this.1)]
    exact List.take_append_drop _ _
  · intro x hx hxp
    have hs := h.sorted
    rw [hl] at hx hs
    rcases List.mem_append.mp hx with hx | hx
    · exact absurd hxp (h1 x hx)
    · rcases List.mem_cons.mp hx with rfl | hx
      · exact Nat.le_refl _
      · have := (List.pairwise_append.mp hs).2.1
        exact (List.pairwise_cons.mp this).1 x hx

theorem curie_roundtrip (sc : Scope) (p : PM) (h : Inv p) (v : Str) (pr : PrefixRef)
    (hc : compact p v = some pr) : expandCURIE sc p (compactCURIE sc p v) = some v := by
  obtain ⟨ns, h1, h2, _⟩ := compact_spec p h v pr hc
  unfold compactCURIE expandCURIE
  rw [hc]
  simp only
  split
  · next hd =>
    have hd' : (0 < sc.defaultPrefix.length ∨ sc.defaultPrefixEmpty = true) := by
      rcases hd with ⟨he, hl | hl⟩
      · left; rw [← he]; exact hl
      · right; exact hl
    simp only [hd', and_self, if_true]
    unfold expand
    simp only [← hd.1, h1]
    exact congrArg some h2
  · simp only [Bool.false_eq_true, false_and, if_false]
    unfold expand
    simp only [h1]
    exact congrArg some h2

theorem curie_nomatch (sc : Scope) (p : PM) (v : Str) (hc : compact p v = none) :
    compactCURIE sc p v = ⟨sc.safe, false, [], v⟩ ∧
    expandCURIE sc p (compactCURIE sc p v) = (p.byPrefix.get []).map (· ++ v) := by
  unfold compactCURIE expandCURIE
  rw [hc]
  simp only [Bool.false_eq_true, false_and, if_false, true_and]
  unfold expand
  cases p.byPrefix.get [] <;> rfl

end RdfModel.Proofs.C13
