import RdfModel.Proofs.C09Dec2Attrs2
namespace RdfModel.RXD
open RdfModel RdfModel.Desc RdfModel.RX RdfModel.C09Dec

variable {rs : Str → Str → Str} {render : List Tok → Option Str}

theorem wfId_next {env : Env} {id : PId} {S S' : RX.St} (h : wfId rs env id S = some S') (k : Nat) :
    wfId rs env id { S with next := k } = some { S' with next := k } := by
  cases id with
  | none => simp only [wfId, Option.some.injEq] at h ⊢; subst h; rfl
  | some p =>
    obtain ⟨iri, v⟩ := p
    simp only [wfId, Option.ite_none_right_eq_some, Option.some.injEq] at h ⊢
    exact ⟨h.1, by rw [← h.2]⟩

theorem wfProp_next {env : Env} {li li1 : Nat} {S S1 : RX.St} {p : PProp} (hl : leafProp p = true)
    (h : wfProp rs env li S p = some (li1, S1)) (k : Nat) :
    wfProp rs env li { S with next := k } p = some (li1, { S1 with next := k }) ∧ S1.next = S.next := by
  cases p
  case banon | node | ptRes | ptColl => simp [leafProp] at hl
  -- the six leaf productions: a guard that does not mention the state, then `wfId`
  all_goals
    simp only [wfProp] at h ⊢
    obtain ⟨hc, hid, rfl⟩ := if_map_pair_some h
    rw [if_pos hc, wfId_next hid k]
    exact ⟨rfl, (wfId_facts hid).1⟩

theorem wfProps_next {env : Env} (ps : List PProp) (hl : ps.all leafProp = true) {li : Nat} {S S1 : RX.St}
    (h : wfProps rs env li S ps = some S1) (k : Nat) :
    wfProps rs env li { S with next := k } ps = some { S1 with next := k } ∧ S1.next = S.next := by
  induction ps generalizing li S with
  | nil => simp only [wfProps, Option.some.injEq] at h ⊢; subst h; exact ⟨rfl, rfl⟩
  | cons p ps ih =>
    simp only [List.all_cons, Bool.and_eq_true] at hl
    simp only [wfProps] at h ⊢
    split at h
    · simp at h
    · rename_i li' S' hp
      obtain ⟨h1, h2⟩ := wfProp_next hl.1 hp k
      obtain ⟨h3, h4⟩ := ih hl.2 h
      rw [h1]
      exact ⟨h3, by rw [h4, h2]⟩

theorem wfNode_next {env : Env} {n : PNode} (hi : itemNode n = true) {S S1 : RX.St} (h : wfNode rs env S n = some S1)
    (k : Nat) : wfNode rs env { S with next := k } n = some { S1 with next := k } ∧ S1.next = S.next := by
  cases n with
  | mk sc subj typ pattrs props =>
    simp only [itemNode, Bool.and_eq_true] at hi
    simp only [wfNode] at h ⊢
    split at h
    · rename_i hc
      rw [if_pos hc]
      cases subj with
      | about iri ref =>
        simp only [wfSubj] at h ⊢
        by_cases hr : rs (env.push rs sc.base sc.lang).base ref = iri
        · simp only [hr, if_true] at h ⊢
          exact wfProps_next props hi.2 h k
        · simp [hr] at h
      | nodeID l =>
        simp only [wfSubj] at h ⊢
        by_cases hr : isNCName l = true
        · simp only [hr, if_true] at h ⊢
          exact wfProps_next props hi.2 h k
        · simp [hr] at h
      | id _ _ => simp [itemSubj] at hi
      | anon _ => simp [itemSubj] at hi
    · simp at h

theorem leafSubj_of_item {subj : Subj} (h : itemSubj subj = true) : leafSubj subj = true := by
  cases subj <;> simp_all [itemSubj, leafSubj]

theorem Collection_ne_Literal : n_Collection ≠ n_Literal := by decide
theorem Collection_ne_Resource : n_Collection ≠ n_Resource := by decide

theorem props_start_coll (hf : EmptyRefNoFrag rs) (i : AttrInfo) (hp : i.props = []) (ha : i.about = none)
    (hnn : i.nodeID = none) (hres : i.resource = none) (hdt : i.datatype = none) (hpt : i.parseType = some n_Collection)
    {env : Env} {ctx : Ctx} (hrel : CtxRel env ctx) (nm : PName) (li : Nat) (hname : wfName li nm = true)
    (s : Term BN) (ret : Ret) (below : List Frame) (ctx0 : Ctx) (st : St)
    (hid : ∀ v, i.id = some v → isNCName v = true) :
    ∃ nctx st1, step (mkP rs render) ctx0 (.props ctx s li ret :: below) st (.start nm.ns nm.name (stdAttrs i)) =
        .cont (.coll nctx s nm.pred i.id none :: .props ctx s (nm.nextLi li) ret :: below) st1 ∧
      CtxRel (env.push rs i.base i.lang) nctx ∧ st1.next = st.next ∧ st1.out = st.out := by
  obtain ⟨c', st1, hpca, hrel', hn, ho⟩ := processCommonAttr_std_nil (render := render) hf i hp hrel st
  obtain ⟨_, hpred, hli⟩ := wfName_facts li nm hname
  refine ⟨c', st1, ?_, hrel', hn, ho⟩
  have e1 : n_parseType ≠ n_ID := by decide
  have hlast : lastID (rdfPart i) none = i.id := by
    simp only [rdfPart, ha, hnn, hres, hdt, hpt, optAttr, List.append_nil]
    cases i.id <;> simp [lastID, e1]
  simp only [step, propNameForbidden_of_wfName hname, peltEntry, peltAttrLoop_std i hp hid, hpt, hpca,
    hres, Option.isSome_none, Bool.false_eq_true, and_false, if_false, if_true, hpred, hli, Collection_ne_Literal,
    Collection_ne_Resource, or_true, hlast]

end RdfModel.RXD
