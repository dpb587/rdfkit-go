import RdfModel.Proofs.C08DocTok
import RdfModel.Proofs.C08MachTok
namespace RdfModel.C08
open RdfModel RdfModel.TA RdfModel.C02 RdfModel.Ttl RdfModel.Spec.TtlPrint RdfModel.TtlDoc

section
variable {T : Tables} (hT : TablesOK T) (hT2 : TablesOK2 T) {C : Cfg} (hC : CfgOK T C)

theorem prefixOK2_pre {p : List Nat} (h : prefixOK2 T p = true) : prefixOK T p = true := by
  simp only [prefixOK2, Bool.and_eq_true] at h; exact h.1

theorem prefixOK2_mem {p : List Nat} (h : prefixOK2 T p = true) : ∀ a ∈ p, a ≠ 0x1680 := by
  intro a ha hh
  subst hh
  simp only [prefixOK2, Bool.and_eq_true, Bool.not_eq_true', List.contains_eq_mem, decide_eq_false_iff_not] at h
  exact h.2 ha

theorem solid_pn {c : Nat} (h : inRanges T.pnChars c = true) (hne : c ≠ 0x1680) : solid T c = true := by simp [solid, h, hne]

theorem solid_delim {c : Nat} (h : c ∈ delims) (hw : isWsRune c = false) : solid T c = true := by
  simp [solid, hw, h]

include hT2 hC in
theorem vis_solid {c : Nat} (hs : solid T c = true) (h23 : c ≠ 0x23) : Vis C c := by
  have hsp := hC.nsp c hs
  have hw : isWsRune c = false := by
    simp only [solid, Bool.or_eq_true, Bool.and_eq_true, Bool.not_eq_true'] at hs
    rcases hs with hs | hs
    · cases hw : isWsRune c with
      | false => rfl
      | true =>
        have : c ∈ delims := by
          simp only [isWsRune, Bool.or_eq_true, decide_eq_true_eq] at hw
          rcases hw with ((hw | hw) | hw) | hw <;> subst hw <;> decide
        rw [pn_delim hT2 this] at hs
        exact Bool.noConfusion hs.1
    · exact hs.2
  simp only [isWsRune, Bool.or_eq_false_iff, decide_eq_false_iff_not] at hw
  exact ⟨h23, by simp [isWs, hw.1.1.1, hw.1.1.2, hw.1.2, hw.2, hsp]⟩

include hT2 hC in
theorem vis_punct {c : Nat} (hc : c ∈ delims ∧ isWsRune c = false ∧ c ≠ 0x23) : Vis C c :=
  vis_solid hT2 hC (solid_delim hc.1 hc.2.1) hc.2.2

include hT2 hC in
theorem follows_solid {c : Nat} (hs : solid T c = true) (h23 : c ≠ 0x23) (r : List Nat) : Follows C (c :: r) c r :=
  follows_vis (vis_solid hT2 hC hs h23) r

include hT2 hC in
theorem follows_punct {c : Nat} (hc : c ∈ delims ∧ isWsRune c = false ∧ c ≠ 0x23) (r : List Nat) :
    Follows C (c :: r) c r :=
  follows_vis (vis_punct hT2 hC hc) r

include hT2 hC in
theorem fn_pol_punct (x : Ectx) (env : Env) (c : Nat) (tl : List Nat) (hc : c = 0x2e ∨ c = 0x5d ∨ c = 0x7d ∨ c = 0x3b) :
    stepFn C .eof .pol x env (.rune c tl) = .ok { inp := c :: tl, env := env } :=
  fn_pol_pop x env c tl hc (by rw [hC.pnb]; rcases hc with h | h | h | h <;> subst h <;> exact pnB_delim hT2 (by decide))

theorem printIRIREF_text (cs : List Choice) (r A : List Nat) :
    printIRIREF cs r ++ A = 0x3c :: (printIriBody cs r ++ [0x3e] ++ A) := by simp [printIRIREF]

def toT (t : TermB) : TtlDoc.T := t.map toBN

theorem envOf_fresh (st : DState) : (envOf st).fresh = (toT st.fresh.1, envOf st.fresh.2) := rfl

include hT hC in
theorem termIRIREF_print (env : Env) (cs : List Choice) (r i A : List Nat) (hs : Scalars r)
    (hres : resolveIRI C env r = some i) :
    termIRIREF C .eof env (printIRIREF cs r ++ A) = .ok (.iri i) A env := by
  simp only [termIRIREF, iriIRIREF, hC.prod, Producers.real, decode_print_iriref T hT .eof cs r hs A, hres, IriRes.toTerm]

include hT hC in
theorem termPName_print (env : Env) (cs : List Choice) (p l out i A : List Nat) (hp : prefixOK2 T p = true)
    (hps : Scalars p) (hs : Scalars l) (h : printPrefixedName T cs p l = some out)
    (hA : clash T .name A = false) (hex : env.expand p l = some i) :
    termPName C .eof env (out ++ A) = .ok (.iri i) A env := by
  simp only [termPName, iriPName, hC.prod, Producers.real, pname_tok hT cs p l out A (prefixOK2_pre hp) hps hs h hA, hex,
    IriRes.toTerm]

include hT hC in
theorem termBNode_print (env : Env) (l A : List Nat) (hs : Scalars l) (hl : labelOK T l = true)
    (hA : clash T .label A = false) :
    termBNode C .eof env (0x5f :: 0x3a :: l ++ A) = .ok (.bnode (.lbl l)) A env := by
  have hne : l ≠ [] := by intro h; subst h; simp [labelOK] at hl
  have := bnode_tok hT l A hs hl hA
  simp only [List.cons_append] at this
  simp only [termBNode, hC.prod, Producers.real, List.cons_append, this, Env.labelled, hne, if_false]

end

section obj
variable {T : Tables} (hT : TablesOK T) (hT2 : TablesOK2 T) {C : Cfg} (hC : CfgOK T C)
variable (x : Ectx) (env : Env)

theorem printString_text (st : Style) (cs : List Choice) (s A : List Nat) :
    ∃ tl, printString st cs s ++ A = st.delim :: tl := by
  cases st <;> simp [printString, quotes, Style.long, Style.delim]

theorem clash_str (st : Style) (s : List Nat) {a : Nat} (B : List Nat) (h1 : a ≠ 0x22) (h2 : a ≠ 0x27) :
    clash T (strKind st s) (a :: B) = false := by
  unfold strKind
  split
  · cases st <;> simp [clash, Style.delim, h1, h2]
  · rfl

include hT hC in
theorem fn_object_printed (st : Style) (cs : List Choice) (s B : List Nat) (c : Nat) (tl : List Nat)
    (htext : printString st cs s ++ B = c :: tl) (hs : Scalars s) (hB : clash T (strKind st s) B = false) :
    stepFn C .eof .object x env (.rune c tl) = stepLiteralTail C .eof x env s B := by
  have hstr : C.P.string .eof (c :: tl) = .ok s B := by rw [← htext, hC.prod]; exact str_tok hT st cs s B hs hB
  obtain ⟨tl', h'⟩ := printString_text st cs s B
  obtain ⟨rfl, -⟩ := List.cons.inj (htext.symm.trans h')
  exact fn_object_string x env s B _ tl (Proofs.C08Tok.delim_quote st) hstr

include hC in
theorem langtag_print (tag A : List Nat) (htag : langOK tag = true) (hA : clash T .lang A = false) :
    C.P.langtag .eof (0x40 :: (tag ++ A)) = .ok tag A := by
  rw [hC.prod]; simpa [Producers.real] using lang_tok (T := T) tag A htag hA

include hC in
theorem numeric_print (lex dt A : List Nat) (h : bareLiteralDatatype lex = some dt) (hdt : dt ≠ xsdBoolean)
    (hA : clash T .num A = false) :
    ∃ k : NumKind, k.datatype = dt ∧ C.P.numeric .eof (lex ++ A) = .ok (k, lex) A := by
  rw [hC.prod]; exact num_tok lex dt A h hdt hA

include hC in
theorem bool_tok (b : Bool) (A : List Nat) :
    ∃ c tl, boolText b ++ A = c :: tl ∧ isAlpha c = true ∧ (c = 0x74 ∨ c = 0x66) ∧ C.P.boolean .eof (c :: tl) = .bool b A := by
  have hb := decode_print_boolean .eof A
  rw [hC.prod]
  cases b
  · have e : boolText false ++ A = 0x66 :: 0x61 :: 0x6c :: 0x73 :: 0x65 :: A := by simp [boolText, Proofs.C02Tok.asc_false]
    exact ⟨_, _, e, by decide, by decide, e ▸ hb.2⟩
  · have e : boolText true ++ A = 0x74 :: 0x72 :: 0x75 :: 0x65 :: A := by simp [boolText, Proofs.C02Tok.asc_true]
    exact ⟨_, _, e, by decide, by decide, e ▸ hb.1⟩

include hT hT2 in
theorem num_head_solid (lex dt : List Nat) (h : bareLiteralDatatype lex = some dt) (hdt : dt ≠ xsdBoolean) :
    ∃ c0 lt, lex = c0 :: lt ∧ solid T c0 = true ∧ c0 ≠ 0x23 ∧ c0 ≠ 0x40 ∧ c0 ≠ 0x5e ∧ c0 ≠ 0x29 ∧ c0 ≠ 0x7d := by
  obtain ⟨c0, lt, hlex, (h | h | h) | ⟨h, _⟩⟩ := num_head lex dt h hdt <;> refine ⟨c0, lt, hlex, ?_⟩
  · subst h; exact ⟨solid_delim (by decide) (by decide), by decide⟩
  · subst h; exact ⟨solid_pn hT2.minus (by decide), by decide⟩
  · have hr : 0x30 ≤ c0 ∧ c0 ≤ 0x39 := by simpa [isDigit, NQ.isDigit] using h
    exact ⟨solid_pn (hT.pn_digit c0 h) (by omega), by omega⟩
  · subst h; exact ⟨solid_delim (by decide) (by decide), by decide⟩

end obj

section pol
variable {T : Tables} (hT : TablesOK T) (hT2 : TablesOK2 T) {C : Cfg} (hC : CfgOK T C)

/-- first rune of a prefixed name -/
def NameStart (T : Tables) (c : Nat) : Prop := c = 0x3a ∨ (inRanges T.pnCharsBase c = true ∧ c ≠ 0x1680)

theorem pname_shape {cs : List Choice} {p l out : List Nat} (h : printPrefixedName T cs p l = some out) :
    ∃ lo, out = p ++ 0x3a :: lo := by
  simp only [printPrefixedName, Option.map_eq_some_iff] at h
  obtain ⟨lo, _, rfl⟩ := h
  exact ⟨lo, rfl⟩

theorem prefix_head {p : List Nat} (hp : prefixOK2 T p = true) (rest : List Nat) (c : Nat) (tl : List Nat)
    (htext : p ++ 0x3a :: rest = c :: tl) : NameStart T c := by
  cases p with
  | nil => simp at htext; exact Or.inl htext.1.symm
  | cons a p' =>
    simp only [List.cons_append, List.cons.injEq] at htext
    have hm := prefixOK2_mem hp a List.mem_cons_self
    have hp := prefixOK2_pre hp
    simp only [prefixOK, Bool.and_eq_true] at hp
    rw [← htext.1]
    exact Or.inr ⟨hp.1.1, hm⟩

include hT2 in
theorem nameStart_ne {c : Nat} (h : NameStart T c) {d : Nat} (hd : d ∈ delims) (hne : d ≠ 0x3a) : c ≠ d := by
  intro hcd
  subst hcd
  rcases h with h | h
  · exact hne h
  · rw [pnB_delim hT2 hd] at h; exact Bool.noConfusion h.1

include hT2 in
theorem nameStart_not_digit {c : Nat} (h : NameStart T c) : ¬(0x30 ≤ c ∧ c ≤ 0x39) ∧ c ≠ 0x2d ∧ c ≠ 0x5f := by
  rcases h with h | ⟨h, _⟩
  · subst h; decide
  · refine ⟨fun hd => ?_, fun hd => ?_, fun hd => ?_⟩
    · have := hT2.digit_base c (Or.inl (by simp [isDigit, NQ.isDigit, hd.1, hd.2]))
      rw [hT2.base_sub c h] at this; exact Bool.noConfusion this
    · have := hT2.digit_base c (Or.inr hd)
      rw [hT2.base_sub c h] at this; exact Bool.noConfusion this
    · subst hd; rw [hT2.base_us] at h; exact Bool.noConfusion h

include hT2 in
theorem nameStart_solid {c : Nat} (h : NameStart T c) : solid T c = true ∧ c ≠ 0x23 := by
  rcases h with h | ⟨h, hne⟩
  · subst h; exact ⟨by simp [solid, delims, isWsRune], by decide⟩
  · exact ⟨solid_pn (pnB_pn hT2 h) hne, fun hc => by subst hc; rw [pnB_delim hT2 (by decide)] at h; exact Bool.noConfusion h⟩

include hT2 in
theorem alpha_solid {c : Nat} (h : isAlpha c = true) : solid T c = true ∧ c ≠ 0x23 := by
  have hr : (0x61 ≤ c ∧ c ≤ 0x7a) ∨ (0x41 ≤ c ∧ c ≤ 0x5a) := by simpa [isAlpha, NQ.isAlpha] using h
  exact ⟨solid_pn (pnB_pn hT2 (hT2.alpha c h)) (by omega), by omega⟩

include hT2 hC in
theorem pnText_of_prefix {p : List Nat} (hp : prefixOK2 T p = true) (R : List Nat) (c : Nat) (tl : List Nat)
    (htext : p ++ 0x3a :: R = c :: tl) : PNText C c tl := by
  have hns := prefix_head hp R c tl htext
  obtain ⟨hso, h23⟩ := nameStart_solid hT2 hns
  refine ⟨vis_solid hT2 hC hso h23, hC.nsp _ (solid_delim (by decide) (by decide)),
    hns.imp_right (fun h => by rw [hC.pnb]; exact h.1), fun d hd hne => nameStart_ne hT2 hns hd hne,
    nameStart_not_digit hT2 hns, fun hc => ?_⟩
  cases p with
  | nil => simp at htext; exact absurd htext.1.symm hc
  | cons a p' =>
    simp only [List.cons_append, List.cons.injEq] at htext
    rw [← htext.2]
    refine ⟨p', R, rfl, fun b hb => ?_⟩
    have hm := prefixOK2_mem hp b (List.mem_cons_of_mem _ hb)
    have hp := prefixOK2_pre hp
    simp only [prefixOK, Bool.and_eq_true, List.all_eq_true, Bool.or_eq_true, decide_eq_true_eq, bne_iff_ne] at hp
    rcases (hp.2 b hb).1 with h | h
    · exact ⟨hC.nsp b (solid_pn h hm), fun hlt => by subst hlt; rw [pn_delim hT2 (by decide)] at h; exact Bool.noConfusion h⟩
    · subst h; exact ⟨hC.nsp _ (solid_delim (by decide) (by decide)), by decide⟩

end pol

section top
variable {T : Tables} (hT : TablesOK T) (hT2 : TablesOK2 T) {C : Cfg} (hC : CfgOK T C)

include hC in
theorem pnameNS_print (p A : List Nat) (hp : prefixOK2 T p = true) (hps : Scalars p) :
    C.P.pnameNS .eof (p ++ 0x3a :: A) = .ok p A := by
  rw [hC.prod]; exact decode_print_pname_ns T .eof p A (prefixOK2_pre hp) hps

include hT hC in
theorem iriref_print (cs : List Choice) (r A : List Nat) (hs : Scalars r) :
    C.P.iriref .eof (printIRIREF cs r ++ A) = .ok r A := by
  rw [hC.prod]; exact decode_print_iriref T hT .eof cs r hs A

end top

end RdfModel.C08
