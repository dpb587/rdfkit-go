/-
  Proofs.HexDigits — the `.hex` state of the IRI and string scanners (`decodeUCHAR4/8`): fed the hex
  digits of `c`, each within its bound, a scanner pushes `c` and is back in `.body`. Stated for any
  function that satisfies the two equations of that state, whatever its other states do.
-/
import RdfModel.Model.NQuads

theorem RdfModel.isScalar_le {c : Nat} (h : IsScalar c) : c ≤ 0x10FFFF := by
  unfold IsScalar at h; omega

namespace RdfModel.Proofs.Hex
open RdfModel RdfModel.NQ

/-- The `n` low hex digits of `c`, most significant first. -/
def nibbles : Nat → Nat → List Nat
  | 0, _ => []
  | n + 1, c => c / 16 ^ n % 16 :: nibbles n c

def Within : List Nat → List Nat → Prop
  | [], [] => True
  | d :: ds, m :: ms => d ≤ m ∧ Within ds ms
  | _, _ => False

theorem within4 (c : Nat) : Within (nibbles 4 c) uchar4Maxs := by
  simp only [nibbles, uchar4Maxs, Within, and_true]
  omega

theorem within8 {c : Nat} (hc : c ≤ 0x10FFFF) : Within (nibbles 8 c) uchar8Maxs := by
  simp only [nibbles, uchar8Maxs, Within, and_true]
  omega

/-- What the `.hex` state of a scanner `f` does on a digit within its bound. `dec` is the digit
    table: 0 = not a digit, `d + 1` = the digit `d`. -/
structure Reader {α : Type} (dec : Nat → Nat) (f : SState → List Nat → List Nat → α) : Prop where
  more : ∀ m m' ms v x d r acc, dec x = d + 1 → d ≤ m →
    f (.hex (m :: m' :: ms) v) (x :: r) acc = f (.hex (m' :: ms) (v * 16 + d)) r acc
  last : ∀ m v x d r acc, dec x = d + 1 → d ≤ m →
    f (.hex [m] v) (x :: r) acc = f .body r ((v * 16 + d) :: acc)

theorem Reader.run {α : Type} {dec : Nat → Nat} {f : SState → List Nat → List Nat → α}
    (hf : Reader dec f) {x : Nat → Nat} (hx : ∀ d, d < 16 → dec (x d) = d + 1) (c : Nat)
    (r acc : List Nat) : ∀ (n : Nat) (ms : List Nat) (v : Nat), Within (nibbles (n + 1) c) ms →
      f (.hex ms v) ((nibbles (n + 1) c).map x ++ r) acc
        = f .body r ((v * 16 ^ (n + 1) + c % 16 ^ (n + 1)) :: acc) := by
  intro n
  induction n with
  | zero =>
    intro ms v h
    match ms, h with
    | [m], ⟨hd, _⟩ =>
      simp only [nibbles, List.map_cons, List.map_nil, List.cons_append, List.nil_append]
      rw [hf.last _ _ _ _ _ _ (hx _ (Nat.mod_lt _ (by decide))) hd]
      simp
  | succ n ih =>
    intro ms v h
    match ms, h with
    | m :: m' :: ms, ⟨hd, htl⟩ =>
      rw [nibbles.eq_2, List.map_cons, List.cons_append,
        hf.more _ _ _ _ _ _ _ _ (hx _ (Nat.mod_lt _ (by decide))) hd, ih _ _ htl,
        Nat.mod_pow_succ (k := n + 1), Nat.pow_succ 16 (n + 1)]
      congr 2
      rw [Nat.add_mul, Nat.mul_assoc, Nat.mul_comm 16, Nat.mul_comm (16 ^ (n + 1)) (c / _ % 16)]
      omega

theorem Reader.run4 {α : Type} {dec : Nat → Nat} {f : SState → List Nat → List Nat → α}
    (hf : Reader dec f) {x : Nat → Nat} (hx : ∀ d, d < 16 → dec (x d) = d + 1) {c : Nat}
    (hc : c ≤ 0xFFFF) (r acc : List Nat) :
    f (.hex uchar4Maxs 0) ((nibbles 4 c).map x ++ r) acc = f .body r (c :: acc) := by
  rw [hf.run hx c r acc 3 _ 0 (within4 c)]
  congr 2
  omega

theorem Reader.run8 {α : Type} {dec : Nat → Nat} {f : SState → List Nat → List Nat → α}
    (hf : Reader dec f) {x : Nat → Nat} (hx : ∀ d, d < 16 → dec (x d) = d + 1) {c : Nat}
    (hc : c ≤ 0x10FFFF) (r acc : List Nat) :
    f (.hex uchar8Maxs 0) ((nibbles 8 c).map x ++ r) acc = f .body r (c :: acc) := by
  rw [hf.run hx c r acc 7 _ 0 (within8 hc)]
  congr 2
  omega

/-- The escape states the IRI and string scanners of both decoders share: a backslash leads from `.body`
    to `.esc`, `u` / `U` from there to the `.hex` state with the digit bounds of `decodeUCHAR4/8`. -/
structure Uchars {α : Type} (dec : Nat → Nat) (f : SState → List Nat → List Nat → α) : Prop
    extends Reader dec f where
  bs : ∀ r acc, f .body (0x5c :: r) acc = f .esc r acc
  u : ∀ r acc, f .esc (0x75 :: r) acc = f (.hex uchar4Maxs 0) r acc
  U : ∀ r acc, f .esc (0x55 :: r) acc = f (.hex uchar8Maxs 0) r acc

theorem Uchars.u4 {α : Type} {dec : Nat → Nat} {f : SState → List Nat → List Nat → α} (hf : Uchars dec f)
    {x : Nat → Nat} (hx : ∀ d, d < 16 → dec (x d) = d + 1) {c : Nat} (hc : c ≤ 0xFFFF) (r acc : List Nat) :
    f .body (0x5c :: 0x75 :: ((nibbles 4 c).map x ++ r)) acc = f .body r (c :: acc) := by
  rw [hf.bs, hf.u, hf.toReader.run4 hx hc]

theorem Uchars.u8 {α : Type} {dec : Nat → Nat} {f : SState → List Nat → List Nat → α} (hf : Uchars dec f)
    {x : Nat → Nat} (hx : ∀ d, d < 16 → dec (x d) = d + 1) {c : Nat} (hc : c ≤ 0x10FFFF) (r acc : List Nat) :
    f .body (0x5c :: 0x55 :: ((nibbles 8 c).map x ++ r)) acc = f .body r (c :: acc) := by
  rw [hf.bs, hf.U, hf.toReader.run8 hx hc]

end RdfModel.Proofs.Hex
