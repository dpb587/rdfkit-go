import RdfModel.Proofs.C16Disc
namespace RdfModel.Proofs.C16
open RdfModel RdfModel.NQ RdfModel.TW RdfModel.NQO RdfModel.C16

variable {input : List RP} {cap : Bool}

theorem discP_init (capture : Bool) (inp : List RP) : DiscP inp capture (S.init capture) [] inp := by
  cases capture <;> exact ⟨Nat.zero_add _, rfl, by simp [S.init]⟩

def RunInv (T : Tables) (urlOk : List Nat → Bool) (input : List RP) (cap legacy : Bool) (out : Out) : Prop :=
  (∀ x ∈ out.stmts, StmtOK T urlOk input cap x.1 x.2) ∧ (∀ s', out.final = some s' → DiscP input cap s' [] []) ∧
    (legacy = false → EOff.bound out.eoff ≤ size input)

theorem runFuel_inv (T : Tables) (urlOk : List Nat → Bool) (e : End) (legacy quads : Bool)
    (fuel : Nat) (started : Bool) (s : S) (inp : List RP) (h : DiscP input cap s [] inp) :
    RunInv T urlOk input cap legacy (NQO.runFuel T urlOk e legacy quads fuel started s inp) := by
  induction fuel generalizing started s inp with
  | zero => exact ⟨by simp [NQO.runFuel], by simp [NQO.runFuel], fun _ => Nat.zero_le _⟩
  | succ fuel ih =>
    have hi := next_inv T urlOk e legacy quads started h
    simp only [NQO.runFuel]
    cases hn : NQO.next T urlOk e legacy quads started s inp with
    | done s1 => rw [hn] at hi; exact ⟨by simp, fun s' hf => Option.some.inj hf ▸ hi, fun _ => Nat.zero_le _⟩
    | fail x o => rw [hn] at hi; exact ⟨by simp, by simp, hi⟩
    | quad q rg s1 rest =>
      rw [hn] at hi
      obtain ⟨a, b, c⟩ := ih true s1 rest hi.1
      exact ⟨fun x hx => (List.mem_cons.1 hx).elim (fun hx => hx ▸ hi.2) (a x), b, c⟩

def DecInv (input : List RP) (cap : Bool) (d : NQO.Dec) : Prop :=
  d.err = none → Disc input d.s d.inp ∧ d.s.doc.isSome = cap

theorem decInv_init (capture : Bool) (inp : List RP) : DecInv inp capture (NQO.Dec.init capture inp) :=
  fun _ => discP_nil.1 (discP_init capture inp)

theorem decInv_next (T : Tables) (urlOk : List Nat → Bool) (e : End) (legacy quads : Bool)
    (d : NQO.Dec) (h : DecInv input cap d) :
    DecInv input cap (NQO.Dec.next T urlOk e legacy quads d).1 := by
  unfold NQO.Dec.next
  cases he : d.err with
  | some x => simpa [he] using h
  | none =>
    have hi := next_inv T urlOk e legacy quads d.cur.isSome (discP_nil.2 (h he))
    simp only
    cases hn : NQO.next T urlOk e legacy quads d.cur.isSome d.s d.inp with
    | quad q rg s' rest => rw [hn] at hi; exact fun _ => discP_nil.1 hi.1
    | done s' => rw [hn] at hi; exact fun _ => discP_nil.1 hi
    | fail x o => exact nofun

theorem decInv_nextN (T : Tables) (urlOk : List Nat → Bool) (e : End) (legacy quads : Bool)
    (n : Nat) (d : NQO.Dec) (h : DecInv input cap d) :
    DecInv input cap (NQO.Dec.nextN T urlOk e legacy quads n d) := by
  induction n generalizing d with
  | zero => exact h
  | succ n ih => exact ih _ (decInv_next T urlOk e legacy quads d h)

theorem run_stmts_ok (T : Tables) (urlOk : List Nat → Bool) (e : End) (legacy quads capture : Bool)
    (inp : List RP) :
    ∀ x ∈ (NQO.run T urlOk e legacy quads capture inp).stmts, StmtOK T urlOk inp capture x.1 x.2 :=
  (runFuel_inv T urlOk e legacy quads _ false _ inp (discP_init capture inp)).1

theorem slots_ok (T : Tables) (urlOk : List Nat → Bool) (inp : List RP) (q : Quad (List Nat))
    (rg : Ranges) (h : StmtOK T urlOk inp true q rg) :
    ∀ x ∈ slots q rg, ∃ r, x.2.2 = some r ∧ RangeOK T urlOk inp x.1 x.2.1 r := by
  obtain ⟨h1, h2, h3, h4⟩ := h
  simp only [SlotOK, if_true] at h1 h2 h3
  intro x hx
  simp only [slots, List.mem_append, List.mem_cons, List.not_mem_nil, or_false] at hx
  rcases hx with (rfl | rfl | rfl) | hx
  · exact h1
  · exact h2
  · exact h3
  · cases hg : q.g with
    | none => simp [hg] at hx
    | some g =>
      simp only [hg, List.mem_cons, List.not_mem_nil, or_false] at hx h4
      subst hx
      simpa [SlotOK] using h4

theorem slots_none (T : Tables) (urlOk : List Nat → Bool) (inp : List RP) (q : Quad (List Nat))
    (rg : Ranges) (h : StmtOK T urlOk inp false q rg) :
    rg.s = none ∧ rg.p = none ∧ rg.o = none ∧ rg.g = none := by
  obtain ⟨h1, h2, h3, h4⟩ := h
  simp only [SlotOK, Bool.false_eq_true, if_false] at h1 h2 h3
  refine ⟨h1, h2, h3, ?_⟩
  cases hg : q.g with
  | none => simpa [hg] using h4
  | some g => simpa [hg, SlotOK] using h4

theorem evalEOff_shift (cols : List Nat → Nat) (o : Offset) (x : EOff) :
    evalEOff cols o x = shiftErrPos o (evalEOff cols zero x) := by
  cases x with
  | none => rfl
  | byte n => rfl
  | text h unc =>
    simp only [evalEOff, shiftErrPos]
    split
    · rw [histOffset_shift cols o h, write_shift]
    · rw [histOffset_shift cols o h]
  | range f u =>
    simp only [evalEOff, shiftErrPos]
    rw [histOffset_shift cols o f, histOffset_shift cols o u]

end RdfModel.Proofs.C16
