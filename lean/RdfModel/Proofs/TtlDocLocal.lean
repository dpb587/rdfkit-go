/-
  The real Turtle/TriG token producers, one lemma each (`produceX_token`): what is left is a suffix of the input,
  a rune that is not NUL has gone, and a producer that has stopped before the end of its input behaves the same
  on every extension of that input.

  "Stopped before the end" is stated uniformly as: it succeeded and left something other than
  nothing or a lone `.` in the buffer.  (`1.` at the end of the input yields the integer `1` and
  pushes the `.` back — the D43 situation —, while `1.5` is a decimal.  A producer that ends on a
  closing delimiter — IRIREF, strings, PNAME_NS, the boolean keywords — is local whatever it leaves.)
-/
import RdfModel.Proofs.TtlDocBuffer
namespace RdfModel.Ttl
open RdfModel RdfModel.TtlDoc

theorem matchKeyword_local (e e' : End) (s : List Nat) :
    ∀ (kw i : List Nat) (o : Option (List Nat)), matchKeyword e kw i = some o →
      matchKeyword e' kw (i ++ s) = some (o.map (· ++ s)) := by
  intro kw
  induction kw with
  | nil => intro i o h; simp only [matchKeyword] at h ⊢; injection h with h; subst h; rfl
  | cons k ks ih =>
    intro i o h
    cases i with
    | nil => simp [matchKeyword] at h
    | cons c rest =>
      simp only [List.cons_append, matchKeyword] at h ⊢
      split at h
      · next hc => simp only [hc, if_true]; exact ih _ _ h
      · next hc => simp only [hc, if_false]; injection h with h; subst h; rfl

/-- What the statement layer asks of a successful token producer: the remainder is a suffix of the input, at least one rune that is not NUL
    has gone, and — under `cond`, which says that the producer has seen the end of its token — the answer is the
    same however the input goes on. -/
structure Token {α : Type} (F : End → List Nat → Res α) (cond : Prop) (i : List Nat) (v : α) (r : List Nat) : Prop where
  sub : r <:+ i
  cost : inputCost r + 64 ≤ inputCost i
  ext : cond → ∀ e' s, F e' (i ++ s) = .ok v (r ++ s)

theorem Reads.token {α : Type} {F : End → List Nat → Res α} {d : Nat} {i : List Nat} {v : α} {r : List Nat}
    (h : Reads F d i v r) (hd : d ≠ 0) (cond : Prop) : Token F cond i v r :=
  ⟨h.rest, Nat.le_trans (cost_cons hd (List.suffix_refl r)) (inputCost_le_of_suffix h.suffix), fun _ => h.ext⟩

theorem produceIRIREF_token (T : Tables) (e : End) (i v r : List Nat) (h : produceIRIREF T e i = .ok v r) :
    Token (produceIRIREF T) True i v r := by
  cases i with
  | nil => simp [produceIRIREF] at h
  | cons c rest =>
    simp only [produceIRIREF] at h
    split at h
    · next hc =>
      exact ((scanIRIREF_reads T e _ _ _ _ _ h).cons fun e' s => by simp only [produceIRIREF, if_pos hc]).token (by decide) _
    · cases h

theorem producePNAME_NS_token (T : Tables) (e : End) (i v r : List Nat) (h : producePNAME_NS T e i = .ok v r) :
    Token (producePNAME_NS T) True i v r := by
  cases i with
  | nil => simp [producePNAME_NS] at h
  | cons c rest =>
    simp only [producePNAME_NS] at h
    split at h
    · next hc =>
      injection h with h1 h2; subst h1; subst h2; subst hc
      exact (Reads.here fun e' s => by simp only [producePNAME_NS, if_true]).token (by decide) _
    · next hc =>
      split at h
      · next h2 =>
        exact ((pnameNsLoop_reads T e _ _ _ _ h).cons fun e' s => by
          simp only [producePNAME_NS, if_neg hc, if_pos h2]).token (by decide) _
      · cases h

theorem produceLANGTAG_token (e : End) (i v r : List Nat) (h : produceLANGTAG e i = .ok v r) :
    Token produceLANGTAG (r ≠ []) i v r := by
  cases i with
  | nil => simp [produceLANGTAG] at h
  | cons c rest =>
    simp only [produceLANGTAG] at h
    split at h
    · next hc =>
      have P := langPrimary_peeks e _ _ _ _ h
      subst hc
      exact ⟨P.left.tail id, cost_cons (by decide) (P.left.suffix id), fun hr e' s => by
        simp only [List.cons_append, produceLANGTAG, if_true]; exact P.ext hr nofun e' s⟩
    · cases h

theorem produceBlankNode_token (T : Tables) (e : End) (i v r : List Nat) (h : produceBlankNode T e i = .ok v r) :
    Token (produceBlankNode T) (r ≠ [] ∧ r ≠ [0x2e]) i v r := by
  cases i with
  | nil => simp [produceBlankNode] at h
  | cons c0 r0 =>
    simp only [produceBlankNode] at h
    split at h
    · cases h
    · next h0 =>
      cases r0 with
      | nil => simp at h
      | cons c1 r1 =>
        simp only [] at h
        split at h
        · cases h
        · next h1 =>
          cases r1 with
          | nil => simp at h
          | cons c2 r2 =>
            simp only [] at h
            split at h
            · next h2 =>
              have P := bnLoop_peeks T e _ _ _ _ h
              have hc0 : c0 = 0x5f := by omega
              exact ⟨suffix_tail (suffix_tail P.left.cons), cost_cons (by omega) (suffix_tail P.left.cons), fun hr e' s => by
                simp only [List.cons_append, produceBlankNode, if_neg h0, if_neg h1, if_pos h2]
                exact P.ext hr.1 (fun _ => hr.2) e' s⟩
            · cases h

theorem producePrefixedName_token (T : Tables) (e : End) (i : List Nat) (v : List Nat × List Nat) (r : List Nat)
    (h : producePrefixedName T e i = .ok v r) : Token (producePrefixedName T) (r ≠ [] ∧ r ≠ [0x2e]) i v r := by
  unfold producePrefixedName at h
  cases hns : producePNAME_NS T e i with
  | err c => rw [hns] at h; cases h
  | panic => rw [hns] at h; cases h
  | ok ns rest =>
    rw [hns] at h; simp only [] at h
    have N := producePNAME_NS_token T e i ns rest hns
    cases hl : scanLocal T e .first rest [] false with
    | err c => rw [hl] at h; cases h
    | panic => rw [hl] at h; cases h
    | ok loc rest' =>
      rw [hl] at h; simp only [] at h
      injection h with h1 h2; subst h1; subst h2
      have P := scanLocal_peeks T e _ _ _ _ _ _ hl
      have hs : rest' <:+ rest := P.left.suffix fun h => nomatch h.1
      exact ⟨hs.trans N.sub, Nat.le_trans (Nat.add_le_add_right (inputCost_le_of_suffix hs) 64) N.cost, fun hr e' s => by
        simp only [producePrefixedName, N.ext trivial e' s, P.ext hr.1 (fun _ => hr.2) e' s]⟩

/-- `""` right at the end of the input is the one success of `produceString` that an extension can change (into a
    long string): excluded by `r ≠ []`. -/
theorem produceString_token (T : Tables) (e : End) (i v r : List Nat) (h : produceString T e i = .ok v r) :
    Token (produceString T) (r ≠ []) i v r := by
  cases i with
  | nil => simp [produceString] at h
  | cons q rest =>
    simp only [produceString] at h
    split at h
    · next hq =>
      have hq0 : q ≠ 0 := by rcases hq with hq | hq <;> omega
      cases rest with
      | nil => cases h
      | cons c1 r1 =>
        simp only [] at h
        split at h
        · next h1 =>
          cases r1 with
          | nil =>
            cases e <;> simp only [] at h
            · injection h with _ h2; subst h2
              exact ⟨List.nil_suffix, cost_cons hq0 List.nil_suffix, fun hr => absurd rfl hr⟩
            · cases h
          | cons c2 r2 =>
            simp only [] at h
            split at h
            · next h2 =>
              have R := scanString_reads T e q true _ _ _ _ _ h
              exact ⟨suffix_tail (suffix_tail (suffix_tail R.rest)), cost_cons hq0 (suffix_tail (suffix_tail R.rest)),
                fun _ e' s => by
                  simp only [List.cons_append, produceString, if_pos hq, if_pos h1, if_pos h2]; exact R.ext e' s⟩
            · next h2 =>
              injection h with q1 q2; subst q1; subst q2
              exact ⟨suffix_tail (List.suffix_cons _ _), cost_cons hq0 (List.suffix_cons _ _), fun _ e' s => by
                simp only [List.cons_append, produceString, if_pos hq, if_pos h1, if_neg h2]⟩
        · next h1 =>
          have R := scanString_reads T e q false _ _ _ _ _ h
          exact ⟨suffix_tail R.rest, cost_cons hq0 R.rest, fun _ e' s => by
            simp only [List.cons_append, produceString, if_pos hq, if_neg h1]; exact R.ext e' s⟩
    · cases h

/-- numbers: the price needs more (`produceNumericLiteral_cost`: a lone `.` is handed back whole) -/
theorem produceNumericLiteral_peeks (e : End) (i : List Nat) (v : NumKind × List Nat) (r : List Nat)
    (h : produceNumericLiteral e i = .ok v r) : Peeks produceNumericLiteral False True i v r := by
  cases i with
  | nil => simp [produceNumericLiteral] at h
  | cons c rest =>
    simp only [produceNumericLiteral] at h
    split at h
    · next hc => exact (scanNum_peeks e _ _ _ _ _ _ h).cons Left.cons fun e' s => by simp only [produceNumericLiteral, if_pos hc]
    · next hc =>
      split at h
      · next h2 =>
        exact (scanNum_peeks e _ _ _ _ _ _ h).cons Left.cons fun e' s => by simp only [produceNumericLiteral, if_neg hc, if_pos h2]
      · cases h

theorem scanBoolean_token (e : End) (i : List Nat) :
    (∀ b r, scanBoolean e i = .bool b r →
      r <:+ i ∧ inputCost r + 64 ≤ inputCost i ∧ ∀ e' s, scanBoolean e' (i ++ s) = .bool b (r ++ s)) ∧
    (scanBoolean e i = .other → ∀ e' s, scanBoolean e' (i ++ s) = .other) := by
  cases i with
  | nil => simp [scanBoolean]
  | cons c rest =>
    have kw : ∀ {kw : List Nat} {o : Option (List Nat)}, c ≠ 0 → matchKeyword e kw rest = some o →
        (∀ r, o = some r → r <:+ c :: rest ∧ inputCost r + 64 ≤ inputCost (c :: rest)) ∧
          ∀ e' s, matchKeyword e' kw (rest ++ s) = some (o.map (· ++ s)) :=
      fun hc hm => ⟨fun r hr => by
        subst hr
        exact ⟨suffix_tail (matchKeyword_suffix e _ _ _ hm), cost_cons hc (matchKeyword_suffix e _ _ _ hm)⟩,
        fun e' s => matchKeyword_local e e' s _ _ _ hm⟩
    simp only [List.cons_append, scanBoolean]
    by_cases h1 : c = 0x74
    · subst h1; simp only [if_true]
      cases hm : matchKeyword e (asc "rue") rest with
      | none => simp
      | some o =>
        obtain ⟨K1, K2⟩ := kw (by decide) hm
        simp only [K2]
        cases o with
        | none => simp
        | some r' => exact ⟨fun b r h => by injection h with hb hr; subst hb; subst hr; exact ⟨(K1 _ rfl).1, (K1 _ rfl).2, fun _ _ => rfl⟩, nofun⟩
    · simp only [h1, if_false]
      by_cases h2 : c = 0x66
      · subst h2; simp only [if_true]
        cases hm : matchKeyword e (asc "alse") rest with
        | none => simp
        | some o =>
          obtain ⟨K1, K2⟩ := kw (by decide) hm
          simp only [K2]
          cases o with
          | none => simp
          | some r' => exact ⟨fun b r h => by injection h with hb hr; subst hb; subst hr; exact ⟨(K1 _ rfl).1, (K1 _ rfl).2, fun _ _ => rfl⟩, nofun⟩
      · simp [h2]

end RdfModel.Ttl

namespace RdfModel.TtlDoc
open RdfModel

/-- Locality of the token producers (the short run is at `.eof` because a prefix is a stream that ends): a
    producer that succeeded and left enough in the buffer (see the header) gives the same token, and
    the same remainder followed by `s`, on the input extended by `s` — whatever the extended stream
    ends with. -/
structure Producers.Local (P : Producers) : Prop where
  iriref : ∀ e' i v r s, P.iriref .eof i = .ok v r → P.iriref e' (i ++ s) = .ok v (r ++ s)
  string : ∀ e' i v r s, P.string .eof i = .ok v r → r ≠ [] → P.string e' (i ++ s) = .ok v (r ++ s)
  pnameNS : ∀ e' i v r s, P.pnameNS .eof i = .ok v r → P.pnameNS e' (i ++ s) = .ok v (r ++ s)
  pname : ∀ e' i v r s, P.pname .eof i = .ok v r → (r ≠ [] ∧ r ≠ [0x2e]) → P.pname e' (i ++ s) = .ok v (r ++ s)
  bnode : ∀ e' i v r s, P.bnode .eof i = .ok v r → (r ≠ [] ∧ r ≠ [0x2e]) → P.bnode e' (i ++ s) = .ok v (r ++ s)
  langtag : ∀ e' i v r s, P.langtag .eof i = .ok v r → r ≠ [] → P.langtag e' (i ++ s) = .ok v (r ++ s)
  numeric : ∀ e' i v r s, P.numeric .eof i = .ok v r → (r ≠ [] ∧ r ≠ [0x2e]) → P.numeric e' (i ++ s) = .ok v (r ++ s)
  boolean : ∀ e' i s, (∀ b r, P.boolean .eof i = .bool b r → P.boolean e' (i ++ s) = .bool b (r ++ s)) ∧
    (P.boolean .eof i = .other → P.boolean e' (i ++ s) = .other)

theorem real_local (T : Ttl.Tables) : (Producers.real T).Local where
  iriref := fun e' i v r s h => (Ttl.produceIRIREF_token T .eof i v r h).ext trivial e' s
  string := fun e' i v r s h hr => (Ttl.produceString_token T .eof i v r h).ext hr e' s
  pnameNS := fun e' i v r s h => (Ttl.producePNAME_NS_token T .eof i v r h).ext trivial e' s
  pname := fun e' i v r s h hr => (Ttl.producePrefixedName_token T .eof i v r h).ext hr e' s
  bnode := fun e' i v r s h hr => (Ttl.produceBlankNode_token T .eof i v r h).ext hr e' s
  langtag := fun e' i v r s h hr => (Ttl.produceLANGTAG_token .eof i v r h).ext hr e' s
  numeric := fun e' i v r s h hr => (Ttl.produceNumericLiteral_peeks .eof i v r h).ext hr.1 (fun _ => hr.2) e' s
  boolean := fun e' i s => ⟨fun b r h => ((Ttl.scanBoolean_token .eof i).1 b r h).2.2 e' s,
    fun h => (Ttl.scanBoolean_token .eof i).2 h e' s⟩

end RdfModel.TtlDoc
