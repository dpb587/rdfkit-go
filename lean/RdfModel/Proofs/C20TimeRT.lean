import RdfModel.Proofs.C20Time
import RdfModel.Props.C20Defs
namespace RdfModel.Proofs.C20Time
open RdfModel RdfModel.GoTime
open RdfModel.Xsd (Tok Bytes layoutToks nextIsFrac)

theorem isDigit_add {x : Nat} (h : x < 10) : Xsd.isDigit (0x30 + x) = true := by
  simp [Xsd.isDigit]; omega

theorem dig_add (x : Nat) : dig (0x30 + x) = x := by simp [dig]

theorem getnum2_pad2 {n : Nat} (h : n < 100) (rest : Bytes) : getnum2 (pad2 n ++ rest) = some (n, rest) := by
  have h1 : n / 10 % 10 < 10 := Nat.mod_lt _ (by decide)
  have h2 : n % 10 < 10 := Nat.mod_lt _ (by decide)
  simp only [pad2, List.cons_append, List.nil_append, getnum2, isDigit_add h1, isDigit_add h2, dig_add, Bool.and_self, if_true]
  congr 2; omega

theorem getnum1_pad2 {n : Nat} (h : n < 100) (rest : Bytes) : getnum1 (pad2 n ++ rest) = some (n, rest, false) := by
  have h1 : n / 10 % 10 < 10 := Nat.mod_lt _ (by decide)
  have h2 : n % 10 < 10 := Nat.mod_lt _ (by decide)
  simp only [pad2, List.cons_append, List.nil_append, getnum1, isDigit_add h1, isDigit_add h2, dig_add]
  simp; omega

theorem getYear_pad4 {y : Nat} (h : y < 10000) (rest : Bytes) : getYear (pad4 y ++ rest) = some (y, rest) := by
  have h1 : y / 1000 % 10 < 10 := Nat.mod_lt _ (by decide)
  have h2 : y / 100 % 10 < 10 := Nat.mod_lt _ (by decide)
  have h3 : y / 10 % 10 < 10 := Nat.mod_lt _ (by decide)
  have h4 : y % 10 < 10 := Nat.mod_lt _ (by decide)
  simp only [pad4, List.cons_append, List.nil_append, getYear, isDigit_add h1, isDigit_add h2, isDigit_add h3, isDigit_add h4,
    dig_add, Bool.and_self, if_true]
  congr 2; omega

/-- `step` on the text `fmtTok` wrote for a literal; the `sf_*` lemmas below say the same of the other elements -/
theorem sf_lit (ts : List Tok) (b : Nat) (st : PS) (rest : Bytes) : step ts (.lit b) st (b :: rest) = some (st, rest) :=
  step_iff.2 ⟨rfl, rfl⟩

theorem sf_second (ts : List Tok) (st : PS) {s : Nat} (h : s < 60) {rest : Bytes}
    (hr : nextIsFrac ts = true ∨ TailHead rest) :
    step ts .second st (pad2 s ++ rest) = some ({ st with t := { st.t with sec := s } }, rest) := by
  refine step_iff.2 ⟨s, rest, getnum2_pad2 (by omega) rest, h, Or.inl ⟨hr.imp_right ?_, rfl, rfl⟩⟩
  rintro ht ⟨p, d, r2, rfl, hp, _⟩
  have := ht p _ rfl
  omega

/-- one Horner step over the decimal digits of `n`: the digits above position `k` (mod `m`), then digit `k` -/
theorem digits_step (n k m : Nat) : n / (k * 10) % m * 10 + n / k % 10 = n / k % (m * 10) := by
  rw [← Nat.div_div_eq_div_mul, Nat.mul_comm m, Nat.mod_mul]; omega

theorem natVal_pad9 {ns : Nat} (h : ns < 1000000000) : natVal (pad9 ns) 0 = ns := by
  simp only [pad9, natVal, dig_add, Nat.zero_mul, Nat.zero_add]
  rw [digits_step ns 10000000, digits_step ns 1000000, digits_step ns 100000, digits_step ns 10000, digits_step ns 1000,
    digits_step ns 100, digits_step ns 10]
  have h0 := digits_step ns 1 100000000
  rw [Nat.div_one] at h0
  rw [h0]; exact Nat.mod_eq_of_lt h

theorem pad9_digits (ns : Nat) : (pad9 ns).all Xsd.isDigit = true := by
  simp only [pad9, List.all_cons, List.all_nil, Bool.and_true, Bool.and_eq_true]
  refine ⟨?_, ?_, ?_, ?_, ?_, ?_, ?_, ?_, ?_⟩ <;> exact isDigit_add (Nat.mod_lt _ (by decide))

theorem atoi_digits {c : Nat} {t : Bytes} (h : (c :: t).all Xsd.isDigit = true) :
    atoi (c :: t) = some (false, false, natVal (c :: t) 0) := by
  have hc : Xsd.isDigit c = true := by
    simp only [List.all_cons, Bool.and_eq_true] at h; exact h.1
  have h1 : ¬ c = 0x2D := by intro e; subst e; revert hc; decide
  have h2 : ¬ c = 0x2B := by intro e; subst e; revert hc; decide
  simp only [atoi, h1, h2, if_false, h, if_true]

theorem parseNanos_pad9 {ns : Nat} (h : ns < 1000000000) (rest : Bytes) :
    parseNanos (0x2E :: pad9 ns ++ rest) 10 = some { ns := ns, comma := false, signed := false } := by
  have hd := pad9_digits ns
  have hv := natVal_pad9 h
  have htake : List.take 9 (pad9 ns ++ rest) = pad9 ns := by simp [pad9]
  have ha : atoi (pad9 ns) = some (false, false, ns) := by
    have := atoi_digits (c := 0x30 + ns / 100000000 % 10) (t := (pad9 ns).tail) (by simpa [pad9] using hd)
    have e : (0x30 + ns / 100000000 % 10) :: (pad9 ns).tail = pad9 ns := by simp [pad9]
    rw [e, hv] at this; exact this
  simp [parseNanos, htake, ha]

theorem sf_frac (ts : List Tok) (st : PS) {ns : Nat} (h : ns < 1000000000) (rest : Bytes) :
    step ts (.frac0 9 0x2E) st (0x2E :: pad9 ns ++ rest) =
      some ({ t := { st.t with nsec := ns }, n := { st.n with comma := false, fsign := false } }, rest) :=
  step_iff.2 ⟨by simp [pad9], _, parseNanos_pad9 h rest, by simp [pad9], rfl⟩

theorem sf_tz_Z (ts : List Tok) (st : PS) (rest : Bytes) :
    step ts .tz st (0x5A :: rest) = some ({ st with t := { st.t with zone := some 0 } }, rest) :=
  step_iff.2 (.inl ⟨rfl, rfl⟩)

theorem sf_tz_num (ts : List Tok) (st : PS) {sg hr mm : Nat} (hs : sg = 0x2B ∨ sg = 0x2D) (h1 : hr ≤ 24) (h2 : mm ≤ 59)
    (rest : Bytes) :
    step ts .tz st (sg :: (pad2 hr ++ [0x3A] ++ pad2 mm) ++ rest) =
      some ({ t := { st.t with zone := some (if sg = 0x2B then (((hr * 60 + mm) * 60 : Nat) : Int)
                                              else -(((hr * 60 + mm) * 60 : Nat) : Int)) },
              n := { st.n with tzWide := !tzInXsd hr mm } }, rest) :=
  step_iff.2 (.inr ⟨sg, _, _, _, _, hr, mm, [], [], rfl, getnum2_pad2 (n := hr) (by omega) [], getnum2_pad2 (n := mm) (by omega) [],
    h1, by omega, hs, rfl⟩)

/-- the field a layout element carries, copied from `v` (month/day as time.Parse stores them) -/
def setT (v : PT) : Tok → PT → PT
  | .year, s => { s with year := v.year }
  | .month, s => { s with month := some (v.month.getD 1) }
  | .day, s => { s with day := some (v.day.getD 1) }
  | .hour, s => { s with hour := v.hour }
  | .minute, s => { s with min := v.min }
  | .second, s => { s with sec := v.sec }
  | .frac0 _ _, s => { s with nsec := v.nsec }
  | _, s => s

/-- what reading a text written by Format does to the notes -/
def setN : Tok → Notes → Notes
  | .hour, n => { n with hour1 := false }
  | .frac0 _ _, n => { n with comma := false, fsign := false }
  | _, n => n

def stepSt (v : PT) (tok : Tok) (st : PS) : PS := { t := setT v tok st.t, n := setN tok st.n }

/-- the field of `v` that a (non-zone) layout element prints is in the range Format/Parse agree on -/
def TokOK (v : PT) : Tok → Prop
  | .lit _ => True
  | .year => v.year < 10000
  | .month => 1 ≤ v.month.getD 1 ∧ v.month.getD 1 ≤ 12
  | .day => v.day.getD 1 < 100
  | .hour => v.hour < 24
  | .minute => v.min < 60
  | .second => v.sec < 60
  | .frac0 n sep => n = 9 ∧ sep = 0x2E ∧ v.nsec < 1000000000
  | .tz => False
  | .unknown => False

theorem step_fmt (v : PT) (ts : List Tok) (tok : Tok) (st : PS) (rest : Bytes) (hok : TokOK v tok)
    (hsec : tok = .second → nextIsFrac ts = true ∨ TailHead rest) :
    step ts tok st (fmtTok v tok ++ rest) = some (stepSt v tok st, rest) := by
  cases tok with
  | lit b => exact sf_lit ts b st rest
  | year => exact step_iff.2 ⟨_, getYear_pad4 hok rest, rfl⟩
  | month => exact step_iff.2 ⟨_, getnum2_pad2 (by have := hok.2; omega) rest, hok.1, hok.2, rfl⟩
  | day => exact step_iff.2 ⟨_, getnum2_pad2 hok rest, rfl⟩
  | hour => exact step_iff.2 ⟨_, _, getnum1_pad2 (Nat.lt_trans hok (by decide)) rest, hok, rfl⟩
  | minute => exact step_iff.2 ⟨_, getnum2_pad2 (Nat.lt_trans hok (by decide)) rest, hok, rfl⟩
  | second => exact sf_second ts st hok (hsec rfl)
  | frac0 n sep =>
    obtain ⟨rfl, rfl, hns⟩ := hok
    have : fmtTok v (.frac0 9 0x2E) = 0x2E :: pad9 v.nsec := by simp [fmtTok, pad9]
    rw [this]
    exact sf_frac ts st hns rest
  | tz => exact hok.elim
  | unknown => exact hok.elim

/-- a layout prefix without zone element whose fields are in range and whose seconds are followed
    either by a fraction element or by text that is not a fraction -/
def WF (v : PT) (ts2 : List Tok) (rest : Bytes) : List Tok → Prop
  | [] => True
  | tok :: p => TokOK v tok ∧ (tok = .second → nextIsFrac (p ++ ts2) = true ∨ TailHead (formatWith p v ++ rest)) ∧
      WF v ts2 rest p

def foldSt (v : PT) : List Tok → PS → PS
  | [], st => st
  | tok :: p, st => foldSt v p (stepSt v tok st)

/-- a fraction element (`C20Time.noFrac` spells the same test inline) -/
def isFrac : Tok → Bool
  | .frac0 _ _ => true
  | _ => false

theorem foldSt_t (v : PT) (pre : List Tok) (st : PS) :
    (foldSt v pre st).t =
      { year := if .year ∈ pre then v.year else st.t.year,
        month := if .month ∈ pre then some (v.month.getD 1) else st.t.month,
        day := if .day ∈ pre then some (v.day.getD 1) else st.t.day,
        hour := if .hour ∈ pre then v.hour else st.t.hour,
        min := if .minute ∈ pre then v.min else st.t.min,
        sec := if .second ∈ pre then v.sec else st.t.sec,
        nsec := if pre.any isFrac then v.nsec else st.t.nsec,
        zone := st.t.zone } := by
  induction pre generalizing st with
  | nil => rfl
  | cons tok p ih =>
    rw [foldSt, ih]
    cases tok <;> simp [stepSt, setT, isFrac]

theorem foldSt_notes (v : PT) (pre : List Tok) (t : PT) : (foldSt v pre { t := t }).n = {} := by
  induction pre generalizing t with
  | nil => rfl
  | cons tok p ih =>
    have : setN tok {} = {} := by cases tok <;> rfl
    simp only [foldSt, stepSt, this]; exact ih _

theorem fmtTok_foldSt (v : PT) {pre : List Tok} (st : PS) (z : Option Int) {tok : Tok} (ht : tok ∈ pre)
    (hz : tok ≠ .tz) : fmtTok { (foldSt v pre st).t with zone := z } tok = fmtTok v tok := by
  rw [foldSt_t]
  cases tok with
  | frac0 n sep =>
    have : pre.any isFrac = true := List.any_eq_true.mpr ⟨_, ht, rfl⟩
    simp [fmtTok, this]
  | tz => exact absurd rfl hz
  | _ => simp [fmtTok, ht]

theorem formatWith_foldSt (v : PT) {pre : List Tok} (htz : Tok.tz ∉ pre) (st : PS) (z : Option Int) :
    formatWith pre { (foldSt v pre st).t with zone := z } = formatWith pre v := by
  simp only [formatWith, List.flatMap_def]
  rw [List.map_congr_left fun _ ht => fmtTok_foldSt v st z ht (fun e => htz (e ▸ ht))]

theorem rt_prefix (v : PT) (ts2 : List Tok) (rest : Bytes) :
    ∀ (pre : List Tok) (st : PS), WF v ts2 rest pre →
      parseToks (pre ++ ts2) st (formatWith pre v ++ rest) = parseToks ts2 (foldSt v pre st) rest := by
  intro pre
  induction pre with
  | nil => intro st _; simp [formatWith, foldSt]
  | cons tok p ih =>
    intro st hwf
    obtain ⟨hok, hsec, hwf'⟩ := hwf
    have hf : formatWith (tok :: p) v ++ rest = fmtTok v tok ++ (formatWith p v ++ rest) := by
      simp [formatWith, List.flatMap_cons, List.append_assoc]
    rw [hf, List.cons_append]
    simp only [parseToks]
    rw [step_fmt v (p ++ ts2) tok st _ hok hsec]
    simp only [Option.bind_some, foldSt]
    exact ih _ hwf'

/-- a zone Format prints faithfully: none, or ±(hh:mm) with hh ≤ 24, mm ≤ 59; `narrow`: additionally within XSD's
    ±14:00. time.Parse also reads mm = 60 (`Reads`, `ZInv`), which Format writes as the next hour: `parseWith_range`
    promises `ZoneOK` only outside `tzWide`, where `tzInXsd` gives 59 -/
def ZoneOK (narrow : Bool) (z : Option Int) : Prop :=
  z = none ∨ ∃ hr mm, hr ≤ 24 ∧ mm ≤ 59 ∧ (narrow = true → tzInXsd hr mm = true) ∧
    (z = some (((hr * 60 + mm) * 60 : Nat) : Int) ∨ z = some (-(((hr * 60 + mm) * 60 : Nat) : Int)))

theorem tdiv_pos (k : Nat) : Int.tdiv (((k * 60 : Nat) : Int)) 60 = (k : Int) := by
  rw [Int.natCast_mul]; exact Int.mul_tdiv_cancel _ (by decide)

theorem tdiv_neg (k : Nat) : Int.tdiv (-((k * 60 : Nat) : Int)) 60 = -(k : Int) := by
  rw [Int.neg_tdiv, tdiv_pos]

theorem fmt_tz_cases {nw : Bool} {v : PT} (h : ZoneOK nw v.zone) :
    (fmtTok v .tz = [0x5A] ∧ v.zone.getD 0 = 0) ∨
    ∃ sg hr mm, (sg = 0x2B ∨ sg = 0x2D) ∧ hr ≤ 24 ∧ mm ≤ 59 ∧ (nw = true → tzInXsd hr mm = true) ∧
      fmtTok v .tz = sg :: (pad2 hr ++ [0x3A] ++ pad2 mm) ∧
      v.zone.getD 0 = (if sg = 0x2B then (((hr * 60 + mm) * 60 : Nat) : Int) else -(((hr * 60 + mm) * 60 : Nat) : Int)) := by
  rcases h with h | ⟨hr, mm, h1, h2, h3, h⟩
  · left; simp [fmtTok, h]
  · by_cases hk : hr * 60 + mm = 0
    · left
      rcases h with h | h <;> simp [fmtTok, h, hk]
    · right
      have hq : (hr * 60 + mm) / 60 = hr := by omega
      have hm : (hr * 60 + mm) % 60 = mm := by omega
      rcases h with h | h
      · refine ⟨0x2B, hr, mm, Or.inl rfl, h1, h2, h3, ?_, by simp [h]⟩
        have hne : ¬ (((hr * 60 + mm) * 60 : Nat) : Int) = 0 := by omega
        have hnn : ¬ ((hr * 60 + mm : Nat) : Int) < 0 := by omega
        simp only [fmtTok, h, Option.getD_some, hne, if_false, tdiv_pos, hnn, Int.natAbs_natCast, hq, hm]
      · refine ⟨0x2D, hr, mm, Or.inr rfl, h1, h2, h3, ?_, by simp [h]⟩
        have hne : ¬ (-(((hr * 60 + mm) * 60 : Nat) : Int)) = 0 := by omega
        have hnn : (-((hr * 60 + mm : Nat) : Int)) < 0 := by omega
        simp only [fmtTok, h, Option.getD_some, hne, if_false, tdiv_neg, hnn, if_true, Int.natAbs_neg, Int.natAbs_natCast, hq, hm]

theorem fmt_tz_head {nw : Bool} {v : PT} (h : ZoneOK nw v.zone) (rest : Bytes) : TailHead (fmtTok v .tz ++ rest) := by
  rcases fmt_tz_cases h with ⟨e, _⟩ | ⟨sg, hr, mm, hs, _, _, _, e, _⟩
  · rw [e]; intro c r' he; cases he; simp
  · rw [e]; intro c r' he; cases he; rcases hs with rfl | rfl <;> simp

theorem rt_tz {nw : Bool} (v : PT) (ts : List Tok) (st : PS) (rest : Bytes) (h : ZoneOK nw v.zone) :
    ∃ w, step ts .tz st (fmtTok v .tz ++ rest) =
        some ({ t := { st.t with zone := some (v.zone.getD 0) }, n := { st.n with tzWide := w } }, rest) ∧
      (st.n.tzWide = false → nw = true → w = false) := by
  rcases fmt_tz_cases h with ⟨e, e0⟩ | ⟨sg, hr, mm, hs, h1, h2, h3, e, e0⟩
  · refine ⟨st.n.tzWide, ?_, fun hw _ => hw⟩
    rw [e, e0]; exact sf_tz_Z ts st rest
  · refine ⟨!tzInXsd hr mm, ?_, fun _ hn => by simp [h3 hn]⟩
    rw [e, e0]; exact sf_tz_num ts st hs h1 h2 rest

/-- the state after the tail of a layout read the text Format wrote for it -/
def tailSt (v : PT) (tl : Tail) (w : Bool) (s : PS) : PS :=
  match tl with
  | .tz => { t := { s.t with zone := some (v.zone.getD 0) }, n := { s.n with tzWide := w } }
  | _ => s

theorem formatWith_append (a b : List Tok) (v : PT) : formatWith (a ++ b) v = formatWith a v ++ formatWith b v := by
  simp [formatWith, List.flatMap_append]

theorem tailHead_tail {nw : Bool} {v : PT} (hz : ZoneOK nw v.zone) (tl : Tail) : TailHead (formatWith tl.toks v) := by
  cases tl with
  | none => exact tailHead_nil
  | z => intro c r' he; simp [formatWith, Tail.toks, fmtTok] at he; simp [he.1]
  | tz =>
    have := fmt_tz_head hz []
    simpa [formatWith, Tail.toks] using this

theorem dayOK_tail (v : PT) (tl : Tail) (w : Bool) (s : PS) : dayOK (tailSt v tl w s).t = dayOK s.t := by
  cases tl <;> rfl

theorem rt_layout {nw : Bool} (v : PT) (pre : List Tok) (tl : Tail)
    (hwf : WF v tl.toks (formatWith tl.toks v) pre) (hz : ZoneOK nw v.zone) (hd : dayOK (foldSt v pre {}).t = true) :
    ∃ w, parseWith (pre ++ tl.toks) (formatWith (pre ++ tl.toks) v) = some (tailSt v tl w (foldSt v pre {})) ∧
      (nw = true → (foldSt v pre {}).n.tzWide = false → w = false) := by
  have hp := rt_prefix v tl.toks (formatWith tl.toks v) pre {} hwf
  have key : ∃ w, parseToks tl.toks (foldSt v pre {}) (formatWith tl.toks v) = some (tailSt v tl w (foldSt v pre {})) ∧
      (nw = true → (foldSt v pre {}).n.tzWide = false → w = false) := by
    cases tl with
    | none => exact ⟨false, by simp [Tail.toks, parseToks, formatWith, tailSt], fun _ _ => rfl⟩
    | z => exact ⟨false, by simp [Tail.toks, parseToks, formatWith, tailSt, fmtTok, sf_lit], fun _ _ => rfl⟩
    | tz =>
      obtain ⟨w, hw, hn⟩ := rt_tz v [] (foldSt v pre {}) [] hz
      refine ⟨w, ?_, fun a b => hn b a⟩
      simp only [Tail.toks, parseToks, formatWith, List.flatMap_cons, List.flatMap_nil, tailSt]
      rw [hw]; simp
  obtain ⟨w, hw, hn⟩ := key
  refine ⟨w, ?_, hn⟩
  simp only [parseWith, formatWith_append, hp, hw, dayOK_tail, hd, if_true]

theorem getYear_lt {v r : Bytes} {y : Nat} (h : getYear v = some (y, r)) : y < 10000 := by
  match v with
  | [] | [_] | [_, _] | [_, _, _] => simp [getYear] at h
  | a :: b :: c :: d :: r0 =>
    simp only [getYear] at h
    split at h
    · next hd => simp [dig] at h; simp [Xsd.isDigit] at hd; omega
    · simp at h

/-- the zone part of `Inv`: no zone, `Z`, or an offset within Go's bounds whose `tzWide` note says whether it exceeds XSD's -/
def ZInv (st : PS) : Prop :=
  st.t.zone = none ∨ st.t.zone = some 0 ∨
  ∃ hr mm, hr ≤ 24 ∧ mm ≤ 60 ∧
    (st.t.zone = some (((hr * 60 + mm) * 60 : Nat) : Int) ∨ st.t.zone = some (-(((hr * 60 + mm) * 60 : Nat) : Int))) ∧
    st.n.tzWide = !tzInXsd hr mm

/-- what every state reachable by the parse loop satisfies -/
def Inv (st : PS) : Prop :=
  st.t.year < 10000 ∧ (∀ m, st.t.month = some m → 1 ≤ m ∧ m ≤ 12) ∧ st.t.hour < 24 ∧ st.t.min < 60 ∧ st.t.sec < 60 ∧ ZInv st

theorem inv_init : Inv {} := by
  refine ⟨by decide, ?_, by decide, by decide, by decide, Or.inl rfl⟩
  intro m h; cases h

theorem step_inv {ts : List Tok} {tok : Tok} {st st' : PS} {v r : Bytes} (h : step ts tok st v = some (st', r))
    (hi : Inv st) : Inv st' := by
  obtain ⟨h1, h2, h3, h4, h5, h6⟩ := hi
  rw [step_iff] at h
  cases tok <;> simp only [Reads] at h
  case lit => rw [h.2]; exact ⟨h1, h2, h3, h4, h5, h6⟩
  case year => obtain ⟨y, hy, rfl⟩ := h; exact ⟨getYear_lt hy, h2, h3, h4, h5, h6⟩
  case month =>
    obtain ⟨m, _, hm1, hm2, rfl⟩ := h
    exact ⟨h1, fun m' e => by cases e; exact ⟨hm1, hm2⟩, h3, h4, h5, h6⟩
  case day => obtain ⟨d, _, rfl⟩ := h; exact ⟨h1, h2, h3, h4, h5, h6⟩
  case hour => obtain ⟨hh, one, _, hlt, rfl⟩ := h; exact ⟨h1, h2, hlt, h4, h5, h6⟩
  case minute => obtain ⟨m, _, hlt, rfl⟩ := h; exact ⟨h1, h2, h3, hlt, h5, h6⟩
  case second =>
    obtain ⟨s, r1, _, hlt, ⟨_, _, rfl⟩ | ⟨_, p, d, r2, f, _, _, _, _, _, rfl⟩⟩ := h <;> exact ⟨h1, h2, h3, h4, hlt, h6⟩
  case frac0 => obtain ⟨_, f, _, _, rfl⟩ := h; exact ⟨h1, h2, h3, h4, h5, h6⟩
  case tz =>
    rcases h with ⟨_, rfl⟩ | ⟨sg, _, _, _, _, hr, mm, _, _, _, _, _, hh, hm, hs, rfl⟩
    · exact ⟨h1, h2, h3, h4, h5, Or.inr (Or.inl rfl)⟩
    · refine ⟨h1, h2, h3, h4, h5, Or.inr (Or.inr ⟨hr, mm, hh, hm, ?_, rfl⟩)⟩
      rcases hs with rfl | rfl
      · exact Or.inl rfl
      · exact Or.inr rfl

theorem parseToks_inv (toks : List Tok) (st stf : PS) (a : Bytes) (h : parseToks toks st a = some stf) : Inv st → Inv stf :=
  parseToks_ind (P := fun _ st stf => Inv st → Inv stf) (fun _ hi => hi) (fun hs ih hi => ih (step_inv hs hi)) h

/-- the calendar and clock fields of a value are in the range time.Parse produces -/
structure Fields (v : PT) : Prop where
  year : v.year < 10000
  m1 : 1 ≤ v.month.getD 1
  m2 : v.month.getD 1 ≤ 12
  hour : v.hour < 24
  min : v.min < 60
  sec : v.sec < 60
  d1 : 1 ≤ v.day.getD 1
  d2 : v.day.getD 1 ≤ daysIn (v.month.getD 1) v.year

/-- what the round trip needs of a layout prefix: fields in range (and no zone element), the
    seconds not followed by something that reads as a fraction, the day-of-month test passed -/
structure PreOK (v : PT) (pre : List Tok) : Prop where
  wf : ∀ ts2 rest, TailHead rest → WF v ts2 rest pre
  day : dayOK (foldSt v pre {}).t = true

theorem WF.no_tz {v : PT} {ts2 : List Tok} {rest : Bytes} : ∀ {pre : List Tok}, WF v ts2 rest pre → Tok.tz ∉ pre
  | [], _ => List.not_mem_nil
  | tok :: _, ⟨hok, _, h⟩ => by
    intro hm
    rcases List.mem_cons.mp hm with rfl | hm
    · exact hok
    · exact WF.no_tz h hm

theorem PreOK.no_tz {v : PT} {pre : List Tok} (h : PreOK v pre) : Tok.tz ∉ pre :=
  WF.no_tz (h.wf [] [] tailHead_nil)

theorem daysIn_mono0 (m y : Nat) : daysIn m y ≤ daysIn m 0 := by
  unfold daysIn; split <;> (try split) <;> simp [isLeap]
theorem daysIn_ge (m y : Nat) : 1 ≤ daysIn m y := by
  unfold daysIn; split <;> (try split) <;> omega

/-- literals and calendar/clock fields, the seconds last or followed only by ".000000000" -/
def fieldsPre : List Tok → Bool
  | [] | [.second] | [.second, .frac0 9 0x2E] => true
  | .lit _ :: p | .year :: p | .month :: p | .day :: p | .hour :: p | .minute :: p => fieldsPre p
  | _ => false

theorem wf_of_fields {v : PT} (h : Fields v) (ts2 : List Tok) {rest : Bytes} (hr : TailHead rest) :
    ∀ pre, fieldsPre pre = true → (Tok.frac0 9 0x2E ∈ pre → v.nsec < 1000000000) → WF v ts2 rest pre
  | [], _, _ => trivial
  | [.second], _, _ => ⟨h.sec, fun _ => Or.inr (by simpa [formatWith] using hr), trivial⟩
  | [.second, .frac0 9 0x2E], _, hns => ⟨h.sec, fun _ => Or.inl rfl, ⟨rfl, rfl, hns (by simp)⟩, nofun, trivial⟩
  | .lit _ :: p, hp, hns => ⟨trivial, nofun, wf_of_fields h ts2 hr p hp fun m => hns (List.mem_cons_of_mem _ m)⟩
  | .year :: p, hp, hns => ⟨h.year, nofun, wf_of_fields h ts2 hr p hp fun m => hns (List.mem_cons_of_mem _ m)⟩
  | .month :: p, hp, hns =>
    ⟨⟨h.m1, h.m2⟩, nofun, wf_of_fields h ts2 hr p hp fun m => hns (List.mem_cons_of_mem _ m)⟩
  | .day :: p, hp, hns =>
    ⟨Nat.lt_of_le_of_lt (Nat.le_trans h.d2 (daysIn_le _ _)) (by decide), nofun,
      wf_of_fields h ts2 hr p hp fun m => hns (List.mem_cons_of_mem _ m)⟩
  | .hour :: p, hp, hns => ⟨h.hour, nofun, wf_of_fields h ts2 hr p hp fun m => hns (List.mem_cons_of_mem _ m)⟩
  | .minute :: p, hp, hns => ⟨h.min, nofun, wf_of_fields h ts2 hr p hp fun m => hns (List.mem_cons_of_mem _ m)⟩

/-- the day-of-month test on what any prefix reads back: an unset month counts as January, an unset year as
    the leap year 0 -/
theorem day_of_fields {v : PT} (h : Fields v) (pre : List Tok) : dayOK (foldSt v pre {}).t = true := by
  have h31 := Nat.le_trans h.d2 (daysIn_le _ _)
  have hm0 := Nat.le_trans h.d2 (daysIn_mono0 _ _)
  have hjan : ∀ y, daysIn 1 y = 31 := fun y => by simp [daysIn]
  rw [foldSt_t]
  simp only [dayOK, Bool.and_eq_true, decide_eq_true_eq]
  by_cases hd : Tok.day ∈ pre <;> by_cases hmo : Tok.month ∈ pre <;> by_cases hy : Tok.year ∈ pre <;>
    simp [hd, hmo, hy, h.d1, h.d2, daysIn_ge, hjan, h31, hm0]

/-- the range of `time.Parse`: the fields of every value it returns are within `Fields`, and its zone is one Format
    writes faithfully (and within XSD's ±14:00) unless the wide-offset branch was taken -/
theorem parseWith_range {toks : List Tok} {a : Bytes} {st : PS} (h : parseWith toks a = some st) :
    Fields st.t ∧ (st.n.tzWide = false → ZoneOK true st.t.zone) := by
  obtain ⟨hp, hd⟩ := parseWith_inv h
  obtain ⟨h1, h2, h3, h4, h5, h6⟩ := parseToks_inv _ _ _ _ hp inv_init
  simp [dayOK] at hd
  refine ⟨⟨h1, ?_, ?_, h3, h4, h5, hd.1, hd.2⟩, fun hw => ?_⟩
  · cases hm : st.t.month with
    | none => simp
    | some m => simpa using (h2 m hm).1
  · cases hm : st.t.month with
    | none => simp
    | some m => simpa using (h2 m hm).2
  · rcases h6 with h | h | ⟨hr, mm, hh, hm, hz, hwz⟩
    · exact Or.inl h
    · exact Or.inr ⟨0, 0, by omega, by omega, fun _ => by decide, Or.inl (by simpa using h)⟩
    · rw [hw] at hwz
      have hx : tzInXsd hr mm = true := by simpa using hwz.symm
      have : mm ≤ 59 := by
        simp [tzInXsd] at hx; omega
      exact Or.inr ⟨hr, mm, hh, this, fun _ => hx, hz⟩

theorem isWs_ge {b : Nat} (h : 33 ≤ b) : Spec.Xsd.isWs b = false := by
  simp [Spec.Xsd.isWs]; omega

/-- literal bytes of a layout element are not white space -/
def LitOK : Tok → Bool
  | .lit b => decide (33 ≤ b)
  | .frac0 _ sep => decide (33 ≤ sep)
  | _ => true

theorem mem_pad2 {n b : Nat} (h : b ∈ pad2 n) : 33 ≤ b := by
  simp [pad2] at h; omega
theorem mem_pad4 {n b : Nat} (h : b ∈ pad4 n) : 33 ≤ b := by
  simp [pad4] at h; omega
theorem mem_pad9 {n b : Nat} (h : b ∈ pad9 n) : 33 ≤ b := by
  simp [pad9] at h; omega

theorem fmtTok_ge (v : PT) (tok : Tok) (hl : LitOK tok = true) : ∀ b ∈ fmtTok v tok, 33 ≤ b := by
  intro b hb
  cases tok with
  | lit c => simp [fmtTok] at hb; subst hb; exact of_decide_eq_true hl
  | year => exact mem_pad4 hb
  | month => exact mem_pad2 hb
  | day => exact mem_pad2 hb
  | hour => exact mem_pad2 hb
  | minute => exact mem_pad2 hb
  | second => exact mem_pad2 hb
  | frac0 n sep =>
    simp only [fmtTok, List.mem_cons] at hb
    rcases hb with rfl | hb
    · exact of_decide_eq_true hl
    · exact mem_pad9 (List.mem_of_mem_take hb)
  | tz =>
    simp only [fmtTok] at hb
    split at hb
    · simp at hb; omega
    · simp only [List.mem_cons, List.mem_append] at hb
      rcases hb with rfl | (hb | hb) | hb
      · split <;> omega
      · exact mem_pad2 hb
      · simp at hb; omega
      · exact mem_pad2 hb
  | unknown => simp [fmtTok] at hb

theorem formatWith_noWs (toks : List Tok) (v : PT) (h : ∀ tok ∈ toks, LitOK tok = true) : C20.NoWs (formatWith toks v) := by
  intro b hb
  simp only [formatWith, List.mem_flatMap] at hb
  obtain ⟨tok, ht, hb⟩ := hb
  exact isWs_ge (fmtTok_ge v tok (h tok ht) b hb)

end RdfModel.Proofs.C20Time
