/-
  The embedding of the fragment's abstract trees into DOM trees (`ofSpecDoc`) and what the decoder model's attribute scan finds on
  embedded elements. The second half is about documents that are a list of items whose children are the canonical property
  elements `<meta itemprop content>` / `<link itemprop href>` (the shape of the writer's canonical document): the value of such
  an element (`valueN`), the subject of an item and the blank-node counter after it (`subjN`, `itemsCnt`), the renaming `sigmaL`.
-/
import RdfModel.Proofs.C11Microdata
import RdfModel.Proofs.C11MdRelabel
namespace RdfModel.Mdd
open RdfModel RdfModel.Desc RdfModel.Spec.Html RdfModel.Spec.Microdata

/- `.other` stands for every element name outside the list; `aside` is one on which `kindOfAtom` answers `.other` (the value
    is the text content), and it is what the T3 serialiser writes for it (go/cmd/c11*/tree.go) -/
def atomOf : Tag → Bytes
  | .html => asc "html" | .head => asc "head" | .body => asc "body" | .base => asc "base" | .title => asc "title"
  | .script => asc "script" | .div => asc "div" | .span => asc "span" | .sect => asc "section" | .b => asc "b"
  | .i => asc "i" | .em => asc "em" | .a => asc "a" | .area => asc "area" | .link => asc "link" | .img => asc "img"
  | .metaEl => asc "meta" | .time => asc "time" | .data => asc "data" | .meter => asc "meter" | .object => asc "object"
  | .audio => asc "audio" | .video => asc "video" | .embed => asc "embed" | .iframe => asc "iframe"
  | .source => asc "source" | .track => asc "track" | .other => asc "aside"

def optAttr (key : String) : Option Str → List Attr
  | some v => [⟨[], asc key, v⟩]
  | none => []

/-- the attributes Microdata looks at, in a fixed order (the order is irrelevant to the decoder: one attribute per
    name). RDFa-only attributes of the record are dropped (the decoder ignores unknown names). -/
def attrsOf (a : Attrs) : List Attr :=
  (if a.itemscope then [⟨[], asc "itemscope", []⟩] else []) ++
  optAttr "itemid" a.itemid ++ optAttr "itemtype" a.itemtype ++ optAttr "itemprop" a.itemprop ++
  optAttr "itemref" a.itemref ++ optAttr "id" a.id ++ optAttr "content" a.content ++ optAttr "href" a.href ++
  optAttr "src" a.src ++ optAttr "data" a.data ++ optAttr "value" a.value ++ optAttr "datetime" a.datetime

mutual
def ofSpec : Tree → Node
  | .text s => .mk 0 1 [] [] s [] []
  | .elem tag a ks => .mk 0 3 [] (atomOf tag) [] (attrsOf a) (ofSpecL ks)
def ofSpecL : List Tree → List Node
  | [] => []
  | k :: ks => ofSpec k :: ofSpecL ks
end

/-- the DOM of a document: a DocumentNode above the html element -/
def ofSpecDoc (t : Tree) : Node := .mk 0 2 [] [] [] [] [ofSpec t]

/-- the parameters as the fragment semantics fixes them: RFC 3986 resolution against the document base (none without
    one), itemtype tokens taken as they are, predicate = name resolved against the first type; `tm`, `mm` the
    xsdobject chains -/
def specEnv (base : Str) (tm mm : List (Bytes → Option (Term Nat))) : Env :=
  { resolve := fun v => if base = [] then none else some (Spec.RFC3986.resolve base v),
    normType := id,
    vocab := fun types nm => some (predicate types nm),
    timeMaps := tm, meterMaps := mm, lax := false, laxUse := false, hook := false }

theorem scanAttrs_append (l1 l2 : List Attr) (acc : ItemAttrs) :
    scanAttrs (l1 ++ l2) acc = scanAttrs l2 (scanAttrs l1 acc) := by
  induction l1 generalizing acc with
  | nil => rfl
  | cons a l1 ih => simp only [List.cons_append, scanAttrs, apply_ite (scanAttrs l2), ih]

theorem kne_itemid_itemprop : (kItemid = kItemprop) = False := eq_false (asc_ne (by decide))
theorem kne_itemid_itemref : (kItemid = kItemref) = False := eq_false (asc_ne (by decide))
theorem kne_itemid_itemscope : (kItemid = kItemscope) = False := eq_false (asc_ne (by decide))
theorem kne_itemid_itemtype : (kItemid = kItemtype) = False := eq_false (asc_ne (by decide))
theorem kne_itemprop_itemref : (kItemprop = kItemref) = False := eq_false (asc_ne (by decide))
theorem kne_itemprop_itemscope : (kItemprop = kItemscope) = False := eq_false (asc_ne (by decide))
theorem kne_itemprop_itemtype : (kItemprop = kItemtype) = False := eq_false (asc_ne (by decide))
theorem kne_itemref_itemscope : (kItemref = kItemscope) = False := eq_false (asc_ne (by decide))
theorem kne_itemref_itemtype : (kItemref = kItemtype) = False := eq_false (asc_ne (by decide))
theorem kne_itemscope_itemtype : (kItemscope = kItemtype) = False := eq_false (asc_ne (by decide))
theorem keq_itemid : asc "itemid" = kItemid := rfl
theorem keq_itemprop : asc "itemprop" = kItemprop := rfl
theorem keq_itemref : asc "itemref" = kItemref := rfl
theorem keq_itemscope : asc "itemscope" = kItemscope := rfl
theorem keq_itemtype : asc "itemtype" = kItemtype := rfl

section Scan
/- `scanAttrs` compares attribute names with the five keys; a comparison of two names written as literals is
   decided on the literals (`asc_inj`) -/
attribute [local simp] optAttr scanAttrs kItemid kItemprop kItemref kItemscope kItemtype asc_inj

theorem scan_itemid (v : Option Str) (acc : ItemAttrs) :
    scanAttrs (optAttr "itemid" v) acc = { acc with itemid := v.getD acc.itemid } := by
  cases v <;> simp
theorem scan_itemtype (v : Option Str) (acc : ItemAttrs) :
    scanAttrs (optAttr "itemtype" v) acc = { acc with itemtype := v.getD acc.itemtype } := by
  cases v <;> simp
theorem scan_itemprop (v : Option Str) (acc : ItemAttrs) :
    scanAttrs (optAttr "itemprop" v) acc = { acc with itemprop := v.getD acc.itemprop } := by
  cases v <;> simp
theorem scan_itemref (v : Option Str) (acc : ItemAttrs) :
    scanAttrs (optAttr "itemref" v) acc = { acc with itemref := v.getD acc.itemref } := by
  cases v <;> simp

theorem scan_other (key : String) (v : Option Str) (acc : ItemAttrs)
    (h : key ∉ ["itemid", "itemprop", "itemref", "itemscope", "itemtype"]) : scanAttrs (optAttr key v) acc = acc := by
  simp only [List.mem_cons, List.not_mem_nil, or_false, not_or] at h
  cases v <;> simp [h]

theorem scan_attrsOf (a : Attrs) :
    scanAttrs (attrsOf a) {} =
      { itemid := a.itemid.getD [], itemprop := a.itemprop.getD [], itemref := a.itemref.getD [],
        itemscope := a.itemscope, itemtype := a.itemtype.getD [] } := by
  unfold attrsOf
  simp only [scanAttrs_append, scan_itemid, scan_itemtype, scan_itemprop, scan_itemref]
  rw [scan_other "id" _ _ (by decide), scan_other "content" _ _ (by decide), scan_other "href" _ _ (by decide),
    scan_other "src" _ _ (by decide), scan_other "data" _ _ (by decide), scan_other "value" _ _ (by decide),
    scan_other "datetime" _ _ (by decide)]
  cases a.itemscope <;> simp

end Scan

theorem findAttr_append (k : Bytes) (l1 l2 : List Attr) : findAttr k (l1 ++ l2) = (findAttr k l1).or (findAttr k l2) := by
  induction l1 with
  | nil => rfl
  | cons a l1 ih =>
    simp only [List.cons_append, findAttr]
    split
    · exact ih
    · split
      · rfl
      · exact ih

theorem findAttr_opt (k key : String) (v : Option Str) :
    findAttr (asc k) (optAttr key v) = if key = k then v else none := by
  cases v <;> simp [optAttr, findAttr, asc_inj]

theorem findAttr_scope (k : String) (b : Bool) (h : "itemscope" ≠ k) :
    findAttr (asc k) (if b then [(⟨[], asc "itemscope", []⟩ : Attr)] else []) = none := by
  cases b <;> simp [findAttr, asc_inj, h]

section Find
attribute [local simp] attrsOf findAttr_append findAttr_opt findAttr_scope

theorem find_content (a : Attrs) : findAttr (asc "content") (attrsOf a) = a.content := by simp
theorem find_href (a : Attrs) : findAttr (asc "href") (attrsOf a) = a.href := by simp
theorem find_src (a : Attrs) : findAttr (asc "src") (attrsOf a) = a.src := by simp
theorem find_data (a : Attrs) : findAttr (asc "data") (attrsOf a) = a.data := by simp
theorem find_value (a : Attrs) : findAttr (asc "value") (attrsOf a) = a.value := by simp
theorem find_datetime (a : Attrs) : findAttr (asc "datetime") (attrsOf a) = a.datetime := by simp

end Find

def kindOfTag : Tag → ValueKind
  | .metaEl => .content
  | .audio | .embed | .iframe | .img | .source | .track | .video => .src
  | .a | .area | .link => .href
  | .object => .data
  | .data => .value
  | .meter => .meter
  | .time => .time
  | _ => .other

theorem kind_atomOf (tag : Tag) : kindOfAtom (atomOf tag) = kindOfTag tag := by
  cases tag <;> simp [kindOfAtom, atomOf, kindOfTag, asc_inj]

section ItemList
variable {β : Type}

/-- value of a canonical property element, as the decoder model computes it -/
def valueN (base : Str) : Term β → Term Nat
  | .lit lex _ _ => Mdd.strLit lex
  | .iri i => .iri (resolveUrl base i)
  | .bnode _ => Mdd.strLit []

/-- what `leaves_walk` (Proofs/C11MdItemList) asks of a property triple beyond `leafOk`: Go's tokenisation of the name (Unicode spaces)
    gives the one token the HTML tokenisation (ASCII spaces) gives -/
def LeafTok (t : Triple β) : Prop := Mdd.fields (trimSpace t.p) = [t.p] ∧ t.p ≠ [] ∧ ∀ b, t.o ≠ .bnode b

theorem walk_succ (E : Env) (doc : Node) (f : Nat) (ctx : Ctx) (n : Node) (st : St) :
    walk E doc (f + 1) ctx n st = walkStep E (walk E doc f) doc ctx n st := rfl

/-- `decode` on an embedded document is the walk over its root element, with fuel for twice its height (the second
    helping is for one itemref jump) -/
theorem decode_ofSpecDoc (E : Env) (doc : Tree) :
    ∃ f, height (ofSpec doc) + height (ofSpec doc) ≤ f ∧
      (relabelFrom 1 (ofSpec doc)).1 ∈ subnodes (relabel (ofSpecDoc doc)) ∧
      decode E (ofSpecDoc doc) =
        .ok (walk E (relabel (ofSpecDoc doc)) f {} (relabelFrom 1 (ofSpec doc)).1 { steps := 1 }).out.reverse
          (walk E (relabel (ofSpecDoc doc)) f {} (relabelFrom 1 (ofSpec doc)).1 { steps := 1 }).hooks.reverse := by
  have hh : height (relabel (ofSpecDoc doc)) = height (ofSpec doc) + 1 := by
    rw [relabel_height]; simp [ofSpecDoc, height, heightL]
  have hN : 2 ≤ (subnodes (relabel (ofSpecDoc doc))).length := by
    rw [relabel_size]
    have : 1 ≤ (subnodes (ofSpec doc)).length := by rw [subnodes_eq]; simp
    simp [ofSpecDoc, subnodes, subnodesL]; omega
  obtain ⟨f, hf, hfh⟩ : ∃ f, fuelFor (relabel (ofSpecDoc doc)) = f + 1 ∧
      height (ofSpec doc) + height (ofSpec doc) ≤ f := by
    have hmul : 3 * (height (relabel (ofSpecDoc doc)) + 1) ≤
        ((subnodes (relabel (ofSpecDoc doc))).length + 1) * (height (relabel (ofSpecDoc doc)) + 1) :=
      Nat.mul_le_mul_right _ (by omega)
    refine ⟨fuelFor (relabel (ofSpecDoc doc)) - 1, ?_, ?_⟩ <;> unfold fuelFor <;> omega
  have hshape : relabel (ofSpecDoc doc) = .mk 0 2 [] [] [] [] [(relabelFrom 1 (ofSpec doc)).1] := by
    simp [relabel, ofSpecDoc, relabelFrom, relabelL]
  refine ⟨f, hfh, by rw [hshape]; exact kid_mem (by simp [Node.kids]), ?_⟩
  have e0 : scanAttrs [] {} = ({} : ItemAttrs) := rfl
  have hrun : run E (relabel (ofSpecDoc doc)) =
      walk E (relabel (ofSpecDoc doc)) f {} (relabelFrom 1 (ofSpec doc)).1 { steps := 1 } := by
    unfold run
    rw [hf]
    conv => lhs; arg 5; rw [hshape]
    simp only [walk_succ, walkStep, Node.ns, Node.attrs, Node.kids, e0, walkKidsWith, List.foldl_cons, List.foldl_nil,
      propElem, ne_eq, not_true_eq_false, ↓reduceIte, Bool.false_eq_true]
  rw [decode_eq_run, hrun]

theorem iriValue_spec (base : Str) (tm mm : List (Bytes → Option (Term Nat))) (i : Str) :
    iriValue (specEnv base tm mm) i = .iri (resolveUrl base i) := by
  unfold iriValue specEnv resolveUrl
  by_cases h : base = [] <;> simp [h]

/-- subject of an item and the blank-node counter after it -/
def subjN (base : Str) (a : Attrs) (cnt : Nat) : Subj × Nat :=
  match a.itemid with
  | some v => if v = [] then (.bn cnt, cnt + 1) else (.iri (resolveUrl base (trimSpace v)), cnt)
  | none => (.bn cnt, cnt + 1)

/-- what `decode_eq_denoteT` (Proofs/C11MdItemList) asks of an item beyond `itemOkT` -/
def ItemTok (x : Attrs × List (Triple β)) : Prop :=
  (∀ v, x.1.itemid = some v → trimSpace v = trimWs v) ∧ ∀ t ∈ x.2, LeafTok t

/-- the blank-node counter after an item list -/
def itemsCnt (base : Str) : Nat → List (Attrs × List (Triple β)) → Nat
  | cnt, [] => cnt
  | cnt, x :: xs => itemsCnt base (subjN base x.1 cnt).2 xs

theorem lookupR_none_of_lt (r : List (Nat × Subj)) (m : Nat) (h : ∀ e ∈ r, e.1 < m) : lookupR r m = none := by
  unfold lookupR
  have : r.find? (fun e => e.1 == m) = none := by
    apply List.find?_eq_none.mpr
    intro e he
    have := h e he
    simp; omega
  rw [this]

theorem valueOf_map (base : Str) (σ : Path → Nat) (o : Term β) (h : ∀ b, o ≠ .bnode b) :
    Term.map σ (valueOf base o) = valueN base o := by
  cases o with
  | lit l d g => rfl
  | iri i => rfl
  | bnode b => exact absurd rfl (h b)

theorem subject_map (base : Str) (σ : Path → Nat) (a : Attrs) (here : Path) (cnt : Nat)
    (hid : ∀ v, a.itemid = some v → trimSpace v = trimWs v) (hσ : σ here = cnt) :
    Term.map σ (subject base a here) = (subjN base a cnt).1.term := by
  unfold subject subjN
  cases hv : a.itemid with
  | none => simp [Term.map, Subj.term, hσ]
  | some v =>
    by_cases h0 : v = []
    · simp [h0, Term.map, Subj.term, hσ]
    · simp [h0, Term.map, Subj.term, hid v hv]

/-- the renaming: the position of the j-th item ↦ the blank-node counter on entry to it -/
def sigmaL (base : Str) (L : List (Attrs × List (Triple β))) : Path → Nat
  | [1, j] => itemsCnt base 0 (L.take j)
  | _ => 0

/-- is the item's subject a blank node? -/
def isBnItem (a : Attrs) : Bool := match a.itemid with | some v => v == [] | none => true

theorem itemsCnt_append (base : Str) (cnt : Nat) (l1 l2 : List (Attrs × List (Triple β))) :
    itemsCnt base cnt (l1 ++ l2) = itemsCnt base (itemsCnt base cnt l1) l2 := by
  induction l1 generalizing cnt with
  | nil => rfl
  | cons x xs ih => simp [itemsCnt, ih]

theorem itemsCnt_ge (base : Str) (cnt : Nat) (l : List (Attrs × List (Triple β))) : cnt ≤ itemsCnt base cnt l := by
  induction l generalizing cnt with
  | nil => exact Nat.le_refl _
  | cons x xs ih =>
    simp only [itemsCnt]
    refine Nat.le_trans ?_ (ih _)
    unfold subjN
    repeat' split
    all_goals simp

theorem subjN_bn (base : Str) (a : Attrs) (cnt : Nat) (h : isBnItem a = true) : (subjN base a cnt).2 = cnt + 1 := by
  unfold isBnItem at h
  unfold subjN
  cases hv : a.itemid with
  | none => rfl
  | some v => simp [hv] at h; simp [h]

theorem sigmaL_inj (base : Str) (L : List (Attrs × List (Triple β))) (i j : Nat) (xi xj : Attrs × List (Triple β))
    (hi : L[i]? = some xi) (hj : L[j]? = some xj) (bi : isBnItem xi.1 = true) (bj : isBnItem xj.1 = true)
    (h : sigmaL base L [1, i] = sigmaL base L [1, j]) : i = j := by
  have key : ∀ (a b : Nat) (xa : Attrs × List (Triple β)), a < b → L[a]? = some xa → isBnItem xa.1 = true → b ≤ L.length →
      itemsCnt base 0 (L.take a) < itemsCnt base 0 (L.take b) := by
    intro a b xa hab ha hbn hb
    have hlt : a < L.length := (List.getElem?_eq_some_iff.mp ha).1
    have hsplit : L.take b = L.take a ++ xa :: (L.drop (a + 1)).take (b - (a + 1)) := by
      have h1 : L.take b = (L.take (a + 1)) ++ (L.drop (a + 1)).take (b - (a + 1)) := by
        rw [← List.take_add]; congr 1; omega
      rw [h1, List.take_add_one, ha]; simp
    rw [hsplit, itemsCnt_append]
    simp only [itemsCnt]
    rw [subjN_bn base xa.1 _ hbn]
    exact Nat.lt_of_lt_of_le (Nat.lt_succ_self _) (itemsCnt_ge base _ _)
  have hi' : i < L.length := (List.getElem?_eq_some_iff.mp hi).1
  have hj' : j < L.length := (List.getElem?_eq_some_iff.mp hj).1
  simp only [sigmaL] at h
  rcases Nat.lt_trichotomy i j with hlt | heq | hgt
  · have := key i j xi hlt hi bi (Nat.le_of_lt hj'); omega
  · exact heq
  · have := key j i xj hgt hj bj (Nat.le_of_lt hi'); omega

end ItemList

end RdfModel.Mdd
