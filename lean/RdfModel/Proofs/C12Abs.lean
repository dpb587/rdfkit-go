import RdfModel.Proofs.C12Rds
namespace RdfModel.Proofs.C12
open RdfModel.Spec.RFC3986

/-- "/s1/s2/…" -/
def joinSlash (l : List Str) : Str := (l.map (cSlash :: ·)).flatten

theorem joinSlash_nil : joinSlash [] = [] := rfl
theorem joinSlash_cons (s : Str) (l : List Str) : joinSlash (s :: l) = cSlash :: (s ++ joinSlash l) := by
  simp [joinSlash]
theorem joinSlash_append (a b : List Str) : joinSlash (a ++ b) = joinSlash a ++ joinSlash b := by
  simp [joinSlash]
theorem joinSlash_snoc (a : List Str) (s : Str) : joinSlash (a ++ [s]) = joinSlash a ++ cSlash :: s := by
  rw [joinSlash_append, joinSlash_cons, joinSlash_nil]; simp

theorem joinSlash_shape (l : List Str) : joinSlash l = [] ∨ ∃ t, joinSlash l = cSlash :: t := by
  cases l with
  | nil => left; rfl
  | cons s l => right; exact ⟨_, joinSlash_cons s l⟩

theorem joinSlash_segments (r : Str) : joinSlash (segments r) = cSlash :: r := by
  induction r with
  | nil => rfl
  | cons c r ih =>
    by_cases hc : c = cSlash
    · subst hc; rw [segments_cons_slash, joinSlash_cons, ih]; rfl
    · obtain ⟨s, ss, h1, h2⟩ := segments_cons_ne hc r
      rw [h2, joinSlash_cons]
      rw [h1, joinSlash_cons] at ih
      injection ih with _ ih
      rw [List.cons_append, ih]

theorem segments_joinSlash {s : Str} (hs : NoSlash s) {l : List Str} (hl : ∀ x ∈ l, NoSlash x) :
    segments (s ++ joinSlash l) = s :: l := by
  induction l generalizing s with
  | nil => simpa [joinSlash_nil] using segments_noSlash hs
  | cons x l ih =>
    rw [joinSlash_cons, segments_append_slash, segments_noSlash hs,
      ih (hl x List.mem_cons_self) fun y hy => hl y (List.mem_cons_of_mem _ hy)]
    rfl

theorem noDot_joinSlash {l : List Str} (hl : ∀ x ∈ l, NoSlash x) (hd : ∀ x ∈ l, isDotSegment x = false) :
    NoDotSegments (joinSlash l) := by
  cases l with
  | nil => exact noDot_nil
  | cons s l =>
    intro x hx
    rw [joinSlash_cons, segments_cons_slash, segments_joinSlash (hl s List.mem_cons_self)
      fun y hy => hl y (List.mem_cons_of_mem _ hy)] at hx
    rcases List.mem_cons.mp hx with rfl | hx
    · rfl
    · exact hd x hx

/-- one segment that is not the last one -/
def absStep (st : List Str) (s : Str) : List Str :=
  if s = [cDot] then st else if s = [cDot, cDot] then st.tail else s :: st

/-- the last segment: a trailing dot segment leaves a trailing "/" -/
def absLast (st : List Str) (s : Str) : List Str :=
  if s = [cDot] ∨ s = [cDot, cDot] then [] :: absStep st s else absStep st s

/-- the output stack (top first) after all segments -/
def absRun : List Str → List Str → List Str
  | st, [] => st
  | st, [s] => absLast st s
  | st, s :: s2 :: rest => absRun (absStep st s) (s2 :: rest)

abbrev AllNoSlash (l : List Str) : Prop := ∀ s ∈ l, NoSlash s

theorem popSegment_joinSlash {st : List Str} (h : AllNoSlash st) :
    popSegment (joinSlash st.reverse) = joinSlash st.tail.reverse := by
  cases st with
  | nil => rfl
  | cons top st' =>
    rw [List.reverse_cons, joinSlash_snoc, popSegment_append (h top (by simp))]; rfl

theorem not_isDot {s : Str} (h1 : s ≠ [cDot]) (h2 : s ≠ [cDot, cDot]) : isDotSegment s = false := by
  simp [isDotSegment, h1, h2]

theorem not_stepAD_seg {s : Str} (hs : NoSlash s) (h1 : s ≠ [cDot]) (h2 : s ≠ [cDot, cDot]) {tail : Str}
    (ht : tail = [] ∨ ∃ t, tail = cSlash :: t) : ¬ stepAD (cSlash :: (s ++ tail)) := by
  -- `s` is the slash-free run in front of `tail`, so a dot segment in that place would be `s`
  have tw := (span_ns hs ht).1
  rintro (⟨t, h⟩ | ⟨t, h⟩ | ⟨t, h⟩ | h | ⟨t, h⟩ | h | h | h) <;> injection h with h0 h
  · exact absurd h0 (by decide)
  · exact absurd h0 (by decide)
  · exact h1 (by rw [← tw, h]; exact (span_ns (s := [cDot]) (by decide) (.inr ⟨t, rfl⟩)).1)
  · exact h1 (by rw [← tw, h]; rfl)
  · exact h2 (by rw [← tw, h]; exact (span_ns (s := [cDot, cDot]) (by decide) (.inr ⟨t, rfl⟩)).1)
  · exact h2 (by rw [← tw, h]; rfl)
  · exact absurd h0 (by decide)
  · exact absurd h0 (by decide)

theorem allNoSlash_absStep {st : List Str} {s : Str} (hst : AllNoSlash st) (hs : NoSlash s) :
    AllNoSlash (absStep st s) := by
  unfold absStep
  split
  · exact hst
  · split
    · exact fun x hx => hst x (List.mem_of_mem_tail hx)
    · intro x hx
      rcases List.mem_cons.mp hx with h | h
      · subst h; exact hs
      · exact hst x h

/-- the segments still to come after `s`: a dot segment at the very end leaves the "/" that steps 2B and 2C put back -/
def segsAfter (s : Str) (rest : List Str) : List Str :=
  if rest = [] then (if s = [cDot] ∨ s = [cDot, cDot] then [[]] else []) else rest

theorem absRun_cons (st : List Str) (s : Str) (rest : List Str) :
    absRun st (s :: rest) = absRun (absStep st s) (segsAfter s rest) := by
  cases rest with
  | cons s2 rest => rfl
  | nil => by_cases h : s = [cDot] ∨ s = [cDot, cDot] <;> simp [segsAfter, absRun, absLast, absStep, h]

theorem absRun_append (st : List Str) {segs rest : List Str} (hd : ∀ x ∈ segs, isDotSegment x = false)
    (h : rest ≠ []) : absRun st (segs ++ rest) = absRun (segs.reverse ++ st) rest := by
  induction segs generalizing st with
  | nil => rfl
  | cons s segs ih =>
    have hs : s ≠ [cDot] ∧ s ≠ [cDot, cDot] := by simpa [isDotSegment] using hd s List.mem_cons_self
    rw [List.cons_append, absRun_cons, segsAfter, if_neg (by simp [h]), ih _ fun x hx => hd x (List.mem_cons_of_mem _ hx)]
    simp [absStep, hs]

theorem rdsStep_joinSlash {s : Str} (hs : NoSlash s) (rest : List Str) {st : List Str} (hst : AllNoSlash st) :
    rdsStep (joinSlash (s :: rest)) (joinSlash st.reverse) =
      (joinSlash (segsAfter s rest), joinSlash (absStep st s).reverse) := by
  have hds : cDot ≠ cSlash := by decide
  rw [joinSlash_cons]
  by_cases h1 : s = [cDot]
  · subst h1
    cases rest <;> simp [rdsStep, beginsWith, hds, segsAfter, absStep, joinSlash_cons, joinSlash_nil]
  · by_cases h2 : s = [cDot, cDot]
    · subst h2
      have hp := popSegment_joinSlash hst
      cases rest <;> simp [rdsStep, beginsWith, hds, segsAfter, absStep, joinSlash_cons, joinSlash_nil, hp]
    · have hcut := span_ns hs (joinSlash_shape rest)
      have hrest : segsAfter s rest = rest := by cases rest <;> simp [segsAfter, h1, h2]
      rw [rdsStep_E (not_stepAD_seg hs h1 h2 (joinSlash_shape rest)), firstSegment_slash, hcut.1, hrest]
      simp [afterFirstSegment, hcut.2, absStep, h1, h2, joinSlash_snoc]

theorem allNoSlash_segsAfter {s : Str} {rest : List Str} (h : AllNoSlash rest) : AllNoSlash (segsAfter s rest) := by
  unfold segsAfter
  split
  · split
    · intro x hx c hc
      rw [List.mem_singleton.mp hx] at hc
      cases hc
    · intro x hx
      cases hx
  · exact h

theorem segsAfter_length (s : Str) (rest : List Str) :
    (joinSlash (segsAfter s rest)).length < (joinSlash (s :: rest)).length := by
  cases rest with
  | cons s2 rest => simp [segsAfter, joinSlash_cons]; omega
  | nil =>
    by_cases h : s = [cDot] ∨ s = [cDot, cDot]
    · rcases h with rfl | rfl <;> simp [segsAfter, joinSlash_cons, joinSlash_nil]
    · simp [segsAfter, joinSlash_cons, joinSlash_nil, h]

theorem rdsLoop_abs : ∀ (n : Nat) (segs st : List Str), AllNoSlash segs → AllNoSlash st →
    (joinSlash segs).length < n →
    rdsLoop n (joinSlash segs) (joinSlash st.reverse) = joinSlash (absRun st segs).reverse := by
  intro n
  induction n with
  | zero => intro segs st _ _ h; omega
  | succ n ih =>
    intro segs st hsegs hst hlen
    cases segs with
    | nil => rfl
    | cons s rest =>
      have hs : NoSlash s := hsegs s List.mem_cons_self
      rw [rdsLoop_succ, if_neg (by simp [joinSlash_cons]), rdsStep_joinSlash hs rest hst, absRun_cons]
      have := segsAfter_length s rest
      exact ih _ _ (allNoSlash_segsAfter fun x hx => hsegs x (List.mem_cons_of_mem _ hx))
        (allNoSlash_absStep hst hs) (by omega)

theorem rds_joinSlash {l : List Str} (hl : AllNoSlash l) :
    removeDotSegments (joinSlash l) = joinSlash (absRun [] l).reverse :=
  rdsLoop_abs _ l [] hl (fun _ h => nomatch h) (Nat.lt_succ_self _)

theorem rds_abs (r : Str) : removeDotSegments (cSlash :: r) = joinSlash (absRun [] (segments r)).reverse := by
  rw [← joinSlash_segments, rds_joinSlash (segments_mem_noSlash r)]

end RdfModel.Proofs.C12
