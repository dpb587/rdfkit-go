import RdfModel.Spec.RFC3986
namespace RdfModel.Proofs.C12
open RdfModel.Spec.RFC3986

theorem dropWhile_head_false {p : Nat → Bool} {l : Str} {c : Nat} {t : Str} (h : l.dropWhile p = c :: t) :
    p c = false := by
  simpa [h] using List.head?_dropWhile_not p l

theorem splitScheme_cases (s : Str) :
    (∃ rest, s.dropWhile notGenDelim = cColon :: rest ∧ s.takeWhile notGenDelim ≠ [] ∧
      splitScheme s = (some (s.takeWhile notGenDelim), rest)) ∨ splitScheme s = (none, s) := by
  unfold splitScheme
  split
  · split
    · next c rest hd h => exact .inl ⟨rest, by rw [hd, h.1], h.2, rfl⟩
    · exact .inr rfl
  · exact .inr rfl

theorem splitScheme_some {s x r : Str} (h : splitScheme s = (some x, r)) :
    x ++ cColon :: r = s ∧ x ≠ [] ∧ x = s.takeWhile notGenDelim := by
  rcases splitScheme_cases s with ⟨rest, hd, hne, e⟩ | e <;> rw [e] at h <;> cases h
  exact ⟨by rw [← hd, List.takeWhile_append_dropWhile], hne, rfl⟩

theorem splitScheme_none {s r : Str} (h : splitScheme s = (none, r)) : r = s := by
  rcases splitScheme_cases s with ⟨rest, _, _, e⟩ | e <;> rw [e] at h <;> cases h
  rfl
theorem splitScheme_part (s : Str) : schemePart (splitScheme s).1 ++ (splitScheme s).2 = s := by
  rcases splitScheme_cases s with ⟨rest, hd, _, e⟩ | e <;> rw [e]
  · simp [schemePart, ← hd]
  · rfl

theorem splitAuthority_cases (s : Str) :
    (∃ rest, s = cSlash :: cSlash :: rest ∧ splitAuthority s = (some (rest.takeWhile notSQH), rest.dropWhile notSQH)) ∨
    splitAuthority s = (none, s) := by
  unfold splitAuthority
  split
  · split
    · next x y rest h => exact .inl ⟨rest, by rw [h.1, h.2], rfl⟩
    · exact .inr rfl
  · exact .inr rfl

theorem splitAuthority_none {s r : Str} (h : splitAuthority s = (none, r)) : r = s := by
  rcases splitAuthority_cases s with ⟨rest, rfl, e⟩ | e <;> rw [e] at h <;> cases h
  rfl

theorem splitAuthority_part (s : Str) : authorityPart (splitAuthority s).1 ++ (splitAuthority s).2 = s := by
  rcases splitAuthority_cases s with ⟨rest, rfl, e⟩ | e <;> rw [e]
  · simp [authorityPart]
  · rfl


theorem splitQuery_cases (s : Str) :
    (∃ rest, s = cQuest :: rest ∧ splitQuery s = (some (rest.takeWhile notH), rest.dropWhile notH)) ∨
    (splitQuery s = (none, s) ∧ s.head? ≠ some cQuest) := by
  unfold splitQuery
  split
  · split
    · next c rest h => exact .inl ⟨rest, by rw [h], rfl⟩
    · next c rest h => exact .inr ⟨rfl, by simpa using h⟩
  · exact .inr ⟨rfl, by simp⟩

/-- `t` is empty or starts with an element on which `p` fails -/
def Stops (p : Nat → Bool) (t : Str) : Prop := ∀ c ∈ t.head?, p c = false

theorem stops_cons {p : Nat → Bool} {c : Nat} (h : p c = false) (t : Str) : Stops p (c :: t) := by simp [Stops, h]
theorem stops_weaken {p q : Nat → Bool} (h : ∀ c, p c = false → q c = false) {t : Str} (ht : Stops p t) : Stops q t :=
  fun c hc => h c (ht c hc)

theorem stops_dropWhile (p : Nat → Bool) (l : Str) : Stops p (l.dropWhile p) := by
  intro c hc
  cases hd : l.dropWhile p with
  | nil => rw [hd] at hc; cases hc
  | cons d t => rw [hd] at hc; cases hc; exact dropWhile_head_false hd

theorem splitFragment_part {t : Str} (h : Stops notH t) : fragmentPart (splitFragment t) = t := by
  cases t with
  | nil => rfl
  | cons c t => have := h c rfl; simp [notH] at this; simp [splitFragment, fragmentPart, this]

theorem splitFragment_hash (t : Str) : splitFragment (cHash :: t) = some t := by simp [splitFragment]
theorem splitFragment_nil : splitFragment [] = none := rfl

theorem tail_part (r2 : Str) :
    queryPart (splitQuery (r2.dropWhile notQH)).1 ++ fragmentPart (splitFragment (splitQuery (r2.dropWhile notQH)).2) =
      r2.dropWhile notQH := by
  rcases splitQuery_cases (r2.dropWhile notQH) with ⟨rest, hr, e⟩ | ⟨e, hh⟩ <;> rw [e]
  · rw [hr, splitFragment_part (stops_dropWhile notH rest)]
    simp [queryPart]
  · refine splitFragment_part fun c hc => ?_
    have := stops_dropWhile notQH r2 c hc
    simp only [notQH, Bool.and_eq_false_iff, bne_eq_false_iff_eq] at this
    rcases this with rfl | rfl
    · exact absurd hc hh
    · rfl

theorem recompose_split (s : Str) : recompose (split s) = s := by
  have h1 := splitScheme_part s
  have h2 := splitAuthority_part (splitScheme s).2
  have h3 := tail_part (splitAuthority (splitScheme s).2).2
  have h4 := List.takeWhile_append_dropWhile (p := notQH) (l := (splitAuthority (splitScheme s).2).2)
  unfold split recompose
  simp only [List.append_assoc]
  rw [h3, h4, h2, h1]


theorem span_append {p : Nat → Bool} {x t : Str} (hx : ∀ c ∈ x, p c = true) (ht : Stops p t) :
    (x ++ t).takeWhile p = x ∧ (x ++ t).dropWhile p = t := by
  rw [List.takeWhile_append_of_pos hx, List.dropWhile_append_of_pos hx]
  cases t with
  | nil => simp
  | cons c r => simp [ht c (by simp)]

theorem mem_takeWhile {p : Nat → Bool} {l : Str} {c : Nat} (h : c ∈ l.takeWhile p) : p c = true :=
  List.all_eq_true.mp List.all_takeWhile c h

/-! ### Appendix B reads back what 5.3 writes, exactly on well-formed components -/

/-- the components that Appendix B can produce -/
structure WF (P : Parts) : Prop where
  scheme : ∀ s, P.scheme = some s → s ≠ [] ∧ ∀ c ∈ s, notGenDelim c = true
  authority : ∀ a, P.authority = some a → ∀ c ∈ a, notSQH c = true
  path : ∀ c ∈ P.path, notQH c = true
  query : ∀ q, P.query = some q → ∀ c ∈ q, notH c = true
  /-- after an authority the path is empty or absolute -/
  rooted : P.authority.isSome → Stops notSQH P.path
  /-- without an authority the path does not start with "//" -/
  noNet : P.authority = none → ∀ t, P.path ≠ cSlash :: cSlash :: t
  /-- without scheme and authority the path does not read as `scheme:` -/
  noColon : P.scheme = none → P.authority = none → (splitScheme P.path).1 = none

theorem WF.noHash {P : Parts} (h : WF P) :
    cHash ∉ schemePart P.scheme ++ authorityPart P.authority ++ P.path ++ queryPart P.query := by
  obtain ⟨sc, au, pa, qu, fr⟩ := P
  simp only [List.mem_append, not_or]
  refine ⟨⟨⟨?_, ?_⟩, fun hm => absurd (h.path _ hm) (by decide)⟩, ?_⟩
  · cases sc with
    | none => simp [schemePart]
    | some s =>
      simp only [schemePart, List.mem_append, List.mem_singleton, not_or]
      exact ⟨fun hm => absurd ((h.scheme s rfl).2 _ hm) (by decide), by decide⟩
  · cases au with
    | none => simp [authorityPart]
    | some a =>
      simp only [authorityPart, List.mem_cons, not_or]
      exact ⟨by decide, by decide, fun hm => absurd (h.authority a rfl _ hm) (by decide)⟩
  · cases qu with
    | none => simp [queryPart]
    | some q =>
      simp only [queryPart, List.mem_cons, not_or]
      exact ⟨by decide, fun hm => absurd (h.query q rfl _ hm) (by decide)⟩

theorem notQH_false {c : Nat} (h : notQH c = false) : c = cQuest ∨ c = cHash := by
  simpa [notQH, Classical.or_iff_not_imp_left] using h

theorem queryFrag_stops (q f : Option Str) : Stops notQH (queryPart q ++ fragmentPart f) := by
  cases q <;> cases f <;> simp [Stops, queryPart, fragmentPart, notQH]

theorem frag_stops (f : Option Str) : Stops notH (fragmentPart f) := by
  cases f <;> simp [Stops, fragmentPart, notH]

theorem tail_split (q f : Option Str) (hq : ∀ x, q = some x → ∀ c ∈ x, notH c = true) :
    splitQuery (queryPart q ++ fragmentPart f) = (q, fragmentPart f) ∧ splitFragment (fragmentPart f) = f := by
  refine ⟨?_, by cases f <;> simp [fragmentPart, splitFragment]⟩
  cases q with
  | some x =>
    obtain ⟨h1, h2⟩ := span_append (hq x rfl) (frag_stops f)
    simp [queryPart, splitQuery, h1, h2]
  | none => cases f <;> simp [queryPart, fragmentPart, splitQuery, show ¬ cHash = cQuest by decide]

theorem splitScheme_fst_append {p t : Str} (ht : Stops notGenDelim t) (hc : t.head? ≠ some cColon)
    (h : (splitScheme p).1 = none) : splitScheme (p ++ t) = (none, p ++ t) := by
  unfold splitScheme at h ⊢
  have e := List.takeWhile_append_dropWhile (p := notGenDelim) (l := p)
  cases hd : p.dropWhile notGenDelim with
  | nil =>
    rw [hd, List.append_nil] at e
    obtain ⟨h1, h2⟩ := span_append (x := p) (t := t) (fun c hc => mem_takeWhile (e ▸ hc)) ht
    rw [h2]
    cases t with
    | nil => rfl
    | cons c r => dsimp only; rw [if_neg]; intro hh; exact hc (by simp [hh.1])
  | cons c r =>
    rw [hd] at h e
    have hc' := dropWhile_head_false hd
    obtain ⟨h1, h2⟩ := span_append (x := p.takeWhile notGenDelim) (t := c :: r ++ t)
      (fun _ => mem_takeWhile) (stops_cons hc' _)
    rw [← e, List.append_assoc, h2, h1]
    dsimp only [List.cons_append] at h ⊢
    split at h
    · cases h
    · rename_i hn; rw [if_neg hn]

theorem split_recompose {P : Parts} (h : WF P) : split (recompose P) = P := by
  obtain ⟨sch, au, pa, qu, fr⟩ := P
  have hT := tail_split qu fr h.query
  have hQF := queryFrag_stops qu fr
  have hP := span_append (p := notQH) (x := pa) (t := queryPart qu ++ fragmentPart fr) h.path hQF
  have e3 : ∀ r2, r2 = pa ++ (queryPart qu ++ fragmentPart fr) →
      ({ scheme := sch, authority := au, path := r2.takeWhile notQH,
         query := (splitQuery (r2.dropWhile notQH)).1, fragment := splitFragment (splitQuery (r2.dropWhile notQH)).2 } : Parts)
        = ⟨sch, au, pa, qu, fr⟩ := by
    rintro _ rfl
    rw [hP.1, hP.2, hT.1, hT.2]
  have e2 : splitAuthority (authorityPart au ++ (pa ++ (queryPart qu ++ fragmentPart fr)))
      = (au, pa ++ (queryPart qu ++ fragmentPart fr)) := by
    cases au with
    | some a =>
      have hr : Stops notSQH (pa ++ (queryPart qu ++ fragmentPart fr)) := by
        cases pa with
        | nil => exact stops_weaken (fun c hc => by rcases notQH_false hc with rfl | rfl <;> rfl) hQF
        | cons c r => exact fun d hd => h.rooted rfl d (by simpa using hd)
      obtain ⟨h1, h2⟩ := span_append (h.authority a rfl) hr
      simp [authorityPart, splitAuthority, h1, h2]
    | none =>
      simp only [authorityPart, List.nil_append]
      rcases splitAuthority_cases (pa ++ (queryPart qu ++ fragmentPart fr)) with ⟨rest, e, _⟩ | e
      · exfalso
        match pa, h.noNet rfl, e with
        | [], _, e => exact absurd (hQF cSlash (by rw [List.nil_append] at e; simp [e])) (by decide)
        | [c], _, e =>
          simp only [List.cons_append, List.nil_append, List.cons.injEq] at e
          exact absurd (hQF cSlash (by simp [e.2])) (by decide)
        | c :: d :: t, hn, e =>
          simp only [List.cons_append, List.cons.injEq] at e
          exact hn t (by rw [e.1, e.2.1])
      · exact e
  have e1 : splitScheme (schemePart sch ++ (authorityPart au ++ (pa ++ (queryPart qu ++ fragmentPart fr))))
      = (sch, authorityPart au ++ (pa ++ (queryPart qu ++ fragmentPart fr))) := by
    cases sch with
    | some s =>
      obtain ⟨hne, hs⟩ := h.scheme s rfl
      obtain ⟨h1, h2⟩ := span_append (p := notGenDelim) hs (stops_cons (c := cColon) (by decide)
        (authorityPart au ++ (pa ++ (queryPart qu ++ fragmentPart fr))))
      simp only [schemePart, List.append_assoc, List.singleton_append]
      unfold splitScheme
      rw [h2, h1]
      simp [hne]
    | none =>
      simp only [schemePart, List.nil_append]
      cases au with
      | some a => simp [authorityPart, splitScheme, notGenDelim]
      | none =>
        simp only [authorityPart, List.nil_append]
        -- query and fragment stop a scheme candidate without completing it: the path alone decides
        refine splitScheme_fst_append (stops_weaken (fun c hc => by rcases notQH_false hc with rfl | rfl <;> rfl) hQF) ?_
          (h.noColon rfl rfl)
        intro hc
        exact absurd (hQF cColon hc) (by decide)
  unfold split recompose
  simp only [List.append_assoc, e1, e2]
  exact e3 _ rfl

theorem wf_split (s : Str) : WF (split s) := by
  unfold split
  simp only
  rcases hsc : splitScheme s with ⟨sc, r1⟩
  rcases hau : splitAuthority r1 with ⟨au, r2⟩
  rcases hq : splitQuery (r2.dropWhile notQH) with ⟨qu, r4⟩
  simp only
  refine ⟨?_, ?_, fun _ => mem_takeWhile, ?_, ?_, ?_, ?_⟩
  · rintro x ⟨⟩
    obtain ⟨_, hne, rfl⟩ := splitScheme_some hsc
    exact ⟨hne, fun _ => mem_takeWhile⟩
  · rintro a ⟨⟩
    rcases splitAuthority_cases r1 with ⟨rest, rfl, e⟩ | e <;> rw [e] at hau <;> cases hau
    exact fun _ => mem_takeWhile
  · rintro q ⟨⟩
    rcases splitQuery_cases (r2.dropWhile notQH) with ⟨rest, _, e⟩ | ⟨e, _⟩ <;> rw [e] at hq <;> cases hq
    exact fun _ => mem_takeWhile
  · intro ha
    rcases splitAuthority_cases r1 with ⟨rest, rfl, e⟩ | e <;> rw [e] at hau <;> cases hau
    · intro c hc
      have h1 := stops_dropWhile notSQH rest
      cases hd : rest.dropWhile notSQH with
      | nil => rw [hd] at hc; cases hc
      | cons d t =>
        rw [hd] at hc h1
        have hd' := h1 d rfl
        by_cases hq' : notQH d = true
        · rw [List.takeWhile_cons_of_pos hq'] at hc; cases hc; exact hd'
        · rw [List.takeWhile_cons_of_neg hq'] at hc; cases hc
    · cases ha
  · rintro rfl t ht
    obtain rfl := splitAuthority_none hau
    have ht' : r2.takeWhile notQH = cSlash :: cSlash :: t := ht
    obtain ⟨u, hu⟩ := ht' ▸ List.takeWhile_prefix notQH (l := r2)
    rw [← hu] at hau
    simp [splitAuthority] at hau
  · rintro rfl rfl
    obtain rfl := splitScheme_none hsc
    obtain rfl := splitAuthority_none hau
    -- the path is what precedes the first `?` or `#`: a scheme candidate in it is one in the whole string
    have e := List.takeWhile_append_dropWhile (p := notQH) (l := r2)
    rcases splitScheme_cases (r2.takeWhile notQH) with ⟨rest, hd, hx, _⟩ | h
    · exfalso
      have e2 := List.takeWhile_append_dropWhile (p := notGenDelim) (l := r2.takeWhile notQH)
      rw [hd] at e2
      obtain ⟨h1, h2⟩ := span_append (p := notGenDelim) (x := (r2.takeWhile notQH).takeWhile notGenDelim)
        (t := cColon :: rest ++ r2.dropWhile notQH) (fun _ => mem_takeWhile) (stops_cons (by decide) _)
      rw [← List.append_assoc, e2, e] at h1 h2
      unfold splitScheme at hsc
      rw [h2, h1] at hsc
      simp [hx] at hsc
    · rw [h]

theorem split_eq_iff (s : Str) (P : Parts) : split s = P ↔ recompose P = s ∧ WF P :=
  ⟨fun h => h ▸ ⟨recompose_split s, wf_split s⟩, fun ⟨h1, h2⟩ => h1 ▸ split_recompose h2⟩

end RdfModel.Proofs.C12
