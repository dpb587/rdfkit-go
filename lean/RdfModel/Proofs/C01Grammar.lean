/-
  Every term-level lemma is about a term followed by `0x20 :: rest`: `quadBody` puts a space after
  every term, and the lemmas are false for other followers (a `-` after a tag, a `.` after a label).
  The recogniser knows no comments (`NQG.line` rejects `# …`): it accepts what the encoder writes, not
  everything the decoder model reads.
-/
import RdfModel.Proofs.C01Scan
import RdfModel.Spec.NQuadsGrammar
namespace RdfModel.Proofs.C01
open RdfModel RdfModel.NQ RdfModel.C01
open RdfModel.Spec

variable {β : Type}

theorem iriref_raw (c : Nat) (r : List Nat) (h : iriRawOK c) : NQG.iriref (c :: r) = NQG.iriref r := by
  obtain ⟨h1, h2, h3, h4, h5, h6, h7, h8, h9, h10⟩ := h
  -- neither the `>` pattern nor one of the backslash patterns of `iriref` matches `c`: the catch-all
  -- clause `c :: rest` applies, the sixth and last of `Spec.NQG.iriref` (`eq_6`; a new clause there renumbers it)
  rw [NQG.iriref.eq_6 _ _ h3 (fun _ _ _ _ _ hc => absurd hc h10) (fun _ _ _ _ _ _ _ _ _ hc => absurd hc h10)
    (fun hc => absurd hc h10), if_neg]
  simp only [Bool.or_eq_true, decide_eq_true_eq]
  omega

theorem stringLit_raw (c : Nat) (r : List Nat) (h1 : c ≠ 0x22) (h2 : c ≠ 0x5c) (h3 : c ≠ 0x0a)
    (h4 : c ≠ 0x0d) : NQG.stringLit (c :: r) = NQG.stringLit r := by
  -- the catch-all clause `c :: rest`, the seventh and last of `Spec.NQG.stringLit`: no `"`, no backslash pattern
  rw [NQG.stringLit.eq_7 _ _ h1 (fun _ _ _ _ _ hc => absurd hc h2) (fun _ _ _ _ _ _ _ _ _ hc => absurd hc h2)
    (fun _ _ hc => absurd hc h2) (fun hc => absurd hc h2), if_neg]
  simp only [Bool.or_eq_true, decide_eq_true_eq]
  omega

theorem stringLit_echar (x : Nat) (r : List Nat)
    (hx : x = 0x74 ∨ x = 0x62 ∨ x = 0x6e ∨ x = 0x72 ∨ x = 0x66 ∨ x = 0x22 ∨ x = 0x27 ∨ x = 0x5c) :
    NQG.stringLit (0x5c :: x :: r) = NQG.stringLit r := by
  rcases hx with rfl | rfl | rfl | rfl | rfl | rfl | rfl | rfl <;> simp [NQG.stringLit, NQG.isEcharLetter]

theorem isHex_hexUpper (d : Nat) (hd : d < 16) : NQG.isHex (hexUpper d) = true := by
  unfold NQG.isHex hexUpper
  simp only [Bool.or_eq_true, Bool.and_eq_true, decide_eq_true_eq]
  split <;> omega

theorem iriref_u4 (c : Nat) (r : List Nat) :
    NQG.iriref (0x5c :: 0x75 :: (hex4 c ++ r)) = NQG.iriref r := by
  simp only [hex4, List.cons_append, List.nil_append]
  rw [NQG.iriref]
  simp [isHex_hexUpper _ (Nat.mod_lt _ (by decide : 16 > 0))]


theorem iriref_u8 (c : Nat) (r : List Nat) :
    NQG.iriref (0x5c :: 0x55 :: (hex8 c ++ r)) = NQG.iriref r := by
  simp only [hex8, List.cons_append, List.nil_append]
  rw [NQG.iriref]
  -- 268435456 = 0x10000000: the first digit of `hex8`, masked with 7, as `simp` shows it
  simp [isHex_hexUpper _ (Nat.mod_lt _ (by decide : 16 > 0)),
    isHex_hexUpper (c / 268435456 % 8) (by omega)]

theorem stringLit_u4 (c : Nat) (r : List Nat) :
    NQG.stringLit (0x5c :: 0x75 :: (hex4 c ++ r)) = NQG.stringLit r := by
  simp only [hex4, List.cons_append, List.nil_append]
  rw [NQG.stringLit]
  simp [isHex_hexUpper _ (Nat.mod_lt _ (by decide : 16 > 0))]

theorem stringLit_u8 (c : Nat) (r : List Nat) :
    NQG.stringLit (0x5c :: 0x55 :: (hex8 c ++ r)) = NQG.stringLit r := by
  simp only [hex8, List.cons_append, List.nil_append]
  rw [NQG.stringLit]
  simp [isHex_hexUpper _ (Nat.mod_lt _ (by decide : 16 > 0)),
    isHex_hexUpper (c / 268435456 % 8) (by omega)]

theorem iriref_body (T : Tables) (hT : TablesOK T) (a : Bool) (s rest : List Nat) :
    NQG.iriref (iriBody T a s ++ 0x3e :: rest) = some rest := by
  induction s with
  | nil => simp [iriBody, NQG.iriref]
  | cons c s ih =>
    simp only [iriBody, List.flatMap_cons, List.append_assoc] at ih ⊢
    rcases escIRIRune_mode (hT.iri_mode a c) with ⟨h0, h⟩ | ⟨_, h⟩ | ⟨_, h⟩ <;> rw [h]
    · rw [List.singleton_append, iriref_raw c _ (hT.iri_raw a c h0), ih]
    · rw [List.cons_append, List.cons_append, iriref_u4, ih]
    · rw [List.cons_append, List.cons_append, iriref_u8, ih]

theorem stringLit_body (T : Tables) (hT : TablesOK T) (hG : TablesGrammar T) (a : Bool)
    (s rest : List Nat) :
    NQG.stringLit (litBody T a s ++ 0x22 :: rest) = some rest := by
  induction s with
  | nil => simp [litBody, NQG.stringLit]
  | cons c s ih =>
    simp only [litBody, List.flatMap_cons, List.append_assoc] at ih ⊢
    rcases escLitRune_mode (hT.lit_mode a c) with ⟨h0, h⟩ | ⟨h1, h⟩ | ⟨_, h⟩ | ⟨_, h⟩ <;> rw [h]
    · have hr := hT.lit_raw a c h0
      have hl := hG.lit_raw_eol a c h0
      rw [List.singleton_append, stringLit_raw c _ hr.1 hr.2 hl.1 hl.2, ih]
    · rw [List.cons_append, List.singleton_append, stringLit_echar _ _ (echarDecode_some (hT.lit_echar a c h1)), ih]
    · rw [List.cons_append, List.cons_append, stringLit_u4, ih]
    · rw [List.cons_append, List.cons_append, stringLit_u8, ih]

theorem langSub_ok (rest : List Nat) (t : List Nat) (need : Bool) (h : langRest t need = true) :
    NQG.langSub (t ++ 0x20 :: rest) need = some (0x20 :: rest) := by
  fun_induction langRest t need with
  | case1 need => simp_all [NQG.langSub, NQG.isAlpha, NQG.isDigit]
  | case2 c r need hx ih => simpa [NQG.langSub, show NQG.isAlpha c = isAlpha c from rfl, show NQG.isDigit c = isDigit c from rfl, hx] using ih h
  | case3 r need hx ih =>
    simp only [Bool.and_eq_true, Bool.not_eq_true'] at h
    simpa [NQG.langSub, NQG.isAlpha, NQG.isDigit, h.1] using ih h.2
  | case4 => cases h

theorem langtag_ok (rest : List Nat) (t : List Nat) (seen : Bool) (h : langPrim t seen = true) :
    NQG.langtag (t ++ 0x20 :: rest) seen = some (0x20 :: rest) := by
  fun_induction langPrim t seen with
  | case1 seen => simp_all [NQG.langtag, NQG.isAlpha]
  | case2 c r seen hx ih => simpa [NQG.langtag, show NQG.isAlpha c = isAlpha c from rfl, hx] using ih h
  | case3 r seen hx =>
    simp only [Bool.and_eq_true] at h
    simpa [NQG.langtag, NQG.isAlpha, h.1] using langSub_ok rest r true h.2
  | case4 => cases h

theorem bnLabelBody_ok (T : Tables) (hT : TablesOK T) (rest : List Nat) (z : Nat)
    (hz : inRanges T.pnChars z = true) (xs : List Nat) :
    ∀ last, (∀ x ∈ xs, (inRanges T.pnChars x || x = 0x2e) = true) →
      NQG.bnLabelBody (inRanges T.pnChars) (xs ++ z :: 0x20 :: rest) last = some (0x20 :: rest) := by
  induction xs with
  | nil =>
    intro last _
    simp [NQG.bnLabelBody, hz, hT.pn_sp]
  | cons x xs ih =>
    intro last h
    simp only [List.cons_append]
    unfold NQG.bnLabelBody
    rw [if_pos (h x List.mem_cons_self)]
    exact ih _ (fun y hy => h y (List.mem_cons_of_mem _ hy))

theorem bnLabel_ok (T : Tables) (hT : TablesOK T) (l rest : List Nat) (hl : labelOK T l = true) :
    NQG.bnLabel (inRanges T.pnCharsU) (inRanges T.pnChars) (l ++ 0x20 :: rest)
      = some (0x20 :: rest) := by
  cases l with
  | nil => simp [labelOK] at hl
  | cons c xs =>
    simp only [labelOK, Bool.and_eq_true, List.all_eq_true] at hl
    obtain ⟨⟨h1, h2⟩, h3⟩ := hl
    have e2 : NQG.isDigit c = isDigit c := rfl
    simp only [List.cons_append, NQG.bnLabel]
    rw [e2, if_pos h1]
    rcases List.eq_nil_or_concat xs with rfl | ⟨init, z, rfl⟩
    · simp [NQG.bnLabelBody, hT.pn_sp]
    · have hz : inRanges T.pnChars z = true := by simpa using h3
      have := bnLabelBody_ok T hT rest z hz init none
        (fun x hx => h2 x (by simp [hx]))
      simpa using this

theorem node_ok (T : Tables) (hT : TablesOK T) (urlOk : List Nat → Bool) (a : Bool)
    (label : β → List Nat) (hl : LabelsOK T label) (t : Term β) (ht : WFNode urlOk t)
    (rest : List Nat) :
    NQG.node (inRanges T.pnCharsU) (inRanges T.pnChars) (nodeW T a label t ++ 0x20 :: rest)
      = some (0x20 :: rest) := by
  cases t with
  | iri v =>
    simp only [nodeW, writeIRI, List.cons_append, List.append_assoc, List.nil_append, NQG.node]
    exact iriref_body T hT a v _
  | bnode b =>
    simp only [nodeW, List.cons_append, NQG.node]
    exact bnLabel_ok T hT _ rest (hl.wf b)
  | lit l d t => exact ht.elim


theorem literal_ok (T : Tables) (hT : TablesOK T) (hG : TablesGrammar T) (urlOk : List Nat → Bool)
    (a : Bool) (lex dt : List Nat) (lang : Option (List Nat)) (h : WFLit urlOk lex dt lang)
    (rest : List Nat) :
    NQG.literal (writeLiteral T a lex dt lang ++ 0x20 :: rest) = some (0x20 :: rest) := by
  obtain ⟨sfx, hw, hs⟩ := writeLiteral_wf T a h
  rw [hw]
  simp only [List.cons_append, List.append_assoc, NQG.literal, stringLit_body T hT hG]
  rcases hs with ⟨rfl, _⟩ | ⟨t, rfl, _, _, ht⟩ | ⟨rfl, _⟩
  · rfl
  · exact langtag_ok rest t false ht
  · simp [writeIRI, iriref_body T hT]

theorem object_ok (T : Tables) (hT : TablesOK T) (hG : TablesGrammar T) (urlOk : List Nat → Bool)
    (a : Bool) (label : β → List Nat) (hl : LabelsOK T label) (t : Term β) (ht : WFObject urlOk t)
    (rest : List Nat) :
    NQG.object (inRanges T.pnCharsU) (inRanges T.pnChars) (objW T a label t ++ 0x20 :: rest)
      = some (0x20 :: rest) := by
  cases t with
  | iri v =>
    have := node_ok T hT urlOk a label hl (.iri v) ht rest
    simp only [objW, nodeW, writeIRI, List.cons_append] at this ⊢
    simpa [NQG.object] using this
  | bnode b =>
    have := node_ok T hT urlOk a label hl (.bnode b) trivial rest
    simp only [objW, nodeW, List.cons_append] at this ⊢
    simpa [NQG.object] using this
  | lit l d tg =>
    have := literal_ok T hT hG urlOk a l d tg ht rest
    obtain ⟨_, hr, _⟩ := writeLiteral_wf T a ht
    simp only [objW]
    rw [hr] at this ⊢
    simpa [NQG.object] using this

theorem skipWs_sp (r : List Nat) : NQG.skipWs (0x20 :: r) = NQG.skipWs r := by
  simp [NQG.skipWs, NQG.isWs]

/-- The first character of a term or the final dot: not white space. -/
theorem skipWs_id (c : Nat) (r : List Nat) (hc : c = 0x22 ∨ c = 0x3c ∨ c = 0x5f ∨ c = 0x2e) :
    NQG.skipWs (c :: r) = c :: r := by
  rcases hc with rfl | rfl | rfl | rfl <;> simp [NQG.skipWs, NQG.isWs]

theorem skipWs_objW (T : Tables) (a : Bool) (label : β → List Nat) {urlOk : List Nat → Bool} {t : Term β}
    (ht : WFObject urlOk t) (r : List Nat) :
    NQG.skipWs (objW T a label t ++ r) = objW T a label t ++ r := by
  obtain ⟨c, r', h, hc⟩ := objW_head T a label urlOk t ht
  rw [h]
  exact skipWs_id c _ (by omega)

theorem line_nil (pnU pn : Nat → Bool) (quads : Bool) : NQG.line pnU pn quads [] = true := by
  simp [NQG.line, NQG.skipWs]

theorem line_ok (T : Tables) (hT : TablesOK T) (hG : TablesGrammar T) (urlOk : List Nat → Bool)
    (a : Bool) (label : β → List Nat) (hl : LabelsOK T label) (quads : Bool) (q : Quad β)
    (h : WFQuad urlOk q) :
    NQG.line (inRanges T.pnCharsU) (inRanges T.pnChars) quads (quadBody T a label quads q) = true := by
  obtain ⟨s, p, o, g⟩ := q
  obtain ⟨hs, hp, ho, hg⟩ := h
  cases p with
  | bnode b => exact hp.elim
  | lit l d t => exact hp.elim
  | iri pv =>
  obtain ⟨c, r, hsc, hc⟩ := nodeW_head T a label urlOk s hs
  have hnode := node_ok T hT urlOk a label hl s hs
  have hobj := object_ok T hT hG urlOk a label hl o ho
  simp only [hsc, List.cons_append] at hnode
  have hpw : nodeW T a label (Term.iri pv) = 0x3c :: (iriBody T a pv ++ [0x3e]) := rfl
  -- subject and predicate; the object lemma wants the text after it to begin with a space, which
  -- shows once the graph slot is split
  simp only [NQG.line, quadBody, hsc, hpw, List.cons_append, List.append_assoc, List.nil_append,
    skipWs_id c _ (by omega), hnode, skipWs_sp, skipWs_id 0x3c _ (by omega), iriref_body T hT,
    skipWs_objW T a label ho]
  have hdot : ∀ r, NQG.skipWs (0x2e :: r) = 0x2e :: r := fun r => skipWs_id _ r (by omega)
  rcases graphW_cases T a label quads g with h0 | ⟨t, rfl, rfl, ht⟩
  · simp [h0, hobj, skipWs_sp, hdot, NQG.skipWs.eq_1]
  · obtain ⟨cg, rg, hcg, hcg'⟩ := nodeW_head T a label urlOk t (hg t rfl)
    have hgn := node_ok T hT urlOk a label hl t (hg t rfl) [0x2e]
    simp only [hcg, List.cons_append] at hgn
    simp only [ht, hcg, List.cons_append, hobj, skipWs_sp, skipWs_id cg _ (by omega)]
    rcases hcg' with rfl | rfl <;> simp [hgn, skipWs_sp, hdot, NQG.skipWs.eq_1]

abbrev NoLF (l : List Nat) : Prop := All (· ≠ 0x0a) l

theorem hexUpper_ne_lf (d : Nat) : hexUpper d ≠ 0x0a := by
  unfold hexUpper; split <;> omega

theorem NoLF_hex4 (c : Nat) : NoLF (hex4 c) := All_hex4 (fun d _ => hexUpper_ne_lf d) c
theorem NoLF_hex8 (c : Nat) : NoLF (hex8 c) := All_hex8 (fun d _ => hexUpper_ne_lf d) c

theorem NoLF_writeIRI (T : Tables) (hT : TablesOK T) (a : Bool) (s : List Nat) :
    NoLF (writeIRI T a s) := by
  refine All_writeIRI T a s (by omega) (by omega) fun c _ => ?_
  rcases escIRIRune_mode (hT.iri_mode a c) with ⟨h0, h⟩ | ⟨_, h⟩ | ⟨_, h⟩ <;> rw [h]
  · have hr := hT.iri_raw a c h0
    unfold iriRawOK at hr; simp only [All_cons, All_nil, and_true]; omega
  · simp [NoLF_hex4]
  · simp [NoLF_hex8]

theorem NoLF_escLitRune (T : Tables) (hT : TablesOK T) (hG : TablesGrammar T) (a : Bool) (c : Nat) :
    NoLF (escLitRune T a c) := by
  rcases escLitRune_mode (hT.lit_mode a c) with ⟨h0, h⟩ | ⟨h1, h⟩ | ⟨_, h⟩ | ⟨_, h⟩ <;> rw [h]
  · simp [(hG.lit_raw_eol a c h0).1]
  · have := echarDecode_some (hT.lit_echar a c h1)
    simp only [All_cons, All_nil, and_true]; omega
  · simp [NoLF_hex4]
  · simp [NoLF_hex8]

theorem NoLF_writeLiteral (T : Tables) (hT : TablesOK T) (hG : TablesGrammar T)
    (urlOk : List Nat → Bool) (a : Bool)
    (lex dt : List Nat) (lang : Option (List Nat)) (h : WFLit urlOk lex dt lang) :
    NoLF (writeLiteral T a lex dt lang) := by
  refine All_writeLiteral T a lex dt lang (by omega) (by omega) (by omega)
    (fun c _ => NoLF_escLitRune T hT hG a c) (NoLF_writeIRI T hT a dt) fun t ht c hc => ?_
  subst ht
  have := langPrim_chars t false h.2.2.2 c hc
  simp only [isAlpha, isDigit, Bool.or_eq_true, Bool.and_eq_true, decide_eq_true_eq] at this
  omega

theorem NoLF_label (T : Tables) (hG : TablesGrammar T) (l : List Nat) (hl : labelOK T l = true) :
    NoLF l := by
  cases l with
  | nil => simp
  | cons c xs =>
    simp only [labelOK, Bool.and_eq_true, List.all_eq_true] at hl
    obtain ⟨⟨h1, h2⟩, _⟩ := hl
    simp only [All_cons]
    constructor
    · intro hc; subst hc
      simp [hG.pnU_lf, isDigit] at h1
    · intro x hx hc
      subst hc
      have := h2 _ hx
      simp [hG.pn_lf] at this

theorem NoLF_nodeW (T : Tables) (hT : TablesOK T) (hG : TablesGrammar T)
    (a : Bool) (label : β → List Nat) (hl : LabelsOK T label) (t : Term β) :
    NoLF (nodeW T a label t) := by
  cases t with
  | iri v => exact NoLF_writeIRI T hT a v
  | bnode b =>
    simp only [nodeW, All_cons]
    exact ⟨by omega, by omega, NoLF_label T hG _ (hl.wf b)⟩
  | lit l d t => simp [nodeW]

theorem NoLF_objW (T : Tables) (hT : TablesOK T) (hG : TablesGrammar T) (urlOk : List Nat → Bool)
    (a : Bool) (label : β → List Nat) (hl : LabelsOK T label) (t : Term β) (ht : WFObject urlOk t) :
    NoLF (objW T a label t) := by
  cases t with
  | iri v => exact NoLF_nodeW T hT hG a label hl (.iri v)
  | bnode b => exact NoLF_nodeW T hT hG a label hl (.bnode b)
  | lit l d tg => exact NoLF_writeLiteral T hT hG urlOk a l d tg ht

theorem NoLF_quadBody (T : Tables) (hT : TablesOK T) (hG : TablesGrammar T) (urlOk : List Nat → Bool)
    (a : Bool) (label : β → List Nat) (hl : LabelsOK T label) (quads : Bool) (q : Quad β)
    (h : WFQuad urlOk q) : NoLF (quadBody T a label quads q) :=
  have hn := NoLF_nodeW T hT hG a label hl
  All_quadBody T a label quads q (by omega) (by omega) (hn _) (hn _) (NoLF_objW T hT hG urlOk a label hl _ h.o)
    fun t _ => hn t

theorem quadBody_getLast (T : Tables) (a : Bool) (label : β → List Nat) (quads : Bool) (q : Quad β) :
    (quadBody T a label quads q).getLast? = some 0x2e := by
  have : quadBody T a label quads q =
      (nodeW T a label q.s ++ 0x20 :: (nodeW T a label q.p ++ 0x20 ::
        (objW T a label q.o ++ (graphW T a label quads q.g ++ [0x20])))) ++ [0x2e] := by
    simp [quadBody]
  rw [this, List.getLast?_append]
  simp

theorem output_grammatical (T : Tables) (hT : TablesOK T) (hG : TablesGrammar T) (urlOk : List Nat → Bool)
    (ascii : Bool) (label : β → List Nat) (hl : LabelsOK T label) (quads : Bool) (qs : List (Quad β))
    (hwf : ∀ q ∈ qs, WFQuad urlOk q) :
    Spec.NQG.accepts (inRanges T.pnCharsU) (inRanges T.pnChars) quads
      (encodeDoc T ascii label quads qs) = true := by
  unfold NQG.accepts NQG.splitLines
  induction qs with
  | nil =>
    simp [encodeDoc_nil, List.splitOn_eq_splitOnP, List.splitOnP_nil, line_nil]
  | cons q qs ih =>
    have hq := hwf q List.mem_cons_self
    have hnl := NoLF_quadBody T hT hG urlOk ascii label hl quads q hq
    rw [encodeDoc_cons_wf T ascii label urlOk quads q qs hq, List.splitOn_eq_splitOnP,
      List.splitOnP_append_cons_of_forall_mem (by
        intro x hx; have := hnl x hx; simpa using this) 0x0a (by simp)]
    rw [List.all_cons, ← List.splitOn_eq_splitOnP,
      ih (fun x hx => hwf x (List.mem_cons_of_mem _ hx))]
    simp [quadBody_getLast, line_ok T hT hG urlOk ascii label hl quads q hq]

end RdfModel.Proofs.C01
