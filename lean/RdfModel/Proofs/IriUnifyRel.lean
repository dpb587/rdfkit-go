import RdfModel.Model.IriUnify
import RdfModel.Props.C12WrapResolve
import RdfModel.Proofs.C13Rel
namespace RdfModel.Proofs.IriUnify
open RdfModel RdfModel.GoUrlFull RdfModel.PIRI RdfModel.IriUnify
open RdfModel.Prefix (BaseIRI Outcome)

/-- `parsed.IsAbs()` of `ParseIRI(b)`; `false` when the base does not parse -/
def baseIsAbs (b : Str) : Bool :=
  match parseIRI b with
  | .ok p => p.isAbs
  | .error _ => false

theorem relativizeCode_some {b v r : Str} (h : relativizeCode b v = .res (.some r)) :
    ∃ p rb, parseIRI b = .ok p ∧ newBaseIRICode p = some rb ∧ relativizeP p rb v = .some r := by
  unfold relativizeCode at h
  split at h
  · cases h
  · rename_i p hp
    split at h
    · cases h
    · rename_i rb hrb
      refine ⟨p, rb, hp, hrb, ?_⟩
      injection h

theorem newBaseIRICode_root {p : ParsedIRI} {rb : BaseIRI} (h : newBaseIRICode p = some rb) :
    rb.root.isSome = p.isAbs ∧ rb.original = p.str := by
  unfold newBaseIRICode at h
  split at h
  · cases h
  · rename_i ix hix
    injection h with h
    subst h
    refine ⟨?_, rfl⟩
    unfold baseIndices at hix
    by_cases ha : p.isAbs = true
    · simp only [ha, if_true] at hix
      split at hix
      · injection hix with hix; subst hix; simp [ha]
      · cases hix
    · simp only [ha] at hix
      injection hix with hix; subst hix
      simp at ha; simp [ha]

theorem relativizeP_some {p : ParsedIRI} {rb : BaseIRI} {v r : Str} (h : relativizeP p rb v = .some r) :
    candidateCode rb v = .some r ∧ [0x2f, 0x2f].isPrefixOf r = false ∧
    (rb.root.isSome = true → ∃ t, p.parseRef r = .ok t ∧ t.str = v) := by
  unfold relativizeP at h
  split at h
  · rename_i rel hc
    split at h
    · cases h
    · rename_i hpre
      split at h
      · rename_i hroot
        split at h
        · rename_i t ht
          split at h
          · rename_i hv
            injection h with h; subst h
            exact ⟨hc, Bool.eq_false_iff.mpr hpre, fun _ => ⟨t, ht, hv⟩⟩
          · cases h
        · cases h
        · cases h
      · rename_i hroot
        injection h with h; subst h
        exact ⟨hc, Bool.eq_false_iff.mpr hpre, fun hr => absurd hr hroot⟩
  · rename_i o hne
    exact absurd h (hne r)

theorem relativize_sound_code_core (b v r : Str) (h : relativizeCode b v = .res (.some r))
    (habs : baseIsAbs b = true) :
    resolveStr b r = .ok (some v) ∧ [0x2f, 0x2f].isPrefixOf r = false := by
  obtain ⟨p, rb, hp, hrb, hrel⟩ := relativizeCode_some h
  obtain ⟨_, hpre, hver⟩ := relativizeP_some hrel
  have hroot := (newBaseIRICode_root hrb).1
  have hpa : p.isAbs = true := by simpa [baseIsAbs, hp] using habs
  obtain ⟨t, ht, htv⟩ := hver (by rw [hroot, hpa])
  refine ⟨?_, hpre⟩
  unfold resolveStr
  rw [hp]
  simp only [ht, htv]

/-- without root indices (a base that is not absolute) the candidate of the repaired code is C13's -/
theorem candidateCode_noroot (rb : BaseIRI) (v : Str) (h : rb.root = none) :
    candidateCode rb v = Prefix.candidate rb v := by
  unfold candidateCode Prefix.candidate
  simp only [h]
  rfl

theorem ok_of_isOk {α ε : Type} {x : Except ε α}
    (h : (match x with | .ok _ => true | .error _ => false) = true) : ∃ q, x = .ok q := by
  cases x with
  | ok q => exact ⟨q, rfl⟩
  | error e => simp at h

theorem parseRef_ok_of_parse (p : ParsedIRI) (r : Str) (q : ParsedIRI) (hr : parseIRI r = .ok q) :
    ∃ t, p.parseRef r = .ok t := by
  unfold ParsedIRI.parseRef
  rw [hr]
  cases hres : p.resolveReference q with
  | ok t => exact ⟨t, by simp [hres]⟩
  | panic => exact absurd hres (C12W.resolveReference_never_panics p q)

end RdfModel.Proofs.IriUnify
