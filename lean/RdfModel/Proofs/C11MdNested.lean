/-
  On every embedded fragment tree WITHOUT itemref the decoder model emits exactly the streaming semantics `Stream.swP`, with
  the blank node of the item at path `p` renamed to `rank doc p` = the number of blank-node items before `p` in
  document order (= the decoder's counter when it reaches that item).
  The walk (`walk_tree` / `walk_forest`) asks of each element only what it uses there (`elemOk`); the fragment's
  `tokOk ∧ inFragment` under `Decline` is one way to have it (`elemOk_of`), item-list documents are another
  (Proofs/C11MdItemList).
-/
import RdfModel.Proofs.C11MdRefSpec
import RdfModel.Proofs.C11MdTyped
namespace RdfModel.Mdd.Nested
open RdfModel RdfModel.Desc RdfModel.Spec.Html RdfModel.Spec.Microdata RdfModel.Mdd RdfModel.Mdd.Typed RdfModel.Mdd.Stream

def selfBn (a : Attrs) : Nat := if a.itemscope && isBnItem a then 1 else 0

mutual
def bnCount : Tree → Nat
  | .text _ => 0
  | .elem _ a ks => selfBn a + bnCountL ks
def bnCountL : List Tree → Nat
  | [] => 0
  | k :: ks => bnCount k + bnCountL ks
end

mutual
/-- number of blank-node items of `t` that come before the (relative) position `p` in document order -/
def rank : Tree → Path → Nat
  | .text _, _ => 0
  | .elem _ a ks, p =>
    match p with
    | [] => 0
    | i :: rest => selfBn a + rankKids ks i rest
def rankKids : List Tree → Nat → Path → Nat
  | [], _, _ => 0
  | k :: ks, j, rest =>
    match j with
    | 0 => rank k rest
    | j + 1 => bnCount k + rankKids ks j rest
end

theorem rank_nil (t : Tree) : rank t [] = 0 := by cases t <;> simp [rank]

/-- `σ` agrees with `rank` (shifted by `cnt`) on the subtree `t` at `here` -/
def SOk (σ : Path → Nat) (here : Path) (cnt : Nat) (t : Tree) : Prop := ∀ p, σ (here ++ p) = cnt + rank t p
def SOkK (σ : Path → Nat) (here : Path) (i cnt : Nat) (ks : List Tree) : Prop :=
  ∀ j p, σ (here ++ (i + j) :: p) = cnt + rankKids ks j p

theorem sok_here {σ : Path → Nat} {here : Path} {cnt : Nat} {t : Tree} (h : SOk σ here cnt t) : σ here = cnt := by
  have := h []; simpa [rank_nil] using this

theorem sok_kids {σ : Path → Nat} {here : Path} {cnt : Nat} {tag : Tag} {a : Attrs} {ks : List Tree}
    (h : SOk σ here cnt (.elem tag a ks)) : SOkK σ here 0 (cnt + selfBn a) ks := by
  intro j p
  have := h (j :: p)
  simp only [rank] at this
  rw [Nat.zero_add, this]; omega

theorem sokK_head {σ : Path → Nat} {here : Path} {i cnt : Nat} {k : Tree} {ks : List Tree}
    (h : SOkK σ here i cnt (k :: ks)) : SOk σ (here ++ [i]) cnt k := by
  intro p
  have := h 0 p
  simp only [rankKids, Nat.add_zero] at this
  rw [List.append_assoc]; simpa using this

theorem sokK_tail {σ : Path → Nat} {here : Path} {i cnt : Nat} {k : Tree} {ks : List Tree}
    (h : SOkK σ here i cnt (k :: ks)) : SOkK σ here (i + 1) (cnt + bnCount k) ks := by
  intro j p
  have := h (j + 1) p
  simp only [rankKids] at this
  rw [show i + 1 + j = i + (j + 1) by omega, this]; omega

mutual
/-- the positions of the items whose subject is a blank node, in document order -/
def bnItems (here : Path) : Tree → List Path
  | .text _ => []
  | .elem _ a ks => (if a.itemscope && isBnItem a then [here] else []) ++ bnItemsK here 0 ks
def bnItemsK (here : Path) (i : Nat) : List Tree → List Path
  | [] => []
  | k :: ks => bnItems (here ++ [i]) k ++ bnItemsK here (i + 1) ks
end

mutual
theorem bnItems_map (σ : Path → Nat) : ∀ (t : Tree) (here : Path) (cnt : Nat), SOk σ here cnt t →
    (bnItems here t).map σ = List.range' cnt (bnCount t)
  | .text _, _, _, _ => by simp [bnItems, bnCount]
  | .elem tag a ks, here, cnt, h => by
    have hk := bnItemsK_map σ ks here 0 (cnt + selfBn a) (sok_kids h)
    simp only [bnItems, bnCount, List.map_append, hk]
    rw [← List.range'_append_1]
    congr 1
    unfold selfBn
    split <;> simp [sok_here h]
theorem bnItemsK_map (σ : Path → Nat) : ∀ (ks : List Tree) (here : Path) (i cnt : Nat), SOkK σ here i cnt ks →
    (bnItemsK here i ks).map σ = List.range' cnt (bnCountL ks)
  | [], _, _, _, _ => by simp [bnItemsK, bnCountL]
  | k :: ks, here, i, cnt, h => by
    simp only [bnItemsK, bnCountL, List.map_append,
      bnItems_map σ k (here ++ [i]) cnt (sokK_head h), bnItemsK_map σ ks here (i + 1) (cnt + bnCount k) (sokK_tail h)]
    rw [List.range'_append_1]
end

theorem rank_inj (doc : Tree) (p q : Path) (hp : p ∈ bnItems [] doc) (hq : q ∈ bnItems [] doc)
    (h : rank doc p = rank doc q) : p = q := by
  have hm := bnItems_map (rank doc) doc [] 0 (by intro p; simp)
  have hnd : ((bnItems [] doc).map (rank doc)).Nodup := by rw [hm]; exact List.nodup_range'
  exact nodup_map_inj (rank doc) (bnItems [] doc) hnd hp hq h

mutual
theorem text_relabel : ∀ (m : Nat) (n : Node), textContent (relabelFrom m n).1 = textContent n
  | m, .mk i t ns a d as ks => by
    simp only [relabelFrom, textContent]
    rw [textL_relabel (m + 1) ks]
theorem textL_relabel : ∀ (m : Nat) (ks : List Node), textContentL (relabelL m ks).1 = textContentL ks
  | _, [] => by simp [relabelL, textContentL]
  | m, k :: ks => by
    simp only [relabelL, textContentL]
    rw [text_relabel m k, textL_relabel _ ks]
end

mutual
theorem text_ofSpec : ∀ t : Tree, textContent (ofSpec t) = textOf t
  | .text s => by simp [ofSpec, textContent, textContentL, textOf]
  | .elem tag a ks => by
    simp only [ofSpec, textContent, textOf]
    rw [textL_ofSpec ks]; simp
theorem textL_ofSpec : ∀ ks : List Tree, textContentL (ofSpecL ks) = textOfList ks
  | [] => by simp [ofSpecL, textContentL, textOfList]
  | k :: ks => by
    simp only [ofSpecL, textContentL, textOfList]
    rw [text_ofSpec k, textL_ofSpec ks]
end

/-! ## property names: Go's `knownItemprops` set is the fragment's `uniq` -/

theorem fields_ne (v : Str) : ∀ tok ∈ Spec.Html.fields v, tok ≠ [] := by
  rw [← typeTokens_eq_fields]; exact typeTokens_ne v

theorem propNamesGo_uniq (base : Str) (tm mm : List (Bytes → Option (Term Nat))) (types : List Str)
    (toks known : List Str) (hne : ∀ t ∈ toks, t ≠ []) :
    propNamesGo (specEnv base tm mm) types toks known =
      ((uniq toks).filter (fun t => !known.contains t)).map (predicate types) := by
  induction toks generalizing known with
  | nil => simp [propNamesGo, uniq]
  | cons tok rest ih =>
    have h0 : tok.isEmpty = false := List.isEmpty_eq_false_iff.mpr (hne tok (by simp))
    have ih' := fun k => ih k (fun t ht => hne t (by simp [ht]))
    unfold propNamesGo
    simp only [h0, Bool.false_eq_true, ↓reduceIte, uniq, List.filter_cons]
    by_cases hk : known.contains tok = true
    · simp only [hk, ↓reduceIte, Bool.not_true, Bool.false_eq_true]
      rw [ih', List.filter_filter]
      congr 1
      apply List.filter_congr
      intro x _
      by_cases hx : known.contains x = true
      · have hm : x ∈ known := by simpa using hx
        simp [hm]
      · have hx' : known.contains x = false := by simpa using hx
        have : x ≠ tok := by intro e; subst e; rw [hk] at hx'; cases hx'
        simp [this]
    · have hk' : known.contains tok = false := by simpa using hk
      simp only [hk', Bool.false_eq_true, ↓reduceIte, Bool.not_false, specEnv, List.map_cons]
      congr 1
      have := ih' (tok :: known)
      simp only [specEnv] at this
      rw [this, List.filter_filter]
      congr 1
      apply List.filter_congr
      intro x _
      simp only [List.contains_cons, Bool.not_or, bne]
      rw [Bool.and_comm]

theorem propNames_names (base : Str) (tm mm : List (Bytes → Option (Term Nat))) (types : List Str) (v : Str)
    (htok : Mdd.fields (trimSpace v) = Spec.Html.fields v) :
    propNames (specEnv base tm mm) types v = (uniq (Spec.Html.fields v)).map (predicate types) := by
  unfold propNames
  rw [htok, propNamesGo_uniq base tm mm types _ [] (fields_ne v)]
  congr 1
  apply List.filter_eq_self.mpr
  intro x _
  simp

theorem firstMap_decline (v : Bytes) (fs : List (Bytes → Option (Term Nat))) (h : ∀ f ∈ fs, f v = none) :
    firstMap v fs = Mdd.strLit v := by
  induction fs with
  | nil => rfl
  | cons f fs ih =>
    unfold firstMap
    rw [h f (by simp)]
    exact ih (fun g hg => h g (by simp [hg]))

theorem laxOrText_spec (base : Str) (tm mm : List (Bytes → Option (Term Nat))) (n : Node) :
    laxOrText (specEnv base tm mm) n = (Mdd.strLit (textContent n), false) := by
  simp [laxOrText, specEnv]

theorem itemValue_spec (base : Str) (tm mm : List (Bytes → Option (Term Nat))) (σ : Path → Nat) (id : Nat) (tag : Tag)
    (a : Attrs) (ks : List Tree) (kids' : List Node) (here : Path)
    (hs : a.itemscope = false) (htext : textContentL kids' = textOfList ks)
    (hmeter : tag = .meter → ∀ v, a.value = some v → ∀ f ∈ mm, f v = none)
    (htime : tag = .time → ∀ v, a.datetime = some v → ∀ f ∈ tm, f v = none) :
    itemValue (specEnv base tm mm) (.mk id 3 [] (atomOf tag) [] (attrsOf a) kids') =
      (Term.map σ (value base here (.elem tag a ks)), false) := by
  have htxt : textContent (.mk id 3 [] (atomOf tag) [] (attrsOf a) kids') = textOfList ks := by
    simp [textContent, htext]
  have hstr : ∀ o : Option Str, (match o with
      | some v => (Mdd.strLit v, false)
      | none => (Mdd.strLit [], false)) = (Term.map σ (Spec.Microdata.strLit (o.getD [])), false) := by
    intro o; cases o <;> rfl
  have hurl : ∀ o : Option Str, (match o with
      | some v => (iriValue (specEnv base tm mm) v, false)
      | none => (Mdd.strLit [], false)) =
      (Term.map σ (match o with | some u => .iri (resolveUrl base u) | none => Spec.Microdata.strLit []), false) := by
    intro o; cases o
    · rfl
    · simp [iriValue_spec, Term.map]
  have hmet : ∀ o : Option Str, (∀ v, o = some v → ∀ f ∈ mm, f v = none) → (match o with
      | some v => (firstMap v mm, false)
      | none => (Mdd.strLit [], false)) = (Term.map σ (Spec.Microdata.strLit (o.getD [])), false) := by
    intro o h; cases o
    · rfl
    · simp only [firstMap_decline _ mm (h _ rfl)]; rfl
  have htim : ∀ (o : Option Str) (txt : Str), (∀ v, o = some v → ∀ f ∈ tm, f v = none) → (match o with
      | some v => (firstMap v tm, false)
      | none => (Mdd.strLit txt, false)) =
      (Term.map σ (match o with | some v => Spec.Microdata.strLit v | none => Spec.Microdata.strLit txt), false) := by
    intro o txt h; cases o
    · rfl
    · simp only [firstMap_decline _ tm (h _ rfl)]; rfl
  unfold itemValue
  simp only [Node.atom, Node.attrs, kind_atomOf, find_content, find_src, find_href, find_data, find_value, find_datetime,
    laxOrText_spec, htxt]
  cases tag <;> simp only [kindOfTag, value, hs, Bool.false_eq_true, ↓reduceIte]
  -- by kind of the tag: string-valued attribute (`hstr`), URL-valued (`hurl`), meter (`hmet`), time (`htim`), text content (`rfl`)
  all_goals first
    | rfl
    | exact hstr _
    | exact hurl _
    | exact hmet _ (hmeter rfl)
    | exact htim _ _ (htime rfl)

/-- the decoder's evaluation context corresponds to the enclosing item of the streaming semantics -/
def CtxRel (σ : Path → Nat) (ctx : Ctx) (cur : Cur) : Prop :=
  match cur, ctx.subj with
  | none, none => True
  | some c, some s => Term.map σ c.1 = s.term ∧ ctx.types = c.2
  | _, _ => False

theorem fields_nil : Spec.Html.fields [] = [] := by simp [Spec.Html.fields, fieldsAux]

theorem link_spec (base : Str) (tm mm : List (Bytes → Option (Term Nat))) (σ : Path → Nat) (ctx : Ctx) (cur : Cur)
    (here : Path) (tag : Tag) (a : Attrs) (ks : List Tree) (o : Term Nat)
    (ho : o = Term.map σ (value base here (.elem tag a ks)))
    (htok : cur.isSome = true → ∀ v, a.itemprop = some v → Mdd.fields (trimSpace v) = Spec.Html.fields v)
    (hrel : CtxRel σ ctx cur) (st : St) :
    (if a.itemprop.getD [] ≠ [] then
      (match ctx.subj with
       | none => st
       | some cs => emitAll cs o (propNames (specEnv base tm mm) ctx.types (a.itemprop.getD [])) st)
     else st) =
    { st with out := ((linkOf base cur here (.elem tag a ks)).map (Triple.map σ)).reverse ++ st.out } := by
  cases cur with
  | none =>
    cases hs : ctx.subj with
    | none => simp only [linkOf]; split <;> rfl
    | some cs => simp [CtxRel, hs] at hrel
  | some c =>
    cases hs : ctx.subj with
    | none => simp [CtxRel, hs] at hrel
    | some cs =>
      simp only [CtxRel, hs] at hrel
      obtain ⟨h1, h2⟩ := hrel
      cases hp : a.itemprop with
      | none => simp [linkOf, names, hp]
      | some v =>
        by_cases hv : v = []
        · subst hv; simp [linkOf, names, hp, fields_nil, uniq]
        · simp only [Option.getD_some, ne_eq, hv, not_false_eq_true, ↓reduceIte, linkOf, names, hp]
          rw [propNames_names base tm mm ctx.types v (htok rfl v hp), emitAll_out, h2]
          congr 2
          simp only [List.map_map]
          congr 1
          apply List.map_congr_left
          intro nm _
          simp [Triple.map, h1, ho]

theorem propElem_spec (base : Str) (tm mm : List (Bytes → Option (Term Nat))) (σ : Path → Nat) (ctx : Ctx) (cur : Cur)
    (here : Path) (id : Nat) (tag : Tag) (a : Attrs) (ks : List Tree) (kids' : List Node)
    (hs : a.itemscope = false) (htext : textContentL kids' = textOfList ks)
    (hmeter : tag = .meter → ∀ v, a.value = some v → ∀ f ∈ mm, f v = none)
    (htime : tag = .time → ∀ v, a.datetime = some v → ∀ f ∈ tm, f v = none)
    (htok : cur.isSome = true → ∀ v, a.itemprop = some v → Mdd.fields (trimSpace v) = Spec.Html.fields v)
    (hrel : CtxRel σ ctx cur) (a' : ItemAttrs) (ha' : a'.itemprop = a.itemprop.getD []) (st : St) :
    propElem (specEnv base tm mm) ctx (.mk id 3 [] (atomOf tag) [] (attrsOf a) kids') a' st =
      { st with out := ((linkOf base cur here (.elem tag a ks)).map (Triple.map σ)).reverse ++ st.out } := by
  unfold propElem
  rw [itemValue_spec base tm mm σ id tag a ks kids' here hs htext hmeter htime, ha']
  simp only [Bool.false_eq_true, ↓reduceIte]
  exact link_spec base tm mm σ ctx cur here tag a ks _ rfl htok hrel st

theorem subjN_snd (base : Str) (a : Attrs) (cnt : Nat) (hs : a.itemscope = true) :
    (subjN base a cnt).2 = cnt + selfBn a := by
  unfold subjN selfBn isBnItem
  cases hv : a.itemid with
  | none => simp [hs]
  | some v => by_cases h0 : v = [] <;> simp [hs, h0]

/-- the context in which the decoder visits what belongs to the item `a`; `cnt` = the blank-node counter on entry -/
def itemCtx (base : Str) (a : Attrs) (ctx : Ctx) (cnt : Nat) : Ctx :=
  { ctx with subj := some (subjN base a cnt).1, types := typesOf a }

theorem itemCtx_rel (base : Str) (σ : Path → Nat) (a : Attrs) (here : Path) (ctx : Ctx) {cnt : Nat}
    (hid : ∀ v, a.itemid = some v → trimSpace v = trimWs v) (hσ : σ here = cnt) :
    CtxRel σ (itemCtx base a ctx cnt) (some (subject base a here, typesOf a)) := by
  simp [CtxRel, itemCtx, subject_map base σ a here cnt hid hσ]

/-- the state once the item element `.elem tag a ks` (node `m`, at `here`) has been entered: its identity is
    recorded, its link and rdf:type statements are emitted -/
def itemSt (σ : Path → Nat) (base : Str) (cur : Cur) (here : Path) (m : Nat) (tag : Tag) (a : Attrs) (ks : List Tree)
    (st : St) : St :=
  { st with resolved := (m, (subjN base a st.nextBn).1) :: st.resolved, nextBn := (subjN base a st.nextBn).2,
            expansions := st.expansions + 1,
            out := ((typeStmts base a here).map (Triple.map σ)).reverse ++
                   (((linkOf base cur here (.elem tag a ks)).map (Triple.map σ)).reverse ++ st.out) }

theorem visitItem_spec (base : Str) (tm mm : List (Bytes → Option (Term Nat))) (σ : Path → Nat)
    (w : Ctx → Node → St → St) (doc : Node) (ctx : Ctx) (cur : Cur) (here : Path) (m : Nat) (tag : Tag) (a : Attrs)
    (ks : List Tree) (kids' : List Node) (hs : a.itemscope = true)
    (hid : ∀ v, a.itemid = some v → trimSpace v = trimWs v)
    (htok : cur.isSome = true → ∀ v, a.itemprop = some v → Mdd.fields (trimSpace v) = Spec.Html.fields v)
    (hrel : CtxRel σ ctx cur) (st0 : St) (hσ : σ here = st0.nextBn) (hun : lookupR st0.resolved m = none) :
    visitItem (specEnv base tm mm) w doc ctx (.mk m 3 [] (atomOf tag) [] (attrsOf a) kids')
        { itemid := a.itemid.getD [], itemprop := a.itemprop.getD [], itemref := a.itemref.getD [],
          itemscope := a.itemscope, itemtype := a.itemtype.getD [] } st0 =
      walkKidsWith w (itemCtx base a ctx st0.nextBn) kids'
        (if a.itemref.getD [] ≠ [] then
          itemrefsWith w doc (itemCtx base a ctx st0.nextBn) (.mk m 3 [] (atomOf tag) [] (attrsOf a) kids')
            (Mdd.fields (trimSpace (a.itemref.getD []))) (itemSt σ base cur here m tag a ks st0)
         else itemSt σ base cur here m tag a ks st0) := by
  have hnext : Term.map σ (subject base a here) = (subjN base a st0.nextBn).1.term :=
    subject_map base σ a here st0.nextBn hid hσ
  have hval : value base here (.elem tag a ks) = subject base a here := by simp [value, hs]
  have hout : (typesOf a).map (fun ty => (⟨(subjN base a st0.nextBn).1.term, Mdd.rdfType, .iri ty⟩ : Stmt)) =
      (typeStmts base a here).map (Triple.map σ) := by
    simp only [typeStmts, List.map_map]
    apply List.map_congr_left
    intro ty _
    simp only [Function.comp, Triple.map, hnext]
    rfl
  have hl' := find_none_of_lookupR hun
  unfold visitItem
  simp only [St.lookup, Node.id, hl']
  rw [itemSubject_spec base tm mm a _ rfl hid st0]
  have hlink := link_spec base tm mm σ ctx cur here tag a ks (subjN base a st0.nextBn).1.term (by rw [hval, hnext]) htok hrel
    { st0 with nextBn := (subjN base a st0.nextBn).2 }
  have hL : linkItem (specEnv base tm mm) ctx
      { itemid := a.itemid.getD [], itemprop := a.itemprop.getD [], itemref := a.itemref.getD [],
        itemscope := a.itemscope, itemtype := a.itemtype.getD [] } (subjN base a st0.nextBn).1
      { st0 with nextBn := (subjN base a st0.nextBn).2 } = _ := hlink
  rw [hL]
  unfold expandItem
  simp only [Node.kids, Node.id]
  have ht := types_spec base tm mm a (subjN base a st0.nextBn).1
  rw [ht]
  simp only [hout, itemCtx, itemSt]

mutual
/-- Go's tokenisation (Unicode spaces) of every itemprop / itemid agrees with HTML's (ASCII spaces) -/
def tokOk : Tree → Bool
  | .text _ => true
  | .elem _ a ks =>
    (match a.itemprop with | some v => Mdd.fields (trimSpace v) == Spec.Html.fields v | none => true) &&
    (match a.itemid with | some v => trimSpace v == trimWs v | none => true) && tokOkKids ks
def tokOkKids : List Tree → Bool
  | [] => true
  | k :: ks => tokOk k && tokOkKids ks
end

/-- the xsdobject mappers leave plain words alone (what `inFragment` relies on) -/
def Decline (tm mm : List (Bytes → Option (Term Nat))) : Prop :=
  ∀ f ∈ tm ++ mm, ∀ v, plainWord v = true → f v = none

theorem tokOk_elem {tag : Tag} {a : Attrs} {ks : List Tree} (h : tokOk (.elem tag a ks) = true) :
    (∀ v, a.itemprop = some v → Mdd.fields (trimSpace v) = Spec.Html.fields v) ∧
    (∀ v, a.itemid = some v → trimSpace v = trimWs v) ∧ tokOkKids ks = true := by
  simp only [tokOk, Bool.and_eq_true] at h
  refine ⟨?_, ?_, h.2⟩
  · intro v hv; have := h.1.1; rw [hv] at this; simpa using this
  · intro v hv; have := h.1.2; rw [hv] at this; simpa using this

theorem inFragment_elem {tm mm : List (Bytes → Option (Term Nat))} (hdec : Decline tm mm) {tag : Tag} {a : Attrs}
    {ks : List Tree} (h : inFragment (.elem tag a ks) = true) :
    (tag = .meter → ∀ v, a.value = some v → ∀ f ∈ mm, f v = none) ∧
    (tag = .time → ∀ v, a.datetime = some v → ∀ f ∈ tm, f v = none) ∧ inFragmentKids ks = true := by
  simp only [inFragment, Bool.and_eq_true] at h
  refine ⟨?_, ?_, h.2⟩
  · intro ht v hv g hg
    subst ht
    have := h.1; simp only [hv] at this
    exact hdec g (List.mem_append_right _ hg) v this
  · intro ht v hv g hg
    subst ht
    have := h.1; simp only [hv] at this
    exact hdec g (List.mem_append_left _ hg) v this

mutual
/-- what the walk needs of the elements of a tree, inside an item (`inItem`) or not: Go tokenises itemprop (which is
    read only inside an item) and itemid as HTML does, and the mappers leave meter@value / time@datetime alone -/
def elemOk (tm mm : List (Bytes → Option (Term Nat))) : Bool → Tree → Prop
  | _, .text _ => True
  | inItem, .elem tag a ks =>
    (inItem = true → ∀ v, a.itemprop = some v → Mdd.fields (trimSpace v) = Spec.Html.fields v) ∧
    (∀ v, a.itemid = some v → trimSpace v = trimWs v) ∧
    (tag = .meter → ∀ v, a.value = some v → ∀ f ∈ mm, f v = none) ∧
    (tag = .time → ∀ v, a.datetime = some v → ∀ f ∈ tm, f v = none) ∧
    elemOkKids tm mm (inItem || a.itemscope) ks
def elemOkKids (tm mm : List (Bytes → Option (Term Nat))) : Bool → List Tree → Prop
  | _, [] => True
  | inItem, k :: ks => elemOk tm mm inItem k ∧ elemOkKids tm mm inItem ks
end

mutual
theorem elemOk_of {tm mm : List (Bytes → Option (Term Nat))} (hdec : Decline tm mm) :
    ∀ (t : Tree) (b : Bool), tokOk t = true → inFragment t = true → elemOk tm mm b t
  | .text _, _, _, _ => trivial
  | .elem _ _ ks, _, htk, hif =>
    ⟨fun _ => (tokOk_elem htk).1, (tokOk_elem htk).2.1, (inFragment_elem hdec hif).1, (inFragment_elem hdec hif).2.1,
      elemOkKids_of hdec ks _ (tokOk_elem htk).2.2 (inFragment_elem hdec hif).2.2⟩
theorem elemOkKids_of {tm mm : List (Bytes → Option (Term Nat))} (hdec : Decline tm mm) :
    ∀ (ks : List Tree) (b : Bool), tokOkKids ks = true → inFragmentKids ks = true → elemOkKids tm mm b ks
  | [], _, _, _ => trivial
  | k :: ks, b, htk, hif => by
    simp only [tokOkKids, Bool.and_eq_true] at htk
    simp only [inFragmentKids, Bool.and_eq_true] at hif
    exact ⟨elemOk_of hdec k b htk.1 hif.1, elemOkKids_of hdec ks b htk.2 hif.2⟩
end

theorem walk_text (E : Env) (d : Node) (f : Nat) (ctx : Ctx) (m : Nat) (s : Str) (st : St) :
    walk E d (f + 1) ctx (relabelFrom m (ofSpec (.text s))).1 st = { st with steps := st.steps + 1 } := by
  have e0 : scanAttrs [] {} = ({} : ItemAttrs) := rfl
  simp only [ofSpec, relabelFrom, relabelL, walk_succ, walkStep, Node.ns, Node.attrs, Node.kids, e0, walkKidsWith,
    List.foldl_nil, propElem, ne_eq, not_true_eq_false, ↓reduceIte, Bool.false_eq_true]

theorem walk_elem (base : Str) (tm mm : List (Bytes → Option (Term Nat))) (d : Node)
    (σ : Path → Nat) (f : Nat) (ctx : Ctx) (cur : Cur) (here : Path) (m : Nat) (tag : Tag) (a : Attrs) (ks : List Tree)
    (st : St) (hs : a.itemscope = false) (hok : elemOk tm mm cur.isSome (.elem tag a ks)) (hrel : CtxRel σ ctx cur) :
    walk (specEnv base tm mm) d (f + 1) ctx (relabelFrom m (ofSpec (.elem tag a ks))).1 st =
      walkKidsWith (walk (specEnv base tm mm) d f) ctx (relabelL (m + 1) (ofSpecL ks)).1
        { st with steps := st.steps + 1,
                  out := ((linkOf base cur here (.elem tag a ks)).map (Triple.map σ)).reverse ++ st.out } := by
  have htext : textContentL (relabelL (m + 1) (ofSpecL ks)).1 = textOfList ks := by rw [textL_relabel, textL_ofSpec]
  simp only [ofSpec, relabelFrom, walk_succ, walkStep, Node.ns, Node.attrs, Node.kids, scan_attrsOf, hs,
    ne_eq, not_true_eq_false, ↓reduceIte, Bool.false_eq_true]
  rw [propElem_spec base tm mm σ ctx cur here m tag a ks _ hs htext hok.2.2.1 hok.2.2.2.1 hok.1 hrel _ rfl]

/-- what a (partial) walk did: statements emitted, blank nodes made, hooks, identities resolved -/
structure Res (σ : Path → Nat) (stmts : List Tr) (n m' : Nat) (st r : St) : Prop where
  out : r.out = (stmts.map (Triple.map σ)).reverse ++ st.out
  bn : r.nextBn = st.nextBn + n
  hooks : r.hooks = st.hooks
  lt : ∀ e ∈ r.resolved, e.1 < m'

theorem Res.trans {σ : Path → Nat} {s1 s2 : List Tr} {n1 n2 m1 m2 : Nat} {st r1 r2 : St}
    (h1 : Res σ s1 n1 m1 st r1) (h2 : Res σ s2 n2 m2 r1 r2) : Res σ (s1 ++ s2) (n1 + n2) m2 st r2 :=
  ⟨by rw [h2.out, h1.out]; simp, by rw [h2.bn, h1.bn, Nat.add_assoc], h2.hooks.trans h1.hooks, h2.lt⟩

theorem link_res (σ : Path → Nat) (l : List Tr) (m : Nat) (st : St) (hlt : ∀ e ∈ st.resolved, e.1 < m) :
    Res σ l 0 (m + 1) st { st with steps := st.steps + 1, out := (l.map (Triple.map σ)).reverse ++ st.out } :=
  ⟨rfl, rfl, rfl, fun e he => Nat.lt_succ_of_lt (hlt e he)⟩

theorem item_res (σ : Path → Nat) (base : Str) (cur : Cur) (here : Path) (m : Nat) (tag : Tag) (a : Attrs)
    (ks : List Tree) (st : St) (hs : a.itemscope = true) (hlt : ∀ e ∈ st.resolved, e.1 < m) :
    Res σ (linkOf base cur here (.elem tag a ks) ++ typeStmts base a here) (selfBn a) (m + 1) st
      (itemSt σ base cur here m tag a ks { st with steps := st.steps + 1 }) := by
  refine ⟨by simp [itemSt], subjN_snd base a st.nextBn hs, rfl, ?_⟩
  intro e he
  rcases List.mem_cons.mp he with rfl | he
  · exact Nat.lt_succ_self m
  · exact Nat.lt_succ_of_lt (hlt e he)

theorem relabel_next_ge (m : Nat) (n : Node) : m < (relabelFrom m n).2 := by
  rw [(relabel_ids m n).2, subnodes_eq]; simp

theorem relabelL_next_ge (m : Nat) (ks : List Node) : m ≤ (relabelL m ks).2 := by
  rw [(relabelL_ids m ks).2]; omega

mutual
theorem walk_tree (base : Str) (tm mm : List (Bytes → Option (Term Nat))) (doc : Node)
    (σ : Path → Nat) : ∀ (t : Tree) (f : Nat) (ctx : Ctx) (cur : Cur) (here : Path) (m : Nat) (st : St),
    height (ofSpec t) ≤ f → noRef t = true → elemOk tm mm cur.isSome t →
    CtxRel σ ctx cur → SOk σ here st.nextBn t → (∀ e ∈ st.resolved, e.1 < m) →
    Res σ (swP base cur here t) (bnCount t) (relabelFrom m (ofSpec t)).2 st
      (walk (specEnv base tm mm) doc f ctx (relabelFrom m (ofSpec t)).1 st)
  | .text s, f, ctx, cur, here, m, st, hf, _, _, _, _, hlt => by
    obtain ⟨f', rfl⟩ := exists_fuel_succ hf
    rw [walk_text]
    exact ⟨rfl, rfl, rfl, fun e he => Nat.lt_succ_of_lt (hlt e he)⟩
  | .elem tag a ks, f, ctx, cur, here, m, st, hf, hnr, hok, hrel, hσ, hlt => by
    obtain ⟨f', rfl⟩ := exists_fuel_succ hf
    have hf' : heightL (ofSpecL ks) ≤ f' := by simp [ofSpec, height] at hf; omega
    simp only [noRef, Bool.and_eq_true, Option.isNone_iff_eq_none] at hnr
    have ⟨htokp, hid, _, _, hks⟩ := hok
    have hsk := sok_kids hσ
    simp only [swP, bnCount]
    by_cases hs : a.itemscope = true
    · simp only [ofSpec, relabelFrom, walk_succ, walkStep, Node.ns, Node.attrs, Node.kids, scan_attrsOf,
        ne_eq, not_true_eq_false, ↓reduceIte]
      rw [if_pos hs, if_pos hs, visitItem_spec base tm mm σ _ doc ctx cur here m tag a ks _ hs hid htokp hrel
        { st with steps := st.steps + 1 } (sok_here hσ) (lookupR_none_of_lt _ _ hlt)]
      simp only [hnr.1, Option.getD_none, ne_eq, not_true_eq_false, ↓reduceIte]
      rw [hs, Bool.or_true] at hks
      have h0 := item_res σ base cur here m tag a ks st hs hlt
      have ih := walk_forest base tm mm doc σ ks f' _ (some (subject base a here, typesOf a)) here 0 (m + 1) _ hf' hnr.2 hks
        (itemCtx_rel base σ a here ctx hid (sok_here hσ)) (by rw [h0.bn]; exact hsk) h0.lt
      rw [← List.append_assoc]
      exact h0.trans ih
    · have hs0 : a.itemscope = false := by simpa using hs
      rw [if_neg hs, walk_elem base tm mm doc σ f' ctx cur here m tag a ks st hs0 hok hrel]
      have hself : selfBn a = 0 := by simp [selfBn, hs0]
      rw [hself, Nat.add_zero] at hsk
      rw [hs0, Bool.or_false] at hks
      have h0 := link_res σ (linkOf base cur here (.elem tag a ks)) m st hlt
      have ih := walk_forest base tm mm doc σ ks f' ctx cur here 0 (m + 1)
        { st with steps := st.steps + 1,
                  out := ((linkOf base cur here (.elem tag a ks)).map (Triple.map σ)).reverse ++ st.out }
        hf' hnr.2 hks hrel hsk h0.lt
      rw [hself]
      exact h0.trans ih
theorem walk_forest (base : Str) (tm mm : List (Bytes → Option (Term Nat))) (doc : Node)
    (σ : Path → Nat) : ∀ (ks : List Tree) (f : Nat) (ctx : Ctx) (cur : Cur) (here : Path) (i m : Nat) (st : St),
    heightL (ofSpecL ks) ≤ f → noRefKids ks = true → elemOkKids tm mm cur.isSome ks →
    CtxRel σ ctx cur → SOkK σ here i st.nextBn ks → (∀ e ∈ st.resolved, e.1 < m) →
    Res σ (swPKids base cur here i ks) (bnCountL ks) (relabelL m (ofSpecL ks)).2 st
      (walkKidsWith (walk (specEnv base tm mm) doc f) ctx (relabelL m (ofSpecL ks)).1 st)
  | [], f, ctx, cur, here, i, m, st, _, _, _, _, _, hlt => by
    simp only [ofSpecL, relabelL, walkKidsWith, List.foldl_nil, swPKids, bnCountL]
    exact ⟨rfl, rfl, rfl, hlt⟩
  | k :: ks, f, ctx, cur, here, i, m, st, hf, hnr, hok, hrel, hσ, hlt => by
    simp only [noRefKids, Bool.and_eq_true] at hnr
    simp only [ofSpecL, heightL] at hf
    have h1 := walk_tree base tm mm doc σ k f ctx cur (here ++ [i]) m st (by omega) hnr.1 hok.1 hrel
      (sokK_head hσ) hlt
    have h2 := walk_forest base tm mm doc σ ks f ctx cur here (i + 1) (relabelFrom m (ofSpec k)).2
      (walk (specEnv base tm mm) doc f ctx (relabelFrom m (ofSpec k)).1 st) (by omega) hnr.2 hok.2 hrel
      (by rw [h1.bn]; exact sokK_tail hσ) h1.lt
    simp only [ofSpecL, relabelL, walkKidsWith, List.foldl_cons, swPKids, bnCountL]
    unfold walkKidsWith at h2
    exact h1.trans h2
end

/-- `walk_forest` for the fragment's own conditions (`Decline`, `tokOk`, `inFragment` in place of `elemOk`) -/
theorem walk_trees (base : Str) (tm mm : List (Bytes → Option (Term Nat))) (hdec : Decline tm mm) (doc : Node)
    (σ : Path → Nat) : ∀ (ks : List Tree) (f : Nat) (ctx : Ctx) (cur : Cur) (here : Path) (i m : Nat) (st : St),
    heightL (ofSpecL ks) ≤ f → noRefKids ks = true → tokOkKids ks = true → inFragmentKids ks = true →
    CtxRel σ ctx cur → SOkK σ here i st.nextBn ks → (∀ e ∈ st.resolved, e.1 < m) →
    Res σ (swPKids base cur here i ks) (bnCountL ks) (relabelL m (ofSpecL ks)).2 st
      (walkKidsWith (walk (specEnv base tm mm) doc f) ctx (relabelL m (ofSpecL ks)).1 st) :=
  fun ks f ctx cur here i m st hf hnr htk hif =>
    walk_forest base tm mm doc σ ks f ctx cur here i m st hf hnr (elemOkKids_of hdec ks _ htk hif)

/-- the fragment of this file: no itemref; Go tokenises names and itemids as HTML does; meter / time values are
    plain words (`Spec.Microdata.inFragment`) -/
def NestedFrag (doc : Tree) : Prop := noRef doc = true ∧ tokOk doc = true ∧ inFragment doc = true

theorem decode_swP (base : Str) (tm mm : List (Bytes → Option (Term Nat))) (doc : Tree) (hnr : noRef doc = true)
    (hok : elemOk tm mm false doc) :
    decode (specEnv base tm mm) (ofSpecDoc doc) = .ok ((swP base none [] doc).map (Triple.map (rank doc))) [] := by
  obtain ⟨f, hf, _, hd⟩ := decode_ofSpecDoc (specEnv base tm mm) doc
  have hw := walk_tree base tm mm (relabel (ofSpecDoc doc)) (rank doc) doc f {} none [] 1 { steps := 1 } (by omega)
    hnr hok (by simp [CtxRel]) (by intro p; simp) (by intro e he; simp at he)
  rw [hd, hw.out, hw.hooks]
  simp

theorem decode_nested (base : Str) (tm mm : List (Bytes → Option (Term Nat))) (hdec : Decline tm mm) (doc : Tree)
    (hfrag : NestedFrag doc) :
    decode (specEnv base tm mm) (ofSpecDoc doc) = .ok ((swP base none [] doc).map (Triple.map (rank doc))) [] :=
  decode_swP base tm mm doc hfrag.1 (elemOk_of hdec doc false hfrag.2.1 hfrag.2.2)

/-- the three parts that `C11Md.mdd_refines_denote_nested_partial` states with the streaming order written out -/
theorem decode_nested_denote (base : Str) (tm mm : List (Bytes → Option (Term Nat))) (hdec : Decline tm mm) (doc : Tree)
    (hfrag : NestedFrag doc) :
    ∃ stmts, decode (specEnv base tm mm) (ofSpecDoc doc) = .ok stmts [] ∧
      stmts.Perm ((denote base doc).map (Triple.map (rank doc))) ∧
      ∀ p ∈ bnItems [] doc, ∀ q ∈ bnItems [] doc, rank doc p = rank doc q → p = q :=
  ⟨_, decode_nested base tm mm hdec doc hfrag, (swP_perm_denote base doc hfrag.1).map _,
    fun p hp q hq h => rank_inj doc p q hp hq h⟩

end RdfModel.Mdd.Nested
