/-
  C11: `id` attributes are irrelevant markup. Microdata: rewriting the ids of a document (`reId f`) without making or unmaking
  an id that some `itemref` token of the document names leaves `Spec.Microdata.denote` unchanged — the statement behind the
  harness's "ids on ancestors" decoration (go/cmd/c11/families.go: decorateIDs). `Spec.Rdfa.denote` does not look at ids at all.
-/
import RdfModel.Proofs.C11Scope
import RdfModel.Proofs.C11Microdata
namespace RdfModel.Spec.Microdata
open RdfModel RdfModel.Spec.Html RdfModel.Desc

abbrev IdMap := Path → Option Str → Option Str

mutual
theorem reId_same (f : IdMap) (here : Path) : ∀ t : Tree,
    textOf (reId f here t) = textOf t ∧ itemsNode here (reId f here t) = itemsNode here t ∧
    visit here (reId f here t) = visit here t
  | .text _ => by simp [reId]
  | .elem tag a ks => by
    obtain ⟨h1, h2, h3⟩ := reIdKids_same f here 0 ks
    simp only [reId, textOf, itemsNode, visit, h1, h2, h3]
    exact ⟨trivial, trivial, rfl⟩
theorem reIdKids_same (f : IdMap) (here : Path) (i : Nat) : ∀ ks : List Tree,
    textOfList (reIdKids f here i ks) = textOfList ks ∧ itemsKids here i (reIdKids f here i ks) = itemsKids here i ks ∧
    visitKids here i (reIdKids f here i ks) = visitKids here i ks
  | [] => by simp [reIdKids]
  | k :: ks => by
    obtain ⟨h1, h2, h3⟩ := reId_same f (here ++ [i]) k
    obtain ⟨g1, g2, g3⟩ := reIdKids_same f here (i + 1) ks
    simp only [reIdKids, textOfList, itemsKids, visitKids, h1, h2, h3, g1, g2, g3, and_self]
end

theorem textOf_reId (f : IdMap) (here : Path) : ∀ t : Tree, textOf (reId f here t) = textOf t
  | t => (reId_same f here t).1

theorem itemsKids_reId (f : IdMap) (here : Path) (i : Nat) :
    ∀ ks : List Tree, itemsKids here i (reIdKids f here i ks) = itemsKids here i ks
  | ks => (reIdKids_same f here i ks).2.1

theorem names_reId (a : Attrs) (x : Option Str) : names { a with id := x } = names a := rfl

theorem kidAt_reIdKids (f : IdMap) (here : Path) :
    ∀ (ks : List Tree) (i j : Nat), kidAt (reIdKids f here i ks) j = (kidAt ks j).map (reId f (here ++ [i + j]))
  | [], i, j => by simp [reIdKids, kidAt]
  | k :: ks, i, 0 => by simp [reIdKids, kidAt]
  | k :: ks, i, j + 1 => by
    simp only [reIdKids, kidAt]
    rw [kidAt_reIdKids f here ks (i + 1) j]
    have : i + 1 + j = i + (j + 1) := by omega
    rw [this]

theorem nodeAt_reId (f : IdMap) :
    ∀ (p here : Path) (t : Tree), nodeAt (reId f here t) p = (nodeAt t p).map (reId f (here ++ p))
  | [], here, t => by simp [nodeAt_nil]
  | i :: rest, here, .text _ => by simp [reId, nodeAt]
  | i :: rest, here, .elem tag a ks => by
    simp only [reId, nodeAt]
    rw [kidAt_reIdKids f here ks 0 i]
    cases h : kidAt ks i with
    | none => simp
    | some k =>
      simp only [Option.map, Nat.zero_add]
      rw [nodeAt_reId f rest (here ++ [i]) k]
      simp only [List.append_assoc, List.singleton_append]
      cases nodeAt k rest <;> rfl

theorem value_reId (f : IdMap) (base : Str) (here : Path) (t : Tree) :
    value base here (reId f here t) = value base here t := by
  cases t with
  | text s => simp [reId]
  | elem tag a ks =>
    simp only [reId, value, subject, (reIdKids_same f here 0 ks).1]

theorem mem_refTokensKids_of_kidAt (r : Str) :
    ∀ (ks : List Tree) (i : Nat) (k : Tree), kidAt ks i = some k → r ∈ refTokens k → r ∈ refTokensKids ks
  | [], i, k, h, _ => by simp [kidAt] at h
  | k0 :: ks, 0, k, h, hr => by
    simp only [kidAt, Option.some.injEq] at h
    subst h
    simp only [refTokensKids, List.mem_append]
    exact Or.inl hr
  | k0 :: ks, i + 1, k, h, hr => by
    simp only [kidAt] at h
    simp only [refTokensKids, List.mem_append]
    exact Or.inr (mem_refTokensKids_of_kidAt r ks i k h hr)

theorem mem_refTokens_of_nodeAt (r v : Str) (tag : Tag) (a : Attrs) (ks : List Tree)
    (ha : a.itemref = some v) (hr : r ∈ fields v) :
    ∀ (p : Path) (t : Tree), nodeAt t p = some (.elem tag a ks) → r ∈ refTokens t
  | [], t, h => by
    rw [nodeAt_nil] at h
    simp only [Option.some.injEq] at h
    subst h
    simp only [refTokens, ha, List.mem_append]
    exact Or.inl hr
  | i :: rest, .text _, h => by simp [nodeAt] at h
  | i :: rest, .elem tag0 a0 ks0, h => by
    simp only [nodeAt] at h
    cases hk : kidAt ks0 i with
    | none => simp [hk] at h
    | some k =>
      simp only [hk] at h
      have := mem_refTokens_of_nodeAt r v tag a ks ha hr rest k h
      simp only [refTokens, List.mem_append]
      exact Or.inr (mem_refTokensKids_of_kidAt r ks0 i k hk this)

theorem props_reId (f : IdMap) (doc : Tree)
    (hf : ∀ r ∈ refTokens doc, ∀ p o, (f p o = some r ↔ o = some r)) (root : Path) :
    props (reId f [] doc) root = props doc root := by
  unfold props
  rw [nodeAt_reId f root [] doc]
  cases h : nodeAt doc root with
  | none => simp
  | some t =>
    cases t with
    | text s => simp [reId]
    | elem tag a ks =>
      simp only [Option.map, reId, List.nil_append]
      rw [(reIdKids_same f root 0 ks).2.2]
      congr 2
      apply flatMap_congr'
      intro id hid
      have hmem : id ∈ refTokens doc := by
        cases hv : a.itemref with
        | none => simp [hv] at hid
        | some v =>
          simp only [hv] at hid
          exact mem_refTokens_of_nodeAt id v tag a ks hv hid root doc h
      rw [findIdNode_reId f id (hf id hmem) [] doc]
      cases hq : findIdNode id [] doc with
      | none => rfl
      | some q =>
        simp only
        rw [nodeAt_reId f q [] doc]
        cases hn : nodeAt doc q with
        | none => rfl
        | some t2 =>
          simp only [Option.map, List.nil_append]
          exact (reId_same f q t2).2.2

theorem itemTriples_reId (f : IdMap) (base : Str) (doc : Tree)
    (hf : ∀ r ∈ refTokens doc, ∀ p o, (f p o = some r ↔ o = some r)) (here : Path) :
    itemTriples base (reId f [] doc) here = itemTriples base doc here := by
  unfold itemTriples
  rw [nodeAt_reId f here [] doc]
  cases h : nodeAt doc here with
  | none => simp
  | some t =>
    cases t with
    | text s => simp [reId]
    | elem tag a ks =>
      simp only [Option.map, reId, List.nil_append, subject]
      rw [props_reId f doc hf here]
      congr 1
      apply flatMap_congr'
      intro q _
      rw [nodeAt_reId f q [] doc]
      cases hn : nodeAt doc q with
      | none => rfl
      | some t2 =>
        cases t2 with
        | text s => simp [reId]
        | elem tag2 a2 ks2 =>
          simp only [Option.map, List.nil_append, reId, names_reId]
          apply List.map_congr_left
          intro nm _
          have := value_reId f base q (.elem tag2 a2 ks2)
          simp only [reId] at this
          rw [this]

theorem denote_reId (f : IdMap) (base : Str) (doc : Tree)
    (hf : ∀ r ∈ refTokens doc, ∀ p o, (f p o = some r ↔ o = some r)) :
    denote base (reId f [] doc) = denote base doc := by
  unfold denote
  rw [(reId_same f [] doc).2.1]
  apply flatMap_congr'
  intro here _
  exact itemTriples_reId f base doc hf here

end RdfModel.Spec.Microdata

namespace RdfModel.Spec.Rdfa
open RdfModel RdfModel.Spec.Html RdfModel.Desc

theorem elemLocal_id (C : Ctx) (lm : LM) (n : Nat) (tag : Tag) (a : Attrs) (x : Option Str) (txt : Str) :
    elemLocal C lm n tag { a with id := x } txt = elemLocal C lm n tag a txt := rfl

mutual
theorem procNode_reId (f : Microdata.IdMap) (here : Microdata.Path) :
    ∀ (t : Tree) (C : Ctx) (lm : LM) (n : Nat), procNode C lm n (Microdata.reId f here t) = procNode C lm n t
  | .text _, C, lm, n => by simp [Microdata.reId]
  | .elem tag a ks, C, lm, n => by
    simp only [Microdata.reId]
    rw [procNode, procNode]
    simp only [(Microdata.reIdKids_same f here 0 ks).1, elemLocal_id]
    simp only [procKids_reId f here 0 ks]
theorem procKids_reId (f : Microdata.IdMap) (here : Microdata.Path) (i : Nat) :
    ∀ (ks : List Tree) (C : Ctx) (lm : LM) (n : Nat), procKids C lm n (Microdata.reIdKids f here i ks) = procKids C lm n ks
  | [], C, lm, n => by simp [Microdata.reIdKids]
  | k :: ks, C, lm, n => by
    simp only [Microdata.reIdKids]
    rw [procKids, procKids]
    simp only [procNode_reId f (here ++ [i]) k, procKids_reId f here (i + 1) ks]
end

theorem denote_reId (f : Microdata.IdMap) (base : Str) (prefixes terms : List (Str × Str)) (doc : Tree) :
    denote base prefixes terms (Microdata.reId f [] doc) = denote base prefixes terms doc := by
  unfold denote
  simp only [procNode_reId f [] doc]

end RdfModel.Spec.Rdfa
