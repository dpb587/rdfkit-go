import RdfModel.Props.C19Defs
namespace RdfModel.Proofs.C19
open RdfModel.DS RdfModel.C19

/-! ### quoting is prefix-free and LF-free

  One byte is written as `\"`, `\\`, `\n`, or as itself when it is none of `"`, `\`, LF. So a first byte `\` means an
  escape and the second byte says which; any other first byte is the byte itself. Hence the images of two bytes,
  each followed by anything, agree only for the same byte (`escape_prefix_free`); none starts with `"`
  (`escape_ne_quote`); none contains LF. Each is the four cases of `quoteBody` read off. -/

theorem quoteBody_cons (c : Nat) (a : Bytes) : quoteBody (c :: a) = quoteBody [c] ++ quoteBody a := by
  simp only [quoteBody]; grind

theorem escape_prefix_free {c d : Nat} {x y : Bytes} (h : quoteBody [c] ++ x = quoteBody [d] ++ y) :
    c = d ∧ x = y := by
  simp only [quoteBody] at h
  grind

theorem escape_ne_quote (c : Nat) (x y : Bytes) : quoteBody [c] ++ x ≠ 0x22 :: y := by
  simp only [quoteBody]; grind

theorem quoteBody_prefix_free : ∀ (a b r r' : Bytes),
    quoteBody a ++ 0x22 :: r = quoteBody b ++ 0x22 :: r' → a = b ∧ r = r'
  | [], [], r, r', h => by simpa [quoteBody] using h
  | [], d :: b, r, r', h => by
    rw [quoteBody_cons, List.append_assoc] at h
    exact absurd h.symm (escape_ne_quote _ _ _)
  | c :: a, [], r, r', h => by
    rw [quoteBody_cons, List.append_assoc] at h
    exact absurd h (escape_ne_quote _ _ _)
  | c :: a, d :: b, r, r', h => by
    rw [quoteBody_cons, quoteBody_cons d, List.append_assoc, List.append_assoc] at h
    obtain ⟨rfl, h'⟩ := escape_prefix_free h
    obtain ⟨rfl, rfl⟩ := quoteBody_prefix_free a b r r' h'
    exact ⟨rfl, rfl⟩

theorem quote_prefix_free (a b r r' : Bytes) (h : quote a ++ r = quote b ++ r') : a = b ∧ r = r' := by
  simp only [quote, List.cons_append, List.append_assoc, List.cons.injEq, true_and] at h
  exact quoteBody_prefix_free a b r r' h

theorem quote_injective (a b : Bytes) (h : quote a = quote b) : a = b :=
  (quote_prefix_free a b [] [] (by simpa using h)).1

theorem quoteBody_no_lf : ∀ a : Bytes, 0x0a ∉ quoteBody a
  | [] => by simp [quoteBody]
  | c :: a => by
    rw [quoteBody_cons, List.mem_append, not_or]
    refine ⟨?_, quoteBody_no_lf a⟩
    simp only [quoteBody]; grind

theorem quote_no_lf (a : Bytes) : 0x0a ∉ quote a := by
  simp [quote, quoteBody_no_lf]

theorem split_at_lf : ∀ (x y r r' : Bytes), 0x0a ∉ x → 0x0a ∉ y →
    x ++ 0x0a :: r = y ++ 0x0a :: r' → x = y ∧ r = r'
  | [], [], _, _, _, _, h => by simpa using h
  | [], d :: y, _, _, _, hy, h => by simp at h; simp [← h.1] at hy
  | c :: x, [], _, _, hx, _, h => by simp at h; simp [h.1] at hx
  | c :: x, d :: y, r, r', hx, hy, h => by
    simp at h hx hy
    simpa [h.1] using split_at_lf x y r r' hx.2 hy.2 h.2

theorem tagLine_eq (t t' : Tag) (r r' : Bytes)
    (h : tagLine (some t) ++ r = tagLine (some t') ++ r') : t = t' ∧ r = r' := by
  cases t <;> cases t' <;>
    simp only [tagLine, List.append_assoc, List.append_cancel_left_eq] at h <;>
    obtain ⟨rfl, h1⟩ := quote_prefix_free _ _ _ _ h
  · simpa using h1
  · simp [bDir] at h1
  · simp [bDir] at h1
  · rw [List.append_cancel_left_eq] at h1
    obtain ⟨rfl, h2⟩ := quote_prefix_free _ _ _ _ h1
    simpa using h2

theorem literal_key_injective (a b : Literal) (ha : WFLiteral a) (hb : WFLiteral b)
    (h : litKeyBytes a = litKeyBytes b) : a = b := by
  obtain ⟨adt, alex, atag⟩ := a
  obtain ⟨bdt, blex, btag⟩ := b
  simp only [litKeyBytes, List.append_assoc, List.singleton_append] at h
  obtain ⟨rfl, hrest⟩ := split_at_lf adt bdt _ _ ha.1 hb.1 h
  have htag : atag.isSome = btag.isSome := ha.2.trans hb.2.symm
  rcases atag with _ | t <;> rcases btag with _ | t' <;> simp at htag
  · simpa [tagLine] using hrest
  · obtain ⟨rfl, rfl⟩ := tagLine_eq t t' _ _ hrest
    rfl

theorem keyOf_injective (a b : Term) (ha : WFTerm a) (hb : WFTerm b) (h : keyOf a = keyOf b) : a = b := by
  cases a <;> cases b <;> simp [keyOf] at h
  · simp [h]
  · simp [h]
  · rename_i l m
    simp only [WFTerm] at ha hb
    rw [literal_key_injective l m ha hb h]

theorem BId.equals_iff (a b : BId) : a.equals b = true ↔ a = b := by
  cases a <;> cases b <;> simp [BId.equals] <;> grind

theorem Tag.equals_iff (a b : Tag) : a.equals b = true ↔ a = b := by
  cases a <;> cases b <;> simp [Tag.equals]

theorem Literal.equals_iff (a b : Literal) : a.equals b = true ↔ a = b := by
  obtain ⟨adt, alex, atag⟩ := a
  obtain ⟨bdt, blex, btag⟩ := b
  simp only [Literal.equals]
  cases atag <;> cases btag <;> simp [Tag.equals_iff] <;> grind

theorem termEquals_true_iff (u : Term) (t : Option Term) :
    u.termEquals t = true ↔ t = some u ∧ HasIdentity u := by
  rcases u with v | (_ | i) | l <;> rcases t with _ | w | (_ | j) | m <;>
    grind [Term.termEquals, HasIdentity, BId.equals_iff, Literal.equals_iff]

theorem termEquals_iff (t : Term) (ht : HasIdentity t) (u : Option Term) :
    t.termEquals u = true ↔ u = some t := by
  simp [termEquals_true_iff, ht]

theorem Tag.equals_symm (a b : Tag) : a.equals b = b.equals a := by
  rw [Bool.eq_iff_iff, Tag.equals_iff, Tag.equals_iff]; exact eq_comm

end RdfModel.Proofs.C19
