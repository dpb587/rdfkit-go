import RdfModel.Proofs.C01RJDec
namespace RdfModel.Proofs.C01RJ
open RdfModel RdfModel.RJ RdfModel.C01RJ

theorem next_of_err (v : Variant) (toks : List Tok) (e : TEnd) (d : Dec) (h : d.err.isSome = true) :
    next v toks e d = .ret d false := by
  simp [next, h]

theorem next_of_parsed (v : Variant) (toks : List Tok) (e : TEnd) (d : Dec) (h : d.err = none)
    (hi : d.idx ≠ -1) :
    next v toks e d = .ret { d with idx := d.idx + 1 } (decide (d.idx + 1 < (d.stmts.length : Int))) := by
  simp [next, h, hi]

theorem next_of_fresh (v : Variant) (toks : List Tok) (e : TEnd) (d : Dec) (h : d.err = none)
    (hi : d.idx = -1) :
    next v toks e d =
      match parseRoot v toks e with
      | .panic => .panic
      | .done ss vd => .ret ⟨vd.toErr, d.stmts ++ ss, 0⟩ (decide ((0 : Int) < ((d.stmts ++ ss).length : Int))) := by
  simp only [next, h, hi]
  cases parseRoot v toks e <;> simp

theorem next_ret {v : Variant} {toks : List Tok} {e : TEnd} {d d' : Dec} {b : Bool}
    (h : next v toks e d = .ret d' b) :
    (d.err.isSome = true ∧ d' = d ∧ b = false) ∨
    (d.err = none ∧ ∃ (ss : List (Triple BNode)) (vd : Verdict), d' = ⟨vd.toErr, d.stmts ++ ss, 0⟩ ∧
        b = decide ((0 : Int) < ((d.stmts ++ ss).length : Int))) ∨
    (d.err = none ∧ d' = { d with idx := d.idx + 1 } ∧
        b = decide (d.idx + 1 < (d.stmts.length : Int))) := by
  by_cases herr : d.err.isSome = true
  · rw [next_of_err v toks e d herr] at h; cases h; exact .inl ⟨herr, rfl, rfl⟩
  · have hnone : d.err = none := by cases hd : d.err <;> simp_all
    by_cases hidx : d.idx = -1
    · rw [next_of_fresh v toks e d hnone hidx] at h
      split at h
      · cases h
      · next ss vd _ => cases h; exact .inr (.inl ⟨hnone, ss, vd, rfl, rfl⟩)
    · rw [next_of_parsed v toks e d hnone hidx] at h
      cases h; exact .inr (.inr ⟨hnone, rfl, rfl⟩)

/-- The iteration has ended: an error is latched, or every statement has been handed out. -/
def Ended (d : Dec) : Prop := d.err.isSome = true ∨ (d.err = none ∧ 0 ≤ d.idx ∧ (d.stmts.length : Int) ≤ d.idx)

theorem ended_of_false (v : Variant) (toks : List Tok) (e : TEnd) (d d' : Dec)
    (hi : -1 ≤ d.idx) (h : next v toks e d = .ret d' false) : Ended d' := by
  rcases next_ret h with ⟨herr, rfl, _⟩ | ⟨_, ss, vd, rfl, hb⟩ | ⟨hnone, rfl, hb⟩
  · exact .inl herr
  · have h2 := of_decide_eq_false hb.symm
    cases vd with
    | clean => right; simp [Verdict.toErr] at h2 ⊢; omega
    | error c => left; simp [Verdict.toErr]
  · have h2 := of_decide_eq_false hb.symm
    right; simp [hnone]; omega

theorem ended_next (v : Variant) (toks : List Tok) (e : TEnd) (d : Dec) (h : Ended d) :
    ∃ d', next v toks e d = .ret d' false ∧ d'.err = d.err ∧ Ended d' := by
  rcases h with herr | ⟨hnone, h0, hlen⟩
  · exact ⟨d, next_of_err v toks e d herr, rfl, .inl herr⟩
  · refine ⟨{ d with idx := d.idx + 1 }, ?_, rfl, .inr ⟨hnone, ?_, ?_⟩⟩
    · rw [next_of_parsed v toks e d hnone (by omega)]
      simp; omega
    · simp; omega
    · simp; omega

theorem staysEnded_of_ended (v : Variant) (toks : List Tok) (e : TEnd) :
    ∀ k d, Ended d → StaysEnded v toks e d k := by
  intro k
  induction k with
  | zero => intro d _; trivial
  | succ k ih =>
    intro d h
    obtain ⟨d', h1, h2, h3⟩ := ended_next v toks e d h
    exact ⟨d', h1, h2, ih d' h3⟩

theorem drive_clean (v : Variant) (toks : List Tok) (e : TEnd) (ss : List (Triple BNode)) :
    ∀ (f i : Nat) (acc : List (Triple BNode)), ss.length ≤ i + 1 + f →
      drive v toks e (f + 1) ⟨none, ss, (i : Int)⟩ acc = .finished (acc.reverse ++ ss.drop (i + 1)) none
  | f, i, acc, hlen => by
    have hn := next_of_parsed v toks e ⟨none, ss, (i : Int)⟩ rfl (by simp <;> omega)
    rw [drive, hn]
    by_cases hlt : i + 1 < ss.length
    · obtain ⟨f, rfl⟩ : ∃ f', f = f' + 1 := ⟨f - 1, by omega⟩
      have hcur : current ⟨none, ss, (i : Int) + 1⟩ = some ss[i + 1] := by
        unfold current
        rw [if_neg (by simp <;> omega), show ((i : Int) + 1).toNat = i + 1 by omega]
        exact List.getElem?_eq_getElem hlt
      have ih := drive_clean v toks e ss f (i + 1) (ss[i + 1] :: acc) (by omega)
      simp only [Int.natCast_add, Int.cast_ofNat_Int] at ih
      simp only [decide_eq_true (show (i : Int) + 1 < ss.length by omega), hcur, ih, List.reverse_cons,
        List.append_assoc, List.singleton_append, ← List.drop_eq_getElem_cons hlt]
    · simp only [decide_eq_false (show ¬ (i : Int) + 1 < ss.length by omega),
        List.drop_eq_nil_of_le (Nat.le_of_not_lt hlt), List.append_nil]

theorem run_closed_form (v : Variant) (toks : List Tok) (e : TEnd) :
    run v toks e =
      match parseRoot v toks e with
      | .panic => .panic
      | .done ss vd => .finished (yieldedOf ss vd) vd.toErr := by
  -- the fuel `toks.length + 2` of `run`: at most one statement per token (`parse_length`), one call of `Next`
  -- per statement, one that parses and one that returns false
  unfold run
  have hfresh := next_of_fresh v toks e {} rfl rfl
  rw [drive, hfresh]
  cases hp : parseRoot v toks e with
  | panic => rfl
  | done ss vd =>
    have hlen : ss.length ≤ toks.length := by simpa using parse_length v e toks .start {} ss vd hp
    cases ss with
    | nil => cases vd <;> simp [yieldedOf]
    | cons t ss' =>
      have hcur : current ⟨vd.toErr, t :: ss', 0⟩ = some t := by simp [current]
      simp only [List.nil_append, List.length_cons, decide_eq_true (show (0 : Int) < ((ss'.length + 1 : Nat) : Int) by omega), hcur]
      cases vd with
      | clean =>
        simpa [Verdict.toErr, yieldedOf] using
          drive_clean v toks e (t :: ss') toks.length 0 [t] (by simp at hlen ⊢; omega)
      | error c => simp [drive, next_of_err v toks e ⟨some c, t :: ss', 0⟩ rfl, Verdict.toErr, yieldedOf]

end RdfModel.Proofs.C01RJ
