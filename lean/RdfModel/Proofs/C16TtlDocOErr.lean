import RdfModel.Proofs.C16TtlDocOInv
namespace RdfModel.Proofs.C16TtlDocO
open RdfModel RdfModel.TW RdfModel.NQO RdfModel.TtlDoc RdfModel.TtlDocO RdfModel.C16TtlDocO
open RdfModel.Proofs.C16Ttl RdfModel.Proofs.C16 RdfModel.C16

@[simp] theorem bo_read (s : S) (c : RP) : (s.read c).bo = s.bo + c.2 := rfl
@[simp] theorem bo_readL (s : S) (l : List RP) : (readL s l).bo = s.bo + size l := rfl
@[simp] theorem bo_commit (s : S) (ch : Chunk) : (s.commit ch).bo = s.bo := rfl
@[simp] theorem doc_read (s : S) (c : RP) : (s.read c).doc = s.doc := rfl
@[simp] theorem doc_readL (s : S) (l : List RP) : (readL s l).doc = s.doc := rfl

theorem rgB_none (n : Nat) : RgB none n := Nat.zero_le _

/-- a scan function: byte accounting and `Pend` when it returns normally, bound when it fails -/
def StepB (s : S) (inp : List RP) (res : FnResO) : Prop :=
  (∀ o, res = .ok o → o.s.bo + size o.inp = s.bo + size inp ∧ Pend o.s 0) ∧
  (∀ k eo, res = .err k eo → EOff.bound eo ≤ s.bo + size inp)

theorem stepB_ok {s : S} {inp : List RP} {o : OutO} (h1 : o.s.bo + size o.inp = s.bo + size inp)
    (h2 : Pend o.s 0) : StepB s inp (.ok o) :=
  ⟨fun o' h => (by cases h; exact ⟨h1, h2⟩), fun k eo h => (by cases h)⟩

theorem stepB_err {s : S} {inp : List RP} {k : TtlDoc.EClass} {eo : EOff} (h : EOff.bound eo ≤ s.bo + size inp) :
    StepB s inp (.err k eo) :=
  ⟨fun o' h => (by cases h), fun k' eo' h' => (by cases h'; exact h)⟩

theorem stepB_errNone (s : S) (inp : List RP) (k : TtlDoc.EClass) : StepB s inp (.err k .none) :=
  stepB_err (Nat.zero_le _)

/-- `Pend` after reading some runes and committing at most as many bytes -/
macro "pend_tac" hP:ident s:ident : tactic => `(tactic| (
  intro hh hd
  simp only [S.commit, S.read, readL, Option.map_map] at hd
  cases hs : S.doc $s with
  | none => simp [hs] at hd
  | some d =>
    have := $hP d hs
    simp only [hs, Option.map_some, Option.some.injEq, Function.comp] at hd
    subst hd
    simp [histRunes, S.commit, S.read, readL] at this ⊢
    omega))

/-- bound of an error raised right here by `newOffsetError` -/
macro "err_tac" hP:ident : tactic => `(tactic| (
  apply stepB_err
  apply bound_offErr
  · intro hh hd
    have := $hP hh (by simpa using hd)
    simp at this ⊢
    omega
  · simp
    try omega))

theorem Step.bytes {s : S} {x : EctxO} {r : Rg} {inp : List RP} {res : FnResO} (h : Step s x r inp res)
    (hP : Pend s 0) : StepB s inp res := by
  cases res with
  | ok o => obtain ⟨_, h1, h2, _⟩ := h; exact stepB_ok (h2.size h1) (h2.pend hP)
  | err k eo => exact stepB_err (h hP)
  | panic => exact ⟨(fun _ g => nomatch g), fun _ _ g => nomatch g⟩

theorem StepB.cast {s s' : S} {inp inp' : List RP} {res : FnResO} (h : StepB s' inp' res)
    (hb : s'.bo + size inp' = s.bo + size inp) : StepB s inp res :=
  ⟨fun o ho => hb ▸ h.1 o ho, fun k eo he => hb ▸ h.2 k eo he⟩

theorem scanFnO_B (C : CfgO) (e : End) (f : FrameO) (rest : List RP) (env : Env) (s : S) (hP : Pend s 0) :
    StepB s rest (scanFnO C e f rest env s) := by
  have hsk := skipWsO_spec C e rest false s []
  unfold scanFnO
  cases hq : skipWsO C e false s rest [] with
  | commentIo => exact stepB_errNone _ _ _
  | end_ s' =>
    rw [hq] at hsk
    obtain ⟨h1, hd⟩ := skipS_end hsk
    have h2 : Pend s' 0 := by
      rcases hd with h | h
      · exact fun d hd' => by have := hP d (h ▸ hd'); omega
      · exact h.pend hP
    simp only []
    by_cases hk : f.k = .statement
    · rw [hk]
      cases e with
      | ioerr => exact stepB_errNone _ _ _
      | eof => exact stepB_ok (by simp [h1]) h2
    · exact ((stepFnO_step (r := f.r) (x := f.x) C e env f.k .fail (fun h => hk h.1)).bytes h2).cast h1
  | rune s' c rest' =>
    rw [hq] at hsk
    obtain ⟨ws, hws, hA⟩ := skipS_rune hsk
    have h1 := hA.size hws
    simp only []
    exact ((stepFnO_step (r := f.r) (x := f.x) C e env f.k (.rune c rest') (fun h => nomatch h.2)).bytes
      (hA.pend hP)).cast h1

/-- byte accounting of the decoder object for a document of `n` bytes: the rune buffer's offset plus
    the bytes still unread is `n`; the writer holds at most what the buffer handed out; the offset of a
    recorded error is at most `n` -/
def BInv (n : Nat) (st : StO) : Prop :=
  st.s.bo + size st.inp = n ∧ Pend st.s 0 ∧ ∀ k o, st.err = some (k, o) → EOff.bound o ≤ n

def NextB (n : Nat) : NextResO → Prop
  | .yes st => BInv n st
  | .no st => BInv n st
  | .panic => True
  | .outOfFuel => True

theorem nextLoopO_B (C : CfgO) (e : End) (n : Nat) : ∀ (fuel : Nat) (cur : Option FrameO) (st : StO),
    BInv n st → NextB n (nextLoopO C e fuel cur st)
  | 0, _, _, _ => trivial
  | fuel + 1, cur, st, h => by
    simp only [nextLoopO]
    split
    · exact h
    · split
      · cases cur <;> exact h
      · cases hq : popFrameO cur st with
        | none => exact h
        | some p =>
          obtain ⟨f, st1⟩ := p
          obtain ⟨stk, rfl, -⟩ := popFrameO_spec hq
          have hp : BInv n { st with stack := stk } := h
          simp only []
          have hB := scanFnO_B C e f st.inp st.env st.s hp.2.1
          unfold scanO
          cases hs : scanFnO C e f st.inp st.env st.s with
          | panic => trivial
          | err k o =>
            simp only []
            refine nextLoopO_B C e n fuel none _ ⟨hp.1, hp.2.1, ?_⟩
            intro k' o' hko
            simp only [Option.some.injEq, Prod.mk.injEq] at hko
            obtain ⟨_, rfl⟩ := hko
            have := hB.2 k o hs
            have hb : st.s.bo + size st.inp = n := hp.1
            omega
          | ok o =>
            simp only []
            obtain ⟨k1, k2⟩ := hB.1 o hs
            have hb : st.s.bo + size st.inp = n := hp.1
            exact nextLoopO_B C e n fuel o.cur _ ⟨by simp [applyOutO]; omega, by simpa [applyOutO] using k2,
              by simpa [applyOutO] using hp.2.2⟩

theorem nextO_B (C : CfgO) (e : End) (n : Nat) (st : StO) (h : BInv n st) : NextB n (nextO C e st) := by
  unfold nextO
  exact nextLoopO_B C e n _ none _ h

theorem runLoopO_B (C : CfgO) (e : End) (n : Nat) : ∀ (m : Nat) (st : StO), BInv n st →
    EOff.bound (runLoopO C e m st).eoff ≤ n
  | 0, _, _ => Nat.zero_le _
  | m + 1, st, h => by
    simp only [runLoopO]
    have hn := nextO_B C e n st h
    cases hq : nextO C e st with
    | panic => exact Nat.zero_le _
    | outOfFuel => exact Nat.zero_le _
    | no st' =>
      rw [hq] at hn
      simp only []
      cases he : st'.err with
      | none => exact Nat.zero_le _
      | some p => obtain ⟨k, o⟩ := p; exact hn.2.2 k o he
    | yes st' =>
      rw [hq] at hn
      simp only []
      cases hs : st'.stmts with
      | nil => exact Nat.zero_le _
      | cons s0 ss => exact runLoopO_B C e n m st' hn

theorem initO_B (capture : Bool) (base : Option (List Nat)) (prefixes : List (List Nat × List Nat))
    (inp : List RP) : BInv (size inp) (initO capture base prefixes inp) := by
  refine ⟨by simp [initO, S.init], ?_, fun k o h => (by cases h)⟩
  intro h hh
  cases capture <;> simp [initO, S.init] at hh
  subst hh
  simp [histRunes]

end RdfModel.Proofs.C16TtlDocO
