/-
  Nested-resource mode, the whole document: `AddResource` for every resource and
  `Close` give the printed form of an abstract document (header directives as a parameter `HdrOK`), which
  by C08 `decode_print_partial` decodes to its denotation — the flattening of a deep permutation of the
  resource list — which is isomorphic to the flattening of the resource list itself
  (Proofs/C02DocPermIso.lean).
-/
import RdfModel.Proofs.C02DocNestDoc
import RdfModel.Proofs.TermMap
namespace RdfModel.Proofs.C02Doc
open RdfModel RdfModel.Ttl RdfModel.TtlEnc RdfModel.C02 RdfModel.Desc RdfModel.Spec.TtlPrint

variable {T : Tables} {β : Type} [DecidableEq β] {C : TtlDoc.Cfg} {c : Ctx β} {base : Option (List Nat)}

theorem dDoc_append (R : TA.Resolver) : ∀ (a b : TA.Doc) (st : TA.DState),
    TA.dDoc R st (a ++ b) =
      (match TA.dDoc R st a with
        | none => none
        | some (qs, st1) =>
          match TA.dDoc R st1 b with
          | none => none
          | some (qs', st2) => some (qs ++ qs', st2))
  | [], b, st => by
    simp only [List.nil_append, TA.dDoc]
    cases TA.dDoc R st b with
    | none => rfl
    | some x => rfl
  | x :: a, b, st => by
    simp only [List.cons_append, TA.dDoc]
    cases TA.dBlock R st x with
    | none => rfl
    | some r =>
      obtain ⟨qs, st1⟩ := r
      simp only [dDoc_append R a b st1]
      cases TA.dDoc R st1 a with
      | none => rfl
      | some r2 =>
        obtain ⟨qs2, st2⟩ := r2
        simp only
        cases TA.dDoc R st2 b with
        | none => rfl
        | some r3 => simp

omit [DecidableEq β] in
theorem sections_den : ∀ (xs : List (SecItem β)), (∀ x ∈ xs, BlockDen C c base x.b x.r' x.used) →
    ∀ (D : List Nat → Prop) (st : TA.DState), StOK base c.pm D st → (∀ x ∈ xs, ∀ l ∈ x.used, D l) →
      ∃ (ts : List (Triple TA.B)),
        TA.dDoc C.resolve st (xs.map (·.b)) =
          some (ts.map quadOf, { st with next := (newTriplesList (xs.map (·.r')) st.next).2 }) ∧
        ts.Perm ((newTriplesList (xs.map (·.r')) st.next).1.map (Triple.map (sig c.label)))
  | [], _, D, st, _, _ => by
    refine ⟨[], ?_, List.Perm.refl _⟩
    cases st
    rfl
  | x :: xs, h, D, st, hst, hD => by
    obtain ⟨ts1, h1, hp1⟩ := h x List.mem_cons_self D st hst (hD x List.mem_cons_self)
    obtain ⟨ts2, h2, hp2⟩ := sections_den xs (fun y hy => h y (List.mem_cons_of_mem _ hy)) D _
      (hst.next (x.r'.newTriples st.next).2) (fun y hy => hD y (List.mem_cons_of_mem _ hy))
    refine ⟨ts1 ++ ts2, ?_, ?_⟩
    · simp only [List.map_cons, TA.dDoc, h1, h2, newTriplesList]
      simp
    · simp only [List.map_cons, newTriplesList, List.map_append]
      exact List.Perm.append hp1 hp2

theorem sections_all (S : Setup C T c base) (hC : NestCfgOK C T) (tp : TokPrint T) : ∀ (rs : List (Resource β)),
    (∀ r ∈ rs, ResourceOK c base r) →
    ∃ (ys : List (Option (List Nat) × List (List Nat))) (xs : List (SecItem β)),
      mapOR (resourceSection c false) rs = OR.ok ys ∧ ys.filterMap (·.1) = xs.map (·.text) ∧
      ys.flatMap (·.2) = xs.flatMap (·.used) ∧ RP rs (xs.map (·.r')) ∧
      (∀ x ∈ xs, BSyn T x.toBItem ∧ BlockDen C c base x.b x.r' x.used)
  | [], _ => ⟨[], [], rfl, rfl, rfl, .nil, fun _ h => by cases h⟩
  | r :: rs, h => by
    obtain ⟨ys, xs, h1, h2, h3, h4, h5⟩ := sections_all S hC tp rs (fun x hx => h x (List.mem_cons_of_mem _ hx))
    by_cases hne : resStmts r = []
    · have hsec : resourceSection c false r = OR.ok (none, []) := by
        cases r with
        | anon st =>
          have : st = [] := hne
          subst this
          rfl
        | subject so st =>
          have : st = [] := hne
          subst this
          rfl
      refine ⟨(none, []) :: ys, xs, ?_, ?_, ?_, .drop hne h4, h5⟩
      · simp only [mapOR, hsec, h1, OR.bind, OR.ok]
      · simpa using h2
      · simpa using h3
    · obtain ⟨x, hx, hb, hs, hd, hden⟩ := section_inv S hC tp r (h r List.mem_cons_self) hne
      refine ⟨(some x.text, x.used) :: ys, x :: xs, ?_, ?_, ?_, .cons hs hd h4, ?_⟩
      · simp only [mapOR, hx, h1, OR.bind, OR.ok]
      · simpa using h2
      · simpa using h3
      · intro y hy
        rcases List.mem_cons.1 hy with rfl | hy
        · exact ⟨hb, hden⟩
        · exact h5 y hy

/-- What is needed of the header `hdr` written in front of the sections: it is a printed list of
    directive blocks that takes the decoder's initial state (defaults `b0`, `ns0`) into a state that
    agrees with the encoder's configuration on the labels `D`. -/
def HdrOK (T : Tables) (C : TtlDoc.Cfg) (base : Option (List Nat)) (pm : Prefix.PM) (hdr : List Nat)
    (b0 : Option (List Nat)) (ns0 : List (List Nat × List Nat)) (D : List Nat → Prop) : Prop :=
  ∃ (hs : List BItem) (st1 : TA.DState), (∀ x ∈ hs, BSyn T x) ∧ hs.flatMap (·.text) = hdr ∧
    TA.dDoc C.resolve { base := b0, ns := ns0, next := 0 } (hs.map (·.b)) = some ([], st1) ∧ st1.next = 0 ∧
    StOK base pm D st1

theorem tripleOfStmt_quadOf (t : Triple TA.B) :
    tripleOfStmt (C08.toStmt (quadOf t)) = some (t.map C08.toBN) := rfl

theorem toBN_injective : Function.Injective C08.toBN := by
  intro a b h
  cases a <;> cases b <;> simp only [C08.toBN] at h
  · injection h with h; rw [h]
  · cases h
  · cases h
  · injection h with h; rw [h]

omit [DecidableEq β] in
theorem decode_sections (hT : DocTablesOK T) (hT2 : C08.TablesOK2 T) (hC : NestCfgOK C T)
    (hinj : Function.Injective c.label) (rs : List (Resource β)) (xs : List (SecItem β))
    (hrp : RP rs (xs.map (·.r'))) (hxs : ∀ x ∈ xs, BSyn T x.toBItem ∧ BlockDen C c base x.b x.r' x.used)
    (hdr : List Nat) (b0 : Option (List Nat)) (ns0 : List (List Nat × List Nat)) (D : List Nat → Prop)
    (hh : HdrOK T C base c.pm hdr b0 ns0 D) (hD : ∀ x ∈ xs, ∀ l ∈ x.used, D l) :
    ∃ (out : List TtlDoc.Stmt) (tr : List (Triple TtlDoc.BN)),
      TtlDoc.run C .eof b0 ns0 (hdr ++ (xs.map (·.text)).flatten) = (out, .clean) ∧
      out.map tripleOfStmt = tr.map some ∧ Spec.Iso tr (newTriplesList rs 0).1 := by
  obtain ⟨hs, st1, hhs, hht, hhd, hn1, hst1⟩ := hh
  obtain ⟨ts, hd, hp⟩ := sections_den xs (fun x hx => (hxs x hx).2) D st1 hst1 hD
  rw [hn1] at hd hp
  let items : List BItem := hs ++ xs.map (·.toBItem)
  have hitems : ∀ x ∈ items, BSyn T x := by
    intro x hx
    rcases List.mem_append.1 hx with h | h
    · exact hhs x h
    · obtain ⟨y, hy, rfl⟩ := List.mem_map.1 h
      exact (hxs y hy).1
  obtain ⟨hpr, hwf, hnb, hch⟩ := doc_print items hitems
  have htext : items.flatMap (·.text) = hdr ++ (xs.map (·.text)).flatten := by
    simp only [items, List.flatMap_append, hht, List.flatMap_map]
    rw [List.flatMap_def]
  have hden : TA.denote C.resolve b0 ns0 (items.map (·.b)) = some (ts.map quadOf) := by
    simp only [TA.denote, items, List.map_append, List.map_map, Function.comp_def, dDoc_append, hhd, hd,
      List.nil_append, Option.map_some]
  have hrun := C08.decode_print_partial T hT.tok hT2 C hC.c08 b0 ns0 (items.map (·.b)) _ (ts.map quadOf)
    (by rw [hC.c02.trig]; exact hwf) hnb hch hden
  rw [hpr, htext] at hrun
  obtain ⟨σ, hσ, hiso⟩ := newTriplesList_iso_of_RP hrp 0
  refine ⟨(ts.map quadOf).map C08.toStmt, ts.map (Triple.map C08.toBN), hrun, ?_, ?_⟩
  · simp only [List.map_map, Function.comp_def, tripleOfStmt_quadOf]
  · refine ⟨C08.toBN ∘ sig c.label ∘ σ, toBN_injective.comp ((sig_injective hinj).comp hσ), ?_⟩
    have h1 := (hp.trans (hiso.map _)).map (Triple.map C08.toBN)
    simpa [List.map_map, Function.comp_def, Triple.map_map] using h1

theorem HdrOK.nil {base : Option (List Nat)} {pm : Prefix.PM} {b0 : Option (List Nat)}
    {ns0 : List (List Nat × List Nat)} {D : List Nat → Prop} (h : StOK base pm D { base := b0, ns := ns0, next := 0 }) :
    HdrOK T C base pm [] b0 ns0 D :=
  ⟨[], { base := b0, ns := ns0, next := 0 }, ⟨(by intro x hx; cases hx), rfl, rfl, rfl, h⟩⟩

theorem nested_roundtrip_hdr (hT : DocTablesOK T) (hT2 : C08.TablesOK2 T) (hC : NestCfgOK C T) (tp : TokPrint T)
    (cfg : Config) (pm : Prefix.PM) (label : β → List Nat) (hcfg : ConfigOK C.isSpace T cfg pm)
    (hlbl : LabelOK T label) (rs : List (Resource β))
    (hrs : ∀ r ∈ rs, ResourceOK (ctxOf T cfg pm label) cfg.base r)
    (hU : cfg.isBuffered = false → HdrOK T C cfg.base pm (headerUnbuffered cfg pm) (defaultBase cfg)
      (defaultPrefixes cfg pm) (fun _ => True))
    (hB : cfg.isBuffered = true → ∀ used : List (List Nat), HdrOK T C cfg.base pm (headerBuffered cfg pm used)
      (defaultBase cfg) (defaultPrefixes cfg pm) (fun l => l ∈ used)) :
    ∃ (doc : List Nat) (out : List TtlDoc.Stmt) (tr : List (Triple TtlDoc.BN)),
      encodeResourceListWith T false cfg pm label rs = some (.ok doc) ∧
      TtlDoc.run C .eof (defaultBase cfg) (defaultPrefixes cfg pm) doc = (out, .clean) ∧
      out.map tripleOfStmt = tr.map some ∧ Spec.Iso tr (newTriplesList rs 0).1 := by
  have S := setup_of hT hC.c02 hcfg hlbl
  obtain ⟨ys, xs, h1, h2, h3, h4, h5⟩ := sections_all S hC tp rs hrs
  have henc : encodeResourceListWith T false cfg pm label rs =
      some (.ok (document cfg pm (xs.map (·.text)) (xs.flatMap (·.used)))) := by
    unfold encodeResourceListWith
    rw [h1]
    simp only [OR.bind, OR.ok, h2, h3]
  rw [henc]
  refine document_cases cfg pm xs (·.text) (xs.flatMap (·.used))
    (P := fun d => ∃ (doc : List Nat) (out : List TtlDoc.Stmt) (tr : List (Triple TtlDoc.BN)),
      some (TtlEnc.Res.ok d) = some (.ok doc) ∧
      TtlDoc.run C .eof (defaultBase cfg) (defaultPrefixes cfg pm) doc = (out, .clean) ∧
      out.map tripleOfStmt = tr.map some ∧ Spec.Iso tr (newTriplesList rs 0).1) ?_ ?_ ?_
  · intro _ hemp
    subst hemp
    -- no header is written: the decoder's base is its default, which is what `HdrOK.nil` speaks of (`cfg.base` in the other cases)
    obtain ⟨out, tr, hrun, ho, hiso⟩ := decode_sections (c := ctxOf T cfg pm label) (base := defaultBase cfg) hT hT2 hC
      hlbl.inj rs [] h4 (fun _ h => nomatch h) [] (defaultBase cfg) (defaultPrefixes cfg pm) (fun _ => False)
      (HdrOK.nil ⟨rfl, fun _ _ h => h.elim⟩) (fun _ h => nomatch h)
    exact ⟨_, out, tr, rfl, by simpa using hrun, ho, hiso⟩
  · intro hbuf
    obtain ⟨out, tr, hrun, ho, hiso⟩ := decode_sections (c := ctxOf T cfg pm label) (base := cfg.base) hT hT2 hC
      hlbl.inj rs xs h4 h5 (headerUnbuffered cfg pm) (defaultBase cfg) (defaultPrefixes cfg pm) (fun _ => True)
      (hU hbuf) (fun _ _ _ _ => trivial)
    exact ⟨_, out, tr, rfl, hrun, ho, hiso⟩
  · intro hbuf xs' hperm
    obtain ⟨out, tr, hrun, ho, hiso⟩ := decode_sections (c := ctxOf T cfg pm label) (base := cfg.base) hT hT2 hC
      hlbl.inj rs xs' (.trans h4 (RP.of_perm (hperm.map _).symm)) (fun x hx => h5 x (hperm.mem_iff.1 hx))
      (headerBuffered cfg pm (xs.flatMap (fun x : SecItem β => x.used))) (defaultBase cfg) (defaultPrefixes cfg pm)
      (fun l => l ∈ xs.flatMap (fun x : SecItem β => x.used)) (hB hbuf (xs.flatMap (fun x : SecItem β => x.used)))
      (fun x hx l hl => List.mem_flatMap.2 ⟨x, hperm.mem_iff.1 hx, hl⟩)
    exact ⟨_, out, tr, rfl, hrun, ho, hiso⟩

end RdfModel.Proofs.C02Doc
