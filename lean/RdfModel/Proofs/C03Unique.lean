/-
  For arbitrary datasets.  A uniquely hashed blank node gets its identifier in step 4, from the sorted first-degree
  hashes alone; so the identifier does not depend on the order parameters, on the enumeration of permutations or on
  the recursion bound, and whatever Hash N-Degree Quads does afterwards (step 5) never touches it.
-/
import RdfModel.Proofs.C03Rename
namespace RdfModel.Proofs.C03
open RdfModel RdfModel.Spec.RDFC10 RdfModel.Proofs.StrOrd


variable {β : Type} [DecidableEq β] {γ : Type} [DecidableEq γ]

theorem filter_eq_singleton (p : β → Bool) (K : List β) (c : β) (hK : K.Nodup) (hc : c ∈ K)
    (hp : p c = true) (hu : ∀ m ∈ K, p m = true → m = c) : K.filter p = [c] := by
  have : K.filter p = K.filter (· = c) :=
    List.filter_congr fun m hm => by
      by_cases h : m = c
      · simp [h, hp]
      · simpa [h] using fun hpm => h (hu m hm hpm)
  rw [this, List.filter_eq, hK.count, if_pos hc]
  rfl

theorem single_mem_group (hf : β → Str) (K : List β) (hK : K.Nodup) (k : Str) (c : β) :
    (k, [c]) ∈ group hf K [] ↔ c ∈ K ∧ hf c = k ∧ ∀ m ∈ K, hf m = k → m = c := by
  have hg := getList_group hf K [] k
  simp only [getList, List.nil_append] at hg
  constructor
  · intro h
    have h1 := (mem_group hf K _ h).symm
    have hc : c ∈ K.filter (fun n => hf n = k) := by rw [h1]; simp
    simp only [List.mem_filter, decide_eq_true_eq] at hc
    refine ⟨hc.1, hc.2, fun m hm hmk => ?_⟩
    have : m ∈ K.filter (fun n => hf n = k) := by
      simp only [List.mem_filter, decide_eq_true_eq]; exact ⟨hm, hmk⟩
    rw [h1] at this
    simpa using this
  · rintro ⟨hc, hk, hu⟩
    have h1 : K.filter (fun n => decide (hf n = k)) = [c] :=
      filter_eq_singleton _ K c hK hc (by simpa using hk) (fun m hm hp => hu m hm (by simpa using hp))
    have h2 : getList (group hf K []) k = [c] := by rw [hg, h1]
    have := mem_of_getList_ne_nil (group hf K []) k (by rw [h2]; simp)
    rwa [h2] at this

omit [DecidableEq β] in
theorem group_inv (hf : β → Str) (K : List β) (e : Str × List β) (he : e ∈ group hf K []) :
    ∀ n ∈ e.2, hf n = e.1 := by
  rw [mem_group hf K e he]
  intro n hn
  simpa using (List.mem_filter.1 hn).2

/-- The sorted grouping: what step 4 iterates over. -/
def sortedGroups (hf : β → Str) (K : List β) : List (Str × List β) := sortByKey (group hf K [])

omit [DecidableEq β] in
theorem sortedGroups_perm (hf : β → Str) (K : List β) : (sortedGroups hf K).Perm (group hf K []) :=
  List.mergeSort_perm _ _

theorem mem_singles_sorted (hf : β → Str) (K : List β) (hK : K.Nodup) (n : β) :
    n ∈ C04.singles (sortedGroups hf K) ↔ n ∈ K ∧ ∀ m ∈ K, hf m = hf n → m = n := by
  rw [C04.mem_singles]
  constructor
  · rintro ⟨k, hk⟩
    have := (single_mem_group hf K hK k n).1 ((sortedGroups_perm hf K).mem_iff.1 hk)
    obtain ⟨h1, h2, h3⟩ := this
    exact ⟨h1, fun m hm e => h3 m hm (e.trans h2)⟩
  · rintro ⟨h1, h2⟩
    exact ⟨hf n, (sortedGroups_perm hf K).mem_iff.2
      ((single_mem_group hf K hK (hf n) n).2 ⟨h1, rfl, h2⟩)⟩

omit [DecidableEq β] in
theorem singles_sorted_pairwise (hf : β → Str) (K : List β) :
    (C04.singles (sortedGroups hf K)).Pairwise (fun a b => strLe (hf a) (hf b) = true ∧ hf a ≠ hf b) := by
  have hp : (sortedGroups hf K).Pairwise (fun a b => strLe a.1 b.1 = true) :=
    List.pairwise_mergeSort (fun a b c => strLe_trans a.1 b.1 c.1) (fun a b => strLe_total a.1 b.1) _
  have hn : ((sortedGroups hf K).map (·.1)).Nodup :=
    ((sortedGroups_perm hf K).map _).nodup_iff.2 (keys_nodup_group hf K [] (by simp))
  have hne : (sortedGroups hf K).Pairwise (fun a b => a.1 ≠ b.1) := by
    rw [List.Nodup, List.pairwise_map] at hn; exact hn
  have hboth := hp.and hne
  have hinv : ∀ e ∈ sortedGroups hf K, ∀ n ∈ e.2, hf n = e.1 :=
    fun e he => group_inv hf K e ((sortedGroups_perm hf K).mem_iff.1 he)
  have hstrong : (sortedGroups hf K).Pairwise (fun a b =>
      (∀ n ∈ a.2, hf n = a.1) ∧ (∀ n ∈ b.2, hf n = b.1) ∧ strLe a.1 b.1 = true ∧ a.1 ≠ b.1) :=
    hboth.imp_of_mem (fun {a b} ha hb h => ⟨hinv a ha, hinv b hb, h.1, h.2⟩)
  unfold C04.singles
  refine List.Pairwise.filterMap _ ?_ hstrong
  intro a a' hR b hb b' hb'
  rw [C04.single?_eq_some] at hb hb'
  obtain ⟨ia, ia', hle, hne⟩ := hR
  have e1 : hf b = a.1 := ia b (by rw [hb]; simp)
  have e2 : hf b' = a'.1 := ia' b' (by rw [hb']; simp)
  rw [e1, e2]
  exact ⟨hle, hne⟩

theorem singles_transport (hf : β → Str) (hf' : γ → Str) (σ : β → γ) (hσ : Function.Injective σ)
    (K : List β) (K' : List γ) (hK : K.Nodup) (hK' : K'.Nodup) (hp : K'.Perm (K.map σ))
    (hh : ∀ n, hf' (σ n) = hf n) :
    C04.singles (sortedGroups hf' K') = (C04.singles (sortedGroups hf K)).map σ := by
  have hpw := singles_sorted_pairwise hf K
  have hpw' := singles_sorted_pairwise hf' K'
  have hmem : ∀ c, c ∈ C04.singles (sortedGroups hf' K') ↔ c ∈ (C04.singles (sortedGroups hf K)).map σ := by
    intro c
    rw [mem_singles_sorted hf' K' hK', List.mem_map]
    constructor
    · rintro ⟨hc, hu⟩
      obtain ⟨n, hn, rfl⟩ := List.mem_map.1 (hp.mem_iff.1 hc)
      refine ⟨n, (mem_singles_sorted hf K hK n).2 ⟨hn, fun m hm e => ?_⟩, rfl⟩
      have := hu (σ m) (hp.mem_iff.2 (List.mem_map.2 ⟨m, hm, rfl⟩)) (by rw [hh, hh, e])
      exact hσ this
    · rintro ⟨n, hn, rfl⟩
      obtain ⟨hnK, hu⟩ := (mem_singles_sorted hf K hK n).1 hn
      refine ⟨hp.mem_iff.2 (List.mem_map.2 ⟨n, hnK, rfl⟩), fun m hm e => ?_⟩
      obtain ⟨m0, hm0, rfl⟩ := List.mem_map.1 (hp.mem_iff.1 hm)
      rw [hh, hh] at e
      rw [hu m0 hm0 e]
  have nd' : (C04.singles (sortedGroups hf' K')).Nodup :=
    hpw'.imp (fun h e => h.2 (by rw [e]))
  have nd : ((C04.singles (sortedGroups hf K)).map σ).Nodup := by
    rw [List.Nodup, List.pairwise_map]
    exact hpw.imp (fun h e => h.2 (by rw [hσ e]))
  have hperm : (C04.singles (sortedGroups hf' K')).Perm ((C04.singles (sortedGroups hf K)).map σ) :=
    (List.perm_ext_iff_of_nodup nd' nd).2 hmem
  apply sorted_unique hf' hperm (hpw'.imp (fun h => h.1))
  · rw [List.pairwise_map]
    exact hpw.imp (fun h => by rw [hh, hh]; exact h.1)
  · rw [List.Nodup, List.pairwise_map]
    exact hpw'.imp (fun h => h.2)

/-- `b` is a blank node of the dataset whose first-degree hash no other blank node of the dataset has. -/
def UniqueHash (H : Str → Str) (qs : List (Quad β)) (b : β) : Prop :=
  b ∈ qs.flatMap quadBnodes ∧
  ∀ m ∈ qs.flatMap quadBnodes,
    hashFirstDegree H (bnodeToQuads true qs) m = hashFirstDegree H (bnodeToQuads true qs) b → m = b

theorem spec_unique_labels (H : Str → Str) (σ : β → γ) (hσ : Function.Injective σ)
    (qs : List (Quad β)) (qs' : List (Quad γ)) (hp : qs'.Perm (qs.map (Quad.map σ)))
    (ord : List β → List β) (ord' : List γ → List γ) (hord : C04.OrdOK ord) (hord' : C04.OrdOK ord')
    (perms : List β → List (List β)) (perms' : List γ → List (List γ)) (fuel fuel' : Nat)
    (r : Result β) (r' : Result γ) (h : canonFuel H ord perms true fuel qs = some r)
    (h' : canonFuel H ord' perms' true fuel' qs' = some r') (b : β) (hb : UniqueHash H qs b) :
    ∃ v, assoc r.issued b = some v ∧ assoc r'.issued (σ b) = some v := by
  let hf := hashFirstDegree H (bnodeToQuads true qs)
  let hf' := hashFirstDegree H (bnodeToQuads true qs')
  let K := ord ((bnodeToQuads true qs).map (·.1))
  let K' := ord' ((bnodeToQuads true qs').map (·.1))
  have hK : K.Nodup := (hord _).nodup_iff.2 (nodup_keys_bnodeToQuads qs)
  have hK' : K'.Nodup := (hord' _).nodup_iff.2 (nodup_keys_bnodeToQuads qs')
  have hKp : K'.Perm (K.map σ) :=
    (hord' _).trans ((keys_transport σ hσ qs qs' hp).trans ((hord _).map σ).symm)
  have hh : ∀ n, hf' (σ n) = hf n := first_degree_transport H σ hσ qs qs' hp
  have hs := singles_transport hf hf' σ hσ K K' hK hK' hKp hh
  -- the two computations; `canonFuel_unfold` writes the sorted grouping as `sortByKey (C04.h2bS H ord B)`, which is
  -- `sortedGroups hf K` here by unfolding both (`h2bS H ord B = group (hashFirstDegree H B) (ord (B.map (·.1))) []`)
  rw [C04.canonFuel_unfold] at h h'
  split at h
  · cases h
  next canon h5 =>
  split at h'
  · cases h'
  next canon' h5' =>
  cases h
  cases h'
  have hbK : b ∈ K := (hord _).mem_iff.2 ((mem_keys_bnodeToQuads qs b).2 hb.1)
  have hbs : b ∈ C04.singles (sortedGroups hf K) :=
    (mem_singles_sorted hf K hK b).2 ⟨hbK, fun m hm e =>
      hb.2 m ((mem_keys_bnodeToQuads qs m).1 ((hord _).mem_iff.1 hm)) e⟩
  have hsome := C04.issueAll_knows (Issuer.new c14nPrefix) (C04.singles (sortedGroups hf K)) b hbs
  obtain ⟨v, hv⟩ := Option.isSome_iff_exists.1 hsome
  have hv' : assoc (issueAll (Issuer.new c14nPrefix) (C04.singles (sortedGroups hf' K'))).issued (σ b) = some v := by
    rw [hs, ← mapIssuer_new σ (β := β), issueAll_map σ hσ]
    simp only [mapIssuer]
    rw [assoc_map_inj σ hσ]
    exact hv
  refine ⟨v, ?_, ?_⟩
  · exact (C04.step5_grow H perms _ (Nat.le_refl fuel) _ _ h5).2.1 b v (by rw [C04.step4_eq_issueAll]; exact hv)
  · exact (C04.step5_grow H perms' _ (Nat.le_refl fuel') _ _ h5').2.1 (σ b) v (by rw [C04.step4_eq_issueAll]; exact hv')

theorem canon_unique_labels (T : NQ.Tables) (hT : C04.TablesCanon T) (H : Str → Str) (σ : β → γ)
    (hσ : Function.Injective σ) (qs : List (Quad β)) (qs' : List (Quad γ))
    (hp : qs'.Perm (qs.map (Quad.map σ))) (hwf : ∀ q ∈ qs, C04.WFQuad T q)
    (lim lim' : Rdfcanon.Limits) (ord : List β → List β) (ord' : List γ → List γ)
    (hord : C04.OrdOK ord) (hord' : C04.OrdOK ord') (out : Rdfcanon.Out β) (out' : Rdfcanon.Out γ)
    (h : Rdfcanon.canon T H lim ord qs = .ok out) (h' : Rdfcanon.canon T H lim' ord' qs' = .ok out')
    (b : β) (hb : UniqueHash H qs b) :
    labelOf out' (σ b) = labelOf out b ∧ (assoc out.issued b).isSome := by
  have hwf' := wfQuad_perm_map hp hwf
  -- against the specification run with Go's own enumeration `heapPerms (lim.maxPermutations + 1)` (`PermsAgree` by `rfl`)
  have s1 := C04.canon_refines_spec T hT H lim ord hord _
    (fun _ _ => rfl) qs hwf out h
  have s2 := C04.canon_refines_spec T hT H lim' ord' hord' _
    (fun _ _ => rfl) qs' hwf' out' h'
  obtain ⟨v, h1, h2⟩ := spec_unique_labels H σ hσ qs qs' hp ord ord' hord hord' _ _ _ _ _ _ s1 s2 b hb
  simp only [C04.specView] at h1 h2
  unfold labelOf
  rw [h1, h2]
  exact ⟨rfl, rfl⟩

open RdfModel.C04 RdfModel.Proofs.C04 in
theorem uniqueHash_of_allDistinct (H : Str → Str) (qs : List (Quad β)) (hd : AllDistinct H qs)
    (b : β) (hb : b ∈ qs.flatMap Spec.RDFC10.quadBnodes) : UniqueHash H qs b := by
  refine ⟨hb, fun m hm e => ?_⟩
  have hk : ∀ x, x ∈ qs.flatMap Spec.RDFC10.quadBnodes →
      ∃ en ∈ Spec.RDFC10.bnodeToQuads true qs, en.1 = x := by
    intro x hx
    obtain ⟨en, hen, rfl⟩ := List.mem_map.1 ((mem_keys_bnodeToQuads qs x).2 hx)
    exact ⟨en, hen, rfl⟩
  obtain ⟨em, hem, rfl⟩ := hk m hm
  obtain ⟨eb, heb, rfl⟩ := hk b hb
  rw [inj_of_nodup_map _ _ hd em hem eb heb e]

open RdfModel.C04 RdfModel.Proofs.C04 in
theorem canon_invariant_simple {γ : Type} [DecidableEq γ] (T : NQ.Tables) (hT : TablesCanon T)
    (H : Str → Str) (σ : β → γ) (hσ : Function.Injective σ) (qs : List (Quad β)) (qs' : List (Quad γ))
    (hp : qs'.Perm (qs.map (Quad.map σ))) (hwf : ∀ q ∈ qs, WFQuad T q) (hd : AllDistinct H qs)
    (lim lim' : Rdfcanon.Limits) (ord : List β → List β) (ord' : List γ → List γ)
    (hord : OrdOK ord) (hord' : OrdOK ord') :
    ∃ out out', Rdfcanon.canon T H lim ord qs = .ok out ∧ Rdfcanon.canon T H lim' ord' qs' = .ok out' ∧
      out.bytes = out'.bytes ∧
      (∀ b ∈ qs.flatMap Spec.RDFC10.quadBnodes, labelOf out' (σ b) = labelOf out b) := by
  have hwf' := wfQuad_perm_map hp hwf
  obtain ⟨out, ho⟩ := canon_ok_of_allDistinct T hT H lim ord hord qs hwf hd
  obtain ⟨out', ho'⟩ := canon_ok_of_allDistinct T hT H lim' ord' hord' qs' hwf'
    (allDistinct_transport H σ hσ qs qs' hp hd)
  have hlab : ∀ b ∈ qs.flatMap Spec.RDFC10.quadBnodes, labelOf out' (σ b) = labelOf out b := fun b hb =>
    (canon_unique_labels T hT H σ hσ qs qs' hp hwf lim lim' ord ord' hord hord' out out' ho ho' b
      (uniqueHash_of_allDistinct H qs hd b hb)).1
  refine ⟨out, out', ho, ho', ?_, hlab⟩
  unfold Rdfcanon.Out.bytes
  rw [lines_encoded (shape_of_ok T hT H lim ord hord qs hwf out ho),
    lines_encoded (shape_of_ok T hT H lim' ord' hord' qs' hwf' out' ho')]
  refine congrArg _ (sortStr_eq_of_perm ((List.Perm.of_eq ?_).trans (hp.map _).symm))
  rw [List.map_map]
  refine List.map_congr_left fun q hq => ?_
  rw [Function.comp_apply, nquad_map]
  exact nquad_congr _ _ q (wf_pred T q (hwf q hq)) fun b hb =>
    (hlab b (List.mem_flatMap.2 ⟨q, hq, hb⟩)).symm

end RdfModel.Proofs.C03
