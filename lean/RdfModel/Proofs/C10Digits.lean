/-
  `JL.natDigits` (the fragment's blank node names) and `Spec.Xsd.natDigits` are two definitions, one
  testing `n < 10`, the other `n / 10 = 0`; they are equal, so the facts of Proofs/C20Digits apply.
-/
import RdfModel.Spec.JsonLdFragment
import RdfModel.Proofs.C20Digits
namespace RdfModel.Proofs.C10
open RdfModel

theorem digitsAux_eq : ∀ (f n : Nat) (acc : List Nat), JL.digitsAux f n acc = Spec.Xsd.digitsAux f n acc
  | 0, _, _ => rfl
  | f + 1, n, acc => by
    simp only [JL.digitsAux, Spec.Xsd.digitsAux]
    by_cases h : n < 10
    · rw [if_pos h, if_pos (by omega), Nat.mod_eq_of_lt h]
    · rw [if_neg h, if_neg (by omega), digitsAux_eq f]

theorem natDigits_eq (n : Nat) : JL.natDigits n = Spec.Xsd.natDigits n := digitsAux_eq _ _ _

theorem natDigits_ne (n : Nat) : JL.natDigits n ≠ [] := natDigits_eq n ▸ Proofs.C20.natDigits_ne n

theorem natDigits_injective : Function.Injective JL.natDigits := fun a b h => by
  have := congrArg Spec.Xsd.natValue h
  rwa [natDigits_eq, natDigits_eq, Proofs.C20.natDigits_val, Proofs.C20.natDigits_val] at this

end RdfModel.Proofs.C10
