/-
  (a) The resolver of the modelled decoder on attribute TEXT: absolute IRIs whose scheme is not a prefix
  in scope and CURIEs whose prefix is in scope resolve without looking at base, vocabulary, term mappings, oracle or state;
  (b) symbolic execution of the modelled walkNode on further blocks of the RDFa fragment, stated on the attribute text.
-/
import RdfModel.Proofs.C11RaBlocks
namespace RdfModel.Rdfad
open RdfModel RdfModel.Desc
open RdfModel.Mdd (Node Attr Bytes Subj fields trimSpace typeTokens textContent)

/-- the attribute text `v` is a reference the decoder takes literally: `scheme:rest` whose scheme is not a prefix in scope
    and contains none of `/ ? #`, not bracketed, not `_:` (every absolute IRI whose scheme is not declared as a prefix) -/
def absRef (prefixes : List (Bytes × Bytes)) (v : Bytes) : Bool :=
  !v.isEmpty && !isSafeCurie v && !hasPrefix [0x5f, 0x3a] v &&
    (match splitColon v with
     | some (p, _) => (alookup p prefixes).isNone && !containsPathish p && !p.isEmpty
     | none => false)

/-- the attribute text `v` is a CURIE `p:ref` whose prefix is in scope; its expansion -/
def curieRef (prefixes : List (Bytes × Bytes)) (v : Bytes) : Option Bytes :=
  if !v.isEmpty && !isSafeCurie v && !hasPrefix [0x5f, 0x3a] v then
    match splitColon v with
    | some (p, ref) => (alookup p prefixes).map (· ++ ref)
    | none => none
  else none

/-- what an IRI-valued attribute text denotes without looking at base, vocabulary, terms or the oracle -/
def refIRI (prefixes : List (Bytes × Bytes)) (v : Bytes) : Option Bytes :=
  if absRef prefixes v then some v else curieRef prefixes v

theorem resolveIRI_ref (E : Env) {prefixes : List (Bytes × Bytes)} {v i : Bytes} (h : refIRI prefixes v = some i) (st : St)
    (base : Option Bytes) (dv : Option Vocab) (safe terms : Bool) :
    resolveIRI E st prefixes v base dv safe terms = (some (.iri i), st) := by
  unfold refIRI at h
  split at h
  · rename_i ha
    simp only [Option.some.injEq] at h
    subst h
    unfold absRef at ha
    simp only [Bool.and_eq_true, Bool.not_eq_true'] at ha
    obtain ⟨⟨⟨h1, h2⟩, h3⟩, h4⟩ := ha
    cases hs : splitColon v with
    | none => rw [hs] at h4; cases h4
    | some pr =>
      obtain ⟨p, ref⟩ := pr
      rw [hs] at h4
      simp only [Bool.and_eq_true, Option.isNone_iff_eq_none, Bool.not_eq_true'] at h4
      obtain ⟨⟨h5, h6⟩, h7⟩ := h4
      simp [resolveIRI, unbracket, h1, h2, h3, hs, resolveCurie, h5, tryResolve, h6, h7]
      cases base <;> simp
  · unfold curieRef at h
    split at h
    · rename_i hc
      simp only [Bool.and_eq_true, Bool.not_eq_true'] at hc
      obtain ⟨⟨h1, h2⟩, h3⟩ := hc
      cases hs : splitColon v with
      | none => rw [hs] at h; cases h
      | some pr =>
        obtain ⟨p, ref⟩ := pr
        rw [hs] at h
        simp only at h
        cases ha : alookup p prefixes with
        | none => rw [ha] at h; cases h
        | some e =>
          rw [ha] at h
          simp only [Option.map_some, Option.some.injEq] at h
          subst h
          simp [resolveIRI, unbracket, h1, h2, h3, hs, resolveCurie, ha]
    · cases h

/-- a one-token predicate attribute: the IRI it denotes -/
def predIRI (prefixes : List (Bytes × Bytes)) (pv : Bytes) : Option Bytes :=
  match fields (trimSpace pv) with
  | [tok] => refIRI prefixes tok
  | _ => none

theorem resolveTokens_pred (E : Env) {prefixes : List (Bytes × Bytes)} {pv p : Bytes} (h : predIRI prefixes pv = some p)
    (st : St) (dv : Option Vocab) (terms : Bool) :
    resolveTokens E prefixes dv terms (fields (trimSpace pv)) st = ([p], st) := by
  unfold predIRI at h
  split at h
  · rename_i tok hf
    rw [hf]
    simp [resolveTokens, resolveAsIRI, resolveIRI_ref E h st none dv false terms]
  · cases h

/- As in C11RaBlocks, the block theorems below are `simp` over a local set: the model's definitions on the path of the
   blocks of this file (the set of C11RaBlocks, local to that file, declared again; with it steps 5a, 10, `emitTypes`,
   `resolveAsIRI`, fresh blank nodes for the typed, chaining and hanging blocks); each block's own attribute scan is passed
   by name. -/
attribute [local simp] enter pre Node.typ Node.atom Node.attrs Node.id stepVocab locals0 step34
  prefixEntries rule7 filterRel step56 step5 step5a step5b resOpt res orElseSt stepTypeof step910 step11 propertyValue
  datatypeIRI step12 childCtx walkKids leave St.newMap St.getMap St.emit emitEach emitTypes flushLists flushCount applyLang
  stepLang plainLit step6 res3 step9 step9a step9b step9c step10 step10rel step10rev relTokens relIgnored resolveAsIRI
  St.fresh St.pushList isHeadBody Mdd.Subj.term

theorem scan_typed_block (E : Env) (x : Bool) (b s pv c d : Bytes) :
    scanAttrs E x [⟨[], asc "about", s⟩, ⟨[], asc "property", pv⟩, ⟨[], asc "content", c⟩, ⟨[], asc "datatype", d⟩,
        ⟨[], asc "lang", []⟩] { localBase := b } =
      { about := some s, property := some pv, content := some c, datatype := some d, lang := some [], localBase := b } := by
  simp [scanAttrs, asc_inj]

def typedBlock (i : Nat) (s pv c d : Bytes) : Node :=
  .mk i 3 [] (asc "span") [] [⟨[], asc "about", s⟩, ⟨[], asc "property", pv⟩, ⟨[], asc "content", c⟩,
    ⟨[], asc "datatype", d⟩, ⟨[], asc "lang", []⟩] []

theorem typed_block_text (E : Env) (cfg : Cfg) (ctx : Ctx) (st : St) (i : Nat) (s pv c d S p dt : Bytes)
    (hbad : st.bad = none) (hinc : ctx.incomplete = []) (hmap : st.getMap ctx.listMapping = [])
    (hs : refIRI ctx.prefixes s = some S) (hp : predIRI ctx.prefixes pv = some p) (hd : refIRI ctx.prefixes d = some dt)
    (hd0 : dt ≠ []) (hd1 : dt ≠ rdfLangString) (hd2 : dt ≠ rdfDirLangString) (hd3 : dt ≠ rdfXMLLiteral) (hd4 : dt ≠ rdfHTML)
 :
    (walk E cfg false ctx st (typedBlock i s pv c d)).bad = none ∧
    (walk E cfg false ctx st (typedBlock i s pv c d)).out = st.out ++ [⟨.iri S, p, .lit c dt none⟩] := by
  have hS := resolveIRI_ref E hs
  have hD := resolveIRI_ref E hd
  have hP := resolveTokens_pred E hp
  obtain ⟨f1, f2, f3, -, -⟩ := span_facts
  have hmap' := maps_nil st _ hmap
  unfold typedBlock walk
  simp only [hbad, Option.isSome_none, Bool.false_eq_true, ↓reduceIte]
  cases hq : ctx.parentSubject with
  | none =>
    simp [step8, f1, f2, f3, scan_typed_block, hS, hD, hP, hq, hinc, hd0, hd1, hd2, hd3, hd4]
    simp [hbad]
  | some q =>
    by_cases hqe : subjEq q (.iri S) = true <;>
      simp [step8, f1, f2, f3, scan_typed_block, hS, hD, hP, hq, hqe, hinc, hmap', hd0, hd1, hd2, hd3, hd4] <;>
      simp [hbad]

theorem scan_typeof_block (E : Env) (x : Bool) (b s ty : Bytes) :
    scanAttrs E x [⟨[], asc "about", s⟩, ⟨[], asc "typeof", ty⟩] { localBase := b } =
      { about := some s, typeof := some ty, localBase := b } := by
  simp [scanAttrs, asc_inj]

def typeofBlock (i : Nat) (s ty : Bytes) : Node :=
  .mk i 3 [] (asc "span") [] [⟨[], asc "about", s⟩, ⟨[], asc "typeof", ty⟩] []

/-- a one-token @typeof value: the class IRI it denotes -/
def typeIRI (prefixes : List (Bytes × Bytes)) (ty : Bytes) : Option Bytes :=
  match typeTokens ty with
  | [tok] => refIRI prefixes tok
  | _ => none

theorem resolveTokens_type (E : Env) {prefixes : List (Bytes × Bytes)} {ty t : Bytes} (h : typeIRI prefixes ty = some t)
    (st : St) (dv : Option Vocab) (terms : Bool) :
    resolveTokens E prefixes dv terms (typeTokens ty) st = ([t], st) := by
  unfold typeIRI at h
  split at h
  · rename_i tok hf
    rw [hf]
    simp [resolveTokens, resolveAsIRI, resolveIRI_ref E h st none dv false terms]
  · cases h

theorem typeof_block_text (E : Env) (cfg : Cfg) (ctx : Ctx) (st : St) (i : Nat) (s ty S T : Bytes)
    (hbad : st.bad = none) (hinc : ctx.incomplete = []) (hmap : st.getMap ctx.listMapping = [])
    (hs : refIRI ctx.prefixes s = some S) (ht : typeIRI ctx.prefixes ty = some T) :
    (walk E cfg false ctx st (typeofBlock i s ty)).bad = none ∧
    (walk E cfg false ctx st (typeofBlock i s ty)).out = st.out ++ [⟨.iri S, rdfType, .iri T⟩] := by
  have hS := resolveIRI_ref E hs
  have hT := resolveTokens_type E ht
  obtain ⟨f1, f2, -, -, -⟩ := span_facts
  have hmap' := maps_nil st _ hmap
  unfold typeofBlock walk
  simp only [hbad, Option.isSome_none, Bool.false_eq_true, ↓reduceIte]
  cases hq : ctx.parentSubject with
  | none =>
    simp [step8, f1, f2, scan_typeof_block, hS, hT, hq, hinc]
    simp [hbad]
  | some q =>
    by_cases hqe : subjEq q (.iri S) = true <;>
      simp [step8, f1, f2, scan_typeof_block, hS, hT, hq, hqe, hinc, hmap'] <;>
      simp [hbad]

/-! ### chaining across one nesting level: `<div about=s rel=pv><span about=o property=qv content=c lang=lg/></div>`, and the
    same with @rev (the hanging @rel / @rev makes a blank node and an incomplete triple; the child completes it) -/

theorem scan_rel_block (E : Env) (x : Bool) (b s pv : Bytes) :
    scanAttrs E x [⟨[], asc "about", s⟩, ⟨[], asc "rel", pv⟩] { localBase := b } =
      { about := some s, rel := some pv, localBase := b } := by
  simp [scanAttrs, asc_inj]

theorem scan_rev_block (E : Env) (x : Bool) (b s pv : Bytes) :
    scanAttrs E x [⟨[], asc "about", s⟩, ⟨[], asc "rev", pv⟩] { localBase := b } =
      { about := some s, rev := some pv, localBase := b } := by
  simp [scanAttrs, asc_inj]

def chainBlock (i j : Nat) (s pv o qv c lg : Bytes) : Node :=
  .mk i 3 [] (asc "div") [] [⟨[], asc "about", s⟩, ⟨[], asc "rel", pv⟩] [litBlock j o qv c lg]

def revChainBlock (i j : Nat) (s pv o qv c lg : Bytes) : Node :=
  .mk i 3 [] (asc "div") [] [⟨[], asc "about", s⟩, ⟨[], asc "rev", pv⟩] [litBlock j o qv c lg]

theorem div_facts : (asc "div" ≠ asc "html") ∧ (asc "div" ≠ asc "base") ∧ (asc "div" ≠ asc "time") ∧
    (asc "div" ≠ asc "head") ∧ (asc "div" ≠ asc "body") ∧ (asc "div" ≠ asc "form") ∧ (asc "div" ≠ asc "a") ∧
    (asc "div" ≠ asc "area") ∧ (asc "div" ≠ asc "link") :=
  ⟨asc_ne (by decide), asc_ne (by decide), asc_ne (by decide), asc_ne (by decide), asc_ne (by decide), asc_ne (by decide),
    asc_ne (by decide), asc_ne (by decide), asc_ne (by decide)⟩

theorem getD_grow (m : List (List (Bytes × Nat))) (b : Bool) (k : Nat) (h : m.getD k [] = []) :
    (if b then m ++ [[]] else m).getD k [] = [] := by
  cases b
  · exact h
  · rw [List.getD_eq_getElem?_getD] at h ⊢
    exact getD_append_nil m k h

/-- the locals of a `div` with @about (↦ `S`) and a hanging @rel (`rv = false`) or @rev (`rv = true`) (↦ `p`), after
    step 12, entered in state `st`: a blank node as current object resource, one incomplete triple -/
def hangL (ctx : Ctx) (st : St) (rv : Bool) (S p pv : Bytes) : L :=
  { newSubject := some (.iri S), cor := some (.bn st.nextBn), prefixes := ctx.prefixes,
    incompl := [if rv then .rev p else .fwd p],
    listMapping := if ownMap ctx (.iri S) then st.maps.length else ctx.listMapping,
    lang := ctx.language, vocab := ctx.vocab, base := ctx.base,
    rel := if rv then none else some pv, rev := if rv then some pv else none, relValid := !rv }

def hangSt (ctx : Ctx) (st : St) (S : Bytes) : St :=
  { st with nextBn := st.nextBn + 1, maps := if ownMap ctx (.iri S) then st.maps ++ [[]] else st.maps }

theorem hanging_enter (E : Env) (cfg : Cfg) (ctx : Ctx) (st : St) (i : Nat) (rv : Bool) (s pv S p : Bytes) (ks : List Node)
    (hinc : ctx.incomplete = []) (hs : refIRI ctx.prefixes s = some S) (hp : predIRI ctx.prefixes pv = some p) :
    enter E cfg false (.mk i 3 [] (asc "div") [] [⟨[], asc "about", s⟩, ⟨[], asc (if rv then "rev" else "rel"), pv⟩] ks)
      ctx st = (ctx, hangL ctx st rv S p pv, hangSt ctx st S) := by
  have hS := resolveIRI_ref E hs
  have hP := resolveTokens_pred E hp
  obtain ⟨g1, g2, -, -, -, g6, g7, g8, g9⟩ := div_facts
  unfold hangL hangSt
  cases rv
  all_goals cases hps : ctx.parentSubject with
    | none =>
      simp [step8, ownMap, g1, g2, g6, g7, g8, g9, scan_rel_block, scan_rev_block, filter_true, hS, hP, hps, hinc]
    | some z =>
      by_cases hz : subjEq z (.iri S) = true <;>
        simp [step8, ownMap, g1, g2, g6, g7, g8, g9, scan_rel_block, scan_rev_block, filter_true, hS, hP, hps, hz, hinc]

theorem hangSt_getMap (ctx : Ctx) (st : St) (rv : Bool) (S p pv : Bytes) (hmap : st.getMap ctx.listMapping = []) :
    (hangSt ctx st S).maps.getD (hangL ctx st rv S p pv).listMapping [] = [] ∧
    (hangSt ctx st S).maps.getD ctx.listMapping [] = [] := by
  unfold hangSt hangL
  cases ownMap ctx (.iri S)
  · exact ⟨hmap, hmap⟩
  · exact ⟨by simp, maps_append_nil st _ hmap⟩

def hangStmt (rv : Bool) (S p O : Bytes) : Stmt := if rv then ⟨.iri O, p, .iri S⟩ else ⟨.iri S, p, .iri O⟩

theorem hang_block_text (E : Env) (cfg : Cfg) (ctx : Ctx) (st : St) (i j : Nat) (rv : Bool) (s pv o qv c lg S p O q : Bytes)
    (hbad : st.bad = none) (hinc : ctx.incomplete = []) (hmap : st.getMap ctx.listMapping = [])
    (hs : refIRI ctx.prefixes s = some S) (hp : predIRI ctx.prefixes pv = some p)
    (ho : refIRI ctx.prefixes o = some O) (hq : predIRI ctx.prefixes qv = some q) :
    (walk E cfg false ctx st (.mk i 3 [] (asc "div") [] [⟨[], asc "about", s⟩, ⟨[], asc (if rv then "rev" else "rel"), pv⟩]
      [litBlock j o qv c lg])).bad = none ∧
    (walk E cfg false ctx st (.mk i 3 [] (asc "div") [] [⟨[], asc "about", s⟩, ⟨[], asc (if rv then "rev" else "rel"), pv⟩]
      [litBlock j o qv c lg])).out = st.out ++ [⟨.iri O, q, plainLit c lg⟩, hangStmt rv S p O] := by
  obtain ⟨hm1, hm2⟩ := hangSt_getMap ctx st rv S p pv hmap
  have hb1 : (hangSt ctx st S).bad = none := hbad
  -- the child: in the context the `div` hands down, step 12 completes the pending triple
  have hkid := literal_block_pending E cfg (childCtx ctx (hangL ctx st rv S p pv)) (hangSt ctx st S) j o qv c lg (.iri O) q
    [hangStmt rv S p O] hb1 hm1
    (fun _ => resolveIRI_ref E ho _ _ _ true true) (fun _ => resolveTokens_pred E hq _ _ true)
    (by
      intro l st0 hl hk hb0
      cases rv <;> simp [step12, hl, hk, hb0, childCtx, hangL, hangStmt, St.emit, Subj.term])
  rw [walk]
  simp only [hbad, Option.isSome_none, Bool.false_eq_true, ↓reduceIte, hanging_enter E cfg ctx st i rv s pv S p _ hinc hs hp]
  have hk : walkKids E cfg (3 == 2) (childCtx ctx (hangL ctx st rv S p pv)) (hangSt ctx st S) [litBlock j o qv c lg] = _ := hkid
  rw [hk]
  generalize ownMap (childCtx ctx (hangL ctx st rv S p pv)) (Subj.iri O) = b
  have e1 := getD_grow (hangSt ctx st S).maps b _ hm1
  have e2 := getD_grow (hangSt ctx st S).maps b _ hm2
  rw [List.getD_eq_getElem?_getD] at e1 e2
  have hout : (hangSt ctx st S).out = st.out := rfl
  simp [leave, St.getMap, flushCount, flushLists, e1, e2, hb1, hout]

-- added for @inlist: the list heap (`pushTo` … `listCells`) and the association lists behind the list mapping
attribute [local simp] pushTo St.ensureList St.newList St.setMap St.getList freshN listCells alookup aset

theorem scan_inlist_block (E : Env) (x : Bool) (b s pv c lg : Bytes) :
    scanAttrs E x [⟨[], asc "about", s⟩, ⟨[], asc "property", pv⟩, ⟨[], asc "content", c⟩, ⟨[], asc "lang", lg⟩,
      ⟨[], asc "inlist", []⟩] { localBase := b } =
      { about := some s, property := some pv, content := some c, lang := some lg, inlist := some [], localBase := b } := by
  simp [scanAttrs, asc_inj]

def inlistBlock (i : Nat) (s pv c lg : Bytes) : Node :=
  .mk i 3 [] (asc "span") [] [⟨[], asc "about", s⟩, ⟨[], asc "property", pv⟩, ⟨[], asc "content", c⟩, ⟨[], asc "lang", lg⟩,
    ⟨[], asc "inlist", []⟩] []

theorem inlist_block_text (E : Env) (cfg : Cfg) (ctx : Ctx) (st : St) (i : Nat) (s pv c lg S p : Bytes)
    (hbad : st.bad = none) (hinc : ctx.incomplete = [])
    (hps : ∀ z, ctx.parentSubject = some z → subjEq z (.iri S) = false)
    (hlm : ctx.listMapping < st.maps.length) (hfresh : alookup p (st.getMap ctx.listMapping) ≠ some st.lists.length)
    (hs : refIRI ctx.prefixes s = some S) (hp : predIRI ctx.prefixes pv = some p) :
    (walk E cfg false ctx st (inlistBlock i s pv c lg)).bad = none ∧
    (walk E cfg false ctx st (inlistBlock i s pv c lg)).out =
      st.out ++ [⟨.bn st.nextBn, rdfFirst, plainLit c lg⟩, ⟨.bn st.nextBn, rdfRest, .iri rdfNil⟩,
                 ⟨.iri S, p, .bnode st.nextBn⟩] := by
  have hS := resolveIRI_ref E hs
  have hP := resolveTokens_pred E hp
  obtain ⟨f1, f2, f3, -, -⟩ := span_facts
  have hk : ∀ x, (st.maps ++ [x])[ctx.listMapping]? = st.maps[ctx.listMapping]? := fun x => List.getElem?_append_left hlm
  unfold St.getMap at hfresh
  rw [List.getD_eq_getElem?_getD] at hfresh
  unfold inlistBlock walk
  simp only [hbad, Option.isSome_none, Bool.false_eq_true, ↓reduceIte]
  have hown : ownMap ctx (.iri S) = true := by
    unfold ownMap
    cases hq : ctx.parentSubject with
    | none => rfl
    | some z => simp [hps z hq]
  -- the three definitions stay folded so that `applyLang_stepLang` can rewrite the literal's language as a whole
  simp [-applyLang, -stepLang, -plainLit, applyLang_stepLang, step8_own, hown, f1, f2, f3, scan_inlist_block, hS, hP, hinc, hk,
    hfresh]
  simp [hbad]

end RdfModel.Rdfad
