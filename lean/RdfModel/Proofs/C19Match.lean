import RdfModel.Proofs.C19Key
import RdfModel.Proofs.C19Assoc
namespace RdfModel.Proofs.C19
open RdfModel.DS RdfModel.C19

theorem compileStep_matches (c : Compiled) (u t : Option Term) :
    (compileStep c u).matches t = (c.matches t || u.any (·.termEquals t)) := by
  rcases u with _ | v | (_ | i) | l <;> rcases t with _ | w | (_ | j) | m <;>
    simp [compileStep, Compiled.matches, Term.termEquals]
  -- left: an IRI, a blank node, a literal compiled, and a term of the same kind asked for. `compileStep` puts the
  -- term at the end of the list of its kind (for a literal: the list under its datatype) unless it is there, and
  -- `matches` searches that list; so the asked term is found after the step iff it was found before or is the
  -- compiled one, `contains` and `equals` being equality (`BId.equals_iff`, `Literal.equals_iff`).
  · split <;> grind
  · split <;> grind [BId.equals_iff]
  · rw [alookup_aset]
    split <;> grind [Literal.equals_iff]

theorem foldl_compileStep_matches (ts : List (Option Term)) (c : Compiled) (t : Option Term) :
    (ts.foldl compileStep c).matches t = (c.matches t || ts.any (·.any (·.termEquals t))) := by
  induction ts generalizing c with
  | nil => simp
  | cons u ts ih => simp [ih, compileStep_matches, Bool.or_assoc]

theorem equalsOneOf_matches (ts : List (Option Term)) (t : Option Term) :
    (equalsOneOf ts).matches t = (ts.foldl compileStep ⟨[], [], []⟩).matches t := by
  unfold equalsOneOf
  generalize ts.foldl compileStep ⟨[], [], []⟩ = c
  obtain ⟨iris, bnodes, lits⟩ := c
  dsimp only
  split
  · rename_i h
    obtain ⟨v, rfl⟩ := List.length_eq_one_iff.1 h.1
    obtain rfl := List.eq_nil_of_length_eq_zero h.2.1
    obtain rfl := List.eq_nil_of_length_eq_zero h.2.2
    rcases t with _ | w | (_ | j) | m <;>
      simp [TM.matches, Term.termEquals, Compiled.matches, alookup] <;> grind
  · simp [TM.matches]

theorem equalsOneOf_spec (ts : List (Option Term)) (t : Option Term) :
    (equalsOneOf ts).matches t =
      ts.any (fun u => match u with | some u => u.termEquals t | none => false) := by
  have h0 : (⟨[], [], []⟩ : Compiled).matches t = false := by
    rcases t with _ | w | (_ | j) | m <;> simp [Compiled.matches, alookup]
  rw [equalsOneOf_matches, foldl_compileStep_matches, h0, Bool.false_or]
  exact congrArg ts.any (funext fun u => by cases u <;> rfl)

theorem equals_matches_iff (u : Term) (hu : HasIdentity u) (t : Option Term) :
    (TM.equals u).matches t = true ↔ t = some u := by
  simp only [TM.matches]
  exact termEquals_iff u hu t

theorem equalsOneOf_matches_iff (ts : List Term) (hts : ∀ u ∈ ts, HasIdentity u) (t : Option Term) :
    (equalsOneOf (ts.map some)).matches t = true ↔ ∃ u ∈ ts, t = some u := by
  simp only [equalsOneOf_spec, List.any_map, List.any_eq_true, Function.comp_def, termEquals_true_iff]
  exact ⟨fun ⟨u, hu, e, _⟩ => ⟨u, hu, e⟩, fun ⟨u, hu, e⟩ => ⟨u, hu, e, hts u hu⟩⟩

end RdfModel.Proofs.C19
