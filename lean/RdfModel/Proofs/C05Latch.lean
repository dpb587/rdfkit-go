import RdfModel.Model.Latch
namespace RdfModel.Latch

variable {σ ε : Type}

/-- the decoder proper is *quiet-absorbing*: once it reports "no statement, no error" it keeps doing so -/
def QuietAbsorbing (step : σ → StepResult σ ε) : Prop :=
  ∀ i, (step i).yielded = false → (step i).raised = none →
    (step (step i).inner).yielded = false ∧ (step (step i).inner).raised = none

/-- a state from which Next returns false forever without changing Err -/
def Dead (step : σ → StepResult σ ε) (s : State σ ε) : Prop :=
  s.err.isSome = true ∨ ((step s.inner).yielded = false ∧ (step s.inner).raised = none)

theorem next_of_err (f : Facts) (step : σ → StepResult σ ε) (s : State σ ε)
    (hg : f.guardFirst = true) (he : s.err.isSome = true) : next f step s = (false, s) := by
  simp [next, hg, he]

theorem dead_next (f : Facts) (step : σ → StepResult σ ε) (hq : QuietAbsorbing step)
    (hg : f.guardFirst = true) (s : State σ ε) (hd : Dead step s) :
    (next f step s).1 = false ∧ (next f step s).2.err = s.err ∧ Dead step (next f step s).2 := by
  by_cases he : s.err.isSome = true
  · rw [next_of_err f step s hg he]
    exact ⟨rfl, rfl, Or.inl he⟩
  · cases hd with
    | inl h => exact absurd h he
    | inr h =>
      obtain ⟨hy, hr⟩ := h
      have hn : next f step s = (false, { err := s.err, inner := (step s.inner).inner }) := by
        simp [next, hg, he, hy, hr]
      rw [hn]
      exact ⟨rfl, rfl, Or.inr (hq s.inner hy hr)⟩

theorem dead_after_false (f : Facts) (step : σ → StepResult σ ε) (hq : QuietAbsorbing step)
    (hg : f.guardFirst = true) (hs : f.storesErr = true) (s : State σ ε)
    (hfalse : (next f step s).1 = false) : Dead step (next f step s).2 := by
  by_cases he : s.err.isSome = true
  · rw [next_of_err f step s hg he]
    exact Or.inl he
  · have he' : s.err.isSome = false := by simpa using he
    cases hr : (step s.inner).raised with
    | some e =>
      left
      simp [next, hg, he', hr, hs]
    | none =>
      right
      have hy : (step s.inner).yielded = false := by
        simpa [next, hg, he', hr] using hfalse
      have : (next f step s).2.inner = (step s.inner).inner := by
        simp [next, hg, he']
      rw [this]
      exact hq s.inner hy hr

theorem dead_iter (f : Facts) (step : σ → StepResult σ ε) (hq : QuietAbsorbing step)
    (hg : f.guardFirst = true) :
    ∀ (n : Nat) (s : State σ ε), Dead step s →
      (next f step (iter f step n s)).1 = false ∧ (iter f step n s).err = s.err ∧ Dead step (iter f step n s) := by
  intro n
  induction n with
  | zero =>
    intro s hd
    exact ⟨(dead_next f step hq hg s hd).1, rfl, hd⟩
  | succ n ih =>
    intro s hd
    obtain ⟨_, he, hd'⟩ := dead_next f step hq hg s hd
    obtain ⟨h1, h2, h3⟩ := ih (next f step s).2 hd'
    exact ⟨h1, by simpa [iter] using h2.trans he, h3⟩

theorem buffered_quiet (ε : Type) : QuietAbsorbing (bufferedStep ε) := by
  intro b hy _
  have h : ¬ b.idx < b.len := by simpa [bufferedStep] using hy
  refine ⟨?_, rfl⟩
  have h' : ¬ b.idx + 1 < b.len := by omega
  simp [bufferedStep, h']

/-- an exhausted script reports a quiet end (so a script is quiet-absorbing when nothing follows its
    first quiet entry) -/
theorem script_nil_quiet : (scriptStep []).yielded = false ∧ (scriptStep []).raised = none := by
  simp [scriptStep]

end RdfModel.Latch
