import RdfModel.Proofs.C16Scan
import RdfModel.Proofs.C01Scan
namespace RdfModel.Proofs.C16
open RdfModel RdfModel.NQ RdfModel.TW RdfModel.NQO RdfModel.C16
open RdfModel.Proofs.C16Ttl (Pend bound_offErr)

/-- `Disc` inside a scanner: `pend` are the runes read but not yet committed; `cap` is the capture mode. -/
def DiscP (input : List RP) (cap : Bool) (s : S) (pend inp : List RP) : Prop :=
  s.bo + size inp = size input ∧ s.doc.isSome = cap ∧ ∀ h, s.doc = some h → histRunes h ++ pend ++ inp = input

section
variable {input : List RP} {cap : Bool} {s : S} {pend inp rest : List RP} {r : RP}

theorem discP_nil : DiscP input cap s [] inp ↔ Disc input s inp ∧ s.doc.isSome = cap := by
  simp only [DiscP, Disc, List.append_nil]
  exact ⟨fun ⟨a, b, c⟩ => ⟨⟨a, c⟩, b⟩, fun ⟨⟨a, c⟩, b⟩ => ⟨a, b, c⟩⟩

theorem DiscP.read_pend (h : DiscP input cap s pend (r :: rest)) : DiscP input cap (s.read r) (pend ++ [r]) rest := by
  obtain ⟨h1, h2, h3⟩ := h
  exact ⟨by simp at h1 ⊢; omega, h2, fun d hd => by simpa using h3 d hd⟩

theorem DiscP.commit (h : DiscP input cap s pend inp) : DiscP input cap (s.commit pend) [] inp := by
  obtain ⟨h1, h2, h3⟩ := h
  refine ⟨h1, by simpa using h2, fun d hd => ?_⟩
  simp only [commit_doc, Option.map_eq_some_iff] at hd
  obtain ⟨d0, hd0, rfl⟩ := hd
  simpa [histRunes] using h3 d0 hd0

theorem DiscP.read_commit (h : DiscP input cap s pend (r :: rest)) :
    DiscP input cap ((s.read r).commit (pend ++ [r])) [] rest :=
  h.read_pend.commit

theorem DiscP.pending (h : DiscP input cap s pend inp) : Pend s (size pend) := fun d hd => by
  have := congrArg size (h.2.2 d hd)
  have := h.1
  simp at *; omega

theorem DiscP.offErr {u : Chunk} {ign : Nat} (h : DiscP input cap s pend inp) (hu : size u ≤ size pend) :
    EOff.bound (s.offErr u ign) ≤ size input :=
  h.1 ▸ bound_offErr s u ign _ (fun d hd => by have := h.pending d hd; omega) (Nat.le_add_right _ _)

theorem DiscP.scanErr {α : Type} {P : α → S → List RP → Prop} {n : Nat} {res : NQO.RO α} {k : EClass} {o : EOff}
    (h : DiscP input cap s pend inp) (hs : ScanQ P s n inp res) (hr : res = .err k o) (hn : n ≤ size pend) :
    EOff.bound o ≤ size input :=
  h.1 ▸ hs.err hr fun d hd => by have := h.pending d hd; omega

end

variable {input : List RP} {cap : Bool}

theorem afterObject_inv (T : Tables) (e : End) (cm : Option Chunk) (s : S) (inp : List RP)
    (h : DiscP input cap s (pendOf cm) inp) :
    match NQO.afterObject T e cm s inp with
    | .ok _ s' rest => DiscP input cap s' [] rest
    | .err _ off => EOff.bound off ≤ size input := by
  fun_induction NQO.afterObject T e cm s inp
  · exact h.offErr (by sz)  -- end of input
  · exact Nat.zero_le _  -- end of input inside a comment
  · rename_i ih; exact ih (by simpa using h.read_commit)  -- line end of a comment: committed
  · rename_i ih; exact ih (by simpa using h.read_pend)  -- inside a comment
  · simpa using h.read_commit  -- `.`
  · rename_i ih; exact ih (by simpa using h.read_pend)  -- `#`
  · rename_i ih; exact ih (by simpa using h.read_commit)  -- white space
  · simpa using h  -- anything else is handed back

theorem expectDot_inv (T : Tables) (e : End) (cm : Option Chunk) (s : S) (inp : List RP)
    (h : DiscP input cap s (pendOf cm) inp) :
    match NQO.expectDot T e cm s inp with
    | .ok _ s' rest => DiscP input cap s' [] rest
    | .err _ off => EOff.bound off ≤ size input := by
  fun_induction NQO.expectDot T e cm s inp
  · exact h.offErr (by sz)  -- end of input
  · exact Nat.zero_le _  -- end of input inside a comment
  · rename_i ih; exact ih (by simpa using h.read_commit)  -- line end of a comment: committed
  · rename_i ih; exact ih (by simpa using h.read_pend)  -- inside a comment
  · simpa using h.read_commit  -- `.`
  · rename_i ih; exact ih (by simpa using h.read_pend)  -- `#`
  · rename_i ih; exact ih (by simpa using h.read_commit)  -- white space
  · exact h.read_pend.offErr (by sz)  -- anything else

theorem toEOL_inv (T : Tables) (e : End) (cm : Option Chunk) (s : S) (inp : List RP)
    (h : DiscP input cap s (pendOf cm) inp) :
    match NQO.toEOL T e cm s inp with
    | .start s' rest => DiscP input cap s' [] rest
    | .done s' => DiscP input cap s' [] []
    | .fail _ off => EOff.bound off ≤ size input := by
  fun_induction NQO.toEOL T e cm s inp
  · simpa using h  -- clean end
  · exact h.offErr (by sz)  -- reader error
  · simpa using h.commit  -- clean end inside a comment: committed
  · exact h.offErr (by sz)  -- reader error inside a comment
  · simpa using h.read_commit  -- line end of a comment
  · rename_i ih; exact ih (by simpa using h.read_pend)  -- inside a comment
  · rename_i ih; exact ih (by simpa using h.read_pend)  -- `#`
  · simpa using h.read_commit  -- line end
  · rename_i ih; exact ih (by simpa using h.read_commit)  -- white space
  · exact h.read_pend.offErr (by sz)  -- anything else

theorem skipToStmt_inv (T : Tables) (e : End) (cm : Option Chunk) (s : S) (inp : List RP)
    (h : DiscP input cap s (pendOf cm) inp) :
    match NQO.skipToStmt T e cm s inp with
    | .stmt s' rest => DiscP input cap s' [] rest
    | .ended s' => EOff.bound (s'.offErr [] 0) ≤ size input ∧ (e = .eof → DiscP input cap s' [] []) := by
  fun_induction NQO.skipToStmt T e cm s inp
  · exact ⟨h.offErr (by sz), fun _ => h⟩  -- end of input
  · cases e  -- end of input inside a comment
    · exact ⟨h.commit.offErr (by sz), fun _ => h.commit⟩
    · exact ⟨h.offErr (by sz), nofun⟩
  · rename_i ih; exact ih (by simpa using h.read_commit)  -- line end of a comment
  · rename_i ih; exact ih (by simpa using h.read_pend)  -- inside a comment
  · rename_i ih; exact ih (by simpa using h.read_pend)  -- `#`
  · rename_i ih; exact ih (by simpa using h.read_commit)  -- white space
  · simpa using h  -- a statement starts

/-- A token `tok` read from a clean state and committed, in one chunk or several: the invariant moves past it and
    the range of the slot is exact. -/
theorem DiscP.token {T : Tables} {urlOk : List Nat → Bool} {pos : Pos} {t : Term (List Nat)} {rg : Option SRange}
    {s s' : S} {tok rest : List RP}
    (h : DiscP input cap s [] (tok ++ rest)) (hb : s'.bo + size rest = s.bo + size (tok ++ rest))
    (hn : s.doc = none → s'.doc = none ∧ rg = none)
    (hs : ∀ d, s.doc = some d → ∃ un, rg = some (d, un) ∧ s'.doc = some un ∧ histRunes un = histRunes d ++ tok)
    (ht : TokenOf t (runes tok))
    (hre : PnFacts T → ∀ e' y, NQ.captureTerm T urlOk e' pos false (runes tok ++ 0x20 :: y) = .ok t (0x20 :: y)) :
    DiscP input cap s' [] rest ∧ SlotOK T urlOk input cap pos t rg := by
  obtain ⟨d1, hc, d2⟩ := h
  cases hd : s.doc with
  | none =>
    obtain ⟨g1, g2⟩ := hn hd
    have hcap : cap = false := by simp [← hc, hd]
    exact ⟨⟨by omega, by simp [g1, hcap], fun x hx => by simp [g1] at hx⟩, by simp [SlotOK, hcap, g2]⟩
  | some d =>
    obtain ⟨un, g1, g2, g3⟩ := hs d hd
    have hcap : cap = true := by simp [← hc, hd]
    have hin := d2 d hd
    refine ⟨⟨by omega, by simp [g2, hcap], fun x hx => ?_⟩, ?_⟩
    · cases g2.symm.trans hx
      simp [g3, ← hin]
    · simp only [SlotOK, hcap, if_true]
      exact ⟨(d, un), g1, histRunes d, tok, rest, by simp [← hin], rfl, g3, ht, hre⟩

/-- What a term capture establishes: past a token the invariant holds again and the slot's range is exact;
    the offset of an error (repaired code) lies inside the input. -/
def TermRes (T : Tables) (urlOk : List Nat → Bool) (input : List RP) (cap legacy : Bool) (pos : Pos) :
    RO (Term (List Nat) × Option SRange) → Prop
  | .ok v s' rest => DiscP input cap s' [] rest ∧ SlotOK T urlOk input cap pos v.1 v.2
  | .err _ off => legacy = false → EOff.bound off ≤ size input

section
variable {T : Tables} {urlOk : List Nat → Bool} {legacy : Bool} {pos : Pos}

theorem TermRes.offErr {s : S} {pend rest : List RP} {unc : Chunk} {ign : Nat} {x : EClass}
    (h : DiscP input cap s pend rest) (hu : legacy = false → size unc ≤ size pend) :
    TermRes T urlOk input cap legacy pos (.err x (s.offErr unc ign)) :=
  fun hl => h.offErr (hu hl)

end

theorem captureLiteral_inv (T : Tables) (urlOk : List Nat → Bool) (e : End) (legacy : Bool) (pos : Pos) {s : S} {q : RP}
    {inp : List RP} (hq : q.1 = 0x22) (hpl : pos.literal = true) (h : DiscP input cap s [] (q :: inp)) :
    TermRes T urlOk input cap legacy pos (NQO.captureLiteral T urlOk e legacy (s.read q) q inp) := by
  unfold NQO.captureLiteral
  cases hs : NQO.scanLit T e .body (s.read q) inp [] [q] with
  | err c o => exact fun _ => h.read_pend.scanErr (scanLit_scan T e _ _ _ _ _) hs (by sz)
  | ok w s1 rest1 =>
    obtain ⟨body, rfl, h2, h3, h4, h5, h6⟩ := (scanLit_scan T e _ _ _ _ _).ok hs
    simp only [List.reverse_cons, List.reverse_nil, List.nil_append, List.singleton_append] at h2
    have hstr := strTok_of hq h5
    have plain : TermRes T urlOk input cap legacy pos
        (.ok (.lit (goString w.1) xsdString none, s1.range w.2) (s1.commit w.2) rest1) :=
      h.token (tok := q :: body) (by simp [h4]; omega) (fun hn => by simp [h3, hn])
        (fun d hd => ⟨w.2 :: d, by simp [h3, hd], by simp [h3, hd], by simp [h2]⟩)
        (Or.inl ⟨hstr, rfl⟩) (fun _ e' y => by simp [NQ.captureTerm, hq, hpl, NQ.captureLiteral, h6])
    have hd2 : DiscP input cap (s1.commit w.2) [] rest1 := plain.1
    cases rest1 with
    | nil =>
      cases e
      · exact plain
      · exact TermRes.offErr hd2 (by rintro rfl; sz)
    | cons r0 rest0 =>
      refine ite_ind (fun h0 => ?_) fun _ => ite_ind (fun h00 => ?_) fun _ => plain
      · -- language tag
        cases hl : NQO.langPrimary e r0 ((s1.commit w.2).read r0) rest0 [] with
        | err x o => exact fun _ => hd2.read_pend.scanErr (langPrimary_scan e r0 _ _ _) hl (by sz)
        | ok t s3 r =>
          obtain ⟨more, rfl, g2, g3, g4, g5, g6⟩ := (langPrimary_scan e r0 _ _ _).ok hl
          simp only [List.reverse_nil, List.nil_append] at g2 g3 g4
          simp only [runes_nil] at g6
          exact DiscP.token (tok := q :: body ++ r0 :: more) (by simpa using h) (by simp [h4, g5]; omega)
            (fun hn => by simp [h3, hn, g3, g4, span])
            (fun d hd => ⟨more :: [r0] :: w.2 :: d, by simp [h3, hd, g3, span], by simp [h3, hd, g4],
              by simp [h2]⟩)
            ⟨runes (q :: body), hstr, by simp [h0, g2]⟩
            (fun _ e' y => by simp [NQ.captureTerm, hq, hpl, NQ.captureLiteral, h6, h0, g6, g2])
      · -- datatype
        cases rest0 with
        | nil => exact TermRes.offErr hd2.read_pend (by rintro rfl; sz)
        | cons r1 rest1 =>
          refine ite_ind (fun _ => TermRes.offErr hd2.read_pend.read_pend (by rintro rfl; sz)) fun h11 => ?_
          have hd5 : DiscP input cap (((s1.commit w.2).read r0).read r1 |>.commit [r0, r1]) [] rest1 := by
            simpa using hd2.read_pend.read_commit
          cases rest1 with
          | nil => exact TermRes.offErr hd5 (by rintro rfl; sz)
          | cons r2 rest2 =>
            refine ite_ind (fun _ => TermRes.offErr hd5.read_pend (by rintro rfl; sz)) fun h22 => ?_
            cases hi : NQO.captureIRI T urlOk e ((((s1.commit w.2).read r0).read r1 |>.commit [r0, r1]).read r2) r2 rest2 with
            | err x o => exact fun _ => hd5.read_pend.scanErr (captureIRI_scan T urlOk e _ _ _) hi (by sz)
            | ok dv s7 r =>
              obtain ⟨ib, rfl, g2, g3, g4, g5, g6⟩ := (captureIRI_scan T urlOk e _ _ _).ok hi
              refine ite_ind (fun _ _ => ?_) fun hne => ?_
              · rw [g2]
                exact hd5.read_pend.1 ▸ rangeErr_bound (fun d hd => by have := hd5.read_pend.pending d hd; simp at this ⊢; omega)
              have h11' : r1.1 = 0x5e := by simpa using h11
              have h22' : r2.1 = 0x3c := by simpa using h22
              exact DiscP.token (tok := q :: body ++ r0 :: r1 :: r2 :: ib) (by simpa using h) (by simp [h4, g4]; omega)
                (fun hn => by simp [h3, hn, g2, g3, span])
                (fun d hd => ⟨(r2 :: ib) :: [r0, r1] :: w.2 :: d, by simp [h3, hd, g2, span],
                  by simp [h3, hd, g3], by simp [h2]⟩)
                (Or.inr ⟨runes (q :: body), runes (r2 :: ib), hstr, iriTok_of h22' g5, by simp [h00, h11']⟩)
                (fun _ e' y => by simp [NQ.captureTerm, hq, hpl, NQ.captureLiteral, h6, h00, h11', h22', g6, hne])

theorem captureTerm_inv (T : Tables) (urlOk : List Nat → Bool) (e : End) (legacy : Bool) (pos : Pos)
    (cm : Option Chunk) (s : S) (inp : List RP) (h : DiscP input cap s (pendOf cm) inp) :
    TermRes T urlOk input cap legacy pos (NQO.captureTerm T urlOk e legacy pos cm s inp) := by
  fun_induction NQO.captureTerm T urlOk e legacy pos cm s inp
  case case1 => exact fun _ => h.offErr (by sz)  -- end of input
  case case2 => exact fun _ => Nat.zero_le _  -- end of input inside a comment
  case case3 ih => exact ih (by simpa using h.read_commit)  -- line end of a comment
  case case4 ih => exact ih (by simpa using h.read_pend)  -- inside a comment
  case case5 s r rest0 hr t s3 r' hc =>  -- `<`: an IRI
    obtain ⟨body, rfl, g2, g3, g4, g5, g6⟩ := (captureIRI_scan T urlOk e _ _ _).ok hc
    exact h.token (tok := r :: body) (by simp [g4]; omega) (fun hn => by simp [g2, g3, hn])
      (fun d hd => ⟨(r :: body) :: d, by simp [g2, hd], by simp [g3, hd], by simp⟩) (iriTok_of hr g5)
      (fun _ e' y => by simp [NQ.captureTerm, hr, g6])
  case case6 hc => exact fun _ => h.read_pend.scanErr (captureIRI_scan T urlOk e _ _ _) hc (by sz)  -- `<`: no IRI
  case case7 => exact fun _ => h.read_pend.offErr (by sz)  -- `_` at the end of input
  case case8 => exact fun _ => h.read_pend.read_pend.offErr (by sz)  -- `_` without `:`
  case case9 s r hr hb r1 rest1 h1 t s3 r' hc =>  -- `_:`: a label
    obtain ⟨⟨tok, g1, g2, g3, g4⟩, g5⟩ := (captureBNode_scan T e _ _ _).ok hc
    have hr' : r.1 = 0x5f := by simp at hb; exact hb.1
    have h1' : r1.1 = 0x3a := by simpa using h1
    have g1' : r :: r1 :: rest1 = tok ++ r' := by simpa using g1.symm
    rw [g1'] at h
    refine h.token (by rw [← g1']; simp at g5 ⊢; omega) (fun hn => by simp [g3, g4, hn])
      (fun d hd => ⟨tok :: d, by simp [g3, hd], by simp [g4, hd], by simp⟩) (by simp [TokenOf, g2, hr', h1']) ?_
    intro hT e' y
    have hbn := captureBNode_erase T e ((s.read r).read r1) [r, r1] rest1
    rw [hc] at hbn
    simp at hbn
    have := C01.captureBNode_write T hT.pn_sp hT.pn_dot e' _ y (C01.captureBNode_labelOK hbn.symm)
    have hpb : pos.bnode = true := by simp at hb; exact hb.2
    simp [NQ.captureTerm, g2, hr', h1', hpb, this]
  case case10 hc => exact fun _ => h.read_pend.read_pend.scanErr (captureBNode_scan T e _ _ _) hc (by sz)  -- `_:`: no label
  case case11 s r rest0 hr hb hl =>  -- `"`
    simp only [Bool.and_eq_true, decide_eq_true_eq] at hl
    exact captureLiteral_inv T urlOk e legacy pos hl.1 hl.2 h
  case case12 ih => exact ih (by simpa using h.read_pend)  -- `#`
  case case13 ih => exact ih (by simpa using h.read_commit)  -- white space
  case case14 => exact fun _ => h.read_pend.offErr (by sz)  -- anything else

/-- Postcondition of `statement` and of `Next()`, by result. -/
def StepInv (T : Tables) (urlOk : List Nat → Bool) (input : List RP) (cap legacy : Bool) : NQO.Step → Prop
  | .quad q rg s' rest => DiscP input cap s' [] rest ∧ StmtOK T urlOk input cap q rg
  | .done s' => DiscP input cap s' [] []
  | .fail _ off => legacy = false → EOff.bound off ≤ size input

theorem term_then (T : Tables) (urlOk : List Nat → Bool) (e : End) (legacy : Bool) (pos : Pos) {s : S} {inp : List RP}
    {K : Term (List Nat) × Option SRange → S → List RP → NQO.Step} (h : DiscP input cap s [] inp)
    (hK : ∀ v s' rest, DiscP input cap s' [] rest → SlotOK T urlOk input cap pos v.1 v.2 →
      StepInv T urlOk input cap legacy (K v s' rest)) :
    StepInv T urlOk input cap legacy (match NQO.captureTerm T urlOk e legacy pos none s inp with
      | .err x o => .fail x o
      | .ok v s' rest => K v s' rest) := by
  have h1 := captureTerm_inv T urlOk e legacy pos none s inp h
  cases hc : NQO.captureTerm T urlOk e legacy pos none s inp with
  | err x o => rw [hc] at h1; exact h1
  | ok v s' rest => rw [hc] at h1; exact hK v s' rest h1.1 h1.2

theorem statement_inv (T : Tables) (urlOk : List Nat → Bool) (e : End) (legacy quads : Bool) {s : S} {inp : List RP}
    (h : DiscP input cap s [] inp) :
    StepInv T urlOk input cap legacy (NQO.statement T urlOk e legacy quads s inp) := by
  unfold NQO.statement
  have h0 := skipToStmt_inv T e none s inp h
  cases hsk : NQO.skipToStmt T e none s inp with
  | ended s0 =>
    rw [hsk] at h0
    cases e with
    | eof => exact h0.2 rfl
    | ioerr => exact fun _ => h0.1
  | stmt s0 inp0 =>
    rw [hsk] at h0
    refine term_then T urlOk e legacy _ h0 fun sv s1 r1 d1 k1 => term_then T urlOk e legacy _ d1 fun pv s2 r2 d2 k2 =>
      term_then T urlOk e legacy _ d2 fun ov s3 r3 d3 k3 => ?_
    cases quads with
    | false =>
      have h4 := expectDot_inv T e none s3 r3 d3
      simp only [Bool.false_eq_true, if_false]
      cases hd : NQO.expectDot T e none s3 r3 with
      | err x o => rw [hd] at h4; exact fun _ => h4
      | ok u s4 r4 => rw [hd] at h4; exact ⟨h4, k1, k2, k3, rfl⟩
    | true =>
      have h4 := afterObject_inv T e none s3 r3 d3
      simp only [if_true]
      cases ha : NQO.afterObject T e none s3 r3 with
      | err x o => rw [ha] at h4; exact fun _ => h4
      | ok g s4 r4 =>
        rw [ha] at h4
        cases g with
        | none => exact ⟨h4, k1, k2, k3, rfl⟩
        | some gx =>
          refine term_then T urlOk e legacy _ h4 fun gv s5 r5 d5 k5 => ?_
          have h6 := expectDot_inv T e none s5 r5 d5
          cases hd : NQO.expectDot T e none s5 r5 with
          | err x o => rw [hd] at h6; exact fun _ => h6
          | ok u s6 r6 => rw [hd] at h6; exact ⟨h6, k1, k2, k3, k5⟩

theorem next_inv (T : Tables) (urlOk : List Nat → Bool) (e : End) (legacy quads started : Bool) {s : S}
    {inp : List RP} (h : DiscP input cap s [] inp) :
    StepInv T urlOk input cap legacy (NQO.next T urlOk e legacy quads started s inp) := by
  unfold NQO.next
  cases started with
  | false => exact statement_inv T urlOk e legacy quads h
  | true =>
    have h0 := toEOL_inv T e none s inp h
    simp only [if_true]
    cases ht : NQO.toEOL T e none s inp with
    | done s' => rw [ht] at h0; exact h0
    | fail x o => rw [ht] at h0; exact fun _ => h0
    | start s' rest => rw [ht] at h0; exact statement_inv T urlOk e legacy quads h0

end RdfModel.Proofs.C16
