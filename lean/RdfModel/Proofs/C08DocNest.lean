import RdfModel.Proofs.C08DocTop
namespace RdfModel.C08
open RdfModel RdfModel.TA RdfModel.C02 RdfModel.Ttl RdfModel.Spec.TtlPrint RdfModel.TtlDoc

section
variable {T : Tables} (hT : TablesOK T) (hT2 : TablesOK2 T) {C : Cfg} (hC : CfgOK T C)
variable {ch : Choices} (hch : choicesOK ch = true)

include hT hT2 hC in
theorem pObj_follows (o : Obj) (hwf : objWf T o = true) (i : Nat) (R : List Nat) :
    ∃ c r, Follows C (pObj ⟨T, ch⟩ i o R) c r ∧ c ≠ 0x40 ∧ c ≠ 0x5e ∧ c ≠ 0x29 ∧ c ≠ 0x7d := by
  have hd : ∀ (c : Nat) (tl : List Nat) (_ : c ∈ delims ∧ isWsRune c = false ∧ c ≠ 0x23)
      (_ : c ≠ 0x40 ∧ c ≠ 0x5e ∧ c ≠ 0x29 ∧ c ≠ 0x7d),
      ∃ c' r, Follows C (c :: tl) c' r ∧ c' ≠ 0x40 ∧ c' ≠ 0x5e ∧ c' ≠ 0x29 ∧ c' ≠ 0x7d :=
    fun c tl h1 h2 => ⟨c, tl, follows_punct hT2 hC h1 tl, h2⟩
  cases o with
  | iri x1 =>
    obtain ⟨c, r, hf, hne⟩ := pIri_follows hT2 hC x1 (by simpa [objWf] using hwf) i R
    exact ⟨c, r, by simpa [pObj] using hf, hne _ (by decide) (by decide) (by decide), hne _ (by decide) (by decide) (by decide),
      hne _ (by decide) (by decide) (by decide), hne _ (by decide) (by decide) (by decide)⟩
  | bn l =>
    exact ⟨0x5f, _, by
      have : pObj ⟨T, ch⟩ i (.bn l) R = 0x5f :: (0x3a :: l ++ after T .label (ch.at i) R) := by simp [pObj, pBNode]
      rw [this]; exact follows_solid hT2 hC (solid_pn (hT2.u_sub 0x5f hT2.us) (by decide)) (by decide) _,
      by decide⟩
  | anon => simpa [pObj, pPunct] using hd 0x5b _ (by decide) (by decide)
  | bnpl pos => simpa [pObj, pPunct] using hd 0x5b _ (by decide) (by decide)
  | coll items => simpa [pObj, pPunct] using hd 0x28 _ (by decide) (by decide)
  | lit l =>
    have hdel : ∀ (st : Style) (r : List Nat),
        ∃ c' r', Follows C (st.delim :: r) c' r' ∧ c' ≠ 0x40 ∧ c' ≠ 0x5e ∧ c' ≠ 0x29 ∧ c' ≠ 0x7d := by
      intro st r
      exact ⟨_, r, follows_solid hT2 hC (delim_solid T st) (delim_ne23 st) r, by cases st <;> simp [Style.delim]⟩
    cases l with
    | plain lex =>
      obtain ⟨r, hr⟩ := printString_text (ch.at i).sty (ch.at i).cs lex (after T (strKind (ch.at i).sty lex) (ch.at i) R)
      simpa [pObj, pLit, hr] using hdel _ r
    | lang lex tag =>
      obtain ⟨r, hr⟩ := printString_text (ch.at i).sty (ch.at i).cs lex (0x40 :: (tag ++ after T .lang (ch.at i) R))
      simpa [pObj, pLit, hr] using hdel _ r
    | typed lex dt =>
      obtain ⟨r, hr⟩ := printString_text (ch.at i).sty (ch.at i).cs lex (0x5e :: 0x5e :: pIri ⟨T, ch⟩ (i + 1) dt R)
      simpa [pObj, pLit, hr] using hdel _ r
    | num lex =>
      have hwf' : litWf T (.num lex) = true := by simpa [objWf] using hwf
      simp only [litWf] at hwf'
      cases hb : bareLiteralDatatype lex with
      | none => simp [hb] at hwf'
      | some dt =>
        obtain ⟨c0, lt, hlex, hso, h23, hne⟩ := num_head_solid hT hT2 lex dt hb (by simpa [hb] using hwf')
        have : pObj ⟨T, ch⟩ i (.lit (.num lex)) R = c0 :: (lt ++ after T .num (ch.at i) R) := by simp [pObj, pLit, hlex]
        rw [this]
        exact ⟨c0, _, follows_solid hT2 hC hso h23 _, hne⟩
    | bool b =>
      obtain ⟨c0, tl0, htext, hal, _⟩ := bool_tok hC b (after T .name (ch.at i) R)
      have hr : (0x61 ≤ c0 ∧ c0 ≤ 0x7a) ∨ (0x41 ≤ c0 ∧ c0 ≤ 0x5a) := by simpa [isAlpha, NQ.isAlpha] using hal
      have : pObj ⟨T, ch⟩ i (.lit (.bool b)) R = c0 :: tl0 := by simp [pObj, pLit, htext]
      rw [this]
      exact ⟨c0, tl0, follows_solid hT2 hC (alpha_solid hT2 hal).1 (alpha_solid hT2 hal).2 _, by omega⟩

theorem rdfFirst_eq : TA.rdfFirst = TtlDoc.rdfFirst := rfl
theorem rdfRest_eq : TA.rdfRest = TtlDoc.rdfRest := rfl
theorem envOf_fresh1 (st : DState) : (envOf st).fresh.1 = toT st.fresh.1 := rfl
theorem envOf_fresh2 (st : DState) : (envOf st).fresh.2 = envOf st.fresh.2 := rfl

/-- the `rdf:rest` statement `reader_scan_collection_Continue` emits -/
theorem restStmt_eq {nx : Ectx} {b : TermB} {g : Option TermB} (hs : nx.subj = some (toT b)) (hg : nx.graph = g.map toT)
    (o : TermB) :
    ({ s := nx.subj, p := some (.iri TtlDoc.rdfRest), o := toT o, g := nx.graph } : Stmt) = toStmt ⟨b, .iri TA.rdfRest, o, g⟩ := by
  simp only [toStmt, hs, hg, toT, Term.map, rdfRest_eq]
  cases g <;> rfl

include hT hT2 hC hch in
/-- the inside of `[ pos ]`, whatever lies below its three frames: the list, then `]` -/
theorem bnpl_inner (pos : List PO) (hfit : ∀ po ∈ pos, POFit T C ch po) (i k : Nat) (x' : Ectx) (S : List Frame)
    (inp R : List Nat) (g : Option TermB) (st st2 : DState) (qs : List QuadB) (sS : TermB) (req : Bool)
    (hs : x'.subj = some (toT sS)) (hg : x'.graph = g.map toT) (hreq : pos = [] → req = false)
    (hdp : dPOs C.resolve sS g st pos = some (qs, st2)) (hin : SkEq C inp (pPOs ⟨T, ch⟩ i pos (pPunct ⟨T, ch⟩ k 0x5d R))) :
    Steps C .eof ⟨⟨x', if req then .polRequired else .pol⟩ :: ⟨x', .polContinue⟩ :: ⟨x', .bnplEnd⟩ :: S, inp, envOf st⟩
      (qs.map toStmt) ⟨S, after T .punct (ch.at k) R, envOf st2⟩ := by
  have hfc : Follows C (pPunct ⟨T, ch⟩ k 0x5d R) 0x5d (after T .punct (ch.at k) R) := follows_punct hT2 hC (by decide) _
  obtain ⟨inp2, he2, s2⟩ := posGood hT hT2 hC hch pos hfit i x' (⟨x', .bnplEnd⟩ :: S) inp _ 0x5d _ g st st2 qs sS req
    hfc (Or.inr (Or.inl rfl)) hs hg hreq hdp hin
  exact steps_trans_nil s2 (by simpa using Steps.fol (s := S) he2 hfc (fn_bnplEnd x' _ _) (Steps.refl _))

include hT hT2 hC hch in
theorem objGood_bnpl (pos : List PO) (hfit : ∀ po ∈ pos, POFit T C ch po) : ObjGood T C ch (.bnpl pos) := by
  intro i x s inp rest c r g st st' t qs hf h40 h5e hxsome hg hd hin
  simp only [dObj] at hd
  cases hdp : dPOs C.resolve st.fresh.1 g st.fresh.2 pos with
  | none => simp [hdp] at hd
  | some res =>
    obtain ⟨qs1, st1⟩ := res
    simp only [hdp, Option.some.injEq, Prod.mk.injEq] at hd
    obtain ⟨rfl, rfl, rfl⟩ := hd
    let k := i + 1 + posSlots pos
    let nx : Ectx := { x with subj := some (envOf st).fresh.1, pred := none }
    have htx : pObj ⟨T, ch⟩ i (.bnpl pos) rest = 0x5b :: after T .punct (ch.at i) (pPOs ⟨T, ch⟩ (i + 1) pos
        (pPunct ⟨T, ch⟩ k 0x5d rest)) := by simp [pObj, pPunct, k]
    have s2 := bnpl_inner hT hT2 hC hch pos hfit (i + 1) k nx s _ rest g st.fresh.2 st1 qs1 st.fresh.1 false rfl hg (fun _ => rfl) hdp
      (after_skip_at T C ch .punct i _)
    refine ⟨_, after_skip_at T C ch .punct k rest, ?_⟩
    have s1 := Steps.punct hT2 hC (s := s) hin htx
      (by decide) (fn_object_bracket x (envOf st) _)
      (by simpa [nx, envOf_fresh2] using s2)
    simpa [envOf_fresh1, envOf_fresh2] using s1

include hT hT2 hC hch in
theorem objGood_anon : ObjGood T C ch .anon := by
  intro i x s inp rest c r g st st' t qs hf h40 h5e hxsome hg hd hin
  exact objGood_bnpl hT hT2 hC hch [] (by simp) i x s inp rest c r g st st' t qs hf h40 h5e hxsome hg
    (by simpa [dObj, dPOs] using hd) (by simpa [pObj, pPOs, pPunct, posSlots] using hin)

include hT hT2 hC in
/-- the cells of a collection: `nx` is the frame of the current cell `b` -/
theorem items_good (items : List Obj) (hgood : ∀ o ∈ items, ObjGood T C ch o) (hwf : ∀ o ∈ items, objWf T o = true) :
    ∀ (i : Nat) (nx : Ectx) (s : List Frame) (inp R r' : List Nat) (g : Option TermB) (st st' : DState) (qs : List QuadB)
      (b : TermB), items ≠ [] → Follows C R 0x29 r' →
      nx.subj = some (toT b) → nx.pred = some (.iri TtlDoc.rdfFirst) → nx.graph = g.map toT →
      dItems C.resolve g st b items = some (qs, st') → SkEq C inp (pItems ⟨T, ch⟩ i items R) →
      Steps C .eof ⟨⟨nx, .object⟩ :: ⟨nx, .collContinue⟩ :: s, inp, envOf st⟩ (qs.map toStmt) ⟨s, r', envOf st'⟩ := by
  induction items with
  | nil => intro i nx s inp R r' g st st' qs b hne; exact absurd rfl hne
  | cons o os ih =>
    intro i nx s inp R r' g st st' qs b _ hfR hs hp hg hd hin
    have hgo := hgood o List.mem_cons_self
    have hfirst : nx.pred = some (toT (.iri TA.rdfFirst)) := by rw [hp]; rfl
    cases os with
    | nil =>
      simp only [dItems] at hd
      cases hdo : dObj C.resolve g st o with
      | none => simp [hdo] at hd
      | some res =>
        obtain ⟨t, qs1, st1⟩ := res
        simp only [hdo, Option.some.injEq, Prod.mk.injEq] at hd
        obtain ⟨rfl, rfl⟩ := hd
        obtain ⟨inp1, he1, s1⟩ := hgo i nx (⟨nx, .collContinue⟩ :: s) inp R 0x29 r' g st st1 t qs1 hfR (by decide) (by decide)
          (by simp [hs]) hg hdo (by simpa [pItems] using hin)
        have e2 := restStmt_eq hs hg (.iri TA.rdfNil)
        have s2 : Steps C .eof ⟨⟨nx, .collContinue⟩ :: s, inp1, envOf st1⟩ [toStmt ⟨b, .iri TA.rdfRest, .iri TA.rdfNil, g⟩]
            ⟨s, r', envOf st1⟩ := by
          rw [← e2]
          simpa [toT, Term.map, rdfNil_eq] using Steps.fol (s := s) he1 hfR
            (fn_collContinue_close nx _ r') (Steps.refl _)
        have := s1.trans s2
        rw [mkStmt_toStmt hs hfirst hg] at this
        simpa [List.map_append] using this
    | cons o' os' =>
      simp only [dItems] at hd
      cases hdo : dObj C.resolve g st o with
      | none => simp [hdo] at hd
      | some res =>
        obtain ⟨t, qs1, st1⟩ := res
        simp only [hdo] at hd
        cases hdr : dItems C.resolve g st1.fresh.2 st1.fresh.1 (o' :: os') with
        | none => simp [hdr] at hd
        | some res2 =>
          obtain ⟨qs2, st2⟩ := res2
          simp only [hdr, Option.some.injEq, Prod.mk.injEq] at hd
          obtain ⟨rfl, rfl⟩ := hd
          obtain ⟨c, r, hfn, n1, n2, n3, _⟩ := pObj_follows hT hT2 hC o' (hwf o' (by simp)) (i + objSlots o)
            (pItems ⟨T, ch⟩ (i + objSlots o + objSlots o') os' R)
          have hfn' : Follows C (pItems ⟨T, ch⟩ (i + objSlots o) (o' :: os') R) c r := by simpa [pItems] using hfn
          obtain ⟨inp1, he1, s1⟩ := hgo i nx (⟨nx, .collContinue⟩ :: s) inp _ c r g st st1 t qs1 hfn' n1 n2
            (by simp [hs]) hg hdo (by simpa [pItems] using hin)
          let nx' : Ectx := { nx with subj := some (envOf st1).fresh.1 }
          have s3 := ih (fun o2 ho2 => hgood o2 (List.mem_cons_of_mem _ ho2)) (fun o2 ho2 => hwf o2 (List.mem_cons_of_mem _ ho2))
            (i + objSlots o) nx' s (c :: r) R r' g st1.fresh.2 st2 qs2 st1.fresh.1 (by simp) hfR rfl hp hg hdr
            hfn'.skEq
          have e2 := restStmt_eq hs hg st1.fresh.1
          have s2 : Steps C .eof ⟨⟨nx, .collContinue⟩ :: s, inp1, envOf st1⟩
              (toStmt ⟨b, .iri TA.rdfRest, st1.fresh.1, g⟩ :: qs2.map toStmt) ⟨s, r', envOf st2⟩ := by
            rw [← e2]
            simpa [envOf_fresh1, envOf_fresh2] using Steps.fol (s := s) he1 hfn'
              (fn_collContinue_item nx (envOf st1) c r n3) (by simpa [nx', envOf_fresh1, envOf_fresh2] using s3)
          have := s1.trans s2
          rw [mkStmt_toStmt hs hfirst hg] at this
          simpa [List.map_append] using this

include hT hT2 hC in
theorem objGood_coll (items : List Obj) (hne : items ≠ []) (hgood : ∀ o ∈ items, ObjGood T C ch o)
    (hwf : ∀ o ∈ items, objWf T o = true) : ObjGood T C ch (.coll items) := by
  intro i x s inp rest c r g st st' t qs hf h40 h5e hxsome hg hd hin
  obtain ⟨o1, os1, rfl⟩ := List.exists_cons_of_ne_nil hne
  simp only [dObj] at hd
  cases hdi : dItems C.resolve g st.fresh.2 st.fresh.1 (o1 :: os1) with
  | none => simp [hdi] at hd
  | some res =>
    obtain ⟨qs1, st1⟩ := res
    simp only [hdi, Option.some.injEq, Prod.mk.injEq] at hd
    obtain ⟨rfl, rfl, rfl⟩ := hd
    obtain ⟨sj, hsj⟩ := Option.isSome_iff_exists.1 hxsome
    let k := i + 1 + itemsSlots (o1 :: os1)
    let nx : Ectx := { x with subj := some (envOf st).fresh.1, pred := some (.iri TtlDoc.rdfFirst) }
    have hfc : Follows C (pPunct ⟨T, ch⟩ k 0x29 rest) 0x29 (after T .punct (ch.at k) rest) :=
      follows_punct hT2 hC (by decide) _
    have htx : pObj ⟨T, ch⟩ i (.coll (o1 :: os1)) rest = 0x28 :: after T .punct (ch.at i) (pItems ⟨T, ch⟩ (i + 1) (o1 :: os1)
        (pPunct ⟨T, ch⟩ k 0x29 rest)) := by simp [pObj, pPunct, k]
    obtain ⟨c0, r0, hf0, _, _, n3, _⟩ := pObj_follows hT hT2 hC o1 (hwf o1 (by simp)) (i + 1)
      (pItems ⟨T, ch⟩ (i + 1 + objSlots o1) os1 (pPunct ⟨T, ch⟩ k 0x29 rest))
    have hf0' : Follows C (pItems ⟨T, ch⟩ (i + 1) (o1 :: os1) (pPunct ⟨T, ch⟩ k 0x29 rest)) c0 r0 := by simpa [pItems] using hf0
    have s3 := items_good hT hT2 hC (o1 :: os1) hgood hwf (i + 1) nx s (c0 :: r0) _ _ g st.fresh.2 st1 qs1 st.fresh.1 (by simp) hfc
      (envOf_fresh1 st ▸ rfl) rfl hg hdi hf0'.skEq
    refine ⟨_, after_skip_at T C ch .punct k rest, ?_⟩
    have s2 := Steps.fol (s := s)
      (after_skip_at T C ch .punct i _) hf0' (fn_collOpenObj_item x (envOf st) c0 r0 n3 sj hsj)
      (by simpa [nx, envOf_fresh2] using s3)
    have s1 := Steps.punct hT2 hC (s := s) hin htx
      (by decide) (fn_object_paren x (envOf st) _) (by simpa using s2)
    simpa [envOf_fresh1] using s1

end

theorem itemsWf_mem {T : Tables} : ∀ {os : List Obj}, itemsWf T os = true → ∀ o ∈ os, objWf T o = true := by
  intro os
  induction os with
  | nil => intro _ o ho; cases ho
  | cons a os ih =>
    intro h o ho
    simp only [itemsWf, Bool.and_eq_true] at h
    rcases List.mem_cons.1 ho with rfl | ho
    · exact h.1
    · exact ih h.2 o ho

mutual
theorem objGood_all {T : Tables} (hT : TablesOK T) (hT2 : TablesOK2 T) {C : Cfg} (hC : CfgOK T C) {ch : Choices} (hch : choicesOK ch = true) : (o : Obj) → objWf T o = true → objNoBoolPfx o = true → ObjGood T C ch o
  | .iri x0, h1, h2 => objGood_iri hT hT2 hC x0 (by simpa [objWf] using h1) h2
  | .bn l, h1, _ => objGood_bn hT hT2 hC l (by simpa [objWf] using h1)
  | .anon, _, _ => objGood_anon hT hT2 hC hch
  | .lit l, h1, _ => objGood_lit hT hT2 hC l (by simpa [objWf] using h1)
  | .bnpl pos, h1, h2 => by
    simp only [objWf, Bool.and_eq_true, Bool.not_eq_true', List.isEmpty_eq_false_iff] at h1
    exact objGood_bnpl hT hT2 hC hch pos (posFit_all hT hT2 hC hch pos h1.2 (by simpa [objNoBoolPfx] using h2))
  | .coll items, h1, h2 => by
    have hall := itemsGood_all hT hT2 hC hch items (by simpa [objWf] using h1) (by simpa [objNoBoolPfx] using h2)
    have hwf : ∀ o ∈ items, objWf T o = true := itemsWf_mem (by simpa [objWf] using h1)
    cases items with
    | nil => exact objGood_nil hT2 hC
    | cons a b => exact objGood_coll hT hT2 hC (a :: b) (by simp) hall hwf
theorem itemsGood_all {T : Tables} (hT : TablesOK T) (hT2 : TablesOK2 T) {C : Cfg} (hC : CfgOK T C) {ch : Choices} (hch : choicesOK ch = true) : (os : List Obj) → itemsWf T os = true → itemsNoBoolPfx os = true → ∀ o ∈ os, ObjGood T C ch o
  | [], _, _ => by intro o ho; cases ho
  | a :: os, h1, h2 => by
    simp only [itemsWf, Bool.and_eq_true] at h1
    simp only [itemsNoBoolPfx, Bool.and_eq_true] at h2
    have ha := objGood_all hT hT2 hC hch a h1.1 h2.1
    have hos := itemsGood_all hT hT2 hC hch os h1.2 h2.2
    intro o ho
    rcases List.mem_cons.1 ho with h | h
    · exact h ▸ ha
    · exact hos o h
theorem poFit_all {T : Tables} (hT : TablesOK T) (hT2 : TablesOK2 T) {C : Cfg} (hC : CfgOK T C) {ch : Choices} (hch : choicesOK ch = true) : (po : PO) → poWf T po = true → poNoBoolPfx po = true → POFit T C ch po
  | .mk v os, h1, h2 => by
    simp only [poWf, Bool.and_eq_true, Bool.not_eq_true', List.isEmpty_eq_false_iff] at h1
    exact ⟨h1.1.1, h1.1.2, itemsGood_all hT hT2 hC hch os h1.2 (by simpa [poNoBoolPfx] using h2)⟩
theorem posFit_all {T : Tables} (hT : TablesOK T) (hT2 : TablesOK2 T) {C : Cfg} (hC : CfgOK T C) {ch : Choices} (hch : choicesOK ch = true) : (pos : List PO) → posWf T pos = true → posNoBoolPfx pos = true → ∀ po ∈ pos, POFit T C ch po
  | [], _, _ => by intro o ho; cases ho
  | a :: pos, h1, h2 => by
    simp only [posWf, Bool.and_eq_true] at h1
    simp only [posNoBoolPfx, Bool.and_eq_true] at h2
    have ha := poFit_all hT hT2 hC hch a h1.1 h2.1
    have hos := posFit_all hT hT2 hC hch pos h1.2 h2.2
    intro po hpo
    rcases List.mem_cons.1 hpo with h | h
    · exact h ▸ ha
    · exact hos po h
end

section
variable {T : Tables} (hT : TablesOK T) (hT2 : TablesOK2 T) {C : Cfg} (hC : CfgOK T C)
variable {ch : Choices} (hch : choicesOK ch = true)

include hT hT2 hC in
theorem subjAt_coll (top : Bool) (items : List Obj) (hne : items ≠ []) (hgood : ∀ o ∈ items, ObjGood T C ch o)
    (hwf : ∀ o ∈ items, objWf T o = true) : SubjAt T C ch top (.coll items) := by
  intro i x g s inp R st st1 sT qs hxs hxg hd hin
  obtain ⟨o1, os1, rfl⟩ := List.exists_cons_of_ne_nil hne
  simp only [dSubj, dObj] at hd
  cases hdi : dItems C.resolve g st.fresh.2 st.fresh.1 (o1 :: os1) with
  | none => simp [hdi] at hd
  | some res =>
    obtain ⟨qs1, st2⟩ := res
    simp only [hdi, Option.some.injEq, Prod.mk.injEq] at hd
    obtain ⟨rfl, rfl, rfl⟩ := hd
    let k := i + 1 + itemsSlots (o1 :: os1)
    let bn := (envOf st).fresh.1
    let nx : Ectx := { x with subj := some bn }
    let nx' : Ectx := { x with subj := some bn, pred := some (.iri TtlDoc.rdfFirst) }
    let S : List Frame := ⟨nx, .polRequired⟩ :: ⟨nx, .polContinue⟩ :: (if top then ⟨x, .triplesEnd⟩ :: ⟨x, .statement⟩ :: s else s)
    have hfc : Follows C (pPunct ⟨T, ch⟩ k 0x29 R) 0x29 (after T .punct (ch.at k) R) :=
      follows_punct hT2 hC (by decide) _
    have htx : pSubj ⟨T, ch⟩ i (.coll (o1 :: os1)) R = 0x28 :: after T .punct (ch.at i) (pItems ⟨T, ch⟩ (i + 1) (o1 :: os1)
        (pPunct ⟨T, ch⟩ k 0x29 R)) := by simp [pSubj, pObj, pPunct, k]
    obtain ⟨c0, r0, hf0, _, _, n3, _⟩ := pObj_follows hT hT2 hC o1 (hwf o1 (by simp)) (i + 1)
      (pItems ⟨T, ch⟩ (i + 1 + objSlots o1) os1 (pPunct ⟨T, ch⟩ k 0x29 R))
    have hf0' : Follows C (pItems ⟨T, ch⟩ (i + 1) (o1 :: os1) (pPunct ⟨T, ch⟩ k 0x29 R)) c0 r0 := by simpa [pItems] using hf0
    have s4 := items_good hT hT2 hC (o1 :: os1) hgood hwf (i + 1) nx' S (c0 :: r0) _ _ g st.fresh.2 st2 qs1
      st.fresh.1 (by simp) hfc (envOf_fresh1 st ▸ rfl) rfl hxg hdi hf0'.skEq
    refine ⟨_, true, nx, x, after_skip_at T C ch .punct k R, envOf_fresh1 st ▸ rfl, hxg, (by simp [subjIsBnpl]), ?_⟩
    have s3 := Steps.fol (s := S) (inp := c0 :: r0) hf0'.skEq hf0'
      (fn_collOpenSubj_item x _ bn c0 r0 n3 hxs) (by simpa [nx'] using s4)
    have hA := after_skip_at T C ch .punct i (pItems ⟨T, ch⟩ (i + 1) (o1 :: os1) (pPunct ⟨T, ch⟩ k 0x29 R))
    cases top with
    | true =>
      have s2 := Steps.fol (s := ⟨x, .statement⟩ :: s) hA hf0' (fn_parenTop_item x _ bn c0 r0 n3) (by simpa [nx, S] using s3)
      simpa using Steps.punct hT2 hC (s := s) hin htx (by decide) (fn_statement_paren x (envOf st) _)
        (by simpa [bn, envOf_fresh2] using s2)
    | false =>
      have s2 := Steps.fol (s := s) hA hf0' (fn_parenBlock_item x _ bn c0 r0 n3) (by simpa [nx, S] using s3)
      simpa using Steps.punct hT2 hC (s := s) hin htx (by decide) (fn_triples_paren x (envOf st) _)
        (by simpa [bn, envOf_fresh2] using s2)

include hT hT2 hC hch in
theorem subjAt_bnpl (top : Bool) (pos : List PO) (hne : pos ≠ []) (hfit : ∀ po ∈ pos, POFit T C ch po) :
    SubjAt T C ch top (.bnpl pos) := by
  intro i x g s inp R st st1 sT qs hxs hxg hd hin
  simp only [dSubj, dObj] at hd
  cases hdp : dPOs C.resolve st.fresh.1 g st.fresh.2 pos with
  | none => simp [hdp] at hd
  | some res =>
    obtain ⟨qs1, st2⟩ := res
    simp only [hdp, Option.some.injEq, Prod.mk.injEq] at hd
    obtain ⟨rfl, rfl, rfl⟩ := hd
    let k := i + 1 + posSlots pos
    let bn := (envOf st).fresh.1
    let x' : Ectx := { x with subj := some bn }
    have htx : pSubj ⟨T, ch⟩ i (.bnpl pos) R = 0x5b :: after T .punct (ch.at i) (pPOs ⟨T, ch⟩ (i + 1) pos
        (pPunct ⟨T, ch⟩ k 0x5d R)) := by simp [pSubj, pObj, pPunct, k]
    obtain ⟨c0, r0, hf0, _, _, n5d⟩ := pPOs_follows hT2 hC pos hne hfit (i + 1) (pPunct ⟨T, ch⟩ k 0x5d R)
    have hA := after_skip_at T C ch .punct i (pPOs ⟨T, ch⟩ (i + 1) pos (pPunct ⟨T, ch⟩ k 0x5d R))
    have inner : ∀ (req : Bool) (S : List Frame) (inp0 : List Nat), SkEq C inp0 (pPOs ⟨T, ch⟩ (i + 1) pos (pPunct ⟨T, ch⟩ k 0x5d R)) →
        Steps C .eof ⟨⟨x', if req then .polRequired else .pol⟩ :: ⟨x', .polContinue⟩ :: ⟨x', .bnplEnd⟩ :: S, inp0, envOf st.fresh.2⟩
          (qs1.map toStmt) ⟨S, after T .punct (ch.at k) R, envOf st2⟩ := fun req S inp0 h0 =>
      bnpl_inner hT hT2 hC hch pos hfit (i + 1) k x' S inp0 R g st.fresh.2 st2 qs1 st.fresh.1 req (envOf_fresh1 st ▸ rfl) hxg
        (fun h => absurd h hne) hdp h0
    refine ⟨_, false, x', x', after_skip_at T C ch .punct k R, envOf_fresh1 st ▸ rfl, hxg, (fun _ => rfl), ?_⟩
    cases top with
    | false =>
      simpa using Steps.punct hT2 hC (s := s) hin htx (by decide) (fn_triples_bracket x (envOf st) _)
        (by simpa [x', bn, envOf_fresh2] using inner false (⟨x', .pol⟩ :: ⟨x', .polContinue⟩ :: s) _ hA)
    | true =>
      cases htr : C.trig with
      | false =>
        have s2 := Steps.fol (s := ⟨x, .statement⟩ :: s) hA hf0 (fn_subjAnon_item x' _ c0 r0 n5d) (by simpa using inner true _ _ hf0.skEq)
        simpa using Steps.punct hT2 hC (s := s) hin htx (by decide) (fn_statement_ttl_bracket htr x (envOf st) _)
          (by simpa [x', bn, envOf_fresh2] using s2)
      | true =>
        have s3 := Steps.fol (s := ⟨x, .statement⟩ :: s) (inp := c0 :: r0) hf0.skEq hf0
          (fn_triples2BNPL_item x' _ c0 r0 n5d) (by simpa using inner false _ _ hf0.skEq)
        have s2 := Steps.fol (s := ⟨x, .statement⟩ :: s) hA hf0 (fn_tgBracket_item x _ bn c0 r0 n5d) (by simpa [x'] using s3)
        simpa using Steps.punct hT2 hC (s := s) hin htx (by decide) (fn_statement_trig_bracket htr x (envOf st) _)
          (by simpa [bn, envOf_fresh2] using s2)

include hT hT2 hC hch in
theorem subjBody_flat (sj : Subj) (hwf : subjWf T sj = true) (hfl : subjFlat sj = true) : SubjBodyGood T C ch sj := by
  intro i xg g s inp R st st1 sT qs hxs hxg hd hin
  cases sj with
  | iri x1 =>
    simp only [dSubj, dObj, Option.map_eq_some_iff, Prod.mk.injEq] at hd
    obtain ⟨ii, hii, rfl, rfl, rfl⟩ := hd
    obtain ⟨c0, tl0, A, htx, hA, _, htok, _⟩ := iri_tok (ch := ch) hT hT2 hC x1 (by simpa [subjWf] using hwf) st ii hii i R
    exact ⟨A, true, { xg with subj := some (.iri ii) }, hA, rfl, hxg, by simp [subjIsBnpl],
      by simpa using subj_run (s := s) htok (by simpa [pSubj, pObj, htx] using hin) (fn_triples_tok htok)⟩
  | bn l =>
    simp only [dSubj, dObj, Option.some.injEq, Prod.mk.injEq] at hd
    obtain ⟨rfl, rfl, rfl⟩ := hd
    obtain ⟨tl0, A, htx, hA, htok⟩ := bn_tok (ch := ch) hT hT2 hC l (by simpa [subjWf] using hwf) (envOf st) i R
    exact ⟨A, true, { xg with subj := some (.bnode (.lbl l)) }, hA, rfl, hxg, by simp [subjIsBnpl],
      by simpa using subj_run (s := s) htok (by simpa [pSubj, pObj, htx] using hin) (fn_triples_tok htok)⟩
  | anon =>
    simp only [dSubj, dObj, Option.some.injEq, Prod.mk.injEq] at hd
    obtain ⟨rfl, rfl, rfl⟩ := hd
    have htx : pSubj ⟨T, ch⟩ i .anon R = 0x5b :: after T .punct (ch.at i) (0x5d :: after T .punct (ch.at (i + 1)) R) := by
      simp [pSubj, pObj, pPunct]
    let x' : Ectx := { xg with subj := some (envOf st).fresh.1 }
    refine ⟨_, false, x', after_skip_at T C ch .punct (i + 1) R, rfl, hxg, (by simp [subjIsBnpl]), ?_⟩
    have s2 := bnpl_inner hT hT2 hC hch [] (by simp) (i + 1) (i + 1) x' (⟨x', .pol⟩ :: ⟨x', .polContinue⟩ :: s) _ R g
      st.fresh.2 st.fresh.2 [] st.fresh.1 false rfl hxg (fun _ => rfl) rfl (after_skip_at T C ch .punct i _)
    simpa [envOf_fresh] using Steps.punct hT2 hC (s := s) hin htx (by decide) (fn_triples_bracket xg (envOf st) _)
      (by simpa [x', pPOs, pPunct, envOf_fresh2] using s2)
  | bnpl pos => simp [subjFlat] at hfl
  | coll items =>
    cases items with
    | cons a b => simp [subjFlat] at hfl
    | nil => exact (subjAt_nil hT2 hC false).body i xg g s inp R st st1 sT qs hxs hxg hd hin

include hT hT2 hC hch in
theorem subjTop_all (sj : Subj) (hwf : subjWf T sj = true) (hnb : subjNoBoolPfx sj = true) : SubjTopGood T C ch sj := by
  cases sj with
  | iri x1 => exact subjTop_iri hT hT2 hC x1 (by simpa [subjWf] using hwf)
  | bn l => exact subjTop_bn hT hT2 hC l (by simpa [subjWf] using hwf)
  | anon => exact subjTop_anon hT2 hC
  | bnpl pos =>
    simp only [subjWf, Bool.and_eq_true, Bool.not_eq_true', List.isEmpty_eq_false_iff] at hwf
    exact (subjAt_bnpl hT hT2 hC hch true pos hwf.1 (posFit_all hT hT2 hC hch pos hwf.2 (by simpa [subjNoBoolPfx] using hnb))).top
  | coll items =>
    have hall := itemsGood_all hT hT2 hC hch items (by simpa [subjWf] using hwf) (by simpa [subjNoBoolPfx] using hnb)
    have hw : ∀ o ∈ items, objWf T o = true := itemsWf_mem (by simpa [subjWf] using hwf)
    cases items with
    | nil => exact (subjAt_nil hT2 hC true).top
    | cons a b => exact (subjAt_coll hT hT2 hC true (a :: b) (by simp) hall hw).top

include hT hT2 hC hch in
theorem subjBody_all (sj : Subj) (hwf : subjWf T sj = true) (hnb : subjNoBoolPfx sj = true) : SubjBodyGood T C ch sj := by
  cases sj with
  | iri x1 => exact subjBody_flat hT hT2 hC hch (.iri x1) hwf (by simp [subjFlat])
  | bn l => exact subjBody_flat hT hT2 hC hch (.bn l) hwf (by simp [subjFlat])
  | anon => exact subjBody_flat hT hT2 hC hch .anon hwf (by simp [subjFlat])
  | bnpl pos =>
    simp only [subjWf, Bool.and_eq_true, Bool.not_eq_true', List.isEmpty_eq_false_iff] at hwf
    exact (subjAt_bnpl hT hT2 hC hch false pos hwf.1 (posFit_all hT hT2 hC hch pos hwf.2 (by simpa [subjNoBoolPfx] using hnb))).body
  | coll items =>
    have hall := itemsGood_all hT hT2 hC hch items (by simpa [subjWf] using hwf) (by simpa [subjNoBoolPfx] using hnb)
    have hw : ∀ o ∈ items, objWf T o = true := itemsWf_mem (by simpa [subjWf] using hwf)
    cases items with
    | nil => exact subjBody_flat hT hT2 hC hch (.coll []) hwf (by simp [subjFlat])
    | cons a b => exact (subjAt_coll hT hT2 hC false (a :: b) (by simp) hall hw).body

include hT hT2 hC in
theorem pSubj_follows_all (sj : Subj) (hwf : subjWf T sj = true) (i : Nat) (R : List Nat) :
    ∃ c r, Follows C (pSubj ⟨T, ch⟩ i sj R) c r ∧ c ≠ 0x7d := by
  have key : ∀ o : Obj, objWf T o = true → ∃ c r, Follows C (pObj ⟨T, ch⟩ i o R) c r ∧ c ≠ 0x7d := fun o ho =>
    let ⟨c, r, h1, _, _, _, h4⟩ := pObj_follows hT hT2 hC o ho i R; ⟨c, r, h1, h4⟩
  cases sj <;> exact key _ (by simp_all [subjWf, objWf])

include hT hT2 hC hch in
theorem blockFit_all (b : Block) (hwf : blockWf T C.trig b = true) (hnb : blockNoBoolPfx b = true) : BlockFit T C ch b := by
  have htr : ∀ t, triplesWf T t = true → triplesNoBoolPfx t = true →
      subjWf T t.s = true ∧ subjNoBoolPfx t.s = true ∧ (t.pos ≠ [] ∨ subjIsBnpl t.s = true) ∧ ∀ po ∈ t.pos, POFit T C ch po := by
    intro t h1 h3
    simp only [triplesWf, Bool.and_eq_true, Bool.or_eq_true, Bool.not_eq_true', List.isEmpty_eq_false_iff] at h1
    simp only [triplesNoBoolPfx, Bool.and_eq_true] at h3
    exact ⟨h1.1.1, h3.1, h1.2, posFit_all hT hT2 hC hch t.pos h1.1.2 h3.2⟩
  cases b with
  | dir d => simpa [BlockFit, blockWf] using hwf
  | triples t =>
    obtain ⟨a, b', c, d⟩ := htr t (by simpa [blockWf] using hwf) (by simpa [blockNoBoolPfx] using hnb)
    exact ⟨subjTop_all hT hT2 hC hch t.s a b', c, d⟩
  | graph kw g body =>
    simp only [blockWf, Bool.and_eq_true, List.all_eq_true] at hwf
    simp only [blockNoBoolPfx, List.all_eq_true] at hnb
    refine ⟨hwf.1.1, ?_, ?_⟩
    · cases g with
      | none => simpa using hwf.1.2
      | some l => simpa using hwf.1.2
    · intro t ht
      obtain ⟨a, b', c, d⟩ := htr t (hwf.2 t ht) (hnb t ht)
      exact ⟨subjBody_all hT hT2 hC hch t.s a b', fun i R => pSubj_follows_all hT hT2 hC t.s a i R, c, d⟩

section -- the statement binds `hfl`, which it does not use
set_option linter.unusedVariables false

include hT hT2 hC hch in
theorem blockFit_flat (b : Block) (hwf : blockWf T C.trig b = true) (hfl : blockFlat b = true) (hnb : blockNoBoolPfx b = true) :
    BlockFit T C ch b :=
  blockFit_all hT hT2 hC hch b hwf hnb

end

end
end RdfModel.C08
