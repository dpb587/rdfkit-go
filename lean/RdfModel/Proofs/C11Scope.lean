import RdfModel.Spec.RdfaFragment
import RdfModel.Spec.MicrodataFragment
namespace RdfModel.Spec.Rdfa
open RdfModel RdfModel.Spec.Html RdfModel.Desc

theorem curie_undeclared (E : Env) (v p r : Str) (hs : splitColon v = some (p, r)) (h1 : p ≠ [0x5f]) (h2 : p ≠ [])
    (hl : alookup (toLowerAscii p) E.prefixes = none) : curie E v = .notCurie := by
  unfold curie
  simp only [hs, h1, h2, if_false]
  split
  · simp [hl]
  · rfl

theorem curie_declared (E : Env) (v p r ns : Str) (hs : splitColon v = some (p, r)) (h1 : p ≠ [0x5f]) (h2 : p ≠ [])
    (hn : isNCName p = true) (hl : alookup (toLowerAscii p) E.prefixes = some ns) :
    curie E v = .term (.iri (ns ++ r)) := by
  unfold curie
  simp [hs, h1, h2, hn, hl]

theorem resTCA_undeclared (E : Env) (v p r : Str) (hs : splitColon v = some (p, r)) (h1 : p ≠ [0x5f]) (h2 : p ≠ [])
    (hl : alookup (toLowerAscii p) E.prefixes = none) : resTCA E v = some v := by
  unfold resTCA
  simp [hs, curie_undeclared E v p r hs h1 h2 hl]

theorem resSCI_undeclared (E : Env) (v p r : Str) (hsafe : safeInner v = none) (hs : splitColon v = some (p, r))
    (h1 : p ≠ [0x5f]) (h2 : p ≠ []) (hl : alookup (toLowerAscii p) E.prefixes = none) :
    resSCI E v = some (.iri (resolveRef E.base v)) := by
  unfold resSCI
  simp [hsafe, curie_undeclared E v p r hs h1 h2 hl]

theorem elemLocal_prefixes (C : Ctx) (lm : LM) (n : Nat) (tag : Tag) (a : Attrs) (txt : Str) :
    (elemLocal C lm n tag a txt).kid.env.prefixes =
      (match a.pfx with | some p => prefixDecls (fields p) | none => []) ++ C.env.prefixes := by
  unfold elemLocal
  dsimp only
  rw [apply_ite Ctx.env, apply_ite Env.prefixes]
  simp
  cases a.pfx <;> rfl

/-- siblings: the evaluation context (prefix mappings, vocabulary, …) of the following siblings is the parent's
    own `C`; only the list mapping and the blank-node counter are threaded through -/
theorem procKids_cons (C : Ctx) (lm : LM) (n : Nat) (k : Tree) (ks : List Tree) :
    procKids C lm n (k :: ks) =
      { out := (procNode C lm n k).out ++ (procKids C (procNode C lm n k).lm (procNode C lm n k).next ks).out,
        lm := (procKids C (procNode C lm n k).lm (procNode C lm n k).next ks).lm,
        next := (procKids C (procNode C lm n k).lm (procNode C lm n k).next ks).next } := by
  rw [procKids]

end RdfModel.Spec.Rdfa

namespace RdfModel.Spec.Microdata
open RdfModel RdfModel.Spec.Html RdfModel.Desc

mutual
/-- rewrite the `id` attribute of every element: `f position old` is the new one -/
def reId (f : Path → Option Str → Option Str) (here : Path) : Tree → Tree
  | .text s => .text s
  | .elem tag a ks => .elem tag { a with id := f here a.id } (reIdKids f here 0 ks)
def reIdKids (f : Path → Option Str → Option Str) (here : Path) (i : Nat) : List Tree → List Tree
  | [] => []
  | k :: ks => reId f (here ++ [i]) k :: reIdKids f here (i + 1) ks
end

mutual
/-- every `itemref` token of the document -/
def refTokens : Tree → List Str
  | .text _ => []
  | .elem _ a ks => (match a.itemref with | some v => fields v | none => []) ++ refTokensKids ks
def refTokensKids : List Tree → List Str
  | [] => []
  | k :: ks => refTokens k ++ refTokensKids ks
end

mutual
theorem findIdNode_reId (f : Path → Option Str → Option Str) (r : Str)
    (hf : ∀ p o, f p o = some r ↔ o = some r) (here : Path) :
    ∀ t : Tree, findIdNode r here (reId f here t) = findIdNode r here t
  | .text _ => by simp [reId, findIdNode]
  | .elem tag a ks => by
    simp only [reId, findIdNode]
    by_cases h : a.id = some r
    · have : f here a.id = some r := (hf here a.id).mpr h
      rw [if_pos this, if_pos h]
    · have : ¬ f here a.id = some r := fun h' => h ((hf here a.id).mp h')
      rw [if_neg this, if_neg h, findIdKids_reId f r hf here 0 ks]
theorem findIdKids_reId (f : Path → Option Str → Option Str) (r : Str)
    (hf : ∀ p o, f p o = some r ↔ o = some r) (here : Path) (i : Nat) :
    ∀ ks : List Tree, findIdKids r here i (reIdKids f here i ks) = findIdKids r here i ks
  | [] => by simp [reIdKids, findIdKids]
  | k :: ks => by
    simp only [reIdKids, findIdKids]
    rw [findIdNode_reId f r hf (here ++ [i]) k, findIdKids_reId f r hf here (i + 1) ks]
end

end RdfModel.Spec.Microdata
