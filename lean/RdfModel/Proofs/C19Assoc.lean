import RdfModel.Model.Dataset
namespace RdfModel.Proofs.C19
open RdfModel.DS

variable {κ α : Type} [DecidableEq κ]

def keys (l : List (κ × α)) : List κ := l.map (·.1)

theorem alookup_some_mem {k : κ} {v : α} {l : List (κ × α)} (h : alookup k l = some v) : (k, v) ∈ l := by
  fun_induction alookup k l <;> simp_all

theorem alookup_none_iff {k : κ} {l : List (κ × α)} : alookup k l = none ↔ k ∉ keys l := by
  fun_induction alookup k l <;> grind [keys]

theorem alookup_of_mem {k : κ} {v : α} {l : List (κ × α)} (h : (keys l).Nodup) (hm : (k, v) ∈ l) :
    alookup k l = some v := by
  fun_induction alookup k l <;> grind [keys]

theorem alookup_aset (k k' : κ) (v : α) (l : List (κ × α)) :
    alookup k' (aset k v l) = if k' = k then some v else alookup k' l := by
  fun_induction aset k v l <;> grind [alookup]

theorem alookup_append (k : κ) (l l' : List (κ × α)) :
    alookup k (l ++ l') = match alookup k l with | some v => some v | none => alookup k l' := by
  fun_induction alookup k l <;> simp_all [alookup]

theorem aset_of_alookup_none {k : κ} (v : α) {l : List (κ × α)} (h : alookup k l = none) :
    aset k v l = l ++ [(k, v)] := by
  fun_induction aset k v l <;> simp_all [alookup]

theorem mem_aset {k k' : κ} {v v' : α} {l : List (κ × α)} (h : (k', v') ∈ aset k v l) :
    (k' = k ∧ v' = v) ∨ (k', v') ∈ l := by
  fun_induction aset k v l <;> grind

theorem mem_keys_aset {k k' : κ} {v : α} {l : List (κ × α)} :
    k' ∈ keys (aset k v l) ↔ k' = k ∨ k' ∈ keys l := by
  fun_induction aset k v l <;> grind [keys]

theorem nodup_keys_aset (k : κ) (v : α) (l : List (κ × α)) (h : (keys l).Nodup) :
    (keys (aset k v l)).Nodup := by
  fun_induction aset k v l <;> grind [keys, mem_keys_aset]

end RdfModel.Proofs.C19
