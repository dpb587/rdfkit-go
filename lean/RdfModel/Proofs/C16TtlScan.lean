import RdfModel.Proofs.C16TtlErase
import RdfModel.Proofs.C16Pend
import RdfModel.Props.C16TtlDefs
namespace RdfModel.Proofs.C16Ttl
open RdfModel RdfModel.TW RdfModel.NQO RdfModel.TtlO RdfModel.Proofs.C16 RdfModel.C16Ttl RdfModel.C16

/-- One chunk `tok` committed for its range, `tok` being everything consumed. -/
structure One {α : Type} (s : S) (inp : List RP) (r : TtlO.RO α) (v : α) (tok : Chunk) (rest : List RP) : Prop where
  split : inp = tok ++ rest
  res : r = .ok v (s.doc.map (fun h => (h, tok :: h))) ⟨s.bo + size tok, s.doc.map (fun h => tok :: h)⟩ rest

theorem _root_.RdfModel.C16Ttl.InStep.pend {s : S} (h : InStep s) : Pend s 0 := fun d hd => Nat.le_of_eq (h d hd)

-- `scanString` reports `unc.drop 1` at the end of input after a `\`, `localDone` commits `unc.drop 1`; `simp` turns
-- `l.drop 1` into `l.tail` first, so it is the second form the goals need.
@[simp] theorem size_drop_one (l : List RP) : size (l.drop 1) = size l - (l.headD (0, 0)).2 := by
  cases l with
  | nil => simp
  | cons a l => simp

@[simp] theorem size_tail (l : List RP) : size l.tail = size l - (l.headD (0, 0)).2 := by
  cases l with
  | nil => simp
  | cons a l => simp

/-- Closes an error-bound goal whose error is produced right here (`h : .err _ (…) = .err c o`). -/
macro "err_here" h:ident hp:ident : tactic => `(tactic| (
  simp only [TtlO.RO.err.injEq] at $h:ident
  have hh := And.right $h:ident
  subst hh
  first
    | (simp [EOff.bound]; done)
    | (apply bound_offErr
       · intro hh hd
         have := $hp:ident hh (by simpa using hd)
         first | omega | (simp at this ⊢ <;> omega) | (simp <;> omega)
       · first | omega | (simp <;> omega))))

/-- The invariant after one more rune has been read and kept pending. -/
macro "pend_next" hp:ident : tactic => `(tactic| (
  intro hh hd
  have := $hp:ident hh (by simpa using hd)
  first | omega | (simp at this ⊢ <;> omega) | (simp <;> omega)))

/-- The scanners that stop after the delimiter `d`: they consumed `tok`, which ends in `d`, and committed what was
    on `unc` plus `tok` as one chunk, for its range. -/
def ScanOK (d : Nat) (s : S) (inp : List RP) (unc : Chunk) (rg : Option SRange) (s' : S) (rest : List RP) : Prop :=
  ∃ tok, inp = tok ++ rest ∧ tok ≠ [] ∧ (runes tok).getLast? = some d ∧
    rg = s.doc.map (fun h => (h, (unc.reverse ++ tok) :: h)) ∧
    s' = ⟨s.bo + size tok, s.doc.map (fun h => (unc.reverse ++ tok) :: h)⟩

theorem scan_step {d : Nat} {c : RP} {rest0 rest : List RP} {unc : Chunk} {s s' : S} {rg : Option SRange}
    (h : ScanOK d (s.read c) rest0 (c :: unc) rg s' rest) : ScanOK d s (c :: rest0) unc rg s' rest := by
  obtain ⟨tok, rfl, _, h3, rfl, rfl⟩ := h
  exact ⟨c :: tok, rfl, by simp, getLast?_cons_some h3, by simp, by simp [Nat.add_assoc]⟩

/-- The scanners that may hand their last rune back (a final `.`): the chunk `tok` with `Q tok` — what was on `unc`
    plus part of `inp`, possibly minus that rune — is committed; the range reported is `f` of the chunk's. -/
def Back (Q : Chunk → Prop) (f : Option SRange → Option SRange) (s : S) (inp : List RP) (unc : Chunk)
    (rg : Option SRange) (s' : S) (rest : List RP) : Prop :=
  ∃ tok, unc.reverse ++ inp = tok ++ rest ∧ Q tok ∧ rg = f (s.doc.map (fun h => (h, tok :: h))) ∧
    s'.doc = s.doc.map (fun h => tok :: h) ∧ s'.bo + size unc = s.bo + size tok

theorem back_step {Q : Chunk → Prop} {f : Option SRange → Option SRange} {c : RP} {rest0 rest : List RP} {unc : Chunk}
    {s s' : S} {rg : Option SRange} (h : Back Q f (s.read c) rest0 (c :: unc) rg s' rest) :
    Back Q f s (c :: rest0) unc rg s' rest := by
  obtain ⟨tok, h1, h2, rfl, h4, h5⟩ := h
  refine ⟨tok, by simpa using h1, h2, by simp, by simpa using h4, ?_⟩
  simp at h5; omega

/-- The LANGTAG loops: `t` further runes consumed; `@` committed, then the tag. -/
def LangOK (a0 : RP) (s : S) (inp : List RP) (tagRev : Chunk) (v : List Nat) (rg : Option SRange) (s' : S)
    (rest : List RP) : Prop :=
  ∃ t, inp = t ++ rest ∧ v = goString (runes (tagRev.reverse ++ t)) ∧
    rg = s.doc.map (fun h => ([a0] :: h, (tagRev.reverse ++ t) :: [a0] :: h)) ∧
    s' = ⟨s.bo + size t, s.doc.map (fun h => (tagRev.reverse ++ t) :: [a0] :: h)⟩

theorem lang_step {c a0 : RP} {rest0 rest : List RP} {tagRev : Chunk} {s s' : S} {v : List Nat}
    {rg : Option SRange} (h : LangOK a0 (s.read c) rest0 (c :: tagRev) v rg s' rest) :
    LangOK a0 s (c :: rest0) tagRev v rg s' rest := by
  obtain ⟨t, rfl, rfl, rfl, rfl⟩ := h
  exact ⟨c :: t, rfl, by simp, by simp, by simp [Nat.add_assoc]⟩

/-- The producer consumed `tok` and committed it as one chunk, for its range. -/
def OneChunk (s : S) (inp tok : List RP) (rg : Option SRange) (s' : S) (rest : List RP) : Prop :=
  inp = tok ++ rest ∧ rg = s.doc.map (fun h => (h, tok :: h)) ∧
    s' = ⟨s.bo + size tok, s.doc.map (fun h => tok :: h)⟩

/-- The producer consumed `pre ++ body`, committed `pre` and then `body`; the range is that of
    `body` (`whole = false`) or runs from the start of `pre` to the end of `body` (`whole = true`). -/
def TwoChunk (whole : Bool) (s : S) (inp pre body : List RP) (rg : Option SRange) (s' : S) (rest : List RP) : Prop :=
  inp = pre ++ body ++ rest ∧
    rg = s.doc.map (fun h => (if whole then h else pre :: h, body :: pre :: h)) ∧
    s' = ⟨s.bo + size pre + size body, s.doc.map (fun h => body :: pre :: h)⟩

theorem consumed_one {s : S} {inp tok : List RP} {rg : Option SRange} {s' : S} {rest : List RP}
    (h : OneChunk s inp tok rg s' rest) : Consumed s inp [] tok rg s' rest := by
  obtain ⟨rfl, rfl, rfl⟩ := h
  refine ⟨by simp, by simp, ?_, ?_, ?_, ?_⟩
  · cases s.doc <;> simp
  · intro h hh; simp [hh]
  · intro h hh; simp only [hh, Option.map_some]; exact ⟨_, _, rfl, by simp, by simp⟩
  · intro hh; simp [hh]

theorem consumed_two_body {s : S} {inp pre body : List RP} {rg : Option SRange} {s' : S} {rest : List RP}
    (h : TwoChunk false s inp pre body rg s' rest) : Consumed s inp pre body rg s' rest := by
  obtain ⟨rfl, rfl, rfl⟩ := h
  refine ⟨rfl, by simp [Nat.add_assoc], ?_, ?_, ?_, ?_⟩
  · cases s.doc <;> simp
  · intro h hh; simp [hh, List.append_assoc]
  · intro h hh; simp only [hh, Option.map_some]; exact ⟨_, _, rfl, by simp, by simp [List.append_assoc]⟩
  · intro hh; simp [hh]

theorem consumed_two_whole {s : S} {inp pre body : List RP} {rg : Option SRange} {s' : S} {rest : List RP}
    (h : TwoChunk true s inp pre body rg s' rest) : Consumed s inp [] (pre ++ body) rg s' rest := by
  obtain ⟨rfl, rfl, rfl⟩ := h
  refine ⟨by simp, by simp [Nat.add_assoc], ?_, ?_, ?_, ?_⟩
  · cases s.doc <;> simp
  · intro h hh; simp [hh, List.append_assoc]
  · intro h hh; simp only [hh, Option.map_some]; exact ⟨_, _, rfl, by simp, by simp [List.append_assoc]⟩
  · intro hh; simp [hh]

theorem back_state {s s' : S} {tok : Chunk} (hd : s'.doc = s.doc.map (fun h => tok :: h)) (hb : s'.bo = s.bo + size tok) :
    s' = ⟨s.bo + size tok, s.doc.map (fun h => tok :: h)⟩ := by
  cases s'; simp only [S.mk.injEq] at *; exact ⟨hb, hd⟩

theorem scanIRIREF_scan (T : Tables) (e : End) (st : SState) (s : S) (inp : List RP) (acc : List Nat) (unc : Chunk) :
    Scan (fun _ => ScanOK 0x3e s inp unc) s (size unc) inp (TtlO.scanIRIREF T e st s inp acc unc) := by
  fun_induction TtlO.scanIRIREF T e st s inp acc unc
  case case4 s c rest0 acc unc hc =>      -- the closing `>`
    exact ⟨[c], by simp, by simp, by simp [hc], by simp, by simp [S.commit]⟩
  all_goals first
    | exact .err0
    | exact .offErr (by simp)
    | exact .readErr (by simp)
    | (rename_i ih; exact .read ih fun _ _ _ _ => scan_step)

theorem produceIRIREF_scan (T : Tables) (e : End) (s : S) (inp : List RP) :
    Scan (fun _ rg s' rest => ∃ tok, OneChunk s inp tok rg s' rest ∧ (runes tok).head? = some 0x3c ∧
      (runes tok).getLast? = some 0x3e ∧ 2 ≤ tok.length) s 0 inp (TtlO.produceIRIREF T e s inp) := by
  cases inp with
  | nil => exact .err0
  | cons c r =>
    refine ite_ind (fun hc => ?_) fun _ => .readErr (by simp)
    refine .read (scanIRIREF_scan T e .body (s.read c) r [] [c]) fun _ _ _ _ h => ?_
    obtain ⟨tok, rfl, h2, h3, rfl, rfl⟩ := h
    refine ⟨c :: tok, ⟨rfl, by simp, by simp [Nat.add_assoc]⟩, by simp [hc], getLast?_cons_some h3, ?_⟩
    cases tok with
    | nil => exact absurd rfl h2
    | cons _ _ => simp

theorem scanString_scan (T : Tables) (e : End) (delim : Nat) (triple : Bool) (st : SState) (s : S)
    (inp : List RP) (acc : List Nat) (unc : Chunk) :
    Scan (fun _ => ScanOK delim s inp unc) s (size unc) inp (TtlO.scanString T e delim triple st s inp acc unc) := by
  fun_induction TtlO.scanString T e delim triple st s inp acc unc
  case case4 s c rest0 acc unc _ hc _ =>                  -- the closing quote of a short string
    exact ⟨[c], by simp, by simp, by simp [hc], by simp, by simp [S.commit]⟩
  case case7 s c acc unc _ hc _ c1 hc1 c2 rest0 hc2 =>    -- the three closing quotes of a long string
    exact ⟨[c, c1, c2], by simp, by simp, by simp [hc2], by simp, by simp [S.commit, Nat.add_assoc]⟩
  case case6 => exact .read' (.readErr (by simp <;> omega))   -- end of input after two of them: two runes read
  all_goals first
    | exact .err0
    | exact .offErr (by simp <;> omega)
    | exact .readErr (by simp <;> omega)
    | (rename_i ih; exact .read ih fun _ _ _ _ => scan_step)

theorem produceString_scan (T : Tables) (e : End) (s : S) (inp : List RP) :
    Scan (fun _ rg s' rest => ∃ tok q, OneChunk s inp tok rg s' rest ∧ (q = 0x22 ∨ q = 0x27) ∧ (runes tok).head? = some q ∧
      (runes tok).getLast? = some q ∧ 2 ≤ tok.length) s 0 inp (TtlO.produceString T e false s inp) := by
  cases inp with
  | nil => exact .err0
  | cons q r =>
    refine ite_ind (fun hq => ?_) fun _ => .readErr (by simp)
    -- the empty string `""`
    have two : ∀ c1 rest, c1.1 = q.1 → ∃ tok q', OneChunk s (q :: c1 :: rest) tok
        (((s.read q).read c1).range [q, c1]) (((s.read q).read c1).commit [q, c1]) rest ∧ (q' = 0x22 ∨ q' = 0x27) ∧
        (runes tok).head? = some q' ∧ (runes tok).getLast? = some q' ∧ 2 ≤ tok.length := fun c1 rest hc1 =>
      ⟨[q, c1], q.1, ⟨rfl, by simp, by simp [S.commit, Nat.add_assoc]⟩, hq, by simp, by simp [hc1], by simp⟩
    cases r with
    | nil => exact .readErr (by simp)
    | cons c1 r1 =>
      refine ite_ind (fun hc1 => ?_) fun _ => ?_
      · cases r1 with
        | nil =>
          cases e
          · exact two c1 [] hc1
          · exact .read' (.readErr (by simp <;> omega))
        | cons c2 r2 =>
          refine ite_ind (fun hc2 => ?_) fun _ => two c1 _ hc1
          refine .read' (.read' (.read (.mono (scanString_scan T e q.1 true .body _ r2 [] [c2, c1, q])
            (by simp <;> omega)) fun _ _ _ _ h => ?_))
          obtain ⟨tok, rfl, h2, h3, rfl, rfl⟩ := h
          exact ⟨q :: c1 :: c2 :: tok, q.1, ⟨rfl, by simp, by simp [Nat.add_assoc]⟩, hq, by simp,
            getLast?_cons_some (getLast?_cons_some (getLast?_cons_some h3)), by simp⟩
      · refine .read (scanString_scan T e q.1 false .body (s.read q) (c1 :: r1) [] [q]) fun _ _ _ _ h => ?_
        obtain ⟨tok, hsp, h2, h3, rfl, rfl⟩ := h
        refine ⟨q :: tok, q.1, ⟨by rw [List.cons_append, ← hsp], by simp, by simp [Nat.add_assoc]⟩, hq, by simp,
          getLast?_cons_some h3, ?_⟩
        cases tok with
        | nil => exact absurd rfl h2
        | cons _ _ => simp

-- Through `produceLANGTAG` the `@` (`a0`) and the tag read so far are pending: the measure is `size (tagRev ++ [a0])`.
theorem langDone_scan (s : S) (a0 : RP) (tagRev : Chunk) (rest0 : List RP) :
    Scan (LangOK a0 s rest0 tagRev) s (size (tagRev ++ [a0])) rest0 (TtlO.langDone s a0 tagRev rest0) := by
  cases tagRev with
  | nil => exact ⟨[], by simp, by simp, by simp [Function.comp_def], by simp [S.commit, Function.comp_def]⟩
  | cons l more =>
    exact ite_ind (fun _ => .offErr (by simp <;> omega)) fun _ =>
      ⟨[], by simp, by simp, by simp [Function.comp_def], by simp [S.commit, Function.comp_def]⟩

theorem langSecondary_scan (e : End) (a0 : RP) (s : S) (inp : List RP) (tagRev : Chunk) :
    Scan (LangOK a0 s inp tagRev) s (size (tagRev ++ [a0])) inp (TtlO.langSecondary e a0 s inp tagRev) := by
  fun_induction TtlO.langSecondary e a0 s inp tagRev
  all_goals first
    | exact langDone_scan ..
    | exact .offErr (by simp <;> omega)
    | exact .readErr (by simp <;> omega)
    | (rename_i ih; exact .read ih fun _ _ _ _ => lang_step)

theorem langPrimary_scan (e : End) (a0 : RP) (s : S) (inp : List RP) (tagRev : Chunk) :
    Scan (LangOK a0 s inp tagRev) s (size (tagRev ++ [a0])) inp (TtlO.langPrimary e a0 s inp tagRev) := by
  fun_induction TtlO.langPrimary e a0 s inp tagRev
  all_goals first
    | exact langDone_scan ..
    | exact .offErr (by simp <;> omega)
    | exact .readErr (by simp <;> omega)
    | exact .read (langSecondary_scan e a0 _ _ _) fun _ _ _ _ => lang_step
    | (rename_i ih; exact .read ih fun _ _ _ _ => lang_step)

theorem produceLANGTAG_scan (e : End) (s : S) (inp : List RP) :
    Scan (fun v rg s' rest => ∃ a0 tag, TwoChunk false s inp [a0] tag rg s' rest ∧ a0.1 = 0x40 ∧ v = goString (runes tag))
      s 0 inp (TtlO.produceLANGTAG e s inp) := by
  cases inp with
  | nil => exact .err0
  | cons c r =>
    refine ite_ind (fun hc => ?_) fun _ => .readErr (by simp)
    refine .read (langPrimary_scan e c (s.read c) r []) fun _ _ _ _ h => ?_
    obtain ⟨t, rfl, rfl, rfl, rfl⟩ := h
    exact ⟨c, t, ⟨rfl, by simp, by simp⟩, hc, by simp⟩

-- `produceBlankNode` commits the `_:` before it reads the label: pending is the label read so far, `size labRev`.
theorem bnDone_scan (T : Tables) (labelOnly : Bool) (h0 : Option Hist) (s : S) (labRev : Chunk) (rest0 : List RP)
    (hbo : size labRev ≤ s.bo) :
    Scan (fun v => Back (fun lab => v = goString (runes lab)) (bnRange labelOnly h0) s rest0 labRev) s (size labRev) rest0
      (TtlO.bnDone T labelOnly h0 s labRev rest0) := by
  cases labRev with
  | nil => trivial
  | cons l more =>
    by_cases hl : l.1 = 0x2e
    · cases more with
      | nil =>
        simp only [TtlO.bnDone, hl, if_true]
        exact ⟨[], by simp, by simp [goString], by simp, by simp, by simp at hbo ⊢; omega⟩
      | cons z more' =>
        simp only [TtlO.bnDone, hl, if_true]
        exact ite_ind (fun _ => .offErrBack (by simp <;> omega)) fun _ =>
          ⟨(z :: more').reverse, by simp, by simp, by simp, by simp, by simp at hbo ⊢; omega⟩
    · simp only [TtlO.bnDone, hl, if_false]
      exact ite_ind (fun _ => .offErr (by simp <;> omega)) fun _ =>
        ⟨(l :: more).reverse, by simp, by simp, by simp, by simp, by simp; omega⟩

theorem bnLoop_scan (T : Tables) (e : End) (labelOnly : Bool) (h0 : Option Hist) (s : S) (inp : List RP)
    (labRev : Chunk) (hbo : size labRev ≤ s.bo) :
    Scan (fun v => Back (fun lab => v = goString (runes lab)) (bnRange labelOnly h0) s inp labRev) s (size labRev) inp
      (TtlO.bnLoop T e labelOnly h0 s inp labRev) := by
  fun_induction TtlO.bnLoop T e labelOnly h0 s inp labRev
  all_goals first
    | exact bnDone_scan _ _ _ _ _ _ hbo
    | exact .offErr (by simp)
    | (rename_i ih; exact .read (ih (by simp at hbo ⊢; omega)) fun _ _ _ _ => back_step)

theorem produceBlankNode_scan (T : Tables) (e : End) (labelOnly : Bool) (s : S) (inp : List RP) :
    Scan (fun v rg s' rest => ∃ c0 c1 lab, TwoChunk (!labelOnly) s inp [c0, c1] lab rg s' rest ∧ c0.1 = 0x5f ∧
      c1.1 = 0x3a ∧ v = goString (runes lab)) s 0 inp (TtlO.produceBlankNode T e labelOnly s inp) := by
  cases inp with
  | nil => exact .err0
  | cons c0 r0 =>
    refine ite_ind (fun _ => .readErr (by simp)) fun hc0 => ?_
    cases r0 with
    | nil => exact .readErr (by simp)
    | cons c1 r1 =>
      refine ite_ind (fun _ => .read' (.readErr (by simp <;> omega))) fun hc1 => ?_
      cases r1 with
      | nil => exact .read' (.readErr (by simp <;> omega))
      | cons c2 r2 =>
        refine ite_ind (fun _ => ?_) fun _ => .read' (.read' (.readErr (by simp <;> omega)))
        refine .read' (.read' (.read (.mono (.commit (X := [c0, c1]) (bnLoop_scan T e labelOnly s.doc _ r2 [c2] (by simp)))
          (by simp <;> omega)) fun v rg s' rest h => ?_))
        obtain ⟨lab, h1, rfl, rfl, h4, h5⟩ := h
        refine ⟨c0, c1, lab, ⟨?_, ?_, ?_⟩, by simpa using hc0, by simpa using hc1, rfl⟩
        · simp at h1; simp [h1]
        · cases hd : s.doc <;> cases labelOnly <;> simp [bnRange, hd]
        · cases s' with
          | mk bo doc =>
            simp at h4 h5
            simp only [S.mk.injEq]
            exact ⟨by simp only [size_cons, size_nil]; omega, by rw [h4]; cases s.doc <;> simp⟩

theorem numDone_scan (s : S) (acc : Chunk) (k : Option Ttl.NumKind) (rest0 : List RP) (hbo : size acc ≤ s.bo) :
    Scan (fun v => Back (fun tok => v.2 = goString (runes tok)) id s rest0 acc) s (size acc) rest0
      (TtlO.numDone s acc k rest0) := by
  cases acc with
  | nil => trivial
  | cons l more =>
    exact ite_ind (fun _ => ⟨more.reverse, by simp, by simp, by simp, by simp, by simp at hbo ⊢; omega⟩) fun _ =>
      ite_ind (fun _ => .offErr (by simp)) fun _ => ⟨(l :: more).reverse, by simp, by simp, by simp, by simp, by simp; omega⟩

theorem scanNum_scan (e : End) (st : Ttl.NState) (k : Option Ttl.NumKind) (s : S) (inp : List RP) (acc : Chunk)
    (hbo : size acc ≤ s.bo) :
    Scan (fun v => Back (fun tok => v.2 = goString (runes tok)) id s inp acc) s (size acc) inp
      (TtlO.scanNum e st k s inp acc) := by
  fun_induction TtlO.scanNum e st k s inp acc
  all_goals first
    | exact .offErr (by simp)
    | exact .readErr (by simp)
    | (rename_i ih; exact .read (ih (by simp at hbo ⊢; omega)) fun _ _ _ _ => back_step)
    | exact numDone_scan _ _ _ _ hbo

theorem produceNumericLiteral_scan (e : End) (s : S) (inp : List RP) :
    Scan (fun v rg s' rest => ∃ tok, OneChunk s inp tok rg s' rest ∧ v.2 = goString (runes tok)) s 0 inp
      (TtlO.produceNumericLiteral e s inp) := by
  cases inp with
  | nil => exact .err0
  | cons c r =>
    have key : ∀ st k, Scan (fun v rg s' rest => ∃ tok, OneChunk s (c :: r) tok rg s' rest ∧ v.2 = goString (runes tok))
        s 0 (c :: r) (TtlO.scanNum e st k (s.read c) r [c]) := fun st k => by
      refine .read (scanNum_scan e st k (s.read c) r [c] (by simp)) fun v rg s' rest h => ?_
      obtain ⟨tok, h1, h2, rfl, h4, h5⟩ := h
      exact ⟨tok, ⟨by simpa using h1, by simp, back_state h4 (by simp at h5; omega)⟩, h2⟩
    exact ite_ind (fun _ => key _ _) fun _ => ite_ind (fun _ => key _ _) fun _ => .readErr (by simp)

theorem pnameNsLoop_scan (T : Tables) (e : End) (trig : Bool) (s : S) (inp : List RP) (acc : List Nat) (unc : Chunk) :
    Scan (fun _ => ScanOK 0x3a s inp unc) s (size unc) inp (TtlO.pnameNsLoop T e trig s inp acc unc) := by
  fun_induction TtlO.pnameNsLoop T e trig s inp acc unc
  case case2 s c rest0 acc unc hc =>      -- the `:`
    exact ⟨[c], by simp, by simp, by simp [hc], by simp, by simp [S.commit]⟩
  all_goals first
    | exact .offErr (by simp <;> omega)
    | exact .readErr (by simp <;> omega)
    | exact ite_ind (fun _ => .offErr (by simp <;> omega)) fun _ => .offErr (by simp <;> omega)
    | (rename_i ih; exact .read ih fun _ _ _ _ => scan_step)

theorem producePNAME_NS_scan (T : Tables) (e : End) (trig : Bool) (s : S) (inp : List RP) :
    Scan (fun _ rg s' rest => ∃ tok, OneChunk s inp tok rg s' rest ∧ (runes tok).getLast? = some 0x3a) s 0 inp
      (TtlO.producePNAME_NS T e trig s inp) := by
  cases inp with
  | nil => exact .err0
  | cons c r =>
    refine ite_ind (fun hc => ⟨[c], ⟨rfl, by simp, by simp [S.commit]⟩, by simp [hc]⟩) fun _ =>
      ite_ind (fun _ => ?_) fun _ => .readErr (by simp)
    refine .read (pnameNsLoop_scan T e trig (s.read c) r [c.1] [c]) fun _ _ _ _ h => ?_
    obtain ⟨tok, rfl, h2, h3, rfl, rfl⟩ := h
    exact ⟨c :: tok, ⟨rfl, by simp, by simp [Nat.add_assoc]⟩, getLast?_cons_some h3⟩

/-- In the states from which PN_LOCAL_DONE is reachable: if the last decoded rune was not written as
    an escape, it is the code point of the last raw rune.  (So a final `.` handed back by `localDone` is the last
    rune read.)  It is kept because a clause of `scanLocal` that leaves `le = false` pushes `c.1` on `acc` and `c`
    on `unc` together; the `%hh` and `\x` clauses set `le := true` or leave a state other than `.first`/`.body`. -/
def LocalInv (st : Ttl.LState) (acc : List Nat) (le : Bool) (unc : Chunk) : Prop :=
  (st = .first ∨ st = .body) → le = false → ∀ l more, acc = l :: more → ∃ u t, unc = u :: t ∧ u.1 = l

theorem localDone_scan (s : S) (acc : List Nat) (le : Bool) (unc : Chunk) (rest0 : List RP) (hbo : size unc ≤ s.bo)
    (hinv : LocalInv .body acc le unc) :
    Scan (fun _ => Back (fun _ => True) id s rest0 unc) s (size unc) rest0 (TtlO.localDone s acc le unc rest0) := by
  cases acc with
  | nil => trivial
  | cons l more =>
    refine ite_ind (fun hdot => ?_) fun _ => ⟨unc.reverse, by simp, trivial, by simp, by simp, by simp⟩
    simp only [Bool.and_eq_true, decide_eq_true_eq, Bool.not_eq_true'] at hdot
    obtain ⟨u, t, rfl, hu⟩ := hinv (Or.inr rfl) hdot.2 l more rfl
    have hu' : u = (0x2e, u.2) := by rw [← hdot.1, ← hu]
    refine ⟨t.reverse, ?_, trivial, by simp, by simp, by simp at hbo ⊢; omega⟩
    simp only [List.headD_cons]
    rw [List.reverse_cons, List.append_assoc, List.singleton_append, ← hu']

theorem scanLocal_scan (T : Tables) (e : End) (st : Ttl.LState) (s : S) (inp : List RP) (acc : List Nat)
    (le : Bool) (unc : Chunk) (hbo : size unc ≤ s.bo) (hinv : LocalInv st acc le unc) :
    Scan (fun _ => Back (fun _ => True) id s inp unc) s (size unc) inp (TtlO.scanLocal T e st s inp acc le unc) := by
  fun_induction TtlO.scanLocal T e st s inp acc le unc
  -- errors; one more rune (`LocalInv` of the new state: see its definition); the ends that commit `unc` as it is;
  -- `localDone`
  all_goals first
    | exact .offErr (by simp)
    | exact .readErr (by simp)
    | (rename_i ih; exact .read (ih (by simp at hbo ⊢; omega) (by simp [LocalInv])) fun _ _ _ _ => back_step)
    | exact ⟨_, rfl, trivial, by simp, by simp, by simp⟩
    | exact localDone_scan _ _ _ _ _ hbo hinv

theorem producePrefixedName_scan (T : Tables) (e : End) (trig : Bool) (s : S) (inp : List RP) :
    Scan (fun _ rg s' rest => ∃ ns loc, TwoChunk true s inp ns loc rg s' rest ∧ (runes ns).getLast? = some 0x3a) s 0 inp
      (TtlO.producePrefixedName T e trig s inp) := by
  have hn := producePNAME_NS_scan T e trig s inp
  unfold TtlO.producePrefixedName
  cases hp : TtlO.producePNAME_NS T e trig s inp with
  | err c o => rw [hp] at hn; exact hn
  | panic => trivial
  | ok nsv rgNs s1 rest1 =>
    rw [hp] at hn
    obtain ⟨ns, ⟨rfl, rfl, rfl⟩, hlast⟩ := hn
    have hl := scanLocal_scan T e .first ⟨s.bo + size ns, s.doc.map (fun h => ns :: h)⟩ rest1 [] false []
      (by simp) (by simp [LocalInv])
    cases hq : TtlO.scanLocal T e .first ⟨s.bo + size ns, s.doc.map (fun h => ns :: h)⟩ rest1 [] false [] with
    | panic => simp only [hq]; trivial
    | err c o =>
      rw [hq] at hl
      simp only [hq]
      intro hp0
      have := hl (hp0.commit (X := ns) rfl rfl)
      simp at this ⊢; omega
    | ok loc rgLoc s2 rest2 =>
      rw [hq] at hl
      simp only [hq]
      obtain ⟨tok, h1, -, rfl, h4, h5⟩ := hl
      refine ⟨ns, tok, ⟨?_, ?_, ?_⟩, hlast⟩
      · simp at h1; simp [h1, List.append_assoc]
      · cases hd : s.doc <;> simp [TtlO.span]
      · cases s2 with
        | mk bo doc =>
          simp at h4 h5
          simp only [S.mk.injEq]
          exact ⟨by omega, by rw [h4]; cases s.doc <;> simp⟩

end RdfModel.Proofs.C16Ttl
