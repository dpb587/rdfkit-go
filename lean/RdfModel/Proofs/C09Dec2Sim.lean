/-
  The decoder model on rendered well-formed plans, recursive productions included.  The decoder yields the intended
  triples up to a permutation (it emits the statement of a resourcePropertyElt after the nested node's statements), or —
  only when some node element has an rdf:ID subject — its uniqueness check fires: the decoder keys used IDs by the
  identity of the `UsedIDs` map, the denotation by the base IRI, and that the check does NOT fire on a well-formed plan is
  not proved.  One simulation serves the four fragments: its failure alternative says that the plan is outside the
  full-partial fragment, and on leaf plans the decoder's order is the plan's.
-/
import RdfModel.Proofs.C09Dec2Coll
namespace RdfModel.RXD
open RdfModel RdfModel.Desc RdfModel.RX RdfModel.C09Dec

variable {rs : Str → Str → Str} {render : List Tok → Option Str}

theorem nodePAttr_of_plain {l : List PAttr} (h : l.all plainPAttr = true) : l.all nodePAttr = true := by
  rw [List.all_eq_true] at h ⊢
  intro a ha
  cases a with
  | lit ns _ _ _ =>
    have := h _ ha
    simp only [plainPAttr, Bool.and_eq_true, decide_eq_true_eq] at this
    simpa [nodePAttr] using this.2
  | type _ _ => exact rfl

mutual
theorem fullNode_of_striped : ∀ n : PNode, stripedNode n = true → fullNode n = true
  | .mk _ _ _ _ props, h => by
    simp only [stripedNode, Bool.and_eq_true] at h
    simp only [fullNode, Bool.and_eq_true]
    exact ⟨⟨h.1.1, nodePAttr_of_plain h.1.2⟩, fullProps_of_striped props h.2⟩
theorem fullProps_of_striped : ∀ ps : List PProp, stripedProps ps = true → fullProps ps = true
  | [], _ => by simp only [fullProps]
  | p :: ps, h => by
    simp only [stripedProps, Bool.and_eq_true] at h
    simp only [fullProps, Bool.and_eq_true]
    exact ⟨fullProp_of_striped p h.1, fullProps_of_striped ps h.2⟩
theorem fullProp_of_striped : ∀ p : PProp, stripedProp p = true → fullProp p = true
  | .node _ _ _ n, h => by simp only [stripedProp] at h; simp only [fullProp]; exact fullNode_of_striped n h
  | .ptRes _ _ _ _ ps, h => by simp only [stripedProp] at h; simp only [fullProp]; exact fullProps_of_striped ps h
  | .res _ _ _ _ _ _, h | .bref _ _ _ _ _, h | .banon _ _ _ _ _ _, h => by
    simp only [stripedProp] at h; simp only [fullProp]; exact nodePAttr_of_plain h
  | .lit _ _ _ _ _, _ | .typed _ _ _ _ _ _, _ | .empty _ _ _ _, _ | .ptLit _ _ _ _ _, _ => by simp only [fullProp]
  | .ptColl _ _ _ _ _, h => by simp [stripedProp] at h
end

mutual
theorem idNode_of_full : ∀ n : PNode, fullNode n = true → idNode n = true
  | .mk _ _ _ _ props, h => by
    simp only [fullNode, Bool.and_eq_true] at h
    simp only [idNode, Bool.and_eq_true]
    exact ⟨h.1.2, idProps_of_full props h.2⟩
theorem idProps_of_full : ∀ ps : List PProp, fullProps ps = true → idProps ps = true
  | [], _ => by simp only [idProps]
  | p :: ps, h => by
    simp only [fullProps, Bool.and_eq_true] at h
    simp only [idProps, Bool.and_eq_true]
    exact ⟨idProp_of_full p h.1, idProps_of_full ps h.2⟩
theorem idProp_of_full : ∀ p : PProp, fullProp p = true → idProp p = true
  | .node _ _ _ n, h => by simp only [fullProp] at h; simp only [idProp]; exact idNode_of_full n h
  | .ptRes _ _ _ _ ps, h => by simp only [fullProp] at h; simp only [idProp]; exact idProps_of_full ps h
  | .res _ _ _ _ _ _, h | .bref _ _ _ _ _, h | .banon _ _ _ _ _ _, h | .ptColl _ _ _ _ _, h => by
    simpa only [fullProp, idProp] using h
  | .lit _ _ _ _ _, _ | .typed _ _ _ _ _ _, _ | .empty _ _ _ _, _ | .ptLit _ _ _ _ _, _ => by simp only [idProp]
end

theorem fullNodes_of_striped : ∀ ns : List PNode, stripedNodes ns = true → fullNodes ns = true
  | [], _ => rfl
  | n :: ns, h => by
    simp only [stripedNodes, Bool.and_eq_true] at h
    simp only [fullNodes, Bool.and_eq_true]
    exact ⟨fullNode_of_striped n h.1, fullNodes_of_striped ns h.2⟩

theorem idNodes_of_full : ∀ ns : List PNode, fullNodes ns = true → idNodes ns = true
  | [], _ => rfl
  | n :: ns, h => by
    simp only [fullNodes, Bool.and_eq_true] at h
    simp only [idNodes, Bool.and_eq_true]
    exact ⟨idNode_of_full n h.1, idNodes_of_full ns h.2⟩

theorem fullProp_of_leaf : ∀ p : PProp, leafProp p = true → fullProp p = true
  | .lit .., _ | .typed .., _ | .empty .., _ | .ptLit .., _ => rfl
  | .res _ _ _ _ _ pattrs, h | .bref _ _ _ _ pattrs, h => by
    simp only [leafProp, List.isEmpty_iff] at h; subst h; rfl
  | .banon .., h | .node .., h | .ptRes .., h | .ptColl .., h => nomatch h

theorem fullProps_of_leaf : ∀ ps : List PProp, ps.all leafProp = true → fullProps ps = true
  | [], _ => by simp only [fullProps]
  | p :: ps, h => by
    simp only [List.all_cons, Bool.and_eq_true] at h
    simp only [fullProps, Bool.and_eq_true]
    exact ⟨fullProp_of_leaf p h.1, fullProps_of_leaf ps h.2⟩

theorem fullNodes_of_leaf : ∀ ns : List PNode, ns.all leafNode = true → fullNodes ns = true
  | [], _ => rfl
  | .mk _ _ _ _ props :: ns, h => by
    simp only [List.all_cons, leafNode, Bool.and_eq_true] at h
    simp only [fullNodes, fullNode, Bool.and_eq_true]
    exact ⟨⟨⟨h.1.1.1, nodePAttr_of_plain h.1.1.2⟩, fullProps_of_leaf props h.1.2⟩, fullNodes_of_leaf ns h.2⟩

theorem full_of_item {n : PNode} (h : itemNode n = true) : fullNode n = true ∧ idNode n = true := by
  cases n with
  | mk sc subj typ pattrs props =>
    simp only [itemNode, Bool.and_eq_true] at h
    have hf : fullNode (.mk sc subj typ pattrs props) = true := by
      simp only [fullNode, Bool.and_eq_true]
      exact ⟨⟨leafSubj_of_item h.1.1, h.1.2⟩, fullProps_of_leaf props h.2⟩
    exact ⟨hf, idNode_of_full _ hf⟩

theorem Resource_ne_Literal : n_Resource ≠ n_Literal := by decide

theorem props_start_res (hf : EmptyRefNoFrag rs) (i : AttrInfo) (hp : i.props = []) (ha : i.about = none)
    (hnn : i.nodeID = none) (hres : i.resource = none) (hdt : i.datatype = none) (hpt : i.parseType = some n_Resource)
    {env : Env} {ctx : Ctx} (hrel : CtxRel env ctx) (nm : PName) (li : Nat) (hname : wfName li nm = true)
    (s : Term BN) (ret : Ret) (below : List Frame) (ctx0 : Ctx) (st : St) (id : PId) (hi : i.id = PId.val id)
    {S S' : RX.St} (hidwf : wfId rs (env.push rs i.base i.lang) id S = some S') :
    ∃ nctx st1, step (mkP rs render) ctx0 (.props ctx s li ret :: below) st (.start nm.ns nm.name (stdAttrs i)) =
        .cont (.props nctx (.bnode (.gen st.next)) 0 .resource :: .props ctx s (nm.nextLi li) ret :: below) st1 ∧
      CtxRel (env.push rs i.base i.lang) nctx ∧
      st1.out = (withReify (PId.iri id) ⟨s, nm.pred, .bnode (.gen st.next)⟩).reverse ++ st.out ∧
      st1.next = st.next + 1 := by
  have hidn := pidVal_ncname hidwf
  obtain ⟨c', st1, hpca, hrel', hn, ho⟩ := processCommonAttr_std_nil (render := render) hf i hp hrel st
  obtain ⟨_, hpred, hli⟩ := wfName_facts li nm hname
  obtain ⟨st2, h2, ho2, hn2⟩ := reifyEachID_std (render := render) hf i ha hnn hres hdt hrel' id hi hidwf
    ⟨s, nm.pred, .bnode (.gen st.next)⟩ (st1.fresh.2.emit ⟨s, nm.pred, .bnode (.gen st.next)⟩) st1.out rfl
  refine ⟨c', st2, ?_, hrel', by rw [ho2, ho], by rw [hn2]; simp [St.emit, St.fresh, hn]⟩
  have hfr : st1.fresh.1 = .bnode (.gen st.next) := by simp [St.fresh, hn]
  simp only [step, propNameForbidden_of_wfName hname, peltEntry, peltAttrLoop_std i hp (by rw [hi]; exact hidn), hpt, hpca,
    hres, Option.isSome_none, Bool.false_eq_true, and_false, if_false, if_true, hpred, hli, Resource_ne_Literal, or_true, true_or,
    hfr, h2]

theorem typName_ne_nil {typ : Option (Str × Str)} (h : wfTyp typ = true) : typNs typ ++ typName typ ≠ [] := by
  cases typ with
  | none => decide
  | some p =>
    obtain ⟨ns, name⟩ := p
    simp only [wfTyp, Bool.and_eq_true, ne_eq, decide_not, Bool.not_eq_true', decide_eq_false_iff_not] at h
    simp only [typNs, typName, ne_eq, List.append_eq_nil_iff, not_and]
    intro hns
    exact absurd hns h.1.1

def DupErr (r : Result) : Prop := ∃ ts, r = .err .duplicateName ts

def DupFail (r : Step) : Prop := ∃ st, r = .fail .duplicateName st

theorem DupFail.append {P : Params} {ctx0 : Ctx} {stk : List Frame} {st : St} {a : List Tok}
    (h : DupFail (steps P ctx0 stk st a)) (b : List Tok) : DupFail (steps P ctx0 stk st (a ++ b)) :=
  let ⟨stf, e⟩ := h; ⟨stf, steps_append_fail e b⟩

theorem DupFail.run {P : Params} {ctx0 : Ctx} {stk : List Frame} {st : St} {a : List Tok}
    (h : DupFail (steps P ctx0 stk st a)) (rest : List Tok) (fin : Fin) : DupErr (run P ctx0 stk st (a ++ rest) fin) :=
  let ⟨stf, e⟩ := h; ⟨_, by rw [run_eq_steps, steps_append_fail e]; rfl⟩

/-- the outcome `r` of reading a piece of the stream from `st`: the uniqueness check fired (only outside the full-partial
    fragment), or the decoder went on as `goal st1` having emitted a permutation of `flat` — `flat` itself on a leaf
    plan — with the blank-node counter at `next` -/
def Sim (full leaf : Bool) (r : Step) (goal : St → Step) (flat : List T) (st : St) (next : Nat) : Prop :=
  (full = false ∧ DupFail r) ∨
  ∃ st1 ts, r = goal st1 ∧ st1.out = ts.reverse ++ st.out ∧ ts.Perm flat ∧ st1.next = next ∧ (leaf = true → ts = flat)

theorem Sim.refl {f l : Bool} {goal : St → Step} {st : St} : Sim f l (goal st) goal [] st st.next :=
  .inr ⟨st, [], rfl, rfl, .nil, rfl, fun _ => rfl⟩

theorem Sim.seq {P : Params} {ctx0 : Ctx} {stk stk₁ : List Frame} {st : St} {a b : List Tok} {goal : St → Step}
    {f₁ l₁ f₂ l₂ : Bool} {flat₁ flat₂ : List T} {n₁ n₂ : Nat}
    (h1 : Sim f₁ l₁ (steps P ctx0 stk st a) (.cont stk₁) flat₁ st n₁)
    (h2 : ∀ st₁, st₁.next = n₁ → Sim f₂ l₂ (steps P ctx0 stk₁ st₁ b) goal flat₂ st₁ n₂) :
    Sim (f₁ && f₂) (l₁ && l₂) (steps P ctx0 stk st (a ++ b)) goal (flat₁ ++ flat₂) st n₂ := by
  rcases h1 with ⟨hf, hd⟩ | ⟨st1, ts1, e1, o1, p1, rfl, x1⟩
  · exact .inl ⟨by simp [hf], hd.append _⟩
  · rw [steps_append_cont e1]
    rcases h2 st1 rfl with ⟨hf, hd⟩ | ⟨st2, ts2, e2, o2, p2, n2, x2⟩
    · exact .inl ⟨by simp [hf], hd⟩
    · refine .inr ⟨st2, ts1 ++ ts2, e2, by rw [o2, o1]; simp, p1.append p2, n2, fun hl => ?_⟩
      simp only [Bool.and_eq_true] at hl
      rw [x1 hl.1, x2 hl.2]

mutual

/-- a node element, whoever calls `processNodeElt`: the frames `B0` enter it under the context `nctx` leaving `B` on the
    stack; after the element's tokens the decoder is where `nodeReturn` puts it, the node's statements emitted -/
theorem sim_node (hf : EmptyRefNoFrag rs) (hr : ∀ c, render [.chars c] = some c) :
    ∀ (n : PNode), idNode n = true → ∀ {env : Env} {nctx : Ctx}, CtxRel env nctx →
    ∀ (S S1 : RX.St), wfNode rs env S n = some S1 →
    ∀ (B0 : List Frame) (B : Str → Str → List Frame) (ctx0 : Ctx),
    (∀ ns name attrs st, nodeNameForbidden ns name = false →
      step (mkP rs render) ctx0 B0 st (.start ns name attrs) = callNode (mkP rs render) nctx ns name attrs (B ns name) st) →
    ∀ (st : St), st.next = S.next → ∃ ns name, ns ++ name ≠ [] ∧
    Sim (fullNode n) (leafNode n) (steps (mkP rs render) ctx0 B0 st (tokens (renderNode n)))
      (nodeReturn (mkP rs render) n.subj (B ns name)) (flatNode n) st S1.next
  | .mk sc subj typ pattrs props, hfr, env, nctx, hrel, S, S1, hwf, B0, B, ctx0, hcall, st, hn => by
    simp only [idNode, Bool.and_eq_true] at hfr
    obtain ⟨hc, S0, hsub, hwf⟩ := wfNode_inv hwf
    have hcall' := fun st => hcall (typNs typ) (typName typ) (stdAttrs (subj.info sc (pattrs.map PAttr.render))) st
      (nodeNameForbidden_of_wfTyp hc.1)
    refine ⟨_, _, typName_ne_nil hc.1, ?_⟩
    simp only [renderNode, tokens]
    rcases nodeEntry_sim (render := render) hf sc subj typ pattrs hfr.1 hrel S S0 hc.1 hc.2 hsub st hn with
      ⟨hls, stf, hfail⟩ | ⟨kctx, st1, ts0, h1, hrel', ho1, hp0, hn1, he0⟩
    · exact .inl ⟨by simp [fullNode, hls], stf, by simp only [steps, hcall', callNode, hfail]⟩
    · rw [steps_cons_cont (by rw [hcall', callNode, h1])]
      obtain ⟨li1, h2⟩ := sim_props hf hr props hfr.2 hrel' subj.term 0 S0 S1 hwf (.node subj.term) (B (typNs typ) (typName typ)) ctx0
      rcases h2 st1 hn1 with ⟨hnf, hdup⟩ | ⟨st2, ts2, h2, ho2, hp2, hn2, he2⟩
      · exact .inl ⟨by simp [fullNode, hnf], hdup.append _⟩
      · refine .inr ⟨st2, ts0 ++ ts2, ?_, by rw [ho2, ho1]; simp, ?_, hn2, ?_⟩
        · rw [steps_append_cont h2, steps_singleton]; rfl
        · simp only [flatNode]; exact hp0.append hp2
        · intro hl
          simp only [leafNode, Bool.and_eq_true] at hl
          rw [he0 hl.1.2, he2 hl.2, flatNode]

theorem sim_props (hf : EmptyRefNoFrag rs) (hr : ∀ c, render [.chars c] = some c) :
    ∀ (qs : List PProp), idProps qs = true → ∀ {env : Env} {ctx : Ctx}, CtxRel env ctx →
    ∀ (s : Term BN) (li : Nat) (S S1 : RX.St), wfProps rs env li S qs = some S1 →
    ∀ (ret : Ret) (below : List Frame) (ctx0 : Ctx), ∃ li1, ∀ (st : St), st.next = S.next →
    Sim (fullProps qs) (qs.all leafProp) (steps (mkP rs render) ctx0 (.props ctx s li ret :: below) st (tokensList (renderProps qs)))
      (.cont (.props ctx s li1 ret :: below)) (flatProps s qs) st S1.next
  | [], _, env, ctx, hrel, s, li, S, S1, hwf, ret, below, ctx0 => by
    simp only [wfProps, Option.some.injEq] at hwf
    subst hwf
    exact ⟨li, fun st hn => hn ▸ .refl⟩
  | p :: qs, hfr, env, ctx, hrel, s, li, S, S1, hwf, ret, below, ctx0 => by
    simp only [idProps, Bool.and_eq_true] at hfr
    obtain ⟨li', S', hp, hwf⟩ := wfProps_cons_inv hwf
    obtain ⟨li2, h2⟩ := sim_props hf hr qs hfr.2 hrel s li' S' S1 hwf ret below ctx0
    exact ⟨li2, fun st hn => (sim_prop hf hr p hfr.1 hrel s li li' S S' hp ret below ctx0 st hn).seq h2⟩

theorem sim_prop (hf : EmptyRefNoFrag rs) (hr : ∀ c, render [.chars c] = some c) :
    ∀ (p : PProp), idProp p = true → ∀ {env : Env} {ctx : Ctx}, CtxRel env ctx →
    ∀ (s : Term BN) (li li1 : Nat) (S S1 : RX.St), wfProp rs env li S p = some (li1, S1) →
    ∀ (ret : Ret) (below : List Frame) (ctx0 : Ctx) (st : St), st.next = S.next →
    Sim (fullProp p) (leafProp p) (steps (mkP rs render) ctx0 (.props ctx s li ret :: below) st (tokens (renderProp p)))
      (.cont (.props ctx s li1 ret :: below)) (flatProp s p) st S1.next
  | .node sc nm id n, hfr, env, ctx, hrel, s, li, li1, S, S1, hwf, ret, below, ctx0, st, hn => by
    simp only [idProp] at hfr
    obtain ⟨hname, rfl, S0, hid, hnode⟩ := wfProp_node_inv hwf
    obtain ⟨nctx, st1, h1, hnctx, hn1, ho1⟩ := props_start_generic (render := render) hf
      { base := sc.base, lang := sc.lang, id := PId.val id } (by simp) (fun _ => rfl) rfl (pidVal_ncname hid) hrel nm li hname s ret
      below ctx0 st
    simp only [renderProp, tokens, tokensList, List.append_nil]
    rw [steps_cons_cont h1]
    rcases sim_node hf hr n hfr hnctx S0 S1 hnode
      (.pelt ctx nctx s nm.pred (stdAttrs { base := sc.base, lang := sc.lang, id := PId.val id }) (PId.val id) [] [] [] ::
        .props ctx s (nm.nextLi li) ret :: below)
      (fun ns name => .pelt ctx nctx s nm.pred (stdAttrs { base := sc.base, lang := sc.lang, id := PId.val id }) (PId.val id)
        [] [] (ns ++ name) :: .props ctx s (nm.nextLi li) ret :: below) ctx0
      (fun ns name attrs st h => by simp [step, h]) st1 (by rw [hn1, hn, (wfId_facts hid).1]) with
      ⟨ns, name, hfound, ⟨hnf, hdup⟩ | ⟨st2, ts2, h2, ho2, hp2, hn2, _⟩⟩
    · exact .inl ⟨by simpa [fullProp] using hnf, hdup.append _⟩
    · obtain ⟨st3, h3, ho3, hn3⟩ := optReify_sim (render := render) hf hnctx hid ⟨s, nm.pred, n.subj⟩
        (st2.emit ⟨s, nm.pred, n.subj⟩) st2.out rfl
      refine .inr ⟨st3, ts2 ++ withReify (PId.iri id) ⟨s, nm.pred, n.subj⟩, ?_, by rw [ho3, ho2, ho1]; simp, ?_, hn3.trans hn2,
        Bool.noConfusion⟩
      · rw [steps_append, h2]
        simp [nodeReturn, h3, steps, step, peltEnd, hfound]
      · simp only [flatProp]
        exact (hp2.append_right _).trans List.perm_append_comm
  | .ptRes sc nm id k props, hfr, env, ctx, hrel, s, li, li1, S, S1, hwf, ret, below, ctx0, st, hn => by
    simp only [idProp] at hfr
    obtain ⟨hname, rfl, S0, hid, hk, hprops⟩ := wfProp_ptRes_inv hwf
    have hS0 := (wfId_facts hid).1
    obtain ⟨nctx, st1, h1, hrel', ho1, hn1⟩ := props_start_res (render := render) hf
      { base := sc.base, lang := sc.lang, id := PId.val id, parseType := some n_Resource } rfl rfl rfl rfl rfl rfl hrel nm li
      hname s ret below ctx0 st id rfl hid
    have hkk : k = st.next := by rw [hk, hS0, hn]
    simp only [renderProp, tokens]
    rw [steps_cons_cont h1]
    obtain ⟨li2, h2⟩ := sim_props hf hr props hfr hrel' (.bnode (.gen st.next)) 0
      { S0 with next := S0.next + 1 } S1 hprops .resource (.props ctx s (nm.nextLi li) ret :: below) ctx0
    rcases h2 st1 (by rw [hn1, hn, hS0]) with ⟨hnf, hdup⟩ | ⟨st2, ts2, h2, ho2, hp2, hn2, _⟩
    · exact .inl ⟨by simpa [fullProp] using hnf, hdup.append _⟩
    · refine .inr ⟨st2, withReify (PId.iri id) ⟨s, nm.pred, .bnode (.gen st.next)⟩ ++ ts2, ?_, by rw [ho2, ho1]; simp, ?_, hn2,
        Bool.noConfusion⟩
      · rw [steps_append_cont h2]; simp [steps, step, propsReturn]
      · simp only [flatProp, hkk]
        exact hp2.append_left _
  | .lit _ _ _ _ _, hfr, env, ctx, hrel, s, li, li1, S, S1, hwf, ret, below, ctx0, st, hn
  | .typed _ _ _ _ _ _, hfr, env, ctx, hrel, s, li, li1, S, S1, hwf, ret, below, ctx0, st, hn
  | .empty _ _ _ _, hfr, env, ctx, hrel, s, li, li1, S, S1, hwf, ret, below, ctx0, st, hn
  | .res _ _ _ _ _ _, hfr, env, ctx, hrel, s, li, li1, S, S1, hwf, ret, below, ctx0, st, hn
  | .bref _ _ _ _ _, hfr, env, ctx, hrel, s, li, li1, S, S1, hwf, ret, below, ctx0, st, hn
  | .banon _ _ _ _ _ _, hfr, env, ctx, hrel, s, li, li1, S, S1, hwf, ret, below, ctx0, st, hn
  | .ptLit _ _ _ _ _, hfr, env, ctx, hrel, s, li, li1, S, S1, hwf, ret, below, ctx0, st, hn =>
    Or.inr (prop_sim hf hr _ rfl hfr hrel s li li1 S S1 hwf ret below ctx0 st hn)
  | .ptColl sc nm id cells items, hfr, env, ctx, hrel, s, li, li1, S, S1, hwf, ret, below, ctx0, st, hn => by
    simp only [idProp] at hfr
    obtain ⟨hname, rfl, S0, hid, hcoll⟩ := wfProp_ptColl_inv hwf
    obtain ⟨nctx, st1, h1, hrel', hn1, ho1⟩ := props_start_coll (render := render) hf
      { base := sc.base, lang := sc.lang, id := PId.val id, parseType := some n_Collection } rfl rfl rfl rfl rfl rfl hrel nm li
      hname s ret below ctx0 st (pidVal_ncname hid)
    obtain ⟨st2, ts, h2, ho2, hp2, hn2⟩ := sim_items hf hr items cells hfr hrel' S0 S1 hcoll s nm.pred id hid none
      (.props ctx s (nm.nextLi li) ret :: below) ctx0 st1 (by rw [hn1, hn, (wfId_facts hid).1]) nm.ns nm.name
    refine .inr ⟨st2, ts, ?_, by rw [ho2, ho1], by simpa [flatProp] using hp2, hn2, Bool.noConfusion⟩
    simp only [renderProp, tokens]
    rw [steps_cons_cont h1, h2]

/-- the items of a parseType="Collection" element and its end tag, from the `coll` frame.  No failure alternative: an item
    node has an rdf:about or rdf:nodeID subject, so the uniqueness check for rdf:ID cannot fire (`full_of_item`). -/
theorem sim_items (hf : EmptyRefNoFrag rs) (hr : ∀ c, render [.chars c] = some c) :
    ∀ (items : List PNode) (cells : List Nat), items.all itemNode = true → ∀ {env : Env} {ctx : Ctx}, CtxRel env ctx →
    ∀ (S S1 : RX.St), wfColl rs env S cells items = some S1 →
    ∀ (s : Term BN) (pred : Str) (id : PId) {Sa Sb : RX.St}, wfId rs env id Sa = some Sb →
    ∀ (last : Option (Term BN)) (B : List Frame) (ctx0 : Ctx) (st : St), st.next = S.next → ∀ (ens ename : Str),
    ∃ (st1 : St) (ts : List T), steps (mkP rs render) ctx0 (.coll ctx s pred (PId.val id) last :: B) st
        (tokensList (renderNodes items) ++ [.end_ ens ename]) = .cont B st1 ∧
      st1.out = ts.reverse ++ st.out ∧
      ts.Perm (match last with
        | none => reifyHead (PId.iri id) (flatColl s pred cells items)
        | some l => flatColl l RX.rdfRest cells items) ∧
      st1.next = S1.next
  | [], cells, _, env, ctx, hrel, S, S1, hwf, s, pred, id, Sa, Sb, hid, last, B, ctx0, st, hn, ens, ename => by
    have hS : S1 = S := by
      cases cells with
      | nil => simp only [wfColl, Option.some.injEq] at hwf; exact hwf.symm
      | cons _ _ => simp [wfColl] at hwf
    subst hS
    cases last with
    | none =>
      obtain ⟨st1, h1, h2, h3⟩ := optReify_sim (render := render) hf hrel hid ⟨s, pred, .iri RX.rdfNil⟩
        (st.emit ⟨s, pred, .iri RX.rdfNil⟩) st.out rfl
      refine ⟨st1, withReify (PId.iri id) ⟨s, pred, .iri RX.rdfNil⟩, by simp [renderNodes, tokensList, steps, step, h1], h2, ?_,
        by rw [h3]; exact hn⟩
      cases cells <;> simp [flatColl, reifyHead]
    | some l =>
      refine ⟨st.emit ⟨l, RX.rdfRest, .iri RX.rdfNil⟩, [⟨l, RX.rdfRest, .iri RX.rdfNil⟩], by simp [renderNodes, tokensList, steps, step],
        by simp [St.emit], ?_, hn⟩
      cases cells <;> simp [flatColl]
  | n :: ns, cells, hitems, env, ctx, hrel, S, S1, hwf, s, pred, id, Sa, Sb, hid, last, B, ctx0, st, hn, ens, ename => by
    simp only [List.all_cons, Bool.and_eq_true] at hitems
    cases cells with
    | nil => simp [wfColl] at hwf
    | cons c cs =>
      obtain ⟨hc, St1, hnode, hwf⟩ := wfColl_cons_inv hwf
      obtain ⟨hnode', hnx⟩ := wfNode_next hitems.1 hnode st.next
      obtain ⟨hfull, hidn⟩ := full_of_item hitems.1
      -- the item: the decoder numbers the cell after it, the plan before; an item generates no blank node
      rcases sim_node hf hr n hidn hrel _ _ hnode' (.coll ctx s pred (PId.val id) last :: B)
        (fun _ _ => .coll ctx s pred (PId.val id) last :: B) ctx0 (fun ns name attrs st h => by simp [step, h]) st rfl with
        ⟨_, _, _, ⟨hnf, _⟩ | ⟨st1, tsn, h1, ho1, hpn, hn1, _⟩⟩
      · exact Bool.noConfusion (hfull.symm.trans hnf)
      have hn1' : st1.next = st.next := hn1
      have hcell : c = st.next := by rw [hc, hn]
      have hcntn := fun x => List.perm_iff_count.mp hpn x
      simp only [renderNodes, tokensList, List.append_assoc]
      cases last with
      | none =>
        obtain ⟨st3, h3, ho3, hn3⟩ := optReify_at (render := render) hf hrel hid 1 ⟨s, pred, .bnode (.gen st.next)⟩
          ((st1.fresh.2.emit ⟨s, pred, .bnode (.gen st.next)⟩).emit ⟨.bnode (.gen st.next), RX.rdfFirst, n.subj⟩) rfl
        have h3' := h3
        simp only [St.fresh, hn1'] at h3'
        obtain ⟨st2, ts2, h2, ho2, hp2, hn2⟩ := sim_items hf hr ns cs hitems.2 hrel St1 S1 hwf s pred id hid
          (some (.bnode (.gen st.next))) B ctx0 st3 (by rw [hn3]; simp [St.emit, St.fresh, hn1', hnx, hn]) ens ename
        have hcnt := fun x => List.perm_iff_count.mp hp2 x
        refine ⟨st2, tsn ++ ([⟨s, pred, .bnode (.gen st.next)⟩] ++ ([⟨.bnode (.gen st.next), RX.rdfFirst, n.subj⟩] ++
          (reifyL (PId.iri id) ⟨s, pred, .bnode (.gen st.next)⟩ ++ ts2))), ?_, ?_, ?_, hn2⟩
        · rw [steps_append_cont (stk1 := .coll ctx s pred (PId.val id) (some (.bnode (.gen st.next))) :: B) (st1 := st3)
            (by rw [h1]; simp [nodeReturn, St.fresh, hn1', h3']), h2]
        · rw [ho2, ho3]; simp [St.emit, St.fresh, ho1]
        · -- the plan has the cell's two statements and the reification first, then the item, then the rest of the list;
          -- the decoder emits the item first: same multiset, counted statement by statement
          simp only [flatColl, hcell, List.cons_append, reifyHead, withReify_eq]
          refine List.perm_iff_count.mpr fun x => ?_
          have := hcnt x
          have hn' := hcntn x
          simp only [List.count_append, List.count_cons, List.count_nil] at this ⊢
          omega
      | some l =>
        obtain ⟨st2, ts2, h2, ho2, hp2, hn2⟩ := sim_items hf hr ns cs hitems.2 hrel St1 S1 hwf s pred id hid
          (some (.bnode (.gen st.next))) B ctx0
          ((st1.fresh.2.emit ⟨l, RX.rdfRest, st1.fresh.1⟩).emit ⟨st1.fresh.1, RX.rdfFirst, n.subj⟩)
          (by simp [St.emit, St.fresh, hn1', hnx, hn]) ens ename
        have hcnt := fun x => List.perm_iff_count.mp hp2 x
        refine ⟨st2, tsn ++ ([⟨l, RX.rdfRest, .bnode (.gen st.next)⟩] ++ ([⟨.bnode (.gen st.next), RX.rdfFirst, n.subj⟩] ++ ts2)),
          ?_, ?_, ?_, hn2⟩
        · rw [steps_append_cont (stk1 := .coll ctx s pred (PId.val id) (some (.bnode (.gen st.next))) :: B)
            (st1 := (st1.fresh.2.emit ⟨l, RX.rdfRest, st1.fresh.1⟩).emit ⟨st1.fresh.1, RX.rdfFirst, n.subj⟩)
            (by rw [h1]; simp [nodeReturn, St.fresh, hn1']), h2]
        · rw [ho2]; simp [St.emit, St.fresh, ho1, hn1']
        · -- as above, the two statements that link the cell come after the item's
          simp only [flatColl, hcell, List.cons_append]
          refine List.perm_iff_count.mpr fun x => ?_
          have := hcnt x
          have hn' := hcntn x
          simp only [List.count_append, List.count_cons, List.count_nil] at this ⊢
          omega

end

theorem sim_nodeR (hf : EmptyRefNoFrag rs) (hr : ∀ c, render [.chars c] = some c) (n : PNode) (hfr : idNode n = true)
    {env : Env} {ctx : Ctx} (hrel : CtxRel env ctx) (S S1 : RX.St) (hwf : wfNode rs env S n = some S1)
    (below : List Frame) (ctx0 : Ctx) (st : St) (hn : st.next = S.next) :
    Sim (fullNode n) (leafNode n) (steps (mkP rs render) ctx0 (.rdf ctx :: below) st (tokens (renderNode n)))
      (.cont (.rdf ctx :: below)) (flatNode n) st S1.next :=
  let ⟨_, _, _, h⟩ := sim_node hf hr n hfr hrel S S1 hwf (.rdf ctx :: below) (fun _ _ => .rdf ctx :: below) ctx0
    (fun ns name attrs st h => by simp [step, h]) st hn
  h

theorem sim_nodes (hf : EmptyRefNoFrag rs) (hr : ∀ c, render [.chars c] = some c) (ns : List PNode)
    (hfr : idNodes ns = true) {env : Env} {ctx : Ctx} (hrel : CtxRel env ctx) (S S1 : RX.St)
    (hwf : wfNodes rs env S ns = some S1) (below : List Frame) (ctx0 : Ctx) (st : St) (hn : st.next = S.next) :
    Sim (fullNodes ns) (ns.all leafNode) (steps (mkP rs render) ctx0 (.rdf ctx :: below) st (tokensList (renderNodes ns)))
      (.cont (.rdf ctx :: below)) (flatNodes ns) st S1.next := by
  induction ns generalizing S st with
  | nil =>
    simp only [wfNodes, Option.some.injEq] at hwf
    subst hwf
    exact hn ▸ .refl
  | cons n ns ih =>
    simp only [idNodes, Bool.and_eq_true] at hfr
    obtain ⟨S', hp, hwf⟩ := wfNodes_cons_inv hwf
    exact (sim_nodeR hf hr n hfr.1 hrel S S' hp below ctx0 st hn).seq fun st₁ h => ih hfr.2 S' hwf st₁ h

theorem sim_doc (hf : EmptyRefNoFrag rs) (hr : ∀ c, render [.chars c] = some c) (base : Str) (d : PDoc)
    (hfr : idDoc d = true) (hwf : wfDoc rs ⟨base, none⟩ d = true) :
    (fullDoc d = false ∧ DupErr (decode (mkP rs render) (some base) (tokensDoc (renderDoc d)) .eof)) ∨
    ∃ ts, decode (mkP rs render) (some base) (tokensDoc (renderDoc d)) .eof = .ok ts ∧ ts.Perm (flatDoc d) ∧
      (leafDoc d = true → ts = flatDoc d) := by
  have hrel : CtxRel ⟨base, none⟩ (Ctx.init (some base)) := ⟨rfl, rfl⟩
  obtain ⟨ctx1, st1, hpca, hrel1, hn1, ho1⟩ := processCommonAttr_std_nil (render := render) hf
    { base := d.sc.base, lang := d.sc.lang } rfl hrel St.init
  simp only [wfDoc, Option.isSome_iff_exists] at hwf
  obtain ⟨S1, hS1⟩ := hwf
  have hrp : rdfPart { base := d.sc.base, lang := d.sc.lang } = [] := by simp [rdfPart, optAttr]
  unfold decode
  simp only [tokensDoc, renderDoc, tokens]
  rw [run_eq_steps, steps_cons_cont (stk1 := [.rdf ctx1]) (st1 := st1) (by simp [step, hpca, hrp])]
  rcases sim_nodes (render := render) hf hr d.nodes hfr hrel1 RX.St.init S1 hS1 []
    (Ctx.init (some base)) st1 (by rw [hn1]; rfl) with ⟨hnf, stf, hdup⟩ | ⟨st2, ts, h2, ho2, hp2, _, he⟩
  · exact .inl ⟨hnf, _, by rw [steps_append_fail hdup]; rfl⟩
  · refine .inr ⟨ts, ?_, hp2, he⟩
    rw [steps_append_cont h2]
    simp [steps, step, Step.finish, finish, ho2, ho1, St.init]

theorem sim_nodeP (hf : EmptyRefNoFrag rs) (hr : ∀ c, render [.chars c] = some c) :
    ∀ (n : PNode), idNode n = true → ∀ {env : Env} {pctx nctx : Ctx}, CtxRel env nctx →
    ∀ (S S1 : RX.St), wfNode rs env S n = some S1 →
    ∀ (ps : Term BN) (pred : Str) (pattrs : List Attr) (id : PId) {Sa Sb : RX.St}, wfId rs env id Sa = some Sb →
    ∀ (chars child : Str) (B : List Frame) (ctx0 : Ctx) (st : St), st.next = S.next → ∀ (rest : List Tok) (fin : Fin),
    (fullNode n = false ∧ DupErr (run (mkP rs render) ctx0 (.pelt pctx nctx ps pred pattrs (PId.val id) [] chars child :: B) st
        (tokens (renderNode n) ++ rest) fin)) ∨
    ∃ (st1 : St) (ts : List T) (found : Str), run (mkP rs render) ctx0 (.pelt pctx nctx ps pred pattrs (PId.val id) [] chars child :: B) st
        (tokens (renderNode n) ++ rest) fin =
        run (mkP rs render) ctx0 (.pelt pctx nctx ps pred pattrs (PId.val id) found chars found :: B) st1 rest fin ∧
      found ≠ [] ∧ st1.out = ts.reverse ++ st.out ∧
      ts.Perm (withReify (PId.iri id) ⟨ps, pred, n.subj⟩ ++ flatNode n) ∧ st1.next = S1.next := by
  intro n hfr env pctx nctx hrel S S1 hwf ps pred pattrs id _ _ hid chars child B ctx0 st hn rest fin
  rcases sim_node hf hr n hfr hrel S S1 hwf (.pelt pctx nctx ps pred pattrs (PId.val id) [] chars child :: B)
    (fun ns name => .pelt pctx nctx ps pred pattrs (PId.val id) [] chars (ns ++ name) :: B) ctx0
    (fun ns name attrs st h => by simp [step, h]) st hn with ⟨ns, name, hfound, ⟨hnf, hdup⟩ | ⟨st2, ts2, h2, ho2, hp2, hn2, _⟩⟩
  · exact .inl ⟨hnf, hdup.run rest fin⟩
  · obtain ⟨st3, h3, ho3, hn3⟩ := optReify_sim (render := render) hf hrel hid ⟨ps, pred, n.subj⟩
      (st2.emit ⟨ps, pred, n.subj⟩) st2.out rfl
    exact .inr ⟨st3, ts2 ++ withReify (PId.iri id) ⟨ps, pred, n.subj⟩, ns ++ name,
      run_of_steps (by rw [h2]; simp only [nodeReturn, h3]) rest fin, hfound, by rw [ho3, ho2]; simp,
      (hp2.append_right _).trans List.perm_append_comm, hn3.trans hn2⟩

/-! The simulation of one nested node element / one property element for each fragment, in the form that speaks of `run`
    on the whole remaining stream: what `sim_nodeP` and `sim_prop` give for the fragments. -/

theorem nodeP3 (hf : EmptyRefNoFrag rs) (hr : ∀ c, render [.chars c] = some c) :
    ∀ (n : PNode), idNode n = true → ∀ {env : Env} {pctx nctx : Ctx}, CtxRel env nctx →
    ∀ (S S1 : RX.St), wfNode rs env S n = some S1 →
    ∀ (ps : Term BN) (pred : Str) (pattrs : List Attr) (id : PId) {Sa Sb : RX.St}, wfId rs env id Sa = some Sb →
    ∀ (chars child : Str) (B : List Frame) (ctx0 : Ctx) (st : St), st.next = S.next → ∀ (rest : List Tok) (fin : Fin),
    DupErr (run (mkP rs render) ctx0 (.pelt pctx nctx ps pred pattrs (PId.val id) [] chars child :: B) st
        (tokens (renderNode n) ++ rest) fin) ∨
    ∃ (st1 : St) (ts : List T) (found : Str), run (mkP rs render) ctx0 (.pelt pctx nctx ps pred pattrs (PId.val id) [] chars child :: B) st
        (tokens (renderNode n) ++ rest) fin =
        run (mkP rs render) ctx0 (.pelt pctx nctx ps pred pattrs (PId.val id) found chars found :: B) st1 rest fin ∧
      found ≠ [] ∧ st1.out = ts.reverse ++ st.out ∧
      ts.Perm (withReify (PId.iri id) ⟨ps, pred, n.subj⟩ ++ flatNode n) ∧ st1.next = S1.next :=
  fun n hn _ _ _ hrel S S1 hwf ps pred pattrs id _ _ hid chars child B ctx0 st hst rest fin =>
    (sim_nodeP hf hr n hn hrel S S1 hwf ps pred pattrs id hid chars child B ctx0 st hst rest fin).imp_left And.right

theorem propS3 (hf : EmptyRefNoFrag rs) (hr : ∀ c, render [.chars c] = some c) :
    ∀ (p : PProp), idProp p = true → ∀ {env : Env} {ctx : Ctx}, CtxRel env ctx →
    ∀ (s : Term BN) (li li1 : Nat) (S S1 : RX.St), wfProp rs env li S p = some (li1, S1) →
    ∀ (ret : Ret) (below : List Frame) (ctx0 : Ctx) (st : St), st.next = S.next → ∀ (rest : List Tok) (fin : Fin),
    DupErr (run (mkP rs render) ctx0 (.props ctx s li ret :: below) st (tokens (renderProp p) ++ rest) fin) ∨
    ∃ (st1 : St) (ts : List T), run (mkP rs render) ctx0 (.props ctx s li ret :: below) st (tokens (renderProp p) ++ rest) fin =
        run (mkP rs render) ctx0 (.props ctx s li1 ret :: below) st1 rest fin ∧
      st1.out = ts.reverse ++ st.out ∧ ts.Perm (flatProp s p) ∧ st1.next = S1.next :=
  fun p hp _ _ hrel s li li1 S S1 hwf ret below ctx0 st hst rest fin =>
    (sim_prop hf hr p hp hrel s li li1 S S1 hwf ret below ctx0 st hst).imp (fun h => h.2.run rest fin)
      fun ⟨st1, ts, h1, h2, h3, h4, _⟩ => ⟨st1, ts, run_of_steps h1 rest fin, h2, h3, h4⟩

theorem nodeP2 (hf : EmptyRefNoFrag rs) (hr : ∀ c, render [.chars c] = some c) :
    ∀ (n : PNode), fullNode n = true → ∀ {env : Env} {pctx nctx : Ctx}, CtxRel env nctx →
    ∀ (S S1 : RX.St), wfNode rs env S n = some S1 →
    ∀ (ps : Term BN) (pred : Str) (pattrs : List Attr) (id : PId) {Sa Sb : RX.St}, wfId rs env id Sa = some Sb →
    ∀ (chars child : Str) (B : List Frame) (ctx0 : Ctx) (st : St), st.next = S.next → ∀ (rest : List Tok) (fin : Fin),
    ∃ (st1 : St) (ts : List T) (found : Str), run (mkP rs render) ctx0 (.pelt pctx nctx ps pred pattrs (PId.val id) [] chars child :: B) st
        (tokens (renderNode n) ++ rest) fin =
        run (mkP rs render) ctx0 (.pelt pctx nctx ps pred pattrs (PId.val id) found chars found :: B) st1 rest fin ∧
      found ≠ [] ∧ st1.out = ts.reverse ++ st.out ∧
      ts.Perm (withReify (PId.iri id) ⟨ps, pred, n.subj⟩ ++ flatNode n) ∧ st1.next = S1.next :=
  fun n hn _ _ _ hrel S S1 hwf ps pred pattrs id _ _ hid chars child B ctx0 st hst rest fin =>
    (sim_nodeP hf hr n (idNode_of_full n hn) hrel S S1 hwf ps pred pattrs id hid chars child B ctx0 st hst rest fin).resolve_left
      (fun h => Bool.noConfusion (hn.symm.trans h.1))

theorem nodeP (hf : EmptyRefNoFrag rs) (hr : ∀ c, render [.chars c] = some c) :
    ∀ (n : PNode), stripedNode n = true → ∀ {env : Env} {pctx nctx : Ctx}, CtxRel env nctx →
    ∀ (S S1 : RX.St), wfNode rs env S n = some S1 →
    ∀ (ps : Term BN) (pred : Str) (pattrs : List Attr) (id : PId) {Sa Sb : RX.St}, wfId rs env id Sa = some Sb →
    ∀ (chars child : Str) (B : List Frame) (ctx0 : Ctx) (st : St), st.next = S.next → ∀ (rest : List Tok) (fin : Fin),
    ∃ (st1 : St) (ts : List T) (found : Str), run (mkP rs render) ctx0 (.pelt pctx nctx ps pred pattrs (PId.val id) [] chars child :: B) st
        (tokens (renderNode n) ++ rest) fin =
        run (mkP rs render) ctx0 (.pelt pctx nctx ps pred pattrs (PId.val id) found chars found :: B) st1 rest fin ∧
      found ≠ [] ∧ st1.out = ts.reverse ++ st.out ∧
      ts.Perm (withReify (PId.iri id) ⟨ps, pred, n.subj⟩ ++ flatNode n) ∧ st1.next = S1.next :=
  fun n hn => nodeP2 hf hr n (fullNode_of_striped n hn)

theorem propS (hf : EmptyRefNoFrag rs) (hr : ∀ c, render [.chars c] = some c) :
    ∀ (p : PProp), stripedProp p = true → ∀ {env : Env} {ctx : Ctx}, CtxRel env ctx →
    ∀ (s : Term BN) (li li1 : Nat) (S S1 : RX.St), wfProp rs env li S p = some (li1, S1) →
    ∀ (ret : Ret) (below : List Frame) (ctx0 : Ctx) (st : St), st.next = S.next → ∀ (rest : List Tok) (fin : Fin),
    ∃ (st1 : St) (ts : List T), run (mkP rs render) ctx0 (.props ctx s li ret :: below) st (tokens (renderProp p) ++ rest) fin =
        run (mkP rs render) ctx0 (.props ctx s li1 ret :: below) st1 rest fin ∧
      st1.out = ts.reverse ++ st.out ∧ ts.Perm (flatProp s p) ∧ st1.next = S1.next :=
  fun p hp _ _ hrel s li li1 S S1 hwf ret below ctx0 st hst rest fin =>
    let ⟨st1, ts, h1, h2, h3, h4, _⟩ :=
      (sim_prop hf hr p (idProp_of_full p (fullProp_of_striped p hp)) hrel s li li1 S S1 hwf ret below ctx0
        st hst).resolve_left (fun h => Bool.noConfusion ((fullProp_of_striped p hp).symm.trans h.1))
    ⟨st1, ts, run_of_steps h1 rest fin, h2, h3, h4⟩

theorem sim_doc_full (hf : EmptyRefNoFrag rs) (hr : ∀ c, render [.chars c] = some c) (base : Str) (d : PDoc)
    (hfull : fullDoc d = true) (hwf : wfDoc rs ⟨base, none⟩ d = true) :
    ∃ ts, decode (mkP rs render) (some base) (tokensDoc (renderDoc d)) .eof = .ok ts ∧ ts.Perm (flatDoc d) ∧
      (leafDoc d = true → ts = flatDoc d) :=
  (sim_doc hf hr base d (idNodes_of_full _ hfull) hwf).resolve_left fun h => Bool.noConfusion (hfull.symm.trans h.1)

end RdfModel.RXD
