import RdfModel.Props.C14Defs
namespace RdfModel.Proofs.C14
open RdfModel.BN RdfModel.C14

theorem equals_iff (a b : Ident) : a.equals b = true ↔ a = b := by
  cases a <;> cases b <;> simp [Ident.equals]
  · constructor <;> rintro ⟨h1, h2⟩ <;> exact ⟨h1.symm, h2.symm⟩
  · exact eq_comm
  · constructor <;> rintro ⟨h1, h2⟩ <;> exact ⟨h1.symm, h2.symm⟩

theorem equals_false_iff (a b : Ident) : a.equals b = false ↔ a ≠ b := by
  rw [Ne, ← equals_iff, Bool.not_eq_true]

theorem termEquals_some (a b : Ident) : termEquals (some a) (some b) = true ↔ a = b := by
  simp [termEquals, equals_iff]

theorem termEquals_true_iff (x y : Node) : termEquals x y = true ↔ ∃ a, x = some a ∧ y = some a := by
  cases x <;> cases y <;> simp [termEquals, equals_iff]
  exact eq_comm

theorem termEquals_comm (x y : Node) : termEquals x y = termEquals y x :=
  Bool.eq_iff_iff.mpr (by simp only [termEquals_true_iff, and_comm])

theorem termEquals_false_of_ne (a : Ident) (y : Node) (h : y ≠ some a) : termEquals y (some a) = false := by
  rw [← Bool.not_eq_true, termEquals_true_iff]
  rintro ⟨b, h1, h2⟩
  exact h (h1.trans h2.symm)

theorem assoc_mem {α β : Type} [DecidableEq α] {k : α} {v : β} {l : List (α × β)} (h : assoc k l = some v) :
    (k, v) ∈ l := by
  induction l with
  | nil => simp [assoc] at h
  | cons e rest ih =>
    obtain ⟨k', v'⟩ := e
    simp only [assoc] at h
    split at h
    · rename_i hk; subst hk; simp at h; subst h; simp
    · simp [ih h]

theorem assoc_cons_of_none {α β : Type} [DecidableEq α] {n k : α} {x v : β} {l : List (α × β)}
    (hn : assoc n l = none) (h : assoc k l = some v) : assoc k ((n, x) :: l) = some v := by
  simp only [assoc]
  split
  · rename_i hk; subst hk; rw [hn] at h; cases h
  · exact h

theorem lt_length_of_getElem? {α : Type} {l : List α} {i : Nat} {x : α} (h : l[i]? = some x) : i < l.length :=
  (List.getElem?_eq_some_iff.mp h).1

theorem decimal_inj {a b : Nat} (h : decimal a = decimal b) : a = b := by
  unfold decimal at h
  have h' : Nat.toDigits 10 a = Nat.toDigits 10 b :=
    (List.map_inj_right (fun x y hxy => Char.toNat_inj.mp hxy)).mp h
  have := congrArg (fun l => Nat.ofDigitChars 10 l 0) h'
  simpa [Nat.ofDigitChars_ten_toDigits] using this

theorem sprintf1_inj {fmt : Bytes} {verbs : List Nat} {x y l : Bytes}
    (hx : sprintf1 fmt verbs x = .label l) (hy : sprintf1 fmt verbs y = .label l) : x = y := by
  unfold sprintf1 at hx hy
  split at hx
  · rename_i pre suf hs
    rw [hs] at hy
    simp at hx hy
    rw [← hy] at hx
    have := List.append_cancel_left hx
    exact List.append_cancel_right this
  · cases hx

theorem driverU_inj : Function.Injective driverU := by
  intro a b h
  unfold driverU at h
  rw [List.append_assoc, List.append_assoc] at h
  exact decimal_inj (List.append_cancel_right (List.append_cancel_left h))

theorem fresh_eq {s s' : State} {f : FactoryRef} {id : Ident} (h : fresh s f = some (s', id)) :
    (s' = { s with dfltCtr := s.dfltCtr + 1 } ∧ id = .bnDefault (s.dfltCtr + 1)) ∨
    ∃ a c, s.bnfs[a]? = some c ∧ s' = { s with bnfs := s.bnfs.set a (c + 1) } ∧ id = .bn a (c + 1) := by
  cases f with
  | dflt => cases h; exact .inl ⟨rfl, rfl⟩
  | bnf i =>
    simp only [fresh] at h
    split at h
    · rename_i c hc; cases h; exact .inr ⟨i, c, hc, rfl, rfl⟩
    · cases h
  | strf j =>
    simp only [fresh] at h
    split at h
    · split at h
      · rename_i c hc; cases h; exact .inr ⟨_, c, hc, rfl, rfl⟩
      · cases h
    · cases h

theorem fresh_mappers {s s' : State} {f : FactoryRef} {id : Ident} (h : fresh s f = some (s', id)) :
    s'.mappers = s.mappers := by
  rcases fresh_eq h with ⟨rfl, _⟩ | ⟨_, _, _, rfl, _⟩ <;> rfl

theorem fresh_issued {s s' : State} {f : FactoryRef} {id : Ident} (h : fresh s f = some (s', id)) :
    ¬ Issued s id ∧ Issued s' id := by
  rcases fresh_eq h with ⟨rfl, rfl⟩ | ⟨a, c, hc, rfl, rfl⟩
  · simp [Issued]
  · obtain ⟨hlt, hv⟩ := List.getElem?_eq_some_iff.mp hc
    simp [Issued, hlt, hv]

theorem pass_cases (sc : Nat) (n : Node) :
    (∃ v, n = some (.bnString sc v)) ∨ (∀ v, n ≠ some (.bnString sc v)) :=
  (Classical.em _).imp_right not_exists.mp

theorem getLabel_pass_own (U : Nat → Bytes) (s : State) (sc : Nat) (fb : ProvRef) (v : Bytes) :
    getLabel U s (.pass sc fb) (some (.bnString sc v)) = (s, .label v) := by simp [getLabel]

theorem getLabel_pass_other (U : Nat → Bytes) (s : State) (sc : Nat) (fb : ProvRef) (n : Node)
    (h : ∀ v, n ≠ some (.bnString sc v)) : getLabel U s (.pass sc fb) n = getLabel U s fb n := by
  rcases n with _ | _ | _ | ⟨f, v⟩ <;> simp only [getLabel]
  exact if_neg fun hf => h v (by rw [hf])

theorem peek_pass_own (U : Nat → Bytes) (s : State) (sc : Nat) (fb : ProvRef) (v : Bytes) :
    peek U s (.pass sc fb) (some (.bnString sc v)) = some (.label v) := by simp [peek]

theorem peek_pass_other (U : Nat → Bytes) (s : State) (sc : Nat) (fb : ProvRef) (n : Node)
    (h : ∀ v, n ≠ some (.bnString sc v)) : peek U s (.pass sc fb) n = peek U s fb n := by
  rcases n with _ | _ | _ | ⟨f, v⟩ <;> simp only [peek]
  exact if_neg fun hf => h v (by rw [hf])

theorem peek_pass {U : Nat → Bytes} {s : State} {sc : Nat} {fb : ProvRef} {n : Node} {o : Out}
    (h : peek U s (.pass sc fb) n = some o) :
    (∃ v, n = some (.bnString sc v) ∧ o = .label v) ∨
      ((∀ v, n ≠ some (.bnString sc v)) ∧ peek U s fb n = some o) := by
  rcases pass_cases sc n with ⟨v, rfl⟩ | hno
  · rw [peek_pass_own] at h
    exact .inl ⟨v, rfl, (Option.some.inj h).symm⟩
  · rw [peek_pass_other U s sc fb n hno] at h
    exact .inr ⟨hno, h⟩

/-- Whatever holds of `s` and of `s` with a new key in the table of one int64 or UUID provider holds of
    the state after `getLabel`. -/
theorem getLabel_state (U : Nat → Bytes) (s : State) (n : Node) {P : State → Prop} (h0 : P s)
    (hi : ∀ i pr, s.int64s[i]? = some pr → assoc n pr.known = none →
      P { s with int64s := s.int64s.set i { pr with next := pr.next + 1, known := (n, pr.next) :: pr.known } })
    (hu : ∀ i pr, s.uuids[i]? = some pr → assoc n pr.known = none →
      P { s with uuidPos := s.uuidPos + 1, uuids := s.uuids.set i { pr with known := (n, s.uuidPos) :: pr.known } })
    (p : ProvRef) : P (getLabel U s p n).1 := by
  induction p with
  | int64 i =>
    simp only [getLabel]
    split
    · exact h0
    · rename_i pr hp
      split
      · exact h0
      · rename_i hn; exact hi i pr hp hn
  | uuid i =>
    simp only [getLabel]
    split
    · exact h0
    · rename_i pr hp
      split
      · exact h0
      · rename_i hn; exact hu i pr hp hn
  | pass sc fb ih =>
    rcases pass_cases sc n with ⟨v, rfl⟩ | hno
    · rw [getLabel_pass_own]; exact h0
    · rw [getLabel_pass_other U s sc fb n hno]; exact ih

theorem getLabel_mappers (U : Nat → Bytes) (s : State) (p : ProvRef) (n : Node) :
    (getLabel U s p n).1.mappers = s.mappers :=
  getLabel_state U s n (P := fun s' => s'.mappers = s.mappers) rfl (fun _ _ _ _ => rfl) (fun _ _ _ _ => rfl) p

end RdfModel.Proofs.C14
