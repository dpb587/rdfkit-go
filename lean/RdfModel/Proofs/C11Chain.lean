/-
  C11, combined decoder: the iterator chain of encoding/html/htmldefaults yields the concatenation of its nested
  decoders' streams (up to the first one that fails), and the blank-node histories of one combined decode keep the
  sub-decoders' nodes apart.
-/
import RdfModel.Model.HtmlCombined
import RdfModel.Proofs.C14
namespace RdfModel.Html
open RdfModel

variable {Q : Type}

def total (its : List (Iter Q)) : Nat := (its.map (fun it => it.items.length)).sum

theorem nextIters_spec (its : List (Iter Q)) :
    match nextIters its with
    | (some q, its', e) => e = false ∧ chainItems its = q :: chainItems its' ∧ chainErr its = chainErr its' ∧
        total its = total its' + 1
    | (none, _, e) => chainItems its = [] ∧ e = chainErr its := by
  induction its with
  | nil => simp [nextIters, chainItems, chainErr]
  | cons it rest ih =>
    cases hit : it.items with
    | cons x xs => simp [nextIters, hit, chainItems, chainErr, total]; omega
    | nil =>
      cases he : it.err with
      | true => simp [nextIters, hit, he, chainItems, chainErr]
      | false =>
        simp only [nextIters, hit, he]
        revert ih
        rcases nextIters rest with ⟨_ | q, its', e⟩ <;> simp [chainItems, chainErr, total, hit, he]

theorem drain_running (init : Option (List (Iter Q))) (fuel : Nat) (its : List (Iter Q)) (h : total its < fuel) :
    (drain init fuel { err := false, iters := some its }).1 = chainItems its ∧
    (drain init fuel { err := false, iters := some its }).2.err = chainErr its := by
  induction fuel generalizing its with
  | zero => omega
  | succ f ih =>
    have hs := nextIters_spec its
    rcases hn : nextIters its with ⟨_ | q, its', e⟩ <;> rw [hn] at hs
    · simp [drain, Dec.next, hn, hs.1, hs.2]
    · obtain ⟨rfl, h2, h3, h4⟩ := hs
      have := ih its' (by omega)
      simp [drain, Dec.next, hn, h2, h3, this.1, this.2]

/-- the first `Next()` initialises the decoder and goes on as any other -/
theorem drain_new (fuel : Nat) (its : List (Iter Q)) (h : total its < fuel) :
    (drain (some its) fuel Dec.new).1 = chainItems its ∧ (drain (some its) fuel Dec.new).2.err = chainErr its := by
  cases fuel with
  | zero => omega
  | succ f =>
    have : drain (some its) (f + 1) Dec.new = drain (some its) (f + 1) { err := false, iters := some its } := rfl
    rw [this]
    exact drain_running (some its) (f + 1) its h

theorem chainItems_clean (its : List (Iter Q)) (h : ∀ it ∈ its, it.err = false) :
    chainItems its = its.flatMap (fun it => it.items) := by
  induction its with
  | nil => rfl
  | cons it rest ih =>
    have h1 := h it (by simp)
    simp [chainItems, h1, ih (fun x hx => h x (by simp [hx]))]

theorem chainErr_clean (its : List (Iter Q)) (h : ∀ it ∈ its, it.err = false) : chainErr its = false := by
  induction its with
  | nil => rfl
  | cons it rest ih => simp [chainErr, h it (by simp), ih (fun x hx => h x (by simp [hx]))]

open RdfModel.Desc in
theorem docIters_items {βJ βM βR : Type} (fm : βM → CB βJ) (fr : βR → CB βJ) (scripts : List (List (DQuad βJ)))
    (md : List (Triple βM)) (rdfa : List (Triple βR)) :
    chainItems (docIters fm fr scripts md rdfa) = unionOf fm fr scripts md rdfa ∧
    chainErr (docIters fm fr scripts md rdfa) = false := by
  have hclean : ∀ it ∈ scripts.zipIdx.map (fun sk => ({ items := sk.1.map (DQuad.map (CB.j sk.2)), err := false } : Iter (DQuad (CB βJ)))),
      it.err = false := by
    intro it hit
    obtain ⟨sk, _, rfl⟩ := List.mem_map.mp hit
    rfl
  constructor
  · simp [docIters, unionOf, chainItems, jsonldIter, chainErr_clean _ hclean, chainItems_clean _ hclean, List.flatMap_map]
  · simp [docIters, chainErr, jsonldIter, chainErr_clean _ hclean]

open Spec.Html in
theorem scriptsKids_append (xs ys : List Tree) : scriptsKids (xs ++ ys) = scriptsKids xs ++ scriptsKids ys := by
  induction xs with
  | nil => simp [scriptsKids]
  | cons x xs ih => simp [scriptsKids, ih, List.append_assoc]

open Spec.Html in
/-- a JSON-LD script element with content -/
def ldScript (text : Str) : Tree := .elem .script { type := some ldJson } [.text text]

open Spec.Html in
/-- where the harness writer puts the script: in the head, in the body, or wrapped inside body content -/
def embed (place : Nat) (headNoise before after : List Tree) (text : Str) : Tree :=
  match place % 3 with
  | 0 => .elem .html {} [.elem .head {} (headNoise ++ [ldScript text]), .elem .body {} (before ++ after)]
  | 1 => .elem .html {} [.elem .head {} headNoise, .elem .body {} (before ++ ldScript text :: after)]
  | _ => .elem .html {} [.elem .head {} headNoise, .elem .body {} (before ++ .elem .div {} [.elem .span {} [ldScript text]] :: after)]

open BN RdfModel.C14 in
/-- the factory each sub-decoder (each script's decoder) draws from, by allocation order -/
def ownerFactory (r : Run) : Owner → FactoryRef
  | .jsonld k => .strf (k + 1)
  | .microdata => .bnf (r.scripts.length + 1)
  | .rdfa => .strf 0

open BN in
theorem ownerFactory_injective (r : Run) : Function.Injective (ownerFactory r) := by
  intro a b h
  cases a <;> cases b <;> simp [ownerFactory] at h <;> simp [h]

open BN RdfModel.C14 in
theorem opFactory_reqOp (j : Nat) (q : Req) : opFactory (reqOp j q) = some (.strf j) := by
  cases q <;> rfl

open BN RdfModel.C14 in
theorem scriptOps_owner (ss : List (List Req)) (k : Nat) :
    ∀ e ∈ scriptOps k ss, ∃ k' q, e = (some (Owner.jsonld k'), reqOp (k' + 1) q) := by
  induction ss generalizing k with
  | nil => simp [scriptOps]
  | cons rs rest ih =>
    intro e he
    simp only [scriptOps, List.mem_append, List.mem_map] at he
    rcases he with ⟨q, _, rfl⟩ | he
    · exact ⟨k, q, rfl⟩
    · exact ih (k + 1) e he

open BN RdfModel.C14 in
theorem tagged_owner (r : Run) (e : Option Owner × Op) (he : e ∈ tagged r) (o : Owner) (ho : e.1 = some o) :
    opFactory e.2 = some (ownerFactory r o) := by
  simp only [tagged, List.mem_append, List.mem_cons, List.mem_map, List.mem_replicate, List.not_mem_nil, or_false] at he
  rcases he with ((((rfl | ⟨_, _, rfl⟩) | he) | rfl) | ⟨_, rfl⟩) | ⟨q, _, rfl⟩
  · simp at ho
  · simp at ho
  · obtain ⟨k', q, rfl⟩ := scriptOps_owner r.scripts 0 e he
    simp at ho; subst ho
    simp [ownerFactory, opFactory_reqOp]
  · simp at ho
  · simp at ho; subst ho
    simp [ownerFactory, opFactory]
  · simp at ho; subst ho
    simp [ownerFactory, opFactory_reqOp]

end RdfModel.Html
