import RdfModel.Model.Rune
namespace RdfModel.Proofs.RangeCheck
open RdfModel

def entAll (tbl : RangeTable) (chk : Nat → Nat → Nat → Bool) : Bool :=
  tbl.all (fun e => chk e.1 e.2.1 e.2.2)

theorem lookup_entries (tbl : RangeTable) (d : Nat) (chk : Nat → Nat → Nat → Bool)
    (P : Nat → Nat → Prop)
    (sound : ∀ lo hi v, chk lo hi v = true → ∀ c, lo ≤ c → c ≤ hi → P c v)
    (hd : ∀ c, P c d) (h : entAll tbl chk = true) : ∀ c, P c (lookup tbl d c) := by
  apply lookup_forall tbl d P _ hd
  intro e he c h1 h2
  simp only [entAll, List.all_eq_true] at h
  exact sound e.1 e.2.1 e.2.2 (h e he) c h1 h2

/-- Entries with value `m` are short and every one of their points satisfies `p` (the points are
    enumerated: for the few entries of a mode whose runes the grammar lists one by one). The length test
    plays no part in soundness; it makes the check fail at once, instead of enumerating, on a table
    with a long entry of that mode. 64 is above the longest such entry of the regenerated tables (the
    33 controls and space that local names percent-encode). -/
def pointsChk (m : Nat) (p : Nat → Bool) (lo hi v : Nat) : Bool :=
  v != m || (decide (hi - lo < 64) && (List.range (hi - lo + 1)).all (fun i => p (lo + i)))

theorem points_ok (m : Nat) (hm : m ≠ 0) (p : Nat → Bool) (tbl : RangeTable)
    (h : entAll tbl (pointsChk m p) = true) : ∀ c, lookup tbl 0 c = m → p c = true :=
  lookup_entries tbl 0 _ (fun c v => v = m → p c = true)
    (fun lo hi v hv c h1 h2 hvm => by
      simp only [pointsChk, Bool.or_eq_true, bne_iff_ne, ne_eq, Bool.and_eq_true,
        List.all_eq_true, List.mem_range, decide_eq_true_eq] at hv
      rcases hv with hv | ⟨_, hdec⟩
      · exact absurd hvm hv
      · have := hdec (c - lo) (by omega)
        rwa [show lo + (c - lo) = c by omega] at this)
    (fun _ h0 => absurd h0.symm hm) h

/-- `q (lookup tbl d c)` for every `c ∈ [lo, hi]`, decided on the entries. -/
def checkRange (q : Nat → Bool) (d : Nat) : RangeTable → Nat → Nat → Bool
  | [], _, _ => q d
  | (l, h, v) :: rest, lo, hi =>
    (if max lo l ≤ min hi h then q v else true) &&
    (if lo < l then checkRange q d rest lo (min hi (l - 1)) else true) &&
    (if h < hi then checkRange q d rest (max lo (h + 1)) hi else true)

theorem checkRange_sound (q : Nat → Bool) (d : Nat) (tbl : RangeTable) :
    ∀ lo hi, checkRange q d tbl lo hi = true → ∀ c, lo ≤ c → c ≤ hi → q (lookup tbl d c) = true := by
  induction tbl with
  | nil => intro lo hi h c _ _; simpa [checkRange, lookup] using h
  | cons e rest ih =>
    obtain ⟨l, h, v⟩ := e
    intro lo hi hchk c h1 h2
    simp only [checkRange, Bool.and_eq_true] at hchk
    obtain ⟨⟨hA, hB⟩, hC⟩ := hchk
    unfold lookup
    split
    · next hin =>
      rw [if_pos (by omega)] at hA
      exact hA
    · next hout =>
      rcases Nat.lt_or_ge c l with hc | hc
      · rw [if_pos (by omega)] at hB
        exact ih _ _ hB c h1 (by omega)
      · have : h < c := by omega
        rw [if_pos (by omega)] at hC
        exact ih _ _ hC c (by omega) h2

def nz (v : Nat) : Bool := v != 0

/-- every code point of every range of `bad` has a non-zero table value -/
def badNZ (tbl : RangeTable) (bad : RangeSet) : Bool :=
  bad.all (fun r => checkRange nz 0 tbl r.1 r.2)

theorem badNZ_sound {tbl : RangeTable} {bad : RangeSet} (h : badNZ tbl bad = true) {c : Nat}
    (hc : inRanges bad c = true) : lookup tbl 0 c ≠ 0 := by
  rw [inRanges_iff] at hc
  obtain ⟨r, hr, h1, h2⟩ := hc
  simp only [badNZ, List.all_eq_true] at h
  have := checkRange_sound nz 0 tbl _ _ (h r hr) c h1 h2
  simpa [nz] using this

/-- The code points an IRIREF cannot hold raw: U+0000–U+0020 and `< > " { | } ^ backquote \`. -/
def iriBad : RangeSet :=
  [(0, 0x20), (0x3c, 0x3c), (0x3e, 0x3e), (0x22, 0x22), (0x7b, 0x7d), (0x5e, 0x5e), (0x60, 0x60),
   (0x5c, 0x5c)]

/-- `p` at both values of a flag; nested for a table that depends on two flags. -/
def both {α : Type} (p : α → Bool) (f : Bool → α) : Bool := p (f true) && p (f false)

theorem both_elim {α : Type} {p : α → Bool} {f : Bool → α} (h : both p f = true) (a : Bool) :
    p (f a) = true := by
  simp only [both, Bool.and_eq_true] at h
  cases a; exact h.2; exact h.1

theorem mode_le (n : Nat) (tbl : RangeTable)
    (h : entAll tbl (fun _ _ v => decide (v ≤ n)) = true) : ∀ c, lookup tbl 0 c ≤ n :=
  lookup_entries tbl 0 _ (fun _ v => v ≤ n)
    (fun _ _ _ hv _ _ _ => by simpa using hv) (fun _ => Nat.zero_le _) h

theorem raw_of_bad (tbl : RangeTable) (bad : RangeSet) (h : badNZ tbl bad = true) (c : Nat)
    (h0 : lookup tbl 0 c = 0) : inRanges bad c = false := by
  cases hb : inRanges bad c with
  | false => rfl
  | true => exact absurd h0 (badNZ_sound h hb)

theorem mode_bound (m bound : Nat) (hm : m ≠ 0) (tbl : RangeTable)
    (h : entAll tbl (fun _ hi v => v != m || decide (hi ≤ bound)) = true) :
    ∀ c, lookup tbl 0 c = m → c ≤ bound :=
  lookup_entries tbl 0 _ (fun c v => v = m → c ≤ bound)
    (fun lo hi v hv c _ h2 hvm => by
      simp only [Bool.or_eq_true, bne_iff_ne, ne_eq, decide_eq_true_eq] at hv
      rcases hv with hv | hv
      · exact absurd hvm hv
      · omega)
    (fun _ h0 => absurd h0.symm hm) h

end RdfModel.Proofs.RangeCheck
