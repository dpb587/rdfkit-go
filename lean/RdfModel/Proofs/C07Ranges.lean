import RdfModel.Model.Rune
namespace RdfModel.Proofs.C07
open RdfModel

theorem inRanges_append (a b : RangeSet) (c : Nat) :
    inRanges (a ++ b) c = (inRanges a c || inRanges b c) := by
  induction a with
  | nil => simp [inRanges]
  | cons x rest ih => obtain ⟨lo, hi⟩ := x; simp [inRanges, ih, Bool.or_assoc]

/-- `rs` without the code point `p` (ranges are split; order is kept). -/
def removePoint (p : Nat) : RangeSet → RangeSet
  | [] => []
  | (lo, hi) :: rest =>
    (if p < lo ∨ hi < p then [(lo, hi)]
     else (if lo < p then [(lo, p - 1)] else []) ++ (if p < hi then [(p + 1, hi)] else []))
    ++ removePoint p rest

theorem inRanges_removePoint (p : Nat) (rs : RangeSet) (c : Nat) :
    inRanges (removePoint p rs) c = (inRanges rs c && c != p) := by
  induction rs with
  | nil => rfl
  | cons x rest ih =>
    obtain ⟨lo, hi⟩ := x
    have one : inRanges (if p < lo ∨ hi < p then [(lo, hi)]
        else (if lo < p then [(lo, p - 1)] else []) ++ (if p < hi then [(p + 1, hi)] else [])) c =
        (decide (lo ≤ c) && decide (c ≤ hi) && c != p) := by
      rw [Bool.eq_iff_iff]
      split
      · simp [inRanges]; omega
      · split <;> split <;> simp [inRanges] <;> omega
    simp only [removePoint, inRanges_append, ih, inRanges, one, Bool.and_or_distrib_right]

theorem agree_off_point {a b : RangeSet} {p : Nat} (h : removePoint p a = b) (c : Nat) (hc : c ≠ p) :
    inRanges a c = inRanges b c := by
  have := inRanges_removePoint p a c
  rw [h] at this
  simp [this, hc]

end RdfModel.Proofs.C07
