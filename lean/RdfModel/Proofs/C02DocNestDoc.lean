/-
  Nested-resource mode, document level: every section `AddResource` writes is the printed form of a `triples .` block.
-/
import RdfModel.Proofs.C02DocNestInd
import RdfModel.Proofs.C02DocPermIso
import RdfModel.Props.C08Doc
namespace RdfModel.Proofs.C02Doc
open RdfModel RdfModel.Ttl RdfModel.TtlEnc RdfModel.C02 RdfModel.Desc RdfModel.Spec.TtlPrint

variable {T : Tables}

section Sections
variable {β : Type} [DecidableEq β] {C : TtlDoc.Cfg} {c : Ctx β} {base : Option (List Nat)}

/-- what a block denotes, in terms of the flattening of the resource `r'` -/
def BlockDen (C : TtlDoc.Cfg) (c : Ctx β) (base : Option (List Nat)) (b : TA.Block) (r' : Resource β)
    (used : List (List Nat)) : Prop :=
  ∀ (D : List Nat → Prop) (st : TA.DState), StOK base c.pm D st → (∀ l ∈ used, D l) →
    ∃ (ts : List (Triple TA.B)),
      TA.dBlock C.resolve st b = some (ts.map quadOf, { st with next := (r'.newTriples st.next).2 }) ∧
      ts.Perm ((r'.newTriples st.next).1.map (Triple.map (sig c.label)))

/-- a section with everything known about it; `r'`: the deep permutation of the resource whose flattening the block denotes -/
structure SecItem (β : Type) extends BItem where
  r' : Resource β
  used : List (List Nat)

abbrev mkSec (b : TA.Block) (sl : List TA.Slot) (text : List Nat) (r' : Resource β) (used : List (List Nat)) :
    SecItem β := { b := b, sl := sl, text := text, r' := r', used := used }

def SecInv (T : Tables) (C : TtlDoc.Cfg) (c : Ctx β) (base : Option (List Nat)) (r : Resource β) (x : SecItem β) : Prop :=
  BSyn T x.toBItem ∧ resSubj r = resSubj x.r' ∧ DP (resStmts r) (resStmts x.r') ∧ BlockDen C c base x.b x.r' x.used

omit [DecidableEq β] in
theorem fuelFor_ok (st : List (Stmt β)) : 2 * stmtsDepth st + 2 ≤ fuelFor st := by
  unfold fuelFor; omega

theorem section_inv (S : Setup C T c base) (hC : NestCfgOK C T) (tp : TokPrint T) (r : Resource β)
    (hr : ResourceOK c base r) (hne : resStmts r ≠ []) :
    ∃ x : SecItem β, resourceSection c false r = OR.ok (some x.text, x.used) ∧ SecInv T C c base r x := by
  have hput := fun (st : List (Stmt β)) (hst : st ≠ []) (hok : StmtsOK c base st) =>
    (write_inv S hC tp (fuelFor st)).2.1 0 st hst hok (fuelFor_ok st)
  have hemp : ∀ st : List (Stmt β), st ≠ [] → st.isEmpty = false := by
    intro st h
    cases st with
    | nil => exact absurd rfl h
    | cons _ _ => rfl
  -- the anonymous root, shared by `.anon st` and `.subject none st`
  have anonCase : ∀ (st : List (Stmt β)), st ≠ [] → StmtsOK c base st →
      ∃ x : SecItem β, (write c false (fuelFor st) (.put 0 st)).bind (fun r =>
          OR.ok (some (asc "[]" ++ r.text ++ [sp, 0x2e, nl]), ([] : List (List Nat)) ++ r.used)) = OR.ok (some x.text, x.used) ∧
        BSyn T x.toBItem ∧ none = resSubj x.r' ∧ DP st (resStmts x.r') ∧ BlockDen C c base x.b x.r' x.used := by
    intro st hst hok
    obtain ⟨pr, hpr, pos, sl, ld, body, l', htext, hld, hldn, hsyn, hdp, hden⟩ := hput st hst hok
    refine ⟨mkSec (.triples ⟨.anon, pos⟩) ([tokSlot [] [], tokSlot [] ld] ++ sl [sp] ++ [tokSlot [] [nl]])
      (asc "[]" ++ (ld ++ body) ++ [sp, 0x2e, nl]) (.anon l') pr.used, ?_, ?_, rfl, hdp, ?_⟩
    · rw [hpr]
      simp only [OR.bind, OR.ok, htext, List.nil_append]
    · refine ⟨?_, ?_, ?_, ?_, ?_⟩
      · simp only [C08.blockWf, C08.triplesWf, C08.subjWf, hsyn.wf, Bool.true_and, Bool.or_eq_true, Bool.not_eq_true',
          List.isEmpty_eq_false_iff]
        exact Or.inl hsyn.ne
      · simp only [C08.blockNoBoolPfx, C08.triplesNoBoolPfx, C08.subjNoBoolPfx, hsyn.nb, Bool.true_and]
      · simp only [List.length_append, List.length_cons, List.length_nil, hsyn.len, TA.blockSlots, TA.triplesSlots,
          TA.subjSlots]
      · refine noGlue_append.2 ⟨noGlue_append.2 ⟨?_, hsyn.ng _⟩, noGlue_tok _ _⟩
        intro s hs
        simp only [List.mem_cons, List.mem_nil_iff, or_false] at hs
        rcases hs with rfl | rfl <;> rfl
      · intro ch i rest hag
        obtain ⟨h12, h3⟩ := agree_append.1 hag
        obtain ⟨h1, h2⟩ := agree_append.1 h12
        obtain ⟨h1a, h1b⟩ := agree_two h1
        have h3 := agree_one h3
        simp only [List.length_append, List.length_cons, List.length_nil, hsyn.len] at h2 h3
        simp only [TA.pBlock, TA.pStatement, TA.pTriples, TA.pSubj, TA.pObj, TA.pPunct, TA.subjSlots, TA.triplesSlots,
          h1a, h1b, after_tok _ _ ld hld hldn]
        rw [after_punct_nil _ rfl, hsyn.pr ch (i + 2) [sp] _ ws_sp.1 ws_sp.2 (by simpa using h2)]
        have hidx : i + (2 + TA.posSlots pos + 1) - 1 = i + (0 + 1 + 1 + TA.posSlots pos) := by omega
        rw [hidx, h3, after_tok _ _ [nl] (ws_nltabs 0).1 (by simp)]
        simp [asc]
    · intro D st0 hst0 hD
      obtain ⟨ts, h1, hp1⟩ := hden D { st0 with next := st0.next + 1 } (hst0.next _) hD (.bnode (.fresh st0.next))
      refine ⟨ts, ?_, hp1⟩
      have e : (Term.bnode (Desc.BN.fresh st0.next) : Term (Desc.BN β)).map (sig c.label) = .bnode (.anon st0.next) := rfl
      rw [e] at h1
      simp only [TA.dBlock, TA.dTriples, TA.dSubj, TA.dObj, TA.DState.fresh, h1, List.nil_append]
      rfl
  cases r with
  | anon st =>
    have hst : st ≠ [] := hne
    have hok : StmtsOK c base st := hr
    obtain ⟨x, hx, h1, h2, h3, h4⟩ := anonCase st hst hok
    refine ⟨x, ?_, h1, h2, h3, h4⟩
    simp only [resourceSection, hemp st hst, Bool.false_eq_true, ↓reduceIte]
    exact hx
  | subject so st =>
    have hst : st ≠ [] := hne
    cases so with
    | none =>
      have hok : StmtsOK c base st := hr
      obtain ⟨x, hx, h1, h2, h3, h4⟩ := anonCase st hst hok
      refine ⟨x, ?_, h1, h2, h3, h4⟩
      simp only [resourceSection, hemp st hst, Bool.false_eq_true, ↓reduceIte]
      exact hx
    | some s =>
      obtain ⟨hs, hok⟩ : subjectOK c base s ∧ StmtsOK c base st := hr
      obtain ⟨stext, sx, scs, hsw, hswf, hsnb, hsslots, hspr, hsden⟩ := subject_syn S hC tp s hs
      obtain ⟨pr, hpr, pos, sl, ld, body, l', htext, hld, hldn, hsyn, hdp, hden⟩ := hput st hst hok
      refine ⟨mkSec (.triples ⟨sx, pos⟩) ([tokSlot scs ld] ++ sl [sp] ++ [tokSlot [] [nl]])
        (stext ++ (ld ++ body) ++ [sp, 0x2e, nl]) (.subject (some s) l') (usedOfSubject c.pm s ++ pr.used), ?_, ?_, rfl,
        hdp, ?_⟩
      · simp only [resourceSection, hemp st hst, Bool.false_eq_true, ↓reduceIte, hsw, hpr, OR.bind, OR.ok, htext]
      · refine ⟨?_, ?_, ?_, ?_, ?_⟩
        · simp only [C08.blockWf, C08.triplesWf, hswf, hsyn.wf, Bool.true_and, Bool.or_eq_true, Bool.not_eq_true',
            List.isEmpty_eq_false_iff]
          exact Or.inl hsyn.ne
        · simp only [C08.blockNoBoolPfx, C08.triplesNoBoolPfx, hsnb, hsyn.nb, Bool.true_and]
        · simp only [List.length_append, List.length_cons, List.length_nil, hsyn.len, TA.blockSlots, TA.triplesSlots,
            hsslots]
        · exact noGlue_append.2 ⟨noGlue_append.2 ⟨noGlue_tok _ _, hsyn.ng _⟩, noGlue_tok _ _⟩
        · intro ch i rest hag
          obtain ⟨h12, h3⟩ := agree_append.1 hag
          obtain ⟨h1, h2⟩ := agree_append.1 h12
          have h1 := agree_one h1
          have h3 := agree_one h3
          simp only [List.length_append, List.length_cons, List.length_nil, hsyn.len] at h2 h3
          simp only [TA.pBlock, TA.pStatement, TA.pTriples, TA.triplesSlots, hsslots]
          rw [hspr ch i ld _ hld hldn h1, hsyn.pr ch (i + 1) [sp] _ ws_sp.1 ws_sp.2 (by simpa using h2)]
          have hidx : i + (1 + TA.posSlots pos + 1) - 1 = i + (0 + 1 + TA.posSlots pos) := by omega
          simp only [TA.pPunct]
          rw [hidx, h3, after_tok _ _ [nl] (ws_nltabs 0).1 (by simp)]
          simp
      · intro D st0 hst0 hD
        have hD1 : ∀ l ∈ usedOfSubject c.pm s, D l := fun l hl => hD l (List.mem_append_left _ hl)
        have hD2 : ∀ l ∈ pr.used, D l := fun l hl => hD l (List.mem_append_right _ hl)
        obtain ⟨ts, h1, hp1⟩ := hden D st0 hst0 hD2 (s.map Desc.BN.orig)
        refine ⟨ts, ?_, hp1⟩
        rw [map_orig_sig] at h1
        simp only [TA.dBlock, TA.dTriples, hsden D st0 hst0 hD1, h1, List.nil_append]
        rfl

end Sections

end RdfModel.Proofs.C02Doc
