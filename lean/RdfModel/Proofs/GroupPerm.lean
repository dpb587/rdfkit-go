/-
  Proofs.GroupPerm — grouping a list by a key: the groups of distinct keys, one after the other, are a permutation
  of the elements whose key is among them. Stated for `filter (key · = k)`; a model that groups with `==`, or rebuilds
  the key in each group, rewrites its groups to that form first.
-/
namespace RdfModel

theorem filter_or_perm {α : Type} (p q : α → Bool) (l : List α) (hd : ∀ a ∈ l, ¬ (p a = true ∧ q a = true)) :
    (l.filter p ++ l.filter q).Perm (l.filter (fun a => p a || q a)) := by
  refine .trans (.of_eq ?_) (List.filter_append_perm p _)
  rw [List.filter_filter, List.filter_filter]
  congr 1 <;> refine List.filter_congr fun a ha => ?_ <;> have := hd a ha <;>
    cases hp : p a <;> cases hq : q a <;> simp_all

theorem group_perm_key {α κ : Type} [DecidableEq κ] (key : α → κ) (l : List α) :
    ∀ ks : List κ, ks.Nodup →
      (ks.flatMap (fun k => l.filter (fun a => key a = k))).Perm (l.filter (fun a => decide (key a ∈ ks))) := by
  intro ks
  induction ks with
  | nil => intro _; simp
  | cons k ks ih =>
    intro hn
    rw [List.nodup_cons] at hn
    simp only [List.flatMap_cons]
    refine (List.Perm.append_left _ (ih hn.2)).trans ?_
    refine (filter_or_perm _ _ l ?_).trans ?_
    · intro t _ h
      simp only [decide_eq_true_eq] at h
      exact hn.1 (h.1 ▸ h.2)
    · apply List.Perm.of_eq
      apply List.filter_congr
      intro t _
      simp only [List.mem_cons]
      by_cases h1 : key t = k <;> by_cases h2 : key t ∈ ks <;> simp [h1, h2]

theorem group_perm_all {α κ : Type} [DecidableEq κ] (key : α → κ) (l : List α) (ks : List κ) (hn : ks.Nodup)
    (hall : ∀ a ∈ l, key a ∈ ks) : (ks.flatMap (fun k => l.filter (fun a => key a = k))).Perm l := by
  have h := group_perm_key key l ks hn
  rwa [List.filter_eq_self.2 (fun a ha => by simp [hall a ha])] at h

end RdfModel
