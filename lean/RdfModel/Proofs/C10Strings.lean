import RdfModel.Spec.JsonLdFragment
import RdfModel.Proofs.AscConsts
namespace RdfModel.Proofs.C10
open RdfModel RdfModel.JL

attribute [asc_consts] kId kType kValue kLanguage kList kSet kGraph kContext kBase kVocab kVersion kContainer
  xsd xsdBoolean xsdInteger xsdDouble rdfNs rdfType

theorem splitColon_eq {v p s : Str} (h : splitColon v = some (p, s)) : v = p ++ cColon :: s := by
  induction v generalizing p with
  | nil => simp [splitColon] at h
  | cons c cs ih =>
    unfold splitColon at h
    split at h
    · next hc => simp only [Option.some.injEq, Prod.mk.injEq] at h; obtain ⟨rfl, rfl⟩ := h; simp [hc]
    · cases hs : splitColon cs with
      | none => simp [hs] at h
      | some r =>
        obtain ⟨p', s'⟩ := r
        simp only [hs, Option.some.injEq, Prod.mk.injEq] at h
        obtain ⟨rfl, rfl⟩ := h
        simp [ih hs]

theorem splitColon_append {p : Str} (hp : p.contains cColon = false) (r : Str) :
    splitColon (p ++ cColon :: r) = some (p, r) := by
  induction p with
  | nil => simp [splitColon]
  | cons a p ih =>
    have ha : a ≠ cColon := by
      intro e; subst e; simp at hp
    have hp' : p.contains cColon = false := by
      rw [Bool.eq_false_iff] at hp ⊢
      intro h; apply hp
      have : cColon ∈ p := by simpa using h
      simpa using List.mem_cons_of_mem a this
    simp only [List.cons_append, splitColon, if_neg ha, ih hp']

theorem isScheme_head {p : Str} (h : isScheme p = true) : ∃ a rest, p = a :: rest ∧ isAlpha a = true := by
  cases p with
  | nil => simp [isScheme] at h
  | cons a rest => simp only [isScheme, Bool.and_eq_true] at h; exact ⟨a, rest, rfl, h.1⟩

theorem absIri_shape {v : Str} (h : absIri v = true) :
    ∃ a rest s, v = a :: (rest ++ cColon :: s) ∧ isAlpha a = true ∧ splitColon v = some (a :: rest, s) ∧
      isScheme (a :: rest) = true := by
  unfold absIri at h
  cases hs : splitColon v with
  | none => simp [hs] at h
  | some r =>
    obtain ⟨p, s⟩ := r
    simp only [hs, Bool.and_eq_true] at h
    obtain ⟨a, rest, rfl, ha⟩ := isScheme_head h.1.1
    exact ⟨a, rest, s, by simpa using splitColon_eq hs, ha, rfl, h.1.1⟩

theorem alpha_ne_at {a : Nat} (h : isAlpha a = true) : a ≠ cAt := by
  intro e; subst e; simp [isAlpha, cAt] at h

theorem alpha_ne_underscore {a : Nat} (h : isAlpha a = true) : a ≠ cUnderscore := by
  intro e; subst e; simp [isAlpha, cUnderscore] at h

theorem abs_head {v : Str} (h : absIri v = true) : ∃ a r, v = a :: r ∧ a ≠ cAt ∧ a ≠ cUnderscore := by
  obtain ⟨a, rest, s, hv, ha, _, _⟩ := absIri_shape h
  exact ⟨a, _, hv, alpha_ne_at ha, alpha_ne_underscore ha⟩

theorem keywords_head : ∀ k ∈ keywords, k.head? = some cAt := by decide +kernel

theorem keywords_form : ∀ k ∈ keywords, isKeywordForm k = true := by decide +kernel

theorem kw_head : kContext.head? = some cAt ∧ kId.head? = some cAt ∧ kType.head? = some cAt ∧ kGraph.head? = some cAt := by
  decide +kernel

theorem isKeyword_of_head {p : Str} (h : p.head? ≠ some cAt) : isKeyword p = false := by
  unfold isKeyword
  rw [Bool.eq_false_iff]
  intro hc
  exact h (keywords_head _ (List.contains_iff_mem.1 hc))

theorem isKeyword_alpha {a : Nat} {r : Str} (h : isAlpha a = true) : isKeyword (a :: r) = false :=
  isKeyword_of_head fun e => alpha_ne_at h (Option.some.inj e)

theorem isKeywordForm_of_head : ∀ {p : Str}, p.head? ≠ some cAt → isKeywordForm p = false
  | [], _ => rfl
  | [_], _ => rfl
  | a :: d :: rest, h => by
    have : (a == cAt) = false := by simpa using h
    simp [isKeywordForm, this]

theorem isKeywordForm_alpha {a : Nat} {r : Str} (h : isAlpha a = true) : isKeywordForm (a :: r) = false :=
  isKeywordForm_of_head fun e => alpha_ne_at h (Option.some.inj e)

theorem contains_colon_of_abs {v : Str} (h : absIri v = true) : v.contains cColon = true := by
  obtain ⟨a, rest, s, rfl, _, _, _⟩ := absIri_shape h
  simp

theorem head_of_abs {v : Str} (h : absIri v = true) : v.head? ≠ some cAt := by
  obtain ⟨a, rest, s, rfl, ha, _, _⟩ := absIri_shape h
  simp only [List.head?_cons, ne_eq, Option.some.injEq]
  exact alpha_ne_at ha

theorem ne_of_head {k v : Str} (hk : k.head? = some cAt) (hv : v.head? ≠ some cAt) : v ≠ k := by
  intro e; subst e; exact hv hk

theorem abs_ne_keyword {p k : Str} (h : absIri p = true) (hk : k.head? = some cAt) : p ≠ k :=
  ne_of_head hk (head_of_abs h)

end RdfModel.Proofs.C10
