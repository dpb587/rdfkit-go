/-
  Proofs.C08TokB (namespace `Proofs.C08Tok`) — the producers of `Model/TurtleTokens.lean` read back every form the printer of
  `Spec/TurtlePrinter.lean` writes (IRIREF, strings, local names).
-/
import RdfModel.Props.C02TokensDefs
import RdfModel.Proofs.HexDigits
namespace RdfModel.Proofs.C08Tok
open RdfModel RdfModel.Ttl RdfModel.C02 RdfModel.Spec.TtlPrint

theorem scalars_tail {c : Nat} {s : List Nat} (hs : Scalars (c :: s)) : Scalars s :=
  fun x hx => hs x (List.mem_cons_of_mem _ hx)

theorem scalars_head {c : Nat} {s : List Nat} (hs : Scalars (c :: s)) : IsScalar c :=
  hs c List.mem_cons_self

theorem hexD_dec (T : Tables) (hT : TablesOK T) (l : Bool) (d : Nat) (hd : d < 16) :
    lookup T.hexDec 0 (hexD l d) = d + 1 := by
  unfold hexD
  cases l
  · simpa using hT.hex d hd
  · simpa using hT.hex_lower d hd

theorem hex4c_eq (l : Bool) (c : Nat) : hex4c l c = (Hex.nibbles 4 c).map (hexD l) := by
  simp [hex4c, Hex.nibbles]

theorem hex8c_eq (l : Bool) (c : Nat) : hex8c l c = (Hex.nibbles 8 c).map (hexD l) := by
  simp [hex8c, Hex.nibbles]

/-- Declared here and not beside `Uchars.u4`/`u8` in Proofs/HexDigits.lean because `uchar` is the
    printer's (Spec/TurtlePrinter.lean). -/
theorem _root_.RdfModel.Proofs.Hex.Uchars.reads {α : Type} {dec : Nat → Nat}
    {f : SState → List Nat → List Nat → α} (hf : Hex.Uchars dec f)
    (hx : ∀ l d, d < 16 → dec (hexD l d) = d + 1) (w l : Bool) {c : Nat} (hc : c ≤ 0x10FFFF)
    (r acc : List Nat) : f .body (uchar w l c ++ r) acc = f .body r (c :: acc) := by
  unfold uchar
  split
  · next h =>
    simp only [Bool.and_eq_true, Bool.not_eq_true', decide_eq_true_eq] at h
    rw [List.cons_append, List.cons_append, hex4c_eq, hf.u4 (hx l) h.2]
  · rw [List.cons_append, List.cons_append, hex8c_eq, hf.u8 (hx l) hc]

theorem scanIRIREF_uchars (T : Tables) (e : End) :
    Hex.Uchars (lookup T.hexDec 0) (scanIRIREF T e) where
  more m m' ms v x d r acc hx hm := by
    rw [scanIRIREF, hx]
    simp only
    rw [if_neg (by omega)]
  last m v x d r acc hx hm := by
    rw [scanIRIREF, hx]
    simp only
    rw [if_neg (by omega)]
  bs r acc := by simp [scanIRIREF]
  u r acc := by simp [scanIRIREF]
  U r acc := by simp [scanIRIREF]

theorem iriRawOK_eq (c : Nat) : iriRawOK c = !(iriForbidden c || c = 0x3e || c = 0x5c) := by
  unfold iriRawOK iriForbidden
  ac_rfl

theorem scanIRIREF_raw (T : Tables) (e : End) (c : Nat) (h : iriRawOK c = true) (r acc : List Nat) :
    scanIRIREF T e .body (c :: r) acc = scanIRIREF T e .body r (c :: acc) := by
  simp only [iriRawOK_eq, Bool.not_eq_true', Bool.or_eq_false_iff, decide_eq_false_iff_not] at h
  rw [scanIRIREF, if_neg h.1.2, if_neg h.2, h.1.1]
  simp

theorem scanIRIREF_rune (T : Tables) (hT : TablesOK T) (e : End) (ch : Choice) (c : Nat)
    (hc : c ≤ 0x10FFFF) (r acc : List Nat) :
    scanIRIREF T e .body (printIriRune ch c ++ r) acc = scanIRIREF T e .body r (c :: acc) := by
  have hraw : scanIRIREF T e .body ((if iriRawOK c then [c] else uchar false false c) ++ r) acc
      = scanIRIREF T e .body r (c :: acc) := by
    split
    · next h => exact scanIRIREF_raw T e c h r acc
    · exact (scanIRIREF_uchars T e).reads (hexD_dec T hT) _ _ hc r acc
  cases ch with
  | raw => exact hraw
  | echar => exact hraw
  | u4 l => exact (scanIRIREF_uchars T e).reads (hexD_dec T hT) _ _ hc r acc
  | u8 l => exact (scanIRIREF_uchars T e).reads (hexD_dec T hT) _ _ hc r acc

theorem scanIRIREF_printBody (T : Tables) (hT : TablesOK T) (e : End) (s : List Nat)
    (hs : Scalars s) (rest : List Nat) (chs : List Choice) (acc : List Nat) :
    scanIRIREF T e .body (printIriBody chs s ++ 0x3e :: rest) acc
      = .ok (goString (acc.reverse ++ s)) rest := by
  induction s generalizing chs acc with
  | nil => simp [printIriBody, scanIRIREF]
  | cons c s ih =>
    simp only [printIriBody, List.append_assoc]
    rw [scanIRIREF_rune T hT e _ c (isScalar_le (scalars_head hs)), ih (scalars_tail hs)]
    simp

theorem print_iriref (T : Tables) (hT : TablesOK T) (e : End) (chs : List Choice) (s : List Nat)
    (hs : Scalars s) (rest : List Nat) :
    produceIRIREF T e (printIRIREF chs s ++ rest) = .ok s rest := by
  simp only [printIRIREF, List.cons_append, List.append_assoc, List.nil_append, produceIRIREF,
    if_true]
  rw [scanIRIREF_printBody T hT e s hs rest chs []]
  simp [goString_id_of_scalar hs]

def stOf : Bool → LState
  | true => .first
  | false => .body

theorem localEscapable_eq (c : Nat) : localEscapable c = isLocalEsc c := rfl

theorem isHex_ne_pct {c : Nat} (h : isHex c = true) : c ≠ 0x25 := by
  intro hc; subst hc; simp [isHex] at h

theorem isHex_not_esc {c : Nat} (h : isHex c = true) : localEscapable c = false := by
  simp only [isHex, Bool.or_eq_true, Bool.and_eq_true, decide_eq_true_eq] at h
  simp only [localEscapable, Bool.or_eq_false_iff, decide_eq_false_iff_not]
  omega

def rawTest (T : Tables) (first : Bool) (c : Nat) : Bool :=
  if first then inRanges T.pnCharsU c || c = 0x3a || isDigit c
  else inRanges T.pnChars c || c = 0x2e || c = 0x3a

theorem scanLocal_raw (T : Tables) (e : End) (first : Bool) (c : Nat)
    (h : rawTest T first c = true) (r acc : List Nat) (le : Bool) :
    scanLocal T e (stOf first) (c :: r) acc le = scanLocal T e .body r (c :: acc) false := by
  cases first <;> simp only [rawTest, Bool.false_eq_true, if_false, if_true] at h <;>
    rw [stOf, scanLocal, if_pos h]

theorem rawTest_bs (T : Tables) (hT : TablesOK T) (first : Bool) : rawTest T first 0x5c = false := by
  cases first <;> simp [rawTest, hT.pn_bs, hT.pnU_bs, isDigit, NQ.isDigit]

theorem rawTest_pct (T : Tables) (hT : TablesOK T) (first : Bool) : rawTest T first 0x25 = false := by
  cases first <;> simp [rawTest, hT.pn_pct, hT.pnU_pct, isDigit, NQ.isDigit]

theorem scanLocal_bs (T : Tables) (hT : TablesOK T) (e : End) (first : Bool)
    (r acc : List Nat) (le : Bool) :
    scanLocal T e (stOf first) (0x5c :: r) acc le = scanLocal T e .esc r acc le := by
  have h := rawTest_bs T hT first
  cases first <;> simp only [rawTest, Bool.false_eq_true, if_false, if_true] at h <;>
    rw [stOf, scanLocal, h] <;> simp

theorem scanLocal_pct (T : Tables) (hT : TablesOK T) (e : End) (first : Bool)
    (r acc : List Nat) (le : Bool) :
    scanLocal T e (stOf first) (0x25 :: r) acc le = scanLocal T e .pct1 r acc le := by
  have h := rawTest_pct T hT first
  cases first <;> simp only [rawTest, Bool.false_eq_true, if_false, if_true] at h <;>
    rw [stOf, scanLocal, h] <;> simp

theorem scanLocal_esc (T : Tables) (hT : TablesOK T) (e : End) (first : Bool) (c : Nat)
    (h : isLocalEsc c = true) (r acc : List Nat) (le : Bool) :
    scanLocal T e (stOf first) (0x5c :: c :: r) acc le = scanLocal T e .body r (c :: acc) true := by
  rw [scanLocal_bs T hT, scanLocal, if_pos h]

/-- A raw `%` followed by two hex digits: the scanner ends up where it would be had it taken the
    three runes one at a time as ordinary name characters. -/
theorem scanLocal_pct_raw (T : Tables) (hT : TablesOK T) (e : End) (first : Bool) (h1 h2 : Nat)
    (hh1 : isHex h1 = true) (hh2 : isHex h2 = true) (r acc : List Nat) (le : Bool) :
    scanLocal T e (stOf first) (0x25 :: h1 :: h2 :: r) acc le
      = scanLocal T e .body (h1 :: h2 :: r) (0x25 :: acc) false := by
  have p1 : scanLocal T e .pct1 (h1 :: h2 :: r) acc le = scanLocal T e (.pct2 h1) (h2 :: r) acc le := by
    rw [scanLocal, if_neg (hT.hex_all h1 hh1)]
  have p2 : scanLocal T e (.pct2 h1) (h2 :: r) acc le
      = scanLocal T e .body r (h2 :: h1 :: 0x25 :: acc) false := by
    rw [scanLocal, if_neg (hT.hex_all h2 hh2)]
  rw [scanLocal_pct T hT, p1, p2]
  have r1 : rawTest T false h1 = true := by simp [rawTest, hT.pn_hex h1 hh1]
  have r2 : rawTest T false h2 = true := by simp [rawTest, hT.pn_hex h2 hh2]
  have s1 := scanLocal_raw T e false h1 r1 (h2 :: r) (0x25 :: acc) false
  have s2 := scanLocal_raw T e false h2 r2 r (h1 :: 0x25 :: acc) false
  simp only [stOf] at s1 s2
  rw [s1, s2]

theorem localRawOK_rawTest (T : Tables) (first last : Bool) (c : Nat)
    (h : localRawOK T first last c = true) : rawTest T first c = true := by
  -- in each of the four positions `localRawOK` is a disjunction of the scanner's raw test with some
  -- alternative left out (`.` at the end) or the disjuncts in another order
  cases first <;> cases last <;>
    simp only [localRawOK, rawTest, Bool.false_eq_true, if_false, if_true, Bool.or_eq_true,
      decide_eq_true_eq] at h ⊢ <;> grind

theorem localRawOK_last_ne_dot (T : Tables) (hT : TablesOK T) (first : Bool) (c : Nat)
    (h : localRawOK T first true c = true) : c ≠ 0x2e := by
  intro hc
  subst hc
  cases first <;> simp [localRawOK, hT.pn_dot, hT.pnU_dot, isDigit, NQ.isDigit] at h

theorem printLocalFrom_cons (T : Tables) (first : Bool) (chs : List Choice) (c : Nat)
    (loc out : List Nat) (h : printLocalFrom T first chs (c :: loc) = some out) :
    ∃ t, printLocalFrom T false chs.tail loc = some t ∧
      ((out = c :: t ∧ localRawOK T first loc.isEmpty c = true)
       ∨ (out = 0x5c :: c :: t ∧ localEscapable c = true)
       ∨ (out = c :: t ∧ c = 0x25 ∧ ∃ h1 h2 r, loc = h1 :: h2 :: r ∧ isHex h1 = true ∧ isHex h2 = true)) := by
  unfold printLocalFrom at h
  simp only at h
  split at h
  · next hc =>
    have hesc : localEscapable c = true := by subst hc; decide
    split at h
    · next h1 h2 r _ =>
      split at h
      · next hh =>
        obtain ⟨t, ht, rfl⟩ := Option.map_eq_some_iff.1 h
        simp only [Bool.and_eq_true] at hh
        exact ⟨t, ht, Or.inr (Or.inr ⟨rfl, hc, h1, h2, r, rfl, hh.1, hh.2⟩)⟩
      · obtain ⟨t, ht, rfl⟩ := Option.map_eq_some_iff.1 h
        exact ⟨t, ht, Or.inr (Or.inl ⟨rfl, hesc⟩)⟩
    · obtain ⟨t, ht, rfl⟩ := Option.map_eq_some_iff.1 h
      exact ⟨t, ht, Or.inr (Or.inl ⟨rfl, hesc⟩)⟩
  · split at h
    · next hh =>
      obtain ⟨t, ht, rfl⟩ := Option.map_eq_some_iff.1 h
      simp only [Bool.and_eq_true] at hh
      exact ⟨t, ht, Or.inl ⟨rfl, hh.2⟩⟩
    · split at h
      · next hh =>
        obtain ⟨t, ht, rfl⟩ := Option.map_eq_some_iff.1 h
        exact ⟨t, ht, Or.inr (Or.inl ⟨rfl, hh⟩)⟩
      · split at h
        · next hh =>
          obtain ⟨t, ht, rfl⟩ := Option.map_eq_some_iff.1 h
          exact ⟨t, ht, Or.inl ⟨rfl, hh⟩⟩
        · exact absurd h (by simp)

theorem printLocalFrom_isSome_cons (T : Tables) (first : Bool) (cs : List Choice) (c : Nat)
    (l : List Nat) :
    (printLocalFrom T first cs (c :: l)).isSome =
      ((decide (c = 0x25) || localRawOK T first l.isEmpty c || localEscapable c) &&
        (printLocalFrom T false cs.tail l).isSome) := by
  conv => lhs; unfold printLocalFrom
  by_cases h25 : c = 0x25
  · simp only [h25, if_true, decide_true, Bool.true_or, Bool.true_and]
    split <;> (try split) <;> rw [Option.isSome_map]
  · by_cases hr : localRawOK T first l.isEmpty c = true <;> by_cases he : localEscapable c = true <;>
      simp [h25, hr, he, apply_ite Option.isSome]

theorem printLocal_isSome_indep (T : Tables) (l : List Nat) : ∀ (first : Bool) (cs : List Choice),
    (printLocalFrom T first cs l).isSome = (printLocalFrom T first [] l).isSome := by
  induction l with
  | nil => intro f cs; rfl
  | cons c l ih =>
    intro f cs
    rw [printLocalFrom_isSome_cons, printLocalFrom_isSome_cons, ih false cs.tail, ih false [].tail]

theorem printLocalFrom_hex (T : Tables) (chs : List Choice) (c : Nat)
    (loc out : List Nat) (hc : isHex c = true) (h : printLocalFrom T false chs (c :: loc) = some out) :
    ∃ t, printLocalFrom T false chs.tail loc = some t ∧ out = c :: t := by
  obtain ⟨t, ht, h | h | h⟩ := printLocalFrom_cons T false chs c loc out h
  · exact ⟨t, ht, h.1⟩
  · rw [isHex_not_esc hc] at h
    exact absurd h.2 (by simp)
  · exact absurd h.2.1 (isHex_ne_pct hc)

/-- How the scanner leaves a local name that is followed by `rest`: the body loop stops there and keeps
    the accumulated name; with nothing read yet the name is the empty one. So it is when `rest` cannot
    continue a name (`of_stop`) and when it is the `.` that ends the statement (`C08.localEnd_of_clash`). -/
structure LocalEnd (T : Tables) (e : End) (rest : List Nat) : Prop where
  body : ∀ acc le, acc ≠ [] → (acc.head? = some 0x2e → le = true) →
    scanLocal T e .body rest acc le = .ok (goString acc.reverse) rest
  first : scanLocal T e .first rest [] false = .ok [] rest

theorem localDone_ok (acc : List Nat) (le : Bool) (rest : List Nat) (h1 : acc ≠ [])
    (h2 : acc.head? = some 0x2e → le = true) :
    localDone acc le rest = .ok (goString acc.reverse) rest := by
  cases acc with
  | nil => exact absurd rfl h1
  | cons l more =>
    simp only [localDone]
    split
    · next hh =>
      simp only [Bool.and_eq_true, decide_eq_true_eq, Bool.not_eq_true'] at hh
      have := h2 (by simp [hh.1])
      rw [this] at hh
      exact absurd hh.2 (by simp)
    · rfl

theorem LocalEnd.of_stop {T : Tables} {e : End} {rest : List Nat} (hstop : LocalStop T e rest) :
    LocalEnd T e rest := by
  cases rest with
  | nil =>
    simp only [LocalStop] at hstop
    subst hstop
    exact ⟨fun acc le h1 h2 => by rw [scanLocal, localDone_ok acc le [] h1 h2], by rw [scanLocal]⟩
  | cons c r =>
    simp only [LocalStop] at hstop
    obtain ⟨a, a', b, b', c', d, f⟩ := hstop
    refine ⟨fun acc le h1 h2 => ?_, ?_⟩
    · rw [scanLocal, a, ← localDone_ok acc le (c :: r) h1 h2]
      simp [b', c', d, f]
    · rw [scanLocal, a', b]
      simp [c', d, f]

theorem scanLocal_print (T : Tables) (hT : TablesOK T) (e : End) {rest : List Nat}
    (hend : LocalEnd T e rest) (loc : List Nat) :
    ∀ (first : Bool) (chs : List Choice) (out acc : List Nat) (le : Bool),
      printLocalFrom T first chs loc = some out →
      (loc = [] → first = false ∧ acc ≠ [] ∧ (acc.head? = some 0x2e → le = true)) →
      scanLocal T e (stOf first) (out ++ rest) acc le = .ok (goString (acc.reverse ++ loc)) rest := by
  induction loc with
  | nil =>
    intro first chs out acc le h hinv
    obtain ⟨rfl, h1, h2⟩ := hinv rfl
    simp only [printLocalFrom, Option.some.injEq] at h
    subst h
    simp only [stOf, List.nil_append, List.append_nil]
    exact hend.body acc le h1 h2
  | cons c loc ih =>
    intro first chs out acc le h _
    obtain ⟨t, ht, hcase⟩ := printLocalFrom_cons T first chs c loc out h
    rcases hcase with ⟨rfl, hraw⟩ | ⟨rfl, hesc⟩ | ⟨rfl, hc, h1, h2, r, rfl, hh1, hh2⟩
    · simp only [List.cons_append]
      rw [scanLocal_raw T e first c (localRawOK_rawTest T first _ c hraw)]
      have := ih false chs.tail t (c :: acc) false ht (by
        intro hl
        subst hl
        refine ⟨rfl, by simp, ?_⟩
        intro hd
        simp only [List.head?_cons, Option.some.injEq] at hd
        exact absurd hd (localRawOK_last_ne_dot T hT first c (by simpa using hraw)))
      simp only [stOf] at this
      rw [this]
      simp
    · simp only [List.cons_append]
      rw [scanLocal_esc T hT e first c (by rw [← localEscapable_eq]; exact hesc)]
      have := ih false chs.tail t (c :: acc) true ht (by
        intro hl
        exact ⟨rfl, by simp, fun _ => rfl⟩)
      simp only [stOf] at this
      rw [this]
      simp
    · obtain ⟨t1, ht1, rfl⟩ := printLocalFrom_hex T chs.tail h1 (h2 :: r) t hh1 ht
      obtain ⟨t2, _, rfl⟩ := printLocalFrom_hex T chs.tail.tail h2 r t1 hh2 ht1
      subst hc
      simp only [List.cons_append]
      rw [scanLocal_pct_raw T hT e first h1 h2 hh1 hh2]
      have := ih false chs.tail (h1 :: h2 :: t2) (0x25 :: acc) false ht (by
        intro hl
        exact absurd hl (by simp))
      simp only [stOf, List.cons_append] at this
      rw [this]
      simp

theorem print_local (T : Tables) (hT : TablesOK T) (e : End) (chs : List Choice) (loc out : List Nat)
    (hs : Scalars loc) (h : printLocal T chs loc = some out) {rest : List Nat}
    (hend : LocalEnd T e rest) :
    scanLocal T e .first (out ++ rest) [] false = .ok loc rest := by
  unfold printLocal at h
  cases loc with
  | nil =>
    simp only [printLocalFrom, Option.some.injEq] at h
    subst h
    exact hend.first
  | cons c loc =>
    have := scanLocal_print T hT e hend (c :: loc) true chs out [] false h
      (fun hl => absurd hl (by simp))
    simp only [stOf] at this
    rw [this]
    simp [goString_id_of_scalar hs]

theorem scanString_uchars (T : Tables) (e : End) (dl : Nat) (tr : Bool) :
    Hex.Uchars (lookup T.hexDec 0) (scanString T e dl tr) where
  more m m' ms v x d r acc hx hm := by
    rw [scanString, hx]
    simp only
    rw [if_neg (by omega)]
  last m v x d r acc hx hm := by
    rw [scanString, hx]
    simp only
    rw [if_neg (by omega)]
  bs r acc := by simp [scanString]
  u r acc := by simp [scanString]
  U r acc := by simp [scanString]

theorem echarDecode_ne_u {x c : Nat} (h : echarDecode x = some c) : x ≠ 0x75 ∧ x ≠ 0x55 :=
  ⟨fun hx => (by subst hx; cases h), fun hx => by subst hx; cases h⟩

theorem echarOf_decode {c x : Nat} (h : echarOf c = some x) : echarDecode x = some c := by
  by_cases hc : c = 0x09 ∨ c = 0x08 ∨ c = 0x0a ∨ c = 0x0d ∨ c = 0x0c ∨ c = 0x22 ∨ c = 0x27 ∨ c = 0x5c
  · rcases hc with rfl | rfl | rfl | rfl | rfl | rfl | rfl | rfl <;> (cases h; rfl)
  · simp only [not_or] at hc
    simp [echarOf, hc] at h

theorem echarOf_of_decode {x c : Nat} (h : echarDecode x = some c) : echarOf c = some x := by
  revert h
  show NQ.echarDecode x = some c → _
  fun_cases NQ.echarDecode x <;> intro h <;> cases h <;> subst_vars <;> rfl

theorem uchar_head (w l : Bool) (c : Nat) : ∃ tl, uchar w l c = 0x5c :: tl := by
  unfold uchar; split <;> exact ⟨_, rfl⟩

/-- The spellings of the rune `c` inside a string delimited by `dl` that the scanner reads back as
    `c`: the rune itself, ECHAR, UCHAR. Both the printer's and the encoder's spellings are of this kind. -/
inductive StrForm (dl c : Nat) : List Nat → Prop
  | raw : c ≠ 0x5c → c ≠ dl → StrForm dl c [c]
  | echar {x : Nat} : echarDecode x = some c → StrForm dl c [0x5c, x]
  | uchar (w l : Bool) : StrForm dl c (uchar w l c)

theorem scanString_form (T : Tables) (hT : TablesOK T) (e : End) (tr : Bool) {dl c : Nat}
    {l : List Nat} (h : StrForm dl c l) (hc : c ≤ 0x10FFFF) (r acc : List Nat) :
    scanString T e dl tr .body (l ++ r) acc = scanString T e dl tr .body r (c :: acc) := by
  cases h with
  | raw h1 h2 =>
    -- `c` is neither the delimiter nor `\`; whether it is the other quote rune (the outer test of the
    -- `.body` clause) makes no difference: both branches push it
    simp only [List.cons_append, List.nil_append, scanString, if_neg h2, if_neg h1]
    split <;> rfl
  | @echar x hx =>
    obtain ⟨h2, h3⟩ := echarDecode_ne_u hx
    rw [List.cons_append, List.cons_append, List.nil_append, (scanString_uchars T e dl tr).bs]
    simp only [scanString, if_neg h2, if_neg h3, hx]
  | uchar w l => exact (scanString_uchars T e dl tr).reads (hexD_dec T hT) w l hc r acc

theorem StrForm.head {dl c : Nat} {l : List Nat} (h : StrForm dl c l) (hdl : dl ≠ 0x5c) :
    ∃ x tl, l = x :: tl ∧ x ≠ dl := by
  cases h with
  | raw _ h2 => exact ⟨c, [], rfl, h2⟩
  | echar _ => exact ⟨_, _, rfl, Ne.symm hdl⟩
  | uchar w l =>
    obtain ⟨tl, h⟩ := uchar_head w l c
    exact ⟨_, tl, h, Ne.symm hdl⟩

theorem strEsc_form (dl c : Nat) : StrForm dl c (strEsc c) := by
  unfold strEsc
  split
  · next x hx => exact .echar (echarOf_decode hx)
  · exact .uchar _ _

theorem printStrRune_form (st : Style) (ch : Choice) (c : Nat) :
    StrForm st.delim c (printStrRune st ch c) := by
  cases ch with
  | raw =>
    simp only [printStrRune]
    split
    · next h =>
      simp only [strRawOK, Bool.and_eq_true, bne_iff_ne, ne_eq] at h
      exact .raw h.1.1 h.1.2
    · exact strEsc_form _ c
  | echar => exact strEsc_form _ c
  | u4 l => exact .uchar _ _
  | u8 l => exact .uchar _ _

theorem delim_quote (st : Style) : st.delim = 0x22 ∨ st.delim = 0x27 := by
  cases st <;> simp [Style.delim]

theorem printStrRune_head (st : Style) (ch : Choice) (c : Nat) :
    ∃ x tl, printStrRune st ch c = x :: tl ∧ x ≠ st.delim :=
  (printStrRune_form st ch c).head (by cases st <;> decide)

theorem printStrBody_cons (st : Style) (k : Nat) (chs : List Choice) (c : Nat) (s : List Nat) :
    (st.long = true ∧ c = st.delim ∧ k < 2 ∧ s ≠ [] ∧
      printStrBody st k chs (c :: s) = st.delim :: printStrBody st (k + 1) chs.tail s)
    ∨ printStrBody st k chs (c :: s)
        = printStrRune st (chs.head?.getD .raw) c ++ printStrBody st 0 chs.tail s := by
  rw [printStrBody]
  split
  · next h =>
    simp only [Bool.and_eq_true, decide_eq_true_eq, Bool.not_eq_true', List.isEmpty_eq_false_iff]
      at h
    obtain ⟨⟨⟨⟨a, b⟩, _⟩, d⟩, f⟩ := h
    left
    refine ⟨a, b, d, f, ?_⟩
    rw [← b]
  · right; rfl

theorem printStrBody_head2 (st : Style) (k : Nat) (hk : 2 ≤ k) (chs : List Choice) (c : Nat)
    (s tail : List Nat) :
    ∃ x tl, printStrBody st k chs (c :: s) ++ tail = x :: tl ∧ x ≠ st.delim := by
  rcases printStrBody_cons st k chs c s with ⟨_, _, h, _⟩ | h
  · omega
  · obtain ⟨x, tl, h1, h2⟩ := printStrRune_head st (chs.head?.getD .raw) c
    rw [h, h1]
    exact ⟨x, _, rfl, h2⟩

theorem printStrBody_head1 (st : Style) (k : Nat) (hk : 1 ≤ k) (chs : List Choice) (c : Nat)
    (s tail : List Nat) :
    ∃ x tl, printStrBody st k chs (c :: s) ++ tail = x :: tl ∧
      (x ≠ st.delim ∨ ∃ y tl', tl = y :: tl' ∧ y ≠ st.delim) := by
  rcases printStrBody_cons st k chs c s with ⟨_, _, _, hs, h⟩ | h
  · cases s with
    | nil => exact absurd rfl hs
    | cons c' s' =>
      obtain ⟨y, tl', h1, h2⟩ := printStrBody_head2 st (k + 1) (by omega) chs.tail c' s' tail
      rw [h]
      simp only [List.cons_append]
      exact ⟨_, _, rfl, Or.inr ⟨y, tl', h1, h2⟩⟩
  · obtain ⟨x, tl, h1, h2⟩ := printStrRune_head st (chs.head?.getD .raw) c
    rw [h, h1]
    exact ⟨x, _, rfl, Or.inl h2⟩

theorem scanString_delim_cont (T : Tables) (e : End) (d : Nat) (hd : d = 0x22 ∨ d = 0x27)
    (x : Nat) (tl : List Nat) (h : x ≠ d ∨ ∃ y tl', tl = y :: tl' ∧ y ≠ d) (acc : List Nat) :
    scanString T e d true .body (d :: x :: tl) acc = scanString T e d true .body (x :: tl) (d :: acc) := by
  simp only [scanString, if_pos hd, if_true, Bool.not_true, Bool.false_eq_true, if_false]
  by_cases hx : x = d
  · rcases h with h | ⟨y, tl', rfl, hy⟩
    · exact absurd hx h
    · rw [if_pos hx]
      simp only
      rw [if_neg hy]
  · rw [if_neg hx]

theorem scanString_close_short (T : Tables) (e : End) (d : Nat) (hd : d = 0x22 ∨ d = 0x27)
    (r acc : List Nat) :
    scanString T e d false .body (d :: r) acc = .ok (goString acc.reverse) r := by
  simp [scanString, if_pos hd]

theorem scanString_close_long (T : Tables) (e : End) (d : Nat) (hd : d = 0x22 ∨ d = 0x27)
    (r acc : List Nat) :
    scanString T e d true .body (d :: d :: d :: r) acc = .ok (goString acc.reverse) r := by
  simp [scanString, if_pos hd]

theorem scanString_printBody (T : Tables) (hT : TablesOK T) (e : End) (st : Style) (rest : List Nat)
    (s : List Nat) (hs : Scalars s) :
    ∀ (k : Nat) (chs : List Choice) (acc : List Nat),
      scanString T e st.delim st.long .body (printStrBody st k chs s ++ (quotes st ++ rest)) acc
        = .ok (goString (acc.reverse ++ s)) rest := by
  induction s with
  | nil =>
    intro k chs acc
    simp only [printStrBody, List.nil_append, List.append_nil, quotes]
    cases hl : st.long
    · simp only [Bool.false_eq_true, if_false, List.cons_append, List.nil_append]
      exact scanString_close_short T e _ (delim_quote st) rest acc
    · simp only [if_true, List.cons_append, List.nil_append]
      exact scanString_close_long T e _ (delim_quote st) rest acc
  | cons c s ih =>
    intro k chs acc
    have ih' := ih (scalars_tail hs)
    rcases printStrBody_cons st k chs c s with ⟨hl, hc, _, hne, h⟩ | h
    · rw [h, hl]
      cases s with
      | nil => exact absurd rfl hne
      | cons c' s' =>
        obtain ⟨x, tl, h1, h2⟩ :=
          printStrBody_head1 st (k + 1) (by omega) chs.tail c' s' (quotes st ++ rest)
        have ih2 := ih' (k + 1) chs.tail (st.delim :: acc)
        rw [hl, h1] at ih2
        simp only [List.cons_append]
        rw [h1, scanString_delim_cont T e _ (delim_quote st) x tl h2, ih2, hc]
        simp
    · rw [h, List.append_assoc,
        scanString_form T hT e _ (printStrRune_form st _ c) (isScalar_le (scalars_head hs)), ih']
      simp

theorem print_string (T : Tables) (hT : TablesOK T) (e : End) (st : Style) (chs : List Choice)
    (s : List Nat) (hs : Scalars s) (rest : List Nat) (hstop : StrStop e st s rest) :
    produceString T e (printString st chs s ++ rest) = .ok s rest := by
  have hq := delim_quote st
  have hbody := scanString_printBody T hT e st rest s hs 0 chs []
  simp only [List.reverse_nil, List.nil_append, goString_id_of_scalar hs] at hbody
  simp only [printString, List.append_assoc]
  cases hl : st.long
  · -- short styles
    rw [hl] at hbody
    have hqs : quotes st = [st.delim] := by simp [quotes, hl]
    rw [hqs] at hbody ⊢
    simp only [List.cons_append, List.nil_append] at hbody ⊢
    simp only [produceString, if_pos hq]
    cases s with
    | nil =>
      simp only [printStrBody, List.nil_append]
      simp only [if_true]
      rcases hstop with h | h | h
      · rw [hl] at h; exact absurd h (by simp)
      · exact absurd rfl h
      · cases rest with
        | nil =>
          simp only at h
          subst h
          rfl
        | cons c2 r2 =>
          simp only at h
          simp only
          rw [if_neg h]
    | cons c s' =>
      rcases printStrBody_cons st 0 chs c s' with ⟨hl', _⟩ | h
      · rw [hl] at hl'; exact absurd hl' (by simp)
      · obtain ⟨x, tl, h1, h2⟩ := printStrRune_head st (chs.head?.getD .raw) c
        rw [h, h1] at hbody ⊢
        simp only [List.cons_append] at hbody ⊢
        rw [if_neg h2]
        exact hbody
  · -- long styles
    rw [hl] at hbody
    have hqs : quotes st = [st.delim, st.delim, st.delim] := by simp [quotes, hl]
    rw [hqs] at hbody ⊢
    simp only [List.cons_append, List.nil_append] at hbody ⊢
    simp only [produceString, if_pos hq]
    simp only [if_true]
    exact hbody

end RdfModel.Proofs.C08Tok
