import RdfModel.Proofs.C12Split
namespace RdfModel.Proofs.C12
open RdfModel.Spec.RFC3986

abbrev NoSlash (s : Str) : Prop := ∀ c ∈ s, c ≠ cSlash

theorem beginsWith_iff (pre inp : Str) : beginsWith pre inp = true ↔ ∃ t, inp = pre ++ t := by
  unfold beginsWith
  rw [List.isPrefixOf_iff_prefix]
  constructor
  · rintro ⟨t, h⟩; exact ⟨t, h.symm⟩
  · rintro ⟨t, h⟩; exact ⟨t, h.symm⟩

theorem segments_ne_nil (p : Str) : segments p ≠ [] := by
  cases p with
  | nil => simp [segments]
  | cons c r =>
    unfold segments
    split
    · simp
    · split <;> simp

theorem segments_cons_slash (r : Str) : segments (cSlash :: r) = [] :: segments r := by
  simp [segments]

theorem segments_cons_ne {c : Nat} (hc : c ≠ cSlash) (r : Str) :
    ∃ s ss, segments r = s :: ss ∧ segments (c :: r) = (c :: s) :: ss := by
  cases h : segments r with
  | nil => exact absurd h (segments_ne_nil r)
  | cons s ss => exact ⟨s, ss, rfl, by simp [segments, hc, h]⟩

theorem segments_noSlash {s : Str} (h : NoSlash s) : segments s = [s] := by
  induction s with
  | nil => rfl
  | cons c r ih =>
    have hc : c ≠ cSlash := h c (by simp)
    have hr : NoSlash r := fun x hx => h x (by simp [hx])
    obtain ⟨s, ss, h1, h2⟩ := segments_cons_ne hc r
    rw [h2]
    rw [ih hr] at h1
    injection h1 with h1 h3
    subst h1 h3; rfl

theorem segments_append_slash (a b : Str) : segments (a ++ cSlash :: b) = segments a ++ segments b := by
  induction a with
  | nil => simp [segments]
  | cons c r ih =>
    by_cases hc : c = cSlash
    · subst hc
      simp only [List.cons_append, segments_cons_slash, ih]
    · obtain ⟨s, ss, h1, h2⟩ := segments_cons_ne hc r
      obtain ⟨s', ss', h1', h2'⟩ := segments_cons_ne hc (r ++ cSlash :: b)
      simp only [List.cons_append]
      rw [h2', h2]
      rw [ih, h1] at h1'
      simp only [List.cons_append] at h1'
      injection h1' with e1 e2
      subst e1 e2; rfl

theorem segments_mem_noSlash : ∀ (p : Str) (s : Str), s ∈ segments p → NoSlash s := by
  intro p
  induction p with
  | nil => intro s hs; simp [segments] at hs; subst hs; intro c hc; simp at hc
  | cons c r ih =>
    intro s hs
    by_cases hc : c = cSlash
    · subst hc
      rw [segments_cons_slash] at hs
      rcases List.mem_cons.mp hs with h | h
      · subst h; intro c hc; simp at hc
      · exact ih s h
    · obtain ⟨s0, ss, h1, h2⟩ := segments_cons_ne hc r
      rw [h2] at hs
      rcases List.mem_cons.mp hs with h | h
      · subst h
        have : NoSlash s0 := ih s0 (by rw [h1]; simp)
        intro x hx
        rcases List.mem_cons.mp hx with hx | hx
        · subst hx; exact hc
        · exact this x hx
      · exact ih s (by rw [h1]; simp [h])

theorem noDot_nil : NoDotSegments [] := by
  intro s hs; simp [segments] at hs; subst hs; rfl

def ns (c : Nat) : Bool := c != cSlash

theorem takeWhile_ns_noSlash (l : Str) : NoSlash (l.takeWhile (· != cSlash)) :=
  fun c hc => by simpa using List.all_eq_true.mp List.all_takeWhile c hc

theorem dropWhile_ns_shape (l : Str) :
    l.dropWhile (· != cSlash) = [] ∨ ∃ t, l.dropWhile (· != cSlash) = cSlash :: t := by
  cases hd : l.dropWhile (· != cSlash) with
  | nil => left; rfl
  | cons c t =>
    right
    have := dropWhile_head_false hd
    simp at this
    exact ⟨t, by rw [this]⟩

theorem takeWhile_ns_self {s : Str} (hs : NoSlash s) : s.takeWhile (· != cSlash) = s := by
  simpa using List.takeWhile_append_of_pos (l₂ := []) (p := (· != cSlash)) (by simpa using hs)

theorem dropWhile_ns_self {s : Str} (hs : NoSlash s) : s.dropWhile (· != cSlash) = [] := by
  simpa using List.dropWhile_append_of_pos (l₂ := []) (p := (· != cSlash)) (by simpa using hs)

theorem span_ns {s : Str} (hs : NoSlash s) {tail : Str} (ht : tail = [] ∨ ∃ t, tail = cSlash :: t) :
    (s ++ tail).takeWhile (· != cSlash) = s ∧ (s ++ tail).dropWhile (· != cSlash) = tail :=
  span_append (by simpa using hs) (by rcases ht with rfl | ⟨t, rfl⟩ <;> simp [Stops])

theorem split_at_slash (l : Str) :
    ∃ s, NoSlash s ∧ s = l.takeWhile (· != cSlash) ∧ (l = s ∨ ∃ t, l = s ++ cSlash :: t) := by
  refine ⟨l.takeWhile (· != cSlash), takeWhile_ns_noSlash l, rfl, ?_⟩
  have h := List.takeWhile_append_dropWhile (p := (· != cSlash)) (l := l)
  rcases dropWhile_ns_shape l with hd | ⟨t, hd⟩
  · left; rw [hd] at h; simpa using h.symm
  · right; rw [hd] at h; exact ⟨t, h.symm⟩

theorem popSegment_noSlash {s : Str} (hs : NoSlash s) : popSegment s = [] := by
  unfold popSegment
  have : NoSlash s.reverse := fun c hc => hs c (by simpa using hc)
  rw [dropWhile_ns_self this]; rfl

theorem popSegment_append {s : Str} (hs : NoSlash s) (a : Str) : popSegment (a ++ cSlash :: s) = a := by
  unfold popSegment
  have : NoSlash s.reverse := fun c hc => hs c (by simpa using hc)
  have e : (a ++ cSlash :: s).reverse = s.reverse ++ cSlash :: a.reverse := by simp
  rw [e, (span_ns this (.inr ⟨_, rfl⟩)).2]
  simp

theorem split_at_last_slash (l : Str) : NoSlash l ∨ ∃ a s, NoSlash s ∧ l = a ++ cSlash :: s := by
  obtain ⟨s, hs, _, h⟩ := split_at_slash l.reverse
  rcases h with h | ⟨t, h⟩
  · left
    intro c hc
    exact (h ▸ hs) c (by simpa using hc)
  · right
    refine ⟨t.reverse, s.reverse, fun c hc => hs c (by simpa using hc), ?_⟩
    have := congrArg List.reverse h
    simpa using this

theorem noDot_popSegment {out : Str} (h : NoDotSegments out) : NoDotSegments (popSegment out) := by
  rcases split_at_last_slash out with hs | ⟨a, s, hs, rfl⟩
  · rw [popSegment_noSlash hs]; exact noDot_nil
  · rw [popSegment_append hs]
    intro x hx
    apply h
    rw [segments_append_slash]
    exact List.mem_append_left _ hx

theorem firstSegment_append_after (inp : Str) : firstSegment inp ++ afterFirstSegment inp = inp := by
  cases inp with
  | nil => rfl
  | cons c r =>
    unfold firstSegment afterFirstSegment
    by_cases hc : c = cSlash
    · simp only [hc, if_true, List.cons_append]
      rw [List.takeWhile_append_dropWhile]
    · simp only [hc, if_false]
      rw [List.takeWhile_append_dropWhile]

theorem firstSegment_ne_nil {inp : Str} (h : inp ≠ []) : firstSegment inp ≠ [] := by
  cases inp with
  | nil => exact absurd rfl h
  | cons c r =>
    unfold firstSegment
    by_cases hc : c = cSlash
    · simp [hc]
    · simp [hc]

theorem afterFirstSegment_length {inp : Str} (h : inp ≠ []) : (afterFirstSegment inp).length < inp.length := by
  have e := congrArg List.length (firstSegment_append_after inp)
  have : (firstSegment inp).length > 0 := List.length_pos_iff.mpr (firstSegment_ne_nil h)
  simp only [List.length_append] at e
  omega

theorem afterFirstSegment_shape (inp : Str) :
    afterFirstSegment inp = [] ∨ ∃ t, afterFirstSegment inp = cSlash :: t := by
  cases inp with
  | nil => left; rfl
  | cons c r =>
    unfold afterFirstSegment
    by_cases hc : c = cSlash
    · simp only [hc, if_true]; exact dropWhile_ns_shape r
    · simp only [hc, if_false]; exact dropWhile_ns_shape (c :: r)

end RdfModel.Proofs.C12
