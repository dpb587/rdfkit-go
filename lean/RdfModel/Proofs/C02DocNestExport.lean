/-
  The resource trees `ResourceListBuilder.ExportResources` (repaired, Model/
  Description.lean `exportResourcesV`) yields consist of terms of the input triples: well-formed triples
  give well-formed resources (`C02.ResourceOK`).
-/
import RdfModel.Props.C02DocNestDefs
import RdfModel.Proofs.C17Builder
namespace RdfModel.Proofs.C02Doc
open RdfModel RdfModel.Ttl RdfModel.TtlEnc RdfModel.C02 RdfModel.Desc

variable {β : Type} [DecidableEq β] {c : Ctx β} {base : Option (List Nat)}

theorem foldStmtsV_ok (B : Builder β) (opts : Opts) (rec : Term β → List β → Option (List (Stmt β) × List β))
    (hrec : ∀ t V r, rec t V = some r → StmtsOK c base r.1) :
    ∀ (pos : List (PO β)), (∀ po ∈ pos, iriTermOK c base po.1 ∧ objectOK c base po.2) →
    ∀ V r, B.foldStmtsV opts rec pos V = some r → StmtsOK c base r.1
  | [], _, V, r, h => by
    simp only [Builder.foldStmtsV] at h
    injection h with h
    subst h
    trivial
  | po :: pos, hpos, V, r, h => by
    have hpo := hpos po List.mem_cons_self
    have hrest := fun V r h => foldStmtsV_ok B opts rec hrec pos (fun x hx => hpos x (List.mem_cons_of_mem _ hx)) V r h
    unfold Builder.foldStmtsV at h
    split at h
    · split at h
      · cases h
      · next lb V1 hr =>
        split at h
        · cases h
        · next l V2 hf =>
          injection h with h
          subst h
          exact ⟨⟨hpo.1, hrec _ _ _ hr⟩, hrest _ _ hf⟩
    · split at h
      · cases h
      · next l V2 hf =>
        injection h with h
        subst h
        exact ⟨⟨hpo.1, hpo.2⟩, hrest _ _ hf⟩

theorem exportStatementsV_ok (B : Builder β) (opts : Opts)
    (hB : ∀ s, ∀ po ∈ B.stmts s, iriTermOK c base po.1 ∧ objectOK c base po.2) :
    ∀ (fuel : Nat) (s : Term β) (V : List β) r, B.exportStatementsV opts fuel s V = some r → StmtsOK c base r.1
  | 0, _, _, _, h => by simp [Builder.exportStatementsV] at h
  | fuel + 1, s, V, r, h => by
    unfold Builder.exportStatementsV at h
    exact foldStmtsV_ok B opts _ (exportStatementsV_ok B opts hB fuel) (B.stmts s) (hB s) _ r h

theorem foldRootsV_ok (B : Builder β) (opts : Opts) (fuel : Nat) (pick : Term β → List β → Bool)
    (hB : ∀ s, ∀ po ∈ B.stmts s, iriTermOK c base po.1 ∧ objectOK c base po.2) :
    ∀ (l : List (Term β)), (∀ s ∈ l, subjectOK c base s) → ∀ V r, B.foldRootsV opts fuel pick l V = some r →
      ∀ x ∈ r.1, ResourceOK c base x
  | [], _, V, r, h => by
    simp only [Builder.foldRootsV] at h
    injection h with h
    subst h
    intro x hx
    cases hx
  | s :: l, hl, V, r, h => by
    have hrest := fun V r h => foldRootsV_ok B opts fuel pick hB l (fun x hx => hl x (List.mem_cons_of_mem _ hx)) V r h
    unfold Builder.foldRootsV at h
    split at h
    · split at h
      · cases h
      · next r0 V1 he =>
        split at h
        · cases h
        · next rs V2 hf =>
          injection h with h
          subst h
          intro x hx
          rcases List.mem_cons.1 hx with rfl | hx
          · unfold Builder.exportResourceV at he
            simp only [Option.map_eq_some_iff, Prod.mk.injEq] at he
            obtain ⟨st, hst, rfl, _⟩ := he
            have hok := exportStatementsV_ok B opts hB fuel s V st hst
            have hs := hl s List.mem_cons_self
            unfold Builder.resourceOf
            cases s with
            | bnode b =>
              simp only
              split
              · exact hok
              · exact ⟨hs, hok⟩
            | iri v => exact ⟨hs, hok⟩
            | lit a b' d => exact ⟨hs, hok⟩
          · exact hrest _ _ hf x hx
    · exact hrest _ _ h

theorem export_ok (ts : List (Triple β)) (hts : ∀ t ∈ ts, TripleOK c base t) (opts : Opts) (ord1 ord2 : List (Term β))
    (hord1 : ord1.Perm (build ts).subjects) (hord2 : ord2.Perm (build ts).subjects) (fuel : Nat)
    (rs : List (Resource β)) (h : (build ts).exportResourcesV opts ord1 ord2 fuel = some rs) :
    ∀ r ∈ rs, ResourceOK c base r := by
  have hB : ∀ s, ∀ po ∈ (build ts).stmts s, iriTermOK c base po.1 ∧ objectOK c base po.2 := by
    intro s po hpo
    rw [Proofs.C17.stmts_build] at hpo
    obtain ⟨t, ht, rfl⟩ := List.mem_map.1 hpo
    have := hts t (List.mem_filter.1 ht).1
    exact ⟨this.p, this.o⟩
  have hsub : ∀ ord : List (Term β), ord.Perm (build ts).subjects → ∀ s ∈ ord, subjectOK c base s := by
    intro ord hord s hs
    obtain ⟨t, ht, rfl⟩ := (Proofs.C17.mem_subjects_build ts s).1 (hord.mem_iff.1 hs)
    exact (hts t ht).s
  unfold Builder.exportResourcesV at h
  split at h
  · cases h
  · next rs1 V1 h1 =>
    split at h
    · cases h
    · next rs2 V2 h2 =>
      injection h with h
      subst h
      intro r hr
      rcases List.mem_append.1 hr with hr | hr
      · exact foldRootsV_ok (build ts) opts fuel _ hB ord1 (hsub ord1 hord1) [] _ h1 r hr
      · exact foldRootsV_ok (build ts) opts fuel _ hB ord2 (hsub ord2 hord2) V1 _ h2 r hr

end RdfModel.Proofs.C02Doc
