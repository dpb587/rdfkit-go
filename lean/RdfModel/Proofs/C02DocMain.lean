/-
  What depends on the configuration (header, buffering, sorted sections, defaults handed to the decoder) is stated once,
  for arbitrary sections.
-/
import RdfModel.Proofs.C02DocPlain
import RdfModel.Proofs.TtlDocReal
namespace RdfModel.Proofs.C02Doc
open RdfModel RdfModel.Ttl RdfModel.TtlEnc RdfModel.C02 RdfModel.TtlDoc RdfModel.Desc

variable {C : Cfg} {T : Tables}

theorem insertBy_perm {α : Type} (le : α → α → Bool) (a : α) : ∀ l : List α, (insertBy le a l).Perm (a :: l)
  | [] => List.Perm.refl _
  | x :: xs => by
    unfold insertBy
    split
    · exact List.Perm.refl _
    · exact (List.Perm.cons x (insertBy_perm le a xs)).trans (List.Perm.swap a x xs)

theorem isortBy_perm {α : Type} (le : α → α → Bool) : ∀ l : List α, (isortBy le l).Perm l
  | [] => List.Perm.refl _
  | x :: xs => (insertBy_perm le x (isortBy le xs)).trans (List.Perm.cons x (isortBy_perm le xs))

theorem insertBy_map {α γ : Type} (le : γ → γ → Bool) (g : α → γ) (a : α) : ∀ l : List α,
    insertBy le (g a) (l.map g) = (insertBy (fun x y => le (g x) (g y)) a l).map g
  | [] => rfl
  | x :: xs => by
    simp only [List.map_cons, insertBy]
    split
    · rfl
    · simp [insertBy_map le g a xs]

theorem isortBy_map {α γ : Type} (le : γ → γ → Bool) (g : α → γ) : ∀ l : List α,
    isortBy le (l.map g) = (isortBy (fun x y => le (g x) (g y)) l).map g
  | [] => rfl
  | x :: xs => by
    simp only [List.map_cons, isortBy]
    rw [isortBy_map le g xs, insertBy_map]

theorem mem_dedup {x : List Nat} : ∀ {l : List (List Nat)}, x ∈ dedup l ↔ x ∈ l
  | [] => by simp [dedup]
  | y :: ys => by
    unfold dedup
    split
    · next hy =>
      rw [mem_dedup (l := ys)]
      constructor
      · exact fun h => List.mem_cons_of_mem _ h
      · intro h
        rcases List.mem_cons.mp h with rfl | h
        · exact hy
        · exact h
    · simp [mem_dedup (l := ys)]

theorem nodup_dedup : ∀ l : List (List Nat), (dedup l).Nodup
  | [] => by simp [dedup]
  | y :: ys => by
    unfold dedup
    split
    · exact nodup_dedup ys
    · next hy =>
      refine List.nodup_cons.mpr ⟨?_, nodup_dedup ys⟩
      rw [mem_dedup]; exact hy

variable {β : Type} {c : Ctx β} {base : Option (List Nat)}

theorem consumes_of (hC : CfgOK C T) : C.P.Consumes := by
  rw [hC.prod]; exact real_consumes T

theorem usedMappings_mem {pm : Prefix.PM} {used : List (List Nat)} {m : Prefix.Mapping} :
    m ∈ usedMappings pm used ↔ m.pfx ∈ used ∧ pm.byPrefix.get m.pfx = some m.expanded := by
  simp only [usedMappings, List.mem_filterMap, Option.map_eq_some_iff]
  constructor
  · rintro ⟨l, hl, e', he', rfl⟩
    have hl' : l ∈ used := mem_dedup.mp ((isortBy_perm strLe _).mem_iff.mp hl)
    refine ⟨hl', ?_⟩
    unfold Prefix.expand at he'
    simp only at he'
    cases hg : pm.byPrefix.get l with
    | none => rw [hg] at he'; cases he'
    | some x => rw [hg] at he'; injection he' with he'; subst he'; simp
  · rintro ⟨h1, h2⟩
    refine ⟨m.pfx, (isortBy_perm strLe _).mem_iff.mpr (mem_dedup.mpr h1), m.expanded, ?_, rfl⟩
    unfold Prefix.expand
    simp [h2]

variable {cfg : Config} {pm : Prefix.PM} {label : β → List Nat}

theorem setup_of (hT : DocTablesOK T) (hC : CfgOK C T) (hcfg : ConfigOK C.isSpace T cfg pm) (hlbl : LabelOK T label) :
    Setup C T (ctxOf T cfg pm label) cfg.base :=
  { hT := hT, hC := hC, cT := rfl, cb := rfl, baseOK := hcfg.base, labels := hcfg.labels, lbl := hlbl }

theorem base_facts (hC : CfgOK C T) (hcfg : ConfigOK C.isSpace T cfg pm) :
    iriOK cfg.baseStr = true ∧ (cfg.base = none → cfg.baseStr = []) ∧
    (∀ b, cfg.base = some b → cfg.baseStr = b ∧ b.isEmpty = false ∧ C.resolve (some b) b = some b) := by
  refine ⟨?_, ?_, ?_⟩
  · cases hb : cfg.base with
    | none => simp [Config.baseStr, hb, iriOK]
    | some b => simpa [Config.baseStr, hb] using (hcfg.base b hb).1
  · intro hb; simp [Config.baseStr, hb]
  · intro b hb
    have hok := hcfg.base b hb
    refine ⟨by simp [Config.baseStr, hb], ?_, ?_⟩
    · cases b with
      | nil => exact absurd rfl hok.2.1
      | cons _ _ => rfl
    · rw [hC.res_some, hok.2.2.2.2]

theorem ns_resolve (hC : CfgOK C T) (hcfg : ConfigOK C.isSpace T cfg pm) (m : Prefix.Mapping) (hm : m ∈ pm.ordered) :
    C.resolve cfg.base m.expanded = some m.expanded := by
  have := (hcfg.ns m hm).2
  cases hb : cfg.base with
  | none => exact hC.res_none _
  | some b =>
    rw [hb] at this
    simp only [stableUnder, beq_iff_eq] at this
    rw [hC.res_some, this]

theorem getD_disabled {o : Option DirMode} (h : o.getD .at = .disabled) : o = some .disabled := by
  cases o with
  | none => cases h
  | some x => simp only [Option.getD_some] at h; rw [h]

theorem lookupPfx_inv (ord : List Prefix.Mapping) (hnd : (ord.map (·.pfx)).Nodup) :
    ∀ (ns : List (List Nat × List Nat)), (∀ e ∈ ns, ∃ m' ∈ ord, e = (m'.pfx, m'.expanded)) →
    ∀ m ∈ ord, m.pfx ∈ ns.map (·.1) → lookupPfx m.pfx ns = some m.expanded
  | [], _, _, _, h => by cases h
  | e :: ns, hall, m, hm, hin => by
    obtain ⟨m', hm', rfl⟩ := hall _ List.mem_cons_self
    simp only [lookupPfx]
    by_cases heq : m'.pfx = m.pfx
    · have hmm : m' = m := by
        clear hall hin
        induction ord with
        | nil => cases hm
        | cons x ord ih =>
          simp only [List.map_cons, List.nodup_cons] at hnd
          rcases List.mem_cons.1 hm with rfl | hm1 <;> rcases List.mem_cons.1 hm' with rfl | hm2
          · rfl
          · exact absurd (heq ▸ List.mem_map_of_mem hm2) hnd.1
          · exact absurd (heq ▸ List.mem_map_of_mem hm1 : m'.pfx ∈ _) hnd.1
          · exact ih hnd.2 hm1 hm2
      simp [hmm]
    · simp only [heq, ↓reduceIte]
      refine lookupPfx_inv ord hnd ns (fun e he => hall e (List.mem_cons_of_mem _ he)) m hm ?_
      simp only [List.map_cons, List.mem_cons] at hin
      rcases hin with h | h
      · exact absurd h.symm heq
      · exact h


theorem lookup_header (hcfg : ConfigOK C.isSpace T cfg pm) {pmode : DirMode} {ms decl : List Prefix.Mapping}
    (hms : ∀ m ∈ ms, m ∈ pm.ordered) (hdecl : ∀ m ∈ decl, m ∈ ms) (hdeq : pmode ≠ .disabled → decl = ms)
    {D : List Nat → Prop}
    (hD : ∀ m ∈ pm.ordered, D m.pfx →
      (pmode ≠ .disabled → m ∈ ms) ∧ (pmode = .disabled → cfg.prefixMode = some .disabled))
    (m : Prefix.Mapping) (hm : m ∈ pm.ordered) (hDm : D m.pfx) :
    lookupPfx m.pfx ((decl.map (fun m => (m.pfx, m.expanded))).reverse ++ defaultPrefixes cfg pm) = some m.expanded := by
  obtain ⟨hd1, hd2⟩ := hD m hm hDm
  refine lookupPfx_inv pm.ordered hcfg.agree.nodup _ ?_ m hm ?_
  · intro e he
    rcases List.mem_append.1 he with he | he
    · simp only [List.mem_reverse, List.mem_map] at he
      obtain ⟨m', hm', rfl⟩ := he
      exact ⟨m', hms m' (hdecl m' hm'), rfl⟩
    · unfold defaultPrefixes at he
      split at he
      · obtain ⟨m', hm', rfl⟩ := List.mem_map.1 he
        exact ⟨m', hm', rfl⟩
      · cases he
  · simp only [List.map_append, List.map_reverse, List.map_map, Function.comp_def, List.mem_append, List.mem_reverse,
      List.mem_map]
    by_cases hpm : pmode = .disabled
    · right
      simp only [defaultPrefixes, hd2 hpm, ↓reduceIte]
      exact ⟨(m.pfx, m.expanded), List.mem_map_of_mem hm, rfl⟩
    · left
      rw [hdeq hpm]
      exact ⟨m, hd1 hpm, rfl⟩

/-- the directives `WriteDirectives` writes -/
def hdrDirs (b : List Nat) (bm : DirMode) (ms : List Prefix.Mapping) (pmode : DirMode) : List TA.Dir :=
  (if b.isEmpty then [] else match bm with
    | .disabled => []
    | .sparql => [TA.Dir.baseKw b]
    | .at => [TA.Dir.baseAt b]) ++
  (match pmode with
    | .disabled => []
    | .sparql => ms.map (fun m => TA.Dir.prefixKw m.pfx m.expanded)
    | .at => ms.map (fun m => TA.Dir.prefixAt m.pfx m.expanded))

theorem writeDirectives_dirs (b : List Nat) (bm : DirMode) (ms : List Prefix.Mapping) (pmode : DirMode) :
    writeDirectives b bm ms pmode = (hdrDirs b bm ms pmode).flatMap (fun d => dirBody d ++ [nl]) := by
  have e1 : asc "@base <" = asc "@base" ++ [sp, 0x3c] := by decide
  have e2 : asc "> .\n" = [0x3e, sp, 0x2e, nl] := by decide
  have e3 : asc "BASE <" = asc "BASE" ++ [sp, 0x3c] := by decide
  have e4 : asc ">\n" = [0x3e, nl] := by decide
  have e5 : asc "@prefix " = asc "@prefix" ++ [sp] := by decide
  have e6 : asc ": <" = [0x3a, sp, 0x3c] := by decide
  have e7 : asc "PREFIX " = asc "PREFIX" ++ [sp] := by decide
  unfold writeDirectives hdrDirs
  rw [List.flatMap_append]
  congr 1
  · unfold baseDirective
    cases b.isEmpty
    · cases bm <;> simp [dirBody, e1, e2, e3, e4]
    · rfl
  · cases pmode
    · simp only [List.flatMap_map]
      congr 1
      funext m
      simp [prefixDirective, dirBody, e5, e6, e2]
    · simp only [List.flatMap_map]
      congr 1
      funext m
      simp [prefixDirective, dirBody, e7, e6, e4]
    · simp only [List.flatMap_nil]
      rw [List.flatMap_eq_nil_iff]
      intro _ _
      rfl

theorem dDir_prefixes (R : TA.Resolver) (kw : Bool) : ∀ (ms : List Prefix.Mapping) (st : TA.DState),
    (∀ m ∈ ms, R st.base m.expanded = some m.expanded) →
    (ms.map (fun m => if kw then TA.Dir.prefixKw m.pfx m.expanded else .prefixAt m.pfx m.expanded)).foldlM (TA.dDir R) st =
      some { st with ns := (ms.map (fun m => (m.pfx, m.expanded))).reverse ++ st.ns }
  | [], st, _ => by cases st; rfl
  | m :: ms, st, h => by
    have ih := dDir_prefixes R kw ms { st with ns := (m.pfx, m.expanded) :: st.ns }
      (fun x hx => h x (List.mem_cons_of_mem _ hx))
    have hm := h m List.mem_cons_self
    cases kw <;> simp_all [TA.dDir]

/-- What the directives of the header with modes `bm` / `pmode` listing the mappings `ms` of the table denote: they take
    the state with the defaults the decoder is given to one that agrees with the encoder's configuration on the labels
    `D`; and each of them is one the machine can read (`DirFit`). -/
theorem hdr_den (hC : CfgOK C T) (hcfg : ConfigOK C.isSpace T cfg pm) (bm pmode : DirMode)
    (ms : List Prefix.Mapping) (hms : ∀ m ∈ ms, m ∈ pm.ordered) (D : List Nat → Prop)
    (hbm : bm = .disabled → cfg.baseMode = some .disabled)
    (hD : ∀ m ∈ pm.ordered, D m.pfx →
      (pmode ≠ .disabled → m ∈ ms) ∧ (pmode = .disabled → cfg.prefixMode = some .disabled)) :
    (∀ d ∈ hdrDirs cfg.baseStr bm ms pmode, DirFit C T d) ∧
    ∃ st1, (hdrDirs cfg.baseStr bm ms pmode).foldlM (TA.dDir C.resolve)
        { base := defaultBase cfg, ns := defaultPrefixes cfg pm, next := 0 } = some st1 ∧ st1.next = 0 ∧
      StOK cfg.base pm D st1 := by
  obtain ⟨hbi, hbn, hbs⟩ := base_facts hC hcfg
  refine ⟨fun d hd => ?_, ?_⟩
  · simp only [hdrDirs, List.mem_append] at hd
    rcases hd with hd | hd
    · split at hd
      · cases hd
      · cases bm <;> simp only [List.mem_singleton, List.mem_nil_iff] at hd <;> subst hd <;> exact hbi
    · cases pmode <;> simp only [List.mem_map, List.mem_nil_iff] at hd <;> obtain ⟨m, hm, rfl⟩ := hd <;>
        exact ⟨hcfg.labels m (hms m hm), (hcfg.ns m (hms m hm)).1⟩
  have hbase : (if cfg.baseStr.isEmpty then [] else match bm with
        | .disabled => []
        | .sparql => [TA.Dir.baseKw cfg.baseStr]
        | .at => [TA.Dir.baseAt cfg.baseStr]).foldlM (TA.dDir C.resolve)
        { base := defaultBase cfg, ns := defaultPrefixes cfg pm, next := 0 } =
      some { base := cfg.base, ns := defaultPrefixes cfg pm, next := 0 } := by
    cases hb : cfg.base with
    | none =>
      have : defaultBase cfg = none := by simp [defaultBase, hb]
      simp [hbn hb, this]
    | some b =>
      obtain ⟨hstr, hbe, hres⟩ := hbs b hb
      have hres0 : C.resolve (defaultBase cfg) b = some b := by
        unfold defaultBase
        split
        · rw [hb]; exact hres
        · exact hC.res_none b
      rw [hstr, hbe]
      cases bm with
      | disabled =>
        have : defaultBase cfg = some b := by simp [defaultBase, hbm rfl, hb]
        simp [this]
      | sparql => simp [TA.dDir, hres0]
      | «at» => simp [TA.dDir, hres0]
  have hres : ∀ m ∈ ms, C.resolve cfg.base m.expanded = some m.expanded :=
    fun m hm => ns_resolve hC hcfg m (hms m hm)
  obtain ⟨decl, hdecl, hdeq, hpd⟩ : ∃ decl : List Prefix.Mapping, (∀ m ∈ decl, m ∈ ms) ∧ (pmode ≠ .disabled → decl = ms) ∧
      (match pmode with
        | .disabled => []
        | .sparql => ms.map (fun m : Prefix.Mapping => TA.Dir.prefixKw m.pfx m.expanded)
        | .at => ms.map (fun m : Prefix.Mapping => TA.Dir.prefixAt m.pfx m.expanded)).foldlM (TA.dDir C.resolve)
          { base := cfg.base, ns := defaultPrefixes cfg pm, next := 0 } =
        some { base := cfg.base, ns := (decl.map (fun m => (m.pfx, m.expanded))).reverse ++ defaultPrefixes cfg pm,
               next := 0 } := by
    cases pmode with
    | disabled => exact ⟨[], (by intro _ h; cases h), fun h => absurd rfl h, rfl⟩
    | sparql => exact ⟨ms, fun _ h => h, fun _ => rfl, by simpa using dDir_prefixes C.resolve true ms _ hres⟩
    | «at» => exact ⟨ms, fun _ h => h, fun _ => rfl, by simpa using dDir_prefixes C.resolve false ms _ hres⟩
  refine ⟨_, by unfold hdrDirs; rw [List.foldlM_append, hbase]; exact hpd, rfl, rfl, fun m hm hDm => ?_⟩
  rw [← C08.lookupNs_eq]
  exact lookup_header hcfg hms hdecl hdeq hD m hm hDm

/-- Reading the header `H` takes the decoder from its initial state (the disabled directive kinds handed over as
    defaults) to statement level, in an environment that agrees with the encoder's on the labels `D` — whatever
    follows the header.  `K'`: the `.statement` frames the directives leave, one each (`reader_scanStatement` pushes itself
    and the directive's last closure returns it again: Model/TurtleDoc, header); `k'`: line feeds still to be skipped. -/
def HeaderRead (C : Cfg) (cfg : Config) (pm : Prefix.PM) (H : List Nat) (D : List Nat → Prop) : Prop :=
  ∀ rest, ∃ K' k' env',
    Steps C .eof ⟨[⟨{}, .statement⟩], H ++ rest, ⟨defaultBase cfg, defaultPrefixes cfg pm, 0⟩⟩ []
      ⟨⟨{}, .statement⟩ :: K', List.replicate k' 0x0a ++ rest, env'⟩ ∧ EnvOK env' cfg.base pm D

theorem header_ok (hT : DocTablesOK T) (hC : CfgOK C T) (hcfg : ConfigOK C.isSpace T cfg pm) (bm pmode : DirMode)
    (ms : List Prefix.Mapping) (hms : ∀ m ∈ ms, m ∈ pm.ordered) (D : List Nat → Prop)
    (hbm : bm = .disabled → cfg.baseMode = some .disabled)
    (hD : ∀ m ∈ pm.ordered, D m.pfx →
      (pmode ≠ .disabled → m ∈ ms) ∧ (pmode = .disabled → cfg.prefixMode = some .disabled)) :
    HeaderRead C cfg pm (header cfg.baseStr bm ms pmode) D := by
  intro rest
  obtain ⟨hfit, st1, hden, _, hst⟩ := hdr_den hC hcfg bm pmode ms hms D hbm hD
  obtain ⟨j, hj⟩ : ∃ j, header cfg.baseStr bm ms pmode ++ rest =
      writeDirectives cfg.baseStr bm ms pmode ++ (List.replicate j 0x0a ++ rest) := by
    unfold header
    simp only
    split
    · next hd =>
      have : writeDirectives cfg.baseStr bm ms pmode = [] := by simpa using hd
      exact ⟨0, by simp [this]⟩
    · exact ⟨1, by simp [nl]⟩
  obtain ⟨K', k', r⟩ := run_dirs hT hC {} (List.replicate j 0x0a ++ rest) _ [] 0 _ st1 hfit hden
  refine ⟨K', k' + j, _, ?_, envOK_of_stOK hst⟩
  rw [hj, writeDirectives_dirs, ← List.replicate_append_replicate, List.append_assoc]
  simpa [nl, C08.envOf] using r

theorem header_nil (D : List Nat → Prop) (hb : cfg.base = none) (hD : ∀ m ∈ pm.ordered, ¬ D m.pfx) :
    HeaderRead C cfg pm [] D := by
  intro rest
  refine ⟨[], 0, _, by simpa using Steps.refl _, ?_, fun m hm hDm => absurd hDm (hD m hm)⟩
  unfold defaultBase
  split <;> simp [hb]

/-- The two headers the encoder writes — `headerUnbuffered`: all the mappings of the table, `@`-style;
    `headerBuffered`: the used mappings, styles as configured — are `header` on mappings of the table, or
    nothing at all when there is no base and nothing to declare. `D`: the labels a document may rely on. -/
theorem header_cases (hcfg : ConfigOK C.isSpace T cfg pm) {P : List Nat → (List Nat → Prop) → Prop}
    (hok : ∀ (bm pmode : DirMode) (ms : List Prefix.Mapping), (∀ m ∈ ms, m ∈ pm.ordered) →
      ∀ D : List Nat → Prop, (bm = .disabled → cfg.baseMode = some .disabled) →
      (∀ m ∈ pm.ordered, D m.pfx →
        (pmode ≠ .disabled → m ∈ ms) ∧ (pmode = .disabled → cfg.prefixMode = some .disabled)) →
      P (header cfg.baseStr bm ms pmode) D)
    (hnil : ∀ D : List Nat → Prop, cfg.base = none → (∀ m ∈ pm.ordered, ¬ D m.pfx) → P [] D) :
    P (headerUnbuffered cfg pm) (fun _ => True) ∧ ∀ used, P (headerBuffered cfg pm used) (fun l => l ∈ used) := by
  refine ⟨?_, fun used => ?_⟩
  · unfold headerUnbuffered
    split
    · have hperm := isortBy_perm (fun a b : Prefix.Mapping => strLe a.pfx b.pfx) pm.ordered
      exact hok .at .at _ (fun m hm => hperm.mem_iff.1 hm) _
        (fun h => nomatch h) (fun m hm _ => ⟨fun _ => hperm.mem_iff.2 hm, fun h => nomatch h⟩)
    · next hcond =>
      simp only [Bool.or_eq_true, Option.isSome_iff_ne_none, ne_eq, Bool.not_eq_true', not_or, Decidable.not_not,
        Bool.not_eq_false] at hcond
      have hpe : cfg.prefixes = [] := by simpa using hcond.2
      exact hnil _ hcond.1 (fun m hm => by rw [hcfg.empty hpe] at hm; cases hm)
  · unfold headerBuffered
    split
    · exact hok _ _ _ (fun m hm => (hcfg.agree.agree m).2 (usedMappings_mem.1 hm).2) _
        getD_disabled (fun m hm hu => ⟨fun _ => usedMappings_mem.2 ⟨hu, (hcfg.agree.agree m).1 hm⟩, getD_disabled⟩)
    · next hcond =>
      simp only [Bool.or_eq_true, Option.isSome_iff_ne_none, ne_eq, Bool.not_eq_true', not_or, Decidable.not_not,
        Bool.not_eq_false, List.isEmpty_iff] at hcond
      refine hnil _ hcond.1 (fun m _ hl => ?_)
      have := mem_dedup.mpr hl
      rw [hcond.2] at this
      cases this

theorem headers_ok (hT : DocTablesOK T) (hC : CfgOK C T) (hcfg : ConfigOK C.isSpace T cfg pm) :
    HeaderRead C cfg pm (headerUnbuffered cfg pm) (fun _ => True) ∧
    ∀ used, HeaderRead C cfg pm (headerBuffered cfg pm used) (fun l => l ∈ used) :=
  header_cases hcfg (P := HeaderRead C cfg pm) (header_ok hT hC hcfg) header_nil

section Generic
variable {α : Type}

theorem run_sections (sec : α → List Nat) (out : α → List Stmt) (env : Env) :
    ∀ (items : List α),
      (∀ x ∈ items, ∀ (K : List Frame) (k : Nat) (rest : List Nat),
        Steps C .eof ⟨⟨{}, .statement⟩ :: K, List.replicate k 0x0a ++ (sec x ++ rest), env⟩ (out x)
          ⟨⟨{}, .statement⟩ :: K, 0x0a :: rest, env⟩) →
      ∀ (K : List Frame) (k : Nat),
      Steps C .eof ⟨⟨{}, .statement⟩ :: K, List.replicate k 0x0a ++ (items.map sec).flatten, env⟩
        (items.flatMap out) ⟨[], [], env⟩
  | [], _, K, k => by simpa using run_eof (C := C) {} K k env
  | x :: items, h, K, k => by
    have r1 := h x List.mem_cons_self K k (items.map sec).flatten
    have r2 := run_sections sec out env items (fun y hy => h y (List.mem_cons_of_mem _ hy)) K 1
    have := r1.trans r2
    simpa using this

/-- `TtlEnc.document` on the sections `items.map sec`: nothing at all (buffered, no section), or a header
    followed by the sections — in their order or, buffered and sorted, in the order of the sorted texts. -/
theorem document_cases (cfg : Config) (pm : Prefix.PM) (items : List α) (sec : α → List Nat) (used : List (List Nat))
    {P : List Nat → Prop} (hnil : cfg.isBuffered = true → items = [] → P [])
    (hU : cfg.isBuffered = false → P (headerUnbuffered cfg pm ++ (items.map sec).flatten))
    (hB : cfg.isBuffered = true → ∀ items' : List α, items'.Perm items →
      P (headerBuffered cfg pm used ++ (items'.map sec).flatten)) :
    P (document cfg pm (items.map sec) used) := by
  unfold document
  by_cases hbuf : cfg.isBuffered = true
  · simp only [hbuf, Bool.not_true, Bool.false_eq_true, ↓reduceIte]
    cases items with
    | nil => exact hnil hbuf rfl
    | cons x0 xs =>
      simp only [List.map_cons, List.isEmpty_cons, Bool.false_eq_true, ↓reduceIte]
      let le' : α → α → Bool := fun a b => strLe (sec a) (sec b)
      let items' : List α := if cfg.isSorted then isortBy le' (x0 :: xs) else x0 :: xs
      have hperm : items'.Perm (x0 :: xs) := by
        show (if cfg.isSorted then isortBy le' (x0 :: xs) else x0 :: xs).Perm (x0 :: xs)
        split
        · exact isortBy_perm le' _
        · exact List.Perm.refl _
      have hsecs : (if cfg.isSorted = true then sortStrs (sec x0 :: xs.map sec) else sec x0 :: xs.map sec) =
          items'.map sec := by
        show _ = (if cfg.isSorted then isortBy le' (x0 :: xs) else x0 :: xs).map _
        split
        · rw [← List.map_cons, sortStrs, isortBy_map]
        · rfl
      rw [hsecs]
      exact hB hbuf items' hperm
  · have hbuf' : cfg.isBuffered = false := by simpa using hbuf
    simp only [hbuf', Bool.not_false, ↓reduceIte]
    exact hU hbuf'

/-- The configuration-dependent part of a round trip, for any kind of section: if every section, read at
    statement level in an environment that agrees with the encoder's, yields `out x` and leaves the
    environment alone, then the whole document (`TtlEnc.document`: header, buffering, sorting) decodes to
    the outputs of the sections, in their order or — sorted sections — in the sorted order. -/
theorem doc_generic (hT : DocTablesOK T) (hC : CfgOK C T) (hcfg : ConfigOK C.isSpace T cfg pm)
    (items : List α) (sec : α → List Nat) (out : α → List Stmt) (used : α → List (List Nat))
    (hrun : ∀ (env : Env) (D : List Nat → Prop), EnvOK env cfg.base pm D → ∀ x ∈ items, (∀ l ∈ used x, D l) →
      ∀ (K : List Frame) (k : Nat) (rest : List Nat),
        Steps C .eof ⟨⟨{}, .statement⟩ :: K, List.replicate k 0x0a ++ (sec x ++ rest), env⟩ (out x)
          ⟨⟨{}, .statement⟩ :: K, 0x0a :: rest, env⟩) :
    ∃ items' : List α, items'.Perm items ∧
      run C .eof (defaultBase cfg) (defaultPrefixes cfg pm) (document cfg pm (items.map sec) (items.flatMap used)) =
        (items'.flatMap out, .clean) := by
  have core : ∀ (H : List Nat) (items' : List α) (D : List Nat → Prop), items'.Perm items →
      (∀ x ∈ items', ∀ l ∈ used x, D l) →
      HeaderRead C cfg pm H D →
      run C .eof (defaultBase cfg) (defaultPrefixes cfg pm) (H ++ (items'.map sec).flatten) = (items'.flatMap out, .clean) := by
    intro H items' D hperm hD hH
    obtain ⟨K', k', env', r1, henv⟩ := hH (items'.map sec).flatten
    have r2 := run_sections (C := C) sec out env' items'
      (fun x hx K k rest => hrun env' D henv x (hperm.mem_iff.mp hx) (hD x hx) K k rest) K' k'
    simpa using run_of_steps (consumes_of hC) _ _ _ _ _ (r1.trans r2) rfl
  refine document_cases cfg pm items sec (items.flatMap used) (P := fun doc => ∃ items' : List α, items'.Perm items ∧
    run C .eof (defaultBase cfg) (defaultPrefixes cfg pm) doc = (items'.flatMap out, .clean)) ?_ ?_ ?_
  · intro _ _
    have r := run_eof (C := C) {} [] 0 ⟨defaultBase cfg, defaultPrefixes cfg pm, 0⟩
    exact ⟨[], by simp_all, by
      simpa using run_of_steps (consumes_of hC) (defaultBase cfg) (defaultPrefixes cfg pm) [] _ _ r rfl⟩
  · intro _
    exact ⟨items, List.Perm.refl _, core _ items (fun _ => True) (List.Perm.refl _) (fun _ _ _ _ => trivial)
      (headers_ok hT hC hcfg).1⟩
  · intro _ items' hperm
    exact ⟨items', hperm, core _ items' (fun l => l ∈ items.flatMap used) hperm
      (fun x hx l hl => List.mem_flatMap.mpr ⟨x, hperm.mem_iff.mp hx, hl⟩) ((headers_ok hT hC hcfg).2 _)⟩

end Generic


end RdfModel.Proofs.C02Doc
