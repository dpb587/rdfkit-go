/-
  Statement layer of Turtle/TriG: the loop of `Next` without its fuel.  `iter` is one iteration of the
  loop, `Reach` what `Next` answers from a state (tied to `nextLoop` in both directions), `Accepts` a
  whole clean run (tied to `runLoop`).
-/
import RdfModel.Proofs.TtlDocBasic
import RdfModel.Proofs.TtlDocFuel
namespace RdfModel.TtlDoc
open RdfModel

inductive Iter where
  | done (r : NextRes)
  | cont (cur : Option Frame) (st : St)

def iter (C : Cfg) (e : End) (cur : Option Frame) (st : St) : Iter :=
  if st.err.isSome then .done (.no st)
  else if !st.stmts.isEmpty then .done (.yes (pushCur cur st))
  else
    match popFrame cur st with
    | none => .done (.no st)
    | some (f, st1) =>
      match scan C e f st1 with
      | .panic => .done .panic
      | .err k => .cont none { st1 with err := some k }
      | .ok cur' st2 => .cont cur' st2

theorem nextLoop_succ (C : Cfg) (e : End) (n : Nat) (cur : Option Frame) (st : St) :
    nextLoop C e (n + 1) cur st =
      match iter C e cur st with
      | .done r => r
      | .cont c s => nextLoop C e n c s := by
  rw [nextLoop]
  unfold iter
  split
  · rfl
  · split
    · rfl
    · cases popFrame cur st with
      | none => rfl
      | some p =>
        obtain ⟨f, st1⟩ := p
        simp only []
        cases scan C e f st1 <;> rfl

inductive Reach (C : Cfg) (e : End) : Option Frame → St → NextRes → Prop where
  | done {cur st r} : iter C e cur st = .done r → Reach C e cur st r
  | step {cur st c s r} : iter C e cur st = .cont c s → Reach C e c s r → Reach C e cur st r

theorem reach_of_nextLoop (C : Cfg) (e : End) : ∀ n cur st, nextLoop C e n cur st ≠ .outOfFuel →
    Reach C e cur st (nextLoop C e n cur st) := by
  intro n
  induction n with
  | zero => intro cur st h; simp [nextLoop] at h
  | succ n ih =>
    intro cur st h
    rw [nextLoop_succ] at h ⊢
    cases hi : iter C e cur st with
    | done r => simp only []; exact .done hi
    | cont c s => simp only [hi] at h ⊢; exact .step hi (ih c s h)

theorem nextLoop_of_reach {C : Cfg} {e : End} {cur : Option Frame} {st : St} {r : NextRes}
    (h : Reach C e cur st r) : ∀ n, nextLoop C e n cur st = r ∨ nextLoop C e n cur st = .outOfFuel := by
  induction h with
  | done hi =>
    intro n
    cases n with
    | zero => right; rfl
    | succ n => left; rw [nextLoop_succ, hi]
  | step hi _ ih =>
    intro n
    cases n with
    | zero => right; rfl
    | succ n => rw [nextLoop_succ, hi]; exact ih n

/-- the state `Next` starts from: the statement handed out last time is dropped -/
def St.dropFirst (a : St) : St := { a with stmts := a.stmts.drop 1 }

theorem reach_of_next {C : Cfg} {e : End} {a : St} {r : NextRes} (h : next C e a = r) (hr : r ≠ .outOfFuel) :
    Reach C e none a.dropFirst r := by
  subst h; exact reach_of_nextLoop C e _ none a.dropFirst hr

theorem next_of_reach {C : Cfg} {e : End} {a : St} {r : NextRes} (h : Reach C e none a.dropFirst r) :
    next C e a = r ∨ next C e a = .outOfFuel :=
  nextLoop_of_reach h _

theorem runLoop_yes {C : Cfg} {e : End} {n : Nat} {a a' : St} {x : Stmt} {l : List Stmt}
    (hn : next C e a = .yes a') (hs : a'.stmts = x :: l) :
    runLoop C e (n + 1) a = (x :: (runLoop C e n a').1, (runLoop C e n a').2) := by
  rw [runLoop, hn]; simp only [hs]

/-- A run that yields `ts` and ends without an error, without the fuel of `runLoop`. -/
inductive Accepts (C : Cfg) (e : End) : St → List Stmt → Prop where
  | stop {a a'} : Reach C e none a.dropFirst (.no a') → a'.err = none → Accepts C e a []
  | yield {a a' x l ts} : Reach C e none a.dropFirst (.yes a') → a'.stmts = x :: l → Accepts C e a' ts →
      Accepts C e a (x :: ts)

variable {C : Cfg} {e : End}

/-- `Next` drops the statement handed out last before anything else -/
theorem accepts_congr {a b : St} {ts : List Stmt} (hab : a.dropFirst = b.dropFirst) (h : Accepts C e a ts) :
    Accepts C e b ts := by
  cases h with
  | stop hr he => exact .stop (hab ▸ hr) he
  | yield hr hs ha => exact .yield (hab ▸ hr) hs ha

theorem accepts_of_runLoop : ∀ (n : Nat) (a : St) (ts : List Stmt),
    runLoop C e n a = (ts, .clean) → Accepts C e a ts := by
  intro n
  induction n with
  | zero => intro a ts h; simp [runLoop] at h
  | succ n ih =>
    intro a ts h
    cases hn : next C e a with
    | panic => rw [runLoop, hn] at h; simp at h
    | outOfFuel => rw [runLoop, hn] at h; simp at h
    | no a' =>
      rw [runLoop, hn] at h; simp only [Prod.mk.injEq] at h
      obtain ⟨rfl, hv⟩ := h
      refine .stop (reach_of_next hn nofun) ?_
      cases he : a'.err with
      | none => rfl
      | some k => rw [he] at hv; cases hv
    | yes a' =>
      cases hs : a'.stmts with
      | nil => rw [runLoop, hn] at h; simp [hs] at h
      | cons x l =>
        rw [runLoop_yes hn hs, Prod.mk.injEq] at h
        obtain ⟨rfl, hv⟩ := h
        exact .yield (reach_of_next hn nofun) hs (ih a' _ (Prod.ext rfl hv))

theorem runLoop_of_accepts {a : St} {ts : List Stmt} (h : Accepts C e a ts) :
    ∀ m, runLoop C e m a = (ts, .clean) ∨ (runLoop C e m a).2 = .outOfFuel := by
  induction h with
  | stop hr he =>
    intro m
    cases m with
    | zero => right; rfl
    | succ m => rcases next_of_reach hr with h1 | h1 <;> rw [runLoop, h1] <;> simp [he]
  | yield hr hs _ ih =>
    intro m
    cases m with
    | zero => right; rfl
    | succ m =>
      rcases next_of_reach hr with h1 | h1
      · rw [runLoop_yes h1 hs]
        exact (ih m).imp (fun h2 => by rw [h2]) id
      · right; rw [runLoop, h1]

theorem run_of_accepts (hC : C.P.Consumes) {base : Option (List Nat)}
    {pf : List (List Nat × List Nat)} {inp : List Nat} {ts : List Stmt} (h : Accepts C e (init base pf inp) ts) :
    run C e base pf inp = (ts, .clean) :=
  (runLoop_of_accepts h _).resolve_right (runLoop_fuel hC _ _ (Nat.lt_succ_self _))

/-- One iteration of `Next`, row by row: when it is the last one (`iter_cont_iff`: what it has done otherwise). -/
theorem iter_done_iff {cur : Option Frame} {st : St} {r : NextRes} :
    iter C e cur st = .done r ↔
    (st.err.isSome = true ∧ r = .no st) ∨ (st.err = none ∧ st.stmts ≠ [] ∧ r = .yes (pushCur cur st)) ∨
    (st.err = none ∧ st.stmts = [] ∧ popFrame cur st = none ∧ r = .no st) ∨
    (st.err = none ∧ st.stmts = [] ∧ ∃ f st1, popFrame cur st = some (f, st1) ∧
      scanFn C e f st1.inp st1.env = .panic ∧ r = .panic) := by
  unfold iter scan
  cases hE : st.err with
  | some k => simp [eq_comm]
  | none =>
    cases hS : st.stmts with
    | cons x l => simp [eq_comm]
    | nil =>
      cases hp : popFrame cur st with
      | none => simp [eq_comm]
      | some p => obtain ⟨f, st1⟩ := p; cases hsc : scanFn C e f st1.inp st1.env <;> simp only [hsc] <;> grind

/-- An iteration of `Next` that is not the last one has made one scan call, on the frame `popFrame` hands out. -/
theorem iter_cont_iff {cur : Option Frame} {st : St} {c : Option Frame} {s : St} :
    iter C e cur st = .cont c s ↔
    st.err = none ∧ st.stmts = [] ∧ ∃ f st1, popFrame cur st = some (f, st1) ∧
      ((∃ k, scanFn C e f st1.inp st1.env = .err k ∧ c = none ∧ s = { st1 with err := some k }) ∨
       (∃ o, scanFn C e f st1.inp st1.env = .ok o ∧ c = o.cur ∧ s = applyOut st1 o)) := by
  unfold iter scan
  cases hE : st.err with
  | some k => simp
  | none =>
    cases hS : st.stmts with
    | cons x l => simp
    | nil =>
      cases hp : popFrame cur st with
      | none => simp
      | some p => obtain ⟨f, st1⟩ := p; cases hsc : scanFn C e f st1.inp st1.env <;> simp only [hsc] <;> grind

theorem iter_of_err {cur : Option Frame} {st : St} (h : st.err.isSome = true) :
    iter C e cur st = .done (.no st) := iter_done_iff.2 (.inl ⟨h, rfl⟩)

theorem iter_yes {cur : Option Frame} {st : St} (herr : st.err = none) (hs : st.stmts ≠ []) :
    iter C e cur st = .done (.yes (pushCur cur st)) := iter_done_iff.2 (.inr (.inl ⟨herr, hs, rfl⟩))

theorem iter_none {cur : Option Frame} {st : St} (herr : st.err = none) (hs : st.stmts = [])
    (hp : popFrame cur st = none) : iter C e cur st = .done (.no st) :=
  iter_done_iff.2 (.inr (.inr (.inl ⟨herr, hs, hp, rfl⟩)))

/-- `rsNext` is the top of the stack kept in a register -/
theorem iter_pushCur (cur : Option Frame) {st : St} (herr : st.err = none) :
    iter C e none (pushCur cur st) = iter C e cur st := by
  cases cur with
  | none => rfl
  | some f => cases st; subst herr; simp [iter, pushCur, popFrame]

theorem reach_pushCur {cur : Option Frame} {st : St} {r : NextRes} (herr : st.err = none)
    (h : Reach C e none (pushCur cur st) r) : Reach C e cur st r := by
  cases h with
  | done hi => exact .done (iter_pushCur cur herr ▸ hi)
  | step hi hr => exact .step (iter_pushCur cur herr ▸ hi) hr

theorem reach_err_no {cur : Option Frame} {st : St} {r : NextRes} (h : st.err.isSome = true)
    (hr : Reach C e cur st r) : r = .no st := by
  cases hr with
  | done hi => rw [iter_of_err h] at hi; injection hi with hi; exact hi.symm
  | step hi _ => rw [iter_of_err h] at hi; cases hi

theorem reach_yes {cur : Option Frame} {st : St} {r : NextRes} (herr : st.err = none)
    (hs : st.stmts ≠ []) (hr : Reach C e cur st r) : r = .yes (pushCur cur st) := by
  cases hr with
  | done hi => rw [iter_yes herr hs] at hi; injection hi with hi; exact hi.symm
  | step hi _ => rw [iter_yes herr hs] at hi; cases hi

theorem iter_cur (C : Cfg) (e : End) (f : Frame) {st : St} (herr : st.err = none) (hs : st.stmts = []) :
    iter C e (some f) st =
      match scanFn C e f st.inp st.env with
      | .panic => .done .panic
      | .err k => .cont none { st with err := some k }
      | .ok o => .cont o.cur (applyOut st o) := by
  simp only [iter, herr, hs, popFrame, scan]
  cases scanFn C e f st.inp st.env <;> simp

theorem iter_pop (C : Cfg) (e : End) {cur : Option Frame} {st : St} {f : Frame} {st1 : St}
    (herr : st.err = none) (hs : st.stmts = []) (hp : popFrame cur st = some (f, st1)) :
    iter C e cur st =
      match scanFn C e f st1.inp st1.env with
      | .panic => .done .panic
      | .err k => .cont none { st1 with err := some k }
      | .ok o => .cont o.cur (applyOut st1 o) := by
  simp only [iter, herr, hs, hp, scan]
  cases scanFn C e f st1.inp st1.env <;> simp

theorem scanFn_end {inp : List Nat} (hend : skipWs C e false inp = .end_) (f : Frame) (env : Env) :
    scanFn C e f inp env = stepFn C e f.k f.x env .fail := by
  simp [scanFn, hend]

theorem scanFn_rune {inp : List Nat} {c : Nat} {rest : List Nat} (hs : skipWs C e false inp = .rune c rest)
    (f : Frame) (env : Env) : scanFn C e f inp env = stepFn C e f.k f.x env (.rune c rest) := by
  simp [scanFn, hs]

theorem iter_ok {cur : Option Frame} {f : Frame} {s : List Frame} {st : St} {o : Out} (herr : st.err = none) (hs : st.stmts = [])
    (hfr : cur.toList ++ st.stack = f :: s) (h : scanFn C e f st.inp st.env = .ok o) :
    iter C e cur st = .cont o.cur (applyOut { st with stack := s } o) :=
  iter_cont_iff.2 ⟨herr, hs, f, _, popFrame_iff.2 ⟨s, hfr, rfl⟩, .inr ⟨o, h, rfl, rfl⟩⟩

theorem iter_err {cur : Option Frame} {f : Frame} {s : List Frame} {st : St} {k : EClass} (herr : st.err = none) (hs : st.stmts = [])
    (hfr : cur.toList ++ st.stack = f :: s) (h : scanFn C e f st.inp st.env = .err k) :
    iter C e cur st = .cont none { st with stack := s, err := some k } :=
  iter_cont_iff.2 ⟨herr, hs, f, _, popFrame_iff.2 ⟨s, hfr, rfl⟩, .inl ⟨k, h, rfl, rfl⟩⟩

theorem reach_latch {cur : Option Frame} {st st' : St} {k : EClass}
    (h : iter C e cur st = .cont none st') (hk : st'.err = some k) : Reach C e cur st (.no st') :=
  .step h (.done (iter_of_err (by simp [hk])))

theorem reach_pop_step {f : Frame} {s : List Frame} {st : St} {o : Out} {st' : St} {r : NextRes}
    (herr : st.err = none) (hs : st.stmts = []) (hstack : st.stack = f :: s)
    (h : scanFn C e f st.inp st.env = .ok o) (hst : applyOut { st with stack := s } o = st')
    (hr : Reach C e o.cur st' r) : Reach C e none st r :=
  .step (hst ▸ iter_ok herr hs hstack h) hr

end RdfModel.TtlDoc
