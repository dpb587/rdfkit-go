import RdfModel.Proofs.C20Digits
namespace RdfModel.Proofs.C20
open RdfModel RdfModel.Xsd
open RdfModel.Spec.Xsd (natValue natDigits canonInt intLex signSplit digits1)

theorem digitVal_digit {c : Nat} (h : 0x30 ≤ c ∧ c ≤ 0x39) : digitVal c = some (c - 0x30) := by
  simp [digitVal, h]

def cutoff10 : Nat := 1844674407370955162

theorem cutoff10_eq : maxUint64 / 10 + 1 = cutoff10 := by decide

/-- the digit loop of ParseUint, base 10, from accumulator `n`: it succeeds exactly on digit strings whose value
    (continuing `n`) stays within `M`, and returns that value -/
theorem loop_iff (M : Nat) (hM : M ≤ maxUint64) (s : Bytes) : ∀ n m, n ≤ M →
    (parseUintLoop 10 cutoff10 M n s = .ok m ↔
      s.all Spec.Xsd.isDigit = true ∧ m = n * 10 ^ s.length + natValue s ∧ m ≤ M) := by
  have hmu : maxUint64 = 18446744073709551615 := rfl
  have hcut : cutoff10 = 1844674407370955162 := rfl
  induction s with
  | nil => intro n m hn; simp only [parseUintLoop, Except.ok.injEq, natValue_nil]; grind
  | cons c r ih =>
    intro n m hn
    have hp : 1 ≤ 10 ^ r.length := Nat.pow_pos (by omega)
    rw [natValue_cons]
    simp only [List.all_cons, Bool.and_eq_true, List.length_cons, Nat.pow_succ, isDigit_iff]
    generalize hpe : 10 ^ r.length = p at hp
    unfold parseUintLoop
    by_cases hc : 0x30 ≤ c ∧ c ≤ 0x39
    · -- after this digit the accumulator is `n * 10 + (c - '0')`, which the final value dominates
      have hle : ∀ x, n * (p * 10) + ((c - 0x30) * p + x) = (n * 10 + (c - 0x30)) * p + x := by grind
      have hsmall : ∀ x, n * 10 + (c - 0x30) ≤ (n * 10 + (c - 0x30)) * p + x := fun x =>
        Nat.le_trans (Nat.le_mul_of_pos_right _ hp) (Nat.le_add_right _ _)
      rw [digitVal_digit hc, hle]
      have hd : ¬ (c - 0x30 ≥ 10) := by omega
      simp only [hd, if_false, hc, true_and]
      by_cases hlt : n * 10 + (c - 0x30) ≤ M
      · have hn1 : (n * 10 + (c - 0x30)) % (maxUint64 + 1) = n * 10 + (c - 0x30) := by rw [hmu]; omega
        have hc' : ¬ (n ≥ cutoff10) := by omega
        have hov : ¬ (n * 10 + (c - 0x30) < n * 10 ∨ n * 10 + (c - 0x30) > M) := by omega
        simp only [hc', hn1, hov, if_false]
        rw [ih _ m hlt, hpe]
      · have := hsmall (natValue r)
        have hR : ¬ (r.all Spec.Xsd.isDigit = true ∧ m = (n * 10 + (c - 0x30)) * p + natValue r ∧ m ≤ M) := by omega
        simp only [hR, iff_false]
        by_cases hc' : n ≥ cutoff10
        · simp [hc']
        · have hov : (n * 10 + (c - 0x30)) % (maxUint64 + 1) < n * 10 ∨ (n * 10 + (c - 0x30)) % (maxUint64 + 1) > M := by
            rw [hmu]; omega
          simp [hc', hov]
    · simp only [hc, false_and, iff_false]
      by_cases hl : 0x61 ≤ lower c ∧ lower c ≤ 0x7A <;> simp [digitVal, hc, hl]

theorem two_pow_le (b : Nat) (hb : b ≤ 64) : 2 ^ b - 1 ≤ maxUint64 := by
  have h : 2 ^ b ≤ 2 ^ 64 := Nat.pow_le_pow_right (by omega) hb
  have : (2 : Nat) ^ 64 = 18446744073709551616 := by decide
  have hmu : maxUint64 = 18446744073709551615 := rfl
  omega

theorem parseUint_iff {s : Bytes} {b n : Nat} (hb1 : 1 ≤ b) (hb : b ≤ 64) :
    parseUint s 10 b = .ok n ↔ digits1 s = true ∧ natValue s = n ∧ n ≤ 2 ^ b - 1 := by
  have hb0 : ¬ (b = 0) := by omega
  have hb64 : ¬ (b > 64) := by omega
  rw [digits1_iff]
  unfold parseUint
  by_cases hs : s = []
  · simp [hs]
  · simp only [hs, if_false, hb0, hb64, show ¬ ((10 : Nat) = 0) by omega, show (2 ≤ 10 ∧ 10 ≤ 36) by omega, cutoff10_eq,
      loop_iff (2 ^ b - 1) (two_pow_le b hb) s 0 n (Nat.zero_le _), Nat.zero_mul, Nat.zero_add, ne_eq, not_false_eq_true,
      true_and, not_true_eq_false, eq_comm (a := n)]

theorem pow_pred_double (b : Nat) (hb : 1 ≤ b) : 2 ^ b = 2 * 2 ^ (b - 1) := by
  have : b = (b - 1) + 1 := by omega
  rw [this, Nat.pow_succ]; simp; omega

theorem signSplit_cons (c : Nat) (r : Bytes) :
    signSplit (c :: r) = if c = 0x2D then (true, r) else if c = 0x2B then (false, r) else (false, c :: r) := rfl

/-- the sign of the xsd:integer lexical mapping in the form ParseInt takes it off: `neg := b = '-'`, the rest after `+` or `-` -/
theorem signSplit_go (c : Nat) (r : Bytes) :
    signSplit (c :: r) = (decide (c = 0x2D), if c = 0x2B ∨ c = 0x2D then r else c :: r) := by
  rw [signSplit_cons]
  by_cases h1 : c = 0x2D
  · simp [h1]
  · by_cases h2 : c = 0x2B <;> simp [h1, h2]

theorem parseInt_iff {s : Bytes} {b : Nat} {v : Int} (hb2 : 2 ≤ b) (hb : b ≤ 64) :
    parseInt s 10 b = .ok v ↔
      intLex s = some v ∧ -((2 ^ (b - 1) : Nat) : Int) ≤ v ∧ v ≤ ((2 ^ (b - 1) : Nat) : Int) - 1 := by
  have hpow := pow_pred_double b (by omega)
  have hP : 2 ≤ 2 ^ (b - 1) := by
    have : 2 ^ 1 ≤ 2 ^ (b - 1) := Nat.pow_le_pow_right (by omega) (by omega)
    simpa using this
  -- `simp` writes the cutoff both as a cast power and as a power of the cast; `omega` below needs them identified
  have hcast : ((2 ^ (b - 1) : Nat) : Int) = (2 : Int) ^ (b - 1) := by simp
  have hb0 : ¬ (b = 0) := by omega
  cases s with
  | nil => simp [parseInt, intLex, signSplit, digits1]
  | cons c r =>
    unfold parseInt intLex
    rw [signSplit_go]
    simp only [hb0, if_false]
    generalize (if c = 0x2B ∨ c = 0x2D then r else c :: r) = s1
    cases hpu : parseUint s1 10 b with
    | error e =>
      -- a range error carries `2 ^ b - 1`, beyond the cutoff for either sign; and `s1` is no digit string within the range
      have hno : ¬ (digits1 s1 = true ∧ natValue s1 ≤ 2 ^ b - 1) := fun h =>
        absurd ((parseUint_iff (by omega) hb).2 ⟨h.1, rfl, h.2⟩) (by rw [hpu]; nofun)
      have hR : ¬ ((if digits1 s1 = true then some (if decide (c = 0x2D) = true then -(natValue s1 : Int) else natValue s1) else none)
          = some v ∧ -((2 ^ (b - 1) : Nat) : Int) ≤ v ∧ v ≤ ((2 ^ (b - 1) : Nat) : Int) - 1) := by
        rintro ⟨h1, h2, h3⟩
        split at h1
        · next hd => cases h1; exact hno ⟨hd, by by_cases hm : c = 0x2D <;> simp [hm] at h2 h3 <;> omega⟩
        · cases h1
      simp only [hR, iff_false]
      have h2 : 2 ^ (b - 1) < 2 ^ b - 1 := by omega
      by_cases hm : c = 0x2D <;> cases e <;> simp [hm, h2, Nat.le_of_lt h2]
    | ok un =>
      obtain ⟨hd, hval, hle⟩ := (parseUint_iff (by omega) hb).1 hpu
      -- by sign, then by ParseInt's own range test: on each of the four branches both sides say `un` against `2 ^ (b - 1)`
      by_cases hm : c = 0x2D <;> simp [hm, hd, hval] <;> split <;> simp <;> omega

end RdfModel.Proofs.C20
