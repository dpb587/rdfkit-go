import RdfModel.Proofs.C09DecWF
import RdfModel.Model.RdfXmlTokens
namespace RdfModel.RXD
open RdfModel RdfModel.Desc RdfModel.RX

theorem depthAfter_append (d : Nat) (a b : List Tok) : depthAfter d (a ++ b) = depthAfter (depthAfter d a) b := by
  simp [depthAfter, List.foldl_append]

/-- no prefix dips below the starting depth -/
def PrefixOK (L : List Tok) : Prop := ∀ d p q, L = p ++ q → d ≤ depthAfter d p
def Bal (L : List Tok) : Prop := ∀ d, depthAfter d L = d

theorem prefixOK_append {A B : List Tok} (hA : PrefixOK A) (bA : Bal A) (hB : PrefixOK B) : PrefixOK (A ++ B) := by
  intro d p q h
  rcases List.append_eq_append_iff.mp h with ⟨a', h1, h2⟩ | ⟨c', h1, h2⟩
  · -- p = A ++ a', B = a' ++ q
    rw [h1, depthAfter_append, bA d]
    exact hB d a' q h2
  · -- A = p ++ c'
    exact hA d p c' h1

theorem bal_append {A B : List Tok} (bA : Bal A) (bB : Bal B) : Bal (A ++ B) := by
  intro d; rw [depthAfter_append, bA, bB]

theorem chars_ok (s : Str) : PrefixOK [.chars s] ∧ Bal [.chars s] := by
  refine ⟨?_, fun d => rfl⟩
  intro d p q h
  rcases List.singleton_eq_append_iff.mp h with ⟨rfl, _⟩ | ⟨rfl, _⟩ <;> simp [depthAfter, tokDepth]

theorem elem_ok {ns name : Str} {attrs : List Attr} {K : List Tok} (hK : PrefixOK K) (bK : Bal K) :
    PrefixOK (.start ns name attrs :: (K ++ [.end_ ns name])) ∧ Bal (.start ns name attrs :: (K ++ [.end_ ns name])) ∧
    (∀ d p q, .start ns name attrs :: (K ++ [.end_ ns name]) = p ++ q → p ≠ [] → q ≠ [] → d + 1 ≤ depthAfter d p) := by
  have hbal : Bal (.start ns name attrs :: (K ++ [.end_ ns name])) := by
    intro d
    show depthAfter (d + 1) (K ++ [.end_ ns name]) = d
    rw [depthAfter_append, bK]
    simp [depthAfter, tokDepth]
  have hin : ∀ d p q, .start ns name attrs :: (K ++ [.end_ ns name]) = p ++ q → p ≠ [] → q ≠ [] → d + 1 ≤ depthAfter d p := by
    intro d p q h hp hq
    cases p with
    | nil => exact absurd rfl hp
    | cons a p' =>
      simp only [List.cons_append, List.cons.injEq] at h
      obtain ⟨rfl, h2⟩ := h
      show d + 1 ≤ depthAfter (d + 1) p'
      rcases List.append_eq_append_iff.mp h2 with ⟨a', h1, h3⟩ | ⟨c', h1, h3⟩
      · -- p' = K ++ a', [end] = a' ++ q, q ≠ [] ⇒ a' = []
        rcases List.singleton_eq_append_iff.mp h3 with ⟨rfl, _⟩ | ⟨_, rfl⟩
        · rw [h1, List.append_nil, bK]
          exact Nat.le_refl _
        · exact absurd rfl hq
      · exact hK (d + 1) p' c' h1
  refine ⟨?_, hbal, hin⟩
  intro d p q h
  by_cases hp : p = []
  · subst hp; simp [depthAfter]
  · by_cases hq : q = []
    · subst hq
      rw [List.append_nil] at h
      rw [← h, hbal]
      exact Nat.le_refl _
    · exact Nat.le_of_succ_le (hin d p q h hp hq)

mutual
theorem tokens_ok : ∀ (n : Node), PrefixOK (tokens n) ∧ Bal (tokens n)
  | .elem ns name attrs kids => by
    obtain ⟨h1, h2⟩ := tokensList_ok kids
    obtain ⟨a, b, _⟩ := elem_ok (ns := ns) (name := name) (attrs := attrs) h1 h2
    simpa [tokens] using And.intro a b
  | .text s => by simpa [tokens] using chars_ok s
  | .raw s => by simpa [tokens] using chars_ok s
theorem tokensList_ok : ∀ (ks : List Node), PrefixOK (tokensList ks) ∧ Bal (tokensList ks)
  | [] => by
    refine ⟨?_, fun d => rfl⟩
    intro d p q h
    obtain ⟨rfl, _⟩ := List.nil_eq_append_iff.mp h
    exact Nat.le_refl d
  | k :: ks => by
    obtain ⟨a1, b1⟩ := tokens_ok k
    obtain ⟨a2, b2⟩ := tokensList_ok ks
    simp only [tokensList]
    exact ⟨prefixOK_append a1 b1 a2, bal_append b1 b2⟩
end

theorem cut_inside_root (ns name : Str) (attrs : List Attr) (kids : List Node) (p q : List Tok)
    (h : tokensDoc (.elem ns name attrs kids) = p ++ q) (hp : p ≠ []) (hq : q ≠ []) : 0 < depthAfter 0 p := by
  obtain ⟨h1, h2⟩ := tokensList_ok kids
  obtain ⟨_, _, hin⟩ := elem_ok (ns := ns) (name := name) (attrs := attrs) h1 h2
  have := hin 0 p q (by simpa [tokensDoc, tokens] using h) hp hq
  omega

end RdfModel.RXD
