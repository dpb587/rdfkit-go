/-
  Proofs.C02TokA (namespace `Proofs.C02Tok`) — what the Turtle/TriG producers do without any table
  fact: the scanner loops never panic; language tags, blank-node labels and the bare numeric and boolean
  tokens (`bareLiteralDatatype`) are read back as they stand.
-/
import RdfModel.Props.C02TokensDefs
import RdfModel.Proofs.Asc
namespace RdfModel.Proofs.C02Tok
open RdfModel RdfModel.Ttl RdfModel.C02

/-! The `*_no_panic` lemmas: a loop that ends in a `*Done` function panics only on an empty accumulator
(Go indexes its last element). Every call pushes before it recurses, so `acc ≠ []` at the entry is the only precondition;
`fun_induction` walks the clauses and `simp_all` carries that inequality through each. -/

theorem scanIRIREF_no_panic (T : Tables) (e : End) (st : SState) (inp acc : List Nat) :
    scanIRIREF T e st inp acc ≠ .panic := by
  fun_induction scanIRIREF T e st inp acc <;> simp_all

theorem scanString_no_panic (T : Tables) (e : End) (delim : Nat) (triple : Bool) (st : SState)
    (inp acc : List Nat) : scanString T e delim triple st inp acc ≠ .panic := by
  fun_induction scanString T e delim triple st inp acc <;> simp_all

theorem pnameNsLoop_no_panic (T : Tables) (e : End) (inp acc : List Nat) :
    pnameNsLoop T e inp acc ≠ .panic := by
  fun_induction pnameNsLoop T e inp acc <;> simp_all

theorem localDone_no_panic (acc : List Nat) (le : Bool) (rest : List Nat) (h : acc ≠ []) :
    localDone acc le rest ≠ .panic := by
  unfold localDone
  split
  · exact absurd rfl h
  · split <;> simp

theorem scanLocal_no_panic (T : Tables) (e : End) (st : LState) (inp acc : List Nat) (le : Bool)
    (h : st = .body → acc ≠ []) : scanLocal T e st inp acc le ≠ .panic := by
  fun_induction scanLocal T e st inp acc le <;> simp_all [localDone_no_panic]

theorem bnDone_no_panic (T : Tables) (acc rest : List Nat) (h : acc ≠ []) : bnDone T acc rest ≠ .panic := by
  unfold bnDone
  split
  · exact absurd rfl h
  · simp only
    split
    · simp
    · split <;> simp

theorem bnLoop_no_panic (T : Tables) (e : End) (inp acc : List Nat) (h : acc ≠ []) :
    bnLoop T e inp acc ≠ .panic := by
  fun_induction bnLoop T e inp acc <;> simp_all [bnDone_no_panic]

theorem langDone_no_panic (acc rest : List Nat) : langDone acc rest ≠ .panic := by
  unfold langDone; split <;> simp

theorem langSecondary_no_panic (e : End) (inp acc : List Nat) : langSecondary e inp acc ≠ .panic := by
  fun_induction langSecondary e inp acc <;> simp_all [langDone_no_panic]

theorem langPrimary_no_panic (e : End) (inp acc : List Nat) : langPrimary e inp acc ≠ .panic := by
  fun_induction langPrimary e inp acc <;> simp_all [langDone_no_panic, langSecondary_no_panic]

theorem numDone_no_panic (acc : List Nat) (k : Option NumKind) (rest : List Nat) (h : acc ≠ []) :
    numDone acc k rest ≠ .panic := by
  unfold numDone
  split
  · exact absurd rfl h
  · split
    · simp
    · split <;> simp

theorem scanNum_no_panic (e : End) (st : NState) (k : Option NumKind) (inp acc : List Nat)
    (h : acc ≠ []) : scanNum e st k inp acc ≠ .panic := by
  fun_induction scanNum e st k inp acc <;> simp_all [numDone_no_panic]

theorem isAlpha_scalar {c : Nat} (h : isAlpha c = true) : IsScalar c := by
  simp [isAlpha, NQ.isAlpha] at h
  unfold IsScalar; omega

theorem isDigit_scalar {c : Nat} (h : isDigit c = true) : IsScalar c := by
  simp [isDigit, NQ.isDigit] at h
  unfold IsScalar; omega

theorem goString_push {x : Nat} (hx : IsScalar x) (acc t : List Nat) :
    goString (x :: acc).reverse ++ t = goString acc.reverse ++ x :: t := by
  simp [goString, runeToStringRune, (isScalarB_iff x).2 hx]

theorem langSecondary_ok (e : End) (rest : List Nat) (hstop : LangStop e rest) (t : List Nat) :
    ∀ (acc : List Nat) (need : Bool), langRest t need = true →
      (need = false → acc.head? ≠ some 0x2d) →
      langSecondary e (t ++ rest) acc = .ok (goString acc.reverse ++ t) rest := by
  induction t with
  | nil =>
    intro acc need h h2
    have hn : need = false := by simpa [langRest] using h
    have := h2 hn
    cases rest with
    | nil =>
      have he : e = .eof := hstop
      subst he
      simp [langSecondary, langDone, this]
    | cons c r =>
      obtain ⟨ha, hd, hc⟩ : isAlpha c = false ∧ isDigit c = false ∧ c ≠ 0x2d := hstop
      simp [langSecondary, langDone, this, ha, hd, hc]
  | cons x t ih =>
    intro acc need h h2
    unfold langRest at h
    simp only [List.cons_append]
    unfold langSecondary
    split at h
    · next hx =>
      rw [if_pos hx]
      have hx' : x ≠ 0x2d := by
        intro hh; subst hh; simp [isAlpha, isDigit, NQ.isAlpha, NQ.isDigit] at hx
      rw [ih (x :: acc) false h (by simp [hx']),
        goString_push ((Bool.or_eq_true _ _ ▸ hx).elim isAlpha_scalar isDigit_scalar)]
    · next hx =>
      rw [if_neg hx]
      split at h
      · next hd =>
        subst hd
        simp only [Bool.and_eq_true, Bool.not_eq_true'] at h
        have := h2 h.1
        simp only [if_true, if_neg this]
        rw [ih (0x2d :: acc) true h.2 (by simp), goString_push (by unfold IsScalar; omega)]
      · simp at h

theorem langPrimary_ok (e : End) (rest : List Nat) (hstop : LangStop e rest) (t : List Nat) :
    ∀ (acc : List Nat) (seen : Bool), langPrim t seen = true →
      (seen = !acc.isEmpty) → (acc.head? ≠ some 0x2d) →
      langPrimary e (t ++ rest) acc = .ok (goString acc.reverse ++ t) rest := by
  induction t with
  | nil =>
    intro acc seen h h1 h2
    have hs : seen = true := by simpa [langPrim] using h
    have hne : acc.isEmpty = false := by simpa [hs] using h1
    cases rest with
    | nil =>
      have he : e = .eof := hstop
      subst he
      simp [langPrimary, langDone, hne, h2]
    | cons c r =>
      obtain ⟨ha, hd, hc⟩ : isAlpha c = false ∧ isDigit c = false ∧ c ≠ 0x2d := hstop
      simp [langPrimary, langDone, hne, h2, ha, hc]
  | cons x t ih =>
    intro acc seen h h1 h2
    unfold langPrim at h
    simp only [List.cons_append]
    unfold langPrimary
    split at h
    · next hx =>
      rw [if_pos hx]
      have hx' : x ≠ 0x2d := by
        intro hh; subst hh; simp [isAlpha, NQ.isAlpha] at hx
      rw [ih (x :: acc) true h (by simp) (by simp [hx']), goString_push (isAlpha_scalar hx)]
    · next hx =>
      rw [if_neg hx]
      split at h
      · next hd =>
        subst hd
        simp only [Bool.and_eq_true] at h
        have : acc.isEmpty = false := by simpa [h.1] using h1
        simp only [if_true, this, Bool.false_eq_true, if_false]
        rw [langSecondary_ok e rest hstop t (0x2d :: acc) true h.2 (by simp),
          goString_push (by unfold IsScalar; omega)]
      · simp at h

theorem bnLoop_ok (T : Tables) (e : End) (rest : List Nat) (hstop : LabelStop T e rest) (xs : List Nat) :
    ∀ acc, (∀ x ∈ xs, (inRanges T.pnChars x || x = 0x2e) = true) →
      bnLoop T e (xs ++ rest) acc = bnDone T (xs.reverse ++ acc) rest := by
  induction xs with
  | nil =>
    intro acc _
    cases rest with
    | nil =>
      have he : e = .eof := hstop
      subst he
      simp [bnLoop]
    | cons c r =>
      obtain ⟨h1, h2⟩ : inRanges T.pnChars c = false ∧ c ≠ 0x2e := hstop
      simp [bnLoop, h1, h2]
  | cons x xs ih =>
    intro acc h
    have hx := h x List.mem_cons_self
    simp only [List.cons_append]
    unfold bnLoop
    rw [if_pos hx, ih _ (fun y hy => h y (List.mem_cons_of_mem _ hy))]
    simp

/-- A label followed by something that cannot continue it, or by the `.` that ends the statement
    and then such a thing: the loop takes the dot and `bnDone` hands it back. -/
theorem bnode_dot (T : Tables) (hT : TablesOK T) (e : End) (l rest : List Nat) (hs : Scalars l)
    (hl : labelOK T l = true) (hstop : LabelStop T e rest) (dot : Bool) :
    produceBlankNode T e (0x5f :: 0x3a :: l ++ ((if dot then [0x2e] else []) ++ rest))
      = .ok l ((if dot then [0x2e] else []) ++ rest) := by
  have hg : goString l = l := goString_id_of_scalar hs
  cases l with
  | nil => simp [labelOK] at hl
  | cons c xs =>
    simp only [labelOK, Bool.and_eq_true, List.all_eq_true] at hl
    obtain ⟨⟨h1, h2⟩, h3⟩ := hl
    have hc : c ≠ 0x2e := by
      intro hh; subst hh
      rw [hT.pnU_dot] at h1
      simp [isDigit, NQ.isDigit] at h1
    simp only [List.cons_append]
    simp only [produceBlankNode, ne_eq, not_true_eq_false, if_false]
    rw [if_pos h1, ← List.append_assoc, bnLoop_ok T e rest hstop _ [c] (by
      intro x hx
      rcases List.mem_append.1 hx with hx | hx
      · exact h2 x hx
      · cases dot <;> simp at hx
        subst hx; simp)]
    rcases List.eq_nil_or_concat xs with rfl | ⟨init, z, rfl⟩
    · cases dot <;> simp [bnDone, hc] <;> simpa using hg
    · have hz : inRanges T.pnChars z = true := by simpa using h3
      have hz' : z ≠ 0x2e := by
        intro hh; subst hh; rw [hT.pn_dot] at hz; exact Bool.noConfusion hz
      cases dot <;> simp [bnDone, hz, hz'] <;> simpa using hg

@[simp] def Sign (sg : List Nat) : Prop := sg = [] ∨ sg = [0x2b] ∨ sg = [0x2d]

@[simp] def Digits (ds : List Nat) : Prop := ∀ d ∈ ds, isDigit d = true

theorem spanDigits_spec (l : List Nat) :
    ∃ ds, l = ds ++ (spanDigits l).2 ∧ ds.length = (spanDigits l).1 ∧ Digits ds ∧
      (∀ c r, (spanDigits l).2 = c :: r → isDigit c = false) := by
  induction l with
  | nil => exact ⟨[], by simp [spanDigits]⟩
  | cons c rest ih =>
    obtain ⟨ds, h1, h2, h3, h4⟩ := ih
    unfold spanDigits
    by_cases hc : isDigit c = true
    · rw [if_pos hc]
      refine ⟨c :: ds, ?_, ?_, ?_, ?_⟩
      · simp only [List.cons_append]; rw [← h1]
      · simp [h2]
      · intro d hd
        rcases List.mem_cons.1 hd with rfl | hd
        · exact hc
        · exact h3 d hd
      · exact h4
    · rw [if_neg hc]
      refine ⟨[], by simp, by simp, by simp, ?_⟩
      intro c' r' h
      simp only [List.cons.injEq] at h
      rw [← h.1]; simpa using hc

theorem dropSign_spec (l : List Nat) :
    ∃ sg, l = sg ++ dropSign l ∧ Sign sg := by
  cases l with
  | nil => exact ⟨[], by simp [dropSign]⟩
  | cons c rest =>
    simp only [dropSign]
    by_cases h : c = 0x2b ∨ c = 0x2d
    · rw [if_pos h]
      rcases h with rfl | rfl
      · exact ⟨[0x2b], by simp⟩
      · exact ⟨[0x2d], by simp⟩
    · rw [if_neg h]
      exact ⟨[], by simp⟩

theorem scanNum_digits (e : End) (st : NState) (hst : st ≠ .exp0) (k : Option NumKind)
    (ds tail : List Nat) (hd : Digits ds) :
    ∀ acc, scanNum e st k (ds ++ tail) acc = scanNum e st k tail (ds.reverse ++ acc) := by
  induction ds with
  | nil => intro acc; rfl
  | cons d ds ih =>
    intro acc
    have h1 := hd d List.mem_cons_self
    have h2 := ih (fun x hx => hd x (List.mem_cons_of_mem _ hx))
    cases st with
    | exp0 => exact absurd rfl hst
    | sign => simp [scanNum, h1, h2]
    | int => simp [scanNum, h1, h2]
    | exp => simp [scanNum, h1, h2]

def GoodAcc (acc : List Nat) : Prop := ∃ l more, acc = l :: more ∧ isDigit l = true

theorem goodAcc_digits (ds acc : List Nat) (hd : Digits ds) (hne : ds ≠ []) :
    GoodAcc (ds.reverse ++ acc) := by
  rcases List.eq_nil_or_concat ds with rfl | ⟨init, z, rfl⟩
  · exact absurd rfl hne
  · exact ⟨z, init.reverse ++ acc, by simp, hd z (by simp)⟩

theorem numDone_good (acc : List Nat) (k : Option NumKind) (rest : List Nat) (h : GoodAcc acc) :
    numDone acc k rest = .ok (k.getD .integer, goString acc.reverse) rest := by
  obtain ⟨l, more, rfl, hl⟩ := h
  simp [isDigit, NQ.isDigit] at hl
  have h1 : l ≠ 0x2e := by omega
  have h2 : ¬ (l = 0x2d ∨ l = 0x2b ∨ l = 0x65 ∨ l = 0x45) := by omega
  simp only [numDone, if_neg h1, if_neg h2]

theorem numStop_tail {e : End} {c : Nat} {r : List Nat} (h : NumStop e (c :: r)) :
    isDigit c = false ∧ c ≠ 0x65 ∧ c ≠ 0x45 := by
  rcases h with h | ⟨rfl, _⟩
  · simp [numStopRune] at h
    exact ⟨h.1.1.1, h.1.2, h.2⟩
  · decide

theorem scanNum_stop (e : End) (st : NState) (hst : st = .int ∨ st = .exp) (k : Option NumKind)
    (rest acc : List Nat) (hstop : NumStop e rest) (hacc : GoodAcc acc) :
    scanNum e st k rest acc = .ok (k.getD .integer, goString acc.reverse) rest := by
  cases rest with
  | nil =>
    have he : e = .eof := hstop
    subst he
    rcases hst with rfl | rfl <;> simp [scanNum, numDone_good _ _ _ hacc]
  | cons c r =>
    obtain ⟨h1, h2, h3⟩ := numStop_tail hstop
    rcases hst with rfl | rfl <;> simp [scanNum, numDone_good _ _ _ hacc, h1, h2, h3]

theorem scanNum_stop_sign (e : End) (rest acc : List Nat) (hstop : NumStop e rest) (hacc : GoodAcc acc) :
    scanNum e .sign none rest acc = .ok (.integer, goString acc.reverse) rest := by
  cases rest with
  | nil =>
    have he : e = .eof := hstop
    subst he
    simp [scanNum, numDone_good _ _ _ hacc]
  | cons c r =>
    rcases hstop with h | ⟨rfl, h⟩
    · simp [numStopRune] at h
      obtain ⟨⟨⟨h1, h2⟩, h3⟩, h4⟩ := h
      simp [scanNum, numDone_good _ _ _ hacc, h1, h2, h3, h4]
    · have h0 : isDigit 0x2e = false := by decide
      simp only [scanNum, h0]
      simp only [Bool.false_eq_true, if_false, if_true]
      cases r with
      | nil =>
        have he : e = .eof := h
        subst he
        simp [scanNum, numDone]
      | cons d r' =>
        simp at h
        obtain ⟨⟨h1, h2⟩, h3⟩ := h
        simp [scanNum, numDone, h1, h2, h3]

theorem sign_not_digit {sg : List Nat} (h : sg = [] ∨ sg = [0x2b] ∨ sg = [0x2d]) :
    ∀ c ∈ sg, c = 0x2b ∨ c = 0x2d := by
  rcases h with rfl | rfl | rfl <;> simp

theorem scanNum_exp (e : End) (st : NState) (hst : st = .sign ∨ st = .int) (k : Option NumKind)
    (c : Nat) (hc : c = 0x65 ∨ c = 0x45) (sg3 : List Nat) (hsg3 : Sign sg3)
    (ds3 : List Nat) (hd3 : Digits ds3) (hne : ds3 ≠ [])
    (rest : List Nat) (hstop : NumStop e rest) (acc : List Nat) :
    scanNum e st k (c :: (sg3 ++ (ds3 ++ rest))) acc =
      .ok (.double, goString ((ds3.reverse ++ (sg3.reverse ++ c :: acc)).reverse)) rest := by
  have hcd : isDigit c = false := by rcases hc with rfl | rfl <;> decide
  have hc' : c ≠ 0x2e := by rcases hc with rfl | rfl <;> decide
  have step1 : scanNum e st k (c :: (sg3 ++ (ds3 ++ rest))) acc =
      scanNum e .exp0 (some .double) (sg3 ++ (ds3 ++ rest)) (c :: acc) := by
    rcases hst with rfl | rfl <;> simp [scanNum, hcd, hc', hc]
  rw [step1]
  have step2 : scanNum e .exp0 (some .double) (sg3 ++ (ds3 ++ rest)) (c :: acc) =
      scanNum e .exp (some .double) rest (ds3.reverse ++ (sg3.reverse ++ c :: acc)) := by
    rcases hsg3 with rfl | rfl | rfl
    · cases ds3 with
      | nil => exact absurd rfl hne
      | cons d ds =>
        have h1 := hd3 d List.mem_cons_self
        simp only [List.nil_append, List.cons_append, scanNum, h1, or_true, if_true]
        rw [scanNum_digits e .exp (by decide) _ ds rest (fun x hx => hd3 x (List.mem_cons_of_mem _ hx))]
        simp
    · simp only [List.cons_append, List.nil_append, scanNum]
      simp only [true_or, or_true, if_true]
      rw [scanNum_digits e .exp (by decide) _ ds3 rest hd3]
      simp
    · simp only [List.cons_append, List.nil_append, scanNum]
      simp only [true_or, if_true]
      rw [scanNum_digits e .exp (by decide) _ ds3 rest hd3]
      simp
  rw [step2, scanNum_stop e .exp (Or.inr rfl) _ rest _ hstop (goodAcc_digits _ _ hd3 hne)]
  rfl

theorem produce_start (e : End) (sg : List Nat) (hsg : Sign sg)
    (ds1 : List Nat) (hd1 : Digits ds1) (hne : sg ++ ds1 ≠ []) (t : List Nat) :
    produceNumericLiteral e (sg ++ (ds1 ++ t)) = scanNum e .sign none t (ds1.reverse ++ sg.reverse) := by
  rcases hsg with rfl | rfl | rfl
  · cases ds1 with
    | nil => exact absurd rfl hne
    | cons d ds =>
      have h1 := hd1 d List.mem_cons_self
      simp only [List.nil_append, List.cons_append, produceNumericLiteral, h1, or_true, if_true]
      rw [scanNum_digits e .sign (by decide) _ ds t (fun x hx => hd1 x (List.mem_cons_of_mem _ hx))]
      simp
  · simp only [List.cons_append, List.nil_append, produceNumericLiteral]
    simp only [true_or, or_true, if_true]
    rw [scanNum_digits e .sign (by decide) _ ds1 t hd1]
    simp
  · simp only [List.cons_append, List.nil_append, produceNumericLiteral]
    simp only [true_or, if_true]
    rw [scanNum_digits e .sign (by decide) _ ds1 t hd1]
    simp

theorem produce_start_dot (e : End) (sg : List Nat) (hsg : Sign sg)
    (ds1 : List Nat) (hd1 : Digits ds1) (t : List Nat) :
    produceNumericLiteral e (sg ++ (ds1 ++ 0x2e :: t)) =
      scanNum e .int (some .decimal) t (0x2e :: (ds1.reverse ++ sg.reverse)) := by
  by_cases hne : sg ++ ds1 = []
  · simp only [List.append_eq_nil_iff] at hne
    obtain ⟨rfl, rfl⟩ := hne
    simp [produceNumericLiteral, isDigit, NQ.isDigit]
  · rw [produce_start e sg hsg ds1 hd1 hne]
    simp [scanNum, isDigit, NQ.isDigit]

theorem exp_shape (r : List Nat) (h1 : (spanDigits (dropSign r)).snd = [])
    (h2 : (spanDigits (dropSign r)).fst > 0) :
    ∃ sg3 ds3, r = sg3 ++ ds3 ∧ Sign sg3 ∧
      Digits ds3 ∧ ds3 ≠ [] := by
  obtain ⟨sg3, hsg3, hsg3'⟩ := dropSign_spec r
  obtain ⟨ds3, hds3, hn3, hd3, _⟩ := spanDigits_spec (dropSign r)
  rw [h1, List.append_nil] at hds3
  refine ⟨sg3, ds3, by rw [← hds3]; exact hsg3, hsg3', hd3, ?_⟩
  intro h0; subst h0; simp at hn3; omega

/-- The numeric tokens of the grammar with their datatypes, as `bareLiteralDatatype` tells them
    apart: INTEGER `[+-]?[0-9]+`, DECIMAL `[+-]?[0-9]*\.[0-9]+`, DOUBLE with a `.` (digits on at least
    one side of it) or without. `sg` is a sign or nothing, `ds…` are digit strings, `c` is `e`/`E`. -/
inductive NumShape : List Nat → List Nat → Prop
  | integer {sg ds : List Nat} : Sign sg → Digits ds →
      ds ≠ [] → NumShape (sg ++ ds) xsdInteger
  | decimal {sg ds1 ds2 : List Nat} : Sign sg →
      Digits ds1 → Digits ds2 → ds2 ≠ [] →
      NumShape (sg ++ (ds1 ++ 0x2e :: ds2)) xsdDecimal
  | doubleDot {sg ds1 ds2 : List Nat} {c : Nat} {sg3 ds3 : List Nat} :
      Sign sg → Digits ds1 →
      Digits ds2 → (ds1 ≠ [] ∨ ds2 ≠ []) → (c = 0x65 ∨ c = 0x45) →
      Sign sg3 → Digits ds3 → ds3 ≠ [] →
      NumShape (sg ++ (ds1 ++ 0x2e :: (ds2 ++ c :: (sg3 ++ ds3)))) xsdDouble
  | double {sg ds1 : List Nat} {c : Nat} {sg3 ds3 : List Nat} :
      Sign sg → Digits ds1 → ds1 ≠ [] →
      (c = 0x65 ∨ c = 0x45) → Sign sg3 →
      Digits ds3 → ds3 ≠ [] →
      NumShape (sg ++ (ds1 ++ c :: (sg3 ++ ds3))) xsdDouble

theorem NumShape.scalars {lex dt : List Nat} (h : NumShape lex dt) : Scalars lex := by
  have app : ∀ {a b : List Nat}, Scalars a → Scalars b → Scalars (a ++ b) :=
    fun ha hb => List.forall_mem_append.2 ⟨ha, hb⟩
  have cons : ∀ {c : Nat} {l : List Nat}, c < 0x80 → Scalars l → Scalars (c :: l) :=
    fun hc hl => List.forall_mem_cons.2 ⟨by unfold IsScalar; omega, hl⟩
  have hd : ∀ {ds : List Nat}, Digits ds → Scalars ds := fun hd c hc => isDigit_scalar (hd c hc)
  have hs : ∀ {sg : List Nat}, Sign sg → Scalars sg := by
    intro sg h
    rcases h with rfl | rfl | rfl
    · exact fun _ hc => nomatch hc
    · exact cons (by decide) fun _ hc => nomatch hc
    · exact cons (by decide) fun _ hc => nomatch hc
  have he : ∀ {c : Nat}, c = 0x65 ∨ c = 0x45 → c < 0x80 := by
    intro c h; rcases h with rfl | rfl <;> decide
  cases h with
  | integer hsg hds _ => exact app (hs hsg) (hd hds)
  | decimal hsg h1 h2 _ => exact app (hs hsg) (app (hd h1) (cons (by decide) (hd h2)))
  | doubleDot hsg h1 h2 _ hc hsg3 h3 _ =>
    exact app (hs hsg) (app (hd h1) (cons (by decide) (app (hd h2) (cons (he hc) (app (hs hsg3) (hd h3))))))
  | double hsg h1 _ hc hsg3 h3 _ =>
    exact app (hs hsg) (app (hd h1) (cons (he hc) (app (hs hsg3) (hd h3))))

theorem length_pos_ne {ds : List Nat} {n : Nat} (hn : ds.length = n) (h : n > 0) : ds ≠ [] := by
  intro h0; subst h0; simp at hn; omega

theorem bare_shape (lex dt : List Nat) (h : bareLiteralDatatype lex = some dt)
    (hn : ¬(lex = asc "true" ∨ lex = asc "false")) : NumShape lex dt := by
  unfold bareLiteralDatatype at h
  rw [if_neg hn] at h
  obtain ⟨sg, hsg, hsg'⟩ := dropSign_spec lex
  obtain ⟨ds1, hds1, hn1, hd1, -⟩ := spanDigits_spec (dropSign lex)
  generalize spanDigits (dropSign lex) = p at *
  obtain ⟨nInt, r1⟩ := p
  simp only at h hds1 hn1
  rw [hds1] at hsg
  cases r1 with
  | nil =>
    simp only [Bool.not_false, Bool.true_and, Bool.false_and, Bool.false_eq_true, if_false] at h
    split at h
    · next hpos =>
      obtain rfl : xsdInteger = dt := by simpa using h
      rw [hsg, List.append_nil]
      exact .integer hsg' hd1 (length_pos_ne hn1 (by simpa using hpos))
    · simp at h
  | cons c r =>
    by_cases hc : c = 0x2e
    · subst hc
      obtain ⟨ds2, hds2, hn2, hd2, -⟩ := spanDigits_spec r
      simp only [if_true] at h
      generalize spanDigits r = p2 at *
      obtain ⟨nFrac, r2⟩ := p2
      simp only at h hds2 hn2
      rw [hds2] at hsg
      cases r2 with
      | nil =>
        simp only [Bool.not_true, Bool.false_and, Bool.false_eq_true, if_false, Bool.true_and] at h
        split at h
        · next hpos =>
          obtain rfl : xsdDecimal = dt := by simpa using h
          rw [hsg, List.append_nil]
          exact .decimal hsg' hd1 hd2 (length_pos_ne hn2 (by simpa using hpos))
        · simp at h
      | cons c r' =>
        simp only at h
        split at h
        · next hce =>
          split at h
          · next hcond =>
            obtain rfl : xsdDouble = dt := by simpa using h
            obtain ⟨sg3, ds3, rfl, hsg3, hd3, hne3⟩ := exp_shape r' hcond.1 hcond.2.1
            rw [hsg]
            exact .doubleDot hsg' hd1 hd2
              (hcond.2.2.imp (length_pos_ne hn1) (length_pos_ne hn2)) hce hsg3 hd3 hne3
          · simp at h
        · simp at h
    · simp only [if_neg hc] at h
      split at h
      · next hce =>
        split at h
        · next hcond =>
          obtain rfl : xsdDouble = dt := by simpa using h
          obtain ⟨sg3, ds3, rfl, hsg3, hd3, hne3⟩ := exp_shape r hcond.1 hcond.2.1
          rw [hsg]
          exact .double hsg' hd1 (length_pos_ne hn1 (by simpa using hcond.2.2)) hce hsg3 hd3 hne3
        · simp at h
      · simp at h

theorem spanDigits_pos {l : List Nat} (h : (spanDigits l).1 > 0) : ∃ d t, l = d :: t ∧ isDigit d = true := by
  cases l with
  | nil => simp [spanDigits] at h
  | cons d t =>
    by_cases hd : isDigit d = true
    · exact ⟨d, t, rfl, hd⟩
    · simp [spanDigits, hd] at h

/-- The first step of the recogniser: a numeric token starts with a sign, a digit, or `.` followed by a
    digit (with any other first rune the integer part is empty, and every exit then asks for the `.`
    and a non-empty fraction). -/
theorem bare_head (lex dt : List Nat) (h : bareLiteralDatatype lex = some dt)
    (hn : ¬(lex = asc "true" ∨ lex = asc "false")) :
    ∃ c lt, lex = c :: lt ∧
      ((c = 0x2b ∨ c = 0x2d ∨ isDigit c = true) ∨ (c = 0x2e ∧ ∃ d lt', lt = d :: lt' ∧ isDigit d = true)) := by
  cases lex with
  | nil => rw [bareLiteralDatatype, if_neg hn] at h; simp [dropSign, spanDigits] at h
  | cons c lt =>
    refine ⟨c, lt, rfl, ?_⟩
    by_cases hs : c = 0x2b ∨ c = 0x2d
    · exact Or.inl (hs.elim Or.inl fun h => Or.inr (Or.inl h))
    by_cases hd : isDigit c = true
    · exact Or.inl (Or.inr (Or.inr hd))
    right
    simp only [bareLiteralDatatype, if_neg hn, dropSign, if_neg hs, spanDigits, hd, Bool.false_eq_true,
      if_false] at h
    by_cases hc : c = 0x2e
    · refine ⟨hc, spanDigits_pos ?_⟩
      simp only [hc, if_true] at h
      split at h
      · simpa using Option.isSome_iff_exists.2 ⟨_, h⟩
      · -- `omega` before `cases h`: `cases` on `some xsdDouble = some dt` decodes the `asc` literal
        (repeat' split at h)
        all_goals first | omega | cases h
    · simp [hc] at h

theorem not_bool_of_dt {lex dt : List Nat} (h : bareLiteralDatatype lex = some dt) (hdt : dt ≠ xsdBoolean) :
    ¬(lex = asc "true" ∨ lex = asc "false") := by
  intro hn
  simp only [bareLiteralDatatype, if_pos hn, Option.some.injEq] at h
  exact hdt h.symm

theorem numeric_shorthand (e : End) (lex dt : List Nat) (rest : List Nat)
    (h : bareLiteralDatatype lex = some dt) (hdt : dt ≠ xsdBoolean) (hstop : NumStop e rest) :
    ∃ k : NumKind, k.datatype = dt ∧ produceNumericLiteral e (lex ++ rest) = .ok (k, lex) rest := by
  have hsh := bare_shape lex dt h (not_bool_of_dt h hdt)
  have hg := goString_id_of_scalar hsh.scalars
  cases hsh with
  | @integer sg ds hsg hd hne =>
    refine ⟨.integer, rfl, ?_⟩
    rw [List.append_assoc, produce_start e sg hsg ds hd (by simp [hne]),
      scanNum_stop_sign e rest _ hstop (goodAcc_digits _ _ hd hne)]
    simpa using hg
  | @decimal sg ds1 ds2 hsg hd1 hd2 hne =>
    refine ⟨.decimal, rfl, ?_⟩
    simp only [List.append_assoc, List.cons_append]
    rw [produce_start_dot e sg hsg ds1 hd1, scanNum_digits e .int (by decide) _ ds2 rest hd2,
      scanNum_stop e .int (Or.inl rfl) _ rest _ hstop (goodAcc_digits _ _ hd2 hne)]
    simpa using hg
  | @doubleDot sg ds1 ds2 c sg3 ds3 hsg hd1 hd2 _ hce hsg3 hd3 hne3 =>
    refine ⟨.double, rfl, ?_⟩
    simp only [List.append_assoc, List.cons_append]
    rw [produce_start_dot e sg hsg ds1 hd1, scanNum_digits e .int (by decide) _ ds2 _ hd2,
      scanNum_exp e .int (Or.inr rfl) _ c hce sg3 hsg3 ds3 hd3 hne3 rest hstop]
    simpa using hg
  | @double sg ds1 c sg3 ds3 hsg hd1 hne1 hce hsg3 hd3 hne3 =>
    refine ⟨.double, rfl, ?_⟩
    simp only [List.append_assoc, List.cons_append]
    rw [produce_start e sg hsg ds1 hd1 (by simp [hne1]),
      scanNum_exp e .sign (Or.inl rfl) _ c hce sg3 hsg3 ds3 hd3 hne3 rest hstop]
    simpa using hg

-- four or five ASCII runes: decoding the literal is cheap here (cf. Proofs/Asc.lean)
theorem asc_true : asc "true" = [0x74, 0x72, 0x75, 0x65] := by decide
theorem asc_false : asc "false" = [0x66, 0x61, 0x6c, 0x73, 0x65] := by decide
theorem asc_rue : asc "rue" = [0x72, 0x75, 0x65] := by decide
theorem asc_alse : asc "alse" = [0x61, 0x6c, 0x73, 0x65] := by decide

theorem bare_dt (lex dt : List Nat) (h : bareLiteralDatatype lex = some dt)
    (hn : ¬(lex = asc "true" ∨ lex = asc "false")) :
    dt = xsdInteger ∨ dt = xsdDecimal ∨ dt = xsdDouble := by
  cases bare_shape lex dt h hn with
  | integer => exact Or.inl rfl
  | decimal => exact Or.inr (Or.inl rfl)
  | doubleDot => exact Or.inr (Or.inr rfl)
  | double => exact Or.inr (Or.inr rfl)

theorem scanBoolean_true (e : End) (rest : List Nat) :
    scanBoolean e (asc "true" ++ rest) = .bool true rest := by
  rw [asc_true]
  simp [scanBoolean, asc_rue, matchKeyword]

theorem scanBoolean_false (e : End) (rest : List Nat) :
    scanBoolean e (asc "false" ++ rest) = .bool false rest := by
  rw [asc_false]
  simp [scanBoolean, asc_alse, matchKeyword]

theorem boolean_shorthand (e : End) (lex : List Nat) (rest : List Nat)
    (h : bareLiteralDatatype lex = some xsdBoolean) :
    (lex = asc "true" ∧ scanBoolean e (lex ++ rest) = .bool true rest) ∨
    (lex = asc "false" ∧ scanBoolean e (lex ++ rest) = .bool false rest) := by
  by_cases hn : lex = asc "true" ∨ lex = asc "false"
  · rcases hn with rfl | rfl
    · exact Or.inl ⟨rfl, scanBoolean_true e rest⟩
    · exact Or.inr ⟨rfl, scanBoolean_false e rest⟩
  · rcases bare_dt lex _ h hn with h | h | h
    · exact absurd h (asc_ne (by decide))
    · exact absurd h (asc_ne (by decide))
    · exact absurd h (asc_ne (by decide))

end RdfModel.Proofs.C02Tok
