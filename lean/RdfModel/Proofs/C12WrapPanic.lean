/-
  The two slice expressions that could go out of range: `host[openBracketIdx+1 : closeBracketIdx]` in net/url's
  parseHost and `resolved[1:]` in ParsedIRI.ResolveReference.
-/
import RdfModel.Proofs.C12WrapBasic
import RdfModel.Proofs.Ite
namespace RdfModel.C12W
open RdfModel.GoUrlFull RdfModel.PIRI

theorem resolvePath_ne_nil (base : Str) (h : base ≠ []) : RdfModel.IRI.resolvePath base [] ≠ [] := fun e => by
  have := resolvePath_head_of_ne (base := base) (ref := []) (by simpa [RdfModel.IRI.fullPath] using h)
  rw [e] at this
  cases this

theorem resolveRel_no_panic (url : URL) (uPath refuPath : Str) (ff : Bool) : resolveRel url uPath refuPath ff ≠ .panic := by
  unfold resolveRel
  refine ite_ne ?_ nofun
  by_cases hne : (!refuPath.isEmpty) = true
  · rw [if_pos hne]
    refine ite_ne ?_ nofun
    have := resolvePath_ne_nil refuPath (fun e => by simp [e] at hne)
    split
    · contradiction
    · nofun
  · rw [if_neg hne]
    nofun

theorem resolveReference_no_panic (b r : ParsedIRI) : b.resolveReference r ≠ .panic :=
  ite_ne nofun (ite_ne nofun (ite_ne nofun (ite_ne nofun (resolveRel_no_panic _ _ _ _))))

theorem lastIndexOf_getElem (c : Nat) (l : Str) (i : Nat) (h : lastIndexOf c l = some i) : l[i]? = some c := by
  fun_induction lastIndexOf c l generalizing i <;> simp_all <;> (subst h; simp_all)

theorem lastIndexOf_lt (c : Nat) : ∀ (l : Str) (i : Nat), lastIndexOf c l = some i → i < l.length :=
  fun l i h => (List.getElem?_eq_some_iff.mp (lastIndexOf_getElem c l i h)).1

theorem lastIndexOf_drop (c : Nat) (l : Str) (i : Nat) (h : lastIndexOf c l = some i) : c ∈ l.drop i := by
  obtain ⟨hi, e⟩ := List.getElem?_eq_some_iff.mp (lastIndexOf_getElem c l i h)
  rw [List.drop_eq_getElem_cons hi, e]
  exact List.mem_cons_self

theorem validOptionalPort_mem {l : Str} (h : validOptionalPort l = true) : ∀ x ∈ l, x = 0x3a ∨ isDigitC x = true := by
  cases l with
  | nil => simp
  | cons c t =>
    simp only [validOptionalPort, Bool.and_eq_true, beq_iff_eq] at h
    intro x hx
    rcases List.mem_cons.mp hx with e | e
    · exact Or.inl (e ▸ h.1)
    · exact Or.inr (List.all_eq_true.mp h.2 x e)

theorem bracket_order (host : Str) (ob cb : Nat) (ho : lastIndexOf 0x5b host = some ob)
    (hc : lastIndexOf 0x5d host = some cb) (hp : validOptionalPort (host.drop (cb + 1)) = true) : ¬ cb < ob + 1 := by
  intro hlt
  have h1 := lastIndexOf_getElem _ _ _ ho
  have h2 := lastIndexOf_getElem _ _ _ hc
  have hne : cb ≠ ob := by
    intro e; subst e; rw [h1] at h2; cases h2
  have hlt' : cb + 1 ≤ ob := by omega
  have hm : 0x5b ∈ host.drop (cb + 1) := by
    have := lastIndexOf_drop _ _ _ ho
    have e : host.drop ob = (host.drop (cb + 1)).drop (ob - (cb + 1)) := by
      rw [List.drop_drop]; congr 1; omega
    rw [e] at this
    exact List.mem_of_mem_drop this
  rcases validOptionalPort_mem hp _ hm with h | h
  · cases h
  · revert h; decide

theorem unescape_no_panic (mode : Mode) (s : Str) : unescape mode s ≠ .error .panic :=
  fun h => by rcases unescape_error h with e | e <;> cases e

theorem parseHost_no_panic (host : Str) : parseHost host ≠ .error .panic := by
  unfold parseHost
  split
  · rename_i ob ho
    split
    · simp
    · rename_i cb hc
      dsimp only
      split
      · simp
      · rename_i hp
        split
        · intro h; cases h; exact unescape_no_panic _ _ (by assumption)
        · split
          · rename_i hlt
            exact absurd hlt (bracket_order host ob cb ho hc (by simpa using hp))
          · split
            · simp
            · split
              · intro h; cases h; exact unescape_no_panic _ _ (by assumption)
              · split <;> simp
  · dsimp only
    split
    · split
      · simp
      · exact unescape_no_panic _ _
    · split
      · simp
      · exact unescape_no_panic _ _

theorem parseAuthority_no_panic (a : Str) : parseAuthority a ≠ .error .panic := by
  unfold parseAuthority
  split
  · split
    · intro h; cases h; exact parseHost_no_panic _ (by assumption)
    · simp
  · split
    · intro h; cases h; exact parseHost_no_panic _ (by assumption)
    · dsimp only
      split
      · simp
      · split
        · split
          · intro h; cases h; exact unescape_no_panic _ _ (by assumption)
          · simp
        · split
          · intro h; cases h; exact unescape_no_panic _ _ (by assumption)
          · split
            · intro h; cases h; exact unescape_no_panic _ _ (by assumption)
            · simp

theorem setPath_no_panic (u : URL) (p : Str) : setPath u p ≠ .error .panic := by
  unfold setPath
  split
  · rename_i e he; intro h; cases h; exact unescape_no_panic _ _ he
  · simp

theorem setFragment_no_panic (u : URL) (p : Str) : setFragment u p ≠ .error .panic := by
  unfold setFragment
  split
  · rename_i e he; intro h; cases h; exact unescape_no_panic _ _ he
  · simp

theorem parseRest_no_panic (scheme rest0 : Str) : parseRest scheme rest0 ≠ .error .panic := by
  unfold parseRest
  simp only
  split
  · simp
  · split
    · simp
    · split
      · split
        · rename_i e he; intro h; cases h; exact parseAuthority_no_panic _ he
        · exact setPath_no_panic _ _
      · exact setPath_no_panic _ _

theorem parseNoFrag_no_panic (raw : Str) : parseNoFrag raw ≠ .error .panic := by
  unfold parseNoFrag
  split
  · simp
  · split
    · simp
    · split
      · simp
      · exact parseRest_no_panic _ _

theorem parse_no_panic (raw : Str) : parse raw ≠ .error .panic := by
  unfold parse
  simp only
  split
  · rename_i e he; intro h; cases h; exact parseNoFrag_no_panic _ he
  · split
    · simp
    · split
      · simp
      · exact setFragment_no_panic _ _

theorem parseIRI_no_panic (s : Str) : parseIRI s ≠ .error .panic := by
  unfold parseIRI
  split
  · rename_i e he; intro h; cases h; exact parse_no_panic _ he
  · simp

end RdfModel.C12W
