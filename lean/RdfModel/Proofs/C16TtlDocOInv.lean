import RdfModel.Props.C16TtlDocODefs
import RdfModel.Proofs.C16TtlScan
namespace RdfModel.Proofs.C16TtlDocO
open RdfModel RdfModel.TW RdfModel.NQO RdfModel.TtlDoc RdfModel.TtlDocO RdfModel.C16TtlDocO RdfModel.Proofs.C16Ttl
open RdfModel.Proofs.C16
-- `RdfModel.C16` is not opened as a whole: its `Disc` (the N-Quads invariant) would clash with `C16TtlDocO.Disc`.
open RdfModel.C16 (EOff.bound)

@[simp] theorem on_read (s : S) (c : RP) : On (s.read c) ↔ On s := Iff.rfl
@[simp] theorem on_readL (s : S) (l : List RP) : On (readL s l) ↔ On s := Iff.rfl
@[simp] theorem on_commit (s : S) (ch : Chunk) : On (s.commit ch) ↔ On s := by
  unfold On S.commit; cases s.doc <;> simp
@[simp] theorem txt_read (s : S) (c : RP) : txt (s.read c) = txt s := rfl
@[simp] theorem txt_readL (s : S) (l : List RP) : txt (readL s l) = txt s := rfl
theorem txt_commit {s : S} (h : On s) (ch : Chunk) : txt (s.commit ch) = txt s ++ ch := by
  unfold On at h; unfold txt S.commit
  cases hd : s.doc with
  | none => simp [hd] at h
  | some d => simp [histRunes]
@[simp] theorem range_read (s : S) (c : RP) (ch : Chunk) : (s.read c).range ch = s.range ch := rfl
@[simp] theorem range_readL (s : S) (l : List RP) (ch : Chunk) : (readL s l).range ch = s.range ch := rfl
@[simp] theorem commit_read (s : S) (c : RP) (ch : Chunk) : (s.read c).commit ch = (s.commit ch).read c := rfl
theorem commit_readL (s : S) (l : List RP) (ch : Chunk) : (readL s l).commit ch = readL (s.commit ch) l := rfl

theorem rgIn_none (D : List RP) : RgIn D none := by intro r h; cases h

theorem rgIn_mono {D D' : List RP} {rg : Rg} (h : RgIn D rg) (hp : D <+: D') : RgIn D' rg := by
  intro r hr; exact ⟨(h r hr).1, (h r hr).2.trans hp⟩

theorem rgIn_app {D : List RP} {rg : Rg} (h : RgIn D rg) (X : List RP) : RgIn (D ++ X) rg :=
  rgIn_mono h (List.prefix_append D X)

theorem rgIn_range (s : S) (ch X : Chunk) : RgIn (txt s ++ ch ++ X) (s.range ch) := by
  intro r hr
  unfold S.range at hr
  cases hd : s.doc with
  | none => simp [hd] at hr
  | some d =>
    simp only [hd, Option.map_some, Option.some.injEq] at hr
    subst hr
    simp only [txt, hd, histRunes]
    exact ⟨List.prefix_append _ _, by simp [List.append_assoc]⟩

theorem rgIn_range_cons (s : S) (c : RP) (X : Chunk) : RgIn (txt s ++ c :: X) (s.range [c]) := by
  have := rgIn_range s [c] X; simpa using this

theorem rgIn_range0 (s : S) (ch : Chunk) : RgIn (txt s ++ ch) (s.range ch) := by
  have := rgIn_range s ch []; simpa using this

/-- `From: blankNodeRange.From, Until: closeOffsets.Until` with a fresh closing range -/
theorem rgIn_span_fresh {s : S} {a : Rg} (h : RgIn (txt s) a) (ch : Chunk) :
    RgIn (txt s ++ ch) (NQO.span a (s.range ch)) := by
  intro r hr
  cases a with
  | none => simp [NQO.span] at hr
  | some ar =>
    unfold S.range at hr
    cases hd : s.doc with
    | none => simp [hd, NQO.span] at hr
    | some d =>
      simp only [hd, Option.map_some, NQO.span, Option.some.injEq] at hr
      subst hr
      have ha := h ar rfl
      simp only [txt, hd] at ha ⊢
      simp only [histRunes]
      exact ⟨(ha.1.trans ha.2).trans (List.prefix_append _ _), List.prefix_refl _⟩

theorem ctxIn_app {D : List RP} {x : EctxO} (h : CtxIn D x) (X : List RP) : CtxIn (D ++ X) x :=
  ⟨rgIn_app h.1 X, rgIn_app h.2.1 X, rgIn_app h.2.2 X⟩

theorem ctxIn_mono {D D' : List RP} {x : EctxO} (h : CtxIn D x) (hp : D <+: D') : CtxIn D' x :=
  ⟨rgIn_mono h.1 hp, rgIn_mono h.2.1 hp, rgIn_mono h.2.2 hp⟩

theorem ctxIn_withSubj {D : List RP} {x : EctxO} (h : CtxIn D x) (t : T) {rg : Rg} (hr : RgIn D rg) :
    CtxIn D (x.withSubj t rg) := ⟨hr, h.2.1, h.2.2⟩
theorem ctxIn_withPred {D : List RP} {x : EctxO} (h : CtxIn D x) (t : T) {rg : Rg} (hr : RgIn D rg) :
    CtxIn D (x.withPred t rg) := ⟨h.1, hr, h.2.2⟩
theorem ctxIn_withGraph {D : List RP} {x : EctxO} (h : CtxIn D x) (t : T) {rg : Rg} (hr : RgIn D rg) :
    CtxIn D (x.withGraph t rg) := ⟨h.1, h.2.1, hr⟩

theorem frameIn_mono {D D' : List RP} {f : FrameO} (h : FrameIn D f) (hp : D <+: D') : FrameIn D' f :=
  ⟨ctxIn_mono h.1 hp, rgIn_mono h.2 hp⟩

theorem stmtIn_mono {D D' : List RP} {m : StmtO} (h : StmtIn D m) (hp : D <+: D') : StmtIn D' m :=
  ⟨rgIn_mono h.1 hp, rgIn_mono h.2.1 hp, rgIn_mono h.2.2.1 hp, rgIn_mono h.2.2.2 hp⟩

/-- `s'` is `s` after the runes `X` have been read and committed, in any number of chunks: the one fact
    about a successful scan function from which commit discipline (`txt`), byte accounting (`bo`) and
    `Pend` all follow. -/
def Adv (s : S) (X : List RP) (s' : S) : Prop :=
  s'.bo = s.bo + size X ∧ (On s' ↔ On s) ∧ (On s → txt s' = txt s ++ X)

theorem adv_nil (s : S) : Adv s [] s := ⟨rfl, Iff.rfl, fun _ => (List.append_nil _).symm⟩

theorem adv_of {s s' : S} {X : List RP} (hb : s'.bo = s.bo + size X) (hd : s'.doc = (s.commit X).doc) :
    Adv s X s' := by
  refine ⟨hb, ?_, fun h => ?_⟩
  · unfold On; rw [hd]; exact on_commit s X
  · unfold txt; rw [hd]; exact txt_commit h X

theorem adv_commit {s s' : S} {X : List RP} (hb : s'.bo = s.bo + size X) (hd : s'.doc = s.doc) :
    Adv s X (s'.commit X) :=
  adv_of hb (by simp only [C16Ttl.commit_doc, hd])

theorem adv_one (s : S) (c : RP) : Adv s [c] ((s.read c).commit [c]) := adv_commit rfl rfl

theorem Adv.trans {s s1 s2 : S} {X Y : List RP} (h1 : Adv s X s1) (h2 : Adv s1 Y s2) : Adv s (X ++ Y) s2 :=
  ⟨by rw [h2.1, h1.1, size_append, Nat.add_assoc], h2.2.1.trans h1.2.1,
   fun h => by rw [h2.2.2 (h1.2.1.2 h), h1.2.2 h, List.append_assoc]⟩

theorem Adv.pend {s s' : S} {X : List RP} (h : Adv s X s') (hP : Pend s 0) : Pend s' 0 := by
  intro d' hd'
  have hOn : On s := h.2.1.1 (by simp [On, hd'])
  have ht := h.2.2 hOn
  cases hd : s.doc with
  | none => simp [On, hd] at hOn
  | some d =>
    have := hP d hd
    simp only [txt, hd, hd'] at ht
    rw [ht, size_append, h.1]; omega

theorem Adv.size {s s' : S} {X rest inp : List RP} (h : Adv s X s') (hr : X ++ rest = inp) :
    s'.bo + size rest = s.bo + size inp := by
  rw [← hr, size_append, h.1, Nat.add_assoc]

def RgB (rg : Rg) (n : Nat) : Prop := EOff.bound (rangeErr rg) ≤ n

/-- What a successful producer call did: consumed a prefix `X` of `inp` and committed exactly `X`; the
    token's range lies in the committed text afterwards (capture on) and, as the offset of an error, inside the
    bytes read plus `inp`. -/
def Tok (s : S) (inp : List RP) (rg : Rg) (s' : S) (rest : List RP) : Prop :=
  ∃ X, X ++ rest = inp ∧ Adv s X s' ∧ (On s → RgIn (txt s ++ X) rg) ∧ (Pend s 0 → RgB rg (s.bo + size inp))

/-- `Tok` is what the statement machine keeps of `Consumed`. -/
theorem _root_.RdfModel.C16Ttl.Consumed.tok {s s' : S} {inp pre body rest : List RP} {rg : Rg}
    (h : C16Ttl.Consumed s inp pre body rg s' rest) : Tok s inp rg s' rest := by
  refine ⟨pre ++ body, h.split.symm, ⟨h.bo, by unfold On; rw [h.capture], fun hOn => ?_⟩, fun hOn => ?_, fun hP => ?_⟩
  all_goals cases hd : s.doc with
  | none => first | (simp [On, hd] at hOn) | simp [RgB, rangeErr, EOff.bound, h.norange hd]
  | some d => ?_
  · obtain ⟨d', h1, h2⟩ := h.committed d hd
    simp [txt, hd, h1, h2]
  · obtain ⟨fr, un, h1, h2, h3⟩ := h.range d hd
    rintro r rfl
    cases h1
    simp only [txt, hd, h2, h3]
    exact ⟨⟨body, by simp⟩, List.prefix_refl _⟩
  · obtain ⟨fr, un, h1, h2, h3⟩ := h.range d hd
    have := hP d hd
    have hs := congrArg size h.split
    simp [RgB, rangeErr, EOff.bound, h1, h2, h3] at hs ⊢
    omega

theorem Tok.rgB {s s' : S} {inp rest : List RP} {rg : Rg} (h : Tok s inp rg s' rest) (hP : Pend s 0) :
    RgB rg (s.bo + size inp) :=
  let ⟨_, _, _, _, h4⟩ := h; h4 hP

/-- A producer call by result (`Scan`): a success is a `Tok`. -/
abbrev TokR {α : Type} (s : S) (inp : List RP) (r : TtlO.RO α) : Prop := Scan (fun _ => Tok s inp) s 0 inp r

theorem iriref_tok (T : Ttl.Tables) (e : End) (s : S) (inp : List RP) : TokR s inp (TtlO.produceIRIREF T e s inp) :=
  (produceIRIREF_scan T e s inp).imp fun _ _ _ _ ⟨_, h, _⟩ => (consumed_one h).tok

theorem string_tok (T : Ttl.Tables) (e : End) (s : S) (inp : List RP) :
    TokR s inp (TtlO.produceString T e false s inp) :=
  (produceString_scan T e s inp).imp fun _ _ _ _ ⟨_, _, h, _⟩ => (consumed_one h).tok

theorem pnameNS_tok (T : Ttl.Tables) (e : End) (trig : Bool) (s : S) (inp : List RP) :
    TokR s inp (TtlO.producePNAME_NS T e trig s inp) :=
  (producePNAME_NS_scan T e trig s inp).imp fun _ _ _ _ ⟨_, h, _⟩ => (consumed_one h).tok

theorem pname_tok (T : Ttl.Tables) (e : End) (trig : Bool) (s : S) (inp : List RP) :
    TokR s inp (TtlO.producePrefixedName T e trig s inp) :=
  (producePrefixedName_scan T e trig s inp).imp fun _ _ _ _ ⟨_, _, h, _⟩ => (consumed_two_whole h).tok

theorem bnode_tok (T : Ttl.Tables) (e : End) (s : S) (inp : List RP) :
    TokR s inp (TtlO.produceBlankNode T e false s inp) :=
  (produceBlankNode_scan T e false s inp).imp fun _ _ _ _ ⟨_, _, _, h, _⟩ => (consumed_two_whole h).tok

theorem langtag_tok (e : End) (s : S) (inp : List RP) : TokR s inp (TtlO.produceLANGTAG e s inp) :=
  (produceLANGTAG_scan e s inp).imp fun _ _ _ _ ⟨_, _, h, _⟩ => (consumed_two_body h).tok

theorem numeric_tok (e : End) (s : S) (inp : List RP) : TokR s inp (TtlO.produceNumericLiteral e s inp) :=
  (produceNumericLiteral_scan e s inp).imp fun _ _ _ _ ⟨_, h, _⟩ => (consumed_one h).tok

def IriT (s : S) (inp : List RP) : IriResO → Prop
  | .ok _ rg s' rest => Tok s inp rg s' rest
  | .err _ o => Pend s 0 → EOff.bound o ≤ s.bo + size inp
  | .panic => True

def TermT (s : S) (inp : List RP) : TermResO → Prop
  | .ok _ rg s' rest _ => Tok s inp rg s' rest
  | .err _ o => Pend s 0 → EOff.bound o ≤ s.bo + size inp
  | .panic => True

theorem iriIRIREFO_T (C : CfgO) (e : End) (env : Env) (s : S) (inp : List RP) :
    IriT s inp (iriIRIREFO C e env s inp) := by
  have h := iriref_tok C.T e s inp
  unfold iriIRIREFO
  cases hp : TtlO.produceIRIREF C.T e s inp with
  | panic => trivial
  | err c o => rw [hp] at h; exact h
  | ok v rg s' rest =>
    rw [hp] at h
    simp only []
    cases resolveIRI C.base env v with
    | none => exact h.rgB
    | some i => exact h

theorem iriPNameO_T (C : CfgO) (e : End) (env : Env) (s : S) (inp : List RP) :
    IriT s inp (iriPNameO C e env s inp) := by
  have h := pname_tok C.T e C.trig s inp
  unfold iriPNameO
  cases hp : TtlO.producePrefixedName C.T e C.trig s inp with
  | panic => trivial
  | err c o => rw [hp] at h; exact h
  | ok v rg s' rest =>
    rw [hp] at h
    simp only []
    cases env.expand v.1 v.2 with
    | none => exact h.rgB
    | some i => exact h

theorem toTerm_T {s : S} {inp : List RP} {r : IriResO} (h : IriT s inp r) (env : Env) :
    TermT s inp (r.toTerm env) := by
  cases r <;> exact h

theorem termIRIREFO_T (C : CfgO) (e : End) (env : Env) (s : S) (inp : List RP) :
    TermT s inp (termIRIREFO C e env s inp) := toTerm_T (iriIRIREFO_T C e env s inp) env

theorem termPNameO_T (C : CfgO) (e : End) (env : Env) (s : S) (inp : List RP) :
    TermT s inp (termPNameO C e env s inp) := toTerm_T (iriPNameO_T C e env s inp) env

theorem termBNodeO_T (C : CfgO) (e : End) (env : Env) (s : S) (inp : List RP) :
    TermT s inp (termBNodeO C e env s inp) := by
  have h := bnode_tok C.T e s inp
  unfold termBNodeO
  cases hp : TtlO.produceBlankNode C.T e false s inp <;> rw [hp] at h <;> exact h

def OutIn (D : List RP) (o : OutO) : Prop :=
  (∀ f, o.cur = some f → FrameIn D f) ∧ (∀ f ∈ o.push, FrameIn D f) ∧ (∀ m, o.emit = some m → StmtIn D m)

/-- What a scan function called in state `s` with `inp` ahead does, `x` being its evaluation context and `r` the
    range its closure holds.  A normal return has consumed a prefix `X` of `inp` and committed exactly `X`, and
    (capture on, the ranges of `x` and `r` in the committed text) every range it stores or emits is in the new
    committed text.  The offset of an error lies inside the bytes read so far plus `inp`. -/
def Step (s : S) (x : EctxO) (r : Rg) (inp : List RP) : FnResO → Prop
  | .ok o => ∃ X, X ++ o.inp = inp ∧ Adv s X o.s ∧ (On s → CtxIn (txt s) x → RgIn (txt s) r → OutIn (txt s ++ X) o)
  | .err _ eo => Pend s 0 → EOff.bound eo ≤ s.bo + size inp
  | .panic => True

section
variable {s : S} {x : EctxO} {r : Rg} {inp : List RP}

theorem step_ok {o : OutO} (X : List RP) (h1 : X ++ o.inp = inp) (h2 : Adv s X o.s)
    (h3 : On s → CtxIn (txt s) x → RgIn (txt s) r → OutIn (txt s ++ X) o) : Step s x r inp (.ok o) :=
  ⟨X, h1, h2, h3⟩

theorem step_keep {cur : Option FrameO} {push : List FrameO} {emit : Option StmtO} {env : Env} {term : Bool}
    (h : On s → CtxIn (txt s) x → RgIn (txt s) r → OutIn (txt s) ⟨cur, push, emit, inp, env, s, term⟩) :
    Step s x r inp (.ok ⟨cur, push, emit, inp, env, s, term⟩) :=
  step_ok [] rfl (adv_nil s) (by rwa [List.append_nil])

theorem step_one {c : RP} {rest : List RP} {cur : Option FrameO} {push : List FrameO} {emit : Option StmtO}
    {env : Env} {term : Bool}
    (h : On s → CtxIn (txt s) x → RgIn (txt s) r →
      OutIn (txt s ++ [c]) ⟨cur, push, emit, rest, env, (s.read c).commit [c], term⟩) :
    Step s x r (c :: rest) (.ok ⟨cur, push, emit, rest, env, (s.read c).commit [c], term⟩) :=
  step_ok [c] rfl (adv_one s c) h

/-- An answer whose frames are all over one evaluation context, without ranges of their own, and that emits
    nothing: only that context matters (`h` is closed by `simp`: the frames are literals). -/
theorem outIn_same {x' : EctxO} {D : List RP} (hx : CtxIn D x') {cur : Option FrameO} {push : List FrameO} {inp : List RP}
    {env : Env} {s' : S} {term : Bool} (h : ∀ f ∈ cur.toList ++ push, f.x = x' ∧ f.r = none) :
    OutIn D ⟨cur, push, none, inp, env, s', term⟩ :=
  have hf : ∀ f ∈ cur.toList ++ push, FrameIn D f := fun f hf => ⟨(h f hf).1 ▸ hx, (h f hf).2 ▸ rgIn_none D⟩
  ⟨fun f hc => hf f (List.mem_append_left _ (Option.mem_toList.2 hc)), fun f hp => hf f (List.mem_append_right _ hp),
   fun _ hm => nomatch hm⟩

theorem step_okS {cur : Option FrameO} {push : List FrameO} {env : Env} {term : Bool} {rest : List RP} {s' : S}
    (X : List RP) (h1 : X ++ rest = inp) (h2 : Adv s X s') (h : ∀ f ∈ cur.toList ++ push, f.x = x ∧ f.r = none) :
    Step s x r inp (.ok ⟨cur, push, none, rest, env, s', term⟩) :=
  step_ok X h1 h2 fun _ hx _ => outIn_same (ctxIn_app hx _) h

theorem step_keepS {cur : Option FrameO} {push : List FrameO} {env : Env} {term : Bool}
    (h : ∀ f ∈ cur.toList ++ push, f.x = x ∧ f.r = none) : Step s x r inp (.ok ⟨cur, push, none, inp, env, s, term⟩) :=
  step_okS [] rfl (adv_nil s) h

theorem step_oneS {c : RP} {rest : List RP} {cur : Option FrameO} {push : List FrameO} {env : Env} {term : Bool}
    (h : ∀ f ∈ cur.toList ++ push, f.x = x ∧ f.r = none) :
    Step s x r (c :: rest) (.ok ⟨cur, push, none, rest, env, (s.read c).commit [c], term⟩) :=
  step_okS [c] rfl (adv_one s c) h

theorem step_err {k : TtlDoc.EClass} {eo : EOff} (h : Pend s 0 → EOff.bound eo ≤ s.bo + size inp) :
    Step s x r inp (.err k eo) := h

theorem step_err0 {k : TtlDoc.EClass} : Step s x r inp (.err k .none) := step_err fun _ => Nat.zero_le _

theorem step_panic : Step s x r inp .panic := trivial

theorem step_errAt {k : TtlDoc.EClass} {s' : S} {unc : Chunk} {ign : Nat} (hd : s'.doc = s.doc)
    (hu : s.bo + size unc ≤ s'.bo) (hn : s'.bo ≤ s.bo + size inp) : Step s x r inp (.err k (s'.offErr unc ign)) :=
  step_err fun hP => bound_offErr _ _ _ _ (fun h hh => by have := hP h (hd ▸ hh); omega) hn

theorem step_errRune {k : TtlDoc.EClass} {c : RP} {rest : List RP} {ign : Nat} :
    Step s x r (c :: rest) (.err k ((s.read c).offErr [] ign)) :=
  step_errAt rfl (Nat.le_add_right _ _) (Nat.add_le_add_left (Nat.le_add_right _ _) _)

theorem step_errStart {k : TtlDoc.EClass} {ign : Nat} : Step s x r inp (.err k (s.offErr [] ign)) :=
  step_errAt rfl (Nat.le_refl _) (Nat.le_add_right _ _)

theorem step_errEnd {k : TtlDoc.EClass} {c : RP} {rest : List RP} {ign : Nat} :
    Step s x r (c :: rest) (.err k ((s.read c).offErr [c] ign)) :=
  step_errAt rfl (Nat.le_refl _) (Nat.add_le_add_left (Nat.le_add_right _ _) _)

theorem step_after {s' : S} {r' : Rg} {rest : List RP} {res : FnResO} (X : List RP) (hX : X ++ rest = inp)
    (hA : Adv s X s') (hr : On s → RgIn (txt s) r → RgIn (txt s ++ X) r') (h : Step s' x r' rest res) :
    Step s x r inp res := by
  cases res with
  | panic => trivial
  | ok o =>
    obtain ⟨Y, g1, g2, g3⟩ := h
    refine ⟨X ++ Y, by rw [List.append_assoc, g1, hX], hA.trans g2, fun hOn hx hr0 => ?_⟩
    have ht := hA.2.2 hOn
    rw [← List.append_assoc, ← ht]
    exact g3 (hA.2.1.2 hOn) (ht ▸ ctxIn_app hx X) (ht ▸ hr hOn hr0)
  | err k eo =>
    intro hP
    have := h (hA.pend hP)
    rwa [hA.size hX] at this

theorem step_tok {s' : S} {rg : Rg} {rest : List RP} {res : FnResO} (ht : Tok s inp rg s' rest)
    (h : Step s' x rg rest res) : Step s x r inp res :=
  let ⟨X, h1, h2, h3, _⟩ := ht; step_after X h1 h2 (fun hOn _ => h3 hOn) h

theorem step_tok' {s' : S} {rg : Rg} {rest : List RP} {res : FnResO} (ht : Tok s inp rg s' rest)
    (h : Step s' x none rest res) : Step s x r inp res :=
  let ⟨X, h1, h2, _, _⟩ := ht; step_after X h1 h2 (fun _ _ => rgIn_none _) h

end

theorem frameIn_iff (D : List RP) (x : EctxO) (k : Cont) (r : Rg) : FrameIn D ⟨x, k, r⟩ ↔ CtxIn D x ∧ RgIn D r := Iff.rfl

/-- closes `On s → CtxIn D x → RgIn D r → OutIn D' o` for a concrete `o` whose ranges are those of `x`, `r` and
    fresh ones -/
macro "out_tac" : tactic => `(tactic|
  (intro _ ⟨hs, hp, hg⟩ hr
   simp only [OutIn, Option.some.injEq, List.mem_cons, List.mem_singleton, List.not_mem_nil, forall_eq_or_imp,
      forall_eq, forall_eq', false_imp_iff, imp_false, implies_true, and_true, true_and, reduceCtorEq,
      frameIn_iff, CtxIn, StmtIn, range_read, range_readL, EctxO.withSubj, EctxO.withPred, EctxO.withGraph, mkStmtO, List.append_nil,
      List.mem_append, or_imp, forall_and, ↓reduceIte, if_true, if_false, Bool.false_eq_true, ArgO.orNul,
      rgIn_none, rgIn_range0, rgIn_range_cons, hs, hp, hg, hr, rgIn_app hs, rgIn_app hp, rgIn_app hg, rgIn_app hr,
      rgIn_span_fresh hr, and_self]))

section
variable {s : S} {x : EctxO} {r : Rg} {inp : List RP}

/-- the continuations of a term: the bookkeeping is the token's -/
theorem ofTerm_step {t : TermResO} (ht : TermT s inp t) (F : TermResO → FnResO)
    (hF : ∀ v rg s' rest env', Step s' x rg rest (F (.ok v rg s' rest env')))
    (hE : ∀ c o, F (.err c o) = .err c o) (hP : F .panic = .panic) : Step s x r inp (F t) := by
  cases t with
  | ok v rg s' rest env' => exact step_tok ht (hF ..)
  | err c o => rw [hE]; exact step_err ht
  | panic => rw [hP]; exact step_panic

theorem subjectOfO_step {t : TermResO} (ht : TermT s inp t) : Step s x r inp (subjectOfO x t) :=
  ofTerm_step ht (subjectOfO x) (fun _ _ s' _ _ => step_keep (by out_tac))
    (fun _ _ => rfl) rfl

theorem labelOrSubjectO_step {t : TermResO} (ht : TermT s inp t) : Step s x r inp (labelOrSubjectO x t) :=
  ofTerm_step ht (labelOrSubjectO x) (fun _ _ s' _ _ => step_keep (by out_tac))
    (fun _ _ => rfl) rfl

theorem polOfTermO_step {t : TermResO} (ht : TermT s inp t) : Step s x r inp (polOfTermO x t) :=
  ofTerm_step ht (polOfTermO x) (fun _ _ s' _ _ => step_keep (by out_tac))
    (fun _ _ => rfl) rfl

theorem emitOfTermO_step {t : TermResO} (ht : TermT s inp t) : Step s x r inp (emitOfTermO x t) :=
  ofTerm_step ht (emitOfTermO x) (fun _ _ s' _ _ => step_keep (by out_tac))
    (fun _ _ => rfl) rfl

theorem tokR_step {p : TtlO.RO (List Nat)} {f : List Nat → Rg → S → List RP → FnResO} : TokR s inp p →
    (∀ v rg s' rest, Tok s inp rg s' rest → Step s x r inp (f v rg s' rest)) →
    Step s x r inp (match p with
      | .panic => .panic
      | .err k o => .err (ofTok k) o
      | .ok v rg s' rest => f v rg s' rest) := by
  intro hp hf
  cases p with
  | panic => exact step_panic
  | err k o => exact step_err hp
  | ok v rg s' rest => exact hf _ _ _ _ hp

theorem iri_step {p : IriResO} {f : List Nat → Rg → S → List RP → FnResO} : IriT s inp p →
    (∀ i rg s' rest, Step s' x r rest (f i rg s' rest)) →
    Step s x r inp (match p with
      | .panic => .panic
      | .err k o => .err k o
      | .ok i rg s' rest => f i rg s' rest) := by
  intro hp hf
  cases p with
  | panic => exact step_panic
  | err k o => exact step_err hp
  | ok i rg s' rest =>
    obtain ⟨X, g1, g2, _⟩ := hp
    exact step_after X g1 g2 (fun _ h => rgIn_app h _) (hf ..)

variable (C : CfgO) (e : End) (env : Env) (c : RP) (rest : List RP)

theorem kwFallbackO_step : Step s x r inp (kwFallbackO C e x env s inp) :=
  ite_ind (fun _ => labelOrSubjectO_step (termPNameO_T C e env s inp)) fun _ =>
    step_keepS (by simp)

theorem withSelfO_step {res : FnResO} (h : Step s x r inp res) : Step s x r inp (withSelfO x res) := by
  cases res with
  | err c o => exact h
  | panic => exact h
  | ok o =>
    obtain ⟨X, h1, h2, h3⟩ := h
    refine step_ok X h1 h2 fun hOn hx hr => ?_
    obtain ⟨g1, g2, g3⟩ := h3 hOn hx hr
    refine ⟨g1, fun f hf => ?_, g3⟩
    rcases List.mem_cons.1 hf with rfl | hf
    · exact ⟨ctxIn_app hx X, rgIn_none _⟩
    · exact g2 f hf

theorem matchKwO_spec : ∀ (ks : List (Nat × Nat)) (inp acc : List RP),
    match matchKwO ks inp acc with
    | .ok rd r => rd ++ r = acc.reverse ++ inp
    | .eoi rd => rd = acc.reverse ++ inp
    | .mismatch rd c => ∃ r, rd ++ c :: r = acc.reverse ++ inp
  | [], _, _ => rfl
  | _ :: _, [], _ => (List.append_nil _).symm
  | (u, l) :: ks, c :: rest, acc => by
    rw [matchKwO]
    by_cases hc : c.1 = u ∨ c.1 = l
    · rw [if_pos hc]
      have := matchKwO_spec ks rest (c :: acc)
      rwa [List.reverse_cons, List.append_assoc] at this
    · rw [if_neg hc]
      exact ⟨rest, rfl⟩

theorem matchKeywordO_eq : ∀ (ks : List Nat) (inp acc : List RP),
    matchKeywordO ks inp acc = matchKwO (ks.map fun k => (k, k)) inp acc
  | [], _, _ => rfl
  | _ :: _, [], _ => rfl
  | k :: ks, c :: rest, acc => by
    simp only [matchKeywordO, matchKwO, List.map_cons, or_self, matchKeywordO_eq ks rest (c :: acc)]

theorem stepWrappedGraphO_step (dbl : Bool) :
    Step s x r (c :: rest) (stepWrappedGraphO dbl e x env s (.rune c rest)) :=
  ite_ind (fun _ => step_errStart) fun _ => step_oneS (by simp)

theorem size_dropLast_le : ∀ (l : List RP), size l.dropLast ≤ size l
  | [] => Nat.le_refl _
  | [_] => Nat.zero_le _
  | _ :: b :: l => Nat.add_le_add_left (size_dropLast_le (b :: l)) _

theorem atKw_step (c0 r1 : RP) (rest1 : List RP) (kw : String) (k : Cont) :
    Step s x r (c0 :: r1 :: rest1) (match matchKwO (kwExact kw) rest1 [] with
      | .eoi rd => .err (endCls e) ((readL ((s.read c0).read r1) rd).offErr (c0 :: r1 :: rd).dropLast 0)
      | .mismatch rd c => .err .syntax (((readL ((s.read c0).read r1) rd).read c).offErr (c0 :: r1 :: rd) c.2)
      | .ok rd r => .ok { cur := some ⟨x, k, none⟩, inp := r, env := env,
                          s := (readL ((s.read c0).read r1) rd).commit (c0 :: r1 :: rd) }) := by
  have h := matchKwO_spec (kwExact kw) rest1 []
  cases hm : matchKwO (kwExact kw) rest1 [] with
  | eoi rd =>
    rw [hm] at h; subst h
    have := size_dropLast_le (c0 :: r1 :: rd)
    exact step_errAt rfl (by simp [readL] at this ⊢; omega) (by simp [readL]; omega)
  | mismatch rd c =>
    rw [hm] at h; obtain ⟨r', h⟩ := h; subst h
    exact step_errAt rfl (by simp [readL]; omega) (by simp [readL]; omega)
  | ok rd r' =>
    rw [hm] at h; subst h
    exact step_okS (c0 :: r1 :: rd) rfl (adv_commit (by simp [readL]; omega) rfl) (by simp)

theorem stepAtDirectiveO_step : Step s x r (c :: rest) (stepAtDirectiveO e x env s c rest) := by
  cases rest with
  | nil => exact step_err0
  | cons r1 rest1 =>
    exact ite_ind (fun _ => atKw_step e env c r1 rest1 "ase" .atBaseIRI) fun _ =>
      ite_ind (fun _ => atKw_step e env c r1 rest1 "refix" .atPrefixNS) fun _ =>
      step_errAt rfl (by simp) (by simp; omega)

theorem stepKwBaseO_step :
    Step s x r (c :: rest) (stepKwBaseO C e x env s c rest) := by
  have h := matchKwO_spec (kwCI "ASE") rest []
  unfold stepKwBaseO
  cases hm : matchKwO (kwCI "ASE") rest [] with
  | eoi rd => rw [hm] at h; subst h; exact step_errAt rfl (by simp [readL]; omega) (by simp [readL]; omega)
  | mismatch rd c' => exact kwFallbackO_step C e env
  | ok rd r' =>
    rw [hm] at h; subst h
    cases r' with
    | nil => exact step_errAt rfl (by simp [readL]; omega) (by simp [readL]; omega)
    | cons r4 rest4 =>
      exact ite_ind (fun _ => step_okS (c :: rd) rfl (adv_commit (by simp [readL]; omega) rfl)
          (by simp)) fun _ =>
        ite_ind (fun _ => kwFallbackO_step C e env) fun _ =>
        step_okS (c :: rd ++ [r4]) (by simp) (adv_commit (by simp [readL]; omega) rfl)
          (by simp)

theorem stepKwSpaceO_step (kw : List (Nat × Nat)) (k : Cont) : Step s x r (c :: rest) (stepKwSpaceO C e x env s kw k c rest) := by
  have h := matchKwO_spec kw rest []
  unfold stepKwSpaceO
  cases hm : matchKwO kw rest [] with
  | eoi rd => rw [hm] at h; subst h; exact step_errAt rfl (by simp [readL]; omega) (by simp [readL]; omega)
  | mismatch rd c' => exact kwFallbackO_step C e env
  | ok rd r' =>
    rw [hm] at h; subst h
    cases r' with
    | nil => exact step_errAt rfl (by simp [readL]; omega) (by simp [readL]; omega)
    | cons r6 rest6 =>
      exact ite_ind (fun _ => kwFallbackO_step C e env) fun _ =>
        step_okS (c :: rd ++ [r6]) (by simp) (adv_commit (by simp [readL]; omega) rfl)
          (by simp)

theorem stepSubjectStartO_step :
    Step s x r (c :: rest) (stepSubjectStartO C e x env s c rest) :=
  ite_ind (fun _ => ite_ind (fun _ => labelOrSubjectO_step (termIRIREFO_T C e env s _)) fun _ =>
      step_keepS (by simp)) fun _ =>
  ite_ind (fun _ => ite_ind (fun _ => labelOrSubjectO_step (termBNodeO_T C e env s _)) fun _ =>
      step_keepS (by simp)) fun _ =>
  ite_ind (fun _ => ite_ind
      (fun _ => step_one (by out_tac)) fun _ =>
      step_one (by out_tac)) fun _ =>
  ite_ind (fun _ => step_one (by out_tac)) fun _ =>
  ite_ind (fun _ => ite_ind (fun _ => labelOrSubjectO_step (termPNameO_T C e env s _)) fun _ =>
      step_keepS (by simp)) fun _ =>
  step_errRune

theorem stepStatementRuneO_step :
    Step s x r (c :: rest) (stepStatementRuneO C e x env s c rest) :=
  ite_ind (fun _ => stepAtDirectiveO_step e env c rest) fun _ =>
  ite_ind (fun _ => stepKwBaseO_step C e env c rest) fun _ =>
  ite_ind (fun _ => stepKwSpaceO_step C e env c rest _ _) fun _ =>
  ite_ind (fun _ => stepKwSpaceO_step C e env c rest _ _) fun _ =>
  ite_ind (fun _ => stepWrappedGraphO_step e env c rest C.dbl) fun _ =>
  stepSubjectStartO_step C e env c rest

theorem stepCollectionO_step (o : T) :
    Step s x r (c :: rest) (stepCollectionO x env s c rest o r) := by
  refine ite_ind (fun _ => step_one (by out_tac)) fun _ => ?_
  cases x.x.subj <;> exact step_keep (by out_tac)

theorem stepPOLO_step :
    Step s x r (c :: rest) (stepPOLO C e x env s c rest) := by
  refine ite_ind (fun _ => polOfTermO_step (termIRIREFO_T C e env s _)) fun _ => ite_ind (fun _ => ?_) fun _ =>
    ite_ind (fun _ => polOfTermO_step (termPNameO_T C e env s _)) fun _ =>
    step_keepS (by simp)
  cases rest with
  | nil => exact step_errEnd
  | cons r1 rest1 =>
    exact ite_ind (fun _ => polOfTermO_step (termPNameO_T C e env s _)) fun _ =>
      step_ok [c, r1] rfl ((adv_one s c).trans (adv_one _ r1)) (by out_tac)

/-- after the string token, whose range `r` is what the closure holds -/
theorem stepLiteralTailO_step (lex : List Nat) :
    Step s x r rest (stepLiteralTailO C e x env lex r s rest) := by
  cases rest with
  | nil => exact step_errStart
  | cons c rest0 =>
    refine ite_ind (fun _ => ?_) fun _ => ite_ind (fun _ => ?_) fun _ =>
      step_keep (by out_tac)
    · refine tokR_step (langtag_tok e s (c :: rest0)) ?_
      intro _ _ s' _ ht
      exact step_after _ ht.choose_spec.1 ht.choose_spec.2.1 (fun _ h => rgIn_app h _)
        (step_keep (by out_tac))
    · cases rest0 with
      | nil => exact step_errEnd
      | cons c1 rest1 =>
        refine ite_ind (fun _ => step_errAt rfl (by simp) (by simp; omega)) fun _ => ?_
        cases rest1 with
        | nil => exact step_errAt rfl (by simp; omega) (by simp; omega)
        | cons c2 rest2 =>
          refine step_after [c, c1] rfl (adv_commit (s' := (s.read c).read c1) (by simp; omega) rfl)
            (fun _ h => rgIn_app h _) (iri_step ?_ ?_)
          · split
            · exact iriIRIREFO_T C e env _ _
            · exact iriPNameO_T C e env _ _
          · intro _ _ s' _
            exact ite_ind (fun _ => step_err0) fun _ =>
              step_keep (by out_tac)

theorem emitOfNumericO_step {p : TtlO.RO (Ttl.NumKind × List Nat)} (hp : TokR s inp p) :
    Step s x r inp (emitOfNumericO x env p) := by
  cases p with
  | panic => exact step_panic
  | err k o => exact step_err hp
  | ok v rg s' rest => exact step_tok hp (step_keep (by out_tac))

theorem scanBooleanO_spec :
    match scanBooleanO (c :: rest) with
    | .bool _ rd r => rd ++ r = rest
    | .err rd => rd = rest
    | .other => True := by
  have h1 := matchKeywordO_eq (asc "rue") rest [] ▸ matchKwO_spec _ rest []
  have h2 := matchKeywordO_eq (asc "alse") rest [] ▸ matchKwO_spec _ rest []
  rw [scanBooleanO]
  by_cases ht : c.1 = 0x74
  · rw [if_pos ht]
    cases hm : matchKeywordO (asc "rue") rest [] with
    | ok rd r => rw [hm] at h1; exact h1
    | eoi rd => rw [hm] at h1; exact h1
    | mismatch rd c' => trivial
  · rw [if_neg ht]
    by_cases hf : c.1 = 0x66
    · rw [if_pos hf]
      cases hm : matchKeywordO (asc "alse") rest [] with
      | ok rd r => rw [hm] at h2; exact h2
      | eoi rd => rw [hm] at h2; exact h2
      | mismatch rd c' => trivial
    · rw [if_neg hf]; trivial

theorem stepObjectO_step :
    Step s x r (c :: rest) (stepObjectO C e x env s c rest) := by
  have num : Step s x r (c :: rest) (emitOfNumericO x env (TtlO.produceNumericLiteral e s (c :: rest))) :=
    emitOfNumericO_step env (numeric_tok e s _)
  refine ite_ind (fun _ => emitOfTermO_step (termIRIREFO_T C e env s _)) fun _ =>
    ite_ind (fun _ => emitOfTermO_step (termBNodeO_T C e env s _)) fun _ =>
    ite_ind (fun _ => step_one (by out_tac)) fun _ =>
    ite_ind (fun _ => step_one (by out_tac)) fun _ =>
    ite_ind (fun _ => ?str) fun _ => ite_ind (fun _ => ite_ind (fun _ => ?dot) fun _ => num) fun _ =>
    ite_ind (fun _ => ?bool) fun _ =>
    ite_ind (fun _ => step_keepS (by simp)) fun _ => step_errRune
  case str =>
    refine tokR_step (string_tok C.T e s (c :: rest)) ?_
    intro lex lrg s' r' ht
    exact step_tok ht (stepLiteralTailO_step C e env r' lex)
  case dot =>
    cases rest with
    | nil => exact step_errEnd
    | cons r1 rest1 => exact ite_ind (fun _ => step_errStart) fun _ => num
  case bool =>
    have h := scanBooleanO_spec c rest
    cases hb : scanBooleanO (c :: rest) with
    | err rd => rw [hb] at h; subst h; exact step_errAt rfl (by simp [readL]; omega) (by simp [readL]; omega)
    | other => exact step_keepS (by simp)
    | bool b rd r' =>
      rw [hb] at h; subst h
      exact step_ok (c :: rd) rfl (adv_commit (by simp [readL]; omega) rfl) (by out_tac)

theorem stepTriplesO_step :
    Step s x r (c :: rest) (stepTriplesO C x env s c rest) :=
  ite_ind (fun _ => step_keepS (by simp)) fun _ =>
  ite_ind (fun _ => step_keepS (by simp)) fun _ =>
  ite_ind (fun _ => step_one (by out_tac)) fun _ =>
  ite_ind (fun _ => step_one (by out_tac)) fun _ =>
  ite_ind (fun _ => step_keepS (by simp)) fun _ => step_errRune

/-- what a scan function sees: the rune and the input after it, or the zero rune -/
def argInp : ArgO → List RP
  | .rune c rest => c :: rest
  | .fail => [((0, 0) : RP)]

theorem orNul_argInp (a : ArgO) : a.orNul.1 :: a.orNul.2 = argInp a := by cases a <;> rfl

theorem stepParenO_step (top : Bool) (bn : T) (a : ArgO) :
    Step s x r (argInp a) (stepParenO top x env bn r s a) := by
  rw [← orNul_argInp]
  refine ite_ind (fun _ => step_one ?_) fun _ => step_keep ?_
  all_goals cases top <;> out_tac

/-- the directive closures reading an IRIREF: whatever they do with the resolved IRI, the bookkeeping is
    that of the token -/
theorem iriDirective_step {f : List Nat → S → List RP → FnResO} :
    (∀ b s' r', Step s' x none r' (f b s' r')) →
    Step s x r inp (match TtlO.produceIRIREF C.T e s inp with
      | .panic => FnResO.panic
      | .err t o => .err (ofTok t) o
      | .ok v rg s' r' =>
        match resolveURL C.base env v with
        | none => .err .resolve (rangeErr rg)
        | some b => f b s' r') := by
  intro hf
  refine tokR_step (iriref_tok C.T e s inp) ?_
  intro v rg s' r' ht
  cases resolveURL C.base env v with
  | none => exact step_err ht.rgB
  | some b => exact step_tok' ht (hf b s' r')

theorem stepFnO_step_rune (k : Cont) (c : RP) (rest : List RP) :
    Step s x r (c :: rest) (stepFnO C e k r x env s (.rune c rest)) := by
  cases k with
  | statement => exact withSelfO_step (stepStatementRuneO_step C e env c rest)
  | atBaseIRI | sparqlBaseIRI =>
    refine iriDirective_step C e env ?_
    intro _ s' _
    exact ite_ind (fun _ => step_keepS (by simp)) fun _ =>
      step_keepS (by simp)
  | atPrefixIRI ns | sparqlPrefixIRI ns =>
    refine iriDirective_step C e env ?_
    intro _ s' _
    exact step_keepS (by simp)
  | atPrefixNS | sparqlPrefixNS =>
    refine tokR_step (pnameNS_tok C.T e C.trig s (c :: rest)) ?_
    intro _ _ s' _ ht
    exact step_tok' ht (step_keepS (by simp))
  | atBaseDot _ | atPrefixDot _ _ =>
    exact ite_ind (fun _ => step_errRune) fun _ =>
      step_oneS (by simp)
  | subjAnonOrBNPL | triples2BNPL =>
    exact ite_ind (fun _ => step_oneS (by simp)) fun _ =>
      step_keepS (by simp)
  | polContinue | objListContinue | collContinue =>
    exact ite_ind (fun _ => step_one (by out_tac)) fun _ =>
      step_keep (by out_tac)
  | triplesEnd =>
    exact ite_ind (fun _ => step_oneS (by simp)) fun _ =>
      ite_ind (fun _ => step_errStart) fun _ => step_errRune
  | subjIRIREF => exact subjectOfO_step (termIRIREFO_T C e env s _)
  | subjPName => exact subjectOfO_step (termPNameO_T C e env s _)
  | subjBNode => exact subjectOfO_step (termBNodeO_T C e env s _)
  | pol => exact stepPOLO_step C e env c rest
  | polRequired =>
    have h := stepPOLO_step (s := s) (x := x) (r := r) C e env c rest
    show Step s x r (c :: rest) (match stepPOLO C e x env s c rest with | .ok o => _ | r => r)
    cases hq : stepPOLO C e x env s c rest with
    | panic => exact step_panic
    | err k o => rw [hq] at h; exact h
    | ok o => rw [hq] at h; exact ite_ind (fun _ => step_errStart) fun _ => h
  | object => exact stepObjectO_step C e env c rest
  | objectPName => exact emitOfTermO_step (termPNameO_T C e env s _)
  | collOpenObj => exact stepCollectionO_step _ c rest _
  | collOpenSubj o => exact stepCollectionO_step env _ _ o
  | bnplEnd =>
    exact ite_ind (fun _ => step_oneS (by simp)) fun _ => step_errRune
  | parenTop bn => exact stepParenO_step env true bn (.rune c rest)
  | parenBlock bn => exact stepParenO_step env false bn (.rune c rest)
  | graphLabel =>
    refine ite_ind (fun _ => step_one (by out_tac)) fun _ => ?_
    have hT : TermT s (c :: rest) (if c.1 = 0x5f then termBNodeO C e env s (c :: rest)
          else if c.1 = 0x3c then termIRIREFO C e env s (c :: rest) else termPNameO C e env s (c :: rest)) := by
      split
      · exact termBNodeO_T C e env s _
      · split
        · exact termIRIREFO_T C e env s _
        · exact termPNameO_T C e env s _
    show Step s x r (c :: rest) (match (if c.1 = 0x5f then _ else _ : TermResO) with
      | .panic => _ | .err t o => _ | .ok g rg s' rr env' => _)
    generalize (if c.1 = 0x5f then termBNodeO C e env s (c :: rest)
          else if c.1 = 0x3c then termIRIREFO C e env s (c :: rest) else termPNameO C e env s (c :: rest)) = tr at hT
    cases tr with
    | panic => exact step_panic
    | err t o => exact step_err hT
    | ok g rg s' rr env' => exact step_tok hT (step_keep (by out_tac))
  | graphAnonClose =>
    exact ite_ind (fun _ => step_errRune) fun _ => step_one (by out_tac)
  | wrappedGraph => exact stepWrappedGraphO_step e env c rest C.dbl
  | wrappedGraphEnd =>
    exact ite_ind (fun _ => step_errStart) fun _ =>
      step_oneS (by simp)
  | triplesBlock =>
    exact ite_ind (fun _ => step_keepS (by simp)) fun _ =>
      step_keepS (by simp)
  | triplesBlockQuest =>
    exact ite_ind (fun _ => step_oneS (by simp)) fun _ =>
      ite_ind (fun _ => step_keepS (by simp)) fun _ =>
      step_keepS (by simp)
  | triples => exact stepTriplesO_step C env c rest
  | tgE1 v =>
    refine ite_ind (fun _ => step_one (by out_tac)) fun _ => ?_
    cases v with
    | lit l d t => exact step_panic
    | iri i => exact step_keep (by out_tac)
    | bnode b => exact step_keep (by out_tac)
  | tgBracket bn =>
    exact ite_ind (fun _ => step_one (by out_tac)) fun _ => step_keep (by out_tac)

/-- A failed read: a closure that ignores `err` sees the zero rune, every other scan function returns the stream's
    error, with no offset or with the offset of the unread rune. -/
theorem stepFnO_step (k : Cont) (a : ArgO) (hna : ¬(k = .statement ∧ a = .fail)) :
    Step s x r (argInp a) (stepFnO C e k r x env s a) := by
  cases a with
  | rune c rest => exact stepFnO_step_rune C e env k c rest
  | fail =>
    cases k with
    | statement => exact absurd ⟨rfl, rfl⟩ hna
    | collOpenSubj o => exact stepFnO_step_rune C e env (.collOpenSubj o) (0, 0) []
    | parenTop bn => exact stepFnO_step_rune C e env (.parenTop bn) (0, 0) []
    | parenBlock bn => exact stepFnO_step_rune C e env (.parenBlock bn) (0, 0) []
    | graphAnonClose => exact stepFnO_step_rune C e env .graphAnonClose (0, 0) []
    | tgE1 v => exact stepFnO_step_rune C e env (.tgE1 v) (0, 0) []
    | tgBracket bn => exact stepFnO_step_rune C e env (.tgBracket bn) (0, 0) []
    | _ => first | exact step_err0 | exact step_errStart

theorem Step.ok_on {res : FnResO} (h : Step s x r inp res) (hOn : On s) (hx : CtxIn (txt s) x)
    (hr : RgIn (txt s) r) {o : OutO} (ho : res = .ok o) :
    On o.s ∧ (∃ X, txt o.s = txt s ++ X ∧ X ++ o.inp = inp) ∧ OutIn (txt o.s) o :=
  let ⟨X, h1, h2, h3⟩ := (ho ▸ h : Step s x r inp (.ok o))
  ⟨h2.2.1.2 hOn, ⟨X, h2.2.2 hOn, h1⟩, h2.2.2 hOn ▸ h3 hOn hx hr⟩

end

/-- What the white-space loop of `scan` did, `unc` being what this call had read before: it read `ws` and
    stands before the rune `c`, `unc.reverse ++ ws` committed in one chunk; or it read all of `inp` and
    committed nothing or (end of input inside a comment) everything. -/
def SkipS (s : S) (unc : Chunk) (inp : List RP) : SkipO → Prop
  | .rune s' c rest =>
    ∃ ws, ws ++ c :: rest = inp ∧ s'.bo = s.bo + size ws ∧ s'.doc = (s.commit (unc.reverse ++ ws)).doc
  | .end_ s' => s'.bo = s.bo + size inp ∧ (s'.doc = s.doc ∨ s'.doc = (s.commit (unc.reverse ++ inp)).doc)
  | .commentIo => True

theorem skipS_step {s : S} {c : RP} {unc : Chunk} {rest : List RP} {r : SkipO}
    (h : SkipS (s.read c) (c :: unc) rest r) : SkipS s unc (c :: rest) r := by
  cases r with
  | commentIo => trivial
  | end_ s' => exact ⟨by rw [h.1]; simp [Nat.add_assoc], by simpa using h.2⟩
  | rune s' c' rest' =>
    obtain ⟨ws, h1, h2, h3⟩ := h
    exact ⟨c :: ws, by rw [← h1]; rfl, by rw [h2]; simp [Nat.add_assoc], by simpa using h3⟩

theorem skipWsO_spec (C : CfgO) (e : End) : ∀ (inp : List RP) (b : Bool) (s : S) (unc : Chunk),
    SkipS s unc inp (skipWsO C e b s inp unc)
  | [], false, _, _ => ⟨rfl, Or.inl rfl⟩
  | [], true, s, unc => by
    cases e
    · exact ⟨rfl, Or.inr (by simp)⟩
    · trivial
  | c :: rest, true, s, unc => by
    rw [skipWsO]
    split <;> exact skipS_step (skipWsO_spec C e rest _ _ _)
  | c :: rest, false, s, unc => by
    rw [skipWsO]
    split
    · exact skipS_step (skipWsO_spec C e rest _ _ _)
    · split
      · exact skipS_step (skipWsO_spec C e rest _ _ _)
      · exact ⟨[], rfl, rfl, by simp⟩

theorem skipS_rune {s s' : S} {c : RP} {inp rest : List RP} (h : SkipS s [] inp (.rune s' c rest)) :
    ∃ ws, ws ++ c :: rest = inp ∧ Adv s ws s' :=
  let ⟨ws, h1, h2, h3⟩ := h; ⟨ws, h1, adv_of h2 h3⟩

theorem skipS_end {s s' : S} {inp : List RP} (h : SkipS s [] inp (.end_ s')) :
    s'.bo = s.bo + size inp ∧ (s'.doc = s.doc ∨ Adv s inp s') :=
  ⟨h.1, h.2.imp id (adv_of h.1)⟩

theorem allNul_append {a b : List RP} : AllNul (a ++ b) ↔ AllNul a ∧ AllNul b := by
  simp [AllNul, or_imp, forall_and]

theorem allNul_nil : AllNul [] := by intro z hz; cases hz

theorem disc_advance {inp0 : List RP} {s s2 : S} {rest rest2 Y : List RP} (hD : Disc inp0 s rest) (hOn2 : On s2)
    (ht : txt s2 = txt s ++ Y) (hr : Y ++ rest2 = rest) : Disc inp0 s2 rest2 := by
  obtain ⟨_, hD⟩ := hD
  refine ⟨hOn2, ?_⟩
  rcases hD with hL | ⟨pre, zs, h1, h2, h3, h4⟩
  · exact Or.inl (by rw [ht, List.append_assoc, hr, hL])
  · subst hr
    rw [allNul_append] at h4
    exact Or.inr ⟨pre, zs ++ Y, by rw [ht, h1, List.append_assoc], h2, allNul_append.2 ⟨h3, h4.1⟩, h4.2⟩

/-- the reader ended: everything left was read, `Y` (nothing or all of it) committed, then zero runes -/
theorem disc_dead {inp0 : List RP} {s s2 : S} {rest rest2 Y Z : List RP} (hD : Disc inp0 s rest) (hOn2 : On s2)
    (ht : txt s2 = txt s ++ Y ++ Z) (hY : Y = [] ∨ Y = rest) (hZ : AllNul Z) (hr : AllNul rest2) :
    Disc inp0 s2 rest2 := by
  obtain ⟨_, hD⟩ := hD
  refine ⟨hOn2, Or.inr ?_⟩
  rcases hD with hL | ⟨pre, zs, h1, h2, h3, h4⟩
  · rcases hY with rfl | rfl
    · exact ⟨txt s, Z, by rw [ht]; simp, hL ▸ List.prefix_append _ _, hZ, hr⟩
    · exact ⟨inp0, Z, by rw [ht, hL], List.prefix_refl _, hZ, hr⟩
  · have hYn : AllNul Y := by rcases hY with rfl | rfl; exact allNul_nil; exact h4
    exact ⟨pre, zs ++ Y ++ Z, by rw [ht, h1]; simp [List.append_assoc], h2,
      allNul_append.2 ⟨allNul_append.2 ⟨h3, hYn⟩, hZ⟩, hr⟩

theorem allNul_of_append_eq {X r : List RP} (h : X ++ r = [((0, 0) : RP)]) : AllNul X ∧ AllNul r := by
  have : AllNul (X ++ r) := by rw [h]; intro z hz; simpa using hz
  exact allNul_append.1 this

theorem scanFnO_ok (C : CfgO) (e : End) (f : FrameO) (inp0 rest : List RP) (env : Env) (s : S)
    (hD : Disc inp0 s rest) (hf : FrameIn (txt s) f) :
    ∀ o, scanFnO C e f rest env s = .ok o → Disc inp0 o.s o.inp ∧ txt s <+: txt o.s ∧ OutIn (txt o.s) o := by
  intro o ho
  have hOn := hD.1
  have hsk := skipWsO_spec C e rest false s []
  unfold scanFnO at ho
  cases hq : skipWsO C e false s rest [] with
  | commentIo => rw [hq] at ho; cases ho
  | end_ s' =>
    rw [hq] at ho hsk
    obtain ⟨Y, hOn', hY1, hY2⟩ : ∃ Y, On s' ∧ txt s' = txt s ++ Y ∧ (Y = [] ∨ Y = rest) := by
      rcases (skipS_end hsk).2 with h | h
      · exact ⟨[], by unfold On; rwa [h], by unfold txt; rw [h, List.append_nil], Or.inl rfl⟩
      · exact ⟨rest, h.2.1.2 hOn, h.2.2 hOn, Or.inr rfl⟩
    have hpre : txt s <+: txt s' := hY1 ▸ List.prefix_append _ _
    simp only at ho
    by_cases hk : f.k = .statement
    · -- reader_scanStatement / reader_scan_trigDoc at the end of the input: terminate()
      rw [hk] at ho
      cases e with
      | ioerr => cases ho
      | eof =>
        cases ho
        refine ⟨disc_dead hD hOn' (Z := []) (by simpa using hY1) hY2 allNul_nil allNul_nil, hpre, ?_⟩
        unfold OutIn
        exact ⟨fun f h => (by cases h), fun f h => (by cases h), fun m h => (by cases h)⟩
    · obtain ⟨g1, ⟨X, g2, g3⟩, g4⟩ := (stepFnO_step C e env f.k .fail (fun h => hk h.1)).ok_on hOn'
        (ctxIn_mono hf.1 hpre) (rgIn_mono hf.2 hpre) ho
      obtain ⟨hX, hr⟩ := allNul_of_append_eq g3
      exact ⟨disc_dead hD g1 (by rw [g2, hY1]) hY2 hX hr, hpre.trans (g2 ▸ List.prefix_append _ _), g4⟩
  | rune s' c rest' =>
    rw [hq] at ho hsk
    obtain ⟨ws, hws, hA⟩ := skipS_rune hsk
    have hOn' := hA.2.1.2 hOn
    have ht' := hA.2.2 hOn
    have hpre : txt s <+: txt s' := ht' ▸ List.prefix_append _ _
    simp only at ho
    obtain ⟨g1, ⟨X, g2, g3⟩, g4⟩ := (stepFnO_step C e env f.k (.rune c rest') (fun h => nomatch h.2)).ok_on hOn'
      (ctxIn_mono hf.1 hpre) (rgIn_mono hf.2 hpre) ho
    refine ⟨disc_advance hD g1 (Y := ws ++ X) (by rw [g2, ht', List.append_assoc]) ?_,
      hpre.trans (g2 ▸ List.prefix_append _ _), g4⟩
    rw [List.append_assoc, g3]; exact hws

def InvC (inp : List RP) (cur : Option FrameO) (st : StO) : Prop :=
  Inv inp st ∧ ∀ f, cur = some f → FrameIn (txt st.s) f

theorem scanO_inv (C : CfgO) (e : End) (f : FrameO) (st : StO) (inp : List RP) (hI : Inv inp st)
    (hf : FrameIn (txt st.s) f) : ∀ cur st2, scanO C e f st = .ok cur st2 → InvC inp cur st2 := by
  intro cur st2 h
  unfold scanO at h
  cases hq : scanFnO C e f st.inp st.env st.s with
  | panic => rw [hq] at h; cases h
  | err k o => rw [hq] at h; cases h
  | ok o =>
    rw [hq] at h
    simp only [ScanResO.ok.injEq] at h
    obtain ⟨rfl, rfl⟩ := h
    obtain ⟨hD, hpre, hc, hpush, hemit⟩ := scanFnO_ok C e f inp st.inp st.env st.s hI.1 hf o hq
    refine ⟨⟨hD, ?_, ?_⟩, hc⟩
    · intro g hg
      simp only [applyOutO] at hg
      split at hg
      · cases hg
      · simp only [List.mem_append, List.mem_reverse] at hg
        rcases hg with hg | hg
        · exact hpush g hg
        · exact frameIn_mono (hI.2.1 g hg) hpre
    · intro m hm
      simp only [applyOutO, List.mem_append, Option.mem_toList] at hm
      rcases hm with hm | hm
      · exact stmtIn_mono (hI.2.2 m hm) hpre
      · exact hemit m hm

theorem popFrameO_spec {cur : Option FrameO} {st st1 : StO} {f : FrameO} (h : popFrameO cur st = some (f, st1)) :
    ∃ stk, st1 = { st with stack := stk } ∧ (cur = some f ∧ stk = st.stack ∨ cur = none ∧ st.stack = f :: stk) := by
  cases cur with
  | some g => cases h; exact ⟨_, rfl, Or.inl ⟨rfl, rfl⟩⟩
  | none =>
    unfold popFrameO at h
    cases hs : st.stack with
    | nil => rw [hs] at h; cases h
    | cons g stk => rw [hs] at h; cases h; exact ⟨stk, rfl, Or.inr ⟨rfl, rfl⟩⟩

def NextInv (inp : List RP) : NextResO → Prop
  | .yes st => Inv inp st
  | .no st => Inv inp st
  | .panic => True
  | .outOfFuel => True

theorem nextLoopO_inv (C : CfgO) (e : End) (inp : List RP) : ∀ (fuel : Nat) (cur : Option FrameO) (st : StO),
    InvC inp cur st → NextInv inp (nextLoopO C e fuel cur st)
  | 0, _, _, _ => trivial
  | fuel + 1, cur, st, h => by
    simp only [nextLoopO]
    split
    · exact h.1
    · split
      · -- Next() = true: rsNext is pushed back
        cases cur with
        | none => exact h.1
        | some f =>
          refine ⟨h.1.1, ?_, h.1.2.2⟩
          intro g hg
          simp only [pushCurO, List.mem_cons] at hg
          rcases hg with rfl | hg
          · exact h.2 g rfl
          · exact h.1.2.1 g hg
      · cases hq : popFrameO cur st with
        | none => exact h.1
        | some p =>
          obtain ⟨f, st1⟩ := p
          obtain ⟨stk, rfl, hc⟩ := popFrameO_spec hq
          have hp : Inv inp { st with stack := stk } ∧ FrameIn (txt st.s) f := by
            rcases hc with ⟨rfl, rfl⟩ | ⟨rfl, hs⟩
            · exact ⟨h.1, h.2 f rfl⟩
            · exact ⟨⟨h.1.1, fun g hg => h.1.2.1 g (hs ▸ List.mem_cons_of_mem _ hg), h.1.2.2⟩,
                h.1.2.1 f (hs ▸ List.mem_cons_self)⟩
          simp only []
          cases hs : scanO C e f { st with stack := stk } with
          | panic => trivial
          | err k o => exact nextLoopO_inv C e inp fuel none _ ⟨⟨hp.1.1, hp.1.2.1, hp.1.2.2⟩, fun g hg => by cases hg⟩
          | ok cur' st2 => exact nextLoopO_inv C e inp fuel cur' st2 (scanO_inv C e f _ inp hp.1 hp.2 cur' st2 hs)

theorem nextO_inv (C : CfgO) (e : End) (inp : List RP) (st : StO) (h : Inv inp st) :
    NextInv inp (nextO C e st) := by
  unfold nextO
  refine nextLoopO_inv C e inp _ none _ ⟨⟨h.1, h.2.1, ?_⟩, fun g hg => by cases hg⟩
  intro m hm
  exact h.2.2 m (List.mem_of_mem_drop hm)

theorem initO_inv (base : Option (List Nat)) (prefixes : List (List Nat × List Nat)) (inp : List RP) :
    Inv inp (initO true base prefixes inp) := by
  refine ⟨⟨rfl, Or.inl rfl⟩, ?_, fun m hm => by cases hm⟩
  intro f hf
  simp only [initO, List.mem_singleton] at hf
  subst hf
  exact ⟨⟨rgIn_none _, rgIn_none _, rgIn_none _⟩, rgIn_none _⟩

theorem prefix_of_append {l p zs : List RP} (h : l <+: p ++ zs) : ∃ p' zs', l = p' ++ zs' ∧ p' <+: p ∧ zs' <+: zs := by
  induction p generalizing l with
  | nil => exact ⟨[], l, rfl, List.prefix_refl _, by simpa using h⟩
  | cons a p ih =>
    cases l with
    | nil => exact ⟨[], [], rfl, List.nil_prefix, List.nil_prefix⟩
    | cons b l =>
      simp only [List.cons_append, List.cons_prefix_cons] at h
      obtain ⟨rfl, h⟩ := h
      obtain ⟨p', zs', h1, h2, h3⟩ := ih h
      exact ⟨b :: p', zs', by simp [h1], by simp [List.cons_prefix_cons, h2], h3⟩

theorem rgInside_of {inp : List RP} {s : S} {rest : List RP} {rg : Rg} (hD : Disc inp s rest)
    (h : RgIn (txt s) rg) : RgInside inp rg := by
  intro r hr
  obtain ⟨h1, h2⟩ := h r hr
  refine ⟨h1, ?_⟩
  rcases hD.2 with hL | ⟨pre, zs, g1, g2, g3, _⟩
  · exact ⟨histRunes r.2, [], by simp, h2.trans (hL ▸ List.prefix_append _ _), allNul_nil⟩
  · rw [g1] at h2
    obtain ⟨p', zs', k1, k2, k3⟩ := prefix_of_append h2
    refine ⟨p', zs', k1, k2.trans g2, ?_⟩
    intro z hz
    exact g3 z (k3.subset hz)

def StmtInside (inp : List RP) (m : StmtO) : Prop :=
  RgInside inp m.rg.s ∧ RgInside inp m.rg.p ∧ RgInside inp m.rg.o ∧ RgInside inp m.rg.g

theorem runLoopO_inside (C : CfgO) (e : End) (inp : List RP) : ∀ (n : Nat) (st : StO), Inv inp st →
    ∀ m ∈ (runLoopO C e n st).stmts, StmtInside inp m
  | 0, _, _ => by intro m hm; cases hm
  | n + 1, st, h => by
    intro m hm
    simp only [runLoopO] at hm
    have hn := nextO_inv C e inp st h
    cases hq : nextO C e st with
    | panic => rw [hq] at hm; cases hm
    | outOfFuel => rw [hq] at hm; cases hm
    | no st' =>
      rw [hq] at hm
      simp only at hm
      split at hm <;> cases hm
    | yes st' =>
      rw [hq] at hm hn
      simp only at hm
      cases hs : st'.stmts with
      | nil => rw [hs] at hm; cases hm
      | cons s0 ss =>
        rw [hs] at hm
        simp only [List.mem_cons] at hm
        rcases hm with rfl | hm
        · have := hn.2.2 m (by rw [hs]; exact List.mem_cons_self)
          exact ⟨rgInside_of hn.1 this.1, rgInside_of hn.1 this.2.1, rgInside_of hn.1 this.2.2.1,
            rgInside_of hn.1 this.2.2.2⟩
        · exact runLoopO_inside C e inp n st' hn m hm

end RdfModel.Proofs.C16TtlDocO
