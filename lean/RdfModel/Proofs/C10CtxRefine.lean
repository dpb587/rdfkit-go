import RdfModel.Model.JsonLdContext
import RdfModel.Proofs.C10Strings
namespace RdfModel.JLC
open RdfModel RdfModel.JL

variable {P : Type}

/-- the fragment's expanded IRIs: a blank node identifier is represented by its label -/
def toSpec : SIri → Exp
  | .nil => .null
  | .kw k => .kw k
  | .iri v => .iri v
  | .bnode v => .bnode (v.drop 2)

def TermsCorr (m : TermMap) (sc : Ctx) : Prop :=
  ∀ k, match mget k m, sc.term? k with
    | some d, some td => d.iri = .iri td.iri ∧ d.pfx = td.pfx
    | none, none => True
    | _, _ => False

/-- contexts correspond as far as IRI expansion looks at them; the resolution of `v` against the base is a
    hypothesis about the parsed-IRI operations (RFC 3986 §5.2 on both sides; tied separately by C12/C12W) -/
structure Corr (ops : IriOps P) (c : Core P) (sc : Ctx) (v : Str) : Prop where
  terms : TermsCorr c.terms sc
  vocab : c.vocab = sc.vocab.map SIri.iri
  baseNone : c.base = none → sc.base = none
  baseSome : ∀ b, c.base = some b → ∃ sb r p, sc.base = some sb ∧ ops.parse v = .ok r ∧ ops.resolve b r = some p ∧
    ops.str p = Spec.RFC3986Lite.resolve sb v

theorem splitColon_underscore (v suf : Str) (h : splitColon v = some ([cUnderscore], suf)) : v.drop 2 = suf := by
  rw [Proofs.C10.splitColon_eq h]; simp

theorem expandTail_refines (ops : IriOps P) (c : Core P) (sc : Ctx) (st : St P) (v : Str) (docRel vocab : Bool)
    (hc : Corr ops c sc v) :
    ∃ e, expandTail ops c st v docRel vocab = .ok e st ∧ toSpec e = expandRel sc vocab docRel v := by
  unfold expandTail expandRel
  rw [hc.vocab]
  cases vocab <;> cases hv : sc.vocab <;> simp [toSpec]
  all_goals
    cases docRel
    · simp
    · cases hb : c.base with
      | none => simp [hc.baseNone hb]
      | some b =>
        obtain ⟨sb, r, p, h1, h2, h3, h4⟩ := hc.baseSome b hb
        simp [h1, h2, h3, h4]

theorem termsCorr_some {m : TermMap} {sc : Ctx} (h : TermsCorr m sc) {k : Str} {d : TermDef} (hm : mget k m = some d) :
    ∃ td, sc.term? k = some td ∧ d.iri = .iri td.iri ∧ d.pfx = td.pfx := by
  have := h k
  rw [hm] at this
  cases hs : sc.term? k with
  | none => simp [hs] at this
  | some td => simp only [hs] at this; exact ⟨td, rfl, this⟩

theorem termsCorr_none {m : TermMap} {sc : Ctx} (h : TermsCorr m sc) {k : Str} (hm : mget k m = none) :
    sc.term? k = none := by
  have := h k
  rw [hm] at this
  cases hs : sc.term? k with
  | none => rfl
  | some td => simp [hs] at this

/-- steps 6–9 of the fragment's `expandIri` -/
def specRest (sc : Ctx) (vocab docRel : Bool) (v : Str) : Exp :=
  match (if colonAfterFirst v then splitColon v else none) with
  | some (p, s) =>
    if p = [cUnderscore] then .bnode s
    else if s.take 2 = [cSlash, cSlash] then .iri v
    else
      match sc.term? p with
      | some td => if td.pfx then .iri (td.iri ++ s) else
          if isScheme p then .iri v else expandRel sc vocab docRel v
      | none => if isScheme p then .iri v else expandRel sc vocab docRel v
  | none => expandRel sc vocab docRel v

theorem expandIri_eq (sc : Ctx) (vocab docRel : Bool) (v : Str) :
    expandIri sc vocab docRel v =
      if isKeyword v then .kw v else if isKeywordForm v then .null else
        match (if vocab then sc.term? v else none) with
        | some td => .iri td.iri
        | none => specRest sc vocab docRel v := rfl

theorem iriExpandRest_refines (ops : IriOps P) (cb : St P → Str → Res P Unit) (st : St P) (sc : Ctx) (v : Str)
    (docRel vocab : Bool) (hc : Corr ops st.ctx.core sc v) :
    ∃ e, iriExpandRest ops cb none st v docRel vocab = .ok e st ∧ toSpec e = specRest sc vocab docRel v := by
  unfold iriExpandRest specRest
  cases hsp : (if colonAfterFirst v = true then splitColon v else none) with
  | none => exact expandTail_refines ops _ sc st v docRel vocab hc
  | some ps =>
    obtain ⟨p, suf⟩ := ps
    dsimp only
    by_cases hu : p = [cUnderscore]
    · subst hu
      have : splitColon v = some ([cUnderscore], suf) := by
        split at hsp
        · exact hsp
        · simp at hsp
      simp [toSpec, splitColon_underscore v suf this]
    · have hu' : (p == [cUnderscore]) = false := by simpa using hu
      simp only [hu', hu, Bool.false_eq_true, if_false]
      by_cases hss : suf.take 2 = [cSlash, cSlash]
      · simp [hss, toSpec]
      · have hss' : (suf.take 2 == [cSlash, cSlash]) = false := by simpa using hss
        simp only [hss', hss, Bool.false_eq_true, if_false, Res.bind, hasIRIScheme]
        cases hm : mget p st.ctx.core.terms with
        | some d =>
          obtain ⟨td, h1, h2, h3⟩ := termsCorr_some hc.terms hm
          simp only [h1, h2, h3]
          cases td.pfx
          · simp only [Bool.false_eq_true, if_false]
            by_cases hsch : isScheme p = true
            · simp [hsch, toSpec]
            · simp only [hsch, if_false, Bool.false_eq_true]
              exact expandTail_refines ops _ sc st v docRel vocab hc
          · simp [toSpec]
        | none =>
          simp only [termsCorr_none hc.terms hm]
          by_cases hsch : isScheme p = true
          · simp [hsch, toSpec]
          · simp only [hsch, if_false, Bool.false_eq_true]
            exact expandTail_refines ops _ sc st v docRel vocab hc

theorem iriExpandBody_refines (ops : IriOps P) (cb : St P → Str → Res P Unit) (st : St P) (sc : Ctx) (v : Str)
    (docRel vocab : Bool) (hc : Corr ops st.ctx.core sc v) :
    ∃ e, iriExpandBody ops cb none st v docRel vocab = .ok e st ∧ toSpec e = expandIri sc vocab docRel v := by
  rw [expandIri_eq]
  unfold iriExpandBody
  by_cases h1 : isKeyword v = true
  · simp [h1, toSpec]
  by_cases h2 : isKeywordForm v = true
  · simp [h1, h2, toSpec]
  simp only [h1, h2, Bool.false_eq_true, if_false, Res.bind]
  cases hm : mget v st.ctx.core.terms with
  | some d =>
    obtain ⟨td, h1, h2, h3⟩ := termsCorr_some hc.terms hm
    simp only [h1, h2]
    cases vocab
    · simp only [Bool.false_eq_true, if_false]
      exact iriExpandRest_refines ops cb st sc v docRel false hc
    · simp [toSpec]
  | none =>
    have hs := termsCorr_none hc.terms hm
    have : (if vocab = true then sc.term? v else none) = none := by cases vocab <;> simp [hs]
    simp only [this]
    exact iriExpandRest_refines ops cb st sc v docRel vocab hc

end RdfModel.JLC
