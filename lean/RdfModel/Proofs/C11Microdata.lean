import RdfModel.Spec.MicrodataFragment
namespace RdfModel.Spec.Microdata
open RdfModel RdfModel.Spec.Html RdfModel.Desc


-- `flatMap_filter_nil` carries the section's `[DecidableEq β]` without using it
set_option linter.unusedSectionVars false

variable {β : Type} [DecidableEq β]

theorem mem_udedup {α : Type} [DecidableEq α] (x : α) (l : List α) : x ∈ udedup l ↔ x ∈ l := by
  induction l with
  | nil => simp [udedup]
  | cons y ys ih =>
    simp only [udedup]
    split
    · rename_i h
      rw [ih]; constructor
      · intro hx; exact List.mem_cons_of_mem _ hx
      · intro hx
        rcases List.mem_cons.mp hx with rfl | hx
        · exact ih.mp h
        · exact hx
    · simp [ih]

theorem nodup_udedup {α : Type} [DecidableEq α] (l : List α) : (udedup l).Nodup := by
  induction l with
  | nil => simp [udedup]
  | cons y ys ih =>
    simp only [udedup]
    split
    · exact ih
    · rename_i h; exact List.nodup_cons.mpr ⟨h, ih⟩

theorem nodup_map_inj {α γ : Type} (f : α → γ) (l : List α) (h : (l.map f).Nodup) {a b : α}
    (ha : a ∈ l) (hb : b ∈ l) (hab : f a = f b) : a = b := by
  induction l with
  | nil => cases ha
  | cons x xs ih =>
    simp only [List.map_cons, List.nodup_cons, List.mem_map, not_exists, not_and] at h
    rcases List.mem_cons.mp ha with hax | ha' <;> rcases List.mem_cons.mp hb with hbx | hb'
    · rw [hax, hbx]
    · subst hax; exact absurd hab.symm (h.1 b hb')
    · subst hbx; exact absurd hab (h.1 a ha')
    · exact ih h.2 ha' hb'

omit [DecidableEq β] in
theorem mem_termBnodes (b : β) (x : Term β) : b ∈ termBnodes x ↔ x = .bnode b := by
  cases x <;> simp [termBnodes, eq_comm]

theorem mem_bnodesOf (g : List (Triple β)) (b : β) : b ∈ bnodesOf g ↔ ∃ t ∈ g, t.s = .bnode b ∨ t.o = .bnode b := by
  simp [bnodesOf, mem_udedup, mem_termBnodes]

theorem mem_bsubjectsOf (g : List (Triple β)) (b : β) : b ∈ bsubjectsOf g ↔ ∃ t ∈ g, t.s = .bnode b := by
  simp [bsubjectsOf, mem_udedup, mem_termBnodes]

theorem map_congr_on (g : List (Triple β)) (f f' : β → Path) (h : ∀ b ∈ bnodesOf g, f b = f' b) :
    g.map (Triple.map f) = g.map (Triple.map f') := by
  apply List.map_congr_left
  intro t ht
  obtain ⟨s, p, o⟩ := t
  have hs : Term.map f s = Term.map f' s := by
    cases s with
    | bnode b => simp [Term.map, h b ((mem_bnodesOf g b).2 ⟨_, ht, .inl rfl⟩)]
    | _ => rfl
  have ho : Term.map f o = Term.map f' o := by
    cases o with
    | bnode b => simp [Term.map, h b ((mem_bnodesOf g b).2 ⟨_, ht, .inr rfl⟩)]
    | _ => rfl
  simp [Triple.map, hs, ho]

theorem candSigma_injective (lbl : β → Str) (hinj : Function.Injective lbl) (g : List (Triple β)) (pos : β → Path)
    (hnd : ((bnodesOf g).map pos).Nodup) (hhead : ∀ b ∈ bnodesOf g, (pos b).head? ≠ some 0) :
    Function.Injective (candSigma lbl g pos) := by
  intro a b hab
  simp only [candSigma] at hab
  by_cases ha : a ∈ bnodesOf g <;> by_cases hb : b ∈ bnodesOf g <;> simp only [ha, hb, if_true, if_false] at hab
  · exact nodup_map_inj pos _ hnd ha hb hab
  · exact absurd (by rw [hab]; rfl) (hhead a ha)
  · exact absurd (by rw [← hab]; rfl) (hhead b hb)
  · exact hinj (List.cons.inj hab).2

theorem validDoc_sound (lbl : β → Str) (hinj : Function.Injective lbl) (base : Str) (g : List (Triple β)) (doc : Tree)
    (pos : β → Path) (h : validDoc base g doc pos = true) :
    Function.Injective (candSigma lbl g pos) ∧ (denote base doc).Perm (g.map (Triple.map (candSigma lbl g pos))) := by
  simp only [validDoc, Bool.and_eq_true, List.isPerm_iff, decide_eq_true_eq, List.all_eq_true, bne_iff_ne, ne_eq] at h
  obtain ⟨⟨h1, h2⟩, h3⟩ := h
  refine ⟨candSigma_injective lbl hinj g pos h2 h3, ?_⟩
  rw [map_congr_on g (candSigma lbl g pos) pos (fun b hb => by simp [candSigma, hb])]
  exact h1

theorem kidAt_eq (ks : List Tree) (i : Nat) : kidAt ks i = ks[i]? := by
  induction ks generalizing i with
  | nil => cases i <;> rfl
  | cons k ks ih => cases i with
    | zero => rfl
    | succ i => simp [kidAt, ih]

theorem nodeAt_nil (t : Tree) : nodeAt t [] = some t := by cases t <;> rfl

theorem nodeAt_append (t : Tree) (p q : Path) : nodeAt t (p ++ q) = (nodeAt t p).bind (fun u => nodeAt u q) := by
  induction p generalizing t with
  | nil => cases t <;> cases q <;> simp [nodeAt]
  | cons i rest ih =>
    cases t with
    | text s => simp [nodeAt]
    | elem tag a ks =>
      simp only [List.cons_append, nodeAt]
      cases kidAt ks i with
      | none => simp
      | some k => simp [ih]

/-- the value of a canonical property element -/
def valueOf (base : Str) : Term β → T
  | .lit lex _ _ => strLit lex
  | .iri i => .iri (resolveUrl base i)
  | .bnode _ => strLit []

def leafOk (t : Triple β) : Prop := fields t.p = [t.p] ∧ ∀ b, t.o ≠ .bnode b

omit [DecidableEq β] in
theorem canonLeaf_shape (t : Triple β) (h : leafOk t) :
    ∃ tag a, canonLeaf t = .elem tag a [] ∧ a.itemscope = false ∧ names a = [t.p] ∧
      ∀ base here, value base here (.elem tag a []) = valueOf base t.o := by
  obtain ⟨s, p, o⟩ := t
  obtain ⟨hp, hb⟩ := h
  cases o with
  | lit lex dt lang =>
    exact ⟨.metaEl, _, rfl, rfl, by simp [names, hp, uniq], by intro base here; simp [value, valueOf]⟩
  | iri i =>
    exact ⟨.link, _, rfl, rfl, by simp [names, hp, uniq], by intro base here; simp [value, valueOf]⟩
  | bnode b => exact absurd rfl (hb b)

def mkItem (x : Attrs × List (Triple β)) : Tree := .elem .div x.1 (x.2.map canonLeaf)

/-- an item without itemref and without itemtype over leaf triples. With the `itemtype = none` part left out it is
    `Mdd.Typed.itemOkT` (C11MdTyped); C11MdItems, which does not import that file, writes those three conjuncts out as a hypothesis -/
def itemOk (x : Attrs × List (Triple β)) : Prop :=
  x.1.itemscope = true ∧ x.1.itemref = none ∧ x.1.itemtype = none ∧ ∀ t ∈ x.2, leafOk t

theorem flatMap_filter_nil {α : Type} (bs : List α) (p : α → Triple β → Bool) :
    bs.flatMap (fun b => ([] : List (Triple β)).filter (p b)) = [] := by
  induction bs with
  | nil => rfl
  | cons b bs ih => simp [List.flatMap_cons]

theorem flatMap_congr' {α γ : Type} (l : List α) (f f' : α → List γ) (h : ∀ x ∈ l, f x = f' x) :
    l.flatMap f = l.flatMap f' := by
  induction l with
  | nil => rfl
  | cons x xs ih =>
    simp only [List.flatMap_cons, h x (by simp), ih (fun y hy => h y (by simp [hy]))]

end RdfModel.Spec.Microdata

namespace RdfModel.Mdd.Typed
open RdfModel.Spec.Html

-- in this file because the streaming order (C11MdStream, C11MdRefSpec) and the item lists (C11MdItems) are written with it
/-- the item's types as the fragment semantics reads them -/
def typesOf (a : Attrs) : List Str := match a.itemtype with | some v => Spec.Html.fields v | none => []

end RdfModel.Mdd.Typed
