import RdfModel.Props.C08Doc
import RdfModel.Proofs.C08Assemble
import RdfModel.Proofs.C01Enc
namespace RdfModel.C07NT
open RdfModel RdfModel.TA RdfModel.Spec.TtlPrint RdfModel.C08

def chIri (Tn : NQ.Tables) (a : Bool) (c : Nat) : Choice :=
  Proofs.C02Tok.iriModeChoice (lookup (Tn.iriEsc a) 0 c)

def chLit (Tn : NQ.Tables) (a : Bool) (c : Nat) : Choice :=
  Proofs.C02Tok.litModeChoice (lookup (Tn.litEsc a) 0 c)

theorem hex4c_eq (c : Nat) : hex4c false c = hex4 c := rfl

theorem iriRawOK_of {c : Nat} (h : C01.iriRawOK c) : Spec.TtlPrint.iriRawOK c = true := by
  unfold C01.iriRawOK at h
  simp only [Spec.TtlPrint.iriRawOK, Bool.not_eq_true', Bool.or_eq_false_iff, decide_eq_false_iff_not]
  omega

theorem iriRune_eq (Tn : NQ.Tables) (hTn : C01.TablesOK Tn) (a : Bool) (c : Nat) (hc : c ≤ 0x10FFFF) :
    printIriRune (chIri Tn a c) c = NQ.escIRIRune Tn a c :=
  Proofs.C02Tok.printIriRune_mode (hTn.iri_mode a c) (fun h => iriRawOK_of (hTn.iri_raw a c h))
    (hTn.iri_u4 a c) hc

theorem iriBody_eq (Tn : NQ.Tables) (hTn : C01.TablesOK Tn) (a : Bool) (v : List Nat)
    (h : ∀ c ∈ v, c ≤ 0x10FFFF) : printIriBody (v.map (chIri Tn a)) v = NQ.iriBody Tn a v :=
  Proofs.C02Tok.printIriBody_map _ _ v fun c hc => iriRune_eq Tn hTn a c (h c hc)

theorem writeIRI_eq (Tn : NQ.Tables) (hTn : C01.TablesOK Tn) (a : Bool) (v : List Nat) (h : ∀ c ∈ v, c ≤ 0x10FFFF) :
    printIRIREF (v.map (chIri Tn a)) v = NQ.writeIRI Tn a v := by
  simp [printIRIREF, NQ.writeIRI, iriBody_eq Tn hTn a v h]

theorem litRune_eq (Tn : NQ.Tables) (hTn : C01.TablesOK Tn) (hGn : C01.TablesGrammar Tn) (a : Bool) (c : Nat)
    (hc : c ≤ 0x10FFFF) : printStrRune .dq (chLit Tn a c) c = NQ.escLitRune Tn a c :=
  Proofs.C02Tok.printStrRune_mode (hTn.lit_mode a c)
    (fun h => ⟨hTn.lit_raw a c h, hGn.lit_raw_eol a c h⟩) (hTn.lit_echar a c) (hTn.lit_u4 a c) fun _ => hc

theorem litBody_eq (Tn : NQ.Tables) (hTn : C01.TablesOK Tn) (hGn : C01.TablesGrammar Tn) (a : Bool)
    (v : List Nat) (k : Nat) (h : ∀ c ∈ v, c ≤ 0x10FFFF) :
    printStrBody .dq k (v.map (chLit Tn a)) v = NQ.litBody Tn a v :=
  Proofs.C02Tok.printStrBody_map _ _ v (fun c hc => litRune_eq Tn hTn hGn a c (h c hc)) k

theorem quoted_eq (Tn : NQ.Tables) (hTn : C01.TablesOK Tn) (hGn : C01.TablesGrammar Tn) (a : Bool) (v : List Nat)
    (h : ∀ c ∈ v, c ≤ 0x10FFFF) :
    printString .dq (v.map (chLit Tn a)) v = 0x22 :: (NQ.litBody Tn a v ++ [0x22]) := by
  simp [printString, quotes, Style.long, Style.delim, litBody_eq Tn hTn hGn a v 0 h]

section doc
variable {β : Type}

/- The abstract triple of a quad.  For positions a well-formed quad cannot have (a literal subject, a
   predicate that is no IRI) the value is junk (`.anon`, `.a`); every lemma below assumes `WFQuad`. -/
def subjOf (label : β → List Nat) : Term β → Subj
  | .iri v => .iri (.ref v)
  | .bnode b => .bn (label b)
  | .lit .. => .anon

def objOf (label : β → List Nat) : Term β → Obj
  | .iri v => .iri (.ref v)
  | .bnode b => .bn (label b)
  | .lit l d t =>
    if d = xsdString then .lit (.plain l)
    else if d = rdfLangString then (match t with | some tag => .lit (.lang l tag) | none => .lit (.plain l))
    else .lit (.typed l (.ref d))

def verbOfT : Term β → Verb
  | .iri v => .iri (.ref v)
  | _ => .a

def blockOf (label : β → List Nat) (q : Quad β) : Block :=
  .triples ⟨subjOf label q.s, [.mk (verbOfT q.p) [objOf label q.o]]⟩

def nodeSlot (Tn : NQ.Tables) (a : Bool) : Term β → Slot
  | .iri v => { cs := v.map (chIri Tn a), lay := [.ws 0] }
  | _ => { lay := [.ws 0] }

def objSlotsOf (Tn : NQ.Tables) (a : Bool) : Term β → List Slot
  | .lit l d _ =>
    if d = xsdString ∨ d = rdfLangString then [{ cs := l.map (chLit Tn a), lay := [.ws 0] }]
    else [{ cs := l.map (chLit Tn a) }, { cs := d.map (chIri Tn a), lay := [.ws 0] }]
  | t => [nodeSlot Tn a t]

/-- One slot per token of `subject verb object ;-slot ,-slot .`: the spelling choices of a term and one
    space after it (`.ws 0`); after the object's slots the object-list slot (`,`, unused) and the `;`-slot
    with `n := 0` (no semicolon written); last the `.`-slot, followed by a line feed (`.ws 2`). -/
def slotsOf (Tn : NQ.Tables) (a : Bool) (q : Quad β) : List Slot :=
  nodeSlot Tn a q.s :: nodeSlot Tn a q.p :: (objSlotsOf Tn a q.o ++ [{ n := 0 }, { n := 0 }, { lay := [.ws 2] }])

def docOf (label : β → List Nat) (qs : List (Quad β)) : Doc := qs.map (blockOf label)
/-- Slot 0 of `TA.print` is the layout before the first token: nothing is written there. -/
def choicesOf (Tn : NQ.Tables) (a : Bool) (qs : List (Quad β)) : Choices := { n := 0 } :: qs.flatMap (slotsOf Tn a)

theorem after_sp (T : Ttl.Tables) (k : Prev) (s : Slot) (rest : List Nat) (h : s.lay = [.ws 0]) :
    after T k s rest = 0x20 :: rest := by
  simp [after, h, renderLay, renderItem, wsRune]

theorem after_lf (T : Ttl.Tables) (k : Prev) (s : Slot) (rest : List Nat) (h : s.lay = [.ws 2]) :
    after T k s rest = 0x0a :: rest := by
  simp [after, h, renderLay, renderItem, wsRune]

theorem at_zero (pre l post : List Slot) (hk : 0 < l.length) :
    Choices.at (pre ++ l ++ post) pre.length = l.getD 0 { n := 0 } := by
  simp only [Choices.at, List.getD_eq_getElem?_getD]
  rw [List.append_assoc, List.getElem?_append_right (Nat.le_refl _), Nat.sub_self, List.getElem?_append_left hk]

open RdfModel.Proofs.C01 (nodeW objW graphW quadBody)
open RdfModel.Proofs.C02Doc (Agree agree_cons agree_append BItem BPr print_text)   -- Proofs/C08Assemble.lean

theorem subjSlots_subjOf (label : β → List Nat) {urlOk : List Nat → Bool} {s : Term β} (hs : C01.WFNode urlOk s) :
    subjSlots (subjOf label s) = 1 := by
  cases s with
  | lit l d t => exact absurd hs (by simp [C01.WFNode])
  | iri sv => rfl
  | bnode b => rfl

theorem objSlots_objOf (Tn : NQ.Tables) (a : Bool) (label : β → List Nat) {urlOk : List Nat → Bool} {o : Term β}
    (ho : C01.WFObject urlOk o) : objSlots (objOf label o) = (objSlotsOf Tn a o).length := by
  cases o with
  | iri ov => rfl
  | bnode b => rfl
  | lit l d t =>
    rcases Proofs.C01.wfLit_cases ho with ⟨hx, rfl⟩ | ⟨tag, hy, rfl, _⟩ | ⟨hx, hy, _, rfl⟩ <;>
      simp [objOf, objSlotsOf, objSlots, litSlots, Proofs.C01.xsd_ne_lang.symm, *]

theorem rng {v : List Nat} (hv : C01.Scalars v) : ∀ c ∈ v, c ≤ 0x10FFFF :=
  fun c hc => isScalar_le (hv c hc)

theorem pObj_node (T : Ttl.Tables) (Tn : NQ.Tables) (hTn : C01.TablesOK Tn) (a : Bool) (label : β → List Nat)
    {urlOk : List Nat → Bool} {t : Term β} (ht : C01.WFNode urlOk t) {ch : Choices} {i : Nat}
    (h : ch.at i = nodeSlot Tn a t) (R : List Nat) :
    pObj ⟨T, ch⟩ i (objOf label t) R = nodeW Tn a label t ++ 0x20 :: R := by
  cases t with
  | iri v => simp [pObj, pIri, iriText, iriKind, objOf, h, nodeSlot, after_sp, nodeW, writeIRI_eq Tn hTn a v (rng ht.1)]
  | bnode b => simp [pObj, pBNode, objOf, h, nodeSlot, after_sp, nodeW]
  | lit l d t => exact ht.elim

theorem pObj_lit (T : Ttl.Tables) (Tn : NQ.Tables) (hTn : C01.TablesOK Tn) (hGn : C01.TablesGrammar Tn) (a : Bool)
    (label : β → List Nat) {urlOk : List Nat → Bool} {l d : List Nat} {tg : Option (List Nat)}
    (ho : C01.WFLit urlOk l d tg) {ch : Choices} {i : Nat}
    (hsl : Agree ch i (objSlotsOf Tn a (.lit l d tg : Term β))) (R : List Nat) :
    pObj ⟨T, ch⟩ i (objOf label (.lit l d tg)) R = NQ.writeLiteral Tn a l d tg ++ 0x20 :: R := by
  obtain ⟨sfx, hw, hs⟩ := Proofs.C01.writeLiteral_wf Tn a ho
  have hq := quoted_eq Tn hTn hGn a l (rng ho.1)
  rw [hw]
  rcases hs with ⟨rfl, hx, rfl⟩ | ⟨t, rfl, hy, rfl, _⟩ | ⟨rfl, hx, hy, _, rfl⟩
  · simp only [objSlotsOf, hx, true_or, if_true, agree_cons] at hsl
    simp [pObj, pLit, objOf, hx, hsl.1, after_sp, hq]
  · simp only [objSlotsOf, hy, or_true, if_true, agree_cons] at hsl
    simp [pObj, pLit, objOf, hy, Proofs.C01.xsd_ne_lang.symm, hsl.1, after_sp, hq]
  · simp only [objSlotsOf, hx, hy, or_self, if_false, agree_cons] at hsl
    simp [pObj, pLit, pIri, iriText, iriKind, objOf, hx, hy, hsl.1, hsl.2.1, after_sp, hq,
      writeIRI_eq Tn hTn a d (rng ho.2.1.1)]

theorem pObj_obj (T : Ttl.Tables) (Tn : NQ.Tables) (hTn : C01.TablesOK Tn) (hGn : C01.TablesGrammar Tn) (a : Bool)
    (label : β → List Nat) {urlOk : List Nat → Bool} {t : Term β} (ht : C01.WFObject urlOk t) {ch : Choices} {i : Nat}
    (hsl : Agree ch i (objSlotsOf Tn a t)) (R : List Nat) :
    pObj ⟨T, ch⟩ i (objOf label t) R = objW Tn a label t ++ 0x20 :: R := by
  cases t with
  | lit l d tg => exact pObj_lit T Tn hTn hGn a label ht hsl R
  | iri v => exact pObj_node T Tn hTn a label (urlOk := urlOk) (t := .iri v) ht (agree_cons.1 hsl).1 R
  | bnode b => exact pObj_node T Tn hTn a label (urlOk := urlOk) (t := .bnode b) ht (agree_cons.1 hsl).1 R

theorem block_text (T : Ttl.Tables) (Tn : NQ.Tables) (hTn : C01.TablesOK Tn) (hGn : C01.TablesGrammar Tn) (a : Bool)
    (label : β → List Nat) (urlOk : List Nat → Bool) (q : Quad β) (hwf : C01.WFQuad urlOk q)
    (ch : Choices) (i : Nat) (hsl : Agree ch i (slotsOf Tn a q)) (rest : List Nat) :
    pBlock ⟨T, ch⟩ i (blockOf label q) rest = quadBody Tn a label false q ++ 0x0a :: rest := by
  obtain ⟨s, p, o, g⟩ := q
  obtain ⟨hs, hp, ho, _⟩ := hwf
  simp only at hs hp ho
  simp only [slotsOf, agree_cons, agree_append] at hsl
  obtain ⟨h0, h1, h2, _, hsemi, hdot, _⟩ := hsl
  have hsub : ∀ R, pSubj ⟨T, ch⟩ i (subjOf label s) R = nodeW Tn a label s ++ 0x20 :: R := fun R => by
    have := pObj_node T Tn hTn a label hs h0 R
    cases s with
    | lit _ _ _ => exact hs.elim
    | _ => exact this
  have hverb : ∀ R, pVerb ⟨T, ch⟩ (i + 1) (verbOfT p) R = nodeW Tn a label p ++ 0x20 :: R := fun R => by
    have := pObj_node T Tn hTn a label (t := p) (urlOk := urlOk) (by cases p with | iri _ => exact hp | _ => exact hp.elim) h1 R
    cases p with
    | iri _ => exact this
    | _ => exact hp.elim
  have hobj := pObj_obj T Tn hTn hGn a label ho h2
  have hss := subjSlots_subjOf label hs
  have hm := objSlots_objOf Tn a label ho
  -- where the printer looks for the `;`-slot (`e2`) and the `.`-slot (`e3`), in the form `hsemi`, `hdot` have it
  have e2 : i + 1 + (1 + ((objSlotsOf Tn a o).length + 1) + 1) - 1 = i + 1 + 1 + (objSlotsOf Tn a o).length + 1 := by omega
  have e3 : i + (1 + (1 + ((objSlotsOf Tn a o).length + 1) + 1 + 0) + 1) - 1 =
      i + 1 + 1 + (objSlotsOf Tn a o).length + 1 + 1 := by omega
  have hg : graphW Tn a label false g = [] := by cases g <;> rfl
  simp only [pBlock, blockOf, pStatement, pTriples, triplesSlots, hss, posSlots, poSlots, objsSlots, hm, pPOs, pPO, pObjs, e2,
    e3, hsemi, Nat.zero_mod, semis, hsub, hverb, hobj]
  simp [pPunct, after_lf, hdot, quadBody, hg]

theorem blockSlots_eq (Tn : NQ.Tables) (a : Bool) (label : β → List Nat) (urlOk : List Nat → Bool) (q : Quad β)
    (hwf : C01.WFQuad urlOk q) : blockSlots (blockOf label q) = (slotsOf Tn a q).length := by
  obtain ⟨s, p, o, g⟩ := q
  obtain ⟨hs, hp, ho, _⟩ := hwf
  simp only at hs hp ho
  have hss := subjSlots_subjOf label hs
  have hm := objSlots_objOf Tn a label ho
  simp [blockSlots, blockOf, triplesSlots, hss, posSlots, poSlots, objsSlots, hm, slotsOf]
  omega

def bitem (Tn : NQ.Tables) (a : Bool) (label : β → List Nat) (q : Quad β) : BItem :=
  ⟨blockOf label q, slotsOf Tn a q, (NQ.encodeQuad Tn a label false q).getD []⟩

theorem block_pr (T : Ttl.Tables) (Tn : NQ.Tables) (hTn : C01.TablesOK Tn) (hGn : C01.TablesGrammar Tn) (a : Bool)
    (label : β → List Nat) (urlOk : List Nat → Bool) (q : Quad β) (hwf : C01.WFQuad urlOk q) :
    BPr T (bitem Tn a label q) :=
  ⟨(blockSlots_eq Tn a label urlOk q hwf).symm, fun ch i rest h => by
    simp [bitem, Proofs.C01.encodeQuad_wf Tn a label urlOk false q hwf, block_text T Tn hTn hGn a label urlOk q hwf ch i h]⟩

theorem print_eq (T : Ttl.Tables) (Tn : NQ.Tables) (hTn : C01.TablesOK Tn) (hGn : C01.TablesGrammar Tn) (a : Bool)
    (label : β → List Nat) (urlOk : List Nat → Bool) (qs : List (Quad β)) (hwf : ∀ q ∈ qs, C01.WFQuad urlOk q) :
    print T (docOf label qs) (choicesOf Tn a qs) = NQ.encodeDoc Tn a label false qs := by
  have := print_text (T := T) (qs.map (bitem Tn a label)) (by
    simpa using fun q hq => block_pr T Tn hTn hGn a label urlOk q (hwf q hq))
  simpa [docOf, choicesOf, NQ.encodeDoc, List.flatMap_map, Function.comp_def, bitem] using this

theorem langRest_eq : ∀ (t : List Nat) (b : Bool), C01.langRest t b = C02.langRest t b := by
  intro t
  induction t with
  | nil => intro b; rfl
  | cons c t ih => intro b; simp only [C01.langRest, C02.langRest, ih]; rfl

theorem langPrim_eq : ∀ (t : List Nat) (b : Bool), C01.langPrim t b = C02.langPrim t b := by
  intro t
  induction t with
  | nil => intro b; rfl
  | cons c t ih => intro b; simp only [C01.langPrim, C02.langPrim, ih, langRest_eq]; rfl

theorem langOK_eq (t : List Nat) : C01.langOK t = C02.langOK t := langPrim_eq t false

theorem scalarsB_of {v : List Nat} (h : C01.Scalars v) : scalarsB v = true := by
  simp only [scalarsB, List.all_eq_true]
  intro c hc
  exact (isScalarB_iff c).2 (h c hc)

/-- the quad a triple of the dataset denotes (blank nodes by their labels, default graph) -/
def qB (label : β → List Nat) (q : Quad β) : QuadB :=
  { s := q.s.map (fun b => B.lbl (label b)), p := q.p.map (fun b => B.lbl (label b)),
    o := q.o.map (fun b => B.lbl (label b)), g := none }

theorem block_wf_denote (T : Ttl.Tables) (R : Resolver) (label : β → List Nat) (urlOk : List Nat → Bool)
    (hlab : ∀ b, labelWf T (label b) = true) (q : Quad β) (hwf : C01.WFQuad urlOk q) (st : DState) (hb : st.base = none) :
    blockWf T false (blockOf label q) = true ∧ blockNoBoolPfx (blockOf label q) = true ∧
      dBlock R st (blockOf label q) = some ([qB label q], st) := by
  obtain ⟨s, p, o, g⟩ := q
  obtain ⟨hs, hp, ho, _⟩ := hwf
  simp only at hs hp ho
  cases p with
  | bnode b => exact absurd hp (by simp [C01.WFPredicate])
  | lit l d t => exact absurd hp (by simp [C01.WFPredicate])
  | iri pv =>
    have hpv := scalarsB_of hp.1
    have hsub : subjWf T (subjOf label s) = true ∧ subjIsBnpl (subjOf label s) = false ∧
        dSubj R none st (subjOf label s) = some (s.map (fun b => B.lbl (label b)), [], st) := by
      cases s with
      | lit l d t => exact absurd hs (by simp [C01.WFNode])
      | iri sv => simp [subjOf, subjWf, iriWf, scalarsB_of hs.1, subjIsBnpl, dSubj, dObj, iriOf, hb, Term.map]
      | bnode b => simp [subjOf, subjWf, hlab b, subjIsBnpl, dSubj, dObj, Term.map]
    have hobj : objWf T (objOf label o) = true ∧ objNoBoolPfx (objOf label o) = true ∧
        dObj R none st (objOf label o) = some (o.map (fun b => B.lbl (label b)), [], st) := by
      cases o with
      | iri ov => simp [objOf, objWf, iriWf, scalarsB_of ho.1, objNoBoolPfx, dObj, iriOf, hb, Term.map]
      | bnode b => simp [objOf, objWf, hlab b, objNoBoolPfx, dObj, Term.map]
      | lit l d t =>
        have hls := scalarsB_of ho.1
        have hds := scalarsB_of ho.2.1.1
        rcases Proofs.C01.wfLit_cases ho with ⟨hx, rfl⟩ | ⟨tag, hy, rfl, htag⟩ | ⟨hx, hy, hz, rfl⟩
        · simp [objOf, hx, objWf, litWf, hls, objNoBoolPfx, dObj, litOf, Term.map]
        · rw [langOK_eq] at htag
          simp [objOf, hy, Proofs.C01.xsd_ne_lang.symm, objWf, litWf, hls, htag, objNoBoolPfx, dObj, litOf, Term.map]
        · simp [objOf, hx, hy, hz, objWf, litWf, iriWf, hls, hds, objNoBoolPfx, dObj, litOf, iriOf, hb, Term.map]
    obtain ⟨w1, w2, w3⟩ := hsub
    obtain ⟨o1, o2, o3⟩ := hobj
    refine ⟨?_, ?_, ?_⟩
    · simp [blockWf, blockOf, triplesWf, w1, posWf, poWf, verbOfT, verbWf, iriWf, hpv, itemsWf, o1]
    · simp [blockNoBoolPfx, blockOf, triplesNoBoolPfx, posNoBoolPfx, poNoBoolPfx, itemsNoBoolPfx, o2, subjNoBoolPfx]
      cases s <;> simp [subjOf]
    · simp [dBlock, blockOf, dTriples, w3, dPOs, dPO, verbOfT, verbOf, iriOf, hb, dObjs, o3, qB, Term.map]

theorem doc_wf_denote (T : Ttl.Tables) (R : Resolver) (label : β → List Nat) (urlOk : List Nat → Bool)
    (hlab : ∀ b, labelWf T (label b) = true) : ∀ (qs : List (Quad β)), (∀ q ∈ qs, C01.WFQuad urlOk q) →
    ∀ (st : DState), st.base = none →
    docWf T false (docOf label qs) = true ∧ docNoBoolPfx (docOf label qs) = true ∧
      dDoc R st (docOf label qs) = some (qs.map (qB label), st) := by
  intro qs
  induction qs with
  | nil => intro _ st _; simp [docOf, docWf, docNoBoolPfx, dDoc]
  | cons q qs ih =>
    intro hwf st hb
    obtain ⟨b1, b2, b3⟩ := block_wf_denote T R label urlOk hlab q (hwf q List.mem_cons_self) st hb
    obtain ⟨i1, i2, i3⟩ := ih (fun q' hq' => hwf q' (List.mem_cons_of_mem _ hq')) st hb
    simp only [docWf, docNoBoolPfx, docOf] at i1 i2 i3 ⊢
    refine ⟨by simp [b1, i1], by simp [b2, i2], by simp [dDoc, b3, i3]⟩

theorem choicesOK_of (Tn : NQ.Tables) (a : Bool) (qs : List (Quad β)) : choicesOK (choicesOf Tn a qs) = true := by
  have hn : ∀ t : Term β, slotOK (nodeSlot Tn a t) = true := fun t => by cases t <;> rfl
  have ho : ∀ t : Term β, (objSlotsOf Tn a t).all slotOK = true := fun t => by
    unfold objSlotsOf
    split
    · split <;> rfl
    · simp [hn]
  have h : ∀ q : Quad β, (slotsOf Tn a q).all slotOK = true := fun q => by
    simp only [slotsOf, List.all_cons, List.all_append, hn, ho]; rfl
  simp [choicesOK, choicesOf, List.all_flatMap, h, slotOK]

end doc
end RdfModel.C07NT
