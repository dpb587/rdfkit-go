/-
  The Microdata decoder model reads the writer's canonical document of every expressible graph
  back to that graph (composition of Proofs/C11MdItemList.decode_eq_denoteT with Proofs/C11MdItems.canonDoc_denote).
-/
import RdfModel.Proofs.C11MdItemList
import RdfModel.Proofs.TermMap
namespace RdfModel.Mdd
open RdfModel RdfModel.Desc RdfModel.Spec.Html RdfModel.Spec.Microdata

section
variable {β : Type} [DecidableEq β]

/-- the graph's names and subject IRIs are read by Go's (Unicode-aware) tokenisation exactly as by HTML's -/
def GoTok (g : List (Triple β)) : Prop :=
  ∀ t ∈ g, Mdd.fields (trimSpace t.p) = [t.p] ∧ t.p ≠ [] ∧ ∀ i, t.s = .iri i → trimSpace i = trimWs i

theorem canon_items_ok (base : Str) (g : List (Triple β)) (hg : expressible base g = true) (ht : GoTok g) :
    ∀ x ∈ canonA g ++ canonB g, itemOk x ∧ ItemTok x := by
  have hok : ∀ t ∈ g, okTriple base t = true := by simpa [expressible] using hg
  have leaf : ∀ t ∈ g, LeafTok t := by
    intro t htg
    refine ⟨(ht t htg).1, (ht t htg).2.1, (okTriple_leafOk base t (hok t htg)).2⟩
  intro x hx
  rcases List.mem_append.mp hx with hx | hx
  · obtain ⟨t, htF, rfl⟩ := List.mem_map.mp hx
    have htg : t ∈ g := (List.mem_filter.mp htF).1
    refine ⟨⟨rfl, rfl, rfl, ?_⟩, ⟨?_, ?_⟩⟩
    · intro t' ht'
      simp only [List.mem_singleton] at ht'
      subst ht'
      exact okTriple_leafOk base _ (hok _ htg)
    · intro v hv
      simp only at hv
      cases hs : t.s with
      | iri i =>
        rw [hs] at hv
        simp only [Option.some.injEq] at hv
        subst hv
        exact (ht t htg).2.2 i hs
      | _ => rw [hs] at hv; simp at hv
    · intro t' ht'
      simp only [List.mem_singleton] at ht'
      subst ht'
      exact leaf _ htg
  · obtain ⟨b, _, rfl⟩ := List.mem_map.mp hx
    refine ⟨⟨rfl, rfl, rfl, ?_⟩, ⟨?_, ?_⟩⟩
    · intro t' ht'
      exact okTriple_leafOk base _ (hok _ (List.mem_filter.mp ht').1)
    · intro v hv
      simp at hv
    · intro t' ht'
      exact leaf _ (List.mem_filter.mp ht').1

theorem bnodes_are_subjects (base : Str) (g : List (Triple β)) (hg : expressible base g = true) (b : β)
    (hb : b ∈ bnodesOf g) : b ∈ bsubjectsOf g := by
  have hok : ∀ t ∈ g, okTriple base t = true := by simpa [expressible] using hg
  obtain ⟨t, htg, h | h⟩ := (mem_bnodesOf g b).1 hb
  · exact (mem_bsubjectsOf g b).2 ⟨t, htg, h⟩
  · exact absurd h ((okTriple_leafOk base t (hok t htg)).2 b)

theorem canon_roundtrip (base : Str) (tm mm : List (Bytes → Option (Term Nat))) (g : List (Triple β))
    (hg : expressible base g = true) (ht : GoTok g) :
    ∃ (stmts : List Stmt) (τ : β → Nat),
      decode (specEnv base tm mm) (ofSpecDoc (canonDoc g)) = .ok stmts [] ∧
      (∀ a ∈ bnodesOf g, ∀ b ∈ bnodesOf g, τ a = τ b → a = b) ∧
      stmts.Perm (g.map (Triple.map τ)) := by
  let lbl : β → Str := fun _ => []
  let L := canonA g ++ canonB g
  have hL := canon_items_ok base g hg ht
  refine ⟨(denote base (canonDoc g)).map (Triple.map (sigmaL base L)), sigmaL base L ∘ canonPos lbl g, ?_, ?_, ?_⟩
  · rw [canonDoc_items g]
    exact Typed.decode_eq_denoteT base tm mm L fun x hx => ⟨⟨(hL x hx).1.1, (hL x hx).1.2.1, (hL x hx).1.2.2.2⟩, (hL x hx).2⟩
  · intro a ha b hb hab
    have ha' := bnodes_are_subjects base g hg a ha
    have hb' := bnodes_are_subjects base g hg b hb
    simp only [Function.comp, canonPos, ha', hb', ↓reduceIte] at hab
    have hlenA : (canonA g).length = (g.filter isIriSubj).length := by simp [canonA]
    have hget : ∀ c ∈ bsubjectsOf g, L[(g.filter isIriSubj).length + indexOf c (bsubjectsOf g)]? =
        some (({ itemscope := true } : Attrs), g.filter (hasSubj c)) := by
      intro c hc
      show (canonA g ++ canonB g)[_]? = _
      rw [List.getElem?_append_right (by omega)]
      rw [hlenA, Nat.add_sub_cancel_left]
      simp [canonB, getElem?_indexOf _ c hc]
    have := sigmaL_inj base L _ _ _ _ (hget a ha') (hget b hb') rfl rfl hab
    exact indexOf_inj (bsubjectsOf g) a b ha' hb' (by omega)
  · have := (canonDoc_denote lbl base g hg).map (Triple.map (sigmaL base L))
    refine this.trans ?_
    rw [List.map_map]
    apply List.Perm.of_eq
    apply List.map_congr_left
    intro t _
    exact t.map_map _ _

end
end RdfModel.Mdd

namespace RdfModel.Mdd
open RdfModel RdfModel.Spec.Html RdfModel.Spec.Microdata

/-- printable ASCII without space: no byte that starts (or is) a `unicode.IsSpace` rune -/
def plainAscii (s : Bytes) : Bool := s.all (fun c => 33 ≤ c && c ≤ 126)

theorem plainAscii_cons {c : Nat} {r : Bytes} (h : plainAscii (c :: r) = true) :
    (33 ≤ c ∧ c ≤ 126) ∧ plainAscii r = true := by
  simpa [plainAscii] using h

theorem spaceLen_plain (c : Nat) (r : Bytes) (h : 33 ≤ c ∧ c ≤ 126) : spaceLen (c :: r) = 0 := by
  unfold spaceLen
  have e1 : (c == 9 || c == 10 || c == 11 || c == 12 || c == 13 || c == 32) = false := by
    simp only [Bool.or_eq_false_iff, beq_eq_false_iff_ne, ne_eq]; omega
  -- the lead bytes of the multi-byte spaces (0xC2, 0xE1, 0xE2, 0xE3) are above 126
  have e2 : ∀ k, 126 < k → (c == k) = false := fun k hk => by simp only [beq_eq_false_iff_ne, ne_eq]; omega
  simp [e1, e2]

theorem fieldsGo_plain (s acc : Bytes) (h : plainAscii s = true) :
    fieldsGo 0 s acc = flush (s.reverse ++ acc) := by
  induction s generalizing acc with
  | nil => simp [fieldsGo]
  | cons c r ih =>
    obtain ⟨hc, hr⟩ := plainAscii_cons h
    unfold fieldsGo
    simp only [spaceLen_plain c r hc, ↓reduceIte]
    rw [ih (c :: acc) hr]
    simp

theorem trimLeftGo_plain (s : Bytes) (h : plainAscii s = true) : trimLeftGo 0 s = s := by
  cases s with
  | nil => rfl
  | cons c r =>
    unfold trimLeftGo
    simp [spaceLen_plain c r (plainAscii_cons h).1]

theorem trimRightGo_plain (s : Bytes) (h : plainAscii s = true) : trimRightGo 0 s [] = s := by
  induction s with
  | nil => rfl
  | cons c r ih =>
    obtain ⟨hc, hr⟩ := plainAscii_cons h
    unfold trimRightGo
    simp only [spaceLen_plain c r hc, ↓reduceIte, List.reverse_nil, List.nil_append]
    rw [ih hr]

theorem trimSpace_plain (s : Bytes) (h : plainAscii s = true) : trimSpace s = s := by
  unfold trimSpace
  rw [trimLeftGo_plain s h, trimRightGo_plain s h]

theorem fields_plain (s : Bytes) (h : plainAscii s = true) (hne : s ≠ []) : Mdd.fields (trimSpace s) = [s] := by
  rw [trimSpace_plain s h]
  unfold Mdd.fields
  rw [fieldsGo_plain s [] h]
  unfold flush
  simp [hne]

theorem trimWs_plain (s : Bytes) (h : plainAscii s = true) : trimWs s = s := by
  have hd : ∀ l : Bytes, plainAscii l = true → l.dropWhile isWs = l := by
    intro l hl
    cases l with
    | nil => rfl
    | cons c r =>
      have := (plainAscii_cons hl).1
      have : isWs c = false := by
        unfold isWs
        simp only [Bool.or_eq_false_iff, beq_eq_false_iff_ne, ne_eq]; omega
      simp [List.dropWhile, this]
  unfold trimWs
  rw [hd s h, hd s.reverse (by simpa [plainAscii] using h)]
  simp

end RdfModel.Mdd
