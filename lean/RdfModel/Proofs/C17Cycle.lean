import RdfModel.Proofs.C17Term
namespace RdfModel.Proofs.C17
open RdfModel RdfModel.Desc RdfModel.C17

variable {β : Type} [DecidableEq β]

omit [DecidableEq β] in
theorem walk_cons_cons {T : List (Triple β)} {a c : β} {rest : List β} :
    Walk T (a :: c :: rest) ↔ Edge T c a ∧ Walk T (c :: rest) := Iff.rfl

omit [DecidableEq β] in
theorem walk_tail {T : List (Triple β)} {a : β} {l : List β} (h : Walk T (a :: l)) : Walk T l := by
  cases l with
  | nil => trivial
  | cons c rest => exact h.2

omit [DecidableEq β] in
theorem walk_append_right {T : List (Triple β)} : ∀ (l₁ l₂ : List β), Walk T (l₁ ++ l₂) → Walk T l₂ := by
  intro l₁
  induction l₁ with
  | nil => intro l₂ h; exact h
  | cons a l ih => intro l₂ h; exact ih l₂ (walk_tail h)

omit [DecidableEq β] in
theorem walk_append_left {T : List (Triple β)} : ∀ (l₁ l₂ : List β), Walk T (l₁ ++ l₂) → Walk T l₁ := by
  intro l₁
  induction l₁ with
  | nil => intro _ _; trivial
  | cons a l ih =>
    intro l₂ h
    cases l with
    | nil => trivial
    | cons c rest =>
      exact ⟨h.1, ih l₂ h.2⟩

omit [DecidableEq β] in
theorem walk_referenced {T : List (Triple β)} : ∀ (l : List β) (z : β), Walk T (l ++ [z]) →
    ∀ b ∈ l, ∃ b' ∈ l ++ [z], Edge T b' b := by
  intro l
  induction l with
  | nil => intro z _ b hb; cases hb
  | cons x l ih =>
    intro z h b hb
    cases l with
    | nil =>
      simp only [List.mem_singleton] at hb
      subst hb
      exact ⟨z, by simp, h.1⟩
    | cons y l' =>
      rcases List.mem_cons.1 hb with rfl | hb'
      · exact ⟨y, by simp, h.1⟩
      · obtain ⟨b', hb'm, he⟩ := ih z h.2 b hb'
        exact ⟨b', by simp at hb'm ⊢; right; exact hb'm, he⟩

omit [DecidableEq β] in
theorem walk_references {T : List (Triple β)} : ∀ (x : β) (l : List β), Walk T (x :: l) →
    ∀ b ∈ l, ∃ b' ∈ x :: l, Edge T b b' := by
  intro x l
  induction l generalizing x with
  | nil => intro _ b hb; cases hb
  | cons y l' ih =>
    intro h b hb
    rcases List.mem_cons.1 hb with rfl | hb'
    · exact ⟨x, by simp, h.1⟩
    · obtain ⟨b', hb'm, he⟩ := ih y h.2 b hb'
      exact ⟨b', by simp at hb'm ⊢; right; exact hb'm, he⟩

theorem climb_false_on_cycle (T : List (Triple β)) (c : List β) (hc : Cycle1 T c) :
    ∀ k, ∀ b ∈ c, climb T k (Term.bnode b) = false := by
  obtain ⟨a, rest, rfl, h1, hw⟩ := hc
  intro k
  induction k with
  | zero => intro b hb; simp [climb, h1 b hb]
  | succ k ih =>
    intro b hb
    obtain ⟨b', hb', p, hp⟩ := walk_referenced (a :: rest) a hw b hb
    have hb'c : b' ∈ a :: rest := by
      rcases List.mem_append.1 hb' with h | h
      · exact h
      · simp at h; subst h; simp
    have hpar := parent_of_once T b (h1 b hb) _ hp rfl
    simp only [climb, h1 b hb, beq_self_eq_true, if_true, hpar]
    exact ih b' hb'c

theorem no_cycle_of_acyclic1 (T : List (Triple β)) (h : Acyclic1 T) : ¬ ∃ c, Cycle1 T c := by
  rintro ⟨c, hc⟩
  obtain ⟨a, rest, rfl, _, _⟩ := id hc
  have h1 := climb_false_on_cycle T _ hc T.length a (by simp)
  rw [climb_all T h] at h1
  cases h1

theorem climb_chain (T : List (Triple β)) : ∀ (k : Nat) (b : β), climb T k (Term.bnode b) = false →
    ∃ l : List β, l.length = k ∧ (refs T b = 1) ∧ (∀ x ∈ l, refs T x = 1) ∧ Walk T (b :: l) := by
  intro k
  induction k with
  | zero =>
    intro b h
    simp only [climb, Bool.not_eq_false', beq_iff_eq] at h
    exact ⟨[], rfl, h, by simp, trivial⟩
  | succ k ih =>
    intro b h
    simp only [climb] at h
    by_cases h1 : refs T b = 1
    · simp only [h1, beq_self_eq_true, if_true] at h
      cases hp : parent? T b with
      | none => simp [hp] at h
      | some s =>
        simp only [hp] at h
        cases s with
        | iri v => cases k <;> simp [climb] at h
        | lit l d t => cases k <;> simp [climb] at h
        | bnode b' =>
          obtain ⟨l, hl, hb'1, hall, hw⟩ := ih b' h
          refine ⟨b' :: l, by simp [hl], h1, ?_, ?_⟩
          · intro x hx
            rcases List.mem_cons.1 hx with rfl | hx
            · exact hb'1
            · exact hall x hx
          · refine ⟨?_, hw⟩
            unfold parent? at hp
            obtain ⟨t, ht, hts⟩ := Option.map_eq_some_iff.1 hp
            have hm := List.mem_of_find?_eq_some ht
            have hto := List.find?_some ht
            simp only [decide_eq_true_eq] at hto
            refine ⟨t.p, ?_⟩
            have : t = ⟨Term.bnode b', t.p, Term.bnode b⟩ := by
              cases t; simp_all
            rw [← this]; exact hm
    · simp [h1] at h

theorem exists_dup_of_not_nodup {α : Type} [DecidableEq α] : ∀ (l : List α), ¬ l.Nodup →
    ∃ l₁ x l₂ l₃, l = l₁ ++ x :: l₂ ++ x :: l₃ := by
  intro l
  induction l with
  | nil => intro h; exact absurd List.nodup_nil h
  | cons a l ih =>
    intro h
    by_cases ha : a ∈ l
    · obtain ⟨s, t, rfl⟩ := List.append_of_mem ha
      exact ⟨[], a, s, t, by simp⟩
    · have hl : ¬ l.Nodup := fun hn => h (List.nodup_cons.2 ⟨ha, hn⟩)
      obtain ⟨l₁, x, l₂, l₃, rfl⟩ := ih hl
      exact ⟨a :: l₁, x, l₂, l₃, by simp⟩

theorem acyclic1_of_no_cycle (T : List (Triple β)) (h : ¬ ∃ c, Cycle1 T c) : Acyclic1 T := by
  intro t ht
  cases hc : climb T T.length t.o with
  | true => rfl
  | false =>
    exfalso
    apply h
    cases ho : t.o with
    | iri v => rw [ho] at hc; cases hT : T.length <;> simp [hT, climb] at hc
    | lit l d g => rw [ho] at hc; cases hT : T.length <;> simp [hT, climb] at hc
    | bnode b =>
      rw [ho] at hc
      obtain ⟨l, hl, hb1, hall, hw⟩ := climb_chain T T.length b hc
      -- b :: l has |T|+1 once-referenced nodes: one repeats
      have hall' : ∀ x ∈ b :: l, refs T x = 1 := by
        intro x hx
        rcases List.mem_cons.1 hx with rfl | hx
        · exact hb1
        · exact hall x hx
      have hnd : ¬ (b :: l).Nodup := by
        intro hn
        have := (nodup_map_bnode.2 hn).length_le_of_subset (l₂ := T.map (·.o)) (by
          intro x hx
          obtain ⟨y, hy, rfl⟩ := List.mem_map.1 hx
          obtain ⟨t', ht', hto'⟩ := exists_of_refs_pos T y (by rw [hall' y hy]; exact Nat.one_pos)
          exact List.mem_map.2 ⟨t', ht', hto'⟩)
        simp only [List.length_map, List.length_cons, hl] at this
        omega
      obtain ⟨l₁, x, l₂, l₃, hsplit⟩ := exists_dup_of_not_nodup _ hnd
      refine ⟨x :: l₂, x, l₂, rfl, ?_, ?_⟩
      · intro y hy
        apply hall'
        rw [hsplit]
        simp only [List.mem_append, List.mem_cons] at hy ⊢
        rcases hy with rfl | hy
        · left; right; left; rfl
        · left; right; right; exact hy
      · rw [hsplit] at hw
        have h1 : Walk T (x :: l₂ ++ x :: l₃) := by
          have := walk_append_right l₁ (x :: l₂ ++ x :: l₃) (by simpa using hw)
          exact this
        have h2 : Walk T ((x :: l₂ ++ [x]) ++ l₃) := by simpa using h1
        exact walk_append_left _ _ h2

theorem export_diverges_on_cycle (T : List (Triple β)) (opts : Opts) (hi : opts.inline = true)
    (c : List β) (hc : Cycle1 T c) :
    ∀ fuel, ∀ b ∈ c, (build T).exportStatements opts fuel (Term.bnode b) = none := by
  obtain ⟨a, rest, rfl, h1, hw⟩ := hc
  intro fuel b hb
  apply export_diverges_of_closed (build T) opts (fun y => ∃ b ∈ a :: rest, y = Term.bnode b) _ fuel _ ⟨b, hb, rfl⟩
  rintro y ⟨b, hb, rfl⟩
  have hb2 : b ∈ rest ++ [a] := by
    rcases List.mem_cons.1 hb with rfl | h
    · simp
    · simp [h]
  obtain ⟨b', hb', p, hp⟩ := walk_references a (rest ++ [a]) (by simpa using hw) b hb2
  have hb'c : b' ∈ a :: rest := by
    simp only [List.mem_cons, List.mem_append, List.not_mem_nil, or_false] at hb'
    rcases hb' with rfl | h | rfl
    · simp
    · simp [h]
    · simp
  refine ⟨(p, Term.bnode b'), ?_, ?_, ⟨b', hb'c, rfl⟩⟩
  · rw [stmts_build]
    exact List.mem_map.2 ⟨_, List.mem_filter.2 ⟨hp, by simp⟩, rfl⟩
  · simp [Builder.isInl, hi, refCount_build, h1 b' hb'c]

end RdfModel.Proofs.C17
