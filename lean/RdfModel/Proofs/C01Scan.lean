/-
  Tags and labels are read up to a following `0x20 :: rest`: `quadBody` puts a space after every term, and
  with another follower the lemmas are false (a `-` goes on with the tag, a `.` with the label).
-/
import RdfModel.Proofs.C01Enc
import RdfModel.Proofs.HexDigits
namespace RdfModel.Proofs.C01
open RdfModel RdfModel.NQ RdfModel.C01

theorem hex4_nibbles (c : Nat) : hex4 c = (Hex.nibbles 4 c).map hexUpper := by
  simp [hex4, Hex.nibbles]

/-- `hex8` masks the top digit with 7, as the Go code does; for a code point it is 0 either way. -/
theorem hex8_nibbles {c : Nat} (hc : c ≤ 0x10FFFF) : hex8 c = (Hex.nibbles 8 c).map hexUpper := by
  have h : c / 0x10000000 % 8 = c / 0x10000000 % 16 := by omega
  simp [hex8, Hex.nibbles, h]

theorem scanIRI_uchars (T : Tables) (e : End) : Hex.Uchars (lookup T.hexDec 0) (scanIRI T e) where
  more m m' ms v x d r acc hx hm := by rw [scanIRI, hx]; simp only; rw [if_neg (by omega)]
  last m v x d r acc hx hm := by rw [scanIRI, hx]; simp only; rw [if_neg (by omega)]
  bs r acc := by simp [scanIRI]
  u r acc := by simp [scanIRI]
  U r acc := by simp [scanIRI]

theorem scanIRI_body (T : Tables) (hT : TablesOK T) (e : End) (ascii : Bool) (s : List Nat)
    (hs : Scalars s) (rest acc : List Nat) :
    scanIRI T e .body (iriBody T ascii s ++ 0x3e :: rest) acc = .ok (acc.reverse ++ s) rest := by
  induction s generalizing acc with
  | nil => simp [iriBody, scanIRI]
  | cons c s ih =>
    have hc : IsScalar c := hs c List.mem_cons_self
    have hs' : Scalars s := fun x hx => hs x (List.mem_cons_of_mem _ hx)
    have ih' := fun acc => ih hs' acc
    simp only [iriBody, List.flatMap_cons, List.append_assoc] at ih' ⊢
    rcases escIRIRune_mode (hT.iri_mode ascii c) with ⟨h0, h⟩ | ⟨h1, h⟩ | ⟨_, h⟩ <;> rw [h]
    · have hr := hT.iri_raw ascii c h0
      unfold iriRawOK at hr
      simp only [List.cons_append, List.nil_append]
      rw [scanIRI]
      rw [if_neg (by omega), if_neg (by omega), if_neg (by omega), ih']
      simp
    · have := hT.iri_u4 ascii c h1
      simp only [List.cons_append]
      rw [hex4_nibbles, (scanIRI_uchars T e).u4 hT.hex this, ih']
      simp
    · simp only [List.cons_append]
      rw [hex8_nibbles (isScalar_le hc), (scanIRI_uchars T e).u8 hT.hex (isScalar_le hc), ih']
      simp

theorem captureIRI_write (T : Tables) (hT : TablesOK T) (urlOk : List Nat → Bool) (e : End)
    (ascii : Bool) (v : List Nat) (hv : WFIri urlOk v) (rest : List Nat) :
    captureIRI T urlOk e (iriBody T ascii v ++ 0x3e :: rest) = .ok v rest := by
  unfold captureIRI
  rw [scanIRI_body T hT e ascii v hv.1]
  simp [goString_id_of_scalar hv.1, hv.2]

theorem scanLit_uchars (T : Tables) (e : End) : Hex.Uchars (lookup T.hexDec 0) (scanLit T e) where
  more m m' ms v x d r acc hx hm := by rw [scanLit, hx]; simp only; rw [if_neg (by omega)]
  last m v x d r acc hx hm := by rw [scanLit, hx]; simp only; rw [if_neg (by omega)]
  bs r acc := by simp [scanLit]
  u r acc := by simp [scanLit]
  U r acc := by simp [scanLit]

theorem echarDecode_cases {x c : Nat} (h : echarDecode x = some c) :
    x = 0x74 ∧ c = 0x09 ∨ x = 0x62 ∧ c = 0x08 ∨ x = 0x6e ∧ c = 0x0a ∨ x = 0x72 ∧ c = 0x0d ∨
    x = 0x66 ∧ c = 0x0c ∨ x = 0x22 ∧ c = 0x22 ∨ x = 0x27 ∧ c = 0x27 ∨ x = 0x5c ∧ c = 0x5c := by
  revert h
  fun_cases echarDecode x <;> intro h <;> cases h <;> simp [*]

theorem echarDecode_some {x c : Nat} (h : echarDecode x = some c) :
    (x = 0x74 ∨ x = 0x62 ∨ x = 0x6e ∨ x = 0x72 ∨ x = 0x66 ∨ x = 0x22 ∨ x = 0x27 ∨ x = 0x5c) := by
  have := echarDecode_cases h
  omega

theorem scanLit_echar (T : Tables) (e : End) (x c : Nat) (h : echarDecode x = some c)
    (r acc : List Nat) :
    scanLit T e .body (0x5c :: x :: r) acc = scanLit T e .body r (c :: acc) := by
  have hx := echarDecode_some h
  rw [(scanLit_uchars T e).bs, scanLit]
  rw [if_neg (by omega), if_neg (by omega), h]

theorem scanLit_body (T : Tables) (hT : TablesOK T) (e : End) (ascii : Bool) (s : List Nat)
    (hs : Scalars s) (rest acc : List Nat) :
    scanLit T e .body (litBody T ascii s ++ 0x22 :: rest) acc = .ok (acc.reverse ++ s) rest := by
  induction s generalizing acc with
  | nil => simp [litBody, scanLit]
  | cons c s ih =>
    have hc : IsScalar c := hs c List.mem_cons_self
    have hs' : Scalars s := fun x hx => hs x (List.mem_cons_of_mem _ hx)
    have ih' := fun acc => ih hs' acc
    simp only [litBody, List.flatMap_cons, List.append_assoc] at ih' ⊢
    rcases escLitRune_mode (hT.lit_mode ascii c) with ⟨h0, h⟩ | ⟨h1, h⟩ | ⟨h2, h⟩ | ⟨_, h⟩ <;> rw [h]
    · have hr := hT.lit_raw ascii c h0
      simp only [List.cons_append, List.nil_append]
      rw [scanLit]
      rw [if_neg (by omega), if_neg (by omega), ih']
      simp
    · have := hT.lit_echar ascii c h1
      simp only [List.cons_append, List.nil_append]
      rw [scanLit_echar T e _ c this, ih']
      simp
    · have := hT.lit_u4 ascii c h2
      simp only [List.cons_append]
      rw [hex4_nibbles, (scanLit_uchars T e).u4 hT.hex this, ih']
      simp
    · simp only [List.cons_append]
      rw [hex8_nibbles (isScalar_le hc), (scanLit_uchars T e).u8 hT.hex (isScalar_le hc), ih']
      simp


-- `need` (the recogniser just passed a `-`) is tied to the scanner's state by "`-` is on top of `acc`":
-- the invariant of the induction; in `langPrimary_ok` it is `seen` = "`acc` is not empty".
theorem langSecondary_ok (e : End) (rest : List Nat) (t : List Nat) (need : Bool) (h : langRest t need = true) :
    ∀ (acc : List Nat), (need = true → acc.head? = some 0x2d) → (need = false → acc.head? ≠ some 0x2d) →
      langSecondary e (t ++ 0x20 :: rest) acc = .ok (acc.reverse ++ t) (0x20 :: rest) := by
  fun_induction langRest t need with
  | case1 need => intro acc h1 h2; simp_all [langSecondary, isAlpha, isDigit]
  | case2 c r need hx ih =>
    intro acc h1 h2
    have hc : c ≠ 0x2d := by rintro rfl; simp [isAlpha, isDigit] at hx
    simpa [langSecondary, hx] using ih h (c :: acc) (by simp) (by simp [hc])
  | case3 r need hx ih =>
    intro acc h1 h2
    simp only [Bool.and_eq_true, Bool.not_eq_true'] at h
    simpa [langSecondary, isAlpha, isDigit, h2 h.1] using ih h.2 (0x2d :: acc) (by simp) (by simp)
  | case4 => cases h

theorem langPrimary_ok (e : End) (rest : List Nat) (t : List Nat) (seen : Bool) (h : langPrim t seen = true) :
    ∀ (acc : List Nat), (seen = !acc.isEmpty) →
      langPrimary e (t ++ 0x20 :: rest) acc = .ok (acc.reverse ++ t) (0x20 :: rest) := by
  fun_induction langPrim t seen with
  | case1 seen => intro acc h1; simp_all [langPrimary, isAlpha]
  | case2 c r seen hx ih => intro acc h1; simpa [langPrimary, hx] using ih h (c :: acc) (by simp)
  | case3 r seen hx =>
    intro acc h1
    simp only [Bool.and_eq_true] at h
    have : acc.isEmpty = false := by simpa [h.1] using h1
    simpa [langPrimary, isAlpha, this] using langSecondary_ok e rest r true h.2 (0x2d :: acc) (by simp) (by simp)
  | case4 => cases h

theorem langPrimary_write (e : End) (t rest : List Nat) (h : langOK t = true) :
    langPrimary e (t ++ 0x20 :: rest) [] = .ok t (0x20 :: rest) := by
  have := langPrimary_ok e rest t false h [] (by simp)
  simpa using this

theorem bnLoop_ok (T : Tables) (hsp : inRanges T.pnChars 0x20 = false) (e : End) (rest : List Nat) (xs : List Nat) :
    ∀ acc, (∀ x ∈ xs, (inRanges T.pnChars x || x = 0x2e) = true) →
      bnLoop T e (xs ++ 0x20 :: rest) acc = bnFinish T (xs.reverse ++ acc) (0x20 :: rest) := by
  induction xs with
  | nil =>
    intro acc _
    simp [bnLoop, hsp]
  | cons x xs ih =>
    intro acc h
    have hx := h x List.mem_cons_self
    simp only [List.cons_append]
    unfold bnLoop
    rw [if_pos hx, ih _ (fun y hy => h y (List.mem_cons_of_mem _ hy))]
    simp

theorem captureBNode_write (T : Tables) (hsp : inRanges T.pnChars 0x20 = false)
    (hdot : inRanges T.pnChars 0x2e = false) (e : End) (l rest : List Nat) (hl : labelOK T l = true) :
    captureBNode T e (l ++ 0x20 :: rest) = .ok l (0x20 :: rest) := by
  cases l with
  | nil => simp [labelOK] at hl
  | cons c xs =>
    simp only [labelOK, Bool.and_eq_true, List.all_eq_true] at hl
    obtain ⟨⟨h1, h2⟩, h3⟩ := hl
    simp only [List.cons_append]
    simp only [captureBNode]
    rw [if_pos h1, bnLoop_ok T hsp e rest xs [c] h2]
    rcases List.eq_nil_or_concat xs with rfl | ⟨init, z, rfl⟩
    · simp [bnFinish]
    · have hz : inRanges T.pnChars z = true := by simpa using h3
      have hz' : z ≠ 0x2e := by
        intro hh; subst hh; rw [hdot] at hz; exact Bool.noConfusion hz
      simp [bnFinish, hz, hz']

/-! ### the converse: a label the decoder returns is a `labelOK` label (no table facts) -/

theorem labelOK_snoc (T : Tables) {c0 : Nat} (h0 : (inRanges T.pnCharsU c0 || isDigit c0) = true) (a : Nat) (t : List Nat)
    (hall : ∀ x ∈ a :: t, (inRanges T.pnChars x || x = 0x2e) = true) (ha : inRanges T.pnChars a = true) :
    labelOK T (c0 :: (a :: t).reverse) = true := by
  simp only [labelOK, h0, Bool.true_and, Bool.and_eq_true, List.all_eq_true]
  exact ⟨fun x hx => hall x (List.mem_reverse.1 hx), by simp [ha]⟩

theorem bnFinish_labelOK (T : Tables) {c0 : Nat} (h0 : (inRanges T.pnCharsU c0 || isDigit c0) = true)
    (accT rest l r : List Nat) (hall : ∀ x ∈ accT, (inRanges T.pnChars x || x = 0x2e) = true)
    (h : bnFinish T (accT ++ [c0]) rest = .ok l r) : labelOK T l = true := by
  cases accT with
  | nil => simp [bnFinish] at h; simp [← h.1, labelOK, h0]
  | cons a t =>
    simp only [bnFinish, List.cons_append, List.length_cons, List.length_append, List.length_nil] at h
    rw [if_pos (by omega)] at h
    split at h
    · cases t with
      | nil =>
        simp only [List.nil_append] at h
        split at h
        · cases h; simp [labelOK, h0]
        · cases h
      | cons b t' =>
        simp only [List.cons_append] at h
        split at h
        · next hb =>
          cases h
          simpa using labelOK_snoc T h0 b t' (fun x hx => hall x (List.mem_cons_of_mem _ hx)) hb
        · cases h
    · split at h
      · next ha => cases h; simpa using labelOK_snoc T h0 a t hall ha
      · cases h

theorem bnLoop_labelOK (T : Tables) (e : End) {c0 : Nat} (h0 : (inRanges T.pnCharsU c0 || isDigit c0) = true) :
    ∀ (inp accT l r : List Nat), (∀ x ∈ accT, (inRanges T.pnChars x || x = 0x2e) = true) →
      bnLoop T e inp (accT ++ [c0]) = .ok l r → labelOK T l = true
  | [], _, _, _, _, h => by simp [bnLoop] at h
  | c :: rest, accT, l, r, hall, h => by
    simp only [bnLoop] at h
    split at h
    · next hc =>
      exact bnLoop_labelOK T e h0 rest (c :: accT) l r
        (fun x hx => (List.mem_cons.1 hx).elim (fun hx => hx ▸ hc) (hall x)) h
    · exact bnFinish_labelOK T h0 accT _ l r hall h

theorem captureBNode_labelOK {T : Tables} {e : End} {inp l r : List Nat} (h : captureBNode T e inp = .ok l r) :
    labelOK T l = true := by
  cases inp with
  | nil => simp [captureBNode] at h
  | cons c rest =>
    simp only [captureBNode] at h
    split at h
    · next hc => exact bnLoop_labelOK T e hc rest [] l r (by simp) h
    · cases h

end RdfModel.Proofs.C01
