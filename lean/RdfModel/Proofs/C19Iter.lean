import RdfModel.Model.Dataset
namespace RdfModel.Proofs.C19
open RdfModel.DS

theorem classifyQ_all (ms : List QM) (q : Quad) :
    ms.all (fun m => m.matches q) =
      ((classifyQ ms).1.all (fun sm => sm.matches (some q.s)) && (classifyQ ms).2.all (fun m => m.matches q)) := by
  induction ms with
  | nil => simp [classifyQ]
  | cons m rest ih =>
    simp only [List.all_cons, ih, classifyQ]
    cases m with
    | triple tm =>
      cases tm <;> simp [QM.matches, TrM.matches, Quad.triple, Bool.and_assoc, Bool.and_left_comm]
    | _ => simp [Bool.and_left_comm]

theorem classifyT_all (ms : List TrM) (t : Triple) :
    ms.all (fun m => m.matches t) =
      ((classifyT ms).1.all (fun sm => sm.matches (some t.s)) && (classifyT ms).2.all (fun m => m.matches t)) := by
  induction ms with
  | nil => simp [classifyT]
  | cons m rest ih =>
    simp only [List.all_cons, ih, classifyT]
    cases m <;> simp [TrM.matches, Bool.and_assoc, Bool.and_left_comm]

/-- The quads of one graph in traversal order. -/
def graphAll (g : Option Term) (G : SubjMap) : List Quad :=
  G.flatMap (fun e => e.2.2.map (getQuad g e.2.1))

/-- The fast path at one subject: when the conjunction `P` of all matchers factors into a test `b`
    of the subject alone and a test `O` of the statement, skipping the subject unless `b` and then
    filtering by `O` is filtering by `P`. -/
theorem fastPath_eq {α β : Type} (f : α → β) (P O : β → Bool) (b : Bool) (l : List α)
    (h : ∀ x, P (f x) = (b && O (f x))) :
    (if (!b) = true then [] else (l.filter (fun x => O (f x))).map f) = (l.map f).filter P := by
  rw [List.filter_map]
  cases b <;> simp [Function.comp_def, h]

theorem graphQuads_eq (g : Option Term) (G : SubjMap) (ms : List QM) :
    graphQuads g G ms = (graphAll g G).filter (fun q => ms.all (fun m => m.matches q)) := by
  unfold graphQuads graphAll
  rw [List.filter_flatMap]
  split
  · rename_i h
    simp only [List.isEmpty_iff.1 h, List.all_nil]
    congr 1; funext e
    exact (List.filter_eq_self.2 fun _ _ => rfl).symm
  · split
    · rename_i sm others hc
      congr 1; funext e
      refine fastPath_eq (getQuad g e.2.1) _ (fun q => others.all fun m => m.matches q) _ _ fun st => ?_
      rw [classifyQ_all, hc]; simp [getQuad]
    · congr 1; funext e
      rw [List.filter_map]; rfl

theorem graphTriples_eq (g : Option Term) (G : SubjMap) (ms : List TrM) :
    graphTriples g G ms = ((graphAll g G).map Quad.triple).filter (fun t => ms.all (fun m => m.matches t)) := by
  unfold graphTriples graphAll
  simp only [List.map_flatMap, List.filter_flatMap, List.map_map]
  split
  · rename_i h
    simp only [List.isEmpty_iff.1 h, List.all_nil]
    congr 1; funext e
    exact (List.filter_eq_self.2 fun _ _ => rfl).symm
  · split
    · rename_i sm others hc
      congr 1; funext e
      refine fastPath_eq (Quad.triple ∘ getQuad g e.2.1) _ (fun t => others.all fun m => m.matches t) _ _
        fun st => ?_
      rw [classifyT_all, hc]; simp [getQuad, Quad.triple]
    · congr 1; funext e
      rw [List.filter_map]; rfl

theorem abs_eq_graphAll (s : State) : abs s = s.graphs.flatMap (fun e => graphAll e.1 e.2) := rfl

/-- `NewQuadIterator(ms...)` returns the stored quads that satisfy all matchers — as a list
    equation with the traversal `abs`, hence with the same multiplicities. -/
theorem iterQuads_eq (s : State) (ms : List QM) :
    iterQuads s ms = (abs s).filter (fun q => ms.all (fun m => m.matches q)) := by
  unfold iterQuads
  rw [abs_eq_graphAll, List.filter_flatMap]
  congr 1; funext e
  exact graphQuads_eq e.1 e.2 ms

end RdfModel.Proofs.C19
