import RdfModel.Proofs.C04Refine
import RdfModel.Proofs.C03FirstDegree
namespace RdfModel.Proofs.C04
open RdfModel RdfModel.Proofs.StrOrd RdfModel.C04


variable {β : Type} [DecidableEq β]

omit [DecidableEq β] in
/-- One position of a line in step 7: Go takes the pre-encoding if there is one and asks the issuer
    otherwise (`y`, whatever it is for other terms, is the answer `(_:label, x)` on a blank node). -/
theorem encode_pos {T : NQ.Tables} (henc : EncOK T) {α : Type} (lab : β → Str) {t : Term β}
    (h : WFObject T t) (x : α) (y : Str × α) (hy : ∀ b, t = .bnode b → y = (0x5f :: 0x3a :: lab b, x)) :
    (if !(encOf T t).isEmpty then (encOf T t, x) else y) = (Spec.RDFC10.term lab t, x) := by
  cases t with
  | bnode b => rw [hy b rfl]; rfl
  | _ => obtain ⟨e, ne⟩ := encOf_term henc lab h rfl; rw [ne, e]; rfl

theorem encodeLine_known (T : NQ.Tables) (henc : EncOK T) {cm : Rdfcanon.Issuer β} {cs : Spec.RDFC10.Issuer β}
    (hc : CRel cm cs) (q : Quad β) (idx : Nat) (hwf : WFQuad T q)
    (hk : ∀ b ∈ Spec.RDFC10.quadBnodes q, (cs.get? b).isSome) :
    Rdfcanon.encodeLine cm (cquadOf T q idx)
      = (⟨idx, Spec.RDFC10.nquad (fun b => (cs.get? b).getD []) q⟩, cm) := by
  have hget : ∀ b ∈ Spec.RDFC10.quadBnodes q, cm.get b = ((cs.get? b).getD [], cm) := by
    intro b hb
    obtain ⟨id, hid⟩ := Option.isSome_iff_exists.mp (hk b hb)
    rw [hc.get_known b id hid, hid]; rfl
  obtain ⟨s, p, o, g⟩ := q
  obtain ⟨hs, hp, ho, hg⟩ := hwf
  dsimp only [Rdfcanon.encodeLine, cquadOf]
  rw [encode_pos henc (fun b => (cs.get? b).getD []) (wfObject_of_node hs) cm]
  · dsimp only
    rw [encode_pos henc (fun b => (cs.get? b).getD []) ho cm]
    · rw [nquad_eq, encOf_pred henc (fun b => (cs.get? b).getD []) hp]
      cases g with
      | none => simp [specG, Rdfcanon.sp, Rdfcanon.eol]
      | some t =>
        cases t with
        | bnode b =>
          simp [bnOf, encOf, specG, Spec.RDFC10.term, Rdfcanon.sp, Rdfcanon.eol,
            hget b (by simp [Spec.RDFC10.quadBnodes, Spec.RDFC10.bnodeOf])]
        | _ =>
          obtain ⟨e, ne⟩ := encOf_term henc (fun b => (cs.get? b).getD []) (wfObject_of_node (hg _ rfl)) rfl
          rw [e, List.isEmpty_eq_false_iff] at ne
          simp [ne, e, specG, Rdfcanon.sp, Rdfcanon.eol]
    · intro b hb
      subst hb
      dsimp only [bnOf]
      rw [hget b (by simp [Spec.RDFC10.quadBnodes, Spec.RDFC10.bnodeOf])]; rfl
  · intro b hb
    subst hb
    dsimp only [bnOf]
    rw [hget b (by simp [Spec.RDFC10.quadBnodes, Spec.RDFC10.bnodeOf])]; rfl

/-- The lines of step 7 before sorting, numbered from `idx`. -/
def lineList (lab : β → Str) : List (Quad β) → Nat → List Rdfcanon.Line
  | [], _ => []
  | q :: rest, idx => ⟨idx, Spec.RDFC10.nquad lab q⟩ :: lineList lab rest (idx + 1)

omit [DecidableEq β] in
theorem lineList_eq (lab : β → Str) : ∀ (qs : List (Quad β)) (idx : Nat),
    lineList lab qs idx = (qs.zipIdx idx).map fun p => ⟨p.2, Spec.RDFC10.nquad lab p.1⟩
  | [], _ => rfl
  | q :: rest, idx => by rw [lineList, lineList_eq lab rest]; rfl

omit [DecidableEq β] in
theorem lineList_encoded (lab : β → Str) (qs : List (Quad β)) (idx : Nat) :
    (lineList lab qs idx).map (·.encoded) = qs.map (Spec.RDFC10.nquad lab) := by
  rw [lineList_eq, List.map_map, ← List.zipIdx_map_fst idx qs, List.map_map, List.zipIdx_map_fst]
  rfl

omit [DecidableEq β] in
theorem lineList_sorted_encoded (lab : β → Str) (qs : List (Quad β)) (idx : Nat) :
    ((lineList lab qs idx).mergeSort (fun a b => strLe a.encoded b.encoded)).map (·.encoded)
      = sortStr (qs.map (Spec.RDFC10.nquad lab)) := by
  rw [← lineList_encoded lab qs idx]
  exact (Proofs.C03.mergeSort_map_key (k' := id) _ fun _ _ => rfl).symm

theorem encodeAll_cquads (T : NQ.Tables) (henc : EncOK T) {cm : Rdfcanon.Issuer β} {cs : Spec.RDFC10.Issuer β}
    (hc : CRel cm cs) : ∀ (qs : List (Quad β)) (idx : Nat), (∀ q ∈ qs, WFQuad T q) →
    (∀ q ∈ qs, ∀ b ∈ Spec.RDFC10.quadBnodes q, (cs.get? b).isSome) →
    Rdfcanon.encodeAll (cquads T qs idx) cm = (lineList (fun b => (cs.get? b).getD []) qs idx, cm)
  | [], _, _, _ => rfl
  | q :: rest, idx, hwf, hk => by
    simp only [cquads, Rdfcanon.encodeAll, lineList]
    rw [encodeLine_known T henc hc q idx (hwf q (by simp)) (hk q (by simp))]
    simp only
    rw [encodeAll_cquads T henc hc rest (idx + 1) (fun q' h => hwf q' (by simp [h])) (fun q' h => hk q' (by simp [h]))]

/-- Step 4, one entry, specification. -/
def step4S (c : Spec.RDFC10.Issuer β) (e : Str × List β) : Spec.RDFC10.Issuer β :=
  match e.2 with
  | [n] => (c.issue n).2
  | _ => c

/-- Step 4, one entry, Go. -/
def step4M (c : Rdfcanon.Issuer β) (e : Str × List β) : Rdfcanon.Issuer β :=
  if e.2.length > 1 then c else
    match e.2 with
    | n :: _ => (c.get n).2
    | [] => c

theorem step4_one {cm : Rdfcanon.Issuer β} {cs : Spec.RDFC10.Issuer β} (hc : CRel cm cs) (e : Str × List β) :
    CRel (step4M cm e) (step4S cs e) := by
  obtain ⟨k, l⟩ := e
  cases l with
  | nil => simpa [step4M, step4S] using hc
  | cons n l' =>
    cases l' with
    | nil => simpa [step4M, step4S] using (hc.get n).2
    | cons m l'' => simpa [step4M, step4S] using hc

theorem step4_rel (sorted : List (Str × List β)) (cm : Rdfcanon.Issuer β) (cs : Spec.RDFC10.Issuer β)
    (hc : CRel cm cs) : CRel (sorted.foldl step4M cm) (sorted.foldl step4S cs) :=
  List.foldl_rel hc fun e _ _ _ h => step4_one h e

def single? : List β → Option β
  | [n] => some n
  | _ => none

omit [DecidableEq β] in
theorem single?_eq_some (l : List β) (n : β) : single? l = some n ↔ l = [n] := by
  match l with
  | [] => simp [single?]
  | [a] => simp [single?]
  | _ :: _ :: _ => simp [single?]

/-- The blank nodes that get their canonical identifier in step 4, in issue order. -/
def singles (S : List (Str × List β)) : List β := S.filterMap (fun e => single? e.2)

theorem step4_eq_issueAll (S : List (Str × List β)) (C : Spec.RDFC10.Issuer β) :
    S.foldl step4S C = Spec.RDFC10.issueAll C (singles S) := by
  induction S generalizing C with
  | nil => rfl
  | cons e S ih =>
    obtain ⟨k, l⟩ := e
    match l with
    | [] => simpa [singles, single?, step4S] using ih C
    | [n] =>
      simp only [List.foldl_cons, singles, List.filterMap_cons, single?, Spec.RDFC10.issueAll] at ih ⊢
      exact ih _
    | _ :: _ :: _ => simpa [singles, single?, step4S] using ih C

omit [DecidableEq β] in
theorem mem_singles (S : List (Str × List β)) (n : β) : n ∈ singles S ↔ ∃ k, (k, [n]) ∈ S := by
  simp only [singles, List.mem_filterMap, single?_eq_some]
  constructor
  · rintro ⟨⟨k, l⟩, he, hl⟩
    simp only at hl
    subst hl
    exact ⟨k, he⟩
  · rintro ⟨k, he⟩
    exact ⟨(k, [n]), he, rfl⟩

theorem step4_sub (sorted : List (Str × List β)) (cs : Spec.RDFC10.Issuer β) :
    Sub cs (sorted.foldl step4S cs) ∧
    ∀ e ∈ sorted, ∀ n, e.2 = [n] → ((sorted.foldl step4S cs).get? n).isSome := by
  rw [step4_eq_issueAll]
  refine ⟨issueAll_sub cs _, fun e he n hn => issueAll_knows cs _ n ((mem_singles sorted n).2 ⟨e.1, ?_⟩)⟩
  rw [← hn]
  exact he

def h2bM (H : Str → Str) (ord : List β → List β) (mb : List (β × List (Rdfcanon.CQuad β))) : List (Str × List β) :=
  (ord (mb.map (·.1))).foldl (fun m n => addToMap m (Rdfcanon.hashFirstDegree H mb n) n) []

def h2bS (H : Str → Str) (ord : List β → List β) (sb : Spec.RDFC10.B2Q β) : List (Str × List β) :=
  Proofs.C03.group (Spec.RDFC10.hashFirstDegree H sb) (ord (sb.map (·.1))) []

theorem h2bM_eq_h2bS (T : NQ.Tables) (henc : EncOK T) (H : Str → Str) (ord : List β → List β)
    {mb : List (β × List (Rdfcanon.CQuad β))} {sb : Spec.RDFC10.B2Q β} (hb : BRel T mb sb) :
    h2bM H ord mb = h2bS H ord sb := by
  unfold h2bM h2bS
  rw [← keys_forget, hb.b2q]
  exact foldl_ext_mem _ _ _ _ fun n _ acc => by rw [hashFirstDegree_eq T henc H hb n]

theorem canon_unfold (T : NQ.Tables) (H : Str → Str) (lim : Rdfcanon.Limits) (ord : List β → List β)
    (qs : List (Quad β)) (st : Rdfcanon.State β)
    (hi : Rdfcanon.ingest T qs 0 ⟨[], Rdfcanon.newCanonicalIssuer, []⟩ = .ok st) :
    Rdfcanon.canon T H lim ord qs =
      match Rdfcanon.step5 H lim ((sortByKey (h2bM H ord st.b2q)).filter (fun e => e.2.length > 1))
          { st with canon := (sortByKey (h2bM H ord st.b2q)).foldl step4M st.canon } with
      | .limit l => .limit l
      | .panic => .panic
      | .ok st' =>
        .ok ⟨(Rdfcanon.encodeAll st'.all st'.canon).1.mergeSort (fun a b => strLe a.encoded b.encoded),
            (Rdfcanon.encodeAll st'.all st'.canon).2⟩ := by
  unfold Rdfcanon.canon
  rw [hi]
  rfl

theorem canonFuel_unfold (H : Str → Str) (ord : List β → List β) (perms : List β → List (List β))
    (fuel : Nat) (qs : List (Quad β)) :
    Spec.RDFC10.canonFuel H ord perms true fuel qs =
      match Spec.RDFC10.step5 H perms (Spec.RDFC10.bnodeToQuads true qs) fuel
          ((sortByKey (h2bS H ord (Spec.RDFC10.bnodeToQuads true qs))).filter (fun e => e.2.length ≠ 1))
          ((sortByKey (h2bS H ord (Spec.RDFC10.bnodeToQuads true qs))).foldl step4S
            (Spec.RDFC10.Issuer.new Spec.RDFC10.c14nPrefix)) with
      | none => none
      | some canon =>
        some ⟨sortStr (qs.map (Spec.RDFC10.nquad (fun b => (canon.get? b).getD []))), canon.issued⟩ := by
  rfl

theorem h2b_nonempty (H : Str → Str) (ord : List β → List β) (sb : Spec.RDFC10.B2Q β) :
    ∀ e ∈ h2bS H ord sb, e.2 ≠ [] :=
  List.foldlRecOn _ _ (by simp) fun m hm n _ => addToMap_nonempty m _ n hm

theorem issued_eq {cm : Rdfcanon.Issuer β} {cs : Spec.RDFC10.Issuer β} (hc : CRel cm cs) :
    cm.order.map (fun b => (b, (assoc cm.known b).getD [])) = cs.issued := by
  rw [hc.order, List.map_map]
  have hself : ∀ e ∈ cs.issued, ((fun b => (b, (assoc cm.known b).getD [])) ∘ fun x => x.1) e = e := by
    intro e he
    obtain ⟨k, v⟩ := e
    simp only [Function.comp, hc.look k, Proofs.C03.assoc_of_mem_nodup _ hc.nodup k v he, Option.getD_some]
  rw [List.map_congr_left hself]
  simp

/-- The Go canonicalizer (model) against step 5 of the specification: never a panic; the canonical issuer
    of a result corresponds to the specification's after step 5, knows every blank node of the dataset, and
    the lines are the sorted relabelled quads carrying their original positions. -/
theorem canon_structure (T : NQ.Tables) (hT : TablesCanon T) (H : Str → Str) (lim : Rdfcanon.Limits)
    (ord : List β → List β) (hord : OrdOK ord) (perms : List β → List (List β))
    (hperms : PermsAgree lim.maxPermutations perms) (qs : List (Quad β)) (hwf : ∀ q ∈ qs, WFQuad T q) :
    Refines (fun out cs5 => CRel out.canon cs5 ∧
        (∀ q ∈ qs, ∀ b ∈ Spec.RDFC10.quadBnodes q, (cs5.get? b).isSome) ∧
        out.lines = (lineList (fun b => (cs5.get? b).getD []) qs 0).mergeSort
          (fun a b => strLe a.encoded b.encoded))
      (Rdfcanon.canon T H lim ord qs)
      (Spec.RDFC10.step5 H perms (Spec.RDFC10.bnodeToQuads true qs) (lim.maxRecursionDepth + 1)
        ((sortByKey (h2bS H ord (Spec.RDFC10.bnodeToQuads true qs))).filter (fun e => e.2.length ≠ 1))
        ((sortByKey (h2bS H ord (Spec.RDFC10.bnodeToQuads true qs))).foldl step4S
          (Spec.RDFC10.Issuer.new Spec.RDFC10.c14nPrefix))) := by
  have henc := encOK_of_tables T hT
  obtain ⟨st0, hi1, hi2, hi3, hb0⟩ := ingest_init T qs hwf
  rw [canon_unfold T H lim ord qs st0 hi1, h2bM_eq_h2bS T henc H ord hb0]
  generalize hsorted : sortByKey (h2bS H ord (Spec.RDFC10.bnodeToQuads true qs)) = sorted
  have hsmem : ∀ e, e ∈ sorted ↔ e ∈ h2bS H ord (Spec.RDFC10.bnodeToQuads true qs) := by
    intro e; rw [← hsorted]; simp [sortByKey]
  have hne : ∀ e ∈ sorted, e.2 ≠ [] := fun e he => h2b_nonempty H ord _ e ((hsmem e).mp he)
  have hc4 : CRel (sorted.foldl step4M st0.canon)
      (sorted.foldl step4S (Spec.RDFC10.Issuer.new Spec.RDFC10.c14nPrefix)) := by
    rw [hi2]; exact step4_rel sorted _ _ CRel.init
  have hfilter : sorted.filter (fun e => e.2.length ≠ 1) = sorted.filter (fun e => e.2.length > 1) := by
    apply List.filter_congr
    intro e he
    have := hne e he
    have hpos : 0 < e.2.length := List.length_pos_iff.mpr this
    simp only [ne_eq, gt_iff_lt, decide_eq_decide]
    omega
  rw [hfilter]
  have h5 := step5_rel T henc H lim perms hperms (sorted.filter (fun e => e.2.length > 1))
    { st0 with canon := sorted.foldl step4M st0.canon } _ hb0 hc4
  split
  · trivial
  · next hm => rw [hm] at h5; exact h5
  · next st5 hm =>
    rw [hm] at h5
    obtain ⟨cs5, hs1, hs2, hs4⟩ := h5
    obtain ⟨_, hsub5, hcov5⟩ := step5_grow H perms _ (Nat.le_refl _) _ _ hs1
    obtain ⟨hsub4, hcov4⟩ := step4_sub sorted (Spec.RDFC10.Issuer.new Spec.RDFC10.c14nPrefix)
    have hall : ∀ n ∈ (Spec.RDFC10.bnodeToQuads true qs).map (·.1), (cs5.get? n).isSome := by
      intro n hn
      have hn' : n ∈ ord ((Spec.RDFC10.bnodeToQuads true qs).map (·.1)) := (hord _).mem_iff.mpr hn
      obtain ⟨e, he, hne'⟩ := getList_mem (h2bS H ord (Spec.RDFC10.bnodeToQuads true qs))
        (Spec.RDFC10.hashFirstDegree H (Spec.RDFC10.bnodeToQuads true qs) n) n (by
          rw [h2bS, Proofs.C03.getList_group]; simp [hn'])
      have hes : e ∈ sorted := (hsmem e).mpr he
      by_cases hlen : e.2.length > 1
      · exact hcov5 e (List.mem_filter.mpr ⟨hes, by simpa using hlen⟩) n hne'
      · have hpos : 0 < e.2.length := List.length_pos_iff.mpr (hne e hes)
        have h1 : e.2.length = 1 := by omega
        obtain ⟨x, hx⟩ := List.length_eq_one_iff.mp h1
        rw [hx] at hne'
        simp only [List.mem_singleton] at hne'
        subst hne'
        exact hsub5.isSome n (hcov4 e hes n hx)
    have hknown : ∀ q ∈ qs, ∀ b ∈ Spec.RDFC10.quadBnodes q, (cs5.get? b).isSome := by
      intro q hq b hb
      apply hall
      rw [Proofs.C03.mem_keys_bnodeToQuads]
      exact List.mem_flatMap.mpr ⟨q, hq, hb⟩
    have hall5 : st5.all = cquads T qs 0 := by rw [hs4]; exact hi3
    simp only [hall5, encodeAll_cquads T henc hs2 qs 0 hwf hknown]
    exact ⟨cs5, hs1, hs2, hknown, rfl⟩

theorem canon_refines_spec (T : NQ.Tables) (hT : TablesCanon T) (H : Str → Str) (lim : Rdfcanon.Limits)
    (ord : List β → List β) (hord : OrdOK ord) (perms : List β → List (List β))
    (hperms : PermsAgree lim.maxPermutations perms) (qs : List (Quad β)) (hwf : ∀ q ∈ qs, WFQuad T q)
    (out : Rdfcanon.Out β) (h : Rdfcanon.canon T H lim ord qs = .ok out) :
    Spec.RDFC10.canonFuel H ord perms true (lim.maxRecursionDepth + 1) qs = some (specView out) := by
  have hs := canon_structure T hT H lim ord hord perms hperms qs hwf
  rw [h] at hs
  obtain ⟨cs5, hs1, hs2, _, hlines⟩ := hs
  rw [canonFuel_unfold, hs1]
  simp only
  unfold specView Rdfcanon.Out.issued
  congr 2
  · rw [hlines, lineList_sorted_encoded]
  · exact (issued_eq hs2).symm

omit [DecidableEq β] in
theorem compileOpts_snoc (opts : List Rdfcanon.CanonOpt) (o : Rdfcanon.CanonOpt) :
    Rdfcanon.compileOpts (opts ++ [o]) = o.apply (Rdfcanon.compileOpts opts) := by
  simp [Rdfcanon.compileOpts, List.foldl_append]

end RdfModel.Proofs.C04
