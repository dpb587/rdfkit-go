/-
  Symbolic execution of the modelled walkNode on the two canonical one-element blocks of the RDFa
  writer (Spec.Rdfa.canon): `<span about property content lang>` (in an arbitrary evaluation context; what step 12
  does with pending incomplete triples is a parameter) and `<span about rel resource>` (no pending incomplete triples).
-/
import RdfModel.Proofs.C11RaWalk
namespace RdfModel.Rdfad
open RdfModel RdfModel.Desc
open RdfModel.Mdd (Node Attr Bytes Subj fields trimSpace typeTokens textContent)

theorem scan_literal_block (E : Env) (x : Bool) (b s pv c lg : Bytes) :
    scanAttrs E x [⟨[], asc "about", s⟩, ⟨[], asc "property", pv⟩, ⟨[], asc "content", c⟩, ⟨[], asc "lang", lg⟩] { localBase := b } =
      { about := some s, property := some pv, content := some c, lang := some lg, localBase := b } := by
  simp [scanAttrs, asc_inj]

def litBlock (i : Nat) (s pv c lg : Bytes) : Node :=
  .mk i 3 [] (asc "span") [] [⟨[], asc "about", s⟩, ⟨[], asc "property", pv⟩, ⟨[], asc "content", c⟩, ⟨[], asc "lang", lg⟩] []

def plainLit (c lg : Bytes) : Obj := if lg.isEmpty then .lit c xsdString none else .lit c rdfLangString (some lg)

theorem span_facts : (asc "span" ≠ asc "html") ∧ (asc "span" ≠ asc "base") ∧ (asc "span" ≠ asc "time") ∧
    (asc "span" ≠ asc "head") ∧ (asc "span" ≠ asc "body") :=
  ⟨asc_ne (by decide), asc_ne (by decide), asc_ne (by decide), asc_ne (by decide), asc_ne (by decide)⟩

theorem getD_append_nil (L : List (List (Bytes × Nat))) (k : Nat) (h : L[k]?.getD [] = []) : (L ++ [[]])[k]?.getD [] = [] := by
  by_cases hk : k < L.length
  · rw [List.getElem?_append_left hk]; exact h
  · rw [List.getElem?_append_right (by omega)]
    cases hh : ([[]] : List (List (Bytes × Nat)))[k - L.length]? with
    | none => rfl
    | some v =>
      have := List.mem_of_getElem? hh
      simp at this; subst this; rfl

theorem maps_append_nil (st : St) (k : Nat) (h : st.getMap k = []) : (st.maps ++ [[]]).getD k [] = [] := by
  unfold St.getMap at h
  rw [List.getD_eq_getElem?_getD] at h ⊢
  exact getD_append_nil _ _ h

/-- `getMap k = []` in the form in which `simp` meets the look-up on the walk over a block -/
theorem maps_nil (st : St) (k : Nat) (h : st.getMap k = []) : st.maps[k]?.getD [] = [] := by
  simpa [St.getMap, List.getD_eq_getElem?_getD] using h

/- The block theorems of this file and of C11RaFragment run `walk` on one concrete element by `simp`: the local simp set is
   the model's definitions on the path of a block (`enter` with its numbered steps, `leave`, the state operations they
   call) plus the attribute scan of the block's shape. It grows down the file, a later block adding the steps it alone
   reaches (here: literal block; further down: @rel/@resource), so a block theorem is to be read with the set as it
   stands at that point. `step8` is kept out: a block rewrites it by `step8_own`, or unfolds it once the parent subject is
   split (`resource_block`). -/
attribute [local simp] enter pre Node.typ Node.atom Node.attrs Node.id scan_literal_block stepVocab locals0 step34
  prefixEntries rule7 filterRel step56 step5 step5b resOpt res orElseSt stepTypeof step910 step11 propertyValue
  datatypeIRI childCtx walkKids leave St.newMap St.getMap St.emit emitEach flushLists flushCount

/-- steps 4 and 11 on an element with @lang and no @xml:lang: `lang=""` resets the language -/
theorem applyLang_stepLang (active : Bool) (a : A) (cur : Option Bytes) (c lg : Bytes) (h1 : a.langXml = none)
    (h2 : a.lang = some lg) :
    applyLang (stepLang active a cur) (some (.lit c xsdString none)) = some (plainLit c lg) := by
  unfold stepLang applyLang plainLit
  by_cases h : lg = [] <;> cases active <;> simp [h1, h2, h]

/-- step 8's test: the new subject differs from the parent subject, so the element starts a list mapping of its own -/
def ownMap (ctx : Ctx) (S : Subj) : Bool := match ctx.parentSubject with | some q => !subjEq q S | none => true

theorem step8_own (ctx : Ctx) (l : L) (st : St) (S : Subj) (h : l.newSubject = some S) :
    step8 ctx l st =
      if ownMap ctx S then ({ l with listMapping := st.maps.length }, { st with maps := st.maps ++ [[]] }) else (l, st) := by
  unfold step8 ownMap
  rw [h]
  cases ctx.parentSubject <;> simp [St.newMap]

/-- The literal block in a context that may hold pending incomplete triples: `X` is what step 12 appends for them
    (`h12`; nothing when there are none). -/
theorem literal_block_pending (E : Env) (cfg : Cfg) (ctx : Ctx) (st : St) (i : Nat) (s pv c lg : Bytes) (S : Subj) (p : Bytes)
    (X : List Stmt) (hbad : st.bad = none) (hmap : st.getMap ctx.listMapping = [])
    (hS : ∀ m, resolveIRI E { st with maps := m } ctx.prefixes s (some ctx.base) (some ctx.vocab) true true = (some S, { st with maps := m }))
    (hP : ∀ m, resolveTokens E ctx.prefixes (some ctx.vocab) true (fields (trimSpace pv)) { st with maps := m } = ([p], { st with maps := m }))
    (h12 : ∀ (l : L) (st0 : St), l.newSubject = some S → l.skip = false → st0.bad = none →
      step12 ctx l st0 = { st0 with out := st0.out ++ X }) :
    walk E cfg false ctx st (litBlock i s pv c lg) =
      { st with out := st.out ++ ⟨S, p, plainLit c lg⟩ :: X,
                maps := if ownMap ctx S then st.maps ++ [[]] else st.maps } := by
  have hS0 : resolveIRI E st ctx.prefixes s (some ctx.base) (some ctx.vocab) true true = (some S, st) := hS st.maps
  have hP0 : resolveTokens E ctx.prefixes (some ctx.vocab) true (fields (trimSpace pv)) st = ([p], st) := hP st.maps
  have hP1 := hP (st.maps ++ [[]])
  obtain ⟨f1, f2, f3, -, -⟩ := span_facts
  have hmap' := maps_nil st _ hmap
  unfold litBlock walk
  simp only [hbad, Option.isSome_none, Bool.false_eq_true, ↓reduceIte]
  cases hown : ownMap ctx S <;>
    simp [step8_own, hown, f1, f2, f3, hS0, hP0, hP1, applyLang_stepLang] <;>
    simp [hbad, h12, hmap']

theorem filter_true (l : List Bytes) : l.filter (fun _ => true) = l := by induction l <;> simp_all

theorem scan_resource_block (E : Env) (x : Bool) (b s pv r : Bytes) :
    scanAttrs E x [⟨[], asc "about", s⟩, ⟨[], asc "rel", pv⟩, ⟨[], asc "resource", r⟩] { localBase := b } =
      { about := some s, rel := some pv, resource := some r, localBase := b } := by
  simp [scanAttrs, asc_inj]

def resBlock (i : Nat) (s pv r : Bytes) : Node :=
  .mk i 3 [] (asc "span") [] [⟨[], asc "about", s⟩, ⟨[], asc "rel", pv⟩, ⟨[], asc "resource", r⟩] []

theorem span_facts2 : (asc "span" ≠ asc "form") ∧ (asc "span" ≠ asc "a") ∧ (asc "span" ≠ asc "area") ∧
    (asc "span" ≠ asc "link") :=
  ⟨asc_ne (by decide), asc_ne (by decide), asc_ne (by decide), asc_ne (by decide)⟩

-- added for @rel with @resource: steps 6, 9, 12
attribute [local simp] scan_resource_block step6 res3 step9 step9a step9b step9c relTokens relIgnored step12

theorem resource_block (E : Env) (cfg : Cfg) (ctx : Ctx) (st : St) (i : Nat) (s pv r : Bytes) (S O : Subj) (p : Bytes)
    (hbad : st.bad = none) (hinc : ctx.incomplete = []) (hmap : st.getMap ctx.listMapping = [])
    (hS : ∀ m, resolveIRI E { st with maps := m } ctx.prefixes s (some ctx.base) (some ctx.vocab) true true = (some S, { st with maps := m }))
    (hO : ∀ m, resolveIRI E { st with maps := m } ctx.prefixes r (some ctx.base) (some ctx.vocab) true true = (some O, { st with maps := m }))
    (hP : ∀ m, resolveTokens E ctx.prefixes (some ctx.vocab) true (fields (trimSpace pv)) { st with maps := m } = ([p], { st with maps := m })) :
    (walk E cfg false ctx st (resBlock i s pv r)).bad = none ∧
    (walk E cfg false ctx st (resBlock i s pv r)).out = st.out ++ [⟨S, p, O.term⟩] := by
  have hS0 : resolveIRI E st ctx.prefixes s (some ctx.base) (some ctx.vocab) true true = (some S, st) := hS st.maps
  have hO0 : resolveIRI E st ctx.prefixes r (some ctx.base) (some ctx.vocab) true true = (some O, st) := hO st.maps
  have hP0 : resolveTokens E ctx.prefixes (some ctx.vocab) true (fields (trimSpace pv)) st = ([p], st) := hP st.maps
  have hP1 := hP (st.maps ++ [[]])
  obtain ⟨f1, f2, -, -, -⟩ := span_facts
  obtain ⟨g1, g2, g3, g4⟩ := span_facts2
  have hmap' := maps_nil st _ hmap
  unfold resBlock walk
  simp only [hbad, Option.isSome_none, Bool.false_eq_true, ↓reduceIte]
  -- splitting on the parent subject itself (not on `ownMap ctx S`) is what keeps the `simp` runs small
  cases hq : ctx.parentSubject with
  | none =>
    simp [step8, f1, f2, g1, g2, g3, g4, hS0, hO0, hq, hinc, hP1, filter_true]
    simp [hbad]
  | some q =>
    by_cases hqe : subjEq q S = true <;>
      simp [step8, f1, f2, g1, g2, g3, g4, hS0, hO0, hq, hqe, hinc, hP0, hP1, filter_true, hmap'] <;>
      simp [hbad]

end RdfModel.Rdfad
