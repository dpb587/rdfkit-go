/-
  The hypotheses of the statement-layer theorems hold for the real token producers (`Producers.real T`).
  In `Consumes` numbers stand apart: a lone `.` is handed back whole, hence the side condition of `Consumes.numeric`.
-/
import RdfModel.Props.C05TtlDefs
import RdfModel.Props.C02Tokens
import RdfModel.Proofs.TtlDocLocal
namespace RdfModel.TtlDoc
open RdfModel RdfModel.Ttl

theorem real_noPanic (T : Tables) : (Producers.real T).NoPanic where
  iriref := fun e i => C02.produceIRIREF_no_panic T e i
  string := fun e i => C02.produceString_no_panic T e i
  pnameNS := fun e i => C02.producePNAME_NS_no_panic T e i
  pname := fun e i => C02.producePrefixedName_no_panic T e i
  bnode := fun e i => C02.produceBlankNode_no_panic T e i
  langtag := fun e i => C02.produceLANGTAG_no_panic e i
  numeric := fun e i => C02.produceNumericLiteral_no_panic e i

theorem runeCost_dot : runeCost 0x2e = 64 := rfl

/-- what the local-name scanner may still hand back: the price (`runeCost_dot`) of an unescaped `.` on top of the accumulator -/
def creditL (acc : List Nat) (le : Bool) : Nat := if acc.head? = some 0x2e ∧ le = false then 64 else 0

theorem creditL_true (acc : List Nat) : creditL acc true = 0 := by simp [creditL]

theorem langDone_ne {acc rest v r : List Nat} (hne : acc ≠ []) (h : langDone acc rest = .ok v r) : v ≠ [] := by
  unfold langDone at h
  split at h
  · simp at h
  · obtain ⟨rfl, _⟩ := h
    cases acc with
    | nil => exact absurd rfl hne
    | cons a b => simp [goString]

theorem langSecondary_ne (e : NQ.End) (v r : List Nat) : ∀ (inp acc : List Nat), acc ≠ [] →
    langSecondary e inp acc = .ok v r → v ≠ [] := by
  intro inp
  induction inp with
  | nil =>
    intro acc hne h
    unfold langSecondary at h
    cases e <;> simp at h
    exact langDone_ne hne h
  | cons c rest ih =>
    intro acc hne h
    unfold langSecondary at h
    -- every branch is an error, the loop again with a longer accumulator, or `langDone`
    repeat' split at h
    all_goals (try (simp at h; done))
    all_goals (try exact ih _ (by simp) h)
    all_goals (try exact langDone_ne hne h)

theorem langPrimary_ne (e : NQ.End) (v r : List Nat) : ∀ (inp acc : List Nat),
    langPrimary e inp acc = .ok v r → v ≠ [] := by
  intro inp
  induction inp with
  | nil =>
    intro acc h
    unfold langPrimary at h
    cases e <;> simp at h
    split at h
    · simp at h
    · next hne => exact langDone_ne (by intro h0; simp [h0] at hne) h
  | cons c rest ih =>
    intro acc h
    unfold langPrimary at h
    -- every branch is an error, this loop again, the second loop after `-`, or `langDone` with a letter read
    repeat' split at h
    all_goals (try (simp at h; done))
    all_goals (try exact ih _ h)
    all_goals (try exact langSecondary_ne _ _ _ _ _ (by simp) h)
    all_goals (try (next hne => exact langDone_ne (by intro h0; simp [h0] at hne) h))

theorem real_langNonEmpty (T : Tables) : (Producers.real T).LangNonEmpty := by
  intro e i v r h
  simp only [Producers.real, produceLANGTAG] at h
  split at h
  · simp at h
  · split at h
    · exact langPrimary_ne _ _ _ _ _ h
    · simp at h

theorem produceNumericLiteral_cost (e : NQ.End) (c : Nat) (rest : List Nat) (v : NumKind × List Nat) (r : List Nat)
    (h : produceNumericLiteral e (c :: rest) = .ok v r)
    (hdot : c = 0x2e → ∃ d rest', rest = d :: rest' ∧ 0x30 ≤ d ∧ d ≤ 0x39) :
    inputCost r + 64 ≤ inputCost (c :: rest) := by
  simp only [produceNumericLiteral] at h
  split at h
  · next hc =>
    have hne : c ≠ 0 := by
      rcases hc with hc | hc | hc
      · omega
      · omega
      · simp [Ttl.isDigit, NQ.isDigit] at hc; omega
    have hnd : c ≠ 0x2e := by
      rcases hc with hc | hc | hc
      · omega
      · omega
      · simp [Ttl.isDigit, NQ.isDigit] at hc; omega
    have := inputCost_le_of_suffix ((scanNum_peeks _ _ _ _ _ _ _ h).left.suffix fun h' => hnd (Option.some.inj h'.1))
    simp only [inputCost, runeCost_eq hne]; omega
  · split at h
    · next hc =>
      obtain ⟨d, rest', rfl, hd1, hd2⟩ := hdot hc
      have hdig : Ttl.isDigit d = true := by simp [Ttl.isDigit, NQ.isDigit]; omega
      simp only [scanNum, hdig, ite_true] at h
      have := inputCost_le_of_suffix ((scanNum_peeks _ _ _ _ _ _ _ h).left.suffix fun h' => by
        have := Option.some.inj h'.1; omega)
      subst hc
      simp only [inputCost, show runeCost 0x2e = 64 from rfl]; omega
    · simp at h

theorem real_consumes (T : Tables) : (Producers.real T).Consumes where
  iriref := fun e i v r h => (produceIRIREF_token T e i v r h).cost
  string := fun e i v r h => (produceString_token T e i v r h).cost
  pnameNS := fun e i v r h => (producePNAME_NS_token T e i v r h).cost
  pname := fun e i v r h => (producePrefixedName_token T e i v r h).cost
  bnode := fun e i v r h => (produceBlankNode_token T e i v r h).cost
  langtag := fun e i v r h => (produceLANGTAG_token e i v r h).cost
  numeric := fun e c rest v r h hd => produceNumericLiteral_cost e c rest v r h hd
  boolean := fun e i b r h => ((scanBoolean_token e i).1 b r h).2.1

end RdfModel.TtlDoc
