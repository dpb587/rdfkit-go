import RdfModel.Props.C01RJDefs
import RdfModel.Spec.RdfJsonGrammar
import RdfModel.Proofs.C01RJRound
namespace RdfModel.Proofs.C01RJ
open RdfModel RdfModel.RJ RdfModel.C01RJ RdfModel.Spec.RJG

variable {β : Type}

/-- The record as the recogniser collects it. -/
def specRec (r : ObjRec) : Rec := ⟨some r.type, some r.value, r.lang, r.datatype⟩

def RecOK (r : ObjRec) : Prop := (specRec r).ok = true

theorem accepts_sep {α : Type} (toks : α → List Tok) (after next : St)
    (hsep : ∀ rest, acceptsFrom after (Tok.valueSep :: rest) = acceptsFrom next rest) (rest : List Tok) :
    ∀ xs : List α, (∀ x ∈ xs, ∀ rest, acceptsFrom next (toks x ++ rest) = acceptsFrom after rest) →
      acceptsFrom after (xs.flatMap (fun x => Tok.valueSep :: toks x) ++ rest) = acceptsFrom after rest
  | [], _ => rfl
  | x :: xs, h => by
    simp only [List.flatMap_cons, List.cons_append, List.append_assoc]
    rw [hsep, h x (.head _), accepts_sep toks after next hsep rest xs fun y hy => h y (.tail _ hy)]

theorem accepts_joinSep {α : Type} (toks : α → List Tok) (first after next : St)
    (hsep : ∀ rest, acceptsFrom after (Tok.valueSep :: rest) = acceptsFrom next rest) (rest : List Tok)
    (x : α) (xs : List α)
    (h : ∀ y ∈ x :: xs, ∀ rest, acceptsFrom first (toks y ++ rest) = acceptsFrom after rest ∧
      acceptsFrom next (toks y ++ rest) = acceptsFrom after rest) :
    acceptsFrom first (joinSep ((x :: xs).map toks) ++ rest) = acceptsFrom after rest := by
  rw [List.map_cons, joinSep, List.flatMap_map, List.append_assoc, (h x (.head _) _).1,
    accepts_sep toks after next hsep rest xs fun y hy rest => (h y (.tail _ hy) rest).2]

theorem accepts_rec (r : ObjRec) (rest : List Tok) (h : RecOK r) :
    acceptsFrom .objFirst (recTokens r ++ rest) = acceptsFrom .objAfter rest ∧
    acceptsFrom .objNext (recTokens r ++ rest) = acceptsFrom .objAfter rest := by
  obtain ⟨ty, val, lang, dt⟩ := r
  simp only [RecOK, specRec] at h
  cases dt <;> cases lang <;>
    simp [recTokens, joinSep, member, acceptsFrom, step, Rec.add, kType, kValue, kLang, kDatatype,
      sType, sValue, sLang, sDatatype, h]

theorem accepts_pred_body (os : List ObjRec) (rest : List Tok) (h : ∀ r ∈ os, RecOK r) :
    acceptsFrom .predColon (Tok.nameSep :: Tok.beginArray :: (joinSep (os.map recTokens) ++ Tok.endArray :: rest))
      = acceptsFrom .predAfter rest := by
  cases os with
  | nil => simp [joinSep, acceptsFrom, step]
  | cons r os =>
    simp only [acceptsFrom, step]
    rw [accepts_joinSep recTokens .objFirst .objAfter .objNext (fun _ => by simp [acceptsFrom, step]) _ r os
      fun r' hr' rest => accepts_rec r' rest (h r' hr')]
    simp [acceptsFrom, step]

theorem accepts_pred (pe : List Nat × List ObjRec) (rest : List Tok) (h : ∀ r ∈ pe.2, RecOK r) :
    acceptsFrom .predFirst (predTokens pe ++ rest) = acceptsFrom .predAfter rest ∧
    acceptsFrom .predKey (predTokens pe ++ rest) = acceptsFrom .predAfter rest := by
  have := accepts_pred_body pe.2 rest h
  constructor <;> simpa [predTokens, acceptsFrom, step] using this

theorem accepts_subj_body (ps : PMap) (rest : List Tok) (h : PMapAll RecOK ps) :
    acceptsFrom .subjColon (Tok.nameSep :: Tok.beginObject :: (joinSep (ps.map predTokens) ++ Tok.endObject :: rest))
      = acceptsFrom .subjAfter rest := by
  cases ps with
  | nil => simp [joinSep, acceptsFrom, step]
  | cons pe ps =>
    simp only [acceptsFrom, step]
    rw [accepts_joinSep predTokens .predFirst .predAfter .predKey (fun _ => by simp [acceptsFrom, step]) _ pe ps
      fun pe' hpe' rest => accepts_pred pe' rest (h pe' hpe')]
    simp [acceptsFrom, step]

theorem accepts_subj (se : List Nat × PMap) (rest : List Tok) (h : PMapAll RecOK se.2) :
    acceptsFrom .subjFirst (subjTokens se ++ rest) = acceptsFrom .subjAfter rest ∧
    acceptsFrom .subjKey (subjTokens se ++ rest) = acceptsFrom .subjAfter rest := by
  have := accepts_subj_body se.2 rest h
  constructor <;> simpa [subjTokens, acceptsFrom, step] using this

def StateOK : State → Prop := StateAll (fun _ => True) RecOK

theorem accepts_rawTokens (st : State) (h : StateOK st) : accepts (rawTokens st) = true := by
  unfold accepts rawTokens
  cases st with
  | nil => simp [joinSep, acceptsFrom, step]
  | cons se st =>
    simp only [acceptsFrom, step]
    rw [accepts_joinSep subjTokens .subjFirst .subjAfter .subjKey (fun _ => by simp [acceptsFrom, step]) _ se st
      fun se' hse' rest => accepts_subj se' rest (h se' hse').2]
    simp [acceptsFrom, step]

theorem recOK_of_wf (label : β → List Nat) (o : Term β) (ho : WFObject o) : RecOK (objRec label o) := by
  have h4 : vUri = sUri := rfl
  have h5 : vBnode = sBnode := rfl
  have h6 : vLiteral = sLiteral := rfl
  cases o with
  | iri x => simp [RecOK, specRec, objRec, Rec.ok, h4]
  | bnode b => simp [RecOK, specRec, objRec, Rec.ok, h5, bnKey, startsWithBN]
  | lit lex dt tag =>
    simp only [objRec]
    rcases wfLit_cases ho with ⟨l, rfl, rfl, hl0⟩ | ⟨hlang, rfl⟩
    · cases l with
      | nil => exact absurd rfl hl0
      | cons a l => simp [RecOK, specRec, Rec.ok, h6]
    · by_cases hx : dt = xsdString
      · subst hx; simp [hlang, RecOK, specRec, Rec.ok, h6]
      · simp [hlang, hx, RecOK, specRec, Rec.ok, h6]

theorem output_grammatical (label : β → List Nat) (ts : List (Triple β)) (hwf : ∀ t ∈ ts, WFTriple t) :
    accepts (encodeTokens (addAll label ts)) = true :=
  have h : StateOK (addAll label ts) :=
    stateAll_addAllFrom label (fun _ _ => trivial) (fun o ho => recOK_of_wf label o ho) ts [] hwf nofun
  accepts_rawTokens _ (stateAll_sort _ h)

end RdfModel.Proofs.C01RJ
