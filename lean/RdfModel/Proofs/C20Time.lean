import RdfModel.Model.GoTime
import RdfModel.Proofs.C20Digits
namespace RdfModel.Proofs.C20Time
open RdfModel RdfModel.GoTime
open RdfModel.Xsd (Tok Bytes layoutToks nextIsFrac)

/-- the text after the seconds begins like a fraction: '.' or ',' and a digit -/
def FracAhead (r : Bytes) : Prop := ∃ p d r2, r = p :: d :: r2 ∧ (p = 0x2E ∨ p = 0x2C) ∧ Xsd.isDigit d = true

/-- one iteration of the loop of `time.parse`, element by element: which texts `tok` reads, what is left, and
    the fields it sets. The zone bounds `hr ≤ 24`, `mm ≤ 60` are Go's own (format.go refuses `hr > 24 || mm > 60`),
    wider than a clock's; `tzWide` notes when they exceed XSD's. -/
def Reads (ts : List Tok) (st : PS) (tok : Tok) (v : Bytes) (st' : PS) (r : Bytes) : Prop :=
  match tok with
  | .lit b => v = b :: r ∧ st' = st
  | .year => ∃ y, getYear v = some (y, r) ∧ st' = { st with t := { st.t with year := y } }
  | .month => ∃ m, getnum2 v = some (m, r) ∧ 1 ≤ m ∧ m ≤ 12 ∧ st' = { st with t := { st.t with month := some m } }
  | .day => ∃ d, getnum2 v = some (d, r) ∧ st' = { st with t := { st.t with day := some d } }
  | .hour => ∃ h one, getnum1 v = some (h, r, one) ∧ h < 24 ∧
      st' = { t := { st.t with hour := h }, n := { st.n with hour1 := one } }
  | .minute => ∃ m, getnum2 v = some (m, r) ∧ m < 60 ∧ st' = { st with t := { st.t with min := m } }
  | .second => ∃ s r1, getnum2 v = some (s, r1) ∧ s < 60 ∧
      (((nextIsFrac ts = true ∨ ¬ FracAhead r1) ∧ r = r1 ∧ st' = { st with t := { st.t with sec := s } }) ∨
       (nextIsFrac ts = false ∧ ∃ p d r2 f, r1 = p :: d :: r2 ∧ (p = 0x2E ∨ p = 0x2C) ∧ Xsd.isDigit d = true ∧
          parseNanos r1 (2 + (r2.takeWhile Xsd.isDigit).length) = some f ∧
          r = r1.drop (2 + (r2.takeWhile Xsd.isDigit).length) ∧
          st' = { t := { st.t with sec := s, nsec := f.ns },
                  n := { st.n with comma := f.comma, fracDropped := decide (f.ns ≠ 0) } }))
  | .frac0 n _ => 1 + n ≤ v.length ∧ ∃ f, parseNanos v (1 + n) = some f ∧ r = v.drop (1 + n) ∧
      st' = { t := { st.t with nsec := f.ns }, n := { st.n with comma := f.comma, fsign := f.signed } }
  | .tz => (v = 0x5A :: r ∧ st' = { st with t := { st.t with zone := some 0 } }) ∨
      ∃ sg h1 h2 m1 m2 hr mm x y, v = sg :: h1 :: h2 :: 0x3A :: m1 :: m2 :: r ∧
        getnum2 [h1, h2] = some (hr, x) ∧ getnum2 [m1, m2] = some (mm, y) ∧ hr ≤ 24 ∧ mm ≤ 60 ∧ (sg = 0x2B ∨ sg = 0x2D) ∧
        st' = { t := { st.t with zone := some (if sg = 0x2B then (((hr * 60 + mm) * 60 : Nat) : Int)
                                                else -(((hr * 60 + mm) * 60 : Nat) : Int)) },
                n := { st.n with tzWide := !tzInXsd hr mm } }
  | .unknown => False

theorem step_iff {ts : List Tok} {tok : Tok} {st st' : PS} {v r : Bytes} :
    step ts tok st v = some (st', r) ↔ Reads ts st tok v st' r := by
  -- row by row: each row of the table is the branch of `step` for that element with its tests read off
  -- (which reader succeeds, which bound holds, which fields are set); `grind` does the unpacking in both directions
  cases tok with
  | lit b => cases v <;> simp only [step, Reads] <;> grind
  | _ => simp only [step, Reads, FracAhead] <;> grind

theorem step_lit_iff {ts : List Tok} {b : Nat} {st st' : PS} {v r : Bytes} :
    step ts (.lit b) st v = some (st', r) ↔ v = b :: r ∧ st' = st := step_iff

theorem step_year_iff {ts : List Tok} {st st' : PS} {v r : Bytes} :
    step ts .year st v = some (st', r) ↔
      ∃ y, getYear v = some (y, r) ∧ st' = { st with t := { st.t with year := y } } := step_iff

theorem step_month_iff {ts : List Tok} {st st' : PS} {v r : Bytes} :
    step ts .month st v = some (st', r) ↔
      ∃ m, getnum2 v = some (m, r) ∧ 1 ≤ m ∧ m ≤ 12 ∧ st' = { st with t := { st.t with month := some m } } := step_iff

theorem step_day_iff {ts : List Tok} {st st' : PS} {v r : Bytes} :
    step ts .day st v = some (st', r) ↔
      ∃ d, getnum2 v = some (d, r) ∧ st' = { st with t := { st.t with day := some d } } := step_iff

theorem step_hour_iff {ts : List Tok} {st st' : PS} {v r : Bytes} :
    step ts .hour st v = some (st', r) ↔
      ∃ h one, getnum1 v = some (h, r, one) ∧ h < 24 ∧
        st' = { t := { st.t with hour := h }, n := { st.n with hour1 := one } } := step_iff

theorem step_minute_iff {ts : List Tok} {st st' : PS} {v r : Bytes} :
    step ts .minute st v = some (st', r) ↔
      ∃ m, getnum2 v = some (m, r) ∧ m < 60 ∧ st' = { st with t := { st.t with min := m } } := step_iff

theorem two_eq (v : Bytes) : Spec.Xsd.two v = getnum2 v := by
  match v with
  | [] => rfl
  | [_] => rfl
  | a :: b :: r => rfl

theorem getnum2_lt {v r : Bytes} {n : Nat} (h : getnum2 v = some (n, r)) : n < 100 := by
  match v with
  | [] => simp [getnum2] at h
  | [_] => simp [getnum2] at h
  | a :: b :: r0 =>
    simp only [getnum2] at h
    split at h
    · next hd => simp [dig] at h; simp [Xsd.isDigit] at hd; omega
    · simp at h

def NoDigitHead (r : Bytes) : Prop := ∀ c r', r = c :: r' → Spec.Xsd.isDigit c = false

theorem spanDigits_stop {r : Bytes} (h : NoDigitHead r) : Spec.Xsd.spanDigits r = ([], r) :=
  C20.spanDigits_append (ds := []) rfl h

theorem yearFrag_of_getYear {v r : Bytes} {y : Nat} (h : getYear v = some (y, r)) (hr : NoDigitHead r) :
    Spec.Xsd.yearFrag v = some ((y : Int), r) := by
  match v with
  | [] | [_] | [_, _] | [_, _, _] => simp [getYear] at h
  | a :: b :: c :: d :: r0 =>
    simp only [getYear] at h
    split at h
    · next hd =>
      simp only [Option.some.injEq, Prod.mk.injEq] at h
      obtain ⟨hy, rfl⟩ := h
      simp only [Bool.and_eq_true, C20.isDigit_eq] at hd
      obtain ⟨⟨⟨ha, hb⟩, hc⟩, hdd⟩ := hd
      have ha' : a ≠ 0x2D := by
        intro e; subst e; revert ha; decide
      simp [Spec.Xsd.yearFrag, ha', Spec.Xsd.spanDigits, ha, hb, hc, hdd, spanDigits_stop hr, Spec.Xsd.natValue]
      simp [dig] at hy; omega
    · simp at h

theorem isLeap_eq (y : Nat) : isLeap y = Spec.Xsd.isLeap (y : Int) := by
  unfold isLeap Spec.Xsd.isLeap
  rw [Bool.eq_iff_iff]
  simp only [Bool.and_eq_true, Bool.or_eq_true, beq_iff_eq, bne_iff_ne, ne_eq]
  omega

theorem daysIn_eq (m y : Nat) : daysIn m y = Spec.Xsd.daysInMonth (some (y : Int)) m := by
  unfold daysIn Spec.Xsd.daysInMonth
  rw [isLeap_eq]

/-- without a year element `time.parse` leaves year 0, a leap year in Go's rule: so `--02-29` passes the day-of-month
    test, as XSD's `daysInMonth` without a year allows -/
theorem daysIn_zero (m : Nat) : daysIn m 0 = Spec.Xsd.daysInMonth none m := by
  unfold daysIn Spec.Xsd.daysInMonth
  simp [isLeap]

theorem daysIn_le (m y : Nat) : daysIn m y ≤ 31 := by
  unfold daysIn; split <;> (try split) <;> omega

theorem getnum2_two {a b : Nat} {n : Nat} {x : Bytes} (h : getnum2 [a, b] = some (n, x)) (rest : Bytes) :
    getnum2 (a :: b :: rest) = some (n, rest) := by
  simp only [getnum2] at h ⊢
  split at h
  · next hd => simp at h; simp [hd, h.1]
  · simp at h

theorem step_tz_end {ts : List Tok} {st st' : PS} {v : Bytes} (h : step ts .tz st v = some (st', [])) :
    ∃ o w, st' = { t := { st.t with zone := some o }, n := { st.n with tzWide := w } } ∧
      (w = false → ∀ req, Spec.Xsd.tzEnd req v = true) := by
  rcases step_iff.1 h with ⟨rfl, rfl⟩ | ⟨sg, h1, h2, m1, m2, hr, mm, x, y, rfl, e1, e2, hh, hm, hs, rfl⟩
  · exact ⟨0, st.n.tzWide, rfl, fun _ req => by cases req <;> rfl⟩
  · refine ⟨_, _, rfl, ?_⟩
    intro hw req
    have e1' := getnum2_two e1 [0x3A, m1, m2]
    have e2' := getnum2_two e2 []
    simp [tzInXsd] at hw
    rcases hs with rfl | rfl <;> simp [Spec.Xsd.tzEnd, two_eq, e1', Spec.Xsd.expect, e2'] <;> omega

theorem noDigitHead_cons {c : Nat} {r : Bytes} (h : Spec.Xsd.isDigit c = false) : NoDigitHead (c :: r) := by
  intro c' r' e; cases e; exact h

theorem parseWith_inv {toks : List Tok} {a : Bytes} {st : PS} (h : parseWith toks a = some st) :
    parseToks toks {} a = some st ∧ dayOK st.t = true := by
  simp only [parseWith] at h
  split at h
  · split at h
    · simp at h; subst h; exact ⟨by assumption, by assumption⟩
    · simp at h
  · simp at h

theorem end_inv {r : Bytes} {s st : PS} (h : (if r = [] then some s else none) = some st) : r = [] ∧ s = st := by
  simpa using h

theorem parseToks_ind {P : List Tok → PS → PS → Prop} (hnil : ∀ st, P [] st st)
    (hcons : ∀ {tok ts st s1 stf v r}, step ts tok st v = some (s1, r) → P ts s1 stf → P (tok :: ts) st stf) :
    ∀ {toks st stf a}, parseToks toks st a = some stf → P toks st stf := by
  intro toks
  induction toks with
  | nil =>
    intro st stf a h
    obtain ⟨_, rfl⟩ := end_inv (by simpa [parseToks] using h)
    exact hnil st
  | cons tok ts ih =>
    intro st stf a h
    simp only [parseToks, Option.bind_eq_some_iff, Prod.exists] at h
    obtain ⟨s1, r1, hs, hrest⟩ := h
    exact hcons hs (ih hrest)

theorem dateFrag_of {a r2 r4 r5 : Bytes} {y m d : Nat} (hy : getYear a = some (y, 0x2D :: r2))
    (hm : getnum2 r2 = some (m, 0x2D :: r4)) (hm1 : 1 ≤ m) (hm2 : m ≤ 12) (hd : getnum2 r4 = some (d, r5))
    (hd1 : 1 ≤ d) (hd2 : d ≤ daysIn m y) : Spec.Xsd.dateFrag a = some r5 := by
  have hy' := yearFrag_of_getYear hy (noDigitHead_cons (by decide))
  have : d ≤ 31 := Nat.le_trans hd2 (daysIn_le m y)
  simp [Spec.Xsd.dateFrag, hy', Spec.Xsd.expect, Spec.Xsd.monthFrag, Spec.Xsd.dayFrag, two_eq, hm, hd, hm1, hm2, hd1, this,
    ← daysIn_eq, hd2]


-- `unfold_parse at h` turns a successful parse over a concrete element list into nested ∃/∧ over the readers, for the
-- elements lit, year, month, day, hour, minute; a `second`, fraction or zone step stays as `step … = some …` and is
-- opened with `step_iff.1`
macro "unfold_parse" "at" h:ident : tactic =>
  `(tactic| simp only [parseToks, Option.bind_eq_some_iff, Prod.exists, step_lit_iff, step_year_iff, step_month_iff,
      step_day_iff, step_hour_iff, step_minute_iff] at $h:ident)

theorem ymFrag_of {a r2 r3 : Bytes} {y m : Nat} (hy : getYear a = some (y, 0x2D :: r2))
    (hm : getnum2 r2 = some (m, r3)) (hm1 : 1 ≤ m) (hm2 : m ≤ 12) :
    (do let (_, r) ← Spec.Xsd.yearFrag a; let r ← Spec.Xsd.expect 0x2D r; let (_, r) ← Spec.Xsd.monthFrag r; pure r) = some r3 := by
  have hy' := yearFrag_of_getYear hy (noDigitHead_cons (by decide))
  simp [hy', Spec.Xsd.expect, Spec.Xsd.monthFrag, two_eq, hm, hm1, hm2]

theorem mdFrag_of {r2 r4 r5 : Bytes} {m d : Nat}
    (hm : getnum2 r2 = some (m, 0x2D :: r4)) (hm1 : 1 ≤ m) (hm2 : m ≤ 12) (hd : getnum2 r4 = some (d, r5))
    (hd1 : 1 ≤ d) (hd2 : d ≤ daysIn m 0) :
    (do let r ← Spec.Xsd.expect 0x2D (0x2D :: 0x2D :: r2); let r ← Spec.Xsd.expect 0x2D r; let (m, r) ← Spec.Xsd.monthFrag r
        let r ← Spec.Xsd.expect 0x2D r; let (d, r) ← Spec.Xsd.dayFrag r
        if d ≤ Spec.Xsd.daysInMonth none m then some r else none) = some r5 := by
  have : d ≤ 31 := Nat.le_trans hd2 (daysIn_le m 0)
  simp [Spec.Xsd.expect, Spec.Xsd.monthFrag, Spec.Xsd.dayFrag, two_eq, hm, hd, hm1, hm2, hd1, this, ← daysIn_zero, hd2]

theorem getnum1_two {v r : Bytes} {h : Nat} (e : getnum1 v = some (h, r, false)) : getnum2 v = some (h, r) := by
  match v with
  | [] => simp [getnum1] at e
  | [a] => simp [getnum1] at e
  | a :: b :: r0 =>
    simp only [getnum1] at e
    split at e
    · simp at e
    · next ha =>
      split at e
      · next hb => simp at e; simp at ha; simp [getnum2, ha, hb, e.1, e.2]
      · simp at e

theorem drop_takeWhile (p : Nat → Bool) (l : Bytes) : l.drop (l.takeWhile p).length = l.dropWhile p := by
  induction l with
  | nil => rfl
  | cons b r ih => simp only [List.takeWhile, List.dropWhile]; split <;> simp_all

theorem noDigitHead_dropWhile (l : Bytes) : NoDigitHead (l.dropWhile Spec.Xsd.isDigit) := by
  intro c r' e
  simpa [e] using List.head_dropWhile_not Spec.Xsd.isDigit (l := l) (by simp [e])

theorem parseNanos_dot {c : Nat} {t : Bytes} {n : Nat} {f : Frac} (h : parseNanos (c :: t) n = some f)
    (hc : f.comma = false) : c = 0x2E := by
  -- `parseNanos` accepts '.' or ',' only and records which in `comma`
  simp only [parseNanos] at h
  grind

theorem atoi_unsigned {s : Bytes} {neg : Bool} {m : Nat} (h : atoi s = some (false, neg, m)) :
    s.all Xsd.isDigit = true := by
  -- of the three branches of `atoi` ('-', '+', neither) only the last answers `signed = false`, and it tests all of `s`
  simp only [atoi] at h
  grind

theorem parseNanos_unsigned {v : Bytes} {n : Nat} {f : Frac} (h : parseNanos v n = some f) (hs : f.signed = false) :
    ((v.take (if n > 10 then 10 else n)).drop 1).all Xsd.isDigit = true := by
  match v with
  | [] => simp [parseNanos] at h
  | c :: t =>
    simp only [parseNanos] at h
    split at h
    · simp at h
    · split at h
      · simp at h
      · next sg neg m e =>
        split at h
        · simp at h
        · simp at h; subst h; simp at hs; subst hs; exact atoi_unsigned e

theorem timeFrag_F0 {a r2 r4 r6 : Bytes} {h m s : Nat} (hh : getnum2 a = some (h, 0x3A :: r2)) (hlt : h < 24)
    (hm : getnum2 r2 = some (m, 0x3A :: r4)) (hmlt : m < 60) (hs : getnum2 r4 = some (s, r6)) (hslt : s < 60)
    (hnd : ∀ r', r6 ≠ 0x2E :: r') : Spec.Xsd.timeFrag a = some r6 := by
  have e1 : (h ≤ 23) := by omega
  have e2 : (m ≤ 59) := by omega
  have e3 : (s ≤ 59) := by omega
  simp only [Spec.Xsd.timeFrag, two_eq, hh, Spec.Xsd.expect, hm, hs, Option.bind_eq_bind, Option.bind_some, if_true]
  match r6, hnd with
  | [], _ => simp [e1, e2, e3]
  | c :: t, hnd =>
    have : c ≠ 0x2E := fun e => hnd t (by rw [e])
    simp [e1, e2, e3]

theorem timeFrag_F1 {a r2 r4 ds r6 : Bytes} {h m s : Nat} (hh : getnum2 a = some (h, 0x3A :: r2)) (hlt : h < 24)
    (hm : getnum2 r2 = some (m, 0x3A :: r4)) (hmlt : m < 60) (hs : getnum2 r4 = some (s, 0x2E :: (ds ++ r6))) (hslt : s < 60)
    (hne : ds ≠ []) (hd : ds.all Spec.Xsd.isDigit = true) (hr : NoDigitHead r6) : Spec.Xsd.timeFrag a = some r6 := by
  have e1 : (h ≤ 23) := by omega
  have e2 : (m ≤ 59) := by omega
  have e3 : (s ≤ 59) := by omega
  have : ds.isEmpty = false := by cases ds <;> simp_all
  simp [Spec.Xsd.timeFrag, two_eq, hh, Spec.Xsd.expect, hm, hs, C20.spanDigits_append hd hr, this, e1, e2, e3]

/-- what can follow the seconds in a layout of the family: nothing, `Z`, or a signed offset -/
def TailHead (r : Bytes) : Prop := ∀ c r', r = c :: r' → c = 0x5A ∨ c = 0x2B ∨ c = 0x2D

theorem tailHead_nil : TailHead [] := by intro c r h; cases h
theorem tailHead_noDigit {r : Bytes} (h : TailHead r) : NoDigitHead r := by
  intro c r' e
  rcases h c r' e with rfl | rfl | rfl <;> decide
theorem tailHead_noDot {r : Bytes} (h : TailHead r) : ∀ r', r ≠ 0x2E :: r' := by
  intro r' e
  rcases h _ _ e with h | h | h <;> simp at h

theorem nanos_plain {r5 : Bytes} {f : Frac} (hlen : 1 + 9 ≤ r5.length) (hpn : parseNanos r5 (1 + 9) = some f)
    (hc : f.comma = false) (hs : f.signed = false) :
    ∃ t, r5 = 0x2E :: t ∧ (t.take 9).all Xsd.isDigit = true ∧ 9 ≤ t.length := by
  match r5, hlen, hpn with
  | c :: t, hlen, hpn =>
    obtain rfl := parseNanos_dot hpn hc
    have hds := parseNanos_unsigned hpn hs
    simp only [Nat.lt_irrefl, if_false] at hds
    exact ⟨t, rfl, by simpa using hds, by simp at hlen; omega⟩

theorem clockF_parts {ts : List Tok} {st stf : PS} {v : Bytes}
    (h : parseToks (.hour :: .lit 0x3A :: .minute :: .lit 0x3A :: .second :: .frac0 9 0x2E :: ts) st v = some stf) :
    ∃ hh one r2 m r4 s r5 f, getnum1 v = some (hh, 0x3A :: r2, one) ∧ hh < 24 ∧ getnum2 r2 = some (m, 0x3A :: r4) ∧ m < 60 ∧
      getnum2 r4 = some (s, r5) ∧ s < 60 ∧ 1 + 9 ≤ r5.length ∧ parseNanos r5 (1 + 9) = some f ∧
      parseToks ts { t := { st.t with hour := hh, min := m, sec := s, nsec := f.ns },
                     n := { st.n with hour1 := one, comma := f.comma, fsign := f.signed } } (r5.drop (1 + 9)) = some stf := by
  unfold_parse at h
  obtain ⟨s1, r1, ⟨hh, one, e1, hlt, rfl⟩, s2, r2, ⟨rfl, rfl⟩, s3, r3, ⟨m, e2, mlt, rfl⟩, s4, r4, ⟨rfl, rfl⟩, s5, r5, hsec, s6, r6, hfr, hrest⟩ := h
  obtain ⟨s, r5', e3, slt, ⟨_, rfl, rfl⟩ | ⟨hnf, _⟩⟩ := step_iff.1 hsec
  · obtain ⟨hlen, f, hpn, rfl, rfl⟩ := step_iff.1 hfr
    exact ⟨hh, one, r2, m, r4, s, r5, f, e1, hlt, e2, mlt, e3, slt, hlen, hpn, hrest⟩
  · simp [nextIsFrac] at hnf

/-- hh:mm:ss, then the fraction element or not (without it the "fraction not in the layout" rule applies): a
    reading without one-digit hour, comma or signed fraction is the clock part of the spec -/
theorem clock_inv {fr : Bool} {ts : List Tok} {st stf : PS} {v : Bytes}
    (h : parseToks (.hour :: .lit 0x3A :: .minute :: .lit 0x3A :: .second :: (if fr then .frac0 9 0x2E :: ts else ts)) st v
      = some stf) :
    ∃ hh m s ns n1 r6, parseToks ts { t := { st.t with hour := hh, min := m, sec := s, nsec := ns }, n := n1 } r6 = some stf ∧
      (n1.hour1 = false → n1.comma = false → n1.fsign = false → TailHead r6 → Spec.Xsd.timeFrag v = some r6) := by
  cases fr with
  | false =>
    simp only [Bool.false_eq_true, if_false] at h
    unfold_parse at h
    obtain ⟨s1, r1, ⟨hh, one, e1, hlt, rfl⟩, s2, r2, ⟨rfl, rfl⟩, s3, r3, ⟨m, e2, mlt, rfl⟩, s4, r4, ⟨rfl, rfl⟩, s5, r5, hsec, hrest⟩ := h
    obtain ⟨s, r5', e3, slt, ⟨_, rfl, rfl⟩ | ⟨_, p, d, r2', f, rfl, _, hd, hpn, rfl, rfl⟩⟩ := step_iff.1 hsec
    · refine ⟨hh, m, s, st.t.nsec, _, r5, hrest, ?_⟩
      intro h1 _ _ htl
      simp only at h1
      subst h1
      exact timeFrag_F0 (getnum1_two e1) hlt e2 mlt e3 slt (tailHead_noDot htl)
    · refine ⟨hh, m, s, f.ns, _, _, hrest, ?_⟩
      intro h1 hcm _ _
      simp only at h1 hcm
      subst h1
      obtain rfl := parseNanos_dot hpn hcm
      have hdrop : (0x2E :: d :: r2').drop (2 + (r2'.takeWhile Xsd.isDigit).length) = r2'.dropWhile Spec.Xsd.isDigit := by
        rw [Nat.add_comm]; simp only [List.drop_succ_cons]; exact drop_takeWhile _ _
      rw [hdrop]
      have e3' : getnum2 r4 = some (s, 0x2E :: ((d :: r2'.takeWhile Spec.Xsd.isDigit) ++ r2'.dropWhile Spec.Xsd.isDigit)) := by
        rw [e3]; simp [List.takeWhile_append_dropWhile]
      exact timeFrag_F1 (getnum1_two e1) hlt e2 mlt e3' slt (by simp) (by simp [← C20.isDigit_eq, hd]) (noDigitHead_dropWhile _)
  | true =>
    obtain ⟨hh, one, r2, m, r4, s, r5, f, e1, hlt, e2, mlt, e3, slt, hlen, hpn, hrest⟩ := clockF_parts h
    refine ⟨hh, m, s, f.ns, _, _, hrest, ?_⟩
    intro h1 hcm hfs htl
    simp only at h1 hcm hfs
    subst h1
    obtain ⟨t, rfl, hds, hl9⟩ := nanos_plain hlen hpn hcm hfs
    have hne : t.take 9 ≠ [] := by
      intro e
      have h1 : (t.take 9).length = min 9 t.length := List.length_take
      rw [e] at h1
      simp only [List.length_nil] at h1
      omega
    have e3' : getnum2 r4 = some (s, 0x2E :: (t.take 9 ++ t.drop 9)) := by
      rw [e3, List.take_append_drop]
    have : (0x2E :: t).drop (1 + 9) = t.drop 9 := by simp
    rw [this]
    exact timeFrag_F1 (getnum1_two e1) hlt e2 mlt e3' slt hne (by simpa [← C20.isDigit_eq] using hds) (tailHead_noDigit htl)

theorem step_tz_tailHead {ts : List Tok} {st st' : PS} {v r : Bytes} (h : step ts .tz st v = some (st', r)) :
    TailHead v := by
  rcases step_iff.1 h with ⟨rfl, _⟩ | ⟨sg, _, _, _, _, _, _, _, _, rfl, _, _, _, _, hs, _⟩
  · intro c r' e; cases e; simp
  · intro c r' e; cases e; rcases hs with rfl | rfl <;> simp

inductive Tail | none | z | tz
  deriving DecidableEq

def Tail.toks : Tail → List Tok
  | .none => [] | .z => [.lit 0x5A] | .tz => [.tz]

def preD : List Tok := [.year, .lit 0x2D, .month, .lit 0x2D, .day]
def preC : List Tok := [.hour, .lit 0x3A, .minute, .lit 0x3A, .second]
def preDT : List Tok := [.year, .lit 0x2D, .month, .lit 0x2D, .day, .lit 0x54, .hour, .lit 0x3A, .minute, .lit 0x3A, .second]
def preGD : List Tok := [.lit 0x2D, .lit 0x2D, .lit 0x2D, .day]
def preGM : List Tok := [.lit 0x2D, .lit 0x2D, .month]
def preGMD : List Tok := [.lit 0x2D, .lit 0x2D, .month, .lit 0x2D, .day]
def preGY : List Tok := [.year]
def preGYM : List Tok := [.year, .lit 0x2D, .month]

/-- element list of a layout of the family: a prefix, optionally ".000000000", a tail -/
def shapeToks (pre : List Tok) (fr : Bool) (tl : Tail) : List Tok :=
  pre ++ (if fr then .frac0 9 0x2E :: tl.toks else tl.toks)

/-- the tail is the zone element, so that a zone is certainly read and `dateTimeLexOK true` can be promised (a literal
    `Z` carries a zone too; that is not claimed) -/
def Tail.req : Tail → Bool
  | .tz => true | _ => false

theorem parseToks_single {tok : Tok} {s st : PS} {r : Bytes} :
    parseToks [tok] s r = some st ↔ step [] tok s r = some (st, []) := by
  simp only [parseToks, Option.bind_eq_some_iff, Prod.exists]
  exact ⟨fun ⟨_, _, h, hend⟩ => by obtain ⟨rfl, rfl⟩ := end_inv hend; exact h, fun h => ⟨_, _, h, by simp⟩⟩

theorem tail_iff {tl : Tail} {s st : PS} {r : Bytes} :
    parseToks tl.toks s r = some st ↔
      (tl = .none ∧ r = [] ∧ st = s) ∨ (tl = .z ∧ r = [0x5A] ∧ st = s) ∨ (tl = .tz ∧ step [] .tz s r = some (st, [])) := by
  cases tl
  · simp [Tail.toks, parseToks, eq_comm]
  · simp [Tail.toks, parseToks_single, step_lit_iff]
  · simp [Tail.toks, parseToks_single]
theorem tail_inv {tl : Tail} {s1 stf : PS} {r6 : Bytes} (h : parseToks tl.toks s1 r6 = some stf) :
    TailHead r6 ∧ ∃ zo w, stf = { t := { s1.t with zone := zo }, n := { s1.n with tzWide := w } } ∧
      (w = false → Spec.Xsd.tzEnd tl.req r6 = true) := by
  rcases tail_iff.1 h with ⟨rfl, rfl, rfl⟩ | ⟨rfl, rfl, rfl⟩ | ⟨rfl, htz⟩
  · exact ⟨tailHead_nil, stf.t.zone, stf.n.tzWide, rfl, fun _ => rfl⟩
  · exact ⟨fun c r' e => by cases e; simp, stf.t.zone, stf.n.tzWide, rfl, fun _ => rfl⟩
  · obtain ⟨o, w, rfl, htz'⟩ := step_tz_end htz
    exact ⟨step_tz_tailHead htz, some o, w, rfl, fun hw => htz' hw _⟩

theorem tzEnd_weaken {req : Bool} {r : Bytes} (h : Spec.Xsd.tzEnd req r = true) : Spec.Xsd.tzEnd false r = true := by
  cases req
  · exact h
  · match r with
    | [] => simp [Spec.Xsd.tzEnd] at h
    | [c] => by_cases hc : c = 0x5A <;> simp_all [Spec.Xsd.tzEnd]
    | c :: d :: t => simpa [Spec.Xsd.tzEnd] using h

theorem sound_D {tl : Tail} {a : Bytes} {st : PS} (h : parseWith (preD ++ tl.toks) a = some st) (hc : st.n.clean = true) :
    Spec.Xsd.dateLexOK a = true := by
  obtain ⟨hp, hd⟩ := parseWith_inv h
  simp only [preD, List.cons_append, List.nil_append] at hp
  unfold_parse at hp
  obtain ⟨s1, r1, ⟨y, hy, rfl⟩, s2, r2, ⟨rfl, rfl⟩, s3, r3, ⟨m, hm, hm1, hm2, rfl⟩, s4, r4, ⟨rfl, rfl⟩, s5, r5, ⟨d, hdd, rfl⟩, hrest⟩ := hp
  obtain ⟨_, zo, w, rfl, hz⟩ := tail_inv hrest
  simp [dayOK] at hd
  simp [Notes.clean] at hc
  simp [Spec.Xsd.dateLexOK, dateFrag_of hy hm hm1 hm2 hdd hd.1 hd.2, tzEnd_weaken (hz hc)]

theorem sound_GY {tl : Tail} {a : Bytes} {st : PS} (h : parseWith (preGY ++ tl.toks) a = some st) (hc : st.n.clean = true) :
    Spec.Xsd.gYearLexOK a = true := by
  obtain ⟨hp, hd⟩ := parseWith_inv h
  simp only [preGY, List.cons_append, List.nil_append] at hp
  unfold_parse at hp
  obtain ⟨s1, r1, ⟨y, hy, rfl⟩, hrest⟩ := hp
  obtain ⟨htl, zo, w, rfl, hz⟩ := tail_inv hrest
  simp [Notes.clean] at hc
  simp [Spec.Xsd.gYearLexOK, yearFrag_of_getYear hy (tailHead_noDigit htl), tzEnd_weaken (hz hc)]

theorem sound_GYM {tl : Tail} {a : Bytes} {st : PS} (h : parseWith (preGYM ++ tl.toks) a = some st) (hc : st.n.clean = true) :
    Spec.Xsd.gYearMonthLexOK a = true := by
  obtain ⟨hp, hd⟩ := parseWith_inv h
  simp only [preGYM, List.cons_append, List.nil_append] at hp
  unfold_parse at hp
  obtain ⟨s1, r1, ⟨y, hy, rfl⟩, s2, r2, ⟨rfl, rfl⟩, s3, r3, ⟨m, hm, hm1, hm2, rfl⟩, hrest⟩ := hp
  obtain ⟨_, zo, w, rfl, hz⟩ := tail_inv hrest
  simp [Notes.clean] at hc
  simp only [Spec.Xsd.gYearMonthLexOK, ymFrag_of hy hm hm1 hm2]; exact tzEnd_weaken (hz hc)

theorem sound_GM {tl : Tail} {a : Bytes} {st : PS} (h : parseWith (preGM ++ tl.toks) a = some st) (hc : st.n.clean = true) :
    Spec.Xsd.gMonthLexOK a = true := by
  obtain ⟨hp, hd⟩ := parseWith_inv h
  simp only [preGM, List.cons_append, List.nil_append] at hp
  unfold_parse at hp
  obtain ⟨s1, r1, ⟨rfl, rfl⟩, s2, r2, ⟨rfl, rfl⟩, s3, r3, ⟨m, hm, hm1, hm2, rfl⟩, hrest⟩ := hp
  obtain ⟨_, zo, w, rfl, hz⟩ := tail_inv hrest
  simp [Notes.clean] at hc
  simp [Spec.Xsd.gMonthLexOK, Spec.Xsd.expect, Spec.Xsd.monthFrag, two_eq, hm, hm1, hm2, tzEnd_weaken (hz hc)]

theorem sound_GD {tl : Tail} {a : Bytes} {st : PS} (h : parseWith (preGD ++ tl.toks) a = some st) (hc : st.n.clean = true) :
    Spec.Xsd.gDayLexOK a = true := by
  obtain ⟨hp, hd⟩ := parseWith_inv h
  simp only [preGD, List.cons_append, List.nil_append] at hp
  unfold_parse at hp
  obtain ⟨s1, r1, ⟨rfl, rfl⟩, s2, r2, ⟨rfl, rfl⟩, s3, r3, ⟨rfl, rfl⟩, s5, r5, ⟨d, hdd, rfl⟩, hrest⟩ := hp
  obtain ⟨_, zo, w, rfl, hz⟩ := tail_inv hrest
  simp [dayOK, daysIn] at hd
  simp [Notes.clean] at hc
  simp [Spec.Xsd.gDayLexOK, Spec.Xsd.expect, Spec.Xsd.dayFrag, two_eq, hdd, hd, tzEnd_weaken (hz hc)]

theorem sound_GMD {tl : Tail} {a : Bytes} {st : PS} (h : parseWith (preGMD ++ tl.toks) a = some st) (hc : st.n.clean = true) :
    Spec.Xsd.gMonthDayLexOK a = true := by
  obtain ⟨hp, hd⟩ := parseWith_inv h
  simp only [preGMD, List.cons_append, List.nil_append] at hp
  unfold_parse at hp
  obtain ⟨s1, r1, ⟨rfl, rfl⟩, s2, r2, ⟨rfl, rfl⟩, s3, r3, ⟨m, hm, hm1, hm2, rfl⟩, s4, r4, ⟨rfl, rfl⟩, s5, r5, ⟨d, hdd, rfl⟩, hrest⟩ := hp
  obtain ⟨_, zo, w, rfl, hz⟩ := tail_inv hrest
  simp [dayOK] at hd
  simp [Notes.clean] at hc
  simp only [Spec.Xsd.gMonthDayLexOK, mdFrag_of hm hm1 hm2 hdd hd.1 hd.2]; exact tzEnd_weaken (hz hc)

theorem sound_C {fr : Bool} {tl : Tail} {a : Bytes} {st : PS} (h : parseWith (shapeToks preC fr tl) a = some st)
    (hc : st.n.clean = true) : Spec.Xsd.timeLexOK a = true := by
  obtain ⟨hp, hd⟩ := parseWith_inv h
  obtain ⟨hh, m, s, ns, n1, r6, hrest, hT⟩ := clock_inv hp
  obtain ⟨htl, zo, w, rfl, hz⟩ := tail_inv hrest
  simp [Notes.clean] at hc
  simp only [Spec.Xsd.timeLexOK, hT (by simp [hc]) (by simp [hc]) (by simp [hc]) htl]
  exact tzEnd_weaken (hz (by simp [hc]))

theorem ymdT_iff {ts : List Tok} {st stf : PS} {v : Bytes} :
    parseToks (.year :: .lit 0x2D :: .month :: .lit 0x2D :: .day :: .lit 0x54 :: ts) st v = some stf ↔
    ∃ y m d r2 r4 r6, getYear v = some (y, 0x2D :: r2) ∧ getnum2 r2 = some (m, 0x2D :: r4) ∧ 1 ≤ m ∧ m ≤ 12 ∧
      getnum2 r4 = some (d, 0x54 :: r6) ∧
      parseToks ts { st with t := { st.t with year := y, month := some m, day := some d } } r6 = some stf := by
  simp only [parseToks, Option.bind_eq_some_iff, Prod.exists, step_lit_iff, step_year_iff, step_month_iff, step_day_iff]
  constructor
  · rintro ⟨s1, r1, ⟨y, hy, rfl⟩, s2, r2, ⟨rfl, rfl⟩, s3, r3, ⟨m, hm, hm1, hm2, rfl⟩, s4, r4, ⟨rfl, rfl⟩, s5, r5, ⟨d, hdd, rfl⟩,
      s6, r6, ⟨rfl, rfl⟩, hrest⟩
    exact ⟨y, m, d, r2, r4, r6, hy, hm, hm1, hm2, hdd, hrest⟩
  · rintro ⟨y, m, d, r2, r4, r6, hy, hm, hm1, hm2, hdd, hrest⟩
    exact ⟨_, _, ⟨y, hy, rfl⟩, _, _, ⟨rfl, rfl⟩, _, _, ⟨m, hm, hm1, hm2, rfl⟩, _, _, ⟨rfl, rfl⟩, _, _, ⟨d, hdd, rfl⟩, _, _, ⟨rfl, rfl⟩, hrest⟩

theorem sound_DT {fr : Bool} {tl : Tail} {a : Bytes} {st : PS} (h : parseWith (shapeToks preDT fr tl) a = some st)
    (hc : st.n.clean = true) : Spec.Xsd.dateTimeLexOK tl.req a = true := by
  obtain ⟨hp, hd⟩ := parseWith_inv h
  obtain ⟨y, mo, d, r2, r4, rT, hy, hm, hm1, hm2, hdd, hp'⟩ := ymdT_iff.1 hp
  simp [dayOK] at hd
  obtain ⟨hh, m, s, ns, n1, r6, hrest, hT⟩ := clock_inv hp'
  obtain ⟨htl, zo, w, rfl, hz⟩ := tail_inv hrest
  simp [Notes.clean] at hc
  simp [Spec.Xsd.dateTimeLexOK, dateFrag_of hy hm hm1 hm2 hdd hd.1 hd.2, Spec.Xsd.expect,
    hT (by simp [hc]) (by simp [hc]) (by simp [hc]) htl, hz (by simp [hc])]

theorem dateTimeLexOK_weaken {req : Bool} {a : Bytes} (h : Spec.Xsd.dateTimeLexOK req a = true) :
    Spec.Xsd.dateTimeLexOK false a = true := by
  simp only [Spec.Xsd.dateTimeLexOK] at h ⊢
  split at h
  · exact tzEnd_weaken h
  · simp at h

end RdfModel.Proofs.C20Time
