import RdfModel.Proofs.C16Erase
import RdfModel.Proofs.C16Pend
namespace RdfModel.Proofs.C16
open RdfModel RdfModel.NQ RdfModel.TW RdfModel.NQO RdfModel.C16
open RdfModel.Proofs.C16Ttl (Pend Scan)

@[simp] theorem read_doc (s : S) (r : RP) : (s.read r).doc = s.doc := rfl
@[simp] theorem read_bo (s : S) (r : RP) : (s.read r).bo = s.bo + r.2 := rfl
@[simp] theorem unread_doc (s : S) (r : RP) : (s.unread r).doc = s.doc := rfl
@[simp] theorem unread_bo (s : S) (r : RP) : (s.unread r).bo = s.bo - r.2 := rfl
@[simp] theorem commit_bo (s : S) (c : Chunk) : (s.commit c).bo = s.bo := rfl
@[simp] theorem commit_doc (s : S) (c : Chunk) : (s.commit c).doc = s.doc.map (fun h => c :: h) := rfl
theorem range_def (s : S) (c : Chunk) : s.range c = s.doc.map (fun h => (h, c :: h)) := rfl

/-- Everything the scanner can still refer to lies below `B`: the buffer offset plus the unread
    input, and (with a writer) the committed bytes plus the pending bytes plus the unread input.
    At `B = s.bo + size inp` the second half is `Pend s pend` of Proofs/C16Pend. -/
def ErrInv (B : Nat) (s : S) (pend : Nat) (inp : List RP) : Prop :=
  s.bo + size inp ≤ B ∧ ∀ d, s.doc = some d → size (histRunes d) + pend + size inp ≤ B

theorem ErrInv.weaken {B : Nat} {s : S} {pend pend' : Nat} {inp : List RP}
    (h : ErrInv B s pend inp) (hp : pend' ≤ pend) : ErrInv B s pend' inp :=
  ⟨h.1, fun d hd => by have := h.2 d hd; omega⟩

/-- side conditions about sizes -/
macro "sz" : tactic => `(tactic| first | (simp; done) | (simp; omega) | omega)

theorem rangeErr_bound {s : S} {op : RP} {body rest : List RP} (hp : Pend s op.2) :
    EOff.bound (rangeErr (s.doc.map (fun d => (d, (op :: body) :: d)))) ≤ s.bo + size (body ++ rest) := by
  cases hd : s.doc with
  | none => simp [rangeErr, EOff.bound]
  | some d =>
    have := hp d hd
    simp [rangeErr, EOff.bound]
    omega

/-- the results of the N-Quads scanners among those of the Turtle producers (no range, no panic) -/
def up {α : Type} : NQO.RO α → TtlO.RO α
  | .ok v s r => .ok v none s r
  | .err e o => .err e o

/-- `Scan` for the N-Quads scanners: the rules of `Proofs/C16Pend` apply as they stand. -/
abbrev ScanQ {α : Type} (P : α → S → List RP → Prop) (s : S) (n : Nat) (inp : List RP) (r : NQO.RO α) : Prop :=
  Scan (fun v _ => P v) s n inp (up r)

theorem ScanQ.ok {α : Type} {P : α → S → List RP → Prop} {s s' : S} {n : Nat} {inp rest : List RP} {res : NQO.RO α} {v : α}
    (h : ScanQ P s n inp res) (hr : res = .ok v s' rest) : P v s' rest := by subst hr; exact h

theorem ScanQ.err {α : Type} {P : α → S → List RP → Prop} {s : S} {n : Nat} {inp : List RP} {res : NQO.RO α} {k : EClass}
    {o : EOff} (h : ScanQ P s n inp res) (hr : res = .err k o) (hp : Pend s n) : EOff.bound o ≤ s.bo + size inp := by
  subst hr; exact h hp

/-- `scanIRI` / `scanLit` (base scanner `f`) up to the closing delimiter `d`: they consumed `body`, which ends in
    `d`, and return it behind what was on `unc`; nothing is committed. -/
def Body (d : Nat) (f : End → SState → List Nat → List Nat → R (List Nat)) (st : SState) (s : S) (inp : List RP)
    (acc : List Nat) (unc : Chunk) (v : List Nat × Chunk) (s' : S) (rest : List RP) : Prop :=
  ∃ body, inp = body ++ rest ∧ v.2 = unc.reverse ++ body ∧ s'.doc = s.doc ∧ s'.bo = s.bo + size body ∧
    (runes body).getLast? = some d ∧ ∀ e' x, f e' st (runes body ++ x) acc = .ok v.1 x

theorem scanIRI_scan (T : Tables) (e : End) (st : SState) (s : S) (inp : List RP) (acc : List Nat)
    (unc : Chunk) :
    ScanQ (Body 0x3e (NQ.scanIRI T) st s inp acc unc) s (size unc) inp (NQO.scanIRI T e st s inp acc unc) := by
  fun_induction NQO.scanIRI T e st s inp acc unc
  case case4 s r rest0 acc unc hr =>      -- the closing `>`
    exact ⟨[r], by simp, by simp, by simp, by simp, by simp [hr], fun e' x => by simp [NQ.scanIRI, hr]⟩
  all_goals first
    | exact .err0
    | exact .offErr (by simp)
    | exact .readErr (by simp)
    | (rename_i ih
       refine .read ih fun v _ s' r ⟨body, h1, h2, h3, h4, h5, h6⟩ => ?_
       exact ⟨_ :: body, by rw [h1]; rfl, by simp [h2], by simp [h3], by simp [h4]; omega, getLast?_cons_some h5,
         fun e' x => by simp_all [NQ.scanIRI]⟩)

theorem scanLit_scan (T : Tables) (e : End) (st : SState) (s : S) (inp : List RP) (acc : List Nat)
    (unc : Chunk) :
    ScanQ (Body 0x22 (NQ.scanLit T) st s inp acc unc) s (size unc) inp (NQO.scanLit T e st s inp acc unc) := by
  fun_induction NQO.scanLit T e st s inp acc unc
  case case4 s r rest0 acc unc hr =>      -- the closing `"`
    exact ⟨[r], by simp, by simp, by simp, by simp, by simp [hr], fun e' x => by simp [NQ.scanLit, hr]⟩
  all_goals first
    | exact .err0
    | exact .offErr (by simp)
    | exact .readErr (by simp)
    | (rename_i ih
       refine .read ih fun v _ s' r ⟨body, h1, h2, h3, h4, h5, h6⟩ => ?_
       exact ⟨_ :: body, by rw [h1]; rfl, by simp [h2], by simp [h3], by simp [h4]; omega, getLast?_cons_some h5,
         fun e' x => by simp_all [NQ.scanLit]⟩)

theorem captureIRI_scan (T : Tables) (urlOk : List Nat → Bool) (e : End) (s : S) (op : RP) (inp : List RP) :
    ScanQ (fun v s' rest => ∃ body, inp = body ++ rest ∧ v.2 = s.doc.map (fun d => (d, (op :: body) :: d)) ∧
        s'.doc = s.doc.map (fun d => (op :: body) :: d) ∧ s'.bo = s.bo + size body ∧
        (runes body).getLast? = some 0x3e ∧ ∀ e' x, NQ.captureIRI T urlOk e' (runes body ++ x) = .ok v.1 x)
      s op.2 inp (NQO.captureIRI T urlOk e s op inp) := by
  have h := scanIRI_scan T e .body s inp [] [op]
  unfold NQO.captureIRI
  cases hs : NQO.scanIRI T e .body s inp [] [op] with
  | err c o => rw [hs] at h; exact fun hi => h (by simpa using hi)
  | ok w s1 rest1 =>
    rw [hs] at h
    obtain ⟨body, h1, h2, h3, h4, h5, h6⟩ := h
    simp only [List.reverse_cons, List.reverse_nil, List.nil_append, List.singleton_append] at h2
    refine ite_ind (fun hu => ⟨body, h1, by simp [h2, h3], by simp [h2, h3], h4, h5,
      fun e' x => by simp [NQ.captureIRI, h6, hu]⟩) fun _ hi => ?_
    rw [range_def, h3, h2]
    exact h1 ▸ rangeErr_bound hi

/-- The loops of `scanOpenLangtag` (base loop `f`), in which the `@` (`a0`) and the tag read so far are pending:
    `more` further runes consumed; `@` committed, then the tag, whose range is returned. -/
def LangQ (f : End → List Nat → List Nat → R (List Nat)) (a0 : RP) (s : S) (inp : List RP) (tagRev : Chunk)
    (v : List Nat × Option SRange) (s' : S) (rest : List RP) : Prop :=
  ∃ more, inp = more ++ rest ∧ v.1 = runes (tagRev.reverse ++ more) ∧
    v.2 = s.doc.map (fun d => ([a0] :: d, (tagRev.reverse ++ more) :: [a0] :: d)) ∧
    s'.doc = s.doc.map (fun d => (tagRev.reverse ++ more) :: [a0] :: d) ∧
    s'.bo = s.bo + size more ∧
    ∀ e' y, f e' (runes more ++ 0x20 :: y) (runes tagRev) = .ok v.1 (0x20 :: y)

theorem langSecondary_scan (e : End) (a0 : RP) (s : S) (inp : List RP) (tagRev : Chunk) :
    ScanQ (LangQ NQ.langSecondary a0 s inp tagRev) s (size (tagRev ++ [a0])) inp
      (NQO.langSecondary e a0 s inp tagRev) := by
  fun_induction NQO.langSecondary e a0 s inp tagRev
  -- errors; a rune that goes on with the tag; last, the rune that ends it (`langFinish`): it is no letter, digit
  -- or `-`, and neither is the space, so on `more ++ 0x20 :: y` the base loop stops at the same place
  all_goals first
    | exact .offErr (by sz)
    | exact .readErr (by sz)
    | (rename_i ih
       refine .read ih fun v _ s' r ⟨more, h1, h2, h3, h4, h5, h6⟩ => ?_
       exact ⟨_ :: more, by rw [h1]; rfl, by simp [h2], by simp [h3], by simp [h4], by simp [h5]; omega,
         fun e' y => by simp_all [NQ.langSecondary]⟩)
    | exact ⟨[], by simp, by simp, by simp [Option.map_map, Function.comp_def],
        by simp [Option.map_map, Function.comp_def], by simp, fun e' y => by simp_all [NQ.langSecondary, isAlpha, isDigit]⟩

theorem langPrimary_scan (e : End) (a0 : RP) (s : S) (inp : List RP) (tagRev : Chunk) :
    ScanQ (LangQ NQ.langPrimary a0 s inp tagRev) s (size (tagRev ++ [a0])) inp
      (NQO.langPrimary e a0 s inp tagRev) := by
  fun_induction NQO.langPrimary e a0 s inp tagRev
  case case4 =>                           -- the first `-`: on with the second loop
    refine .read (langSecondary_scan e a0 _ _ _) fun v _ s' r ⟨more, h1, h2, h3, h4, h5, h6⟩ => ?_
    exact ⟨_ :: more, by rw [h1]; rfl, by simp [h2], by simp [h3], by simp [h4], by simp [h5]; omega,
      fun e' y => by simp_all [NQ.langPrimary]⟩
  -- as in `langSecondary_scan`: the last alternative is the rune that ends the tag
  all_goals first
    | exact .offErr (by sz)
    | exact .readErr (by sz)
    | (rename_i ih
       refine .read ih fun v _ s' r ⟨more, h1, h2, h3, h4, h5, h6⟩ => ?_
       exact ⟨_ :: more, by rw [h1]; rfl, by simp [h2], by simp [h3], by simp [h4], by simp [h5]; omega,
         fun e' y => by simp_all [NQ.langPrimary]⟩)
    | exact ⟨[], by simp, by simp, by simp [Option.map_map, Function.comp_def],
        by simp [Option.map_map, Function.comp_def], by simp, fun e' y => by simp_all [NQ.langPrimary, isAlpha]⟩

theorem strTok_of {q : RP} {body : List RP} (hq : q.1 = 0x22) (hl : (runes body).getLast? = some 0x22) :
    StrTok (runes (q :: body)) := by
  obtain ⟨ys, hy⟩ := List.getLast?_eq_some_iff.1 hl
  exact ⟨ys, by simp [hq, hy]⟩

theorem iriTok_of {q : RP} {body : List RP} (hq : q.1 = 0x3c) (hl : (runes body).getLast? = some 0x3e) :
    IriTok (runes (q :: body)) := by
  obtain ⟨ys, hy⟩ := List.getLast?_eq_some_iff.1 hl
  exact ⟨ys, by simp [hq, hy]⟩

/-- `captureOpenBlankNode`, in which the `_:` (`p`) and the label read so far are pending: the token `tok` — `p`
    plus the label, possibly minus a handed-back final `.` — is committed in one chunk, whose range is returned. -/
def BnQ (s : S) (p : Chunk) (all : List RP) (v : List Nat × Option SRange) (s' : S) (rest' : List RP) : Prop :=
  ∃ tok, tok ++ rest' = all ∧ runes tok = runes p ++ v.1 ∧
    v.2 = s.doc.map (fun d => (d, tok :: d)) ∧ s'.doc = s.doc.map (fun d => tok :: d)

theorem bnFinish_scan (T : Tables) (s : S) (p labRev : Chunk) (rest : List RP) (hb : size labRev ≤ s.bo) :
    ScanQ (fun v s' rest' => BnQ s p (p ++ labRev.reverse ++ rest) v s' rest' ∧ s'.bo + size rest' = s.bo + size rest)
      s (size (labRev ++ p)) rest (NQO.bnFinish T s p labRev rest) := by
  cases labRev with
  | nil => exact ⟨⟨p, by simp, by simp, by simp, by simp⟩, by simp⟩
  | cons l more =>
    cases more with
    | nil =>
      simp only [NQO.bnFinish, List.length_cons, List.length_nil, ge_iff_le, Nat.reduceLeDiff, if_false]
      exact ⟨⟨p ++ [l], by simp, by simp, by simp, by simp⟩, by simp⟩
    | cons l' more' =>
      simp only [NQO.bnFinish, List.length_cons, ge_iff_le]
      rw [if_pos (by omega)]
      refine ite_ind (fun _ => ite_ind (fun _ => ?_) fun _ => .offErrBack (by sz)) fun _ =>
        ite_ind (fun _ => ?_) fun _ => .offErr (by sz)
      · exact ⟨⟨p ++ (l' :: more').reverse, by simp, by simp, by simp, by simp⟩, by simp at hb ⊢; omega⟩
      · exact ⟨⟨p ++ (l :: l' :: more').reverse, by simp, by simp, by simp, by simp⟩, by simp⟩

theorem bnLoop_scan (T : Tables) (e : End) (p : Chunk) (s : S) (inp : List RP) (labRev : Chunk)
    (hb : size labRev ≤ s.bo) :
    ScanQ (fun v s' rest' => BnQ s p (p ++ labRev.reverse ++ inp) v s' rest' ∧ s'.bo + size rest' = s.bo + size inp)
      s (size (labRev ++ p)) inp (NQO.bnLoop T e p s inp labRev) := by
  fun_induction NQO.bnLoop T e p s inp labRev
  · exact .offErr (by sz)
  · rename_i s r rest0 labRev hr ih
    refine .read (ih (by simp; omega)) fun v _ s' r' ⟨⟨tok, h1, h2, h3, h4⟩, h5⟩ => ?_
    exact ⟨⟨tok, by simp [h1], h2, by simp [h3], by simp [h4]⟩, by simp at h5 ⊢; omega⟩
  · exact bnFinish_scan T _ p _ _ hb

theorem captureBNode_scan (T : Tables) (e : End) (s : S) (p : Chunk) (inp : List RP) :
    ScanQ (fun v s' rest' => BnQ s p (p ++ inp) v s' rest' ∧ s'.bo + size rest' = s.bo + size inp)
      s (size p) inp (NQO.captureBNode T e s p inp) := by
  cases inp with
  | nil => exact .offErr (by sz)
  | cons r rest =>
    refine ite_ind (fun _ => ?_) fun _ => .readErr (by sz)
    refine .read (bnLoop_scan T e p (s.read r) rest [r] (by simp)) fun v _ s' r' ⟨⟨tok, h1, h2, h3, h4⟩, h5⟩ => ?_
    exact ⟨⟨tok, by simpa using h1, h2, by simpa using h3, by simpa using h4⟩, by simp at h5 ⊢; omega⟩

/-- pending runes of `drainLine` -/
def pendOf (cm : Option Chunk) : List RP := (cm.getD []).reverse

@[simp] theorem pendOf_none : pendOf none = [] := rfl
@[simp] theorem pendOf_some (c : Chunk) : pendOf (some c) = c.reverse := rfl

end RdfModel.Proofs.C16
