import RdfModel.Proofs.C02DocSteps
import RdfModel.Props.C08Tokens
namespace RdfModel.Proofs.C02Doc
open RdfModel RdfModel.Ttl RdfModel.TtlEnc RdfModel.C02 RdfModel.TtlDoc RdfModel.Desc
open RdfModel.C08 (Vis SkEq TermTok)

variable {C : Cfg} {T : Tables} {e : NQ.End}

/-- what the encoder writes after a term: a space or a line feed -/
def SpOrNl (rest : List Nat) : Prop := ∃ c r, rest = c :: r ∧ (c = 0x20 ∨ c = 0x0a)

theorem spOrNl_sp (r : List Nat) : SpOrNl (0x20 :: r) := ⟨_, r, rfl, .inl rfl⟩

structure Stops (T : Tables) (e : NQ.End) (rest : List Nat) : Prop where
  loc : LocalStop T e rest
  label : LabelStop T e rest
  lang : LangStop e rest
  num : NumStop e rest
  head : ∃ c r, rest = c :: r ∧ c ≠ 0x40 ∧ c ≠ 0x5e ∧ c ≠ 0x22

theorem spOrNl_stops (hT : TablesOK T) {rest : List Nat} (h : SpOrNl rest) : Stops T e rest := by
  obtain ⟨c, r, rfl, rfl | rfl⟩ := h
  · exact ⟨⟨hT.pn_sp, hT.pnU_sp, by decide⟩, ⟨hT.pn_sp, by decide⟩, by simp only [LangStop]; decide, .inl (by decide), _, _, rfl,
      by decide⟩
  · exact ⟨⟨hT.pn_lf, hT.pnU_lf, by decide⟩, ⟨hT.pn_lf, by decide⟩, by simp only [LangStop]; decide, .inl (by decide), _, _, rfl,
      by decide⟩

variable {β : Type} {c : Ctx β} {base : Option (List Nat)} {D : List Nat → Prop}

/-- What `writeIRI` wrote is a term token the machine reads as the IRI, in any position: a prefixed name
    under one of the manager's labels (never mistaken for `true` / `false`) or an IRIREF. -/
theorem written_tok (S : Setup C T c base) (env : Env) (henv : EnvOK env base c.pm D) (v : List Nat)
    (hv : iriTermOK c base v) (hD : ∀ l ∈ usedOfIRI c.pm v, D l) (text : List Nat) (ht : writeIRI c v = .ok text)
    (rest : List Nat) (hf : SpOrNl rest) :
    ∃ c0 r0, text ++ rest = c0 :: r0 ∧ TermTok C env (.iri v) rest c0 r0 ∧ c0 ≠ 0x5f ∧
      (c0 = 0x74 ∨ c0 = 0x66 → C.P.boolean .eof (c0 :: r0) = .other) := by
  obtain ⟨w, hw, rfl⟩ := writeIRI_ok ht
  have hd := decode_writeIRI S.hT S.hC c S.cT base S.cb S.baseOK S.labels env D henv v hv hD w hw .eof rest
    (spOrNl_stops S.hT.tok hf).loc
  simp only [decodeWritten] at hd
  have hlt : Vis C 0x3c := vis_ascii S.hC (by decide)
  rw [S.cT]
  rcases writeIRIForm_spec S.hT S.hC S.cT S.cb S.baseOK v hv with ⟨m, hm, loc, out, hw', _⟩ | ⟨r, hw' | hw', _⟩ <;>
    (rw [hw'] at hw; injection hw with hw; subst hw)
  · obtain ⟨c0, r0, h0⟩ : ∃ c0 r0, m.pfx ++ 0x3a :: (out ++ rest) = c0 :: r0 := by cases m.pfx <;> simp
    have hp := pnText_of_labelSafe S.hT S.hC (S.labels m hm) _ h0
    exact ⟨c0, r0, by simpa [Written.text] using h0, .pn hp (by rw [← h0]; simp [termPName, IriRes.toTerm, hd]),
      hp.nd.2.2, fun _ => boolean_label S.hC (S.labels m hm) _ h0⟩
  · exact ⟨0x3c, formatIRI T false r ++ 0x3e :: rest, by simp [Written.text],
      .ref hlt (by simp [termIRIREF, IriRes.toTerm, hd]), by decide, fun h => absurd h (by decide)⟩
  · exact ⟨0x3c, formatIRI T false r ++ 0x3e :: rest, by simp [Written.text],
      .ref hlt (by simp [termIRIREF, IriRes.toTerm, hd]), by decide, fun h => absurd h (by decide)⟩

theorem run_subject_term (S : Setup C T c base) (env : Env) (henv : EnvOK env base c.pm D) (s : Term β)
    (hs : subjectOK c base s) (hD : ∀ l ∈ usedOfSubject c.pm s, D l) (St : List Nat) (hS : writeSubject c s = .ok St)
    (x : Ectx) (K : List Frame) (k : Nat) (rest : List Nat) (hf : SpOrNl rest) :
    Steps C .eof ⟨⟨x, .statement⟩ :: K, List.replicate k 0x0a ++ (St ++ rest), env⟩ []
      ⟨subjFrames x (dterm c.label s) K, rest, env⟩ := by
  cases s with
  | lit lex dt lang => cases hS
  | bnode b =>
    simp only [writeSubject, TtlEnc.Res.ok.injEq] at hS
    subst hS
    have hl := S.lbl.ok b
    simpa [dterm, Term.map] using
      run_subject_tok S.hC (x := x) (K := K) k (termTok_bnode S.hT S.hC env _ rest hl.2 hl.1 (spOrNl_stops S.hT.tok hf).label)
  | iri v =>
    obtain ⟨c0, r0, h0, htok, _, _⟩ := written_tok S env henv v hs hD St hS rest hf
    rw [h0]; exact run_subject_tok S.hC k htok

/-- a verb in either scan function (`IsPol`), after the white space `ws` and followed by `f`, the first rune
    of the lead-in of its first object -/
theorem run_pol_term (S : Setup C T c base) (env : Env) (henv : EnvOK env base c.pm D) (p : List Nat)
    (hp : iriTermOK c base p) (hD : ∀ l ∈ usedOfPredicate c.pm p, D l) (Pt : List Nat)
    (hP : writePredicate c p = .ok Pt) {k : Cont} (hk : IsPol k) (x : Ectx)
    (K : List Frame) (ws : List Nat) (hws : WS ws) (f : Nat) (hf : f = 0x20 ∨ f = 0x0a) (rest : List Nat) :
    ∃ ws', WS ws' ∧ Steps C .eof ⟨⟨x, k⟩ :: K, ws ++ (Pt ++ f :: rest), env⟩ []
      ⟨predFrames x (.iri p) K, ws' ++ rest, env⟩ := by
  unfold writePredicate at hP
  split at hP
  · next hty =>
    injection hP with hP
    subst hP
    rw [hty]
    exact ⟨[], ws_nil, by
      simpa [TtlEnc.rdfType, TtlDoc.rdfType, TtlEnc.rdfNS, TtlDoc.rdfNS] using run_pol_a S.hC hk x K env ws hws f hf rest⟩
  · next hty =>
    have hfol : SpOrNl (f :: rest) := ⟨_, _, rfl, hf⟩
    refine ⟨[f], fun y hy => ?_, ?_⟩
    · rw [List.mem_singleton.1 hy]; rcases hf with rfl | rfl; exact Or.inl rfl; exact Or.inr (Or.inr rfl)
    · obtain ⟨c0, r0, h0, htok, hbn, _⟩ := written_tok S env henv p hp (by simpa [usedOfPredicate, hty] using hD) Pt hP
        (f :: rest) hfol
      rw [h0]; exact run_pol_tok hk hws htok hbn

theorem run_object_term (S : Setup C T c base) (env : Env) (henv : EnvOK env base c.pm D) (o : Term β)
    (ho : objectOK c base o) (hD : ∀ l ∈ usedOfObject c.pm o, D l) (Ot : List Nat) (hO : writeObject c o = .ok Ot)
    (x : Ectx) (K : List Frame) (ws : List Nat) (hws : WS ws) (rest : List Nat) (hf : SpOrNl rest) :
    Steps C .eof ⟨⟨x, .object⟩ :: K, ws ++ (Ot ++ rest), env⟩ [mkStmt x (dterm c.label o)] ⟨K, rest, env⟩ := by
  obtain ⟨text, htext, hform⟩ := writeObject_form S.writeIRI_isOk ho
  obtain rfl : text = Ot := by rw [htext] at hO; injection hO
  cases hform with
  | bnode b =>
    have hl := S.lbl.ok b
    exact run_obj_tok hws (termTok_bnode S.hT S.hC env _ rest hl.2 hl.1 (spOrNl_stops S.hT.tok hf).label)
      (fun h => absurd h (by decide))
  | iri hv hw =>
    obtain ⟨c0, r0, h0, htok, _, hsb⟩ := written_tok S env henv _ hv hD _ hw rest hf
    rw [h0]; exact run_obj_tok hws htok hsb
  | bool hsh => exact run_obj_bool S.hC x K env ws _ rest hws hsh
  | num hsh hb => exact run_obj_numeric S.hC x K env ws _ _ rest hws hsh hb (spOrNl_stops S.hT.tok hf).num
  | lang hlex htag =>
    rw [S.cT, List.append_assoc, List.cons_append]
    exact run_obj_lang S.hT S.hC x K env ws _ _ rest hws hlex htag (spOrNl_stops S.hT.tok hf).lang
  | plain hlex =>
    obtain ⟨f, r, rfl, h1, h2, h3⟩ := (spOrNl_stops (e := .eof) S.hT.tok hf).head
    rw [S.cT]
    exact run_obj_string S.hT S.hC x K env ws _ f r hws hlex h1 h2 h3
  | typed hlex hnl hnd hdt hd hused =>
    rw [hused] at hD
    obtain ⟨c2, r2, h0, htok, hbn, _⟩ := written_tok S env henv _ hdt hD _ hd rest hf
    rw [S.cT, List.append_assoc, List.cons_append, List.cons_append, h0]
    exact run_obj_typed S.hT S.hC x K env ws _ _ rest hws hlex (by simp [hnl, hnd]) htok hbn

theorem print_raw_iri : ∀ (v : List Nat), (∀ c ∈ v, Spec.TtlPrint.iriRawOK c = true) → Spec.TtlPrint.printIriBody [] v = v
  | [], _ => rfl
  | c :: v, h => by
    simp only [Spec.TtlPrint.printIriBody, List.head?_nil, Option.getD_none, List.tail_nil, Spec.TtlPrint.printIriRune, h c List.mem_cons_self,
      ↓reduceIte, print_raw_iri v (fun x hx => h x (List.mem_cons_of_mem _ hx))]
    rfl

theorem iriref_raw (hT : DocTablesOK T) (hC : CfgOK C T) (v rest : List Nat) (hv : iriOK v = true) :
    C.P.iriref e (0x3c :: (v ++ 0x3e :: rest)) = .ok v rest := by
  have := C08.decode_print_iriref T hT.tok e [] v (scalars_of_iriOK hv) rest
  rw [hC.prod]
  simpa [Producers.real, Spec.TtlPrint.printIRIREF, print_raw_iri v (rawOK_of_iriOK hv)] using this

theorem label_tok (hT : DocTablesOK T) (hC : CfgOK C T) {p : List Nat} (hp : labelSafe C.isSpace T p = true)
    (more : List Nat) :
    ∃ c0 r0, p ++ 0x3a :: more = c0 :: r0 ∧ Vis C c0 ∧ C.P.pnameNS .eof (c0 :: r0) = .ok p more := by
  obtain ⟨hpo, hps, _, _, _⟩ := labelSafe_parts hp
  obtain ⟨c0, r0, h0⟩ : ∃ c0 r0, p ++ 0x3a :: more = c0 :: r0 := by cases p <;> simp
  refine ⟨c0, r0, h0, (pnText_of_labelSafe hT hC hp _ h0).vis, ?_⟩
  rw [← h0, hC.prod]
  exact Proofs.C02Tok.pnameNs_ok T .eof p more hpo hps

/-- a directive as the encoder writes it (without the line feed that ends it) -/
def dirBody : TA.Dir → List Nat
  | .baseAt r => asc "@base" ++ sp :: (0x3c :: (r ++ [0x3e])) ++ [sp, 0x2e]
  | .baseKw r => asc "BASE" ++ sp :: (0x3c :: (r ++ [0x3e]))
  | .prefixAt p r => asc "@prefix" ++ sp :: (p ++ 0x3a :: sp :: (0x3c :: (r ++ [0x3e]))) ++ [sp, 0x2e]
  | .prefixKw p r => asc "PREFIX" ++ sp :: (p ++ 0x3a :: sp :: (0x3c :: (r ++ [0x3e])))

/-- what the machine needs of a directive to read `dirBody` back: a label of the kind the encoder's table holds,
    an IRI of IRI characters -/
def DirFit (C : Cfg) (T : Tables) : TA.Dir → Prop
  | .prefixAt p r | .prefixKw p r => labelSafe C.isSpace T p = true ∧ iriOK r = true
  | .baseAt r | .baseKw r => iriOK r = true

/-- The machine on one directive line: it does to its environment what `TA.dDir` does to the state of the
    denotation. -/
theorem run_dir (hT : DocTablesOK T) (hC : CfgOK C T) (d : TA.Dir) (hfit : DirFit C T d) (x : Ectx) (K : List Frame)
    (k : Nat) (st st' : TA.DState) (hd : TA.dDir C.resolve st d = some st') (rest : List Nat) :
    Steps C .eof ⟨⟨x, .statement⟩ :: K, List.replicate k 0x0a ++ (dirBody d ++ 0x0a :: rest), C08.envOf st⟩ []
      ⟨⟨x, .statement⟩ :: ⟨x, .statement⟩ :: K, 0x0a :: rest, C08.envOf st'⟩ := by
  have v : ∀ {c : Nat}, 0x21 ≤ c ∧ c ≤ 0x7e ∧ c ≠ 0x23 → Vis C c := vis_ascii hC
  have h0 := skEq_ws (C := C) (ws_nls k)
  have hsp := fun r => skEq_ws (C := C) ws_sp.1 r
  cases d with
  | prefixAt p r =>
    simp only [TA.dDir, Option.map_eq_some_iff] at hd
    obtain ⟨b, hb, rfl⟩ := hd
    obtain ⟨c0, r0, e0, hv0, hns0⟩ := label_tok hT hC hfit.1 (0x20 :: 0x3c :: (r ++ 0x3e :: 0x20 :: 0x2e :: 0x0a :: rest))
    rw [show dirBody (.prefixAt p r) ++ 0x0a :: rest = 0x40 :: 0x70 :: (asc "refix" ++ 0x20 :: (p ++ 0x3a :: 0x20 :: 0x3c ::
      (r ++ 0x3e :: 0x20 :: 0x2e :: 0x0a :: rest))) by simp [dirBody, C08.asc_atprefix, sp]]
    exact C08.run_atPrefix (c1 := c0) (t1 := r0) (v (by decide)) (v (by decide)) (v (by decide)) (h0 _) (e0 ▸ hsp _) hv0 hns0
      (hsp _) (iriref_raw hT hC r _ hfit.2) hb (hsp _)
  | baseAt r =>
    simp only [TA.dDir, Option.map_eq_some_iff] at hd
    obtain ⟨b, hb, rfl⟩ := hd
    rw [show dirBody (.baseAt r) ++ 0x0a :: rest = 0x40 :: 0x62 :: (asc "ase" ++ 0x20 :: 0x3c :: (r ++ 0x3e :: 0x20 :: 0x2e ::
      0x0a :: rest)) by simp [dirBody, C08.asc_atbase, sp]]
    exact C08.run_atBase (v (by decide)) (v (by decide)) (v (by decide)) (h0 _) (hsp _) (iriref_raw hT hC r _ hfit) hb (hsp _)
  | prefixKw p r =>
    simp only [TA.dDir, Option.map_eq_some_iff] at hd
    obtain ⟨b, hb, rfl⟩ := hd
    obtain ⟨c0, r0, e0, hv0, hns0⟩ := label_tok hT hC hfit.1 (0x20 :: 0x3c :: (r ++ 0x3e :: 0x0a :: rest))
    rw [show dirBody (.prefixKw p r) ++ 0x0a :: rest = 0x50 :: (asc "REFIX" ++ 0x20 :: (p ++ 0x3a :: 0x20 :: 0x3c ::
      (r ++ 0x3e :: 0x0a :: rest))) by simp [dirBody, C08.asc_PREFIX, sp]]
    exact C08.run_kwPrefix (n := 0) (c1 := c0) (t1 := r0) (v (by decide)) (h0 _) (v (by decide))
      (by rw [show TA.kwCase 0 (asc "PREFIX") = 0x50 :: asc "REFIX" by decide]; rfl) hC.sp (by rw [e0]; exact SkEq.rfl') hv0 hns0
      (hsp _) (iriref_raw hT hC r _ hfit.2) hb
  | baseKw r =>
    simp only [TA.dDir, Option.map_eq_some_iff] at hd
    obtain ⟨b, hb, rfl⟩ := hd
    rw [show dirBody (.baseKw r) ++ 0x0a :: rest = 0x42 :: (asc "ASE" ++ 0x20 :: 0x3c :: (r ++ 0x3e :: 0x0a :: rest)) by
      simp [dirBody, C08.asc_BASE, sp]]
    exact C08.run_kwBase (n := 0) (w := 0x20) (v (by decide)) (h0 _) (v (by decide))
      (by rw [show TA.kwCase 0 (asc "BASE") = 0x42 :: asc "ASE" by decide]; rfl) (Or.inl hC.sp) SkEq.rfl'
      (iriref_raw hT hC r _ hfit) hb

theorem run_dirs (hT : DocTablesOK T) (hC : CfgOK C T) (x : Ectx) (rest : List Nat) : ∀ (ds : List TA.Dir) (K : List Frame)
    (k : Nat) (st st' : TA.DState), (∀ d ∈ ds, DirFit C T d) → ds.foldlM (TA.dDir C.resolve) st = some st' →
    ∃ K' k', Steps C .eof ⟨⟨x, .statement⟩ :: K, List.replicate k 0x0a ++ (ds.flatMap (fun d => dirBody d ++ [0x0a]) ++ rest),
        C08.envOf st⟩ [] ⟨⟨x, .statement⟩ :: K', List.replicate k' 0x0a ++ rest, C08.envOf st'⟩
  | [], K, k, st, st', _, hd => by
    obtain rfl : st = st' := by simpa using hd
    exact ⟨K, k, by simpa using Steps.refl _⟩
  | d :: ds, K, k, st, st', hfit, hd => by
    simp only [List.foldlM_cons, Option.bind_eq_bind, Option.bind_eq_some_iff] at hd
    obtain ⟨st1, h1, h2⟩ := hd
    obtain ⟨K', k', ih⟩ := run_dirs hT hC x rest ds (⟨x, .statement⟩ :: K) 1 st1 st'
      (fun d' hd' => hfit d' (List.mem_cons_of_mem _ hd')) h2
    have r1 := run_dir hT hC d (hfit d List.mem_cons_self) x K k st st1 h1 (ds.flatMap (fun d => dirBody d ++ [0x0a]) ++ rest)
    exact ⟨K', k', by simpa using r1.trans ih⟩

end RdfModel.Proofs.C02Doc
