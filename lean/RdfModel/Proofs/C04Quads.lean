import RdfModel.Props.C04Defs
import RdfModel.Proofs.C03FirstDegree
namespace RdfModel.Proofs.C04
open RdfModel RdfModel.Proofs.StrOrd RdfModel.C04 RdfModel.Proofs.C03



variable {β : Type} [DecidableEq β]

/-- What the two N-Quads writers must satisfy (follows from `TablesCanon`, see `encOK_of_tables`). -/
structure EncOK (T : NQ.Tables) : Prop where
  iri : ∀ v, IriRaw T v → NQ.writeIRI T false v = Spec.RDFC10.iriRef v
  lit : ∀ l d t, WFLit T d t → NQ.writeLiteral T false l d t = Spec.RDFC10.literal l d t

/-- What Go keeps of a term in a `canonicalizationQuad`: the writer's bytes of an IRI or literal
    (nothing for a blank node) and the blank node (if it is one). -/
def encOf (T : NQ.Tables) : Term β → Str
  | .iri v => NQ.writeIRI T false v
  | .lit l d t => NQ.writeLiteral T false l d t
  | .bnode _ => []

def bnOf : Term β → Option β
  | .bnode b => some b
  | _ => none

/-- The `canonicalizationQuad` Go builds for a well-formed quad. -/
def cquadOf (T : NQ.Tables) (q : Quad β) (idx : Nat) : Rdfcanon.CQuad β :=
  ⟨q, idx, encOf T q.s, bnOf q.s, encOf T q.p, encOf T q.o, bnOf q.o,
    (q.g.map (encOf T)).getD [], q.g.bind bnOf⟩

omit [DecidableEq β] in
theorem ingestQuad_wf (T : NQ.Tables) (q : Quad β) (idx : Nat) (h : WFQuad T q) :
    Rdfcanon.ingestQuad T q idx = some (cquadOf T q idx) := by
  obtain ⟨s, p, o, g⟩ := q
  obtain ⟨hs, hp, ho, hg⟩ := h
  cases p with
  | bnode _ => exact hp.elim
  | lit _ _ _ => exact hp.elim
  | iri pv =>
    cases s with
    | lit l d t => exact hs.elim
    | _ =>
      cases o <;> (cases g with
        | none => rfl
        | some g => cases g with
          | lit l d t => exact (hg _ rfl).elim
          | _ => rfl)

theorem iriRef_ne_nil (v : Str) : Spec.RDFC10.iriRef v ≠ [] := by simp [Spec.RDFC10.iriRef]
theorem literal_ne_nil (l d : Str) (t : Option Str) : Spec.RDFC10.literal l d t ≠ [] := by
  unfold Spec.RDFC10.literal
  cases t <;> simp <;> split <;> simp

omit [DecidableEq β] in
theorem wfObject_of_node {T : NQ.Tables} {t : Term β} (h : WFNode T t) : WFObject T t := by
  cases t with
  | lit _ _ _ => exact h.elim
  | _ => exact h

omit [DecidableEq β] in
/-- On a well-formed term that is no blank node, the pre-encoding is the canonical term, which is not
    empty — the test Go uses to tell the two kinds apart. -/
theorem encOf_term {T : NQ.Tables} (henc : EncOK T) (lab : β → Str) {t : Term β} (h : WFObject T t)
    (hb : bnOf t = none) : encOf T t = Spec.RDFC10.term lab t ∧ (encOf T t).isEmpty = false := by
  cases t with
  | bnode b => cases hb
  | iri v => exact ⟨henc.iri v h, by rw [encOf, henc.iri v h]; rfl⟩
  | lit l d t =>
    exact ⟨henc.lit l d t h, by rw [encOf, henc.lit l d t h, List.isEmpty_eq_false_iff]; exact literal_ne_nil l d t⟩

omit [DecidableEq β] in
theorem encOf_pred {T : NQ.Tables} (henc : EncOK T) (lab : β → Str) {p : Term β} (h : WFPredicate T p) :
    encOf T p = Spec.RDFC10.term lab p := by
  cases p with
  | iri v => exact henc.iri v h
  | _ => exact h.elim

def specG (lab : β → Str) : Option (Term β) → Str
  | none => []
  | some g => 0x20 :: Spec.RDFC10.term lab g

omit [DecidableEq β] in
theorem nquad_eq (lab : β → Str) (q : Quad β) :
    Spec.RDFC10.nquad lab q = Spec.RDFC10.term lab q.s ++ 0x20 :: Spec.RDFC10.term lab q.p ++
      0x20 :: Spec.RDFC10.term lab q.o ++ specG lab q.g ++ [0x20, 0x2e, 0x0a] := by
  unfold Spec.RDFC10.nquad specG
  cases q.g <;> rfl

theorem firstDegree_pos {T : NQ.Tables} (henc : EncOK T) (input : β) {t : Term β} (h : WFObject T t) :
    (if !(encOf T t).isEmpty then encOf T t
      else if bnOf t = some input then Rdfcanon.selfLabel else Rdfcanon.otherLabel)
      = Spec.RDFC10.term (fun b => if b = input then [0x61] else [0x7a]) t := by
  cases t with
  | bnode b =>
    by_cases hb : b = input <;>
      simp [encOf, bnOf, Spec.RDFC10.term, Rdfcanon.selfLabel, Rdfcanon.otherLabel, hb]
  | _ =>
    obtain ⟨e, ne⟩ := encOf_term henc (fun b => if b = input then [0x61] else [0x7a]) h rfl
    rw [ne, e]; rfl

theorem firstDegree_graph {T : NQ.Tables} (henc : EncOK T) (input : β) {g : Option (Term β)}
    (h : ∀ t, g = some t → WFNode T t) :
    (if !((g.map (encOf T)).getD []).isEmpty then Rdfcanon.sp ++ (g.map (encOf T)).getD []
      else if g.bind bnOf = none then []
      else if g.bind bnOf = some input then Rdfcanon.sp ++ Rdfcanon.selfLabel
      else Rdfcanon.sp ++ Rdfcanon.otherLabel)
      = specG (fun b => if b = input then [0x61] else [0x7a]) g := by
  cases g with
  | none => rfl
  | some t =>
    cases t with
    | bnode b =>
      by_cases hb : b = input <;>
        simp [encOf, bnOf, specG, Spec.RDFC10.term, Rdfcanon.selfLabel, Rdfcanon.otherLabel, Rdfcanon.sp, hb]
    | _ =>
      obtain ⟨e, ne⟩ := encOf_term henc (fun b => if b = input then [0x61] else [0x7a]) (wfObject_of_node (h _ rfl)) rfl
      simp only [Option.map_some, Option.getD_some]
      rw [ne, e]; rfl

theorem firstDegreeLine_cquadOf (T : NQ.Tables) (henc : EncOK T) (q : Quad β) (idx : Nat)
    (h : WFQuad T q) (input : β) :
    Rdfcanon.firstDegreeLine input (cquadOf T q idx)
      = Spec.RDFC10.nquad (fun b => if b = input then [0x61] else [0x7a]) q := by
  dsimp only [Rdfcanon.firstDegreeLine, cquadOf]
  rw [firstDegree_pos henc input (wfObject_of_node h.s), firstDegree_pos henc input h.o, firstDegree_graph henc input h.g,
    encOf_pred henc (fun b => if b = input then [0x61] else [0x7a]) h.p, nquad_eq]
  simp only [Rdfcanon.sp, Rdfcanon.eol, List.append_assoc, List.singleton_append]

omit [DecidableEq β] in
theorem pEnc_cquadOf (T : NQ.Tables) (henc : EncOK T) (q : Quad β) (idx : Nat) (h : WFQuad T q) :
    (cquadOf T q idx).pEnc = Spec.RDFC10.iriRef (Spec.RDFC10.predicateValue q) := by
  obtain ⟨s, p, o, g⟩ := q
  cases p with
  | iri pv => exact henc.iri pv h.p
  | _ => exact h.p.elim

theorem related_pos (identifier : β) (t : Term β) (pos : Nat) :
    (match bnOf t with
      | some b => if b ≠ identifier then [(b, [pos])] else []
      | none => []) =
    (relT identifier t pos).map (fun p => (p.1, [p.2])) := by
  cases t with
  | bnode b => by_cases hb : b = identifier <;> simp [bnOf, relT, hb]
  | _ => rfl

theorem relatedOf_cquadOf (T : NQ.Tables) (q : Quad β) (idx : Nat) (identifier : β) :
    Rdfcanon.relatedOf identifier (cquadOf T q idx)
      = (Spec.RDFC10.relatedOf identifier q).map (fun p => (p.1, [p.2])) := by
  obtain ⟨s, p, o, g⟩ := q
  rw [relatedOf_eq, List.map_append, List.map_append]
  dsimp only [Rdfcanon.relatedOf, cquadOf]
  congr 1
  · congr 1
    · exact related_pos identifier s 0x73
    · exact related_pos identifier o 0x6f
  · cases g with
    | none => rfl
    | some t => exact related_pos identifier t 0x67

/-- Forget the pre-encoding: the specification's view of `blankNodeToQuads`. -/
def forget (m : List (β × List (Rdfcanon.CQuad β))) : Spec.RDFC10.B2Q β :=
  m.map (fun e => (e.1, e.2.map (·.orig)))

theorem forget_addToMap (m : List (β × List (Rdfcanon.CQuad β))) (b : β) (c : Rdfcanon.CQuad β) :
    forget (addToMap m b c) = addToMap (forget m) b c.orig :=
  (addToMap_mapKV (fun k : β => k) (fun _ _ h => h) Rdfcanon.CQuad.orig m b c).symm

theorem getList_forget (m : List (β × List (Rdfcanon.CQuad β))) (b : β) :
    getList (forget m) b = (getList m b).map (·.orig) :=
  getList_mapKV (fun k : β => k) (fun _ _ h => h) Rdfcanon.CQuad.orig m b

omit [DecidableEq β] in
theorem keys_forget (m : List (β × List (Rdfcanon.CQuad β))) :
    (forget m).map (·.1) = m.map (·.1) := by
  simp [forget, Function.comp_def]

theorem index_pos (m : List (β × List (Rdfcanon.CQuad β))) {c : Rdfcanon.CQuad β} {q : Quad β}
    (hc : c.orig = q) (t : Term β) :
    forget (match bnOf t with | some b => addToMap m b c | none => m)
      = (Spec.RDFC10.bnodeOf t).foldl (fun m b => addToMap m b q) (forget m) := by
  cases t with
  | bnode b => exact hc ▸ forget_addToMap m b c
  | _ => rfl

theorem indexQuad_forget (T : NQ.Tables) (m : List (β × List (Rdfcanon.CQuad β))) (q : Quad β) (idx : Nat) :
    forget (Rdfcanon.indexQuad m (cquadOf T q idx)) = index1 (forget m) q := by
  have hc : (cquadOf T q idx).orig = q := rfl
  rw [index1, Spec.RDFC10.quadBnodes, List.foldl_append, List.foldl_append,
    ← index_pos m hc q.s, ← index_pos _ hc q.o]
  cases hg : q.g with
  | none => simp only [Rdfcanon.indexQuad, cquadOf, hg]; rfl
  | some t => rw [← index_pos _ hc t]; simp only [Rdfcanon.indexQuad, cquadOf, hg]; rfl

def cquads (T : NQ.Tables) : List (Quad β) → Nat → List (Rdfcanon.CQuad β)
  | [], _ => []
  | q :: rest, idx => cquadOf T q idx :: cquads T rest (idx + 1)

def IsCQ (T : NQ.Tables) (c : Rdfcanon.CQuad β) : Prop := ∃ q idx, c = cquadOf T q idx ∧ WFQuad T q

omit [DecidableEq β] in
theorem isCQ_cquadOf (T : NQ.Tables) (q : Quad β) (idx : Nat) (h : WFQuad T q) : IsCQ T (cquadOf T q idx) :=
  ⟨q, idx, rfl, h⟩

theorem indexQuad_getList (m : List (β × List (Rdfcanon.CQuad β))) (c : Rdfcanon.CQuad β)
    (P : Rdfcanon.CQuad β → Prop) (hc : P c) (hm : ∀ b, ∀ x ∈ getList m b, P x) :
    ∀ b, ∀ x ∈ getList (Rdfcanon.indexQuad m c) b, P x := by
  have step : ∀ (m : List (β × List (Rdfcanon.CQuad β))) (bn : Option β), (∀ b, ∀ x ∈ getList m b, P x) →
      ∀ b, ∀ x ∈ getList (match bn with | some k => addToMap m k c | none => m : List (β × List (Rdfcanon.CQuad β))) b,
        P x := by
    intro m bn hm
    cases bn with
    | none => exact hm
    | some k =>
      intro b x hx
      rw [getList_addToMap] at hx
      split at hx
      · rcases List.mem_append.1 hx with h | h
        · exact hm b x h
        · exact List.mem_singleton.1 h ▸ hc
      · exact hm b x hx
  exact step _ _ (step _ _ (step _ _ hm))

theorem ingest_wf (T : NQ.Tables) : ∀ (qs : List (Quad β)) (idx : Nat) (st : Rdfcanon.State β),
    (∀ q ∈ qs, WFQuad T q) → (∀ b, ∀ c ∈ getList st.b2q b, IsCQ T c) →
    ∃ st', Rdfcanon.ingest T qs idx st = .ok st' ∧ st'.canon = st.canon ∧
      st'.all = st.all ++ cquads T qs idx ∧
      forget st'.b2q = qs.foldl index1 (forget st.b2q) ∧
      (∀ b, ∀ c ∈ getList st'.b2q b, IsCQ T c)
  | [], idx, st, _, hst => ⟨st, rfl, rfl, by simp [cquads], rfl, hst⟩
  | q :: rest, idx, st, hwf, hst => by
    have hq : WFQuad T q := hwf q (by simp)
    unfold Rdfcanon.ingest
    rw [ingestQuad_wf T q idx hq]
    simp only
    obtain ⟨st', h1, h2, h3, h4, h5⟩ := ingest_wf T rest (idx + 1)
      { st with b2q := Rdfcanon.indexQuad st.b2q (cquadOf T q idx), all := st.all ++ [cquadOf T q idx] }
      (fun q' hq' => hwf q' (by simp [hq']))
      (indexQuad_getList st.b2q _ (IsCQ T) (isCQ_cquadOf T q idx hq) hst)
    refine ⟨st', h1, h2, ?_, ?_, h5⟩
    · rw [h3]; simp [cquads]
    · rw [h4]; simp [indexQuad_forget]

theorem getList_mem {ν : Type} (m : List (β × List ν)) (b : β) (x : ν) (hx : x ∈ getList m b) :
    ∃ e ∈ m, x ∈ e.2 :=
  ⟨_, mem_of_getList_ne_nil m b (List.ne_nil_of_mem hx), hx⟩

/-- Static part of the state correspondence: the blank node to quads map. -/
structure BRel (T : NQ.Tables) (mb : List (β × List (Rdfcanon.CQuad β))) (sb : Spec.RDFC10.B2Q β) : Prop where
  b2q : forget mb = sb
  isCQ : ∀ b, ∀ c ∈ getList mb b, IsCQ T c

theorem ingest_init (T : NQ.Tables) (qs : List (Quad β)) (hwf : ∀ q ∈ qs, WFQuad T q) :
    ∃ st, Rdfcanon.ingest T qs 0 ⟨[], Rdfcanon.newCanonicalIssuer, []⟩ = .ok st ∧
      st.canon = Rdfcanon.newCanonicalIssuer ∧ st.all = cquads T qs 0 ∧
      BRel T st.b2q (Spec.RDFC10.bnodeToQuads true qs) := by
  obtain ⟨st, h1, h2, h3, h4, h5⟩ := ingest_wf T qs 0 ⟨[], Rdfcanon.newCanonicalIssuer, []⟩ hwf
    fun _ _ hc => absurd hc List.not_mem_nil
  exact ⟨st, h1, h2, h3, ⟨h4.trans (bnodeToQuads_eq_foldl qs).symm, h5⟩⟩

end RdfModel.Proofs.C04
