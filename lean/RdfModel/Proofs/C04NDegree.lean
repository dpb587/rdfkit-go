import RdfModel.Proofs.C04Issuer
import RdfModel.Proofs.C04Quads
namespace RdfModel.Proofs.C04
open RdfModel RdfModel.Proofs.StrOrd RdfModel.C04


variable {β : Type} [DecidableEq β]

theorem foldl_ext_mem {α σ : Type} (f g : σ → α → σ) (l : List α) (init : σ)
    (h : ∀ a ∈ l, ∀ acc, f acc a = g acc a) : l.foldl f init = l.foldl g init :=
  List.foldl_rel (r := Eq) rfl fun a ha c _ e => e ▸ h a ha c

theorem hashFirstDegree_eq (T : NQ.Tables) (henc : EncOK T) (H : Str → Str)
    {mb : List (β × List (Rdfcanon.CQuad β))} {sb : Spec.RDFC10.B2Q β} (h : BRel T mb sb) (b : β) :
    Rdfcanon.hashFirstDegree H mb b = Spec.RDFC10.hashFirstDegree H sb b := by
  unfold Rdfcanon.hashFirstDegree Spec.RDFC10.hashFirstDegree
  simp only [← h.b2q, getList_forget, List.map_map]
  congr 3
  apply List.map_congr_left
  intro c hc
  obtain ⟨q, idx, rfl, hwf⟩ := h.isCQ b c hc
  exact firstDegreeLine_cquadOf T henc q idx hwf b

theorem hashRelated_eq (T : NQ.Tables) (henc : EncOK T) (H : Str → Str)
    {st : Rdfcanon.State β} {sb : Spec.RDFC10.B2Q β} {cs : Spec.RDFC10.Issuer β}
    (hb : BRel T st.b2q sb) (hc : CRel st.canon cs)
    {mi : Rdfcanon.Issuer β} {si : Spec.RDFC10.Issuer β} (hi : IRel mi si)
    (related : β) (q : Quad β) (idx : Nat) (hwf : WFQuad T q) (pos : Nat) :
    Rdfcanon.hashRelated H st mi related (cquadOf T q idx) [pos]
      = Spec.RDFC10.hashRelated H sb cs si related q pos := by
  unfold Rdfcanon.hashRelated Spec.RDFC10.hashRelated
  have hp := pEnc_cquadOf T henc q idx hwf
  rw [hc.getIfKnown, hi.getIfKnown, hashFirstDegree_eq T henc H hb related, hp]
  have e1 : ([pos] ≠ [0x67]) = (pos ≠ 0x67) := by simp
  simp only [e1]
  congr 1
  cases cs.get? related <;> cases si.get? related <;> simp

theorem hashToRelated_eq (T : NQ.Tables) (henc : EncOK T) (H : Str → Str)
    {st : Rdfcanon.State β} {sb : Spec.RDFC10.B2Q β} {cs : Spec.RDFC10.Issuer β}
    (hb : BRel T st.b2q sb) (hc : CRel st.canon cs)
    {mi : Rdfcanon.Issuer β} {si : Spec.RDFC10.Issuer β} (hi : IRel mi si) (identifier : β) :
    Rdfcanon.hashToRelated H st mi identifier = Spec.RDFC10.hashToRelated H sb cs si identifier := by
  unfold Rdfcanon.hashToRelated Spec.RDFC10.hashToRelated
  rw [← hb.b2q, getList_forget, List.foldl_map]
  apply foldl_ext_mem
  intro c hcm acc
  obtain ⟨q, idx, rfl, hwf⟩ := hb.isCQ identifier c hcm
  rw [relatedOf_cquadOf, List.foldl_map]
  apply foldl_ext_mem
  intro cp _ acc
  simp only
  rw [hashRelated_eq T henc H hb hc hi cp.1 q idx hwf cp.2, hb.b2q]
  rfl

/-- Never a panic; a result is matched by a corresponding result of the specification; a limit error
    says nothing (the specification has no work limits). -/
def Refines {α α' : Type} (R : α → α' → Prop) : Rdfcanon.Res α → Option α' → Prop
  | .ok a, s => ∃ a', s = some a' ∧ R a a'
  | .limit _, _ => True
  | .panic, _ => False

/-- The same for the outcomes of 5.4.4: "next permutation" (`none`) on both sides or on neither. -/
def RefinesO {α α' : Type} (R : α → α' → Prop) : Option α → Option α' → Prop
  | some a, s => ∃ a', s = some a' ∧ R a a'
  | none, s => s = none

/-- The same for the outcomes of 5.4.5: "skip to the next permutation" on both sides or on neither; a limit error
    of the model says nothing. -/
def RefinesT {α α' : Type} (R : α → α' → Prop) : Rdfcanon.Try α → Spec.RDFC10.Try α' → Prop
  | .ok a, s => ∃ a', s = .ok a' ∧ R a a'
  | .skip, s => s = .skip
  | .err _, _ => True

def PRel : Str × Rdfcanon.Issuer β → Str × Spec.RDFC10.Issuer β → Prop
  | (p, i), (p', i') => p = p' ∧ IRel i i'

def NDRel (mr : Rdfcanon.NDResult β) (sr : Spec.RDFC10.NDResult β) : Prop :=
  mr.hash = sr.hash ∧ IRel mr.issuer sr.issuer

theorem prune_eq (chosen path : Str) : Rdfcanon.prune chosen path = Spec.RDFC10.prune chosen path := by
  unfold Rdfcanon.prune Spec.RDFC10.prune
  cases chosen <;> simp

/-! ### the permutation budget; the first permutation

`groupLoop` hands `permLoop` one arrangement more than the budget (`heapPerms (maxPerm + 1)` with budget `maxPerm`), so
that a list with more arrangements than the budget reaches `_ :: _, 0 => .limit .iterations`; Go tests
`permutationIdx > maxPermutations` at the head of each round. -/

theorem permLoop_ok_length (mrec : β → Rdfcanon.Issuer β → Rdfcanon.Res (Rdfcanon.NDResult β))
    (cm issuer : Rdfcanon.Issuer β) :
    ∀ (ps : List (List β)) (budget : Nat) (cp : Str) (ci : Rdfcanon.Issuer β) r,
    Rdfcanon.permLoop mrec cm issuer ps budget cp ci = .ok r → ps.length ≤ budget
  | [], _, _, _, _, _ => by simp
  | p :: ps, 0, cp, ci, r, h => by simp [Rdfcanon.permLoop] at h
  | p :: ps, budget + 1, cp, ci, r, h => by
    unfold Rdfcanon.permLoop at h
    simp only [List.length_cons, Nat.add_le_add_iff_right]
    split at h
    · exact permLoop_ok_length mrec cm issuer ps budget _ _ _ h
    · split at h
      · simp at h
      · exact permLoop_ok_length mrec cm issuer ps budget _ _ _ h
      · split at h
        · exact permLoop_ok_length mrec cm issuer ps budget _ _ _ h
        · exact permLoop_ok_length mrec cm issuer ps budget _ _ _ h

theorem prune_nil (p : Str) : Rdfcanon.prune [] p = false := by simp [Rdfcanon.prune]

theorem pathLoop_nil_ne_none (cm : Rdfcanon.Issuer β) :
    ∀ (l : List β) (st : Str × Rdfcanon.Issuer β × List β), Rdfcanon.pathLoop cm [] l st ≠ none
  | [], _ => by simp [Rdfcanon.pathLoop]
  | _ :: rest, (_, _, _) => by
    unfold Rdfcanon.pathLoop
    simp only [prune_nil, Bool.false_eq_true, if_false]
    exact pathLoop_nil_ne_none cm rest _

theorem recLoop_nil_ne_skip (mrec : β → Rdfcanon.Issuer β → Rdfcanon.Res (Rdfcanon.NDResult β)) :
    ∀ (l : List β) (pa : Str) (i : Rdfcanon.Issuer β), Rdfcanon.recLoop mrec [] l pa i ≠ .skip
  | [], _, _ => by simp [Rdfcanon.recLoop]
  | a :: rest, pa, i => by
    unfold Rdfcanon.recLoop
    cases mrec a i with
    | ok x =>
      simp only [prune_nil, Bool.false_eq_true, if_false]
      exact recLoop_nil_ne_skip mrec rest _ _
    | _ => simp

omit [DecidableEq β] in
/-- A longer run of the permuter extends a run that stopped by itself (every longer prefix of the Go
    permuter's output is an admissible enumeration: `C04.permsAgree_heapPerms`). -/
theorem heapPermsFrom_stable : ∀ (n : Nat) (arr : List β) (c : List Nat),
    (Rdfcanon.heapPermsFrom n arr c).length < n →
    ∀ m, n ≤ m → Rdfcanon.heapPermsFrom m arr c = Rdfcanon.heapPermsFrom n arr c
  | 0, _, _, h, _, _ => by simp at h
  | n + 1, arr, c, h, m, hm => by
    obtain ⟨m', rfl⟩ : ∃ m', m = m' + 1 := ⟨m - 1, by omega⟩
    unfold Rdfcanon.heapPermsFrom at h ⊢
    cases hn : Rdfcanon.heapNext (arr.length + 1) arr c 0 with
    | none => rfl
    | some x =>
      obtain ⟨arr', c'⟩ := x
      simp only [hn, List.length_cons] at h ⊢
      rw [heapPermsFrom_stable n arr' c' (by omega) m' (by omega)]

omit [DecidableEq β] in
theorem heapPerms_succ_ne_nil (n : Nat) (l : List β) : Rdfcanon.heapPerms (n + 1) l ≠ [] := by
  simp [Rdfcanon.heapPerms, Rdfcanon.heapPermsFrom]

section loops
variable {cm : Rdfcanon.Issuer β} {cs : Spec.RDFC10.Issuer β} (hc : CRel cm cs)
  {mrec : β → Rdfcanon.Issuer β → Rdfcanon.Res (Rdfcanon.NDResult β)}
  {srec : β → Spec.RDFC10.Issuer β → Option (Spec.RDFC10.NDResult β)}
  (hrec : ∀ b mi si, IRel mi si → Refines NDRel (mrec b mi) (srec b si))

include hc in
theorem pathLoop_rel (chosen : Str) (l : List β) (path : Str) (recl : List β)
    {mic : Rdfcanon.Issuer β} {sic : Spec.RDFC10.Issuer β} (hi : IRel mic sic) :
    RefinesO (fun (p, ic, r) (p', ic', r') => p = p' ∧ IRel ic ic' ∧ r = r')
      (Rdfcanon.pathLoop cm chosen l (path, mic, recl)) (Spec.RDFC10.pathLoop cs chosen l (path, sic, recl)) := by
  induction l generalizing path recl mic sic with
  | nil => exact ⟨_, rfl, rfl, hi, rfl⟩
  | cons related rest ih =>
    simp only [Rdfcanon.pathLoop, Spec.RDFC10.pathLoop, hc.getIfKnown, hi.getIfKnown, prune_eq,
      (hi.get related).1, List.append_assoc, List.cons_append, List.nil_append]
    cases cs.get? related with
    | some id =>
      simp only
      split
      · rfl
      · exact ih _ _ hi
    | none =>
      simp only
      split
      · rfl
      · exact ih _ _ (hi.get related).2

include hrec in
theorem recLoop_rel (chosen : Str) (l : List β) (path : Str)
    {mic : Rdfcanon.Issuer β} {sic : Spec.RDFC10.Issuer β} (hi : IRel mic sic) :
    RefinesT PRel (Rdfcanon.recLoop mrec chosen l path mic) (Spec.RDFC10.recLoop srec chosen l path sic) := by
  induction l generalizing path mic sic with
  | nil => exact ⟨_, rfl, rfl, hi⟩
  | cons related rest ih =>
    have hr := hrec related mic sic hi
    simp only [Rdfcanon.recLoop, Spec.RDFC10.recLoop]
    cases hm : mrec related mic with
    | limit l => trivial
    | panic => trivial
    | ok mr =>
      rw [hm] at hr
      obtain ⟨sr, hs, hh, hri⟩ := hr
      simp only [hs, prune_eq, (hi.get related).1, hh, List.append_assoc, List.cons_append, List.nil_append]
      split
      · rfl
      · exact ih _ hri

variable {mi : Rdfcanon.Issuer β} {si : Spec.RDFC10.Issuer β} (hi : IRel mi si)

include hc hrec hi in
/-- The chosen issuer is unset (Go: the zero value; specification: never read) until the first
    permutation, which is always chosen, sets it. -/
theorem permLoop_rel (ps : List (List β)) (budget : Nat) (cp : Str) (cim : Rdfcanon.Issuer β)
    (cis : Spec.RDFC10.Issuer β) (hcp : cp = [] ∧ ps ≠ [] ∨ IRel cim cis) :
    Refines PRel (Rdfcanon.permLoop mrec cm mi ps budget cp cim) (Spec.RDFC10.permLoop srec cs si ps cp cis) := by
  induction ps generalizing budget cp cim cis with
  | nil => exact ⟨_, rfl, rfl, hcp.resolve_left fun h => h.2 rfl⟩
  | cons p ps ih =>
    cases budget with
    | zero => trivial
    | succ budget =>
      have keep := fun (hne : cp ≠ []) => ih budget cp cim cis (.inr (hcp.resolve_left fun h => hne h.1))
      have hp := pathLoop_rel hc cp p [] [] hi
      simp only [Rdfcanon.permLoop, Spec.RDFC10.permLoop, Rdfcanon.Issuer.clone]
      split
      · next hpm =>
        rw [hpm] at hp
        rw [hp]
        exact keep (by rintro rfl; exact pathLoop_nil_ne_none cm p _ hpm)
      · next path ic recl hpm =>
        rw [hpm] at hp
        obtain ⟨⟨_, sic, _⟩, hs, rfl, hic, rfl⟩ := hp
        have hr := recLoop_rel hrec cp recl path hic
        simp only [hs]
        split
        · trivial
        · next hrm =>
          rw [hrm] at hr
          rw [hr]
          exact keep (by rintro rfl; exact recLoop_nil_ne_skip mrec recl path ic hrm)
        · next path' ic' hrm =>
          rw [hrm] at hr
          obtain ⟨⟨_, sic'⟩, hq, rfl, hic'⟩ := hr
          simp only [hq, List.length_eq_zero_iff, ← List.isEmpty_iff, Bool.decide_eq_true]
          split
          · exact ih budget _ _ _ (.inr hic')
          · next hcond => exact keep (by rintro rfl; simp at hcond)

include hc hrec in
theorem groupLoop_rel (maxPerm : Nat) (perms : List β → List (List β)) (hperms : PermsAgree maxPerm perms)
    (gs : List (Str × List β)) (data : Str) {mi : Rdfcanon.Issuer β} {si : Spec.RDFC10.Issuer β}
    (hi : IRel mi si) :
    Refines PRel (Rdfcanon.groupLoop mrec cm maxPerm gs data mi) (Spec.RDFC10.groupLoop srec cs perms gs data si) := by
  induction gs generalizing data mi si with
  | nil => exact ⟨_, rfl, rfl, hi⟩
  | cons g rest ih =>
    obtain ⟨rh, bl⟩ := g
    have hp := permLoop_rel hc hrec hi (Rdfcanon.heapPerms (maxPerm + 1) bl) maxPerm [] Rdfcanon.zeroIssuer si
      (.inl ⟨rfl, heapPerms_succ_ne_nil maxPerm bl⟩)
    simp only [Rdfcanon.groupLoop, Spec.RDFC10.groupLoop]
    split
    · trivial
    · next hpm => rw [hpm] at hp; exact hp
    · next hpm =>
      rw [hpm] at hp
      obtain ⟨⟨_, ris⟩, hs, rfl, hri⟩ := hp
      rw [hperms bl (permLoop_ok_length mrec cm mi _ _ _ _ _ hpm), hs]
      exact ih _ hri

end loops

theorem hashNDegree_rel (T : NQ.Tables) (henc : EncOK T) (H : Str → Str)
    {st : Rdfcanon.State β} {sb : Spec.RDFC10.B2Q β} {cs : Spec.RDFC10.Issuer β}
    (hb : BRel T st.b2q sb) (hc : CRel st.canon cs)
    (maxPerm : Nat) (perms : List β → List (List β)) (hperms : PermsAgree maxPerm perms)
    (fuel : Nat) (b : β) (mi : Rdfcanon.Issuer β) (si : Spec.RDFC10.Issuer β) (hi : IRel mi si) :
    Refines NDRel (Rdfcanon.hashNDegree H st maxPerm fuel b mi) (Spec.RDFC10.hashNDegree H perms sb cs fuel b si) := by
  induction fuel generalizing b mi si with
  | zero => trivial
  | succ fuel ih =>
    have hg := groupLoop_rel hc ih maxPerm perms hperms (sortByKey (Spec.RDFC10.hashToRelated H sb cs si b)) [] hi
    simp only [Rdfcanon.hashNDegree, Spec.RDFC10.hashNDegree, hashToRelated_eq T henc H hb hc hi b]
    split
    · trivial
    · next hgm => rw [hgm] at hg; exact hg
    · next hgm =>
      rw [hgm] at hg
      obtain ⟨⟨_, ris⟩, hs, rfl, hri⟩ := hg
      rw [hs]
      exact ⟨_, rfl, rfl, hri⟩

end RdfModel.Proofs.C04
