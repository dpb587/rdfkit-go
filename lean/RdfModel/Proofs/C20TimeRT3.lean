/-
  A parse that used neither the comma nor the signed-fraction branch never
  ends in a layout with a ".000000000" element — the plain layout with the same tail, tried earlier,
  accepts the same text through the "fraction not in the layout" rule (`gap_time`, `gap_dateTime`).
-/
import RdfModel.Proofs.C20TimeRT2
namespace RdfModel.Proofs.C20Time
open RdfModel RdfModel.GoTime
open RdfModel.Xsd (Tok Bytes layoutToks nextIsFrac)

theorem takeWhile_append_stop {ds r : Bytes} (hd : ds.all Xsd.isDigit = true) (hr : NoDigitHead r) :
    (ds ++ r).takeWhile Xsd.isDigit = ds := by
  have h := C20.spanDigits_append (ds := ds) hd hr
  rw [spanDigits_eq] at h
  exact congrArg Prod.fst h

theorem tz_indep {s s' x : PS} {r : Bytes} (h : step [] .tz s r = some (x, [])) :
    ∃ y, step [] .tz s' r = some (y, []) := by
  simp only [step_iff, Reads] at h ⊢
  rcases h with ⟨h, _⟩ | ⟨sg, h1, h2, m1, m2, hr, mm, x, y, h, e1, e2, hh, hm, hs, _⟩
  · exact ⟨_, .inl ⟨h, rfl⟩⟩
  · exact ⟨_, .inr ⟨sg, h1, h2, m1, m2, hr, mm, x, y, h, e1, e2, hh, hm, hs, rfl⟩⟩

theorem tail_indep {tl : Tail} {s s' x : PS} {r : Bytes} (h : parseToks tl.toks s r = some x) :
    ∃ y, parseToks tl.toks s' r = some y := by
  rcases tail_iff.1 h with ⟨rfl, rfl, rfl⟩ | ⟨rfl, rfl, rfl⟩ | ⟨rfl, htz⟩
  · exact ⟨s', tail_iff.2 (.inl ⟨rfl, rfl, rfl⟩)⟩
  · exact ⟨s', tail_iff.2 (.inr (.inl ⟨rfl, rfl, rfl⟩))⟩
  · obtain ⟨y, hy⟩ := tz_indep htz
    exact ⟨y, tail_iff.2 (.inr (.inr ⟨rfl, hy⟩))⟩

theorem nextIsFrac_tail (tl : Tail) : nextIsFrac tl.toks = false := by cases tl <;> rfl

theorem frac_to_plain_C {tl : Tail} {a : Bytes} {st0 st : PS}
    (hp : parseToks (.hour :: .lit 0x3A :: .minute :: .lit 0x3A :: .second :: .frac0 9 0x2E :: tl.toks) st0 a = some st)
    (hc : st.n.comma = false) (hs : st.n.fsign = false) :
    ∃ y, parseToks (.hour :: .lit 0x3A :: .minute :: .lit 0x3A :: .second :: tl.toks) st0 a = some y := by
  obtain ⟨hh, one, r2, m, r4, s, r5, f, e1, hlt, e2, mlt, e3, slt, hlen, hpn, hrest⟩ := clockF_parts hp
  obtain ⟨htl, zo, w, rfl, _⟩ := tail_inv hrest
  simp only at hc hs
  obtain ⟨t, rfl, hds', hl9⟩ := nanos_plain hlen hpn hc hs
  match t, hds', hl9, hpn, e3, hrest, htl with
  | d :: r2', hds', hl9, hpn, e3, hrest, htl =>
    -- the fraction element read '.' and nine digits (`1 + 9` bytes); the seconds rule of the plain layout matches '.'
    -- and the first digit `d` itself and then takes the digit run: the other eight
    simp only [List.take_succ_cons, List.all_cons, Bool.and_eq_true] at hds'
    have hdrop : (0x2E :: d :: r2').drop (1 + 9) = r2'.drop 8 := by simp
    rw [hdrop] at hrest htl
    have htw : (r2'.takeWhile Xsd.isDigit).length = 8 := by
      have := takeWhile_append_stop hds'.2 (tailHead_noDigit htl)
      rw [List.take_append_drop] at this
      rw [this]; simp at hl9 ⊢; omega
    have key : ∀ s', ∃ y, parseToks tl.toks s' (r2'.drop 8) = some y := fun s' => tail_indep hrest
    simp only [parseToks, Option.bind_eq_some_iff, Prod.exists, step_iff, Reads]
    obtain ⟨y, hy⟩ := key _
    exact ⟨y, _, _, ⟨hh, one, e1, hlt, rfl⟩, _, _, ⟨rfl, rfl⟩, _, _, ⟨m, e2, mlt, rfl⟩, _, _, ⟨rfl, rfl⟩, _, _,
      ⟨s, _, e3, slt, .inr ⟨nextIsFrac_tail tl, _, d, r2', f, rfl, .inl rfl, hds'.1, by rw [htw]; exact hpn, by rw [htw, ← hdrop], rfl⟩⟩, hy⟩

/-- the clock elements leave year, month and day alone: the day-of-month test is that of the state before them -/
theorem dayOK_clock {fr : Bool} {tl : Tail} {st0 y : PS} {a : Bytes} (h : parseToks (shapeToks preC fr tl) st0 a = some y) :
    dayOK y.t = dayOK st0.t := by
  obtain ⟨a1, a2, a3, _⟩ := parseToks_frame _ _ _ _ h
  have hn : Tok.year ∉ shapeToks preC fr tl ∧ Tok.month ∉ shapeToks preC fr tl ∧ Tok.day ∉ shapeToks preC fr tl := by
    cases tl <;> cases fr <;> decide
  simp [dayOK, a1 hn.1, a2 hn.2.1, a3 hn.2.2]

theorem gap_clock {tl : Tail} {a : Bytes} {st0 st : PS} (hp : parseToks (shapeToks preC true tl) st0 a = some st)
    (hc : st.n.comma = false) (hs : st.n.fsign = false) :
    ∃ y, parseToks (shapeToks preC false tl) st0 a = some y ∧ dayOK y.t = dayOK st.t := by
  obtain ⟨y, hy⟩ := frac_to_plain_C hp hc hs
  exact ⟨y, hy, (dayOK_clock (fr := false) hy).trans (dayOK_clock hp).symm⟩

theorem gap_time {tl : Tail} {a : Bytes} {st : PS} (h : parseWith (shapeToks preC true tl) a = some st)
    (hc : st.n.comma = false) (hs : st.n.fsign = false) : ∃ y, parseWith (shapeToks preC false tl) a = some y := by
  obtain ⟨hp, hd⟩ := parseWith_inv h
  obtain ⟨y, hy, hdy⟩ := gap_clock hp hc hs
  exact ⟨y, by simp [parseWith, hy, hdy, hd]⟩

theorem gap_dateTime {tl : Tail} {a : Bytes} {st : PS} (h : parseWith (shapeToks preDT true tl) a = some st)
    (hc : st.n.comma = false) (hs : st.n.fsign = false) : ∃ y, parseWith (shapeToks preDT false tl) a = some y := by
  obtain ⟨hp, hd⟩ := parseWith_inv h
  obtain ⟨yy, mo, d, r2, r4, rT, hy, hm, hm1, hm2, hdd, hp'⟩ := ymdT_iff.1 hp
  obtain ⟨y, hyy, hdy⟩ := gap_clock hp' hc hs
  have hall : parseToks (shapeToks preDT false tl) {} a = some y :=
    ymdT_iff.2 ⟨yy, mo, d, r2, r4, rT, hy, hm, hm1, hm2, hdd, hyy⟩
  exact ⟨y, by simp [parseWith, hall, hdy, hd]⟩

end RdfModel.Proofs.C20Time
