/-
  The total ("Option-free") description `quadBody` of a statement: whatever `encodeQuad` writes is `quadBody`
  and a line feed, and it writes for well-formed quads.
-/
import RdfModel.Props.C01Defs
import RdfModel.Proofs.C01Consts
namespace RdfModel.Proofs.C01
open RdfModel RdfModel.NQ RdfModel.C01

theorem escIRIRune_mode {T : Tables} {a : Bool} {c : Nat} (hm : lookup (T.iriEsc a) 0 c ≤ 2) :
    lookup (T.iriEsc a) 0 c = 0 ∧ escIRIRune T a c = [c] ∨
    lookup (T.iriEsc a) 0 c = 1 ∧ escIRIRune T a c = 0x5c :: 0x75 :: hex4 c ∨
    lookup (T.iriEsc a) 0 c = 2 ∧ escIRIRune T a c = 0x5c :: 0x55 :: hex8 c := by
  unfold escIRIRune
  generalize lookup (T.iriEsc a) 0 c = m at hm ⊢
  match m, hm with
  | 0, _ | 1, _ | 2, _ => simp

theorem escLitRune_mode {T : Tables} {a : Bool} {c : Nat} (hm : lookup (T.litEsc a) 0 c ≤ 3) :
    lookup (T.litEsc a) 0 c = 0 ∧ escLitRune T a c = [c] ∨
    lookup (T.litEsc a) 0 c = 1 ∧ escLitRune T a c = [0x5c, lookup T.echar 0 c] ∨
    lookup (T.litEsc a) 0 c = 2 ∧ escLitRune T a c = 0x5c :: 0x75 :: hex4 c ∨
    lookup (T.litEsc a) 0 c = 3 ∧ escLitRune T a c = 0x5c :: 0x55 :: hex8 c := by
  unfold escLitRune
  generalize lookup (T.litEsc a) 0 c = m at hm ⊢
  match m, hm with
  | 0, _ | 1, _ | 2, _ | 3, _ => simp

/-- Every code point of `l` satisfies `P` (`P` = below 0x80, or: not a line feed). -/
def All (P : Nat → Prop) (l : List Nat) : Prop := ∀ c ∈ l, P c

variable {P : Nat → Prop}

@[simp] theorem All_nil : All P [] := nofun
@[simp] theorem All_cons (a : Nat) (l : List Nat) : All P (a :: l) ↔ P a ∧ All P l := List.forall_mem_cons
@[simp] theorem All_append (l m : List Nat) : All P (l ++ m) ↔ All P l ∧ All P m := List.forall_mem_append

theorem All_flatMap {α : Type} (f : α → List Nat) (l : List α) (h : ∀ x ∈ l, All P (f x)) :
    All P (l.flatMap f) := fun c hc => by
  obtain ⟨x, hx, hcx⟩ := List.mem_flatMap.1 hc
  exact h x hx c hcx

theorem All_hex4 (h : ∀ d, d < 16 → P (hexUpper d)) (c : Nat) : All P (hex4 c) := by
  simp only [hex4, All_cons, All_nil, and_true]
  exact ⟨h _ (by omega), h _ (by omega), h _ (by omega), h _ (by omega)⟩

theorem All_hex8 (h : ∀ d, d < 16 → P (hexUpper d)) (c : Nat) : All P (hex8 c) := by
  simp only [hex8, All_cons, All_nil, and_true]
  exact ⟨h _ (by omega), h _ (by omega), h _ (by omega), h _ (by omega), h _ (by omega), h _ (by omega),
    h _ (by omega), h _ (by omega)⟩

theorem All_writeIRI (T : Tables) (a : Bool) (s : List Nat) (hlt : P 0x3c) (hgt : P 0x3e)
    (h : ∀ c ∈ s, All P (escIRIRune T a c)) : All P (writeIRI T a s) := by
  simp only [writeIRI, All_cons, All_append, All_nil, iriBody]
  exact ⟨hlt, All_flatMap _ _ h, hgt, trivial⟩

theorem All_writeLiteral (T : Tables) (a : Bool) (lex dt : List Nat) (lang : Option (List Nat))
    (hq : P 0x22) (hat : P 0x40) (hhat : P 0x5e) (hlex : ∀ c ∈ lex, All P (escLitRune T a c))
    (hdt : All P (writeIRI T a dt)) (hlang : ∀ t, lang = some t → All P t) :
    All P (writeLiteral T a lex dt lang) := by
  have hq : All P (0x22 :: (litBody T a lex ++ [0x22])) := by
    simp only [All_cons, All_append, All_nil, litBody]
    exact ⟨hq, All_flatMap _ _ hlex, hq, trivial⟩
  unfold writeLiteral
  simp only
  split
  · exact hq
  · split
    · cases lang with
      | none => exact hq
      | some t => exact (All_append _ _).2 ⟨hq, (All_cons _ _).2 ⟨hat, hlang t rfl⟩⟩
    · exact (All_append _ _).2 ⟨hq, (All_cons _ _).2 ⟨hhat, (All_cons _ _).2 ⟨hhat, hdt⟩⟩⟩

theorem langRest_chars (t : List Nat) (need : Bool) (h : langRest t need = true) :
    All (fun c => isAlpha c = true ∨ isDigit c = true ∨ c = 0x2d) t := by
  fun_induction langRest t need with
  | case1 => exact All_nil
  | case2 c r need hx ih => exact (All_cons _ _).2 ⟨(Bool.or_eq_true _ _ ▸ hx).elim .inl (.inr ∘ .inl), ih h⟩
  | case3 r need hx ih => exact (All_cons _ _).2 ⟨.inr (.inr rfl), ih (Bool.and_eq_true _ _ ▸ h).2⟩
  | case4 => cases h

theorem langPrim_chars (t : List Nat) (seen : Bool) (h : langPrim t seen = true) :
    All (fun c => isAlpha c = true ∨ isDigit c = true ∨ c = 0x2d) t := by
  fun_induction langPrim t seen with
  | case1 => exact All_nil
  | case2 c r seen hx ih => exact (All_cons _ _).2 ⟨.inl hx, ih h⟩
  | case3 r seen hx => exact (All_cons _ _).2 ⟨.inr (.inr rfl), langRest_chars _ _ (Bool.and_eq_true _ _ ▸ h).2⟩
  | case4 => cases h

variable {β : Type}

/-- What `writeNode` writes (junk `[]` for literals, which are never well-formed nodes). -/
def nodeW (T : Tables) (ascii : Bool) (label : β → List Nat) : Term β → List Nat
  | .iri v => writeIRI T ascii v
  | .bnode b => 0x5f :: 0x3a :: label b
  | .lit .. => []

def objW (T : Tables) (ascii : Bool) (label : β → List Nat) : Term β → List Nat
  | .lit l d t => writeLiteral T ascii l d t
  | t => nodeW T ascii label t

def graphW (T : Tables) (ascii : Bool) (label : β → List Nat) (quads : Bool) :
    Option (Term β) → List Nat
  | some g => if quads then 0x20 :: nodeW T ascii label g else []
  | none => []

/-- One statement without its terminating LF. -/
def quadBody (T : Tables) (ascii : Bool) (label : β → List Nat) (quads : Bool) (q : Quad β) :
    List Nat :=
  nodeW T ascii label q.s ++ 0x20 :: (nodeW T ascii label q.p ++ 0x20 ::
    (objW T ascii label q.o ++ (graphW T ascii label quads q.g ++ [0x20, 0x2e])))

theorem graphW_cases (T : Tables) (a : Bool) (label : β → List Nat) (quads : Bool) (g : Option (Term β)) :
    graphW T a label quads g = [] ∨
      ∃ t, g = some t ∧ quads = true ∧ graphW T a label quads g = 0x20 :: nodeW T a label t := by
  cases g <;> cases quads <;> simp [graphW]

theorem wfLit_cases {urlOk : List Nat → Bool} {lex dt : List Nat} {lang : Option (List Nat)}
    (h : WFLit urlOk lex dt lang) :
    (dt = xsdString ∧ lang = none) ∨ (∃ t, dt = rdfLangString ∧ lang = some t ∧ langOK t = true) ∨
    (dt ≠ xsdString ∧ dt ≠ rdfLangString ∧ dt ≠ rdfDirLangString ∧ lang = none) := by
  obtain ⟨_, _, hlang⟩ := h
  cases lang with
  | some t => exact .inr (.inl ⟨t, hlang.1, rfl, hlang.2⟩)
  | none =>
    by_cases hx : dt = xsdString
    · exact .inl ⟨hx, rfl⟩
    · exact .inr (.inr ⟨hx, hlang.1, hlang.2, rfl⟩)

theorem writeLiteral_wf (T : Tables) (a : Bool) {urlOk : List Nat → Bool} {lex dt : List Nat}
    {lang : Option (List Nat)} (h : WFLit urlOk lex dt lang) :
    ∃ sfx, writeLiteral T a lex dt lang = 0x22 :: (litBody T a lex ++ 0x22 :: sfx) ∧
      ((sfx = [] ∧ dt = xsdString ∧ lang = none) ∨
       (∃ t, sfx = 0x40 :: t ∧ dt = rdfLangString ∧ lang = some t ∧ langOK t = true) ∨
       (sfx = 0x5e :: 0x5e :: writeIRI T a dt ∧ dt ≠ xsdString ∧ dt ≠ rdfLangString ∧ dt ≠ rdfDirLangString ∧
          lang = none)) := by
  rcases wfLit_cases h with ⟨hx, rfl⟩ | ⟨t, hl, rfl, ht⟩ | ⟨hx, hl, hd, rfl⟩
  · exact ⟨[], by simp [writeLiteral, hx], .inl ⟨rfl, hx, rfl⟩⟩
  · exact ⟨_, by simp [writeLiteral, hl, xsd_ne_lang.symm], .inr (.inl ⟨t, rfl, hl, rfl, ht⟩)⟩
  · exact ⟨_, by simp [writeLiteral, hx, hl], .inr (.inr ⟨rfl, hx, hl, hd, rfl⟩)⟩

theorem writeNode_wf (T : Tables) (ascii : Bool) (label : β → List Nat) (urlOk : List Nat → Bool)
    (t : Term β) (h : WFNode urlOk t) : writeNode T ascii label t = some (nodeW T ascii label t) := by
  cases t <;> simp_all [WFNode, writeNode, nodeW]

theorem writePredicate_wf (T : Tables) (ascii : Bool) (label : β → List Nat)
    (urlOk : List Nat → Bool) (t : Term β) (h : WFPredicate urlOk t) :
    writePredicate T ascii t = some (nodeW T ascii label t) := by
  cases t <;> simp_all [WFPredicate, writePredicate, nodeW]

theorem writeObject_wf (T : Tables) (ascii : Bool) (label : β → List Nat) (urlOk : List Nat → Bool)
    (t : Term β) (h : WFObject urlOk t) : writeObject T ascii label t = some (objW T ascii label t) := by
  cases t <;> simp_all [WFObject, WFNode, writeObject, writeNode, objW, nodeW]

theorem encodeQuad_wf (T : Tables) (ascii : Bool) (label : β → List Nat) (urlOk : List Nat → Bool)
    (quads : Bool) (q : Quad β) (h : WFQuad urlOk q) :
    encodeQuad T ascii label quads q = some (quadBody T ascii label quads q ++ [0x0a]) := by
  obtain ⟨s, p, o, g⟩ := q
  have hs := h.s; have hp := h.p; have ho := h.o; have hg := h.g
  simp only at hs hp ho hg
  unfold encodeQuad
  simp only
  rw [writeNode_wf T ascii label urlOk _ hs, writePredicate_wf T ascii label urlOk _ hp,
    writeObject_wf T ascii label urlOk _ ho]
  cases quads with
  | false => cases g <;> simp [quadBody, graphW]
  | true =>
    cases g with
    | none => simp [quadBody, graphW]
    | some g =>
      simp [quadBody, graphW, writeNode_wf T ascii label urlOk g (hg g rfl)]

theorem writeNode_cases (T : Tables) (a : Bool) (label : β → List Nat) (t : Term β) :
    writeNode T a label t = none ∨ writeNode T a label t = some (nodeW T a label t) := by
  cases t <;> simp [writeNode, nodeW]

theorem writePredicate_cases (T : Tables) (a : Bool) (label : β → List Nat) (t : Term β) :
    writePredicate T a t = none ∨ writePredicate T a t = some (nodeW T a label t) := by
  cases t <;> simp [writePredicate, nodeW]

theorem writeObject_cases (T : Tables) (a : Bool) (label : β → List Nat) (t : Term β) :
    writeObject T a label t = none ∨ writeObject T a label t = some (objW T a label t) := by
  cases t <;> simp [writeObject, writeNode, objW, nodeW]

theorem encodeQuad_cases (T : Tables) (a : Bool) (label : β → List Nat) (quads : Bool) (q : Quad β) :
    encodeQuad T a label quads q = none ∨
      encodeQuad T a label quads q = some (quadBody T a label quads q ++ [0x0a]) := by
  obtain ⟨s, p, o, g⟩ := q
  unfold encodeQuad
  rcases writeNode_cases T a label s with h | h <;> rw [h]
  · exact .inl rfl
  rcases writePredicate_cases T a label p with h | h <;> rw [h]
  · exact .inl rfl
  rcases writeObject_cases T a label o with h | h <;> rw [h]
  · exact .inl rfl
  cases quads with
  | false => exact .inr (by cases g <;> simp [quadBody, graphW])
  | true =>
    cases g with
    | none => exact .inr (by simp [quadBody, graphW])
    | some g => rcases writeNode_cases T a label g with h | h <;> simp [h, quadBody, graphW]

theorem All_quadBody (T : Tables) (a : Bool) (label : β → List Nat) (quads : Bool) (q : Quad β)
    (hsp : P 0x20) (hdot : P 0x2e) (hs : All P (nodeW T a label q.s)) (hp : All P (nodeW T a label q.p))
    (ho : All P (objW T a label q.o)) (hg : ∀ t, q.g = some t → All P (nodeW T a label t)) :
    All P (quadBody T a label quads q) := by
  have : All P (graphW T a label quads q.g) := by
    rcases graphW_cases T a label quads q.g with h | ⟨t, ht, _, h⟩ <;> rw [h]
    · exact All_nil
    · exact (All_cons _ _).2 ⟨hsp, hg t ht⟩
  simp only [quadBody, All_append, All_cons, All_nil, and_true]
  exact ⟨hs, hsp, hp, hsp, ho, this, hsp, hdot⟩

theorem encodeDoc_nil (T : Tables) (ascii : Bool) (label : β → List Nat) (quads : Bool) :
    encodeDoc T ascii label quads ([] : List (Quad β)) = [] := rfl

theorem encodeDoc_cons_wf (T : Tables) (ascii : Bool) (label : β → List Nat) (urlOk : List Nat → Bool)
    (quads : Bool) (q : Quad β) (qs : List (Quad β)) (h : WFQuad urlOk q) :
    encodeDoc T ascii label quads (q :: qs)
      = quadBody T ascii label quads q ++ 0x0a :: encodeDoc T ascii label quads qs := by
  simp [encodeDoc, encodeQuad_wf T ascii label urlOk quads q h]

theorem nodeW_head (T : Tables) (ascii : Bool) (label : β → List Nat) (urlOk : List Nat → Bool)
    (t : Term β) (ht : WFNode urlOk t) :
    ∃ c r, nodeW T ascii label t = c :: r ∧ (c = 0x3c ∨ c = 0x5f) := by
  cases t with
  | iri v => exact ⟨0x3c, _, rfl, Or.inl rfl⟩
  | bnode b => exact ⟨0x5f, _, rfl, Or.inr rfl⟩
  | lit l d t => exact ht.elim

theorem objW_head (T : Tables) (ascii : Bool) (label : β → List Nat) (urlOk : List Nat → Bool)
    (t : Term β) (ht : WFObject urlOk t) :
    ∃ c r, objW T ascii label t = c :: r ∧ (c = 0x22 ∨ c = 0x3c ∨ c = 0x5f) := by
  cases t with
  | iri v => exact ⟨0x3c, _, rfl, Or.inr (Or.inl rfl)⟩
  | bnode b => exact ⟨0x5f, _, rfl, Or.inr (Or.inr rfl)⟩
  | lit l d t =>
    obtain ⟨_, hr, _⟩ := writeLiteral_wf T ascii ht
    exact ⟨0x22, _, hr, Or.inl rfl⟩

end RdfModel.Proofs.C01
