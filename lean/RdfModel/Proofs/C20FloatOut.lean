import RdfModel.Props.C20FloatDefs
import RdfModel.Proofs.C20Int
namespace RdfModel.Proofs.C20F
open RdfModel RdfModel.XsdF RdfModel.C20F
open RdfModel.Xsd (Bytes)
open RdfModel.Spec.Xsd (isDigit spanDigits natValue decimalLex signSplit digits1 isCanonDecimal)
open RdfModel.Proofs.C20 (natValue_append natValue_zeros)

abbrev AllDigits (s : Bytes) : Prop := ∀ c ∈ s, isDigit c = true

theorem allDigits_iff (s : Bytes) : AllDigits s ↔ s.all isDigit = true := by
  simp [AllDigits, List.all_eq_true]

theorem span_all (ds : Bytes) (hd : AllDigits ds) : spanDigits ds = (ds, []) := by
  simpa using C20.spanDigits_append (r := []) ((allDigits_iff ds).1 hd) (by simp)

theorem span_point (ip fp : Bytes) (hi : AllDigits ip) :
    spanDigits (ip ++ (if fp = [] then [] else 0x2E :: fp)) = (ip, if fp = [] then [] else 0x2E :: fp) := by
  refine C20.spanDigits_append ((allDigits_iff ip).1 hi) fun c r h => ?_
  cases fp <;> simp at h
  rw [← h.1]; decide

theorem allDigits_zeros (k : Nat) : AllDigits (List.replicate k 0x30) := by
  intro c hc
  rw [List.mem_replicate] at hc
  rw [hc.2]; decide

theorem AllDigits.append {a b : Bytes} (ha : AllDigits a) (hb : AllDigits b) : AllDigits (a ++ b) :=
  fun x hx => (List.mem_append.1 hx).elim (ha x) (hb x)

theorem digit_ne_sign {c : Nat} (h : isDigit c = true) : c ≠ 0x2D ∧ c ≠ 0x2B ∧ c ≠ 0x2E := by
  rw [C20.isDigit_iff] at h; omega

/-- sign · integer digits · a point and the fraction digits, if there are any -/
def build (neg : Bool) (ip fp : Bytes) : Bytes :=
  (if neg then [0x2D] else []) ++ ip ++ (if fp = [] then [] else 0x2E :: fp)

theorem decimalLex_build (neg : Bool) (ip fp : Bytes) (hi : AllDigits ip) (hf : AllDigits fp) (hne : ip ≠ []) :
    decimalLex (build neg ip fp) = some (neg, natValue (ip ++ fp), fp.length) := by
  obtain ⟨c, r, rfl⟩ := List.exists_cons_of_ne_nil hne
  have hc := digit_ne_sign (hi c List.mem_cons_self)
  have hsign : signSplit (build neg (c :: r) fp) = (neg, (c :: r) ++ (if fp = [] then [] else 0x2E :: fp)) := by
    cases neg
    · simp [build, signSplit, hc.1, hc.2.1]
    · simp [build, signSplit]
  unfold decimalLex
  rw [hsign]
  simp only [span_point (c :: r) fp hi]
  cases fp with
  | nil => simp
  | cons f fs => simp [span_all (f :: fs) hf]

theorem decWF_elim {d : Dec} (h : decWF d = true) :
    AllDigits d.ds ∧ ((d.ds = [] ∧ d.dp = 0) ∨
      (∃ c r, d.ds = c :: r ∧ c ≠ 0x30 ∧ d.ds.getLast? ≠ some 0x30)) := by
  unfold decWF at h
  simp only [Bool.and_eq_true] at h
  refine ⟨(allDigits_iff _).2 h.1, ?_⟩
  cases hds : d.ds with
  | nil => rw [hds] at h; left; simpa using h.2
  | cons c r =>
    right
    refine ⟨c, r, rfl, ?_⟩
    have h2 := h.2
    rw [hds] at h2
    simpa using h2

theorem fmtF_zero (neg : Bool) : fmtF ⟨neg, [], 0⟩ = build neg [0x30] [] := by
  cases neg <;> rfl

/-- the digits of an expansion with the zeros `%f` adds: in front when `dp < 0`, behind when `dp > nd` -/
def padded (d : Dec) : Bytes :=
  List.replicate (-d.dp).toNat 0x30 ++ d.ds ++ List.replicate (d.dp.toNat - d.ds.length) 0x30

/-- `%f`: the padded digits cut at the decimal point; `0` stands for an empty integer part, the point is
    written exactly when digits follow it -/
theorem fmtF_padded (d : Dec) (hne : d.ds ≠ []) :
    fmtF d = build d.neg (if d.dp > 0 then (padded d).take d.dp.toNat else [0x30]) ((padded d).drop d.dp.toNat) := by
  obtain ⟨neg, ds, dp⟩ := d
  have hl : 0 < ds.length := List.length_pos_iff.mpr hne
  unfold fmtF build padded
  by_cases h : dp > 0
  · have h1 : (-dp).toNat = 0 := by omega
    by_cases h2 : dp < ds.length
    · have : ((ds.length : Int) - dp).toNat > 0 := by omega
      have h3 : dp.toNat - ds.length = 0 := by omega
      have h4 : ¬ dp < 0 := by omega
      have h5 : ¬ ds.length ≤ dp.toNat := by omega
      simp [h, h1, this, h3, h4, h5]
    · have : ¬ ((ds.length : Int) - dp).toNat > 0 := by omega
      have h5 : ds.length ≤ dp.toNat := by omega
      simp [h, h1, this, List.take_append, List.take_of_length_le h5]
      omega
  · have h1 : dp.toNat = 0 := by omega
    have : ((ds.length : Int) - dp).toNat > 0 := by omega
    by_cases h0 : dp < 0
    · simp [h, h1, this, h0, hne]
    · have : dp = 0 := by omega
      subst this
      simp [hl, hne]

/-- what the output theorems need of a rendering `build neg ip fp` -/
structure Shape (d : Dec) (ip fp : Bytes) : Prop where
  eq : fmtF d = build d.neg ip fp
  hi : AllDigits ip
  hf : AllDigits fp
  hne : ip ≠ []
  hlast : fp.getLast? ≠ some 0x30
  hlead : ip.head? ≠ some 0x30 ∨ ip = [0x30]
  val : natValue (ip ++ fp) = (decValue d).1
  scale : fp.length = (decValue d).2
  zero : (ip = [0x30] ∧ fp = []) ↔ d.ds = []

theorem natValue_zero_cons (x : Bytes) : natValue (0x30 :: x) = natValue x := by
  rw [C20.natValue_cons]; simp

theorem fmtF_shape (d : Dec) (h : decWF d = true) : ∃ ip fp, Shape d ip fp := by
  obtain ⟨hall, hz | ⟨c, r, hds, hc, hlast⟩⟩ := decWF_elim h
  · obtain ⟨neg, ds, dp⟩ := d
    obtain ⟨rfl, rfl⟩ := hz
    exact ⟨[0x30], [], fmtF_zero neg, allDigits_zeros 1, nofun, by simp, by simp, Or.inr rfl,
      by simp [decValue, natValue], by simp [decValue], by simp⟩
  · have hne : d.ds ≠ [] := by rw [hds]; simp
    have hl : 0 < d.ds.length := List.length_pos_iff.mpr hne
    have hP : AllDigits (padded d) := ((allDigits_zeros _).append hall).append (allDigits_zeros _)
    have hlen : (padded d).length = (-d.dp).toNat + d.ds.length + (d.dp.toNat - d.ds.length) := by
      simp [padded]; omega
    -- left of the point there are digits of `ds` only, so no zero in front
    have hhead : d.dp > 0 → ((padded d).take d.dp.toNat).head? = some c := by
      intro hp
      have : (-d.dp).toNat = 0 := by omega
      obtain ⟨k, hk⟩ : ∃ k, d.dp.toNat = k + 1 := ⟨d.dp.toNat - 1, by omega⟩
      simp [padded, this, hds, hk]
    refine ⟨_, _, fmtF_padded d hne, ?_, fun x hx => hP x (List.mem_of_mem_drop hx), ?_, ?_, ?_, ?_, ?_, ?_⟩
    · split
      · exact fun x hx => hP x (List.mem_of_mem_take hx)
      · exact allDigits_zeros 1
    · split
      · next hp => intro e; have := hhead hp; rw [e] at this; cases this
      · simp
    · -- digits right of the point end with the last digit of `ds`: no zeros are padded behind then
      rw [List.getLast?_drop]
      split
      · simp
      · next hk =>
        have h0 : d.dp.toNat - d.ds.length = 0 := by omega
        simpa [padded, h0, List.getLast?_append, hne] using hlast
    · split
      · next hp => left; rw [hhead hp]; simpa using hc
      · exact Or.inr rfl
    · have hv : natValue (padded d) = natValue d.ds * 10 ^ (d.dp - d.ds.length).toNat := by
        have : (d.dp - d.ds.length).toNat = d.dp.toNat - d.ds.length := by omega
        simp [padded, natValue_append, natValue_zeros, this]
      split
      · rw [List.take_append_drop, hv]; rfl
      · next hp =>
        have : d.dp.toNat = 0 := by omega
        rw [this, List.drop_zero, List.singleton_append, natValue_zero_cons, hv]; rfl
    · simp only [decValue, List.length_drop]; omega
    · simp only [hne, iff_false, not_and, List.drop_eq_nil_iff]
      intro e hk
      have hp : d.dp > 0 := by omega
      rw [if_pos hp] at e
      have := hhead hp
      rw [e] at this
      simp at this; exact hc this.symm

theorem doubleLexOK_of_decimal (s : Bytes) (h : Spec.Xsd.decimalLexOK s = true) :
    Spec.Xsd.doubleLexOK s = true := by
  unfold Spec.Xsd.doubleLexOK
  unfold Spec.Xsd.decimalLexOK at h
  split
  · rfl
  · split
    · rfl
    · -- neither NaN nor INF: both recognisers match on the same `unsignedNumeral (dropSign s)`, and the decimal one took `some []`
      split at h <;> simp_all

theorem isCanon_build (neg : Bool) (ip fp : Bytes) (hi : AllDigits ip) (hf : AllDigits fp)
    (hne : ip ≠ []) (hlast : fp.getLast? ≠ some 0x30)
    (hlead : ip.head? ≠ some 0x30 ∨ ip = [0x30]) :
    isCanonDecimal (build neg ip fp) = (!fp.isEmpty || !(neg && ip == [0x30])) := by
  obtain ⟨c, r, rfl⟩ := List.exists_cons_of_ne_nil hne
  have hc := digit_ne_sign (hi c List.mem_cons_self)
  have hd1 : digits1 (c :: r) = true := by
    simp only [digits1, List.isEmpty_cons, Bool.not_false, Bool.true_and]
    exact (allDigits_iff _).1 hi
  have hlead' : ((c :: r).head? != some 0x30 || (c :: r).length == 1) = true := by
    rcases hlead with h | h
    · simp at h; simp [h]
    · simp at h; simp [h.2]
  have hhead : ((build neg (c :: r) fp).head? == some 0x2D) = neg := by
    cases neg
    · simp [build, hc.1]
    · simp [build]
  have hrest : (if neg = true then (build neg (c :: r) fp).drop 1 else build neg (c :: r) fp)
      = (c :: r) ++ (if fp = [] then [] else 0x2E :: fp) := by
    cases neg <;> simp [build]
  unfold isCanonDecimal
  simp only [hhead, hrest, span_point (c :: r) fp hi]
  cases fp with
  | nil => simp only [if_true, hd1, hlead', Bool.and_self, Bool.true_and, List.isEmpty_nil, Bool.not_true, Bool.false_or]
  | cons f fs =>
    have hd2 : digits1 (f :: fs) = true := by
      simp only [digits1, List.isEmpty_cons, Bool.not_false, Bool.true_and]
      exact (allDigits_iff _).1 hf
    simp only [reduceCtorEq, if_false, hd1, hd2, hlead', Bool.true_and, Bool.and_true, List.isEmpty_cons, Bool.not_false,
      Bool.true_or, beq_self_eq_true]
    simpa using hlast

theorem span_rest_head (s : Bytes) : ∀ i c r2, spanDigits s = (i, c :: r2) → isDigit c = false := by
  intro i c r2 h
  rw [C20Time.spanDigits_eq] at h
  have e := (Prod.mk.inj h).2
  simpa [e] using List.head_dropWhile_not isDigit (l := s) (by simp [e])

theorem build_noWs (neg : Bool) (ip fp : Bytes) (hi : AllDigits ip) (hf : AllDigits fp) :
    C20.NoWs (build neg ip fp) := by
  intro b hb
  simp only [build, List.mem_append] at hb
  rcases hb with (hb | hb) | hb
  · cases neg
    · simp at hb
    · simp at hb; subst hb; decide
  · exact C20.noWs_of_digits ((allDigits_iff _).1 hi) b hb
  · split at hb
    · simp at hb
    · rcases List.mem_cons.mp hb with hb | hb
      · subst hb; decide
      · exact C20.noWs_of_digits ((allDigits_iff _).1 hf) b hb

theorem fmtF_collapse (d : Dec) (h : decWF d = true) : Spec.Xsd.collapse (fmtF d) = fmtF d := by
  obtain ⟨ip, fp, S⟩ := fmtF_shape d h
  rw [S.eq]
  exact C20.collapse_noWs _ (build_noWs _ _ _ S.hi S.hf)

end RdfModel.Proofs.C20F
