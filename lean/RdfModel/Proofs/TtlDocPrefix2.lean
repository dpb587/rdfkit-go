/-
  Statement layer of Turtle/TriG: what the decoder can still yield once its buffer is exhausted
  (C15 `prefix_monotone_d43_partial`, last part).  When the run on a prefix has reached the end of its input —
  the buffer is empty / white space only, a lone pushed-back `.`, or a lone NUL pushed back by one of
  the closures that ignore `err` — every scan function either fails, passes the buffer on without
  yielding anything, or (the collection closures: D43) yields ONE statement and hands over to
  `Object`, which fails on such a buffer.  Hence at most one more statement from an exhausted buffer; the scan call
  that exhausted it may have yielded one itself, which makes the two of `prefix_bound`.
-/
import RdfModel.Proofs.TtlDocPrefix
import RdfModel.Proofs.TtlDocTrunc
namespace RdfModel.TtlDoc
open RdfModel

variable {C : Cfg}

/-- what the token producers must refuse: a lone `.` or NUL starts no IRIREF, name or label; neither is a
    PN_CHARS_BASE rune; NUL is no white space (all true of the real producers and tables) -/
structure TinyFail (C : Cfg) : Prop where
  nul : NulPlain C
  dotBase : C.pnBase 0x2e = false
  iriref : ∀ c, (c = 0x2e ∨ c = 0) → ∃ k, C.P.iriref .eof [c] = .err k
  pname : ∀ c, (c = 0x2e ∨ c = 0) → ∃ k, C.P.pname .eof [c] = .err k
  pnameNS : ∀ c, (c = 0x2e ∨ c = 0) → ∃ k, C.P.pnameNS .eof [c] = .err k
  bnode : ∀ c, (c = 0x2e ∨ c = 0) → ∃ k, C.P.bnode .eof [c] = .err k

def TinyInp (i : List Nat) : Prop := i = [] ∨ i = [0x2e] ∨ i = [0]

/-- the argument of a scan-function call on an exhausted buffer -/
inductive TinyArg : Arg → Prop where
  | fail : TinyArg .fail
  | rune {c} : (c = 0x2e ∨ c = 0) → TinyArg (.rune c [])

def TinyRes : FnRes → Prop
  | .ok o => TinyInp o.inp ∧ (∀ y, o.emit = some y → o.inp ≠ [] ∧ ∃ x', o.cur = some ⟨x', .object⟩)
  | _ => True

theorem tinyRes_plain {cur : Option Frame} {push : List Frame} {inp : List Nat} {env : Env} {term : Bool}
    (h : TinyInp inp) : TinyRes (.ok { cur := cur, push := push, inp := inp, env := env, term := term }) :=
  ⟨h, fun y hy => by cases hy⟩

theorem tiny_single {c : Nat} (hc : c = 0x2e ∨ c = 0) : TinyInp [c] := by
  rcases hc with rfl | rfl
  · exact Or.inr (Or.inl rfl)
  · exact Or.inr (Or.inr rfl)

theorem termIRIREF_tiny (hT : TinyFail C) (env : Env) {c : Nat} (hc : c = 0x2e ∨ c = 0) :
    ∃ k, termIRIREF C .eof env [c] = .err k := by
  obtain ⟨k, hk⟩ := hT.iriref c hc
  exact ⟨ofTok k, by simp [termIRIREF, iriIRIREF, hk, IriRes.toTerm]⟩

theorem termPName_tiny (hT : TinyFail C) (env : Env) {c : Nat} (hc : c = 0x2e ∨ c = 0) :
    ∃ k, termPName C .eof env [c] = .err k := by
  obtain ⟨k, hk⟩ := hT.pname c hc
  exact ⟨ofTok k, by simp [termPName, iriPName, hk, IriRes.toTerm]⟩

theorem termBNode_tiny (hT : TinyFail C) (env : Env) {c : Nat} (hc : c = 0x2e ∨ c = 0) :
    ∃ k, termBNode C .eof env [c] = .err k := by
  obtain ⟨k, hk⟩ := hT.bnode c hc
  exact ⟨ofTok k, by simp [termBNode, hk]⟩

theorem pnBase_tiny (hT : TinyFail C) {c : Nat} (hc : c = 0x2e ∨ c = 0) : C.pnBase c = false := by
  rcases hc with rfl | rfl
  · exact hT.dotBase
  · exact hT.nul.base

theorem stepObject_tiny (hT : TinyFail C) (x : Ectx) (env : Env) {c : Nat} (hc : c = 0x2e ∨ c = 0) :
    ∃ k, stepObject C .eof x env c [] = .err k := by
  rcases hc with rfl | rfl
  · exact ⟨.eof, by simp [stepObject, endCls]⟩
  · exact ⟨_, stepObject_nul hT.nul x env⟩

theorem stepCollection_tiny (x : Ectx) (env : Env) (o : T) {c : Nat} (hc : c = 0x2e ∨ c = 0) :
    TinyRes (stepCollection x env c [] o) := by
  have hne : c ≠ 0x29 := by rcases hc with rfl | rfl <;> decide
  simp only [stepCollection, hne, if_false]
  cases hx : x.subj with
  | none => exact tinyRes_plain (tiny_single hc)
  | some v => exact ⟨tiny_single hc, fun y _ => ⟨by simp, _, rfl⟩⟩

theorem object_tiny (hT : TinyFail C) (x : Ectx) (env : Env) {a : Arg} (ha : TinyArg a) :
    (∃ k, stepFn C .eof .object x env a = .err k) := by
  cases ha with
  | fail => exact ⟨_, rfl⟩
  | rune hc => simp only [stepFn]; exact stepObject_tiny hT x env hc

theorem tiny_step_rune (hT : TinyFail C) (k : Cont) (x : Ectx) (env : Env) {c : Nat} (hc : c = 0x2e ∨ c = 0) :
    TinyRes (stepFn C .eof k x env (.rune c [])) := by
  obtain ⟨k1, h1⟩ := hT.iriref c hc
  obtain ⟨k2, h2⟩ := hT.pnameNS c hc
  obtain ⟨k3, h3⟩ := termIRIREF_tiny hT env hc
  obtain ⟨k4, h4⟩ := termPName_tiny hT env hc
  obtain ⟨k5, h5⟩ := termBNode_tiny hT env hc
  obtain ⟨k6, h6⟩ := stepObject_tiny hT x env hc
  have hb := pnBase_tiny hT hc
  have h7 : stepPOL C .eof x env c [] = .ok { inp := [c], env := env } := by
    rcases hc with rfl | rfl <;> exact stepPOL_back (by decide) (by decide) (by decide) hb _ _ _
  have hcol : ∀ (env' : Env) (o : T), TinyRes (stepCollection x env' c [] o) := fun env' o => stepCollection_tiny x env' o hc
  have hs := tiny_single hc
  cases k with
  | collOpenObj => simp only [stepFn]; exact hcol _ _
  | collOpenSubj o => simp only [stepFn, Arg.orNul]; exact hcol _ _
  | collContinue =>
    have hne : c ≠ 0x29 := by rcases hc with rfl | rfl <;> decide
    simp only [stepFn, hne, if_false]
    exact ⟨hs, fun y _ => ⟨by simp, _, rfl⟩⟩
  | tgE1 v =>
    have hne : c ≠ 0x7b := by rcases hc with rfl | rfl <;> decide
    simp only [stepFn, Arg.orNul, hne, if_false]
    cases v with
    | lit lex dt lang => trivial
    | iri i => exact tinyRes_plain hs
    | bnode b => exact tinyRes_plain hs
  | _ =>
    -- the rule: on `.` or NUL every other scan function meets a rune it does not expect (error), reads a token that
    -- cannot start there (`h1`–`h6`: error), or hands the rune back unchanged (`h7`, the `else` branches): by evaluation
    rcases hc with rfl | rfl <;>
      simp [stepFn, TinyRes, TinyInp, Arg.orNul, stepStatementRune, stepSubjectStart, withSelf, stepParen, stepTriples,
        stepWrappedGraph, subjectOf, emitOfTerm, hb, h1, h2, h3, h4, h5, h6, h7] <;>
      (try (split <;> simp))

theorem tiny_step_fail (hT : TinyFail C) (k : Cont) (x : Ectx) (env : Env) : TinyRes (stepFn C .eof k x env .fail) := by
  rcases stepFn_fail (e := .eof) k x env with rfl | h | ⟨_, h⟩
  · exact tinyRes_plain (.inl rfl)
  · rw [h]; trivial
  · rw [h]; exact tiny_step_rune hT k x env (.inr rfl)

theorem tiny_step (hT : TinyFail C) (k : Cont) (x : Ectx) (env : Env) {a : Arg} (ha : TinyArg a) :
    TinyRes (stepFn C .eof k x env a) := by
  cases ha with
  | fail => exact tiny_step_fail hT k x env
  | rune hc => exact tiny_step_rune hT k x env hc

/-- the buffer as `scan` sees it is exhausted -/
def TinyS (C : Cfg) (inp : List Nat) : Prop := skipWs C .eof false inp = .end_ ∨ inp = [0x2e] ∨ inp = [0]

theorem tinyS_of_inp {i : List Nat} (h : TinyInp i) : TinyS C i := by
  rcases h with rfl | rfl | rfl
  · exact Or.inl rfl
  · exact Or.inr (Or.inl rfl)
  · exact Or.inr (Or.inr rfl)

theorem tinyS_arg (hT : TinyFail C) {inp : List Nat} (h : TinyS C inp) :
    ∃ a, TinyArg a ∧ ∀ (f : Frame) (env : Env), scanFn C .eof f inp env = stepFn C .eof f.k f.x env a := by
  rcases h with h | rfl | rfl
  · exact ⟨.fail, .fail, fun f env => scanFn_end h f env⟩
  · by_cases hw : isWs C 0x2e = true
    · exact ⟨.fail, .fail, fun f env => by simp [scanFn, skipWs, hw]⟩
    · exact ⟨.rune 0x2e [], .rune (Or.inl rfl), fun f env => by simp [scanFn, skipWs, hw]⟩
  · exact ⟨.rune 0 [], .rune (Or.inr rfl), fun f env => scanFn_nul hT.nul f env⟩

/-- a statement has just been yielded from an exhausted buffer: `Object` is the next to run -/
def AfterEmit (a : St) : Prop :=
  a.err = none ∧ (∃ y, a.stmts = [y]) ∧ (∃ x' s', a.stack = ⟨x', .object⟩ :: s') ∧ TinyInp a.inp ∧ a.inp ≠ []

/-- a `true` answer from an exhausted buffer has just emitted its one statement -/
def YB1 : NextRes → Prop
  | .yes a' => AfterEmit a'
  | _ => True

theorem tiny_reach (hT : TinyFail C) {cur : Option Frame} {st : St} {r : NextRes} (h : Reach C .eof cur st r) :
    TinyS C st.inp → st.err = none → st.stmts = [] → YB1 r := by
  induction h with
  | @done cur st r hi =>
    intro _ _ hst
    rcases iter_done_iff.1 hi with ⟨_, rfl⟩ | ⟨_, hne, _⟩ | ⟨_, _, _, rfl⟩ | ⟨_, _, _, _, _, _, rfl⟩
    · trivial
    · exact absurd hst hne
    · trivial
    · trivial
  | @step cur st c2 st2 r hi hr ih =>
    intro htiny herr hst
    obtain ⟨_, _, f, st1, hp, ⟨k, _, rfl, rfl⟩ | ⟨o, hsc', rfl, rfl⟩⟩ := iter_cont_iff.1 hi
    · rw [reach_err_no (by simp) hr]; trivial
    obtain ⟨_, _, h1⟩ := popFrame_iff.1 hp
    obtain ⟨a, ha, hsc⟩ := tinyS_arg hT (inp := st1.inp) (h1 ▸ htiny)
    have hres := tiny_step hT f.k f.x st1.env ha
    rw [← hsc, hsc'] at hres
    obtain ⟨hinp, hemit⟩ := hres
    cases hem : o.emit with
    | none =>
      exact ih (tinyS_of_inp (by simpa [applyOut] using hinp)) (by simp [applyOut, h1, herr])
        (by simp [applyOut, hem, h1, hst])
    | some y =>
      obtain ⟨hne, x', hcur⟩ := hemit y hem
      have := reach_yes (C := C) (by simp [applyOut, h1, herr] : (applyOut st1 o).err = none)
        (by simp [applyOut, hem] : (applyOut st1 o).stmts ≠ []) hr
      rw [this, hcur]
      refine ⟨by simp [pushCur, applyOut, h1, herr], ⟨y, by simp [pushCur, applyOut, hem, h1, hst]⟩,
        ⟨x', (applyOut st1 o).stack, by simp [pushCur]⟩, by simpa [pushCur, applyOut] using hinp, by simpa [pushCur, applyOut] using hne⟩

theorem afterEmit_no (hT : TinyFail C) {a : St} (h : AfterEmit a) :
    ∃ st', Reach C .eof none a.dropFirst (.no st') := by
  obtain ⟨herr, ⟨y, hy⟩, ⟨x', s', hstack⟩, hinp, hne⟩ := h
  have herr0 : a.dropFirst.err = none := herr
  have hst0 : a.dropFirst.stmts = [] := by simp [St.dropFirst, hy]
  have hstack0 : a.dropFirst.stack = ⟨x', .object⟩ :: s' := hstack
  obtain ⟨arg, harg, hsc⟩ := tinyS_arg hT (tinyS_of_inp (C := C) hinp)
  obtain ⟨k, hk⟩ := object_tiny hT x' a.dropFirst.env harg
  have : scanFn C .eof ⟨x', .object⟩ a.dropFirst.inp a.dropFirst.env = .err k := by
    show scanFn C .eof ⟨x', .object⟩ a.inp a.dropFirst.env = .err k
    rw [hsc]; exact hk
  exact ⟨_, reach_latch (k := k) (iter_err herr0 hst0 hstack0 this) rfl⟩

theorem runLoop_nil_of_no {e : End} {a st' : St} (h : Reach C e none a.dropFirst (.no st')) :
    ∀ m, (runLoop C e m a).1 = [] := by
  intro m
  cases m with
  | zero => rfl
  | succ m =>
    rcases next_of_reach h with h1 | h1 <;> rw [runLoop, h1]

theorem tiny_bound (hT : TinyFail C) (a : St) (htiny : TinyS C a.inp) (herr : a.err = none)
    (hst : a.dropFirst.stmts = []) : ∀ m, (runLoop C .eof m a).1.length ≤ 1 := by
  intro m
  cases m with
  | zero => simp [runLoop]
  | succ m =>
    unfold runLoop
    cases hn : next C .eof a with
    | panic => simp
    | outOfFuel => simp
    | no st' => simp
    | yes a' =>
      simp only []
      have hreach := reach_of_next hn nofun
      have hae : AfterEmit a' := tiny_reach hT hreach htiny herr hst
      obtain ⟨st', hno⟩ := afterEmit_no hT hae
      obtain ⟨_, ⟨y, hy⟩, _⟩ := hae
      rw [hy]; simp only []
      have := runLoop_nil_of_no hno m
      cases hr : runLoop C .eof m a' with
      | mk ss v => rw [hr] at this; simp only [] at this ⊢; subst this; simp

/-- from a `true` answer on, the run yields at most one statement -/
def Bound1 (C : Cfg) : NextRes → Prop
  | .yes a' => ∀ m, (runLoop C .eof m a').1.length ≤ 1
  | _ => True

theorem yb1_bound (hT : TinyFail C) {r : NextRes} (h : YB1 r) : Bound1 C r := by
  cases r with
  | yes a' =>
    obtain ⟨st', hno⟩ := afterEmit_no hT h
    intro m
    rw [runLoop_nil_of_no hno m]; simp
  | _ => trivial

theorem iter_cont_stmts {e : End} {cur : Option Frame} {a : St} {c2 : Option Frame} {a2 : St}
    (hi : iter C e cur a = .cont c2 a2) : a2.stmts.drop 1 = [] := by
  obtain ⟨_, hst, f, st1, hp, ⟨k, _, _, rfl⟩ | ⟨o, _, _, rfl⟩⟩ := iter_cont_iff.1 hi
  all_goals obtain ⟨_, _, rfl⟩ := popFrame_iff.1 hp
  · simp [hst]
  · cases hem : o.emit <;> simp [applyOut, hem, hst]

theorem next_split (hT : TinyFail C) {cur : Option Frame} {a : St} {r : NextRes} (h : Reach C .eof cur a r) :
    (∃ a', r = .yes a' ∧ LocalYes C cur a a') ∨ Bound1 C r := by
  induction h with
  | @done cur a r hi =>
    cases r with
    | yes a' => exact Or.inl ⟨a', rfl, .done hi⟩
    | _ => exact Or.inr trivial
  | @step cur a c2 a2 r hi hr ih =>
    obtain ⟨herr, hst, _⟩ := iter_cont_iff.1 hi
    by_cases he2 : a2.err = none
    · by_cases hend : skipWs C .eof false a.inp = .end_
      · exact Or.inr (yb1_bound hT (tiny_reach hT (.step hi hr) (Or.inl hend) herr hst))
      · by_cases hrem : Rem a2.inp
        · rcases ih with ⟨a', rfl, hl⟩ | hb
          · exact Or.inl ⟨a', rfl, .step hi he2 hend hrem hl⟩
          · exact Or.inr hb
        · right
          have htin : TinyInp a2.inp := by
            unfold Rem at hrem
            by_cases h1 : a2.inp = []
            · exact Or.inl h1
            · by_cases h2 : a2.inp = [0x2e]
              · exact Or.inr (Or.inl h2)
              · exact absurd ⟨h1, h2⟩ hrem
          by_cases hs2 : a2.stmts = []
          · exact yb1_bound hT (tiny_reach hT hr (tinyS_of_inp htin) he2 hs2)
          · rw [reach_yes he2 hs2 hr]
            show ∀ m, (runLoop C .eof m (pushCur c2 a2)).1.length ≤ 1
            have hd := iter_cont_stmts hi
            refine tiny_bound hT _ ?_ ?_ ?_
            · cases c2 <;> exact tinyS_of_inp htin
            · cases c2 <;> exact he2
            · cases c2 <;> exact hd
    · right
      rw [reach_err_no (by cases h : a2.err <;> simp_all) hr]
      trivial

/-- What a run yields is the lock-step part and at most two more: the statement of the scan call that exhausted the
    buffer and the one an exhausted buffer can still give (`tiny_bound`). -/
theorem prefix_bound (hT : TinyFail C) : ∀ (n : Nat) (a : St) (lp : List Stmt) (v : Verdict),
    runLoop C .eof n a = (lp, v) → v ≠ .outOfFuel →
    ∃ lc extra, lp = lc ++ extra ∧ Common C a lc ∧ extra.length ≤ 2 := by
  intro n
  induction n with
  | zero => intro a lp v h hv; simp [runLoop] at h; exact absurd h.2.symm hv
  | succ n ih =>
    intro a lp v h hv
    unfold runLoop at h
    cases hn : next C .eof a with
    | panic => rw [hn] at h; simp only [Prod.mk.injEq] at h; exact ⟨[], [], by simp [← h.1], .nil, by simp⟩
    | outOfFuel => rw [hn] at h; simp only [Prod.mk.injEq] at h; exact absurd h.2.symm hv
    | no st' => rw [hn] at h; simp only [Prod.mk.injEq] at h; exact ⟨[], [], by simp [← h.1], .nil, by simp⟩
    | yes a' =>
      rw [hn] at h; simp only [] at h
      have hreach := reach_of_next hn nofun
      cases hs : a'.stmts with
      | nil => rw [hs] at h; simp only [Prod.mk.injEq] at h; exact ⟨[], [], by simp [← h.1], .nil, by simp⟩
      | cons x rest =>
        rw [hs] at h; simp only [] at h
        cases hr : runLoop C .eof n a' with
        | mk ss v' =>
          rw [hr] at h; simp only [Prod.mk.injEq] at h
          obtain ⟨rfl, rfl⟩ := h
          rcases next_split hT hreach with ⟨a'', heq, hl⟩ | hb
          · injection heq with heq; subst heq
            obtain ⟨lc, extra, h1, h2, h3⟩ := ih a' ss v' hr hv
            exact ⟨x :: lc, extra, by simp [h1], .cons hl hs h2, h3⟩
          · have : ss.length ≤ 1 := by
              have := hb n; rw [hr] at this; exact this
            exact ⟨[], x :: ss, rfl, .nil, by simp; omega⟩

theorem dropLast2_prefix (lc extra : List Stmt) (h : extra.length ≤ 2) :
    (lc ++ extra).dropLast.dropLast <+: lc := by
  match extra, h with
  | [], _ =>
    simp only [List.append_nil]
    exact (List.dropLast_prefix _).trans (List.dropLast_prefix _)
  | [x], _ => rw [List.dropLast_concat]; exact List.dropLast_prefix _
  | [x, y], _ =>
    have : lc ++ [x, y] = (lc ++ [x]) ++ [y] := by simp
    rw [this, List.dropLast_concat, List.dropLast_concat]
    exact List.prefix_refl _
  | _ :: _ :: _ :: _, h => simp at h

theorem real_tinyFail (T : Ttl.Tables) (trig : Bool) (resolve : Option (List Nat) → List Nat → Option (List Nat))
    (isSpace : Nat → Bool) (h0 : inRanges T.pnCharsBase 0 = false) (hd : inRanges T.pnCharsBase 0x2e = false)
    (hs : isSpace 0 = false) :
    TinyFail { trig := trig, P := Producers.real T, resolve := resolve, isSpace := isSpace, pnBase := inRanges T.pnCharsBase } where
  nul := ⟨hs, h0⟩
  dotBase := hd
  iriref := by
    intro c hc
    rcases hc with rfl | rfl <;> exact ⟨.syntax, by simp [Producers.real, Ttl.produceIRIREF]⟩
  pname := by
    intro c hc
    rcases hc with rfl | rfl
    · exact ⟨.syntax, by simp [Producers.real, Ttl.producePrefixedName, Ttl.producePNAME_NS, hd]⟩
    · exact ⟨.syntax, by simp [Producers.real, Ttl.producePrefixedName, Ttl.producePNAME_NS, h0]⟩
  pnameNS := by
    intro c hc
    rcases hc with rfl | rfl
    · exact ⟨.syntax, by simp [Producers.real, Ttl.producePNAME_NS, hd]⟩
    · exact ⟨.syntax, by simp [Producers.real, Ttl.producePNAME_NS, h0]⟩
  bnode := by
    intro c hc
    rcases hc with rfl | rfl <;> exact ⟨.syntax, by simp [Producers.real, Ttl.produceBlankNode]⟩

end RdfModel.TtlDoc
