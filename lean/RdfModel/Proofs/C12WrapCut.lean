import RdfModel.Proofs.C12WrapBasic
namespace RdfModel.C12W
open RdfModel.GoUrlFull RdfModel.PIRI
open RdfModel.Spec.RFC3986 (queryPart)

def isSchemeByte (c : Nat) : Bool := isLowerC c || isUpperC c || isDigitC c || c == 0x2b || c == 0x2d || c == 0x2e

theorem getSchemeAux_scheme (whole rest : Str) : ∀ (tail : Str) (i : Nat), tail.all schemeTailByte = true → 0 < i →
    getSchemeAux whole (tail ++ 0x3a :: rest) i = some (whole.take (i + tail.length), rest)
  | [], i, _, hi => by
    have : i ≠ 0 := by omega
    simp [getSchemeAux, isLowerC, isUpperC, isDigitC, this]
  | c :: t, i, h, hi => by
    simp only [List.all_cons, Bool.and_eq_true] at h
    have ih := getSchemeAux_scheme whole rest t (i + 1) h.2 (by omega)
    have hlen : i + 1 + t.length = i + (c :: t).length := by simp; omega
    have hc := h.1
    unfold schemeTailByte at hc
    have hi0 : i ≠ 0 := by omega
    simp only [List.cons_append, getSchemeAux]
    by_cases h1 : (isLowerC c || isUpperC c) = true
    · simp [h1, ih, hlen]
    · have h2 : (isDigitC c || c == 0x2b || c == 0x2d || c == 0x2e) = true := by
        simp only [Bool.or_eq_true] at hc h1 ⊢
        rcases hc with ((((hc | hc) | hc) | hc) | hc)
        · exact absurd (Or.inl hc) h1
        · exact Or.inl (Or.inl (Or.inl hc))
        · exact Or.inl (Or.inl (Or.inr hc))
        · exact Or.inl (Or.inr hc)
        · exact Or.inr hc
      simp [h1, h2, hi0, ih, hlen]

theorem getScheme_scheme (sch rest : Str) (h : schemeOk sch = true) :
    getScheme (sch ++ 0x3a :: rest) = some (sch, rest) := by
  cases sch with
  | nil => simp [schemeOk] at h
  | cons c t =>
    simp only [schemeOk, Bool.and_eq_true] at h
    unfold getScheme
    simp only [List.cons_append, getSchemeAux, h.1, Bool.true_or, if_true]
    rw [getSchemeAux_scheme _ rest t 1 h.2 (by omega)]
    have : 1 + t.length = (c :: t).length := by simp; omega
    rw [this, ← List.cons_append, List.take_left']
    rfl

theorem getSchemeAux_none (whole : Str) : ∀ (l : Str) (i : Nat),
    (l.dropWhile isSchemeByte).head? ≠ some 0x3a → getSchemeAux whole l i = some ([], whole)
  | [], _, _ => by simp [getSchemeAux]
  | c :: l, i, h => by
    unfold getSchemeAux
    by_cases h1 : (isLowerC c || isUpperC c) = true
    · have hs : isSchemeByte c = true := by
        unfold isSchemeByte; simp only [Bool.or_eq_true] at h1 ⊢; rcases h1 with h1 | h1 <;> simp [h1]
      rw [List.dropWhile_cons_of_pos hs] at h
      simp [h1, getSchemeAux_none whole l (i + 1) h]
    · by_cases h2 : (isDigitC c || c == 0x2b || c == 0x2d || c == 0x2e) = true
      · have hs : isSchemeByte c = true := by
          unfold isSchemeByte; simp only [Bool.or_eq_true] at h2 ⊢
          rcases h2 with ((h2 | h2) | h2) | h2 <;> simp [h2]
        rw [List.dropWhile_cons_of_pos hs] at h
        by_cases hi : i = 0
        · simp [h1, h2, hi]
        · simp [h1, h2, hi, getSchemeAux_none whole l (i + 1) h]
      · have hs : isSchemeByte c = false := by
          unfold isSchemeByte
          simp only [Bool.or_eq_true, not_or, Bool.not_eq_true] at h1 h2
          simp [h1.1, h1.2, h2.1.1.1, h2.1.1.2, h2.1.2, h2.2]
        rw [List.dropWhile_cons_of_neg (by simp [hs])] at h
        simp only [List.head?_cons, ne_eq, Option.some.injEq] at h
        have : (c == 0x3a) = false := by simp [h]
        simp [h1, h2, this]

theorem getScheme_none (l : Str) (h : (l.dropWhile isSchemeByte).head? ≠ some 0x3a) :
    getScheme l = some ([], l) := getSchemeAux_none l l 0 h

/-- a rootless path without ':' in its first segment, or a path starting with '/', followed by an optional
    query, is not mistaken for `scheme:` -/
theorem noScheme_of_firstSeg : ∀ (l qp : Str), (qp = [] ∨ qp.head? = some 0x3f) →
    ((cut 0x2f l).1).contains 0x3a = false → ((l ++ qp).dropWhile isSchemeByte).head? ≠ some 0x3a
  | [], qp, hq, _ => by
    rcases hq with hq | hq
    · simp [hq]
    · cases qp with
      | nil => simp
      | cons c q =>
        simp only [List.head?_cons, Option.some.injEq] at hq
        subst hq
        rw [List.nil_append, List.dropWhile_cons_of_neg (by decide)]
        simp
  | c :: l, qp, hq, h => by
    by_cases hc : c = 0x2f
    · subst hc
      rw [List.cons_append, List.dropWhile_cons_of_neg (by decide)]
      simp
    · simp only [cut, hc, if_false, List.contains_cons, Bool.or_eq_false_iff] at h
      have ih := noScheme_of_firstSeg l qp hq h.2
      rw [List.cons_append]
      by_cases hs : isSchemeByte c = true
      · rw [List.dropWhile_cons_of_pos hs]; exact ih
      · rw [List.dropWhile_cons_of_neg hs]
        simp only [List.head?_cons, ne_eq, Option.some.injEq]
        intro e; subst e; simp at h

theorem countByte_append (c : Nat) (a b : Str) : countByte c (a ++ b) = countByte c a + countByte c b := by
  simp [countByte, List.filter_append]

theorem countByte_zero {c : Nat} {a : Str} (h : c ∉ a) : countByte c a = 0 := by
  simp only [countByte, List.length_eq_zero_iff, List.filter_eq_nil_iff, beq_iff_eq]
  intro x hx e; subst e; exact h hx

theorem countByte_pos {c : Nat} {a : Str} (h : c ∈ a) : 0 < countByte c a := by
  simp only [countByte]
  apply List.length_pos_of_mem (a := c)
  simp [List.mem_filter, h]

theorem queryCut_spec (stuff : Str) (Q : Option Str) (hs : 0x3f ∉ stuff) :
    queryCut (stuff ++ queryPart Q) = (stuff, Q == some [], Q.getD []) := by
  cases Q with
  | none =>
    have hl : ¬ (stuff.getLast? = some 0x3f) := fun e => hs (List.mem_of_getLast? e)
    simp [queryCut, queryPart, hl, cut_none _ _ hs]
  | some q =>
    cases q with
    | nil =>
      have hc : countByte 0x3f (stuff ++ [0x3f]) = 1 := by
        rw [countByte_append, countByte_zero hs]; rfl
      simp [queryCut, queryPart, RdfModel.Spec.RFC3986.cQuest, hc]
    | cons c q =>
      have hcond : ¬ ((stuff ++ 0x3f :: c :: q).getLast? = some 0x3f ∧ countByte 0x3f (stuff ++ 0x3f :: c :: q) = 1) := by
        rintro ⟨hl, hc⟩
        have hl' : (c :: q).getLast? = some 0x3f := by
          simpa [List.getLast?_append, List.getLast?_cons_cons] using hl
        have hm : 0x3f ∈ (c :: q) := List.mem_of_getLast? hl'
        have hp := countByte_pos hm
        have : countByte 0x3f (stuff ++ 0x3f :: c :: q) = 0 + (1 + countByte 0x3f (c :: q)) := by
          rw [countByte_append, countByte_zero hs]
          show _ + countByte 0x3f ([0x3f] ++ c :: q) = _
          rw [countByte_append]; rfl
        omega
      have hq : queryPart (some (c :: q)) = 0x3f :: c :: q := rfl
      rw [hq]
      have hb : (List.getLast? (stuff ++ 0x3f :: c :: q) == some 0x3f && countByte 0x3f (stuff ++ 0x3f :: c :: q) == 1) = false := by
        cases hx : (List.getLast? (stuff ++ 0x3f :: c :: q) == some 0x3f && countByte 0x3f (stuff ++ 0x3f :: c :: q) == 1) with
        | false => rfl
        | true =>
          simp only [Bool.and_eq_true, beq_iff_eq] at hx
          exact absurd hx hcond
      unfold queryCut
      rw [hb]
      simp [cut_append_sep _ _ _ hs]

/-- the path that follows the authority -/
def slashTail : Option (List Nat) → List Nat
  | some t => 0x2f :: t
  | none => []

theorem authCut_cons (x : Nat) (xs : List Nat) :
    authCut (x :: xs) = if x = 0x2f then ([], x :: xs) else (x :: (authCut xs).1, (authCut xs).2) := by
  unfold authCut
  by_cases h : x = 0x2f
  · simp [indexOf, h]
  · simp only [indexOf, h, if_false]
    cases indexOf 0x2f xs <;> simp

theorem authCut_eq (a : List Nat) :
    authCut a = ((cut 0x2f a).1, slashTail (cut 0x2f a).2) := by
  induction a with
  | nil => simp [authCut, indexOf, cut, slashTail]
  | cons x xs ih =>
    rw [authCut_cons]
    by_cases h : x = 0x2f
    · simp [h, cut, slashTail]
    · simp [h, cut, ih]

theorem authCut_spec (a path : Str) (ha : 0x2f ∉ a) (hp : path = [] ∨ path.head? = some 0x2f) :
    authCut (a ++ path) = (a, path) := by
  rw [authCut_eq]
  match path, hp with
  | [], _ => simp [cut_none _ _ ha, slashTail]
  | c :: p, .inr h => cases h; simp [cut_append_sep _ _ _ ha, slashTail]

end RdfModel.C12W
