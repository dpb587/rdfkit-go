/-
  The invariants of the three mutually recursive writers of the Turtle encoder's nested-resource mode (`TtlEnc.write`:
  putResourceStatements / writeResourceStatement / writeResourceList), `PutInv` / `StmtInv` / `ListInv`: what a writer
  returns is the printed form (`TA.pObj` / `TA.pPOs`, layout = the encoder's tabs and line feeds) of an abstract syntax
  tree that is well-formed for C08's theorem and denotes the flattening of a deep permutation of the tree (fresh blank
  nodes numbered in document order).  The induction over the fuel is `write_inv` (Proofs/C02DocNestInd.lean).
-/
import RdfModel.Proofs.C02DocNestDen
namespace RdfModel.Proofs.C02Doc
open RdfModel RdfModel.Ttl RdfModel.TtlEnc RdfModel.C02 RdfModel.Desc RdfModel.Spec.TtlPrint

variable {T : Tables} {β : Type} [DecidableEq β] {C : TtlDoc.Cfg} {c : Ctx β} {base : Option (List Nat)}

/-- pointwise relation between two lists (core has no `Forall₂`) -/
inductive All2 {α γ : Type} (Q : α → γ → Prop) : List α → List γ → Prop
  | nil : All2 Q [] []
  | cons {a : α} {b : γ} {l : List α} {l' : List γ} : Q a b → All2 Q l l' → All2 Q (a :: l) (b :: l')

omit [DecidableEq β] in
theorem stmtDepth_le_of_mem {s : Stmt β} : ∀ {l : List (Stmt β)}, s ∈ l → stmtDepth s ≤ stmtsDepth l
  | [], h => by cases h
  | x :: l, h => by
    simp only [stmtsDepth]
    rcases List.mem_cons.1 h with rfl | h
    · exact Nat.le_max_left _ _
    · exact Nat.le_trans (stmtDepth_le_of_mem h) (Nat.le_max_right _ _)

omit [DecidableEq β] in
theorem stmtsDepth_le_of_forall {l : List (Stmt β)} {d : Nat} (h : ∀ s ∈ l, stmtDepth s ≤ d) : stmtsDepth l ≤ d := by
  induction l with
  | nil => simp [stmtsDepth]
  | cons x l ih =>
    simp only [stmtsDepth]
    exact Nat.max_le.2 ⟨h x List.mem_cons_self, ih (fun s hs => h s (List.mem_cons_of_mem _ hs))⟩

omit [DecidableEq β] in
theorem stmtOK_pred {s : Stmt β} (h : StmtOK c base s) : iriTermOK c base (stmtPred s) := by
  cases s with
  | obj p o =>
    have h' : iriTermOK c base p ∧ objectOK c base o := by simpa [StmtOK] using h
    exact h'.1
  | anon p l =>
    have h' : iriTermOK c base p ∧ StmtsOK c base l := by simpa [StmtOK] using h
    exact h'.1

omit [DecidableEq β] in
theorem mem_withPred {p : List Nat} {l : List (Stmt β)} {s : Stmt β} : s ∈ withPred p l ↔ s ∈ l ∧ stmtPred s = p := by
  simp [withPred, List.mem_filter]

omit [DecidableEq β] in
theorem withPred_regroup (ps : List (List Nat)) (l : List (Stmt β)) (hnd : ps.Nodup) (hall : ∀ s ∈ l, stmtPred s ∈ ps) :
    (ps.flatMap (fun p => withPred p l)).Perm l := by
  have h := regroup_perm ps (l.map (fun s => (stmtPred s, s))) hnd (by
    intro po hpo
    obtain ⟨s, hs, rfl⟩ := List.mem_map.1 hpo
    exact hall s hs)
  have h2 := h.map Prod.snd
  simp only [List.map_flatMap, List.map_map, Function.comp_def, List.map_id'] at h2
  have e : ∀ p, List.map (fun po : List Nat × Stmt β => po.2)
      (List.filter (fun po => po.1 == p) (List.map (fun s => (stmtPred s, s)) l)) = withPred p l := by
    intro p
    simp [List.filter_map, Function.comp_def, withPred]
  simpa [e] using h2

omit [DecidableEq β] in
theorem dp_of_all2 : ∀ {a a' : List (Stmt β)}, All2 (fun s s' => DP [s] [s']) a a' → DP a a'
  | _, _, .nil => .nil
  | _, _, .cons h t => DP.append (a := [_]) (a' := [_]) h (dp_of_all2 t)

omit [DecidableEq β] in
theorem dp_flatMap {α γ : Type} (f : α → List (Stmt β)) (g : γ → List (Stmt β)) :
    ∀ {ps : List α} {gs : List γ}, All2 (fun p w => DP (f p) (g w)) ps gs → DP (ps.flatMap f) (gs.flatMap g)
  | _, _, .nil => .nil
  | _, _, .cons h t => by
    simp only [List.flatMap_cons]
    exact DP.append h (dp_flatMap f g t)

theorem mapOR_wit {α γ W : Type} {f : α → OR γ} (g : W → γ) {Q : α → W → Prop} : ∀ (l : List α),
    (∀ a ∈ l, ∃ w, f a = OR.ok (g w) ∧ Q a w) → ∃ ws : List W, mapOR f l = OR.ok (ws.map g) ∧ All2 Q l ws
  | [], _ => ⟨[], rfl, .nil⟩
  | a :: l, h => by
    obtain ⟨w, hw, hq⟩ := h a List.mem_cons_self
    obtain ⟨ws, hws, hqs⟩ := mapOR_wit g l (fun x hx => h x (List.mem_cons_of_mem _ hx))
    refine ⟨w :: ws, ?_, .cons hq hqs⟩
    simp only [mapOR, hw, hws, OR.bind, OR.ok, List.map_cons]

theorem all2_mem_right {α γ : Type} {Q : α → γ → Prop} : ∀ {l : List α} {ws : List γ}, All2 Q l ws →
    ∀ w ∈ ws, ∃ a ∈ l, Q a w
  | _, _, .nil, w, hw => by cases hw
  | _, _, .cons h t, w, hw => by
    rcases List.mem_cons.1 hw with rfl | hw
    · exact ⟨_, List.mem_cons_self, h⟩
    · obtain ⟨a, ha, hq⟩ := all2_mem_right t w hw
      exact ⟨a, List.mem_cons_of_mem _ ha, hq⟩

theorem all2_ne_nil {α γ : Type} {Q : α → γ → Prop} {l : List α} {ws : List γ} (h : All2 Q l ws)
    (hl : l ≠ []) : ws ≠ [] := by
  cases h with
  | nil => exact absurd rfl hl
  | cons _ _ => simp

def cellDecide (ty fi re ot : List (Stmt β)) : Cell β :=
  let typeOK : Bool :=
    match ty with
    | [] => true
    | [.obj _ o] => false && decide (o = Term.iri rdfList)
    | _ => false
  if !ot.isEmpty || !typeOK then .notList
  else match fi, re with
    | [f], [.obj _ o] => if o = Term.iri Desc.rdfNil then .last f else .notList
    | [f], [.anon _ sub] => .more f sub
    | _, _ => .notList

theorem listCellOf_eq (l : List (Stmt β)) :
    listCellOf false l = cellDecide (withPred TtlEnc.rdfType l) (withPred Desc.rdfFirst l) (withPred Desc.rdfRest l)
      (l.filter (fun s => stmtPred s != TtlEnc.rdfType && stmtPred s != Desc.rdfFirst && stmtPred s != Desc.rdfRest)) := rfl

theorem cellDecide_spec (ty fi re ot : List (Stmt β)) (cl : Cell β) (h : cellDecide ty fi re ot = cl) :
    (∀ f, cl = .last f → ty = [] ∧ ot = [] ∧ fi = [f] ∧ ∃ p, re = [.obj p (.iri Desc.rdfNil)]) ∧
    (∀ f sub, cl = .more f sub → ty = [] ∧ ot = [] ∧ fi = [f] ∧ ∃ p, re = [.anon p sub]) := by
  subst h
  unfold cellDecide
  rcases ot with _ | ⟨o1, ot⟩
  · rcases ty with _ | ⟨t1, ty⟩
    · rcases fi with _ | ⟨f1, _ | ⟨f2, fi⟩⟩
      · refine ⟨fun f h => ?_, fun f sub h => ?_⟩ <;> simp at h
      · rcases re with _ | ⟨r1, _ | ⟨r2, re⟩⟩
        · refine ⟨fun f h => ?_, fun f sub h => ?_⟩ <;> simp at h
        · cases r1 with
          | obj p o =>
            by_cases ho : o = Term.iri Desc.rdfNil
            · subst ho
              refine ⟨fun f h => ?_, fun f sub h => ?_⟩
              · simp at h
                subst h
                exact ⟨rfl, rfl, rfl, p, rfl⟩
              · simp at h
            · refine ⟨fun f h => ?_, fun f sub h => ?_⟩ <;> simp [ho] at h
          | anon p sub =>
            refine ⟨fun f h => ?_, fun f sub' h => ?_⟩
            · simp at h
            · simp at h
              obtain ⟨h1, h2⟩ := h
              subst h1 h2
              exact ⟨rfl, rfl, rfl, p, rfl⟩
        · refine ⟨fun f h => ?_, fun f sub h => ?_⟩ <;> simp at h
      · refine ⟨fun f h => ?_, fun f sub h => ?_⟩ <;> simp at h
    · rcases ty with _ | ⟨t2, ty⟩
      · cases t1 <;> (refine ⟨fun f h => ?_, fun f sub h => ?_⟩ <;> simp at h)
      · refine ⟨fun f h => ?_, fun f sub h => ?_⟩ <;> simp at h
  · refine ⟨fun f h => ?_, fun f sub h => ?_⟩ <;> simp at h

omit [DecidableEq β] in
theorem listCell_perm (l : List (Stmt β)) (f r : Stmt β)
    (ho : l.filter (fun s => stmtPred s != TtlEnc.rdfType && stmtPred s != Desc.rdfFirst && stmtPred s != Desc.rdfRest) = [])
    (ht : withPred TtlEnc.rdfType l = []) (hf : withPred Desc.rdfFirst l = [f]) (hr : withPred Desc.rdfRest l = [r]) :
    l.Perm [f, r] ∧ stmtPred f = Desc.rdfFirst ∧ stmtPred r = Desc.rdfRest := by
  have hall : ∀ s ∈ l, stmtPred s ∈ [TtlEnc.rdfType, Desc.rdfFirst, Desc.rdfRest] := by
    intro s hs
    have hn : s ∉ l.filter (fun s => stmtPred s != TtlEnc.rdfType && stmtPred s != Desc.rdfFirst &&
        stmtPred s != Desc.rdfRest) := by
      rw [ho]; simp
    simp only [List.mem_cons, List.mem_nil_iff, or_false]
    by_cases h1 : stmtPred s = TtlEnc.rdfType
    · exact Or.inl h1
    · by_cases h2 : stmtPred s = Desc.rdfFirst
      · exact Or.inr (Or.inl h2)
      · by_cases h3 : stmtPred s = Desc.rdfRest
        · exact Or.inr (Or.inr h3)
        · exact absurd (List.mem_filter.2 ⟨hs, by simp [h1, h2, h3]⟩) hn
  have hnd : [TtlEnc.rdfType, Desc.rdfFirst, Desc.rdfRest].Nodup := by
    have h1 : TtlEnc.rdfType ≠ Desc.rdfFirst := asc_ne (by decide)
    have h2 : TtlEnc.rdfType ≠ Desc.rdfRest := asc_ne (by decide)
    have h3 : Desc.rdfFirst ≠ Desc.rdfRest := asc_ne (by decide)
    simp [h1, h2, h3]
  have hp := withPred_regroup [TtlEnc.rdfType, Desc.rdfFirst, Desc.rdfRest] l hnd hall
  simp only [List.flatMap_cons, List.flatMap_nil, ht, hf, hr, List.nil_append, List.append_nil,
    List.cons_append] at hp
  refine ⟨hp.symm, ?_, ?_⟩
  · exact (mem_withPred.1 (by rw [hf]; exact List.mem_cons_self)).2
  · exact (mem_withPred.1 (by rw [hr]; exact List.mem_cons_self)).2

theorem listCellOf_spec (l : List (Stmt β)) :
    (∀ f, listCellOf false l = .last f →
      l.Perm [f, .obj Desc.rdfRest (.iri Desc.rdfNil)] ∧ stmtPred f = Desc.rdfFirst) ∧
    (∀ f sub, listCellOf false l = .more f sub →
      l.Perm [f, .anon Desc.rdfRest sub] ∧ stmtPred f = Desc.rdfFirst) := by
  obtain ⟨k1, k2⟩ := cellDecide_spec _ _ _ _ _ (listCellOf_eq l).symm
  constructor
  · intro f h
    obtain ⟨ht, ho, hf, p, hr⟩ := k1 f h
    obtain ⟨hp, h1, h2⟩ := listCell_perm l _ _ ho ht hf hr
    simp only [stmtPred] at h2
    rw [h2] at hp
    exact ⟨hp, h1⟩
  · intro f sub h
    obtain ⟨ht, ho, hf, p, hr⟩ := k2 f sub h
    obtain ⟨hp, h1, h2⟩ := listCell_perm l _ _ ho ht hf hr
    simp only [stmtPred] at h2
    rw [h2] at hp
    exact ⟨hp, h1⟩

/-- enough fuel: `listSyntaxAux` never runs out with `stmtsDepth + 1` -/
theorem listSyntax_fuel : ∀ (fuel : Nat) (sub : List (Stmt β)), stmtsDepth sub < fuel →
    listSyntaxAux false fuel sub ≠ none
  | 0, _, h => by cases h
  | fuel + 1, sub, h => by
    unfold listSyntaxAux
    split
    · simp
    · simp
    · next f sub2 hc =>
      have hmem : ∃ pr, Stmt.anon pr sub2 ∈ sub := by
        have := ((listCellOf_spec sub).2 f sub2 hc).1
        exact ⟨_, this.mem_iff.2 (List.mem_cons_of_mem _ List.mem_cons_self)⟩
      obtain ⟨pr, hm⟩ := hmem
      have hd := stmtDepth_le_of_mem hm
      simp only [stmtDepth] at hd
      have := listSyntax_fuel fuel sub2 (by omega)
      split
      · next h0 => exact absurd h0 this
      · simp
      · simp

theorem all2_cons_left {α γ : Type} {Q : α → γ → Prop} {a : α} {l : List α} {ws : List γ}
    (h : All2 Q (a :: l) ws) : ∃ w ws', ws = w :: ws' ∧ Q a w ∧ All2 Q l ws' := by
  cases h with
  | cons h t => exact ⟨_, _, rfl, h, t⟩

theorem listSyntax_chain : ∀ (fuel : Nat) (sub es : List (Stmt β)), listSyntaxAux false fuel sub = some (some es) →
    es ≠ [] ∧ (∀ e ∈ es, stmtPred e = Desc.rdfFirst) ∧ (∀ e ∈ es, stmtDepth e ≤ stmtsDepth sub) ∧
    (StmtsOK c base sub → ∀ e ∈ es, StmtOK c base e) ∧
    (∀ es', All2 (fun e e' => DP [e] [e']) es es' → DP sub (chain es'))
  | 0, _, _, h => by simp [listSyntaxAux] at h
  | fuel + 1, sub, es, h => by
    unfold listSyntaxAux at h
    split at h
    · cases h
    · next f hc =>
      injection h with h
      injection h with h
      subst h
      obtain ⟨hp, hf⟩ := (listCellOf_spec sub).1 f hc
      have hfm : f ∈ sub := hp.mem_iff.2 List.mem_cons_self
      refine ⟨by simp, ?_, ?_, ?_, ?_⟩
      · intro e he; simp only [List.mem_singleton] at he; subst he; exact hf
      · intro e he; simp only [List.mem_singleton] at he; subst he; exact stmtDepth_le_of_mem hfm
      · intro hok e he
        simp only [List.mem_singleton] at he; subst he
        exact (stmtsOK_iff c base sub).1 hok _ hfm
      · intro es' hes
        obtain ⟨f', es2, rfl, hff, hnil⟩ := all2_cons_left hes
        cases hnil
        exact .trans (DP.of_perm hp) (DP.append (a := [f]) (a' := [f']) hff (DP.refl _))
    · next f sub2 hc =>
      obtain ⟨hp, hf⟩ := (listCellOf_spec sub).2 f sub2 hc
      have hfm : f ∈ sub := hp.mem_iff.2 List.mem_cons_self
      have ham : Stmt.anon Desc.rdfRest sub2 ∈ sub := hp.mem_iff.2 (List.mem_cons_of_mem _ List.mem_cons_self)
      have hd2 : stmtsDepth sub2 + 1 ≤ stmtsDepth sub := by
        have := stmtDepth_le_of_mem ham
        simpa [stmtDepth] using this
      split at h
      · cases h
      · cases h
      · next es2 h2 =>
        injection h with h
        injection h with h
        subst h
        obtain ⟨hne, hpred, hdep, hok, hdp⟩ := listSyntax_chain fuel sub2 es2 h2
        refine ⟨by simp, ?_, ?_, ?_, ?_⟩
        · intro e he
          rcases List.mem_cons.1 he with rfl | he
          · exact hf
          · exact hpred e he
        · intro e he
          rcases List.mem_cons.1 he with rfl | he
          · exact stmtDepth_le_of_mem hfm
          · exact Nat.le_trans (hdep e he) (by omega)
        · intro hsub e he
          rcases List.mem_cons.1 he with rfl | he
          · exact (stmtsOK_iff c base sub).1 hsub _ hfm
          · have := (stmtsOK_iff c base sub).1 hsub _ ham
            exact hok (by simpa [StmtOK] using this.2) e he
        · intro es' hes
          obtain ⟨f', es2', rfl, hff, htl⟩ := all2_cons_left hes
          have hne2 : es2' ≠ [] := all2_ne_nil htl hne
          have hch : chain (f' :: es2') = [f', .anon Desc.rdfRest (chain es2')] := by
            cases es2' with
            | nil => exact absurd rfl hne2
            | cons _ _ => rfl
          rw [hch]
          refine .trans (DP.of_perm hp) ?_
          exact DP.append (a := [f]) (a' := [f']) hff (.anon Desc.rdfRest (hdp es2' htl) .nil)

def SItem.piece (w : SItem β) : Piece := ⟨w.text, w.multi, w.used⟩

/-- what `write … (.stmt ind s)` returns -/
def StmtInv (T : Tables) (C : TtlDoc.Cfg) (c : Ctx β) (base : Option (List Nat)) (s : Stmt β) (w : SItem β) : Prop :=
  ObjSyn T w.x w.sl w.text ∧ DP [s] [w.s'] ∧ stmtPred w.s' = stmtPred s ∧ ObjDen C c base w.x w.s' w.used

/-- what `write … (.put ind l)` returns: `ld` is the white space before the first predicate -/
def PutInv (T : Tables) (C : TtlDoc.Cfg) (c : Ctx β) (base : Option (List Nat)) (l : List (Stmt β)) (r : Piece) : Prop :=
  ∃ (pos : List TA.PO) (sl : List Nat → List TA.Slot) (ld body : List Nat) (l' : List (Stmt β)),
    r.text = ld ++ body ∧ WS ld ∧ ld ≠ [] ∧ POsSyn T pos sl body ∧ DP l l' ∧ POsDen C c base pos l' r.used

/-- what `write … (.list ind es)` returns -/
def ListInv (T : Tables) (C : TtlDoc.Cfg) (c : Ctx β) (base : Option (List Nat)) (ind : Nat) (es : List (Stmt β))
    (r : Piece) : Prop :=
  ∃ ws : List (SItem β), All2 (StmtInv T C c base) es ws ∧
    r = ⟨0x28 :: ((nl :: tabs (ind + 1)) ++ itemsBody (nl :: tabs (ind + 1)) (nl :: tabs ind) ws ++ [0x29]),
         true, ws.flatMap (·.used)⟩

def GW.piece (ld : List Nat) (g : GW β) : Piece := ⟨ld ++ g.body, g.multi, g.used⟩

omit [DecidableEq β] in
theorem objDen_of_simple {x : TA.Obj} {p : List Nat} {o : Term β} {used : List (List Nat)}
    (h : ∀ (D : List Nat → Prop) (st : TA.DState), StOK base c.pm D st → (∀ l ∈ used, D l) →
      TA.dObj C.resolve none st x = some (o.map (fun b => TA.B.lbl (c.label b)), [], st)) :
    ObjDen C c base x (.obj p o) used := by
  intro D st hst hD sN
  refine ⟨o.map (fun b => TA.B.lbl (c.label b)), [], ?_, ?_⟩
  · rw [h D st hst hD]
    cases st
    rfl
  · simp only [Stmt.newTriples, List.map_cons, List.map_nil, stmtPred, Triple.map, map_orig_sig]
    exact List.Perm.refl _


theorem all2_map_right {α γ δ : Type} {Q : α → γ → Prop} {Q' : α → δ → Prop} (f : γ → δ)
    (h : ∀ a w, Q a w → Q' a (f w)) : ∀ {l : List α} {ws : List γ}, All2 Q l ws → All2 Q' l (ws.map f)
  | _, _, .nil => .nil
  | _, _, .cons hq t => .cons (h _ _ hq) (all2_map_right f h t)

theorem all2_mem_left {α γ : Type} {Q : α → γ → Prop} : ∀ {l : List α} {ws : List γ}, All2 Q l ws →
    ∀ a ∈ l, ∃ w ∈ ws, Q a w
  | _, _, .nil, a, ha => by cases ha
  | _, _, .cons h t, a, ha => by
    rcases List.mem_cons.1 ha with rfl | ha
    · exact ⟨_, List.mem_cons_self, h⟩
    · obtain ⟨w, hw, hq⟩ := all2_mem_left t a ha
      exact ⟨w, List.mem_cons_of_mem _ hw, hq⟩

theorem bind_mapOR_step {α γ δ W W' : Type} {f : α → OR γ} {k : List γ → OR δ} (g : W → γ) (g' : W' → δ)
    {Q : α → W → Prop} {P : W' → Prop} (l : List α) (h1 : ∀ a ∈ l, ∃ w, f a = OR.ok (g w) ∧ Q a w)
    (h2 : ∀ ws, All2 Q l ws → ∃ w', k (ws.map g) = OR.ok (g' w') ∧ P w') :
    ∃ w', (mapOR f l).bind k = OR.ok (g' w') ∧ P w' := by
  obtain ⟨ws, hws, hall⟩ := mapOR_wit g l h1
  obtain ⟨w', hk, hp⟩ := h2 ws hall
  refine ⟨w', ?_, hp⟩
  rw [hws]
  exact hk

omit [DecidableEq β] in
theorem anon_den (p : List Nat) : ObjDen C c base .anon (.anon p []) [] := by
  intro D st _ _ sN
  refine ⟨.bnode (.anon st.next), [], rfl, ?_⟩
  simp only [Stmt.newTriples, stmtsNewTriples, List.nil_append, List.map_cons, List.map_nil, stmtPred]
  exact List.Perm.refl _

omit [DecidableEq β] in
theorem bnpl_den (pos : List TA.PO) (l' : List (Stmt β)) (used : List (List Nat)) (p : List Nat)
    (h : POsDen C c base pos l' used) : ObjDen C c base (.bnpl pos) (.anon p l') used := by
  intro D st hst hD sN
  obtain ⟨ts, h1, hp1⟩ := h D { st with next := st.next + 1 } (hst.next _) hD (.bnode (.fresh st.next))
  refine ⟨.bnode (.anon st.next), ts, ?_, ?_⟩
  · simp only [TA.dObj, TA.DState.fresh]
    have e : (Term.bnode (Desc.BN.fresh st.next) : Term (Desc.BN β)).map (sig c.label) = .bnode (.anon st.next) := rfl
    rw [e] at h1
    rw [h1]
    rfl
  · simp only [Stmt.newTriples, List.map_append, List.map_cons, List.map_nil, stmtPred]
    exact (List.Perm.cons _ hp1).trans (List.perm_append_singleton _ _).symm

omit [DecidableEq β] in
theorem coll_den (os : List (SItem β)) (hne : os ≠ []) (p : List Nat)
    (h : ∀ o ∈ os, ObjDen C c base o.x o.s' o.used ∧ stmtPred o.s' = Desc.rdfFirst) :
    ObjDen C c base (.coll (os.map (·.x))) (.anon p (chain (os.map (·.s')))) (os.flatMap (·.used)) := by
  intro D st hst hD sN
  obtain ⟨ts, h1, hp1⟩ := items_den os hne h D { st with next := st.next + 1 } (hst.next _)
    (fun o ho l hl => hD l (List.mem_flatMap.2 ⟨o, ho, hl⟩)) st.next
  refine ⟨.bnode (.anon st.next), ts, ?_, ?_⟩
  · obtain ⟨o, os', rfl⟩ := List.exists_cons_of_ne_nil hne
    simp only [List.map_cons] at h1 ⊢
    simp only [TA.dObj, TA.DState.fresh, h1]
    rfl
  · simp only [Stmt.newTriples, List.map_append, List.map_cons, List.map_nil, stmtPred]
    exact (List.Perm.cons _ hp1).trans (List.perm_append_singleton _ _).symm

end RdfModel.Proofs.C02Doc
