/-
  The header `newEncoder` / `Close` write (`TtlEnc.header`: `@base` / `BASE` /
  `@prefix` / `PREFIX` lines and the empty line) as printed directive blocks of an abstract document, and
  the state they take `TA.denote` into: `HdrOK` for every configuration.
-/
import RdfModel.Proofs.C02DocNestTop
namespace RdfModel.Proofs.C02Doc
open RdfModel RdfModel.Ttl RdfModel.TtlEnc RdfModel.C02 RdfModel.Desc RdfModel.Spec.TtlPrint

variable {T : Tables} {C : TtlDoc.Cfg}

def dirSl (t : List Nat) : TA.Dir → List TA.Slot
  | .baseAt _ => [tokSlot [] [sp], tokSlot [] [sp], tokSlot [] t]
  | .baseKw _ => [tokSlot [] [sp], tokSlot [] t]
  | .prefixAt _ _ => [tokSlot [] [sp], tokSlot [] [sp], tokSlot [] [sp], tokSlot [] t]
  | .prefixKw _ _ => [tokSlot [] [sp], tokSlot [] [sp], tokSlot [] t]

def dirIri : TA.Dir → List Nat
  | .baseAt r | .baseKw r | .prefixAt _ r | .prefixKw _ r => r

theorem tokSlot_cs (cs : List Choice) (t : List Nat) : (tokSlot cs t).cs = cs := rfl

def dirItem (d : TA.Dir) (t : List Nat) : BItem := ⟨.dir d, dirSl t d, dirBody d ++ t⟩

theorem noGlue_toks : ∀ (l : List (List Nat)), noGlue (l.map (tokSlot []))
  | [] => noGlue_nil
  | _ :: l => noGlue_cons.2 ⟨rfl, noGlue_toks l⟩

theorem dir_syn (d : TA.Dir) (hwf : C08.dirWf T d = true) (hiri : iriOK (dirIri d) = true) (t : List Nat)
    (ht : WS t) (htn : t ≠ []) : BSyn T (dirItem d t) where
  wf := by simpa [dirItem, C08.blockWf] using hwf
  nb := rfl
  len := by cases d <;> rfl
  ng := by
    cases d
    · exact noGlue_toks [[sp], [sp], [sp], t]
    · exact noGlue_toks [[sp], [sp], t]
    · exact noGlue_toks [[sp], [sp], t]
    · exact noGlue_toks [[sp], t]
  pr := by
    intro ch i rest hag
    have hraw := print_raw_iri (dirIri d) (rawOK_of_iriOK hiri)
    have hsp := ws_sp
    cases d with
    | prefixAt p r =>
      simp only [dirItem, dirSl] at hag
      obtain ⟨h0, hag⟩ := agree_cons.1 hag
      obtain ⟨h1, hag⟩ := agree_cons.1 hag
      obtain ⟨h2, hag⟩ := agree_cons.1 hag
      obtain ⟨h3, _⟩ := agree_cons.1 hag
      simp only [dirIri] at hraw
      simp only [dirItem, TA.pBlock, TA.pDir, TA.pNs, TA.pIriRef, TA.pPunct, h0, h1, h2, h3, after_tok _ _ [sp] hsp.1 hsp.2,
        after_tok _ _ t ht htn, printIRIREF, tokSlot_cs, hraw, dirBody]
      simp
    | baseAt r =>
      simp only [dirItem, dirSl] at hag
      obtain ⟨h0, hag⟩ := agree_cons.1 hag
      obtain ⟨h1, hag⟩ := agree_cons.1 hag
      obtain ⟨h2, _⟩ := agree_cons.1 hag
      simp only [dirIri] at hraw
      simp only [dirItem, TA.pBlock, TA.pDir, TA.pIriRef, TA.pPunct, h0, h1, h2, after_tok _ _ [sp] hsp.1 hsp.2,
        after_tok _ _ t ht htn, printIRIREF, tokSlot_cs, hraw, dirBody]
      simp
    | prefixKw p r =>
      simp only [dirItem, dirSl] at hag
      obtain ⟨h0, hag⟩ := agree_cons.1 hag
      obtain ⟨h1, hag⟩ := agree_cons.1 hag
      obtain ⟨h2, _⟩ := agree_cons.1 hag
      simp only [dirIri] at hraw
      have hk : TA.kwCase (tokSlot [] [sp]).n (asc "PREFIX") = asc "PREFIX" := by decide
      simp only [dirItem, TA.pBlock, TA.pDir, TA.pNs, TA.pIriRef, h0, h1, h2, hk, after_tok _ _ [sp] hsp.1 hsp.2,
        after_tok _ _ t ht htn, afterKw_ws false (tokSlot [] [sp]) [sp] hsp.1 hsp.2 rfl rfl, printIRIREF, tokSlot_cs, hraw, dirBody]
      simp
    | baseKw r =>
      simp only [dirItem, dirSl] at hag
      obtain ⟨h0, hag⟩ := agree_cons.1 hag
      obtain ⟨h1, _⟩ := agree_cons.1 hag
      simp only [dirIri] at hraw
      have hk : TA.kwCase (tokSlot [] [sp]).n (asc "BASE") = asc "BASE" := by decide
      simp only [dirItem, TA.pBlock, TA.pDir, TA.pIriRef, h0, h1, hk, after_tok _ _ t ht htn,
        afterKw_ws true (tokSlot [] [sp]) [sp] hsp.1 hsp.2 rfl rfl, printIRIREF, tokSlot_cs, hraw, dirBody]
      simp

/-- the directive blocks of a header: the last one is followed by the empty line -/
def dirItems : List TA.Dir → List BItem
  | [] => []
  | [d] => [dirItem d [nl, nl]]
  | d :: d2 :: ds => dirItem d [nl] :: dirItems (d2 :: ds)

theorem dirItems_b : ∀ (ds : List TA.Dir), (dirItems ds).map (·.b) = ds.map TA.Block.dir
  | [] => rfl
  | [_] => rfl
  | d :: d2 :: ds => by
    have := dirItems_b (d2 :: ds)
    simp only [dirItems, List.map_cons] at this ⊢
    rw [this]
    rfl

theorem ws_nl : WS [nl] ∧ [nl] ≠ [] := ws_nltabs 0

theorem ws_nlnl : WS [nl, nl] ∧ [nl, nl] ≠ [] := by
  refine ⟨?_, by simp⟩
  intro c hc
  simp only [List.mem_cons, List.mem_nil_iff, or_false, or_self] at hc
  exact Or.inr (Or.inr hc)

theorem dirItems_syn : ∀ (ds : List TA.Dir), (∀ d ∈ ds, C08.dirWf T d = true ∧ iriOK (dirIri d) = true) →
    ∀ x ∈ dirItems ds, BSyn T x
  | [], _, x, hx => by cases hx
  | [d], h, x, hx => by
    simp only [dirItems, List.mem_singleton] at hx
    subst hx
    exact dir_syn d (h d List.mem_cons_self).1 (h d List.mem_cons_self).2 _ ws_nlnl.1 ws_nlnl.2
  | d :: d2 :: ds, h, x, hx => by
    simp only [dirItems, List.mem_cons] at hx
    rcases hx with rfl | hx
    · exact dir_syn d (h d List.mem_cons_self).1 (h d List.mem_cons_self).2 _ ws_nl.1 ws_nl.2
    · exact dirItems_syn (d2 :: ds) (fun y hy => h y (List.mem_cons_of_mem _ hy)) x (by simpa [dirItems] using hx)

theorem dirItems_text : ∀ (ds : List TA.Dir), (dirItems ds).flatMap (·.text) =
    (if (ds.flatMap (fun d => dirBody d ++ [nl])).isEmpty then [] else ds.flatMap (fun d => dirBody d ++ [nl]) ++ [nl])
  | [] => rfl
  | [d] => by simp [dirItems, dirItem]
  | d :: d2 :: ds => by
    have ih := dirItems_text (d2 :: ds)
    have hne : ((d2 :: ds).flatMap (fun d => dirBody d ++ [nl])).isEmpty = false := by simp
    rw [hne] at ih
    simp only [Bool.false_eq_true, ↓reduceIte] at ih
    simp only [dirItems, List.flatMap_cons, dirItem] at ih ⊢
    rw [ih]
    simp

theorem header_eq (b : List Nat) (bm : DirMode) (ms : List Prefix.Mapping) (pmode : DirMode) :
    header b bm ms pmode = (dirItems (hdrDirs b bm ms pmode)).flatMap (·.text) := by
  rw [dirItems_text, ← writeDirectives_dirs]
  rfl

theorem dDoc_dirs (R : TA.Resolver) : ∀ (ds : List TA.Dir) (st : TA.DState),
    TA.dDoc R st (ds.map TA.Block.dir) = (ds.foldlM (TA.dDir R) st).map (fun s => ([], s))
  | [], _ => rfl
  | d :: ds, st => by
    simp only [List.map_cons, TA.dDoc, TA.dBlock, List.foldlM_cons]
    cases TA.dDir R st d with
    | none => rfl
    | some st1 => simp [dDoc_dirs R ds st1]; cases List.foldlM (TA.dDir R) st1 ds <;> rfl

section Cfgs
variable {cfg : Config} {pm : Prefix.PM}

theorem hdr_ok (hC : NestCfgOK C T) (hcfg : ConfigOK C.isSpace T cfg pm) (bm pmode : DirMode)
    (ms : List Prefix.Mapping) (hms : ∀ m ∈ ms, m ∈ pm.ordered) (D : List Nat → Prop)
    (hbm : bm = .disabled → cfg.baseMode = some .disabled)
    (hD : ∀ m ∈ pm.ordered, D m.pfx → (pmode ≠ .disabled → m ∈ ms) ∧ (pmode = .disabled → cfg.prefixMode = some .disabled)) :
    HdrOK T C cfg.base pm (header cfg.baseStr bm ms pmode) (defaultBase cfg) (defaultPrefixes cfg pm) D := by
  obtain ⟨hfit, st1, hden, hn, hst⟩ := hdr_den hC.c02 hcfg bm pmode ms hms D hbm hD
  rw [header_eq]
  -- the directives are well-formed for the printer: `labelSafe` keeps U+1680 out of a label
  have hdwf : ∀ d ∈ hdrDirs cfg.baseStr bm ms pmode, C08.dirWf T d = true ∧ iriOK (dirIri d) = true := by
    have hlab : ∀ {p : List Nat}, labelSafe C.isSpace T p = true → C08.prefixOK2 T p = true ∧ C08.scalarsB p = true := by
      intro p hp
      obtain ⟨hpo, hps, hnsp, _, _⟩ := labelSafe_parts hp
      have h1680 : p.contains 0x1680 = false := by
        cases hcon : p.contains 0x1680 with
        | false => rfl
        | true => have := hnsp _ (by simpa using hcon); rw [hC.og] at this; cases this
      exact ⟨by simp only [C08.prefixOK2, hpo, h1680, Bool.not_false, Bool.and_true], scalarsB_of hps⟩
    intro d hd
    have := hfit d hd
    cases d <;> simp only [DirFit] at this <;>
      simp [C08.dirWf, dirIri, this, hlab, scalarsB_of (scalars_of_iriOK _)]
  refine ⟨dirItems (hdrDirs cfg.baseStr bm ms pmode), st1, dirItems_syn _ hdwf, rfl, ?_, hn, hst⟩
  rw [dirItems_b, dDoc_dirs, hden]
  rfl

theorem hdrs_ok (hC : NestCfgOK C T) (hcfg : ConfigOK C.isSpace T cfg pm) :
    HdrOK T C cfg.base pm (headerUnbuffered cfg pm) (defaultBase cfg) (defaultPrefixes cfg pm) (fun _ => True) ∧
    ∀ used, HdrOK T C cfg.base pm (headerBuffered cfg pm used) (defaultBase cfg) (defaultPrefixes cfg pm)
      (fun l => l ∈ used) :=
  header_cases hcfg (P := fun H D => HdrOK T C cfg.base pm H (defaultBase cfg) (defaultPrefixes cfg pm) D)
    (fun bm pmode ms hms D hbm hD => hdr_ok hC hcfg bm pmode ms hms D hbm hD)
    (fun D hb hD => HdrOK.nil ⟨by simp only [defaultBase, hb]; split <;> rfl, fun m hm hDm => absurd hDm (hD m hm)⟩)

end Cfgs

end RdfModel.Proofs.C02Doc
