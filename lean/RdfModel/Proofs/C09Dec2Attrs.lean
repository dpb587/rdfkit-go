/-
  Node elements with property attributes of any kind.  The decoder emits rdf:type attribute statements first, then the property attributes outside the RDF namespace,
  then the remaining rdf:-namespace ones; the denotation follows document order: a permutation.
-/
import RdfModel.Proofs.C09DecSim
import RdfModel.Props.C09Dec2Defs
namespace RdfModel.RXD
open RdfModel RdfModel.Desc RdfModel.RX RdfModel.C09Dec

variable {rs : Str → Str → Str} {render : List Tok → Option Str}

def isTypeA (a : Attr) : Bool := decide (a.name = n_type)

def RdfPropName (a : Attr) : Prop := badAttrName a.name = false ∧ syntaxAttrName a.name = false

theorem rdfPropName_node {a : Attr} (h : RdfPropName a) :
    a.name ≠ n_ID ∧ a.name ≠ n_nodeID ∧ a.name ≠ n_about ∧ nodeAttrForbidden.contains a.name = false := by
  obtain ⟨h1, h2⟩ := h
  simp only [badAttrName, syntaxAttrName, oldTerms, List.cons_append, List.nil_append, List.contains_cons, List.contains_nil,
    Bool.or_false, Bool.or_eq_false_iff, beq_eq_false_iff_ne, ne_eq] at h1 h2
  refine ⟨fun e => h2.1 e, fun e => h2.2.2.1 e, fun e => h2.2.1 e, ?_⟩
  simp only [nodeAttrForbidden, List.contains_cons, List.contains_nil, Bool.or_false, Bool.or_eq_false_iff,
    beq_eq_false_iff_ne, ne_eq]
  exact ⟨h1.1, h2.2.2.2.1, h1.2.2.2.2.2, h2.2.2.2.2.2, h1.2.2.2.1, h1.2.2.2.2.1, h1.2.2.1⟩

theorem subjLoop_skip (P : Params) (ctx : Ctx) (A : List Attr) (hA : ∀ a ∈ A, RdfPropName a) (s : Option (Term BN)) (n : Nat)
    (st : St) : subjLoop P ctx A s n st = .ok (s, n) st := by
  induction A with
  | nil => rfl
  | cons a A ih =>
    obtain ⟨h1, h2, h3, _⟩ := rdfPropName_node (hA a (by simp))
    simp only [subjLoop, h1, h2, h3, if_false]
    exact ih (fun x hx => hA x (by simp [hx]))

theorem nodeRdfLoop_mixed (hf : EmptyRefNoFrag rs) {env : Env} {ctx : Ctx} (hrel : CtxRel env ctx) (s : Term BN)
    (A : List Attr) (hA : ∀ a ∈ A, RdfPropName a) (extra : List Attr) (st : St) :
    ∃ st1, nodeRdfLoop (mkP rs render) ctx s A extra st = .ok (extra.reverse ++ A.filter (fun a => !isTypeA a)) st1 ∧
      st1.out = ((A.filter isTypeA).map (fun a => (⟨s, rdfType, .iri (rs env.base a.val)⟩ : T))).reverse ++ st.out ∧
      st1.next = st.next := by
  induction A generalizing extra st with
  | nil => exact ⟨st, by simp [nodeRdfLoop], by simp, rfl⟩
  | cons a A ih =>
    obtain ⟨h1, h2, h3, h4⟩ := rdfPropName_node (hA a (by simp))
    have hA' : ∀ x ∈ A, RdfPropName x := fun x hx => hA x (by simp [hx])
    by_cases ht : a.name = n_type
    · obtain ⟨st1, e1, e2, e3⟩ := ih hA' extra (st.emit ⟨s, rdfType, .iri (rs env.base a.val)⟩)
      have t1 : n_type ≠ n_ID := by decide
      have t2 : n_type ≠ n_nodeID := by decide
      have t3 : n_type ≠ n_about := by decide
      refine ⟨st1, ?_, ?_, by rw [e3]; rfl⟩
      · simp only [nodeRdfLoop, t1, t2, t3, or_self, if_false, ht, if_true, resolveIRI_sim hf hrel, e1, List.filter_cons,
          isTypeA, decide_true, Bool.not_true, Bool.false_eq_true]
      · rw [e2]; simp [isTypeA, ht, St.emit]
    · obtain ⟨st1, e1, e2, e3⟩ := ih hA' (a :: extra) st
      refine ⟨st1, ?_, ?_, e3⟩
      · simp only [nodeRdfLoop, h1, h2, h3, or_self, if_false, ht, h4, Bool.false_eq_true, e1, List.filter_cons, isTypeA,
          decide_false, Bool.not_false, if_true]
        simp
      · rw [e2]; simp [isTypeA, ht]

theorem nodeRdfLoop_skip_append (P : Params) (ctx : Ctx) (s : Term BN) (A B : List Attr)
    (hA : ∀ a ∈ A, a.name = n_ID ∨ a.name = n_nodeID ∨ a.name = n_about) (extra : List Attr) (st : St) :
    nodeRdfLoop P ctx s (A ++ B) extra st = nodeRdfLoop P ctx s B extra st := by
  induction A with
  | nil => rfl
  | cons a A ih =>
    simp only [List.cons_append, nodeRdfLoop, hA a (by simp), if_true]
    exact ih (fun x hx => hA x (by simp [hx]))

theorem litAttrLoop_sim {env : Env} {ctx : Ctx} (hrel : CtxRel env ctx) (s : Term BN) (as : List Attr)
    (hns : ∀ a ∈ as, ¬(a.ns = rdfNS ∧ a.name = n_type)) (st : St) :
    (litAttrLoop ctx s as st).out = (as.map (propAttrTriple rs env s)).reverse ++ st.out ∧
    (litAttrLoop ctx s as st).next = st.next := by
  induction as generalizing st with
  | nil => simp [litAttrLoop]
  | cons a as ih =>
    have ha := hns a (by simp)
    obtain ⟨h1, h2⟩ := ih (fun x hx => hns x (by simp [hx])) (st.emit ⟨s, a.ns ++ a.name, mkLitCtx a.val ctx⟩)
    simp only [litAttrLoop]
    refine ⟨?_, by rw [h2]; rfl⟩
    rw [h1]
    simp [St.emit, propAttrTriple, ha, mkLitCtx, hrel.2]

theorem subj_part (hf : EmptyRefNoFrag rs) {env' : Env} {nctx : Ctx} (hrel' : CtxRel env' nctx) (sc : Scope) (A : List Attr)
    (subj : Subj) {S S0 : RX.St} (hsub : wfSubj rs env' S subj = some S0) (st1 : St) (hn1 : st1.next = S.next) :
    (leafSubj subj = false ∧
      ∀ B, subjLoop (mkP rs render) nctx (rdfPart (subj.info sc A) ++ B) none 0 st1 = .fail .duplicateName st1) ∨
    ∃ so n stS, (∀ B, subjLoop (mkP rs render) nctx (rdfPart (subj.info sc A) ++ B) none 0 st1 =
        subjLoop (mkP rs render) nctx B so n stS) ∧ ¬(n > 1) ∧
      (subjOrFresh so stS).1 = subj.term ∧ (subjOrFresh so stS).2.out = st1.out ∧ (subjOrFresh so stS).2.next = S0.next ∧
      (∀ a ∈ rdfPart (subj.info sc A), a.name = n_ID ∨ a.name = n_nodeID ∨ a.name = n_about) := by
  have hres := fun v => resolveIRI_sim (render := render) hf hrel' v
  have e1 : n_about ≠ n_ID := by decide
  have e2 : n_about ≠ n_nodeID := by decide
  have e3 : n_nodeID ≠ n_ID := by decide
  cases subj with
  | id iri v =>
    simp only [wfSubj] at hsub
    obtain ⟨hS0, hfacts⟩ := wfId_facts hsub
    obtain ⟨hnc, hiri⟩ := hfacts iri v rfl
    by_cases hdup : (nctx.used, v) ∈ st1.used
    · exact .inl ⟨rfl, fun B => by simp [Subj.info, rdfPart, optAttr, subjLoop, hnc, hres, hdup]⟩
    · refine .inr ⟨some (.iri iri), 1, { st1 with used := (nctx.used, v) :: st1.used }, ?_, by omega, rfl, rfl,
        hn1.trans hS0.symm, ?_⟩
      · intro B; simp [Subj.info, rdfPart, optAttr, subjLoop, hnc, hres, hdup, hiri]
      · simp [Subj.info, rdfPart, optAttr]
  | about iri ref =>
    simp only [wfSubj, Option.ite_none_right_eq_some, Option.some.injEq] at hsub
    obtain ⟨hc, rfl⟩ := hsub
    refine .inr ⟨some (.iri iri), 1, st1, ?_, by omega, rfl, rfl, hn1, ?_⟩
    · intro B; simp [Subj.info, rdfPart, optAttr, subjLoop, e1, e2, hres, hc]
    · simp [Subj.info, rdfPart, optAttr]
  | nodeID l =>
    simp only [wfSubj, Option.ite_none_right_eq_some, Option.some.injEq] at hsub
    obtain ⟨hc, rfl⟩ := hsub
    refine .inr ⟨some (.bnode (.named l)), 1, st1, ?_, by omega, rfl, rfl, hn1, ?_⟩
    · intro B; simp [Subj.info, rdfPart, optAttr, subjLoop, e3, hc]
    · simp [Subj.info, rdfPart, optAttr]
  | anon n =>
    simp only [wfSubj, Option.ite_none_right_eq_some, Option.some.injEq] at hsub
    obtain ⟨rfl, rfl⟩ := hsub
    refine .inr ⟨none, 0, st1, ?_, by omega, ?_, rfl, ?_, ?_⟩
    · intro B; simp [Subj.info, rdfPart, optAttr]
    · simp [subjOrFresh, St.fresh, Subj.term, hn1]
    · simp [subjOrFresh, St.fresh, hn1]
    · simp [Subj.info, rdfPart, optAttr]

def MixOK (a : Attr) : Prop := AttrOK a ∧ (a.ns = rdfNS → RdfPropName a)

theorem attrs_of_wf {env : Env} {pattrs : List PAttr} (hpl : pattrs.all nodePAttr = true)
    (hwf : wfPAttrs rs env pattrs = true) : ∀ a ∈ pattrs.map PAttr.render, MixOK a := by
  intro a ha
  have hprop := wfPAttrs_isProp rs env pattrs hwf a ha
  obtain ⟨b, hb, rfl⟩ := List.mem_map.mp ha
  have hnp := List.all_eq_true.mp hpl b hb
  simp only [isPropAttr, Bool.and_eq_true, ne_eq, decide_not, Bool.not_eq_true', Bool.and_eq_false_iff,
    decide_eq_false_iff_not, Bool.or_eq_false_iff] at hprop
  have hx : (b.render).ns ≠ xmlnsSpace := by
    cases b with
    | lit ns name val lang => simpa [nodePAttr, PAttr.render] using hnp
    | type _ _ => simp only [PAttr.render]; decide
  refine ⟨⟨hprop.1.2, hx, hprop.1.1⟩, ?_⟩
  intro hr
  rcases hprop.2 with h | h
  · exact absurd hr h
  · exact h

theorem filter3_perm (A : List Attr) :
    ((A.filter isRdf).filter isTypeA ++ (A.filter (fun a => !isRdf a) ++ (A.filter isRdf).filter (fun a => !isTypeA a))).Perm A := by
  have h1 := List.filter_append_perm isRdf A
  have h2 := List.filter_append_perm isTypeA (A.filter isRdf)
  refine List.Perm.trans ?_ h1
  refine List.Perm.trans ?_ (List.Perm.append_right _ h2)
  rw [List.append_assoc]
  exact List.Perm.append_left _ List.perm_append_comm

theorem nodeEntry_sim (hf : EmptyRefNoFrag rs) (sc : Scope) (subj : Subj) (typ : Option (Str × Str)) (pattrs : List PAttr)
    (hpl : pattrs.all nodePAttr = true) {env : Env} {ctx : Ctx} (hrel : CtxRel env ctx)
    (S S0 : RX.St) (htyp : wfTyp typ = true) (hpa : wfPAttrs rs (env.push rs sc.base sc.lang) pattrs = true)
    (hsub : wfSubj rs (env.push rs sc.base sc.lang) S subj = some S0) (st : St) (hn : st.next = S.next) :
    (leafSubj subj = false ∧ ∃ stf, nodeEntry (mkP rs render) ctx (typNs typ) (typName typ)
        (stdAttrs (subj.info sc (pattrs.map PAttr.render))) st = .fail .duplicateName stf) ∨
    ∃ (nctx : Ctx) (st1 : St) (ts0 : List T), nodeEntry (mkP rs render) ctx (typNs typ) (typName typ)
        (stdAttrs (subj.info sc (pattrs.map PAttr.render))) st = .ok (.props nctx subj.term 0 (.node subj.term)) st1 ∧
      CtxRel (env.push rs sc.base sc.lang) nctx ∧ st1.out = ts0.reverse ++ st.out ∧
      ts0.Perm (typTriple subj.term typ ++ pattrs.map (PAttr.triple subj.term)) ∧ st1.next = S0.next ∧
      (pattrs.all plainPAttr = true → ts0 = typTriple subj.term typ ++ pattrs.map (PAttr.triple subj.term)) := by
  have hattrs := attrs_of_wf hpl hpa
  obtain ⟨f1, f2, f3, f4, f5, f6, f7, f8⟩ := Subj.info_fields sc (pattrs.map PAttr.render) subj
  obtain ⟨nctx, st1, hpca, hrel', hn1, ho1⟩ := processCommonAttr_std (render := render) hf (subj.info sc (pattrs.map PAttr.render))
    (by rw [f1]; exact fun a ha => (hattrs a ha).1) hrel st
  rw [f7, f8] at hrel'
  rw [f1] at hpca
  rcases subj_part (render := render) hf hrel' sc (pattrs.map PAttr.render) subj hsub st1 (by rw [hn1]; exact hn) with
    ⟨hls, hfail⟩ | ⟨so, n, stS, hsl, hn1', hterm, hfout, hfnext, hnames⟩
  · refine .inl ⟨hls, st1, ?_⟩
    unfold nodeEntry
    simp only [hpca, hfail]
  right
  have hAr : ∀ a ∈ (pattrs.map PAttr.render).filter isRdf, RdfPropName a := by
    intro a ha
    simp only [List.mem_filter, isRdf, decide_eq_true_eq] at ha
    exact (hattrs a ha.1).2 ha.2
  obtain ⟨_, htt⟩ := wfTyp_facts subj.term typ htyp
  have htype : ∀ st' : St, (if typNs typ = rdfNS ∧ typName typ = n_Description then st'
      else st'.emit ⟨subj.term, rdfType, .iri (typNs typ ++ typName typ)⟩).out = (typTriple subj.term typ).reverse ++ st'.out ∧
      (if typNs typ = rdfNS ∧ typName typ = n_Description then st'
      else st'.emit ⟨subj.term, rdfType, .iri (typNs typ ++ typName typ)⟩).next = st'.next := by
    intro st'
    rw [← htt]
    unfold typeTriple
    split <;> simp [St.emit]
  obtain ⟨st5, hrl, ho5, hn5⟩ := nodeRdfLoop_mixed (render := render) hf hrel' subj.term _ hAr []
    (if typNs typ = rdfNS ∧ typName typ = n_Description then (subjOrFresh so stS).2
      else (subjOrFresh so stS).2.emit ⟨subj.term, rdfType, .iri (typNs typ ++ typName typ)⟩)
  simp only [List.reverse_nil, List.nil_append] at hrl
  have hlitns : ∀ a ∈ (pattrs.map PAttr.render).filter (fun a => !isRdf a) ++
      ((pattrs.map PAttr.render).filter isRdf).filter (fun a => !isTypeA a),
      ¬(a.ns = rdfNS ∧ a.name = n_type) := by
    intro a ha
    simp only [List.mem_append, List.mem_filter, isRdf, isTypeA, Bool.not_eq_true',
      decide_eq_false_iff_not, decide_eq_true_eq] at ha
    rcases ha with ha | ha
    · exact fun h => ha.2 h.1
    · exact fun h => ha.2 h.2
  have hlit := litAttrLoop_sim (rs := rs) hrel' subj.term _ hlitns st5
  refine ⟨nctx, litAttrLoop nctx subj.term ((pattrs.map PAttr.render).filter (fun a => !isRdf a) ++
      ((pattrs.map PAttr.render).filter isRdf).filter (fun a => !isTypeA a)) st5,
    typTriple subj.term typ ++ (((pattrs.map PAttr.render).filter isRdf).filter isTypeA).map
      (fun a => (⟨subj.term, rdfType, .iri (rs (env.push rs sc.base sc.lang).base a.val)⟩ : T)) ++
      ((pattrs.map PAttr.render).filter (fun a => !isRdf a) ++
        ((pattrs.map PAttr.render).filter isRdf).filter (fun a => !isTypeA a)).map
        (propAttrTriple rs (env.push rs sc.base sc.lang) subj.term), ?_, hrel', ?_, ?_, ?_, ?_⟩
  · unfold nodeEntry
    simp only [hpca, hsl, subjLoop_skip _ _ _ hAr, hn1', if_false, hterm,
      nodeRdfLoop_skip_append _ _ _ _ _ hnames, hrl]
  · rw [hlit.1, ho5, (htype _).1, hfout, ho1]; simp
  · rw [← wfPAttrs_triples rs _ subj.term pattrs hpa, List.append_assoc]
    refine List.Perm.append_left _ ?_
    have hmap : (((pattrs.map PAttr.render).filter isRdf).filter isTypeA).map
        (fun a => (⟨subj.term, rdfType, .iri (rs (env.push rs sc.base sc.lang).base a.val)⟩ : T)) =
        (((pattrs.map PAttr.render).filter isRdf).filter isTypeA).map (propAttrTriple rs (env.push rs sc.base sc.lang) subj.term) := by
      apply List.map_congr_left
      intro a ha
      simp only [List.mem_filter, isRdf, isTypeA, decide_eq_true_eq] at ha
      simp [propAttrTriple, ha.1.2, ha.2]
    rw [hmap, ← List.map_append]
    exact List.Perm.map _ (by simpa using filter3_perm (pattrs.map PAttr.render))
  · rw [hlit.2, hn5, (htype _).2, hfnext]
  · intro hplain
    have hno : (pattrs.map PAttr.render).filter isRdf = [] := by
      rw [List.filter_eq_nil_iff]
      intro a ha
      obtain ⟨b, hb, rfl⟩ := List.mem_map.mp ha
      have := List.all_eq_true.mp hplain b hb
      cases b with
      | type _ _ => cases this
      | lit ns _ _ _ =>
        simp only [plainPAttr, Bool.and_eq_true, decide_eq_true_eq] at this
        exact fun h => this.1 (of_decide_eq_true h)
    have hall : (pattrs.map PAttr.render).filter (fun a => !isRdf a) = pattrs.map PAttr.render := by
      have := (List.filter_append_perm isRdf (pattrs.map PAttr.render)).length_eq
      rw [hno, List.nil_append] at this
      exact List.filter_eq_self.mpr (List.length_filter_eq_length_iff.mp this)
    simp only [hno, hall, List.filter_nil, List.map_nil, List.append_nil, wfPAttrs_triples rs _ subj.term pattrs hpa]

end RdfModel.RXD
