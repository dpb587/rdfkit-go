/-
  `relabel` numbers the nodes 0,1,2,… in document order and changes nothing else.
-/
import RdfModel.Proofs.C11MdSteps
namespace RdfModel.Mdd
open RdfModel RdfModel.Desc

mutual
theorem relabel_ids : ∀ (n : Nat) (t : Node),
    (subnodes (relabelFrom n t).1).map Node.id = List.range' n (subnodes t).length ∧
    (relabelFrom n t).2 = n + (subnodes t).length
  | n, .mk i ty ns a d as ks => by
    have ih := relabelL_ids (n + 1) ks
    simp only [relabelFrom, subnodes, List.map_cons, Node.id, List.length_cons]
    refine ⟨?_, ?_⟩
    · rw [ih.1]; simp [List.range'_succ]
    · rw [ih.2]; omega
theorem relabelL_ids : ∀ (n : Nat) (ks : List Node),
    (subnodesL (relabelL n ks).1).map Node.id = List.range' n (subnodesL ks).length ∧
    (relabelL n ks).2 = n + (subnodesL ks).length
  | n, [] => by simp [relabelL, subnodesL]
  | n, k :: ks => by
    have ih1 := relabel_ids n k
    have ih2 := relabelL_ids (relabelFrom n k).2 ks
    simp only [relabelL, subnodesL, List.map_append, List.length_append]
    refine ⟨?_, ?_⟩
    · rw [ih1.1, ih2.1, ih1.2]
      rw [List.range'_append_1]
    · rw [ih2.2, ih1.2]; omega
end

mutual
theorem relabel_attrs : ∀ (n : Nat) (t : Node),
    (subnodes (relabelFrom n t).1).map Node.attrs = (subnodes t).map Node.attrs ∧
    height (relabelFrom n t).1 = height t
  | n, .mk i ty ns a d as ks => by
    have ih := relabelL_attrs (n + 1) ks
    simp only [relabelFrom, subnodes, List.map_cons, Node.attrs, height]
    exact ⟨by rw [ih.1], by rw [ih.2]⟩
theorem relabelL_attrs : ∀ (n : Nat) (ks : List Node),
    (subnodesL (relabelL n ks).1).map Node.attrs = (subnodesL ks).map Node.attrs ∧
    heightL (relabelL n ks).1 = heightL ks
  | n, [] => by simp [relabelL, subnodesL, heightL]
  | n, k :: ks => by
    have ih1 := relabel_attrs n k
    have ih2 := relabelL_attrs (relabelFrom n k).2 ks
    simp only [relabelL, subnodesL, List.map_append, heightL]
    exact ⟨by rw [ih1.1, ih2.1], by rw [ih1.2, ih2.2]⟩
end

theorem relabel_size (t : Node) : (subnodes (relabel t)).length = (subnodes t).length := by
  have := congrArg List.length (relabel_attrs 0 t).1
  simpa [relabel] using this

theorem relabel_height (t : Node) : height (relabel t) = height t := (relabel_attrs 0 t).2

theorem relabel_refTokens (t : Node) : refTokens (relabel t) = refTokens t := by
  unfold refTokens
  have h : ∀ l : List Node, l.map refTok = (l.map Node.attrs).map (fun a => (fields (trimSpace (scanAttrs a {}).itemref)).length) := by
    intro l; simp [refTok, Function.comp_def]
  rw [h, h, relabel, (relabel_attrs 0 t).1]

theorem relabel_nodup (t : Node) : ((subnodes (relabel t)).map Node.id).Nodup := by
  rw [relabel, (relabel_ids 0 t).1]
  exact List.nodup_range'

end RdfModel.Mdd
