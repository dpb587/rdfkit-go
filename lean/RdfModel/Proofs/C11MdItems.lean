import RdfModel.Proofs.C11MdRefSpec
import RdfModel.Proofs.GroupPerm

namespace RdfModel.Mdd.Stream
open RdfModel RdfModel.Desc RdfModel.Spec.Html RdfModel.Spec.Microdata RdfModel.Mdd RdfModel.Mdd.Typed

variable {β : Type} [DecidableEq β]

omit [DecidableEq β] in
theorem leaf_rel (base : Str) (cur : T × List Str) (here : Path) (t : Triple β) (h : leafOk t) :
    noRef (canonLeaf t) = true ∧ denoteRel base here (canonLeaf t) = [] ∧
    propsOf base (some cur) here (canonLeaf t) = [⟨cur.1, predicate cur.2 t.p, valueOf base t.o⟩] := by
  obtain ⟨tag, a, h1, h2, h3, h4⟩ := canonLeaf_shape t h
  have h5 : a.itemref = none := by
    obtain ⟨s, p, o⟩ := t
    cases o <;> simp only [canonLeaf] at h1 <;> cases h1 <;> rfl
  rw [h1]
  simp [noRef, noRefKids, denoteRel, denoteRelKids, propsOf, propsOfKids, linkOf, h2, h3, h4, h5]

omit [DecidableEq β] in
theorem leaves_rel (base : Str) (cur : T × List Str) (here : Path) (k : Nat) (ts : List (Triple β)) (h : ∀ t ∈ ts, leafOk t) :
    noRefKids (ts.map canonLeaf) = true ∧ denoteRelKids base here k (ts.map canonLeaf) = [] ∧
    propsOfKids base (some cur) here k (ts.map canonLeaf) =
      ts.map (fun t => (⟨cur.1, predicate cur.2 t.p, valueOf base t.o⟩ : Tr)) := by
  induction ts generalizing k with
  | nil => simp [noRefKids, denoteRelKids, propsOfKids]
  | cons t ts ih =>
    obtain ⟨h1, h2, h3⟩ := leaf_rel base cur (here ++ [k]) t (h t (by simp))
    obtain ⟨i1, i2, i3⟩ := ih (k + 1) (fun x hx => h x (by simp [hx]))
    simp [noRefKids, denoteRelKids, propsOfKids, h1, h2, h3, i1, i2, i3]

omit [DecidableEq β] in
theorem items_rel_flat (base : Str) (here : Path) (k : Nat) (L : List (Attrs × List (Triple β)))
    (h : ∀ x ∈ L, x.1.itemscope = true ∧ x.1.itemref = none ∧ ∀ t ∈ x.2, leafOk t) :
    noRefKids (L.map mkItem) = true ∧
    denoteRelKids base here k (L.map mkItem) =
      (L.zipIdx k).flatMap (fun xj =>
        (typesOf xj.1.1).map (fun ty => (⟨subject base xj.1.1 (here ++ [xj.2]), Spec.Microdata.rdfType, .iri ty⟩ : Tr)) ++
        xj.1.2.map (fun t => (⟨subject base xj.1.1 (here ++ [xj.2]), predicate (typesOf xj.1.1) t.p, valueOf base t.o⟩ : Tr))) := by
  induction L generalizing k with
  | nil => simp [noRefKids, denoteRelKids]
  | cons x xs ih =>
    obtain ⟨h1, h2, h3⟩ := h x (by simp)
    obtain ⟨l1, l2, l3⟩ := leaves_rel base (subject base x.1 (here ++ [k]), typesOf x.1) (here ++ [k]) 0 x.2 h3
    obtain ⟨i1, i2⟩ := ih (k + 1) (fun y hy => h y (by simp [hy]))
    refine ⟨by simp [noRefKids, noRef, mkItem, h2, l1, i1], ?_⟩
    simp only [List.map_cons, denoteRelKids, denoteRel, mkItem, h1, ↓reduceIte, typeStmts, l2, l3, i2, List.append_nil,
      List.zipIdx_cons, List.flatMap_cons]

end RdfModel.Mdd.Stream

namespace RdfModel.Spec.Microdata
open RdfModel RdfModel.Spec.Html RdfModel.Desc

variable {β : Type} [DecidableEq β]

omit [DecidableEq β] in
theorem denote_items (base : Str) (L : List (Attrs × List (Triple β)))
    (h : ∀ x ∈ L, x.1.itemscope = true ∧ x.1.itemref = none ∧ ∀ t ∈ x.2, leafOk t) :
    denote base (docOf (L.map mkItem)) =
      L.zipIdx.flatMap (fun xj =>
        (Mdd.Typed.typesOf xj.1.1).map (fun ty => (⟨subject base xj.1.1 [1, xj.2], Spec.Microdata.rdfType, .iri ty⟩ : Tr)) ++
        xj.1.2.map (fun t => (⟨subject base xj.1.1 [1, xj.2], predicate (Mdd.Typed.typesOf xj.1.1) t.p, valueOf base t.o⟩ : Tr))) := by
  obtain ⟨h1, h2⟩ := Mdd.Stream.items_rel_flat base [1] 0 L h
  rw [Mdd.Stream.denote_eq_rel base _ (by simp [docOf, Mdd.Stream.noRef, Mdd.Stream.noRefKids, h1])]
  simpa [docOf, Mdd.Stream.denoteRel, Mdd.Stream.denoteRelKids] using h2

omit [DecidableEq β] in
theorem denote_items_untyped (base : Str) (L : List (Attrs × List (Triple β))) (h : ∀ x ∈ L, itemOk x) :
    denote base (docOf (L.map mkItem)) =
      L.zipIdx.flatMap (fun xj => xj.1.2.map (fun t => (⟨subject base xj.1.1 [1, xj.2], t.p, valueOf base t.o⟩ : Tr))) := by
  rw [denote_items base L (fun x hx => ⟨(h x hx).1, (h x hx).2.1, (h x hx).2.2.2⟩)]
  apply flatMap_congr'
  intro xj hxj
  obtain ⟨x, j⟩ := xj
  have hx : x ∈ L := (List.mem_zipIdx hxj).2.2 ▸ List.getElem_mem _
  simp [Mdd.Typed.typesOf, (h x hx).2.2.1, predicate]

theorem group_perm (bs : List β) (hnd : bs.Nodup) (g : List (Triple β))
    (hs : ∀ t ∈ g, (∃ i, t.s = .iri i) ∨ (∃ b, t.s = .bnode b ∧ b ∈ bs)) :
    (g.filter isIriSubj ++ bs.flatMap (fun b => g.filter (hasSubj b))).Perm g := by
  have h := group_perm_key (fun t : Triple β => t.s) g (bs.map .bnode)
    (List.Pairwise.map _ (fun _ _ h e => h (Term.bnode.inj e)) hnd)
  rw [List.flatMap_map] at h
  refine ((List.Perm.append_left _ h).trans (filter_or_perm _ _ g ?_)).trans
    (.of_eq (List.filter_eq_self.2 ?_))
  · intro t _ ⟨h1, h2⟩
    cases ht : t.s <;> simp_all [isIriSubj]
  · intro t ht
    rcases hs t ht with ⟨i, hi⟩ | ⟨b, hb, hm⟩
    · simp [isIriSubj, hi]
    · simp [hb, hm]

omit [DecidableEq β] in
theorem okTriple_leafOk (base : Str) (t : Triple β) (h : okTriple base t = true) : leafOk t := by
  obtain ⟨s, p, o⟩ := t
  simp only [okTriple, Bool.and_eq_true, beq_iff_eq] at h
  refine ⟨h.1.2, ?_⟩
  intro b hb
  simp only at hb
  subst hb
  simp at h

omit [DecidableEq β] in
theorem okTriple_value (base : Str) (f : β → Path) (t : Triple β) (h : okTriple base t = true) :
    valueOf base t.o = Term.map f t.o := by
  obtain ⟨s, p, o⟩ := t
  simp only [okTriple, Bool.and_eq_true, beq_iff_eq] at h
  cases o with
  | lit lex dt lang =>
    have h2 := h.2
    simp only [Bool.and_eq_true, beq_iff_eq, Option.isNone_iff_eq_none] at h2
    simp [valueOf, Term.map, strLit, h2.1, h2.2]
  | iri i =>
    have h2 : resolveUrl base i = i := by simpa using h.2
    simp [valueOf, Term.map, h2]
  | bnode b => simp at h

theorem indexOf_zipIdx (bs : List β) (hnd : bs.Nodup) (k : Nat) (b : β) (j : Nat) (h : (b, j) ∈ bs.zipIdx k) :
    b ∈ bs ∧ j = k + indexOf b bs := by
  induction bs generalizing k with
  | nil => simp at h
  | cons x xs ih =>
    have hnd' := List.nodup_cons.mp hnd
    simp only [List.zipIdx_cons, List.mem_cons, Prod.mk.injEq] at h
    rcases h with ⟨rfl, rfl⟩ | h
    · simp [indexOf]
    · obtain ⟨hm, hj⟩ := ih hnd'.2 (k + 1) h
      have hne : x ≠ b := fun hx => hnd'.1 (hx ▸ hm)
      refine ⟨List.mem_cons_of_mem _ hm, ?_⟩
      simp [indexOf, hne, hj]; omega

theorem zipIdx_flatMap_fst {α γ : Type} (l : List α) (k : Nat) (H : α → List γ) :
    (l.zipIdx k).flatMap (fun p => H p.1) = l.flatMap H := by
  induction l generalizing k with
  | nil => rfl
  | cons x xs ih => simp [List.zipIdx_cons, List.flatMap_cons, ih]

/-! the canonical document as an item list: one item per triple with an IRI subject, one per blank-node subject -/

def canonA (g : List (Triple β)) : List (Attrs × List (Triple β)) :=
  (g.filter isIriSubj).map (fun t => (({ itemscope := true, itemid := (match t.s with | .iri i => some i | _ => none) } : Attrs), [t]))

def canonB (g : List (Triple β)) : List (Attrs × List (Triple β)) :=
  (bsubjectsOf g).map (fun b => (({ itemscope := true } : Attrs), g.filter (hasSubj b)))

theorem canonDoc_items (g : List (Triple β)) : canonDoc g = docOf ((canonA g ++ canonB g).map mkItem) := by
  simp only [canonDoc, canonA, canonB, List.map_append, List.map_map]
  rfl

theorem canonDoc_denote (lbl : β → Str) (base : Str) (g : List (Triple β)) (hg : expressible base g = true) :
    (denote base (canonDoc g)).Perm (g.map (Triple.map (canonPos lbl g))) := by
  have hok : ∀ t ∈ g, okTriple base t = true := by simpa [expressible] using hg
  let F := g.filter isIriSubj
  let bs := bsubjectsOf g
  let A := canonA g
  let B := canonB g
  have hdoc : canonDoc g = docOf ((A ++ B).map mkItem) := canonDoc_items g
  have hFmem : ∀ t ∈ F, t ∈ g := fun t ht => (List.mem_filter.mp ht).1
  have hitem : ∀ x ∈ A ++ B, itemOk x := by
    intro x hx
    rcases List.mem_append.mp hx with hx | hx
    · obtain ⟨t, ht, rfl⟩ := List.mem_map.mp hx
      refine ⟨rfl, rfl, rfl, ?_⟩
      intro t' ht'
      simp only [List.mem_singleton] at ht'
      subst ht'
      exact okTriple_leafOk base _ (hok _ (hFmem _ ht))
    · obtain ⟨b, _, rfl⟩ := List.mem_map.mp hx
      refine ⟨rfl, rfl, rfl, ?_⟩
      intro t' ht'
      exact okTriple_leafOk base _ (hok _ (List.mem_filter.mp ht').1)
  rw [hdoc, denote_items_untyped base (A ++ B) hitem, List.zipIdx_append, List.flatMap_append]
  have hA : (A.zipIdx).flatMap (fun xj => xj.1.2.map (fun t => (⟨subject base xj.1.1 [1, xj.2], t.p, valueOf base t.o⟩ : Tr))) =
      F.map (Triple.map (canonPos lbl g)) := by
    rw [List.map_eq_flatMap, ← zipIdx_flatMap_fst F 0]
    simp only [A, canonA, List.zipIdx_map, List.flatMap_map]
    apply flatMap_congr'
    intro tj htj
    have ht : tj.1 ∈ F := by
      obtain ⟨t, j⟩ := tj
      exact (List.mem_zipIdx htj).2.2 ▸ List.getElem_mem _
    have hiri := (List.mem_filter.mp ht).2
    have hok' := hok _ (hFmem _ ht)
    obtain ⟨t, j⟩ := tj
    obtain ⟨s, p, o⟩ := t
    cases s with
    | iri i =>
      have hv := okTriple_value base (canonPos lbl g) ⟨.iri i, p, o⟩ hok'
      simp only [okTriple, Bool.and_eq_true, beq_iff_eq, bne_iff_ne, ne_eq] at hok'
      simp [Prod.map, subject, hok'.1.1.1, hok'.1.1.2, Triple.map, Term.map, hv]
    | bnode b => simp [isIriSubj] at hiri
    | lit l d t => simp [isIriSubj] at hiri
  have hbsnd : bs.Nodup := nodup_udedup _
  have hB : (B.zipIdx (0 + A.length)).flatMap (fun xj => xj.1.2.map (fun t => (⟨subject base xj.1.1 [1, xj.2], t.p, valueOf base t.o⟩ : Tr))) =
      bs.flatMap (fun b => (g.filter (hasSubj b)).map (Triple.map (canonPos lbl g))) := by
    rw [← zipIdx_flatMap_fst bs (0 + A.length)]
    simp only [B, canonB, List.zipIdx_map, List.flatMap_map]
    apply flatMap_congr'
    intro bj hbj
    obtain ⟨b, j⟩ := bj
    obtain ⟨hmem, hj⟩ := indexOf_zipIdx bs hbsnd (0 + A.length) b j hbj
    apply List.map_congr_left
    intro t ht
    obtain ⟨htg, hts⟩ := List.mem_filter.mp ht
    have hv := okTriple_value base (canonPos lbl g) t (hok _ htg)
    obtain ⟨s, p, o⟩ := t
    have hs : s = .bnode b := by simpa [hasSubj] using hts
    subst hs
    have hlen : A.length = (List.filter isIriSubj g).length := by simp [A, canonA]
    simp [Prod.map, subject, Triple.map, Term.map, hv, canonPos, hmem, bs, hj, hlen] at hmem ⊢
  rw [hA, hB, ← List.map_flatMap, ← List.map_append]
  apply List.Perm.map
  apply group_perm bs hbsnd g
  intro t ht
  have hok' := hok t ht
  obtain ⟨s, p, o⟩ := t
  cases s with
  | iri i => exact Or.inl ⟨i, rfl⟩
  | bnode b =>
    refine Or.inr ⟨b, rfl, ?_⟩
    exact (mem_bsubjectsOf g b).2 ⟨_, ht, rfl⟩
  | lit l d t => simp [okTriple] at hok'

theorem getElem?_indexOf (l : List β) (c : β) (hl : c ∈ l) : l[indexOf c l]? = some c := by
  induction l with
  | nil => simp at hl
  | cons x xs ih =>
    by_cases hx : x = c
    · simp [indexOf, hx]
    · have : c ∈ xs := by
        rcases List.mem_cons.mp hl with h | h
        · exact absurd h.symm hx
        · exact h
      simp [indexOf, hx, ih this]

theorem indexOf_inj (l : List β) (a b : β) (ha : a ∈ l) (hb : b ∈ l) (h : indexOf a l = indexOf b l) : a = b := by
  have e := getElem?_indexOf l a ha
  rw [h, getElem?_indexOf l b hb] at e
  exact (Option.some.inj e).symm

theorem canonPos_injective (lbl : β → Str) (hinj : Function.Injective lbl) (g : List (Triple β)) :
    Function.Injective (canonPos lbl g) := by
  intro a b hab
  simp only [canonPos] at hab
  by_cases ha : a ∈ bsubjectsOf g <;> by_cases hb : b ∈ bsubjectsOf g <;> simp only [ha, hb, if_true, if_false] at hab
  · have : indexOf a (bsubjectsOf g) = indexOf b (bsubjectsOf g) := by
      have h2 := (List.cons.inj (List.cons.inj hab).2).1
      omega
    exact indexOf_inj _ a b ha hb this
  · simp at hab
  · simp at hab
  · exact hinj (List.cons.inj hab).2

end RdfModel.Spec.Microdata
