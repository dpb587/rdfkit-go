import RdfModel.Spec.RDFC10
import RdfModel.Proofs.StrOrdLemmas
namespace RdfModel.Proofs.C03
open RdfModel RdfModel.Spec.RDFC10 RdfModel.Proofs.StrOrd


variable {β : Type} [DecidableEq β]

theorem getList_eq_assoc {κ ν : Type} [DecidableEq κ] (m : List (κ × List ν)) (k : κ) :
    getList m k = (assoc m k).getD [] := by
  induction m with
  | nil => rfl
  | cons e rest ih => simp only [getList, assoc, ih]; split <;> rfl

theorem assoc_of_mem_nodup {κ ν : Type} [DecidableEq κ] (l : List (κ × ν)) (hnd : (l.map (·.1)).Nodup) (k : κ) (v : ν)
    (h : (k, v) ∈ l) : assoc l k = some v := by
  induction l with
  | nil => simp at h
  | cons e rest ih =>
    obtain ⟨k0, v0⟩ := e
    simp only [List.map_cons, List.nodup_cons] at hnd
    simp only [List.mem_cons, Prod.mk.injEq] at h
    rcases h with ⟨h1, h2⟩ | h
    · subst h1; subst h2; simp [assoc]
    · have hk : k0 ≠ k := by
        intro hh; subst hh
        exact hnd.1 (List.mem_map.mpr ⟨(k0, v), h, rfl⟩)
      simp [assoc, hk, ih hnd.2 h]

theorem assoc_mem {κ ν : Type} [DecidableEq κ] (l : List (κ × ν)) (b : κ) (v : ν) (h : assoc l b = some v) : (b, v) ∈ l := by
  induction l with
  | nil => simp [assoc] at h
  | cons e rest ih =>
    obtain ⟨k, w⟩ := e
    by_cases hk : k = b
    · simp [assoc, hk] at h; subst hk; subst h; simp
    · simp only [assoc, hk, if_false] at h
      exact List.mem_cons_of_mem _ (ih h)

theorem assoc_isSome_iff {κ ν : Type} [DecidableEq κ] (l : List (κ × ν)) (b : κ) :
    (assoc l b).isSome ↔ b ∈ l.map (·.1) := by
  induction l with
  | nil => simp [assoc]
  | cons e rest ih =>
    obtain ⟨k, v⟩ := e
    by_cases hk : k = b
    · simp [assoc, hk]
    · simp [assoc, hk, ih, Ne.symm hk]

theorem getList_of_mem {κ ν : Type} [DecidableEq κ] (m : List (κ × List ν)) (hn : (m.map (·.1)).Nodup)
    (k : κ) (l : List ν) (h : (k, l) ∈ m) : getList m k = l := by
  rw [getList_eq_assoc, assoc_of_mem_nodup m hn k l h]; rfl

theorem mem_of_getList_ne_nil {κ ν : Type} [DecidableEq κ] (m : List (κ × List ν)) (k : κ)
    (h : getList m k ≠ []) : (k, getList m k) ∈ m := by
  rw [getList_eq_assoc] at h ⊢
  cases ha : assoc m k with
  | none => rw [ha] at h; exact absurd rfl h
  | some v => exact assoc_mem m k v ha

theorem keys_nodup_addToMap {κ ν : Type} [DecidableEq κ] (m : List (κ × List ν)) (k : κ) (v : ν)
    (hn : (m.map (·.1)).Nodup) : ((addToMap m k v).map (·.1)).Nodup := by
  rw [keys_addToMap]
  split
  · exact hn
  · rename_i hk
    rw [List.nodup_append]
    refine ⟨hn, by simp, ?_⟩
    intro a ha b hb
    simp only [List.mem_singleton] at hb
    subst hb
    exact fun e => hk (e ▸ ha)

theorem addToMap_mapKV {κ κ' ν ν' : Type} [DecidableEq κ] [DecidableEq κ'] (f : κ → κ')
    (hf : Function.Injective f) (g : ν → ν') (m : List (κ × List ν)) (k : κ) (v : ν) :
    addToMap (m.map (fun e => (f e.1, e.2.map g))) (f k) (g v)
      = (addToMap m k v).map (fun e => (f e.1, e.2.map g)) := by
  induction m with
  | nil => rfl
  | cons e rest ih =>
    simp only [List.map_cons, addToMap, hf.eq_iff, ih]
    split <;> simp

theorem getList_mapKV {κ κ' ν ν' : Type} [DecidableEq κ] [DecidableEq κ'] (f : κ → κ')
    (hf : Function.Injective f) (g : ν → ν') (m : List (κ × List ν)) (k : κ) :
    getList (m.map (fun e => (f e.1, e.2.map g))) (f k) = (getList m k).map g := by
  induction m with
  | nil => rfl
  | cons e rest ih =>
    simp only [List.map_cons, getList, hf.eq_iff, ih]
    split <;> rfl

theorem mergeSort_map_key {α α' : Type} {k : α → Str} {k' : α' → Str} {f : α → α'} (l : List α)
    (h : ∀ a ∈ l, k' (f a) = k a) :
    (l.map f).mergeSort (fun a b => strLe (k' a) (k' b))
      = (l.mergeSort (fun a b => strLe (k a) (k b))).map f :=
  (List.map_mergeSort fun a ha b hb => by rw [h a ha, h b hb]).symm

omit [DecidableEq β] in
theorem mem_quadBnodes {q : Quad β} {b : β} :
    b ∈ quadBnodes q ↔ b ∈ bnodeOf q.s ∨ b ∈ bnodeOf q.o ∨ ∃ t, q.g = some t ∧ b ∈ bnodeOf t := by
  unfold quadBnodes
  cases q.g <;> simp

/-- One component of a quad as related blank node (the local function of `relatedOf`). -/
def relT (i : β) (t : Term β) (pos : Nat) : List (β × Nat) :=
  match t with
  | .bnode b => if b = i then [] else [(b, pos)]
  | _ => []

theorem relatedOf_eq (i : β) (q : Quad β) :
    relatedOf i q = relT i q.s 0x73 ++ relT i q.o 0x6f ++
      (match q.g with | some g => relT i g 0x67 | none => []) := by
  obtain ⟨s, p, o, g⟩ := q
  cases g <;> rfl

/-- Step 2.1 for one quad (`twice = true`). -/
def index1 (m : B2Q β) (q : Quad β) : B2Q β :=
  (quadBnodes q).foldl (fun m b => addToMap m b q) m

theorem bnodeToQuads_eq_foldl (qs : List (Quad β)) :
    bnodeToQuads true qs = qs.foldl index1 [] := by
  simp only [bnodeToQuads, if_true]
  rfl

theorem getList_foldl_addToMap (q : Quad β) (bs : List β) (m : B2Q β) (b : β) :
    getList (bs.foldl (fun m b => addToMap m b q) m) b
      = getList m b ++ List.replicate (bs.count b) q := by
  induction bs generalizing m with
  | nil => simp
  | cons a rest ih =>
    simp only [List.foldl_cons, ih, getList_addToMap]
    by_cases h : a = b
    · subst h
      simp [List.replicate_succ]
    · simp [h]

theorem getList_foldl_index1 (qs : List (Quad β)) (m : B2Q β) (b : β) :
    getList (qs.foldl index1 m) b
      = getList m b ++ qs.flatMap (fun q => List.replicate ((quadBnodes q).count b) q) := by
  induction qs generalizing m with
  | nil => simp
  | cons q rest ih =>
    simp only [List.foldl_cons, ih, index1, getList_foldl_addToMap, List.flatMap_cons,
      List.append_assoc]

theorem getList_bnodeToQuads (qs : List (Quad β)) (b : β) :
    getList (bnodeToQuads true qs) b
      = qs.flatMap (fun q => List.replicate ((quadBnodes q).count b) q) := by
  rw [bnodeToQuads_eq_foldl, getList_foldl_index1]
  simp [getList]

def insertAll (ks : List β) (l : List β) : List β :=
  l.foldl (fun ks b => if b ∈ ks then ks else ks ++ [b]) ks

theorem keys_foldl_addToMap (q : Quad β) (bs : List β) (m : B2Q β) :
    (bs.foldl (fun m b => addToMap m b q) m).map (·.1) = insertAll (m.map (·.1)) bs :=
  (List.foldl_hom (List.map (·.1)) fun m b => (keys_addToMap m b q).symm).symm

theorem insertAll_append (ks l1 l2 : List β) :
    insertAll ks (l1 ++ l2) = insertAll (insertAll ks l1) l2 := by
  simp [insertAll, List.foldl_append]

theorem keys_foldl_index1 (qs : List (Quad β)) (m : B2Q β) :
    (qs.foldl index1 m).map (·.1) = insertAll (m.map (·.1)) (qs.flatMap quadBnodes) := by
  induction qs generalizing m with
  | nil => simp [insertAll]
  | cons q rest ih =>
    simp only [List.foldl_cons, ih, index1, keys_foldl_addToMap, List.flatMap_cons,
      insertAll_append]

theorem insertAll_eq (ks l : List β) :
    insertAll ks l = ks ++ (l.filter (fun b => decide (b ∉ ks))).eraseDups := by
  induction l generalizing ks with
  | nil => simp [insertAll]
  | cons a rest ih =>
    have hstep : insertAll ks (a :: rest)
        = insertAll (if a ∈ ks then ks else ks ++ [a]) rest := by
      simp [insertAll]
    rw [hstep]
    by_cases h : a ∈ ks
    · simp only [h, if_true, ih]
      simp [h]
    · simp only [h, if_false, ih]
      simp only [List.filter_cons, h, not_false_eq_true, decide_true, if_true,
        List.eraseDups_cons, List.filter_filter, List.append_assoc, List.singleton_append]
      congr 3
      apply List.filter_congr
      intro x _
      by_cases hx : x = a
      · subst hx; simp
      · simp [hx]

theorem keys_bnodeToQuads (qs : List (Quad β)) :
    (bnodeToQuads true qs).map (·.1) = (qs.flatMap quadBnodes).eraseDups := by
  rw [bnodeToQuads_eq_foldl, keys_foldl_index1, insertAll_eq]
  have hf : ∀ l : List β, l.filter (fun b => decide (b ∉ ([] : List β))) = l := by
    intro l; rw [List.filter_eq_self]; simp
  simp only [List.map_nil, hf, List.nil_append]

theorem mem_keys_bnodeToQuads (qs : List (Quad β)) (b : β) :
    b ∈ (bnodeToQuads true qs).map (·.1) ↔ b ∈ qs.flatMap quadBnodes := by
  rw [keys_bnodeToQuads, List.mem_eraseDups]

theorem nodup_keys_bnodeToQuads (qs : List (Quad β)) :
    ((bnodeToQuads true qs).map (·.1)).Nodup := by
  rw [bnodeToQuads_eq_foldl]
  exact List.foldlRecOn (motive := fun m : B2Q β => (m.map (·.1)).Nodup) qs index1 (b := []) List.nodup_nil fun m hm q _ =>
    List.foldlRecOn (motive := fun m : B2Q β => (m.map (·.1)).Nodup) _ _ hm fun m hm b _ =>
      keys_nodup_addToMap m b q hm

/-- §4.4.3 step 3 over the key list `K` with first-degree hash `hf`. -/
def group (hf : β → Str) (K : List β) (m : List (Str × List β)) : List (Str × List β) :=
  K.foldl (fun m n => addToMap m (hf n) n) m

omit [DecidableEq β] in
theorem getList_group (hf : β → Str) (K : List β) (m : List (Str × List β)) (k : Str) :
    getList (group hf K m) k = getList m k ++ K.filter (fun n => hf n = k) := by
  induction K generalizing m with
  | nil => simp [group]
  | cons a rest ih =>
    simp only [group, List.foldl_cons] at ih ⊢
    rw [ih, getList_addToMap]
    by_cases h : hf a = k
    · simp [h]
    · simp [h]

omit [DecidableEq β] in
theorem keys_nodup_group (hf : β → Str) (K : List β) (m : List (Str × List β))
    (hn : (m.map (·.1)).Nodup) : ((group hf K m).map (·.1)).Nodup :=
  List.foldlRecOn (motive := fun m => (m.map (·.1)).Nodup) K _ hn
    fun m hm a _ => keys_nodup_addToMap m (hf a) a hm

omit [DecidableEq β] in
theorem mem_group (hf : β → Str) (K : List β) (e : Str × List β) (he : e ∈ group hf K []) :
    e.2 = K.filter (fun n => hf n = e.1) := by
  rw [← getList_of_mem _ (keys_nodup_group hf K [] List.nodup_nil) e.1 e.2 he, getList_group]
  rfl

omit [DecidableEq β] in
theorem filter_hash_length_le_one (hf : β → Str) (K : List β) (h : (K.map hf).Nodup) (k : Str) :
    (K.filter (fun n => hf n = k)).length ≤ 1 := by
  have := List.nodup_iff_count.1 h k
  rw [List.count_eq_countP, List.countP_map, List.countP_eq_length_filter] at this
  simpa [Function.comp_def, Bool.beq_eq_decide_eq] using this

theorem first_degree_perm (H : Str → Str) {qs qs' : List (Quad β)} (h : qs.Perm qs') (b : β) :
    hashFirstDegree H (bnodeToQuads true qs) b = hashFirstDegree H (bnodeToQuads true qs') b := by
  unfold hashFirstDegree
  simp only [getList_bnodeToQuads]
  congr 2
  apply sortStr_eq_of_perm
  exact (h.flatMap_right _).map _

section rename
variable {γ : Type} [DecidableEq γ]

omit [DecidableEq β] [DecidableEq γ] in
theorem bnodeOf_map (σ : β → γ) (t : Term β) : bnodeOf (t.map σ) = (bnodeOf t).map σ := by
  cases t <;> rfl

omit [DecidableEq β] [DecidableEq γ] in
theorem quadBnodes_map (σ : β → γ) (q : Quad β) :
    quadBnodes (q.map σ) = (quadBnodes q).map σ := by
  obtain ⟨s, p, o, g⟩ := q
  cases g <;> simp [quadBnodes, Quad.map, bnodeOf_map]

omit [DecidableEq β] [DecidableEq γ] in
theorem flatMap_quadBnodes_map (σ : β → γ) (qs : List (Quad β)) :
    (qs.map (Quad.map σ)).flatMap quadBnodes = (qs.flatMap quadBnodes).map σ := by
  simp [List.flatMap_map, List.map_flatMap, quadBnodes_map]

omit [DecidableEq β] [DecidableEq γ] in
theorem term_map (lab : γ → Str) (σ : β → γ) (t : Term β) :
    term lab (t.map σ) = term (lab ∘ σ) t := by
  cases t <;> rfl

omit [DecidableEq β] [DecidableEq γ] in
theorem nquad_map (lab : γ → Str) (σ : β → γ) (q : Quad β) :
    nquad lab (q.map σ) = nquad (lab ∘ σ) q := by
  obtain ⟨s, p, o, g⟩ := q
  cases g <;> simp [nquad, Quad.map, term_map]

omit [DecidableEq β] in
theorem term_map_congr {δ : Type} (f g : β → δ) (t : Term β)
    (h : ∀ b ∈ bnodeOf t, f b = g b) : t.map f = t.map g := by
  cases t with
  | bnode b => exact congrArg Term.bnode (h b (List.mem_singleton_self b))
  | _ => rfl

omit [DecidableEq β] in
theorem quad_map_congr {δ : Type} (f g : β → δ) (q : Quad β) (hpred : ∀ b, q.p ≠ .bnode b)
    (h : ∀ b ∈ quadBnodes q, f b = g b) : q.map f = q.map g := by
  obtain ⟨s, p, o, gr⟩ := q
  have hs := term_map_congr f g s fun b hb => h b (mem_quadBnodes.2 (.inl hb))
  have ho := term_map_congr f g o fun b hb => h b (mem_quadBnodes.2 (.inr (.inl hb)))
  have hp : p.map f = p.map g := by
    cases p with
    | bnode b => exact absurd rfl (hpred b)
    | _ => rfl
  have hg : gr.map (Term.map f) = gr.map (Term.map g) := by
    cases gr with
    | none => rfl
    | some t =>
      exact congrArg some (term_map_congr f g t fun b hb => h b (mem_quadBnodes.2 (.inr (.inr ⟨t, rfl, hb⟩))))
  simp only [Quad.map, hs, hp, ho, hg]

omit [DecidableEq β] in
theorem nquad_congr (lab lab' : β → Str) (q : Quad β) (hpred : ∀ b, q.p ≠ .bnode b)
    (h : ∀ b ∈ quadBnodes q, lab b = lab' b) :
    nquad lab q = nquad lab' q :=
  (nquad_map id lab q).symm.trans
    ((congrArg (nquad id) (quad_map_congr lab lab' q hpred h)).trans (nquad_map id lab' q))

theorem bnodeToQuads_map (σ : β → γ) (hσ : Function.Injective σ) (qs : List (Quad β)) :
    bnodeToQuads true (qs.map (Quad.map σ))
      = (bnodeToQuads true qs).map (fun e => (σ e.1, e.2.map (Quad.map σ))) := by
  rw [bnodeToQuads_eq_foldl, bnodeToQuads_eq_foldl, List.foldl_map]
  refine List.foldl_hom (List.map fun e : β × List (Quad β) => (σ e.1, e.2.map (Quad.map σ))) (init := [])
    fun m q => ?_
  unfold index1
  rw [quadBnodes_map, List.foldl_map]
  exact List.foldl_hom _ fun m b => addToMap_mapKV σ hσ (Quad.map σ) m b q

theorem keys_bnodeToQuads_map (σ : β → γ) (hσ : Function.Injective σ) (qs : List (Quad β)) :
    (bnodeToQuads true (qs.map (Quad.map σ))).map (·.1) = ((bnodeToQuads true qs).map (·.1)).map σ := by
  rw [bnodeToQuads_map σ hσ]
  simp [List.map_map, Function.comp_def]

theorem getList_bnodeToQuads_map (σ : β → γ) (hσ : Function.Injective σ) (qs : List (Quad β))
    (b : β) :
    getList (bnodeToQuads true (qs.map (Quad.map σ))) (σ b)
      = (getList (bnodeToQuads true qs) b).map (Quad.map σ) := by
  rw [bnodeToQuads_map σ hσ, getList_mapKV σ hσ]

theorem first_degree_rename (H : Str → Str) (σ : β → γ) (hσ : Function.Injective σ)
    (qs : List (Quad β)) (b : β) :
    hashFirstDegree H (bnodeToQuads true (qs.map (Quad.map σ))) (σ b)
      = hashFirstDegree H (bnodeToQuads true qs) b := by
  unfold hashFirstDegree
  simp only [getList_bnodeToQuads_map σ hσ, List.map_map, Function.comp_def, nquad_map, hσ.eq_iff]

end rename

end RdfModel.Proofs.C03
