import RdfModel.Proofs.C12WrapParse
namespace RdfModel.C12W
open RdfModel.GoUrlFull RdfModel.PIRI
open RdfModel.Spec.RFC3986 (Parts recompose schemePart authorityPart queryPart fragmentPart)

theorem reclass_stable {u : URL} (h : (reclassify u).1 = u) : reclassGuard u = true → u.path = [] := by
  intro hg
  cases hp : u.path with
  | nil => rfl
  | cons c p =>
    exfalso
    unfold reclassify at h
    simp only [hg, if_true, hp, List.isEmpty_cons, Bool.not_false] at h
    have := congrArg URL.path h
    simp [hp] at this

theorem reclass_of_stable (u : URL) (h : reclassGuard u = true → u.path = []) : (reclassify u).1 = u := by
  unfold reclassify
  by_cases hg : reclassGuard u = true
  · have hp := h hg
    have ho : u.opaq = [] := by
      unfold reclassGuard at hg
      simp only [Bool.and_eq_true] at hg
      exact List.isEmpty_iff.mp hg.2
    cases u
    simp_all
  · simp [hg]

theorem str_with_frag (u : URL) (hf : u.fragment = []) (frag rf : Str) (hne : frag ≠ []) :
    ({ u with fragment := frag, rawFragment := rf } : URL).str =
      u.str ++ 0x23 :: ({ u with fragment := frag, rawFragment := rf } : URL).escapedFragment := by
  unfold URL.str
  simp only [hf, List.isEmpty_nil, Bool.not_true, Bool.false_eq_true, if_false, isEmpty_false_of_ne hne, Bool.not_false, if_true]
  rfl

theorem frag_facts {f : Str} (h : fragOk f = true) :
    (∃ r, unescape .fragment f = .ok r) ∧ 0x23 ∉ f := by
  unfold fragOk at h
  simp only [Bool.and_eq_true, Bool.not_eq_true', List.contains_eq_mem, decide_eq_false_iff_not] at h
  exact ⟨unescOk_elim h.1, h.2⟩

theorem scheme_noHash {s : Str} (h : schemeOk s = true) : 0x23 ∉ s := by
  cases s with
  | nil => simp
  | cons c t =>
    simp only [schemeOk, Bool.and_eq_true] at h
    intro hm
    rcases List.mem_cons.mp hm with e | e
    · rw [← e] at h; exact absurd h.1 (by decide)
    · exact not_mem_of_all h.2 (by decide) e

theorem pre_noHash (P : Parts) (h : InLang P = true) : 0x23 ∉ preOf P := by
  obtain ⟨hsch, hauth, hpath, _, hq, _, _⟩ := langFacts h
  unfold preOf
  simp only [List.mem_append, not_or]
  refine ⟨⟨⟨?_, ?_⟩, (path_facts hpath).2.2.2⟩, ?_⟩
  · cases hs : P.scheme with
    | none => simp [schemePart]
    | some s =>
      rw [hs] at hsch
      have := scheme_noHash hsch
      simp [schemePart, this, RdfModel.Spec.RFC3986.cColon]
  · cases ha : P.authority with
    | none => simp [authorityPart]
    | some a =>
      rw [ha] at hauth
      have := (authority_facts hauth).2.2.2.2.2.2.1
      simp [authorityPart, this, RdfModel.Spec.RFC3986.cSlash]
  · cases hQ : P.query with
    | none => simp [queryPart]
    | some q =>
      rw [hQ] at hq
      simp only [Bool.not_eq_true', List.contains_eq_mem, decide_eq_false_iff_not] at hq
      simp [queryPart, hq, RdfModel.Spec.RFC3986.cQuest]

/-- the raw-path substitution of `ParsedIRI.String` is a no-op when `EscapedPath` already is the raw path -/
theorem rawPath_noop (u : URL) (hrp : u.rawPath = [] ∨ u.escapedPath = u.rawPath) :
    (if (!u.rawPath.isEmpty) = true then RdfModel.IRI.replaceFirst u.str u.escapedPath u.rawPath else u.str) = u.str := by
  rcases hrp with h | h
  · simp [h]
  · rw [h, replaceFirst_same]; simp

theorem str_noFrag (u : URL) (ff opq : Bool) (hrf : u.rawFragment = [])
    (hrp : u.rawPath = [] ∨ u.escapedPath = u.rawPath) :
    ({ u := u, forceFragment := ff, isOpaque := opq } : ParsedIRI).str =
      if ff && !u.str.contains 0x23 then u.str ++ [0x23] else u.str := by
  unfold ParsedIRI.str
  simp only [rawPath_noop u hrp, hrf, List.isEmpty_nil, Bool.not_true, Bool.false_eq_true, if_false]

theorem reclassify_snd (u : URL) : (reclassify u).2 = reclassGuard u := by
  unfold reclassify
  split
  · split <;> simp_all
  · simp_all

-- stated with a witness: the three fragment cases build their `ParsedIRI` from the parsed URL and then show it is `pOf P`
theorem parseIRI_inLang_ex (P : Parts) (h : InLang P = true) :
    ∃ p, parseIRI (recompose P) = .ok p ∧ p.str = recompose P ∧ p = pOf P := by
  obtain ⟨hparse, hstr, hf, hrf, hrp, hrc⟩ := parseNoFrag_good P h
  generalize hu : urlNoFrag P = u at hparse hstr hf hrf hrp hrc
  have hnh := pre_noHash P h
  have hfr := (langFacts h).frag
  rw [recompose_eq]
  cases hF : P.fragment with
  | none =>
    have hcut : cut 0x23 (preOf P ++ fragmentPart none) = (preOf P, none) := by
      simp [fragmentPart, cut_none _ _ hnh]
    have hff : ((preOf P ++ fragmentPart none).getLast? == some 0x23) = false := by
      simp only [fragmentPart, List.append_nil, beq_eq_false_iff_ne, ne_eq]
      exact fun e => hnh (List.mem_of_getLast? e)
    refine ⟨{ u := u, forceFragment := (preOf P ++ fragmentPart none).getLast? == some 0x23, isOpaque := (reclassify u).2 }, ?_, ?_, ?_⟩
    · unfold parseIRI parse
      rw [hcut]
      simp only [hparse, hrc]
    · rw [str_noFrag u _ _ hrf hrp, hstr]
      rw [hff]
      simp [fragmentPart]
    · rw [hff, reclassify_snd]
      simp [pOf, urlOf, fragNonEmpty, hF, hu]
  | some f =>
    rw [hF] at hfr
    have hcut : cut 0x23 (preOf P ++ fragmentPart (some f)) = (preOf P, some f) := by
      simp [fragmentPart, RdfModel.Spec.RFC3986.cHash, cut_append_sep _ _ _ hnh]
    by_cases hfe : f = []
    · subst hfe
      refine ⟨{ u := u, forceFragment := (preOf P ++ fragmentPart (some [])).getLast? == some 0x23, isOpaque := (reclassify u).2 }, ?_, ?_, ?_⟩
      · unfold parseIRI parse
        rw [hcut]
        simp only [hparse, hrc, List.isEmpty_nil, if_true]
      · rw [str_noFrag u _ _ hrf hrp, hstr]
        have hc : (preOf P).contains 0x23 = false := by simp [hnh]
        simp [fragmentPart, RdfModel.Spec.RFC3986.cHash, hnh]
      · rw [reclassify_snd]
        simp [pOf, urlOf, fragNonEmpty, hF, hu, fragmentPart, RdfModel.Spec.RFC3986.cHash]
    · obtain ⟨⟨frag, hfrag⟩, hfh⟩ := frag_facts hfr
      have hset : setFragment u f = .ok { u with fragment := frag, rawFragment := if escape .fragment frag = f then [] else f } := by
        simp [setFragment, hfrag]
      have hfragne : frag ≠ [] := unescape_ne_nil hfrag hfe
      obtain ⟨U, hU⟩ : ∃ U : URL, U = { u with fragment := frag, rawFragment := if escape .fragment frag = f then [] else f } := ⟨_, rfl⟩
      rw [← hU] at hset
      have e1 : U.rawPath = u.rawPath := by rw [hU]
      have e2 : U.escapedPath = u.escapedPath := by rw [hU]; rfl
      have e4 : U.rawFragment = if escape .fragment frag = f then [] else f := by rw [hU]
      have hst : reclassGuard U = true → U.path = [] := by
        have := reclass_stable hrc
        rw [hU]; exact fun hg => this hg
      have hUrc : (reclassify U).1 = U := reclass_of_stable U hst
      have hUstr : U.str = preOf P ++ 0x23 :: U.escapedFragment := by
        have := str_with_frag u hf frag (if escape .fragment frag = f then [] else f) hfragne
        rw [← hU, hstr] at this
        exact this
      have hff : ((preOf P ++ fragmentPart (some f)).getLast? == some 0x23) = false := by
        simp only [beq_eq_false_iff_ne, ne_eq]
        intro e
        have hm := List.mem_of_getLast? e
        cases f with
        | nil => exact hfe rfl
        | cons c t =>
          have e' : (c :: t).getLast? = some 0x23 := by
            simpa [fragmentPart, List.getLast?_append, List.getLast?_cons_cons] using e
          exact hfh (List.mem_of_getLast? e')
      have hpof : ({ u := U, forceFragment := (preOf P ++ fragmentPart (some f)).getLast? == some 0x23, isOpaque := (reclassify U).2 } : ParsedIRI) = pOf P := by
        rw [hff, reclassify_snd, hU]
        have hud : unescD .fragment f = frag := by simp [unescD, hfrag]
        have hfe' : f.isEmpty = false := isEmpty_false_of_ne hfe
        simp [pOf, urlOf, fragNonEmpty, hF, hu, hfe', rawOf, hud, reclassGuard]
      refine ⟨{ u := U, forceFragment := (preOf P ++ fragmentPart (some f)).getLast? == some 0x23, isOpaque := (reclassify U).2 }, ?_, ?_, hpof⟩
      · unfold parseIRI parse
        rw [hcut]
        simp only [hparse, isEmpty_false_of_ne hfe, Bool.false_eq_true, if_false, hset, hUrc]
      · unfold ParsedIRI.str
        simp only [rawPath_noop U (by rw [e1, e2]; exact hrp)]
        by_cases he : escape .fragment frag = f
        · have e3 : U.escapedFragment = f := by
            rw [hU]; simp [URL.escapedFragment, he]
          simp only [e4, he, if_true, List.isEmpty_nil, Bool.not_true, Bool.false_eq_true, if_false, hUstr, e3]
          simp [fragmentPart, RdfModel.Spec.RFC3986.cHash]
        · simp only [e4, he, if_false, isEmpty_false_of_ne hfe, Bool.not_false, if_true, hUstr]
          have := replaceFirst_at 0x23 U.escapedFragment (0x23 :: f) [] (preOf P) hnh
          simp only [List.append_nil] at this
          rw [this]
          simp [fragmentPart, RdfModel.Spec.RFC3986.cHash]

theorem parseIRI_eq_pOf (P : Parts) (h : InLang P = true) :
    parseIRI (recompose P) = .ok (pOf P) ∧ (pOf P).str = recompose P := by
  obtain ⟨p, h1, h2, h3⟩ := parseIRI_inLang_ex P h
  subst h3
  exact ⟨h1, h2⟩

theorem parseIRI_inLang (P : Parts) (h : InLang P = true) :
    ∃ p, parseIRI (recompose P) = .ok p ∧ p.str = recompose P :=
  ⟨pOf P, parseIRI_eq_pOf P h⟩

end RdfModel.C12W
