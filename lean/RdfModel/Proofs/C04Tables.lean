/-
  The checkers run over the table *entries* but look only at the function graph of `lookup` (first matching entry,
  default 0): they accept every table denoting the same function, and reject a table in which, e.g., TAB is not
  written as `\t`.
-/
import RdfModel.Props.C04Defs
import RdfModel.Proofs.RangeCheck
import RdfModel.Proofs.C01Consts
namespace RdfModel.Proofs.C04
open RdfModel RdfModel.NQ RdfModel.C04
open RdfModel.Proofs.RangeCheck (checkRange checkRange_sound badNZ raw_of_bad iriBad)

/-- `q (lookup tbl d c)` for every `c ≥ lo` (also beyond U+10FFFF), decided on the entries. -/
def checkFrom (q : Nat → Bool) (d : Nat) : RangeTable → Nat → Bool
  | [], _ => q d
  | (l, h, v) :: rest, lo =>
    (if max lo l ≤ h then q v else true) &&
    (if lo < l then checkRange q d rest lo (l - 1) else true) &&
    checkFrom q d rest (max lo (h + 1))

theorem checkFrom_sound (q : Nat → Bool) (d : Nat) (tbl : RangeTable) :
    ∀ lo, checkFrom q d tbl lo = true → ∀ c, lo ≤ c → q (lookup tbl d c) = true := by
  induction tbl with
  | nil => intro lo h c _; simpa [checkFrom, lookup] using h
  | cons e rest ih =>
    obtain ⟨l, h, v⟩ := e
    intro lo hchk c h1
    simp only [checkFrom, Bool.and_eq_true] at hchk
    obtain ⟨⟨hA, hB⟩, hC⟩ := hchk
    unfold lookup
    split
    · next hin =>
      rw [if_pos (by omega)] at hA
      exact hA
    · next hout =>
      rcases Nat.lt_or_ge c l with hc | hc
      · rw [if_pos (by omega)] at hB
        exact checkRange_sound q d rest _ _ hB c h1 (by omega)
      · exact ih _ hC c (by omega)

def isVal (n v : Nat) : Bool := v == n

def valOn (n : Nat) (tbl : RangeTable) (rs : RangeSet) : Bool :=
  rs.all (fun r => checkRange (isVal n) 0 tbl r.1 r.2)

theorem valOn_sound {n : Nat} {tbl : RangeTable} {rs : RangeSet} (h : valOn n tbl rs = true)
    {c : Nat} (hc : inRanges rs c = true) : lookup tbl 0 c = n := by
  rw [inRanges_iff] at hc
  obtain ⟨r, hr, h1, h2⟩ := hc
  simp only [valOn, List.all_eq_true] at h
  have := checkRange_sound (isVal n) 0 tbl _ _ (h r hr) c h1 h2
  simpa [isVal] using this

theorem valFrom_sound {n : Nat} {tbl : RangeTable} {lo : Nat}
    (h : checkFrom (isVal n) 0 tbl lo = true) {c : Nat} (hc : lo ≤ c) : lookup tbl 0 c = n := by
  have := checkFrom_sound (isVal n) 0 tbl lo h c hc
  simpa [isVal] using this

/-- The seven ECHAR code points with the letter canonical N-Quads writes after the backslash:
    `\b \t \n \f \r \" \\`. -/
def echarPoints : List (Nat × Nat) :=
  [(0x08, 0x62), (0x09, 0x74), (0x0a, 0x6e), (0x0c, 0x66), (0x0d, 0x72), (0x22, 0x22), (0x5c, 0x5c)]

/-- Code points written `\uXXXX`: C0 controls other than the ECHAR ones, DEL, U+FFFE, U+FFFF. -/
def litU4 : RangeSet := [(0x00, 0x07), (0x0b, 0x0b), (0x0e, 0x1f), (0x7f, 0x7f), (0xFFFE, 0xFFFF)]

/-- Bounded part of the code points written raw (the rest is everything from U+10000 upwards). -/
def litRaw : RangeSet := [(0x20, 0x21), (0x23, 0x5b), (0x5d, 0x7e), (0x80, 0xFFFD)]

/-- Every ECHAR point has the mark 1 in `litEsc` (0: written raw, 1: as ECHAR with the letter from `echar`,
    2: as `\uXXXX`) and its letter in `echar`. -/
def echarChk (T : Tables) : Bool :=
  echarPoints.all (fun p => lookup (T.litEsc false) 0 p.1 == 1 && lookup T.echar 0 p.1 == p.2)

def chkCanon (T : Tables) : Bool :=
  valOn 0 (T.litEsc false) litRaw &&
  checkFrom (isVal 0) 0 (T.litEsc false) 0x10000 &&
  echarChk T &&
  valOn 2 (T.litEsc false) litU4

theorem echar_of_chk {T : Tables} (h : echarChk T = true) {c l : Nat} (hm : (c, l) ∈ echarPoints) :
    NQ.escLitRune T false c = [0x5c, l] := by
  simp only [echarChk, List.all_eq_true, Bool.and_eq_true, beq_iff_eq] at h
  obtain ⟨h1, h2⟩ := h _ hm
  simp only [NQ.escLitRune, h1, h2]

theorem u4_of_chk {T : Tables} (h : valOn 2 (T.litEsc false) litU4 = true) {c : Nat}
    (hc : inRanges litU4 c = true) : NQ.escLitRune T false c = 0x5c :: 0x75 :: hex4 c := by
  simp only [NQ.escLitRune, valOn_sound h hc]

theorem raw_of_chk {T : Tables} {c : Nat} (h : lookup (T.litEsc false) 0 c = 0) :
    NQ.escLitRune T false c = [c] := by
  simp only [NQ.escLitRune, h]

theorem tablesCanon_of_chk (T : NQ.Tables) (h : chkCanon T = true) : C04.TablesCanon T := by
  simp only [chkCanon, Bool.and_eq_true] at h
  obtain ⟨⟨⟨hraw, hbig⟩, hech⟩, hu4⟩ := h
  refine ⟨fun c => ?_⟩
  by_cases hm : c ∈ echarPoints.map (·.1)
  · simp only [echarPoints, List.map_cons, List.map_nil, List.mem_cons, List.not_mem_nil, or_false] at hm
    rcases hm with rfl | rfl | rfl | rfl | rfl | rfl | rfl <;> exact echar_of_chk hech (by decide)
  · simp only [echarPoints, List.map_cons, List.map_nil, List.mem_cons, List.not_mem_nil, or_false,
      not_or] at hm
    obtain ⟨h1, h2, h3, h4, h5, h6, h7⟩ := hm
    simp only [Spec.RDFC10.escLitRune, if_neg h1, if_neg h2, if_neg h3, if_neg h4, if_neg h5, if_neg h6,
      if_neg h7]
    split
    · apply u4_of_chk hu4
      simp only [litU4, inRanges, Bool.or_eq_true, Bool.and_eq_true, decide_eq_true_eq]
      omega
    · apply raw_of_chk
      rcases Nat.lt_or_ge c 0x10000 with hlt | hge
      · apply valOn_sound hraw
        simp only [litRaw, inRanges, Bool.or_eq_true, Bool.and_eq_true, decide_eq_true_eq]
        omega
      · exact valFrom_sound hbig hge

theorem iriBody_raw (T : NQ.Tables) (v : Str) (h : C04.IriRaw T v) : NQ.iriBody T false v = v := by
  induction v with
  | nil => rfl
  | cons c v ih =>
    have hc : lookup (T.iriEsc false) 0 c = 0 := h c List.mem_cons_self
    have hv : NQ.iriBody T false v = v := ih (fun x hx => h x (List.mem_cons_of_mem _ hx))
    simp only [NQ.iriBody] at hv
    simp only [NQ.iriBody, List.flatMap_cons, NQ.escIRIRune, hc, hv, List.singleton_append]

theorem canonical_iri (T : NQ.Tables) (v : Str) (h : C04.IriRaw T v) :
    NQ.writeIRI T false v = Spec.RDFC10.iriRef v := by
  simp only [NQ.writeIRI, Spec.RDFC10.iriRef, iriBody_raw T v h]

theorem litBody_canon (T : NQ.Tables) (hT : C04.TablesCanon T) (lex : Str) :
    NQ.litBody T false lex = lex.flatMap Spec.RDFC10.escLitRune := by
  have : NQ.escLitRune T false = Spec.RDFC10.escLitRune := funext hT.lit
  simp only [NQ.litBody, this]

theorem canonical_literal_escaping (T : NQ.Tables) (hT : C04.TablesCanon T) (lex dt : Str)
    (lang : Option Str) (h : C04.WFLit T dt lang) :
    NQ.writeLiteral T false lex dt lang = Spec.RDFC10.literal lex dt lang := by
  obtain ⟨hraw, htag⟩ := h
  simp only [NQ.writeLiteral, Spec.RDFC10.literal, litBody_canon T hT, canonical_iri T dt hraw]
  by_cases hx : dt = xsdString
  · have hl : dt ≠ rdfLangString := fun hr => C01.xsd_ne_lang (hx ▸ hr)
    cases lang with
    | none => simp only [if_pos hx]
    | some l => exact absurd (htag.1 rfl) hl
  · by_cases hr : dt = rdfLangString
    · cases lang with
      | none => exact absurd (htag.2 hr) (by simp)
      | some l => simp only [if_neg hx, if_pos hr]
    · cases lang with
      | none => simp only [if_neg hx, if_neg hr]
      | some l => exact absurd (htag.1 rfl) hr

/-- Bounded part of the code points an IRI takes raw, the complement of `iriBad` (Proofs/RangeCheck); the rest is
    everything from U+007E upwards. -/
def iriGood : RangeSet :=
  [(0x21, 0x21), (0x23, 0x3b), (0x3d, 0x3d), (0x3f, 0x5b), (0x5d, 0x5d), (0x5f, 0x5f), (0x61, 0x7a)]

def chkIri (T : Tables) : Bool :=
  badNZ (T.iriEsc false) iriBad &&
  valOn 0 (T.iriEsc false) iriGood &&
  checkFrom (isVal 0) 0 (T.iriEsc false) 0x7e

theorem iriRaw_iff_of_chk (T : NQ.Tables) (h : chkIri T = true) (c : Nat) :
    lookup (T.iriEsc false) 0 c = 0 ↔
      ¬ (c ≤ 0x20 ∨ c = 0x3c ∨ c = 0x3e ∨ c = 0x22 ∨ c = 0x7b ∨ c = 0x7d ∨ c = 0x7c ∨ c = 0x5e ∨
         c = 0x60 ∨ c = 0x5c) := by
  simp only [chkIri, Bool.and_eq_true] at h
  obtain ⟨⟨hbad, hgood⟩, hbig⟩ := h
  constructor
  · intro h0
    have := raw_of_bad _ _ hbad c h0
    simp only [iriBad, inRanges, Bool.or_eq_false_iff, Bool.and_eq_false_iff,
      decide_eq_false_iff_not] at this
    omega
  · intro hc
    rcases Nat.lt_or_ge c 0x7e with hlt | hge
    · apply valOn_sound hgood
      simp only [iriGood, inRanges, Bool.or_eq_true, Bool.and_eq_true, decide_eq_true_eq]
      omega
    · exact valFrom_sound hbig hge

end RdfModel.Proofs.C04
