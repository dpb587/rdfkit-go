import RdfModel.Proofs.C14Step
namespace RdfModel.Proofs.C14
open RdfModel.BN RdfModel.C14

theorem exec_nil (U : Nat → Bytes) (s : State) : exec U s [] = s := rfl

theorem exec_cons (U : Nat → Bytes) (s : State) (op : Op) (ops : List Op) :
    exec U s (op :: ops) = exec U (step U s op).1 ops := rfl

theorem exec_append (U : Nat → Bytes) (s : State) (a b : List Op) :
    exec U s (a ++ b) = exec U (exec U s a) b := by
  simp [exec, List.foldl_append]

theorem ext_exec (U : Nat → Bytes) (s : State) (ops : List Op) : Ext s (exec U s ops) := by
  induction ops generalizing s with
  | nil => exact Ext.refl s
  | cons op ops ih => exact Ext.trans (step_ext U s op) (ih _)

theorem inv_exec (U : Nat → Bytes) {s : State} (hI : Inv s) (ops : List Op) : Inv (exec U s ops) := by
  induction ops generalizing s with
  | nil => exact hI
  | cons op ops ih => exact ih (step_inv U hI op)

theorem ext_take_le (U : Nat → Bytes) (s : State) (ops : List Op) {i j : Nat} (hij : i ≤ j) :
    Ext (exec U s (ops.take i)) (exec U s (ops.take j)) := by
  have h : ops.take j = ops.take i ++ (ops.take j).drop i := by
    have := (List.take_append_drop i (ops.take j)).symm
    rw [List.take_take, Nat.min_eq_left hij] at this
    exact this
  rw [h, exec_append]
  exact ext_exec U _ _

theorem trace_getElem? (U : Nat → Bytes) (s : State) (ops : List Op) (i : Nat) (op : Op) (o : Out)
    (h : (trace U s ops)[i]? = some (op, o)) :
    ops[i]? = some op ∧ o = (step U (exec U s (ops.take i)) op).2 := by
  induction ops generalizing s i with
  | nil => simp [trace] at h
  | cons op' ops ih =>
    cases i with
    | zero =>
      simp [trace] at h
      obtain ⟨h1, h2⟩ := h
      subst h1
      simp [exec, h2.symm]
    | succ i =>
      simp only [trace, List.getElem?_cons_succ] at h
      have := ih _ i h
      simp only [List.getElem?_cons_succ, List.take_succ_cons, exec_cons]
      exact this

theorem trace_out {U : Nat → Bytes} {s : State} {ops : List Op} {i : Nat} {op : Op} {o : Out}
    (h : (trace U s ops)[i]? = some (op, o)) : (step U (exec U s (ops.take i)) op).2 = o :=
  (trace_getElem? U s ops i op o h).2.symm

theorem exec_take_succ (U : Nat → Bytes) (s : State) (ops : List Op) (i : Nat) (op : Op) (h : ops[i]? = some op) :
    exec U s (ops.take (i + 1)) = (step U (exec U s (ops.take i)) op).1 := by
  rw [List.take_add_one, h]
  simp [exec]

/-- What a step establishes, and every extension of a state keeps, holds from then on and at the end. -/
theorem after_step {P : State → Prop} (mono : ∀ {s s'}, Ext s s' → P s → P s') {U : Nat → Bytes} {s₀ : State}
    {ops : List Op} {i : Nat} {op : Op} {o : Out} (hi : (trace U s₀ ops)[i]? = some (op, o))
    (h : (step U (exec U s₀ (ops.take i)) op).2 = o → P (step U (exec U s₀ (ops.take i)) op).1) :
    (∀ {j}, i < j → P (exec U s₀ (ops.take j))) ∧ P (exec U s₀ ops) := by
  obtain ⟨hop, ho⟩ := trace_getElem? U s₀ ops i _ _ hi
  have key : ∀ {j}, i < j → P (exec U s₀ (ops.take j)) := fun hij =>
    mono (ext_take_le U s₀ ops (Nat.succ_le_of_lt hij)) (exec_take_succ U s₀ ops i _ hop ▸ h ho.symm)
  refine ⟨key, ?_⟩
  have := key (j := max (i + 1) ops.length) (by omega)
  rwa [List.take_of_length_le (by omega)] at this

theorem getLabel_peek (U : Nat → Bytes) (s : State) (p : ProvRef) (n : Node)
    (h : (getLabel U s p n).2 ≠ .bad) : peek U (getLabel U s p n).1 p n = some (getLabel U s p n).2 := by
  induction p with
  | int64 i | uuid i =>
    simp only [getLabel] at h ⊢
    split
    · rename_i hp; simp [hp] at h
    · rename_i pr hp
      split
      · rename_i idx hk; simp [peek, hp, hk]
      · simp [peek, lt_length_of_getElem? hp, assoc]
  | pass sc fb ih =>
    rcases pass_cases sc n with ⟨v, rfl⟩ | hno
    · simp [getLabel_pass_own, peek_pass_own]
    · rw [getLabel_pass_other U s sc fb n hno] at h ⊢
      rw [peek_pass_other U _ sc fb n hno]
      exact ih h

theorem peek_ext (U : Nat → Bytes) {s s' : State} (hE : Ext s s') (p : ProvRef) (n : Node) (o : Out)
    (h : peek U s p n = some o) : peek U s' p n = some o := by
  induction p with
  | int64 i =>
    simp only [peek] at h ⊢
    split at h
    · cases h
    · rename_i pr hp
      obtain ⟨pr', hp', hf, hk⟩ := hE.int64s i pr hp
      obtain ⟨idx, ha, rfl⟩ := Option.map_eq_some_iff.mp h
      simp [hp', hk n idx ha, hf]
  | uuid i =>
    simp only [peek] at h ⊢
    split at h
    · cases h
    · rename_i pr hp
      obtain ⟨pr', hp', hf, hk⟩ := hE.uuids i pr hp
      obtain ⟨idx, ha, rfl⟩ := Option.map_eq_some_iff.mp h
      simp [hp', hk n idx ha, hf]
  | pass sc fb ih =>
    rcases pass_cases sc n with ⟨v, rfl⟩ | hno
    · rw [peek_pass_own] at h ⊢; exact h
    · rw [peek_pass_other U _ sc fb n hno] at h ⊢
      exact ih h

theorem peek_getLabel (U : Nat → Bytes) (s : State) (p : ProvRef) (n : Node) (o : Out)
    (h : peek U s p n = some o) : (getLabel U s p n).2 = o := by
  induction p with
  | int64 i | uuid i =>
    simp only [peek] at h
    split at h
    · cases h
    · rename_i pr hp
      obtain ⟨idx, ha, rfl⟩ := Option.map_eq_some_iff.mp h
      simp only [getLabel, hp, ha]
  | pass sc fb ih =>
    rcases pass_cases sc n with ⟨v, rfl⟩ | hno
    · rw [peek_pass_own] at h; rw [getLabel_pass_own]; simpa using h
    · rw [peek_pass_other U _ sc fb n hno] at h
      rw [getLabel_pass_other U s sc fb n hno]
      exact ih h

theorem peek_inj_leaf (U : Nat → Bytes) (hU : Function.Injective U) {s : State} (hI : Inv s) (p : ProvRef)
    (hp : isLeaf p = true) (n m : Node) (l : Bytes)
    (hn : peek U s p n = some (.label l)) (hm : peek U s p m = some (.label l)) : n = m := by
  cases p with
  | int64 i =>
    simp only [peek] at hn hm
    split at hn
    · cases hn
    · rename_i pr hpr
      rw [hpr] at hm
      obtain ⟨a, ha, hn⟩ := Option.map_eq_some_iff.mp hn
      obtain ⟨b, hb, hm⟩ := Option.map_eq_some_iff.mp hm
      cases decimal_inj (sprintf1_inj hn hm)
      exact hI.int64_inj i pr hpr n m a (assoc_mem ha) (assoc_mem hb)
  | uuid i =>
    simp only [peek] at hn hm
    split at hn
    · cases hn
    · rename_i pr hpr
      rw [hpr] at hm
      obtain ⟨a, ha, hn⟩ := Option.map_eq_some_iff.mp hn
      obtain ⟨b, hb, hm⟩ := Option.map_eq_some_iff.mp hm
      cases hU (sprintf1_inj hn hm)
      exact hI.uuid_inj i pr hpr n m a (assoc_mem ha) (assoc_mem hb)
  | pass sc fb => cases hp

theorem peek_after {U : Nat → Bytes} {s₀ : State} {ops : List Op} {i : Nat} {p : ProvRef} {n : Node} {o : Out}
    (hi : (trace U s₀ ops)[i]? = some (.getLabel p n, o)) (hb : o ≠ .bad) :
    (∀ {j}, i < j → peek U (exec U s₀ (ops.take j)) p n = some o) ∧ peek U (exec U s₀ ops) p n = some o :=
  after_step (fun hE => peek_ext U hE p n o) hi fun e => e ▸ getLabel_peek U _ p n (e ▸ hb)

theorem peekMap_some {s : State} {m : Nat} {n : Node} {id : Ident} (h : peekMap s m n = some id) :
    ∃ mp, s.mappers[m]? = some mp ∧ assoc n mp.known = some id := by
  simp only [peekMap] at h
  split at h
  · cases h
  · exact ⟨_, ‹_›, h⟩

theorem mapNode_peek (s : State) (m : Nat) (n : Node) (id : Ident)
    (h : (mapNode s m n).2 = .node (some id)) : peekMap (mapNode s m n).1 m n = some id := by
  simp only [mapNode] at h ⊢
  split
  · rename_i hm; simp [hm] at h
  · rename_i mp hm
    split
    · rename_i mapped hn
      simp [hm, hn] at h
      simp [peekMap, hm, hn, h]
    · rename_i hn
      split
      · rename_i hf; simp [hm, hn, hf] at h
      · rename_i s' id' hf
        simp [hm, hn, hf] at h
        simp [peekMap, fresh_mappers hf, lt_length_of_getElem? hm, assoc, h]

theorem peekMap_ext {s s' : State} (hE : Ext s s') (m : Nat) (n : Node) (id : Ident)
    (h : peekMap s m n = some id) : peekMap s' m n = some id := by
  obtain ⟨mp, hm, h⟩ := peekMap_some h
  obtain ⟨mp', hm', _, hk⟩ := hE.mappers m mp hm
  simp only [peekMap, hm']
  exact hk n id h

theorem peekMap_mapNode (s : State) (m : Nat) (n : Node) (id : Ident)
    (h : peekMap s m n = some id) : (mapNode s m n).2 = .node (some id) := by
  obtain ⟨mp, hm, h⟩ := peekMap_some h
  simp [mapNode, hm, h]

theorem peekMap_inj {s : State} (hI : Inv s) (m : Nat) (n n' : Node) (id : Ident)
    (h : peekMap s m n = some id) (h' : peekMap s m n' = some id) : n = n' := by
  obtain ⟨mp, hm, h⟩ := peekMap_some h
  obtain ⟨mp', hm', h'⟩ := peekMap_some h'
  cases hm.symm.trans hm'
  exact hI.mapper_inj m mp hm n n' id (assoc_mem h) (assoc_mem h')

theorem peekMap_after {U : Nat → Bytes} {s₀ : State} {ops : List Op} {i : Nat} {m : Nat} {n : Node} {id : Ident}
    (hi : (trace U s₀ ops)[i]? = some (.mapNode m n, .node (some id))) :
    (∀ {j}, i < j → peekMap (exec U s₀ (ops.take j)) m n = some id) ∧ peekMap (exec U s₀ ops) m n = some id :=
  after_step (fun hE => peekMap_ext hE m n id) hi (mapNode_peek _ m n id)

theorem freshOp_step (U : Nat → Bytes) (s : State) (op : Op) (hf : FreshOp op) (n : Node)
    (h : (step U s op).2 = .node n) : ∃ f id, fresh s f = some ((step U s op).1, id) ∧ n = some id := by
  rcases hf with ⟨f, rfl⟩ | ⟨j, rfl⟩
  · cases hf : fresh s f with
    | none => simp [step, hf] at h
    | some r => exact ⟨f, r.2, by simp [step, hf], by simpa [step, hf] using h.symm⟩
  · by_cases hj : j < s.strfs.length
    · cases hf : fresh s (.strf j) with
      | none => simp [step, hj, hf] at h
      | some r => exact ⟨.strf j, r.2, by simp [step, hj, hf], by simpa [step, hj, hf] using h.symm⟩
    · simp [step, hj] at h

theorem step_fresh_not_issued (U : Nat → Bytes) {s : State} (op : Op) (hf : FreshOp op) (id : Ident)
    (h : (step U s op).2 = .node (some id)) : ¬ Issued s id := by
  obtain ⟨_, _, hf, e⟩ := freshOp_step U s op hf _ h
  cases e
  exact (fresh_issued hf).1

theorem getLabel_ne_node (U : Nat → Bytes) (s : State) (p : ProvRef) (n x : Node) :
    (getLabel U s p n).2 ≠ .node x := by
  intro h
  induction p with
  | int64 i | uuid i =>
    simp only [getLabel] at h
    split at h
    · cases h
    · split at h <;> (simp only [sprintf1] at h; split at h <;> cases h)
  | pass sc fb ih =>
    rcases pass_cases sc n with ⟨v, rfl⟩ | hno
    · rw [getLabel_pass_own] at h; cases h
    · rw [getLabel_pass_other U s sc fb n hno] at h; exact ih h

theorem step_out_issued (U : Nat → Bytes) {s : State} (hI : Inv s) (op : Op) (id : Ident)
    (h : (step U s op).2 = .node (some id)) : Issued (step U s op).1 id := by
  have fresh_case : FreshOp op → Issued (step U s op).1 id := fun hf => by
    obtain ⟨_, _, hf, e⟩ := freshOp_step U s op hf _ h
    cases e
    exact (fresh_issued hf).2
  cases op with
  | newBlankNode f => exact fresh_case (.inl ⟨f, rfl⟩)
  | newStringBlankNode j l =>
    by_cases hl : l = []
    · exact fresh_case (.inr ⟨j, hl ▸ rfl⟩)
    · simp only [step, hl, if_false] at h
      split at h
      · cases h; trivial
      · cases h
  | mapNode m n =>
    obtain ⟨mp, hm, hk⟩ := peekMap_some (mapNode_peek s m n id h)
    exact (mapNode_inv hI m n).mapper_issued m mp hm n id (assoc_mem hk)
  | newFactory => cases h
  | newStringFactory => cases h
  | newInt64Provider fmt => cases h
  | newUUIDProvider fmt => cases h
  | getStringProvider j fb => simp only [step] at h; split at h <;> cases h
  | getLabel p n => exact absurd h (getLabel_ne_node U s p n _)
  | newMapper f => simp only [step] at h; split at h <;> cases h
  | propagate f =>
    simp only [step] at h
    split at h
    · split at h <;> cases h
    · split at h <;> cases h
    · cases h
  | termEquals a b => cases h

theorem mapNode_fresh_not_issued {s : State} (m : Nat) (n : Node) (hp : peekMap s m n = none) (id : Ident)
    (h : (mapNode s m n).2 = .node (some id)) : ¬ Issued s id := by
  simp only [mapNode] at h
  simp only [peekMap] at hp
  split at h
  · cases h
  · rename_i mp hm
    simp only [hm] at hp
    simp only [hp] at h
    split at h
    · cases h
    · rename_i s' id' hf
      cases h
      exact (fresh_issued hf).1

/-- Core of all uniqueness statements: a node that was not issued before step `j` differs from every
    node returned by an earlier step. -/
theorem unique_of_not_issued (U : Nat → Bytes) {s₀ : State} (h₀ : Inv s₀) (ops : List Op) {i j : Nat} (hij : i < j)
    (opi : Op) (ni : Node) (hi : (trace U s₀ ops)[i]? = some (opi, .node ni))
    (idj : Ident) (hn : ¬ Issued (exec U s₀ (ops.take j)) idj) :
    termEquals ni (some idj) = false ∧ termEquals (some idj) ni = false := by
  have key : termEquals ni (some idj) = false := by
    apply termEquals_false_of_ne
    intro hni
    subst hni
    exact hn ((after_step (P := (Issued · idj)) (fun hE => issued_mono hE) hi (step_out_issued U (inv_exec U h₀ _) opi idj)).1 hij)
  exact ⟨key, by rw [termEquals_comm]; exact key⟩

theorem step_mapper_key (U : Nat → Bytes) (s : State) (op : Op) (m : Nat) (n : Node)
    (h : peekMap (step U s op).1 m n ≠ none) : peekMap s m n ≠ none ∨ op = .mapNode m n := by
  by_cases hop : op = .mapNode m n
  · exact .inr hop
  refine .inl fun hnone => h ?_
  have same : ∀ {s' : State}, s'.mappers = s.mappers → peekMap s' m n = none := fun e => by
    rw [peekMap, e]; exact hnone
  refine step_state U s op hnone (fun _ _ _ hf => same (fresh_mappers hf))
    (fun p n' => same (getLabel_mappers U s p n')) (fun m' n' e => ?_) (same rfl) (same rfl)
    (fun _ => same rfl) (fun _ => same rfl) (fun f _ => ?_)
  · refine mapNode_state s m' n' (P := fun s' => peekMap s' m n = none) hnone fun mp s' id hm hn hf => ?_
    simp only [peekMap, List.getElem?_set, fresh_mappers hf]
    by_cases hmm : m' = m
    · subst hmm
      have hnn : n' ≠ n := fun hnn => hop (by rw [e, hnn])
      simp only [peekMap, hm] at hnone
      simp [lt_length_of_getElem? hm, assoc, hnn, hnone]
    · simpa [hmm, peekMap] using hnone
  · simp only [peekMap, List.getElem?_append]
    by_cases hlt : m < s.mappers.length
    · simpa [peekMap, hlt] using hnone
    · rw [if_neg hlt]
      rcases m - s.mappers.length with _ | _ <;> rfl

theorem exec_mapper_key (U : Nat → Bytes) (s : State) (ops : List Op) (m : Nat) (n : Node)
    (h : peekMap (exec U s ops) m n ≠ none) : peekMap s m n ≠ none ∨ Op.mapNode m n ∈ ops := by
  induction ops generalizing s with
  | nil => exact Or.inl h
  | cons op ops ih =>
    rw [exec_cons] at h
    rcases ih _ h with h1 | h1
    · rcases step_mapper_key U s op m n h1 with h2 | h2
      · exact Or.inl h2
      · exact Or.inr (by simp [h2])
    · exact Or.inr (by simp [h1])

def fmtS : Bytes := [37, 115]

theorem asc_fmtS : asc "%s" = fmtS := by decide

theorem sprintf1_s (x : Bytes) : sprintf1 fmtS uuidVerbs x = .label x := by
  simp [sprintf1, fmtS, splitVerb, uuidVerbs]

/-- UUID provider `i` exists and formats with `%s` -/
def Good (s : State) (i : Nat) : Prop := ∃ pr, s.uuids[i]? = some pr ∧ pr.format = fmtS

theorem good_ext {s s' : State} {i : Nat} (hE : Ext s s') (h : Good s i) : Good s' i := by
  obtain ⟨pr, hp, hf⟩ := h
  obtain ⟨pr', hp', hf', _⟩ := hE.uuids i pr hp
  exact ⟨pr', hp', by rw [hf', hf]⟩

theorem peek_uuid_label (U : Nat → Bytes) {s : State} {i : Nat} (hg : Good s i) (n : Node) (l : Bytes)
    (h : peek U s (.uuid i) n = some (.label l)) : ∃ k, l = U k := by
  obtain ⟨pr, hp, hf⟩ := hg
  simp only [peek, hp] at h
  obtain ⟨pos, _, h⟩ := Option.map_eq_some_iff.mp h
  rw [hf, sprintf1_s] at h
  exact ⟨pos, (Out.label.inj h).symm⟩

end RdfModel.Proofs.C14
