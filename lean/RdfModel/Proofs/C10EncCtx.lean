/-
  A context object whose members are an optional absolute `@base` and simple term definitions
  `p ↦ ns` (p a usable prefix name, ns an absolute IRI ending in a gen-delim whose own scheme is not a
  member name) is processed by `processCtxObj` into the active context that has exactly these terms,
  each with the prefix flag set — in both processing modes.
-/
import RdfModel.Proofs.C10Flat
namespace RdfModel.Proofs.C10
open RdfModel RdfModel.Desc RdfModel.JL RdfModel.C10

def tdPfx (ns : Str) : TermDef := { iri := ns, pfx := true, typ := .none, cont := .none, lang := none }

section Lookup
variable {κ α : Type} [BEq κ] [LawfulBEq κ]

theorem lookup_none_of_not_mem (l : List (κ × α)) (k : κ) (h : k ∉ l.map (·.1)) : l.lookup k = none :=
  List.lookup_eq_none_iff.2 fun _ he => bne_iff_ne.2 fun hk => h (hk ▸ List.mem_map_of_mem he)

theorem mem_of_lookup (l : List (κ × α)) (k : κ) (v : α) (h : l.lookup k = some v) : (k, v) ∈ l := by
  obtain ⟨l₁, l₂, rfl, _⟩ := List.lookup_eq_some_iff.1 h
  simp

theorem lookup_of_mem_nodup (l : List (κ × α)) (k : κ) (v : α) (hm : (k, v) ∈ l)
    (hn : (l.map (·.1)).Nodup) : l.lookup k = some v := by
  induction l with
  | nil => cases hm
  | cons e l ih =>
    obtain ⟨a, b⟩ := e
    simp only [List.map_cons, List.nodup_cons] at hn
    rcases List.mem_cons.1 hm with h | h
    · cases h; simp [List.lookup]
    · have hne : k ≠ a := by
        intro e; subst e
        exact hn.1 (List.mem_map.2 ⟨(k, v), h, rfl⟩)
      have : (k == a) = false := by simpa using hne
      simp [List.lookup, this, ih h hn.2]

end Lookup

theorem lookup_filter_ne {α : Type} (l : List (Str × α)) (p k : Str) (h : k ≠ p) :
    (l.filter (fun e => e.1 != p)).lookup k = l.lookup k := by
  induction l with
  | nil => rfl
  | cons e l ih =>
    obtain ⟨a, b⟩ := e
    by_cases hap : a = p
    · subst hap
      have : (k == a) = false := by simpa using h
      simp [List.filter, List.lookup, this, ih]
    · have hne : (a != p) = true := by simpa using hap
      simp only [List.filter, hne, List.lookup]
      cases hk : (k == a) <;> simp [ih]

theorem lookup_filter_self {α : Type} (l : List (Str × α)) (p : Str) :
    (l.filter (fun e => e.1 != p)).lookup p = none :=
  List.lookup_eq_none_iff.2 fun _ he => bne_comm.trans (List.mem_filter.1 he).2

theorem hasKey_iff {k : Str} {ms : List (Str × Json)} : hasKey k ms = true ↔ k ∈ ms.map (·.1) := by
  simp [hasKey]

theorem hasKey_false_of_not_mem {k : Str} {ms : List (Str × Json)} (h : k ∉ ms.map (·.1)) : hasKey k ms = false :=
  Bool.eq_false_iff.2 (mt hasKey_iff.1 h)

theorem getKey_eq_lookup (k : Str) : ∀ ms : List (Str × Json), getKey k ms = ms.lookup k
  | [] => rfl
  | (k', v) :: ms => by
    rw [getKey, List.lookup_cons, getKey_eq_lookup k ms]
    by_cases h : k' = k
    · simp [h]
    · have : (k == k') = false := beq_eq_false_iff_ne.2 (Ne.symm h)
      simp [h, this]

theorem getKey_none_of_not_mem {k : Str} {ms : List (Str × Json)} (h : k ∉ ms.map (·.1)) : getKey k ms = none :=
  getKey_eq_lookup k ms ▸ lookup_none_of_not_mem ms k h

theorem getKey_none_of_hasKey {k : Str} {ms : List (Str × Json)} (h : hasKey k ms = false) : getKey k ms = none :=
  getKey_none_of_not_mem fun hm => Bool.false_ne_true (h.symm.trans (hasKey_iff.2 hm))

theorem getKey_append (k : Str) (a b : List (Str × Json)) : getKey k (a ++ b) = (getKey k a).or (getKey k b) := by
  simp only [getKey_eq_lookup, List.lookup_append]

theorem pfxNameOK_spec {p : Str} (h : pfxNameOK p = true) :
    p ≠ [] ∧ p ≠ [cUnderscore] ∧ p.contains cColon = false ∧ p.contains cSlash = false ∧
      isKeywordForm p = false ∧ p.head? ≠ some cAt := by
  simp only [pfxNameOK, Bool.not_eq_true', Bool.or_eq_false_iff, beq_eq_false_iff_ne] at h
  obtain ⟨⟨⟨⟨⟨h1, h2⟩, h3⟩, h4⟩, h5⟩, h6⟩ := h
  exact ⟨h1, h2, h3, h4, h5, by simpa using h6⟩

theorem no_colon_inner {p : Str} (h : p.contains cColon = false) : ((p.drop 1).dropLast).contains cColon = false := by
  rw [Bool.eq_false_iff] at h ⊢
  intro hc
  apply h
  have h1 : cColon ∈ (p.drop 1).dropLast := by simpa using hc
  have h2 : cColon ∈ p.drop 1 := List.dropLast_subset _ h1
  have h3 : cColon ∈ p := List.drop_subset _ _ h2
  simpa using h3

theorem no_colon_after_first {p : Str} (h : p.contains cColon = false) : colonAfterFirst p = false := by
  unfold colonAfterFirst
  rw [Bool.eq_false_iff] at h ⊢
  intro hc
  apply h
  have h2 : cColon ∈ p.drop 1 := by simpa using hc
  have h3 : cColon ∈ p := List.drop_subset _ _ h2
  simpa using h3

structure EntryOK (loc : List (Str × Json)) (p ns : Str) : Prop where
  name : pfxNameOK p = true
  key : getKey p loc = some (.str ns)
  abs : absIri ns = true
  gd : endsGenDelim ns = true
  nskey : hasKey ns loc = false
  sch : ∀ s rest, splitColon ns = some (s, rest) → rest.take 2 = [cSlash, cSlash] ∨ hasKey s loc = false

theorem expandIri_ns (loc : List (Str × Json)) (c : Ctx) {ns : Str} (habs : absIri ns = true)
    (hnskey : hasKey ns loc = false)
    (hsch : ∀ s rest, splitColon ns = some (s, rest) → rest.take 2 = [cSlash, cSlash] ∨ hasKey s loc = false)
    (hterm : ∀ k, hasKey k loc = false → c.term? k = none) (vocab docRel : Bool) :
    expandIri c vocab docRel ns = .iri ns := by
  apply expandIri_abs_of _ _ _ habs (hterm ns hnskey)
  intro s' rest' hs'
  rcases hsch s' rest' hs' with h | h
  · exact Or.inl h
  · exact Or.inr (hterm s' h)

theorem defineTerm_pfx (fuel : Nat) (loc : List (Str × Json)) (st : DSt) (p ns : Str)
    (hE : EntryOK loc p ns) (hdef : st.defined.lookup p = none)
    (hinv : ∀ k, hasKey k loc = false → st.ctx.terms.lookup k = none) :
    defineTerm (fuel + 1) loc st p =
      some { ctx := { st.ctx with terms := (p, tdPfx ns) :: st.ctx.terms.filter (fun e => e.1 != p) },
             defined := (p, true) :: (p, false) :: st.defined } := by
  obtain ⟨hp1, hp2, hp3, hp4, hp5, hp6⟩ := pfxNameOK_spec hE.name
  obtain ⟨a, rest, s, hns, ha, hsp, hsch⟩ := absIri_shape hE.abs
  have hkw : isKeyword p = false := isKeyword_of_head hp6
  have hnsne : ns ≠ p := by
    intro e
    have := contains_colon_of_abs hE.abs
    rw [e, hp3] at this; cases this
  have hkfns : isKeywordForm ns = false := by rw [hns]; exact isKeywordForm_alpha ha
  have hterm0 : ∀ k, hasKey k loc = false → (st.ctx.terms.filter (fun e => e.1 != p)).lookup k = none := by
    intro k hk
    by_cases hkp : k = p
    · subst hkp; exact lookup_filter_self _ _
    · rw [lookup_filter_ne _ _ _ hkp]; exact hinv k hk
  unfold defineTerm
  simp only [hdef, hp1, hkw, hp5, hp4, hE.key, Option.bind_some, parseDef]
  simp only [Option.some.injEq, hnsne, if_false, hkfns, Bool.false_eq_true, hE.nskey,
    Option.bind_some]
  have hcolns : colonAfterFirst ns = true := by rw [hns]; simp [colonAfterFirst]
  have hcond : (decide (a :: rest ≠ [cUnderscore]) && decide (List.take 2 s ≠ [cSlash, cSlash]) && hasKey (a :: rest) loc) = false := by
    rcases hE.sch _ _ hsp with h | h
    · simp [h]
    · simp [h]
  simp only [hcolns, if_true, hsp, hcond, Bool.false_eq_true, if_false, Option.bind_some]
  rw [expandIri_ns loc _ hE.abs hE.nskey hE.sch (fun k hk => by simpa [Ctx.term?] using hterm0 k hk)]
  simp only [hE.abs, Bool.not_true, Bool.false_eq_true, if_false,
    no_colon_inner hp3, hE.gd, Bool.and_self, Bool.or_true, parseContainer, Option.bind_some]
  simp [tdPfx, List.filter_filter]

structure SameEnv (c c' : Ctx) : Prop where
  mode11 : c'.mode11 = c.mode11
  docBase : c'.docBase = c.docBase
  base : c'.base = c.base
  vocab : c'.vocab = c.vocab
  lang : c'.lang = c.lang

/-- Defining the prefixes `todo` one after the other (the fold of `processCtxObj` over the member names),
    with the declarations `doneRev` defined already (last first): every step is `defineTerm_pfx`, the
    terms at the end are those of `todo.reverse ++ doneRev`, the other fields are untouched. The three
    premises on `st` say that it is the state after `doneRev`. -/
theorem defineTerm_fold (F : Nat) (loc : List (Str × Json)) :
    ∀ (todo : List (Str × Str)) (st : DSt) (doneRev : List (Str × Str)),
      (∀ e ∈ todo, EntryOK loc e.1 e.2) →
      (todo.map (·.1)).Nodup → (∀ e ∈ todo, e.1 ∉ doneRev.map (·.1)) →
      (∀ k, st.ctx.terms.lookup k = (doneRev.lookup k).map tdPfx) →
      (∀ k, k ∉ doneRev.map (·.1) → st.defined.lookup k = none) →
      (∀ k, k ∈ doneRev.map (·.1) → hasKey k loc = true) →
      ∃ st', (todo.map (·.1)).foldl (fun st t => st.bind fun st => defineTerm (F + 1) loc st t) (some st) = some st' ∧
        (∀ k, st'.ctx.terms.lookup k = ((todo.reverse ++ doneRev).lookup k).map tdPfx) ∧
        SameEnv st.ctx st'.ctx := by
  intro todo
  induction todo with
  | nil =>
    intro st doneRev _ _ _ h1 _ _
    exact ⟨st, rfl, by simpa using h1, rfl, rfl, rfl, rfl, rfl⟩
  | cons e todo ih =>
    intro st doneRev hE hnd hfresh h1 h2 h3
    obtain ⟨p, ns⟩ := e
    have hEp : EntryOK loc p ns := hE (p, ns) List.mem_cons_self
    have hpfresh : p ∉ doneRev.map (·.1) := hfresh (p, ns) List.mem_cons_self
    have hinv : ∀ k, hasKey k loc = false → st.ctx.terms.lookup k = none := by
      intro k hk
      rw [h1 k, lookup_none_of_not_mem doneRev k (fun hm => by rw [h3 k hm] at hk; cases hk)]
      rfl
    have hstep := defineTerm_pfx F loc st p ns hEp (h2 p hpfresh) hinv
    simp only [List.map_cons, List.nodup_cons] at hnd
    have hkey : hasKey p loc = true := by
      cases hh : hasKey p loc with
      | true => rfl
      | false => have := hEp.key; rw [getKey_none_of_hasKey hh] at this; cases this
    obtain ⟨st', hf, ht, henv⟩ := ih
      { ctx := { st.ctx with terms := (p, tdPfx ns) :: st.ctx.terms.filter (fun e => e.1 != p) },
        defined := (p, true) :: (p, false) :: st.defined } ((p, ns) :: doneRev)
      (fun e he => hE e (List.mem_cons_of_mem _ he)) hnd.2
      (by
        intro e he hm
        simp only [List.map_cons, List.mem_cons] at hm
        rcases hm with hm | hm
        · exact hnd.1 (hm ▸ List.mem_map.2 ⟨e, he, rfl⟩)
        · exact hfresh e (List.mem_cons_of_mem _ he) hm)
      (by
        intro k
        by_cases hkp : k = p
        · subst hkp; simp [List.lookup]
        · have : (k == p) = false := by simpa using hkp
          simp only [List.lookup, this]
          rw [lookup_filter_ne _ _ _ hkp]; exact h1 k)
      (by
        intro k hk
        simp only [List.map_cons, List.mem_cons, not_or] at hk
        have : (k == p) = false := by simpa using hk.1
        simp only [List.lookup, this]
        exact h2 k hk.2)
      (by
        intro k hk
        simp only [List.map_cons, List.mem_cons] at hk
        rcases hk with rfl | hk
        · exact hkey
        · exact h3 k hk)
    refine ⟨st', ?_, ?_, ?_⟩
    · simp only [List.map_cons, List.foldl_cons, Option.bind_some, hstep]
      exact hf
    · intro k; rw [ht k]; simp [List.append_assoc]
    · -- `henv` starts from `{ st.ctx with terms := … }`, whose other fields are those of `st.ctx`
      obtain ⟨e1, e2, e3, e4, e5⟩ := henv
      exact ⟨e1, e2, e3, e4, e5⟩

def ctxMs (bs : Option Str) (decl : List (Str × Str)) : List (Str × Json) :=
  (match bs with | some b => [(kBase, Json.str b)] | none => []) ++ decl.map (fun e => (e.1, Json.str e.2))

/-- the conditions of `C10.ctxOK` on the declarations -/
structure DeclOK (bs : Option Str) (decl : List (Str × Str)) : Prop where
  base : ∀ b, bs = some b → absIri b = true
  name : ∀ e ∈ decl, pfxNameOK e.1 = true
  abs : ∀ e ∈ decl, absIri e.2 = true
  gd : ∀ e ∈ decl, endsGenDelim e.2 = true
  sch : ∀ e ∈ decl, schemeFree (decl.map (·.1)) e.2 = true
  nodup : (decl.map (·.1)).Nodup

theorem DeclOK.not_kw {bs : Option Str} {decl : List (Str × Str)} (h : DeclOK bs decl) {k : Str}
    (hk : k.head? = some cAt) : k ∉ decl.map (·.1) := by
  intro hm
  obtain ⟨e, he, rfl⟩ := List.mem_map.1 hm
  -- the last conjunct of `pfxNameOK_spec`: the head is not `@`
  exact (pfxNameOK_spec (h.name _ he)).2.2.2.2.2 hk

theorem hasKey_ctxMs_false (bs : Option Str) (decl : List (Str × Str)) (k : Str) (h1 : k ≠ kBase)
    (h2 : k ∉ decl.map (·.1)) : hasKey k (ctxMs bs decl) = false := by
  apply hasKey_false_of_not_mem
  unfold ctxMs
  cases bs <;> simpa [h1, Function.comp_def] using h2

theorem getKey_map_mem (decl : List (Str × Str)) (p ns : Str) (hm : (p, ns) ∈ decl) (hn : (decl.map (·.1)).Nodup) :
    getKey p (decl.map (fun e => (e.1, Json.str e.2))) = some (.str ns) := by
  rw [getKey_eq_lookup]
  exact lookup_of_mem_nodup _ p _ (List.mem_map.2 ⟨_, hm, rfl⟩) (by simpa [Function.comp_def] using hn)

theorem entryOK_of_decl (bs : Option Str) (decl : List (Str × Str)) (h : DeclOK bs decl) :
    ∀ e ∈ decl, EntryOK (ctxMs bs decl) e.1 e.2 := by
  intro e he
  obtain ⟨p, ns⟩ := e
  obtain ⟨hp1, hp2, hp3, hp4, hp5, hp6⟩ := pfxNameOK_spec (h.name _ he)
  have hnocolon : ∀ k ∈ decl.map (·.1), k.contains cColon = false := by
    intro k hk
    obtain ⟨e', he', rfl⟩ := List.mem_map.1 hk
    exact (pfxNameOK_spec (h.name _ he')).2.2.1
  refine ⟨h.name _ he, ?_, h.abs _ he, h.gd _ he, ?_, ?_⟩
  · unfold ctxMs
    rw [getKey_append, getKey_none_of_not_mem, Option.none_or]
    · exact getKey_map_mem decl p ns he h.nodup
    · cases bs with
      | none => exact List.not_mem_nil
      | some b => simpa using ne_of_head (k := kBase) (by decide) hp6
  · apply hasKey_ctxMs_false
    · exact ne_of_head (by decide) (head_of_abs (h.abs _ he))
    · intro hm
      have := hnocolon _ hm
      rw [contains_colon_of_abs (h.abs _ he)] at this; cases this
  · intro s rest hs
    have hsf := h.sch _ he
    simp only [schemeFree, hs, Bool.or_eq_true, beq_iff_eq, Bool.not_eq_true'] at hsf
    rcases hsf with h1 | h1
    · exact Or.inl h1
    · right
      apply hasKey_ctxMs_false
      · obtain ⟨a, r, s', _, ha, hsp, _⟩ := absIri_shape (h.abs _ he)
        rw [hsp] at hs
        simp only [Option.some.injEq, Prod.mk.injEq] at hs
        rw [← hs.1]
        intro e; simp only [kBase, asc] at e
        have : a = cAt := by
          have := congrArg List.head? e
          simpa [cAt] using this
        exact alpha_ne_at ha this
      · intro hm
        have : s ∈ decl.map (·.1) := hm
        rw [Bool.eq_false_iff] at h1
        exact h1 (by simpa using this)

theorem getKey_ctxMs_at (bs : Option Str) (decl : List (Str × Str)) (h : DeclOK bs decl) (k : Str)
    (hk : k.head? = some cAt) (hkb : k ≠ kBase) : getKey k (ctxMs bs decl) = none :=
  getKey_none_of_hasKey (hasKey_ctxMs_false _ _ _ hkb (h.not_kw hk))

theorem filter_names_ctxMs (bs : Option Str) (decl : List (Str × Str)) (h : DeclOK bs decl) :
    ((ctxMs bs decl).filter fun m => m.1.head? ≠ some cAt).map (·.1) = decl.map (·.1) := by
  have hd : (decl.map (fun e => (e.1, Json.str e.2))).filter (fun m => m.1.head? ≠ some cAt) =
      decl.map (fun e => (e.1, Json.str e.2)) :=
    List.filter_eq_self.2 fun m hm => by
      obtain ⟨e, he, rfl⟩ := List.mem_map.1 hm
      simpa using (pfxNameOK_spec (h.name _ he)).2.2.2.2.2
  unfold ctxMs
  cases bs with
  | none => rw [List.nil_append, hd, List.map_map]; rfl
  | some b =>
    have : (List.head? kBase ≠ some cAt) = False := by simp +decide
    simp only [List.cons_append, List.nil_append, List.filter, this, decide_false]
    rw [hd, List.map_map]; rfl

theorem processCtxObj_enc (c0 : Ctx) (hc0 : c0.terms = []) (hv : c0.vocab = none) (hl : c0.lang = none)
    (bs : Option Str) (decl : List (Str × Str)) (h : DeclOK bs decl) :
    ∃ c, processCtxObj c0 (ctxMs bs decl) = some c ∧ c.vocab = none ∧ c.lang = none ∧
      c.base = bs.or c0.base ∧ c.mode11 = c0.mode11 ∧
      ∀ k, c.terms.lookup k = (decl.reverse.lookup k).map tdPfx := by
  have hall : ((ctxMs bs decl).all fun m => m.1.head? ≠ some cAt || [kBase, kVocab, kLanguage, kVersion].contains m.1) = true := by
    rw [List.all_eq_true]
    intro m hm
    unfold ctxMs at hm
    rcases List.mem_append.1 hm with hm | hm
    · cases bs with
      | none => cases hm
      | some b => simp only [List.mem_singleton] at hm; subst hm; simp +decide
    · obtain ⟨e, he, rfl⟩ := List.mem_map.1 hm
      have := (pfxNameOK_spec (h.name _ he)).2.2.2.2.2
      simp [this]
  have hver : getKey kVersion (ctxMs bs decl) = none := getKey_ctxMs_at bs decl h _ (by decide) (by decide)
  have hvoc : getKey kVocab (ctxMs bs decl) = none := getKey_ctxMs_at bs decl h _ (by decide) (by decide)
  have hlan : getKey kLanguage (ctxMs bs decl) = none := getKey_ctxMs_at bs decl h _ (by decide) (by decide)
  have hgk : getKey kBase (ctxMs bs decl) = bs.map Json.str := by
    cases bs with
    | none => exact getKey_none_of_not_mem (by simpa [ctxMs, Function.comp_def] using h.not_kw (k := kBase) (by decide))
    | some b => simp [ctxMs, getKey]
  obtain ⟨st', hf, ht, henv⟩ := defineTerm_fold (ctxMs bs decl).length (ctxMs bs decl) decl
    { ctx := { c0 with base := bs.or c0.base, vocab := c0.vocab, lang := c0.lang },
      defined := [] } []
    (entryOK_of_decl bs decl h) h.nodup (by intro e _ hm; cases hm)
    (by intro k; simp [hc0]) (by intro k _; rfl) (by intro k hk; cases hk)
  refine ⟨st'.ctx, ?_, ?_, ?_, ?_, ?_, ?_⟩
  · unfold processCtxObj
    simp only [hall, Bool.not_true, Bool.false_eq_true, if_false, hver, hvoc, hlan, Option.bind_some, hgk]
    cases bs with
    | none =>
      simp only [Option.map_none, Option.bind_some, filter_names_ctxMs none decl h]
      simp only [Option.none_or] at hf
      rw [hf]; rfl
    | some b =>
      simp only [Option.map_some, h.base b rfl, if_true, Option.bind_some, filter_names_ctxMs (some b) decl h]
      simp only [Option.some_or] at hf
      rw [hf]; rfl
  · rw [henv.vocab]; exact hv
  · rw [henv.lang]; exact hl
  · rw [henv.base]
  · rw [henv.mode11]
  · intro k; rw [ht k]; simp

end RdfModel.Proofs.C10
