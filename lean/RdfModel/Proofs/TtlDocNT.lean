/-
  C07 "every N-Triples document is Turtle (and TriG)" at DOCUMENT level: a simulation from the
  N-Triples statement machine of `Model/NQuads.lean` (`NQ.run … quads := false`) to the Turtle/TriG
  scan-function machine of `Model/TurtleDoc.lean` (no base, empty prefix table, real producers).

  Per accepted N-Triples statement `S P O .` the Turtle machine makes eight iterations of the loop
  in `Next` (top-level function, subject, required predicate-object list, object — `Next() = true`
  — then `ObjectList_Continue`, `PredicateObjectList_Continue`, `Triples_End` and back to the
  top-level function); the TriG machine differs in the first two (`labelOrSubject`, `E1`).
  The one exclusion: blank-node labels containing ':' (finding C07-bnode-label-colon).
-/
import RdfModel.Proofs.C05NQScan
import RdfModel.Proofs.C07Tok
import RdfModel.Proofs.C08MachTok
namespace RdfModel.TtlDoc
open RdfModel

/-- What the simulation needs from the two packages' tables and the white-space predicate.  Table facts (T1, all from
    `C07.tables_agree`): `hex`; `pn`/`pnU`, the name classes agree off `:` (N-Triples allows `:` in a label, Turtle does not:
    `colonT`, the one exclusion); `dotU`, a label does not start with `.`; `scalar`, name runes survive Go's `string(…)`
    (`goString`).  About the white-space predicate (`unicode.IsSpace` in both packages): `ws`, and that none of the four
    runes a statement's tokens start with is white space (`sp_*`).  `prod`: the real producers. -/
structure NTCfg (Tn : NQ.Tables) (T : Ttl.Tables) (C : Cfg) : Prop where
  prod : C.P = Producers.real T
  hex : Tn.hexDec = T.hexDec
  pn : ∀ c, c ≠ 0x3a → inRanges Tn.pnChars c = inRanges T.pnChars c
  pnU : ∀ c, c ≠ 0x3a → inRanges Tn.pnCharsU c = inRanges T.pnCharsU c
  colonT : inRanges T.pnChars 0x3a = false
  dotU : inRanges Tn.pnCharsU 0x2e = false
  scalar : ∀ c, (inRanges Tn.pnChars c = true ∨ inRanges Tn.pnCharsU c = true) → IsScalar c
  ws : ∀ c, isWs C c = NQ.isSpace Tn c
  sp_lt : NQ.isSpace Tn 0x3c = false
  sp_us : NQ.isSpace Tn 0x5f = false
  sp_dq : NQ.isSpace Tn 0x22 = false
  sp_dot : NQ.isSpace Tn 0x2e = false

variable {Tn : NQ.Tables} {T : Ttl.Tables} {C : Cfg}

theorem nt_skipToStmt (h : NTCfg Tn T C) : ∀ (b : Bool) (i : List Nat),
    (NQ.skipToStmt Tn b i = none → skipWs C .eof b i = .end_) ∧
    (∀ j, NQ.skipToStmt Tn b i = some j → ∃ c r, j = c :: r ∧ skipWs C .eof b i = .rune c r) := by
  intro b i
  induction i generalizing b with
  | nil => cases b <;> simp [NQ.skipToStmt, skipWs]
  | cons a rest ih =>
    cases b with
    | true =>
      simp only [NQ.skipToStmt, skipWs]
      by_cases h1 : a = 0x0a ∨ a = 0x0d
      · rw [if_pos h1, if_pos h1]; exact ih false
      · rw [if_neg h1, if_neg h1]; exact ih true
    | false =>
      simp only [NQ.skipToStmt, skipWs]
      by_cases h1 : a = 0x23
      · rw [if_pos h1, if_pos h1]; exact ih true
      · rw [if_neg h1, if_neg h1, h.ws a]
        by_cases h2 : NQ.isSpace Tn a = true
        · rw [if_pos h2, if_pos h2]; exact ih false
        · rw [if_neg h2, if_neg h2]
          exact ⟨fun hh => (by cases hh), fun j hj => (by injection hj with hj; subst hj; exact ⟨a, rest, rfl, rfl⟩)⟩

theorem nt_toEOL (h : NTCfg Tn T C) : ∀ (b : Bool) (i : List Nat),
    (∀ rest, NQ.toEOL Tn .eof b i = .start rest → skipWs C .eof b i = skipWs C .eof false rest) ∧
    (NQ.toEOL Tn .eof b i = .done → skipWs C .eof b i = .end_) := by
  intro b i
  induction i generalizing b with
  | nil => cases b <;> simp [NQ.toEOL, skipWs]
  | cons a rest ih =>
    cases b with
    | true =>
      simp only [NQ.toEOL, skipWs]
      by_cases h1 : a = 0x0a ∨ a = 0x0d
      · rw [if_pos h1, if_pos h1]
        exact ⟨fun r hr => (by injection hr with hr; subst hr; rfl), fun hh => (by cases hh)⟩
      · rw [if_neg h1, if_neg h1]; exact ih true
    | false =>
      simp only [NQ.toEOL, skipWs]
      by_cases h1 : a = 0x23
      · rw [if_pos h1, if_pos h1]; exact ih true
      · rw [if_neg h1, if_neg h1]
        by_cases h2 : a = 0x0d ∨ a = 0x0a
        · have : isWs C a = true := by
            simp only [isWs, Bool.or_eq_true, decide_eq_true_eq]
            rcases h2 with h2 | h2 <;> simp [h2]
          rw [if_pos h2, if_pos this]
          exact ⟨fun r hr => (by injection hr with hr; subst hr; rfl), fun hh => (by cases hh)⟩
        · rw [if_neg h2, h.ws a]
          by_cases h3 : NQ.isSpace Tn a = true
          · rw [if_pos h3, if_pos h3]; exact ih false
          · rw [if_neg h3, if_neg h3]
            exact ⟨fun r hr => (by cases hr), fun hh => (by cases hh)⟩

theorem nt_expectDot (h : NTCfg Tn T C) : ∀ (b : Bool) (i r : List Nat),
    NQ.expectDot Tn .eof b i = .ok () r → skipWs C .eof b i = .rune 0x2e r := by
  intro b i
  induction i generalizing b with
  | nil => intro r hh; cases b <;> simp [NQ.expectDot] at hh
  | cons a rest ih =>
    intro r hh
    cases b with
    | true =>
      simp only [NQ.expectDot, skipWs] at hh ⊢
      split at hh
      · next h1 => rw [if_pos h1]; exact ih _ _ hh
      · next h1 => rw [if_neg h1]; exact ih _ _ hh
    | false =>
      simp only [NQ.expectDot, skipWs] at hh ⊢
      split at hh
      · next h1 =>
        subst h1
        injection hh with _ h2; subst h2
        have : isWs C 0x2e = false := by rw [h.ws]; exact h.sp_dot
        simp [this]
      · next h1 =>
        split at hh
        · next h2 => rw [if_pos h2]; exact ih _ _ hh
        · next h2 =>
          rw [if_neg h2, h.ws a]
          split at hh
          · next h3 => rw [if_pos h3]; exact ih _ _ hh
          · cases hh

theorem nt_captureTerm_skip (h : NTCfg Tn T C) (urlOk : List Nat → Bool) (pos : NQ.Pos) :
    ∀ (b : Bool) (i : List Nat) (t : Term (List Nat)) (r : List Nat),
    NQ.captureTerm Tn urlOk .eof pos b i = .ok t r →
    ∃ c rest, skipWs C .eof b i = .rune c rest ∧ NQ.captureTerm Tn urlOk .eof pos false (c :: rest) = .ok t r ∧
      (c = 0x3c ∨ (c = 0x5f ∧ pos.bnode = true) ∨ (c = 0x22 ∧ pos.literal = true)) := by
  intro b i
  induction i generalizing b with
  | nil => intro t r hh; cases b <;> simp [NQ.captureTerm] at hh
  | cons a rest ih =>
    intro t r hh
    cases b with
    | true =>
      simp only [NQ.captureTerm, skipWs] at hh ⊢
      split at hh
      · next h1 => rw [if_pos h1]; exact ih _ _ _ hh
      · next h1 => rw [if_neg h1]; exact ih _ _ _ hh
    | false =>
      have hopen : ∀ (hc : a = 0x3c ∨ (a = 0x5f ∧ pos.bnode = true) ∨ (a = 0x22 ∧ pos.literal = true)),
          skipWs C .eof false (a :: rest) = .rune a rest := by
        intro hc
        have h1 : a ≠ 0x23 := by rcases hc with rfl | ⟨rfl, _⟩ | ⟨rfl, _⟩ <;> decide
        have h2 : isWs C a = false := by
          rw [h.ws]
          rcases hc with rfl | ⟨rfl, _⟩ | ⟨rfl, _⟩
          · exact h.sp_lt
          · exact h.sp_us
          · exact h.sp_dq
        simp [skipWs, h1, h2]
      by_cases h1 : a = 0x3c
      · exact ⟨a, rest, hopen (Or.inl h1), hh, Or.inl h1⟩
      · by_cases h2 : (a == 0x5f && pos.bnode) = true
        · have h2' : a = 0x5f ∧ pos.bnode = true := by simpa using h2
          exact ⟨a, rest, hopen (Or.inr (Or.inl h2')), hh, Or.inr (Or.inl h2')⟩
        · by_cases h3 : (a == 0x22 && pos.literal) = true
          · have h3' : a = 0x22 ∧ pos.literal = true := by simpa using h3
            exact ⟨a, rest, hopen (Or.inr (Or.inr h3')), hh, Or.inr (Or.inr h3')⟩
          · have h2'' : ¬ ((decide (a = 0x5f) && pos.bnode) = true) := by simpa using h2
            have h3'' : ¬ ((decide (a = 0x22) && pos.literal) = true) := by simpa using h3
            simp only [NQ.captureTerm, if_neg h1, if_neg h2'', if_neg h3''] at hh
            simp only [skipWs]
            split at hh
            · next h4 => rw [if_pos h4]; exact ih _ _ _ hh
            · next h4 =>
              rw [if_neg h4, h.ws a]
              split at hh
              · next h5 => rw [if_pos h5]; exact ih _ _ _ hh
              · cases hh

theorem goString_small {l : List Nat} (h : ∀ x ∈ l, x < 0x80) : goString l = l :=
  goString_id_of_scalar (fun r hr => Or.inl (by have := h r hr; omega))

theorem alnum_small {c : Nat} (h : (NQ.isAlpha c || NQ.isDigit c) = true) : c < 0x80 := by
  simp only [NQ.isAlpha, NQ.isDigit, Bool.or_eq_true, Bool.and_eq_true, decide_eq_true_eq] at h
  omega

/-- The Turtle loops are the N-Triples loops; only `string(…)` is applied to the tag at the end. -/
theorem langSecondary_sub (e : End) (i acc v r : List Nat) (h : NQ.langSecondary e i acc = .ok v r) :
    Ttl.langSecondary e i acc = .ok (goString v) r := by
  fun_induction NQ.langSecondary e i acc <;> simp_all [Ttl.langSecondary, Ttl.langDone, Ttl.isAlpha, Ttl.isDigit]

/-- The first Turtle loop is the first N-Triples loop, with `string(…)` at the end, as long as what has been read does not end in `-`
    (`hacc`; the N-Triples loop sees to that itself, Turtle's `langDone` tests it again). -/
theorem langPrimary_sub (e : End) (i acc v r : List Nat) (hacc : acc.head? ≠ some 0x2d)
    (h : NQ.langPrimary e i acc = .ok v r) : Ttl.langPrimary e i acc = .ok (goString v) r := by
  fun_induction NQ.langPrimary e i acc
  · cases h
  · next c rest acc hc ih =>
    simp only [Ttl.langPrimary, Ttl.isAlpha, hc, if_true]
    exact ih (by rintro h'; injection h' with h'; subst h'; revert hc; decide) h
  · cases h
  · next rest acc hc hne =>
    simp only [Ttl.langPrimary, Ttl.isAlpha, hc, hne, if_true]
    exact langSecondary_sub e _ _ _ _ h
  · cases h
  · next c rest acc hc h2 hne =>
    injection h with h1 h3; subst h1; subst h3
    simp [Ttl.langPrimary, Ttl.isAlpha, hc, h2, hne, Ttl.langDone, hacc]

/-- a tag is ASCII, so `string(…)` leaves it as it is -/
theorem langSecondary_small (e : End) (i acc v r : List Nat) (hacc : ∀ x ∈ acc, x < 0x80)
    (h : NQ.langSecondary e i acc = .ok v r) : ∀ x ∈ v, x < 0x80 := by
  -- left after `simp_all`: a letter or digit read (the rune joins the ASCII accumulator), and the end of the tag
  fun_induction NQ.langSecondary e i acc <;> simp_all
  · next hc ih => exact ih (alnum_small (by simpa using hc))
  · obtain ⟨rfl, _⟩ := h; simpa using hacc

theorem langPrimary_small (e : End) (i acc v r : List Nat) (hacc : ∀ x ∈ acc, x < 0x80)
    (h : NQ.langPrimary e i acc = .ok v r) : ∀ x ∈ v, x < 0x80 := by
  -- left after `simp_all`: a letter read, the hand-over to the second loop after `-`, and the end of the tag
  fun_induction NQ.langPrimary e i acc <;> simp_all
  · next hc ih => exact ih (alnum_small (by simp [hc]))
  · exact langSecondary_small e _ _ _ _ (by simpa using hacc) h
  · obtain ⟨rfl, _⟩ := h; simpa using hacc

theorem nt_bnFinish_mem (accRev rest l r : List Nat) (h : NQ.bnFinish Tn accRev rest = .ok l r) :
    ∀ x ∈ accRev, x ≠ 0x2e → x ∈ l := by
  unfold NQ.bnFinish at h
  split at h
  · cases accRev with
    | nil => cases h
    | cons a more =>
      simp only [] at h
      by_cases ha : a = 0x2e
      · rw [if_pos ha] at h
        cases more with
        | nil => cases h
        | cons l' t =>
          simp only [] at h
          split at h
          · injection h with q1 q2; subst q1
            intro x hx hne
            rcases List.mem_cons.mp hx with rfl | hx
            · exact absurd ha hne
            · exact List.mem_reverse.mpr hx
          · cases h
      · rw [if_neg ha] at h
        split at h
        · injection h with q1 q2; subst q1
          intro x hx _; exact List.mem_reverse.mpr hx
        · cases h
  · injection h with q1 q2; subst q1
    intro x hx _; exact List.mem_reverse.mpr hx

theorem nt_bnLoop_mem (e : End) : ∀ (i acc l r : List Nat), NQ.bnLoop Tn e i acc = .ok l r →
    ∀ x ∈ acc, x ≠ 0x2e → x ∈ l := by
  intro i
  induction i with
  | nil => intro acc l r h; simp [NQ.bnLoop] at h
  | cons c rest ih =>
    intro acc l r h
    simp only [NQ.bnLoop] at h
    split at h
    · intro x hx hne; exact ih _ _ _ h x (List.mem_cons_of_mem _ hx) hne
    · exact nt_bnFinish_mem _ _ _ _ h

structure LabelAcc (Tn : NQ.Tables) (acc : List Nat) : Prop where
  noColon : ∀ x ∈ acc, x ≠ 0x3a
  scalar : ∀ x ∈ acc, IsScalar x
  first : ∃ front c0, acc = front ++ [c0] ∧ c0 ≠ 0x2e

theorem nt_bnFinish (h : NTCfg Tn T C) (acc rest l r : List Nat) (ha : LabelAcc Tn acc)
    (hh : NQ.bnFinish Tn acc rest = .ok l r) : Ttl.bnDone T acc rest = .ok l r := by
  have hgo : ∀ m : List Nat, (∀ x ∈ m, x ∈ acc) → goString m.reverse = m.reverse :=
    fun m hm => goString_id_of_scalar (fun x hx => ha.scalar x (hm x (List.mem_reverse.mp hx)))
  obtain ⟨front, c0, hacc, hc0⟩ := ha.first
  unfold NQ.bnFinish at hh
  cases acc with
  | nil => cases front <;> simp at hacc
  | cons a more =>
    by_cases hlen : (a :: more).length ≥ 2
    · rw [if_pos hlen] at hh; simp only [] at hh
      by_cases hdot : a = 0x2e
      · rw [if_pos hdot] at hh
        cases more with
        | nil => cases hh
        | cons l' t =>
          simp only [] at hh
          split at hh
          · next hp =>
            injection hh with q1 q2; subst q1; subst q2
            have hl' : l' ≠ 0x3a := ha.noColon l' (by simp)
            have hpT : inRanges T.pnChars l' = true := by rw [← h.pn l' hl']; exact hp
            simp only [Ttl.bnDone, hdot, if_true, hpT, Bool.not_true, Bool.and_false, Bool.false_eq_true, if_false]
            rw [hgo (l' :: t) (fun x hx => List.mem_cons_of_mem _ hx)]
          · cases hh
      · rw [if_neg hdot] at hh
        split at hh
        · next hp =>
          injection hh with q1 q2; subst q1; subst q2
          have ha' : a ≠ 0x3a := ha.noColon a (by simp)
          have hpT : inRanges T.pnChars a = true := by rw [← h.pn a ha']; exact hp
          simp only [Ttl.bnDone, hdot, if_false, hpT, Bool.not_true, Bool.and_false, Bool.false_eq_true]
          rw [hgo (a :: more) (fun x hx => hx)]
        · cases hh
    · rw [if_neg hlen] at hh
      injection hh with q1 q2; subst q1; subst q2
      have hm : more = [] := by
        cases more with
        | nil => rfl
        | cons b t => simp at hlen
      subst hm
      have hac : a = c0 := by
        cases front with
        | nil => simpa using hacc
        | cons f ft => cases ft <;> simp at hacc
      have hdot : a ≠ 0x2e := hac ▸ hc0
      simp only [Ttl.bnDone, hdot, if_false, List.isEmpty_nil, Bool.not_true, Bool.false_and, Bool.false_eq_true]
      rw [hgo [a] (fun x hx => hx)]

theorem nt_bnLoop (h : NTCfg Tn T C) (e : End) : ∀ (i acc l r : List Nat), LabelAcc Tn acc → 0x3a ∉ l →
    NQ.bnLoop Tn e i acc = .ok l r → Ttl.bnLoop T e i acc = .ok l r := by
  intro i
  induction i with
  | nil => intro acc l r _ _ hh; simp [NQ.bnLoop] at hh
  | cons c rest ih =>
    intro acc l r ha hl hh
    have hmem := nt_bnLoop_mem e _ _ _ _ hh
    simp only [NQ.bnLoop, Ttl.bnLoop] at hh ⊢
    by_cases h1 : (inRanges Tn.pnChars c || c = 0x2e) = true
    · rw [if_pos h1] at hh
      have hmem' := nt_bnLoop_mem e _ _ _ _ hh
      have hc : c ≠ 0x3a := by
        intro hc; subst hc
        exact hl (hmem' _ List.mem_cons_self (by decide))
      have h1T : (inRanges T.pnChars c || c = 0x2e) = true := by rw [← h.pn c hc]; exact h1
      rw [if_pos h1T]
      refine ih _ _ _ ⟨?_, ?_, ?_⟩ hl hh
      · intro x hx
        rcases List.mem_cons.mp hx with rfl | hx
        · exact hc
        · exact ha.noColon x hx
      · intro x hx
        rcases List.mem_cons.mp hx with rfl | hx
        · simp only [Bool.or_eq_true, decide_eq_true_eq] at h1
          rcases h1 with h1 | h1
          · exact h.scalar _ (Or.inl h1)
          · subst h1; exact Or.inl (by decide)
        · exact ha.scalar x hx
      · obtain ⟨front, c0, hacc, hc0⟩ := ha.first
        exact ⟨c :: front, c0, by simp [hacc], hc0⟩
    · rw [if_neg h1] at hh
      have h1T : ¬ (inRanges T.pnChars c || c = 0x2e) = true := by
        by_cases hc : c = 0x3a
        · subst hc; simp [h.colonT]
        · rw [← h.pn c hc]; exact h1
      rw [if_neg h1T]
      exact nt_bnFinish h _ _ _ _ ha hh

theorem nt_bnode (h : NTCfg Tn T C) (e : End) (r1 l r : List Nat) (hl : 0x3a ∉ l)
    (hh : NQ.captureBNode Tn e r1 = .ok l r) : Ttl.produceBlankNode T e (0x5f :: 0x3a :: r1) = .ok l r := by
  cases r1 with
  | nil => simp [NQ.captureBNode] at hh
  | cons c rest =>
    simp only [NQ.captureBNode] at hh
    split at hh
    · next h1 =>
      have hmem := nt_bnLoop_mem e _ _ _ _ hh
      have hdot : c ≠ 0x2e := by
        intro hc; subst hc
        simp [h.dotU, NQ.isDigit] at h1
      have hc : c ≠ 0x3a := by
        intro hc; subst hc
        exact hl (hmem _ (by simp) (by decide))
      have h1T : (inRanges T.pnCharsU c || Ttl.isDigit c) = true := by
        rw [← h.pnU c hc]; exact h1
      simp only [Ttl.produceBlankNode, ne_eq, not_true_eq_false, if_false, h1T, if_true]
      refine nt_bnLoop h e _ _ _ _ ⟨?_, ?_, ⟨[], c, rfl, hdot⟩⟩ hl hh
      · intro x hx; simp at hx; subst hx; exact hc
      · intro x hx; simp at hx; subst hx
        simp only [Bool.or_eq_true] at h1
        rcases h1 with h1 | h1
        · exact h.scalar _ (Or.inr h1)
        · simp only [NQ.isDigit, Bool.and_eq_true, decide_eq_true_eq] at h1
          exact Or.inl (by omega)
    · cases hh

/-- the exclusion: a blank-node label containing ':' (finding C07-bnode-label-colon) -/
def labelOK : Term (List Nat) → Prop
  | .bnode l => 0x3a ∉ l
  | _ => True

theorem nt_iri (h : NTCfg Tn T C) (urlOk : List Nat → Bool) (e : End) (env : Env) (henv : env.base = none)
    (rest v r : List Nat) (hh : NQ.captureIRI Tn urlOk e rest = .ok v r) :
    iriIRIREF C e env (0x3c :: rest) = .ok v r := by
  unfold NQ.captureIRI at hh
  cases hs : NQ.scanIRI Tn e .body rest [] with
  | err c => rw [hs] at hh; cases hh
  | ok dec rest' =>
    rw [hs] at hh; simp only [] at hh
    split at hh
    · injection hh with q1 q2; subst q1; subst q2
      have := Proofs.C07Tok.scanIRI_sub Tn T h.hex e rest _ _ _ _ hs
      have hp : C.P.iriref e (0x3c :: rest) = .ok (goString dec) rest' := by
        rw [h.prod]; simp only [Producers.real, Ttl.produceIRIREF, if_true]; exact this
      simp [iriIRIREF, hp, resolveIRI, henv]
    · cases hh

theorem nt_string (h : NTCfg Tn T C) (e : End) (inp v r : List Nat)
    (hh : NQ.scanLit Tn e .body inp [] = .ok v r) (hstop : v = [] → C02.EmptyStrStop e r) :
    C.P.string e (0x22 :: inp) = .ok (goString v) r := by
  rw [h.prod]
  exact Proofs.C07Tok.produceString_sub Tn T h.hex e inp v r hh hstop

theorem nt_term_cases (urlOk : List Nat → Bool) (e : End) (pos : NQ.Pos) (c : Nat) (rest : List Nat)
    (t : Term (List Nat)) (r : List Nat)
    (hop : c = 0x3c ∨ (c = 0x5f ∧ pos.bnode = true) ∨ (c = 0x22 ∧ pos.literal = true))
    (hh : NQ.captureTerm Tn urlOk e pos false (c :: rest) = .ok t r) :
    (c = 0x3c ∧ ∃ v, t = .iri v ∧ NQ.captureIRI Tn urlOk e rest = .ok v r) ∨
    (c = 0x5f ∧ ∃ r1 l, rest = 0x3a :: r1 ∧ t = .bnode l ∧ NQ.captureBNode Tn e r1 = .ok l r) ∨
    (c = 0x22 ∧ pos.literal = true ∧ NQ.captureLiteral Tn urlOk e rest = .ok t r) := by
  rcases hop with rfl | ⟨rfl, hb⟩ | ⟨rfl, hl⟩
  · left
    simp only [NQ.captureTerm, if_true] at hh
    cases hc : NQ.captureIRI Tn urlOk e rest with
    | err x => rw [hc] at hh; cases hh
    | ok v r' => rw [hc] at hh; simp only [] at hh; injection hh with q1 q2; subst q1; subst q2; exact ⟨rfl, v, rfl, rfl⟩
  · right; left
    simp only [NQ.captureTerm, hb, show ¬ (0x5f : Nat) = 0x3c by decide, if_false, decide_true, Bool.and_self, if_true] at hh
    cases rest with
    | nil => cases hh
    | cons c1 r1 =>
      simp only [] at hh
      split at hh
      · cases hh
      · next h1 =>
        have h1' : c1 = 0x3a := by simpa using h1
        subst h1'
        cases hc : NQ.captureBNode Tn e r1 with
        | err x => rw [hc] at hh; cases hh
        | ok l r' => rw [hc] at hh; simp only [] at hh; injection hh with q1 q2; subst q1; subst q2; exact ⟨rfl, r1, l, rfl, rfl, hc⟩
  · right; right
    simp only [NQ.captureTerm, hl, show ¬ (0x22 : Nat) = 0x3c by decide, if_false, show ¬ (0x22 : Nat) = 0x5f by decide,
      decide_false, Bool.false_and, Bool.false_eq_true, decide_true, Bool.and_self, if_true] at hh
    exact ⟨rfl, hl, hh⟩

theorem nt_node_term (h : NTCfg Tn T C) (urlOk : List Nat → Bool) (env : Env) (henv : env.base = none)
    (c : Nat) (rest : List Nat) (t : Term (List Nat)) (r : List Nat) (hok : labelOK t)
    (hop : c = 0x3c ∨ (c = 0x5f ∧ NQ.posSubject.bnode = true) ∨ (c = 0x22 ∧ NQ.posSubject.literal = true))
    (hh : NQ.captureTerm Tn urlOk .eof NQ.posSubject false (c :: rest) = .ok t r) :
    (c = 0x3c ∧ termIRIREF C .eof env (c :: rest) = .ok (t.map BN.lbl) r env) ∨
    (c = 0x5f ∧ termBNode C .eof env (c :: rest) = .ok (t.map BN.lbl) r env) := by
  rcases nt_term_cases urlOk .eof _ c rest t r hop hh with ⟨rfl, v, rfl, hc⟩ | ⟨rfl, r1, l, rfl, rfl, hc⟩ | ⟨_, hl, _⟩
  · left
    refine ⟨rfl, ?_⟩
    simp [termIRIREF, nt_iri h urlOk .eof env henv rest v r hc, IriRes.toTerm, Term.map]
  · right
    refine ⟨rfl, ?_⟩
    have hp : C.P.bnode .eof (0x5f :: 0x3a :: r1) = .ok l r := by
      rw [h.prod]; exact nt_bnode h .eof r1 l r hok hc
    have hne := (Proofs.C05NQ.captureBNode_reads hc).2.1
    simp [termBNode, hp, Env.labelled, hne, Term.map]
  · cases hl

/-- `reader_scan_Object` on what `captureObject` accepts (the rune after the object is not `"`:
    in an accepted statement white space, a comment or `.` follows). -/
theorem nt_object (h : NTCfg Tn T C) (urlOk : List Nat → Bool) (x : Ectx) (env : Env) (henv : env.base = none)
    (c : Nat) (rest : List Nat) (o : Term (List Nat)) (r : List Nat) (hok : labelOK o)
    (hop : c = 0x3c ∨ (c = 0x5f ∧ NQ.posObject.bnode = true) ∨ (c = 0x22 ∧ NQ.posObject.literal = true))
    (hh : NQ.captureTerm Tn urlOk .eof NQ.posObject false (c :: rest) = .ok o r)
    (hnext : ∃ d r', r = d :: r' ∧ d ≠ 0x22) :
    stepObject C .eof x env c rest = .ok { emit := some (mkStmt x (o.map BN.lbl)), inp := r, env := env } := by
  rcases nt_term_cases urlOk .eof _ c rest o r hop hh with ⟨rfl, v, rfl, hc⟩ | ⟨rfl, r1, l, rfl, rfl, hc⟩ | ⟨rfl, _, hc⟩
  · simp [stepObject, termIRIREF, nt_iri h urlOk .eof env henv rest v r hc, IriRes.toTerm, emitOfTerm, Term.map]
  · have hp : C.P.bnode .eof (0x5f :: 0x3a :: r1) = .ok l r := by
      rw [h.prod]; exact nt_bnode h .eof r1 l r hok hc
    have hne := (Proofs.C05NQ.captureBNode_reads hc).2.1
    simp [stepObject, termBNode, hp, Env.labelled, hne, emitOfTerm, Term.map]
  · obtain ⟨d, r', hr, hd⟩ := hnext
    unfold NQ.captureLiteral at hc
    cases hs : NQ.scanLit Tn .eof .body rest [] with
    | err k => rw [hs] at hc; cases hc
    | ok dec rtail =>
      rw [hs] at hc; simp only [] at hc
      cases rtail with
      | nil => simp only [] at hc; injection hc with _ q2; rw [hr] at q2; cases q2
      | cons c' rest' =>
        simp only [] at hc
        have hstr : ∀ (hne : c' ≠ 0x22), C.P.string .eof (0x22 :: rest) = .ok (goString dec) (c' :: rest') :=
          fun hne => nt_string h .eof rest dec _ hs (fun _ => hne)
        by_cases h1 : c' = 0x40
        · subst h1
          rw [if_pos rfl] at hc
          cases hl : NQ.langPrimary .eof rest' [] with
          | err k => rw [hl] at hc; cases hc
          | ok tag rr =>
            rw [hl] at hc; simp only [] at hc
            injection hc with q1 q2; subst q1; subst q2
            have hlt : C.P.langtag .eof (0x40 :: rest') = .ok tag rr := by
              rw [h.prod]
              show Ttl.produceLANGTAG .eof (0x40 :: rest') = _
              simp only [Ttl.produceLANGTAG, if_true]
              rw [langPrimary_sub .eof _ _ _ _ (by simp) hl, goString_small (langPrimary_small .eof _ _ _ _ (by simp) hl)]
            simp [stepObject, hstr (by decide), stepLiteralTail, hlt, Term.map]
        · rw [if_neg h1] at hc
          by_cases h2 : c' = 0x5e
          · subst h2
            rw [if_pos rfl] at hc
            cases rest' with
            | nil => cases hc
            | cons c1 rr1 =>
              simp only [] at hc
              split at hc
              · cases hc
              · next h3 =>
                have h3' : c1 = 0x5e := by simpa using h3
                subst h3'
                cases rr1 with
                | nil => cases hc
                | cons c2 rr2 =>
                  simp only [] at hc
                  split at hc
                  · cases hc
                  · next h4 =>
                    have h4' : c2 = 0x3c := by simpa using h4
                    subst h4'
                    cases hi : NQ.captureIRI Tn urlOk .eof rr2 with
                    | err k => rw [hi] at hc; cases hc
                    | ok dt rr =>
                      rw [hi] at hc; simp only [] at hc
                      split at hc
                      · cases hc
                      · next h5 =>
                        injection hc with q1 q2; subst q1; subst q2
                        have := nt_iri h urlOk .eof env henv rr2 dt rr hi
                        simp [stepObject, hstr (by decide), stepLiteralTail, this, h5, Term.map]
          · rw [if_neg h2] at hc
            injection hc with q1 q2; subst q1
            have hne : c' ≠ 0x22 := by
              rw [hr] at q2; injection q2 with q3 _; rw [q3]; exact hd
            subst q2
            simp [stepObject, hstr hne, stepLiteralTail, h1, h2, Term.map]

section machine
open RdfModel.C08 (Vis SkEq TermTok)

def ntEnv : Env := { base := none, prefixes := [], nextAnon := 0 }

def ntStmt (q : Quad (List Nat)) : Stmt :=
  ⟨some (q.s.map BN.lbl), some (q.p.map BN.lbl), q.o.map BN.lbl, none⟩

theorem nt_vis (h : NTCfg Tn T C) {c : Nat} (hc : c = 0x3c ∨ c = 0x5f ∨ c = 0x2e) : Vis C c := by
  refine ⟨by omega, ?_⟩
  rw [h.ws]
  rcases hc with rfl | rfl | rfl
  · exact h.sp_lt
  · exact h.sp_us
  · exact h.sp_dot

theorem nt_termTok (h : NTCfg Tn T C) (urlOk : List Nat → Bool) (c : Nat) (rest : List Nat) (t : Term (List Nat))
    (r : List Nat) (hok : labelOK t)
    (hop : c = 0x3c ∨ (c = 0x5f ∧ NQ.posSubject.bnode = true) ∨ (c = 0x22 ∧ NQ.posSubject.literal = true))
    (hh : NQ.captureTerm Tn urlOk .eof NQ.posSubject false (c :: rest) = .ok t r) :
    TermTok C ntEnv (t.map BN.lbl) r c rest := by
  rcases nt_node_term h urlOk ntEnv rfl c rest t r hok hop hh with ⟨rfl, ht⟩ | ⟨rfl, ht⟩
  · exact .ref (nt_vis h (.inl rfl)) ht
  · exact .bn (nt_vis h (.inr (.inl rfl))) ht

theorem skip_dot_ne_quote (h : NTCfg Tn T C) {r3 r4 : List Nat} (hd : skipWs C .eof false r3 = .rune 0x2e r4) :
    ∃ d r', r3 = d :: r' ∧ d ≠ 0x22 := by
  cases r3 with
  | nil => simp [skipWs] at hd
  | cons d r' =>
    refine ⟨d, r', rfl, ?_⟩
    rintro rfl
    have : isWs C 0x22 = false := by rw [h.ws]; exact h.sp_dq
    simp [skipWs, this] at hd

/-- Subject: the top-level function, then `Triples_Subject_*` (Turtle) or the `E1` closure (TriG) — the two
    packages differ only in the evaluation context `xe` that `Triples_End` is pushed with. -/
theorem nt_subject_run (h : NTCfg Tn T C) {s' : TtlDoc.T} {c : Nat} {rest r1 rest2 j : List Nat} (htok : TermTok C ntEnv s' r1 c rest)
    (hns : nodeShape s') (hj : SkEq C j (c :: rest)) (hp : skipWs C .eof false r1 = .rune 0x3c rest2) :
    ∃ xe i1, SkEq C i1 (0x3c :: rest2) ∧
      Steps C .eof ⟨[⟨{}, .statement⟩], j, ntEnv⟩ []
        ⟨[⟨{ subj := some s' }, .polRequired⟩, ⟨{ subj := some s' }, .polContinue⟩, ⟨xe, .triplesEnd⟩, ⟨{}, .statement⟩],
          i1, ntEnv⟩ := by
  cases htrig : C.trig with
  | false => exact ⟨{}, r1, (C08.skEq_rune hp).symm, by simpa using C08.subj_run htok hj (C08.fn_statement_ttl_tok htrig htok)⟩
  | true =>
    have s2 := C08.Steps.tok (s := [⟨{}, .statement⟩]) (C08.skEq_rune hp).symm rfl
      (nt_vis h (.inl rfl))
      (C08.fn_tgE1_subj {} ntEnv s' (fun a b c h => by subst h; exact hns) 0x3c rest2 (by decide)) (Steps.refl _)
    exact ⟨{ subj := some s' }, 0x3c :: rest2, C08.SkEq.rfl', by
      simpa using C08.Steps.tok (s := []) hj rfl htok.vis (C08.fn_statement_trig_tok htrig htok) (by simpa using s2)⟩

theorem nt_statement_sim (h : NTCfg Tn T C) (urlOk : List Nat → Bool) (i j : List Nat) (q : Quad (List Nat)) (r4 : List Nat)
    (hj : skipWs C .eof false j = skipWs C .eof false i)
    (hst : NQ.statement Tn urlOk .eof false i = .quad q r4) (hs : labelOK q.s) (ho : labelOK q.o) :
    Steps C .eof ⟨[⟨{}, .statement⟩], j, ntEnv⟩ [ntStmt q] ⟨[⟨{}, .statement⟩], r4, ntEnv⟩ := by
  unfold NQ.statement at hst
  cases hsk : NQ.skipToStmt Tn false i with
  | none => rw [hsk] at hst; cases hst
  | some inp' =>
    rw [hsk] at hst; simp only [] at hst
    obtain ⟨c, rest, rfl, hskip⟩ := (nt_skipToStmt h false i).2 _ hsk
    cases hS : NQ.captureTerm Tn urlOk .eof NQ.posSubject false (c :: rest) with
    | err x => rw [hS] at hst; cases hst
    | ok s r1 =>
      rw [hS] at hst; simp only [] at hst
      cases hP : NQ.captureTerm Tn urlOk .eof NQ.posPredicate false r1 with
      | err x => rw [hP] at hst; cases hst
      | ok p r2 =>
        rw [hP] at hst; simp only [] at hst
        cases hO : NQ.captureTerm Tn urlOk .eof NQ.posObject false r2 with
        | err x => rw [hO] at hst; cases hst
        | ok o r3 =>
          rw [hO] at hst; simp only [Bool.false_eq_true, if_false] at hst
          cases hD : NQ.expectDot Tn .eof false r3 with
          | err x => rw [hD] at hst; cases hst
          | ok u r4' =>
            rw [hD] at hst; simp only [] at hst
            injection hst with q1 q2; subst q1; subst q2
            simp only at hs ho
            obtain ⟨c1, rest1, hsk1, hS', hop1⟩ := nt_captureTerm_skip h urlOk _ false _ _ _ hS
            have hidem := skipWs_idem C .eof _ _ _ _ hskip
            rw [hidem] at hsk1
            injection hsk1 with e1 e2; subst e1; subst e2
            obtain ⟨c2, rest2, hsk2, hP', hop2⟩ := nt_captureTerm_skip h urlOk _ false _ _ _ hP
            obtain ⟨c3, rest3, hsk3, hO', hop3⟩ := nt_captureTerm_skip h urlOk _ false _ _ _ hO
            have hdot := nt_expectDot h false _ _ hD
            have hc2 : c2 = 0x3c := by
              rcases hop2 with hc | ⟨_, hb⟩ | ⟨_, hb⟩
              · exact hc
              · cases hb
              · cases hb
            subst hc2
            rcases nt_term_cases urlOk .eof _ _ rest2 p r2 (Or.inl rfl) hP' with ⟨_, pv, rfl, hpv⟩ | ⟨hc, _⟩ | ⟨hc, _⟩
            · have htok := nt_termTok h urlOk c rest s r1 hs hop1 hS'
              have hns : nodeShape (s.map BN.lbl) := by
                rcases nt_term_cases urlOk .eof _ _ rest s r1 hop1 hS' with ⟨_, v, rfl, _⟩ | ⟨_, _, l, _, rfl, _⟩ | ⟨_, hl, _⟩
                · trivial
                · trivial
                · cases hl
              obtain ⟨xe, i1, hi1, run1⟩ := nt_subject_run h htok hns (C08.skEq_rune (hj.trans hskip)).symm hsk2
              let x1 : Ectx := { subj := some (s.map BN.lbl) }
              let x2 : Ectx := { subj := some (s.map BN.lbl), pred := some (.iri pv) }
              have hdotv : Vis C 0x2e := nt_vis h (.inr (.inr rfl))
              have hd' : SkEq C r3 (0x2e :: r4') := (C08.skEq_rune hdot).symm
              -- `.`: ObjectList_Continue, PredicateObjectList_Continue, Triples_End
              have e3 := C08.Steps.tok (s := [⟨{}, .statement⟩]) C08.SkEq.rfl' rfl hdotv (C08.fn_triplesEnd xe ntEnv r4') (Steps.refl _)
              have e2 := C08.Steps.tok (s := [⟨xe, .triplesEnd⟩, ⟨{}, .statement⟩]) C08.SkEq.rfl' rfl hdotv
                (C08.fn_polContinue_pop x1 ntEnv 0x2e r4' (by decide)) (by simpa using e3)
              have e1 := C08.Steps.tok (s := [⟨x1, .polContinue⟩, ⟨xe, .triplesEnd⟩, ⟨{}, .statement⟩]) hd' rfl hdotv
                (C08.fn_objListContinue_pop x2 ntEnv 0x2e r4' (by decide)) (by simpa using e2)
              have hov : Vis C c3 := ⟨by rcases hop3 with rfl | ⟨rfl, _⟩ | ⟨rfl, _⟩ <;> decide, by
                rw [h.ws]; rcases hop3 with rfl | ⟨rfl, _⟩ | ⟨rfl, _⟩
                · exact h.sp_lt
                · exact h.sp_us
                · exact h.sp_dq⟩
              have o1 := C08.Steps.tok (s := [⟨x2, .objListContinue⟩, ⟨x1, .polContinue⟩, ⟨xe, .triplesEnd⟩, ⟨{}, .statement⟩])
                (C08.skEq_rune hsk3).symm rfl hov
                (show stepFn C .eof .object x2 ntEnv (.rune c3 rest3) = _ from
                  nt_object h urlOk x2 ntEnv rfl c3 rest3 o r3 ho hop3 hO' (skip_dot_ne_quote h hdot))
                (by simpa using e1)
              have p1 := C08.Steps.tok (s := [⟨x1, .polContinue⟩, ⟨xe, .triplesEnd⟩, ⟨{}, .statement⟩]) hi1 rfl (nt_vis h (.inl rfl))
                ((C08.fn_pol_of x1 ntEnv 0x3c rest2 (.iri pv) r2 true (C08.stepPOL_tok (.ref (nt_vis h (.inl rfl))
                  (by simp [termIRIREF, nt_iri h urlOk .eof ntEnv rfl rest2 pv r2 hpv, IriRes.toTerm])) (by decide))).trans
                  (C08.polGo_eq _ _ _ _))
                (by simpa [x1, x2] using o1)
              simpa [ntStmt, mkStmt, x2, Term.map] using run1.trans p1
            · cases hc
            · cases hc

theorem nt_statement_done (urlOk : List Nat → Bool) (i : List Nat)
    (h : NQ.statement Tn urlOk .eof false i = .done) : NQ.skipToStmt Tn false i = none := by
  unfold NQ.statement at h
  cases hsk : NQ.skipToStmt Tn false i with
  | none => rfl
  | some inp' =>
    rw [hsk] at h; simp only [] at h
    -- after the skip no branch of `statement` answers `.done`
    repeat' split at h
    all_goals cases h

theorem nt_next_cases (h : NTCfg Tn T C) (urlOk : List Nat → Bool) (started : Bool) (i : List Nat) :
    (NQ.next Tn urlOk .eof false started i = .done → skipWs C .eof false i = .end_) ∧
    (∀ q r4, NQ.next Tn urlOk .eof false started i = .quad q r4 →
      ∃ i0, skipWs C .eof false i = skipWs C .eof false i0 ∧ NQ.statement Tn urlOk .eof false i0 = .quad q r4) := by
  unfold NQ.next
  cases started with
  | false =>
    simp only [Bool.false_eq_true, if_false]
    exact ⟨fun hd => (nt_skipToStmt h false i).1 (nt_statement_done urlOk i hd), fun q r4 hq => ⟨i, rfl, hq⟩⟩
  | true =>
    simp only [if_true]
    cases he : NQ.toEOL Tn .eof false i with
    | done => exact ⟨fun _ => (nt_toEOL h false i).2 he, fun q r4 hq => (by cases hq)⟩
    | fail x => exact ⟨fun hd => (by cases hd), fun q r4 hq => (by cases hq)⟩
    | start rest =>
      have hsk := (nt_toEOL h false i).1 rest he
      simp only []
      exact ⟨fun hd => (by rw [hsk]; exact (nt_skipToStmt h false rest).1 (nt_statement_done urlOk rest hd)),
        fun q r4 hq => ⟨rest, hsk, hq⟩⟩

theorem nt_run_sim (h : NTCfg Tn T C) (urlOk : List Nat → Bool) :
    ∀ (fuel : Nat) (started : Bool) (i : List Nat) (qs : List (Quad (List Nat))),
      NQ.runFuel Tn urlOk .eof false fuel started i = (qs, .clean) →
      (∀ q ∈ qs, labelOK q.s ∧ labelOK q.o) →
      Steps C .eof ⟨[⟨{}, .statement⟩], i, ntEnv⟩ (qs.map ntStmt) ⟨[], [], ntEnv⟩ := by
  intro fuel
  induction fuel with
  | zero => intro started i qs hrun; simp [NQ.runFuel] at hrun
  | succ fuel ih =>
    intro started i qs hrun hok
    unfold NQ.runFuel at hrun
    obtain ⟨hdone, hquad⟩ := nt_next_cases h urlOk started i
    cases hn : NQ.next Tn urlOk .eof false started i with
    | fail x => rw [hn] at hrun; simp at hrun
    | done =>
      rw [hn] at hrun; simp only [Prod.mk.injEq] at hrun
      obtain ⟨rfl, _⟩ := hrun
      exact Steps.quiet (C08.stepConf_end {} [] i ntEnv (hdone hn)) (Steps.refl _)
    | quad q r4 =>
      rw [hn] at hrun; simp only [] at hrun
      cases hr : NQ.runFuel Tn urlOk .eof false fuel true r4 with
      | mk qs' v =>
        rw [hr] at hrun; simp only [Prod.mk.injEq] at hrun
        obtain ⟨rfl, rfl⟩ := hrun
        obtain ⟨i0, hi0, hstmt⟩ := hquad q r4 hn
        have hq := hok q List.mem_cons_self
        exact (nt_statement_sim h urlOk i0 i q r4 hi0 hstmt hq.1 hq.2).trans
          (ih true r4 qs' hr (fun q' hq' => hok q' (List.mem_cons_of_mem _ hq')))

theorem nt_doc_sim (h : NTCfg Tn T C) (hC : C.P.Consumes) (urlOk : List Nat → Bool) (inp : List Nat)
    (qs : List (Quad (List Nat))) (hrun : NQ.run Tn urlOk .eof false inp = (qs, .clean))
    (hok : ∀ q ∈ qs, labelOK q.s ∧ labelOK q.o) :
    run C .eof none [] inp = (qs.map ntStmt, .clean) :=
  run_of_steps hC none [] inp _ _ (nt_run_sim h urlOk _ false inp qs hrun hok) rfl

end machine

end RdfModel.TtlDoc
