/-
  Fragment "PLAIN TARGETS": every itemref
  token names no element, or names an element whose subtree contains neither an item nor an itemref.  Streaming
  semantics `swR` (at an item: link statements, rdf:type statements, then — in token order — the properties found in
  the referenced subtrees, then the children) is a permutation of `Spec.Microdata.denote`.
-/
import RdfModel.Proofs.C11MdStream
namespace RdfModel.Mdd.Ref
open RdfModel RdfModel.Desc RdfModel.Spec.Html RdfModel.Spec.Microdata RdfModel.Mdd RdfModel.Mdd.Typed RdfModel.Mdd.Stream

def refsOf (a : Attrs) : List Str := match a.itemref with | some v => Spec.Html.fields v | none => []

mutual
/-- neither an item nor an itemref anywhere in the subtree -/
def plain : Tree → Bool
  | .text _ => true
  | .elem _ a ks => !a.itemscope && a.itemref.isNone && plainKids ks
def plainKids : List Tree → Bool
  | [] => true
  | k :: ks => plain k && plainKids ks
end

/-- the element named by an itemref token, if any -/
def target (doc : Tree) (id : Str) : Option (Path × Tree) :=
  match findIdNode id [] doc with
  | some q => (match nodeAt doc q with | some t => some (q, t) | none => none)
  | none => none

/-- the properties an item gets through its itemref tokens, in token order -/
def refProps (base : Str) (doc : Tree) (cur : T × List Str) (ids : List Str) : List Tr :=
  ids.flatMap (fun id => match target doc id with | some qt => propsOf base (some cur) qt.1 qt.2 | none => [])

mutual
/-- every itemref token of every element names nothing or a plain subtree -/
def refsOk (doc : Tree) : Tree → Bool
  | .text _ => true
  | .elem _ a ks =>
    (refsOf a).all (fun id => match target doc id with | some qt => plain qt.2 | none => true) && refsOkKids doc ks
def refsOkKids (doc : Tree) : List Tree → Bool
  | [] => true
  | k :: ks => refsOk doc k && refsOkKids doc ks
end

theorem refsOk_elem {doc : Tree} {tag : Tag} {a : Attrs} {ks : List Tree} (h : refsOk doc (.elem tag a ks) = true) :
    (∀ id ∈ refsOf a, ∀ qt, target doc id = some qt → plain qt.2 = true) ∧ refsOkKids doc ks = true := by
  simp only [refsOk, Bool.and_eq_true, List.all_eq_true] at h
  refine ⟨?_, h.2⟩
  intro id hid qt hqt
  have := h.1 id hid
  rwa [hqt] at this

mutual
/-- streaming semantics with itemref (plain targets) -/
def swR (base : Str) (doc : Tree) (cur : Cur) (here : Path) : Tree → List Tr
  | .text _ => []
  | .elem tag a ks =>
    linkOf base cur here (.elem tag a ks) ++
    (if a.itemscope then
      typeStmts base a here ++ (refProps base doc (subject base a here, typesOf a) (refsOf a) ++
        swRKids base doc (some (subject base a here, typesOf a)) here 0 ks)
    else swRKids base doc cur here 0 ks)
def swRKids (base : Str) (doc : Tree) (cur : Cur) (here : Path) (i : Nat) : List Tree → List Tr
  | [] => []
  | k :: ks => swR base doc cur (here ++ [i]) k ++ swRKids base doc cur here (i + 1) ks
end

mutual
/-- item by item, each item: types, properties below it, properties through itemref -/
def denoteRelR (base : Str) (doc : Tree) (here : Path) : Tree → List Tr
  | .text _ => []
  | .elem _ a ks =>
    (if a.itemscope then
      typeStmts base a here ++ (propsOfKids base (some (subject base a here, typesOf a)) here 0 ks ++
        refProps base doc (subject base a here, typesOf a) (refsOf a))
    else []) ++ denoteRelRKids base doc here 0 ks
def denoteRelRKids (base : Str) (doc : Tree) (here : Path) (i : Nat) : List Tree → List Tr
  | [] => []
  | k :: ks => denoteRelR base doc (here ++ [i]) k ++ denoteRelRKids base doc here (i + 1) ks
end

mutual
theorem swR_perm (base : Str) (doc : Tree) : ∀ (t : Tree) (cur : Cur) (here : Path),
    (swR base doc cur here t).Perm (propsOf base cur here t ++ denoteRelR base doc here t)
  | .text _, _, _ => by simp [swR, propsOf, denoteRelR]
  | .elem tag a ks, cur, here => by
    simp only [swR, propsOf, denoteRelR]
    by_cases h : a.itemscope = true
    · simp only [h, ↓reduceIte, List.append_nil, List.append_assoc]
      apply List.Perm.append_left
      apply List.Perm.append_left
      have ih := swRKids_perm base doc ks (some (subject base a here, typesOf a)) here 0
      refine (List.Perm.append_left _ ih).trans ?_
      rw [← List.append_assoc, ← List.append_assoc]
      exact List.Perm.append_right _ List.perm_append_comm
    · simp only [h, Bool.false_eq_true, ↓reduceIte, List.nil_append, List.append_assoc]
      apply List.Perm.append_left
      exact swRKids_perm base doc ks cur here 0
theorem swRKids_perm (base : Str) (doc : Tree) : ∀ (ks : List Tree) (cur : Cur) (here : Path) (i : Nat),
    (swRKids base doc cur here i ks).Perm (propsOfKids base cur here i ks ++ denoteRelRKids base doc here i ks)
  | [], _, _, _ => by simp [swRKids, propsOfKids, denoteRelRKids]
  | k :: ks, cur, here, i => by
    simp only [swRKids, propsOfKids, denoteRelRKids]
    exact ((swR_perm base doc k cur (here ++ [i])).append (swRKids_perm base doc ks cur here (i + 1))).trans
      (perm_interleave _ _ _ _)
end

mutual
theorem visit_plain (doc : Tree) : ∀ (t : Tree) (here : Path), nodeAt doc here = some t → plain t = true →
    ∀ p ∈ visit here t, ∃ tag a ks, nodeAt doc p = some (.elem tag a ks) ∧ a.itemscope = false
  | .text _, _, _, _ => by simp [visit]
  | .elem tag a ks, here, h, hp => by
    simp only [plain, Bool.and_eq_true, Bool.not_eq_true'] at hp
    intro p hpm
    simp only [visit, List.mem_append] at hpm
    rcases hpm with hpm | hpm
    · split at hpm
      · simp at hpm
      · simp only [List.mem_singleton] at hpm; subst hpm; exact ⟨tag, a, ks, h, hp.1.1⟩
    · simp only [hp.1.1, Bool.false_eq_true, ↓reduceIte] at hpm
      exact visitKids_plain doc ks here 0 (kidsAt_of_node doc here tag a ks h) hp.2 p hpm
theorem visitKids_plain (doc : Tree) : ∀ (ks : List Tree) (here : Path) (i : Nat), KidsAt doc here i ks →
    plainKids ks = true → ∀ p ∈ visitKids here i ks, ∃ tag a ks', nodeAt doc p = some (.elem tag a ks') ∧ a.itemscope = false
  | [], _, _, _, _ => by simp [visitKids]
  | k :: ks, here, i, h, hp => by
    simp only [plainKids, Bool.and_eq_true] at hp
    intro p hpm
    simp only [visitKids, List.mem_append] at hpm
    rcases hpm with hpm | hpm
    · exact visit_plain doc k (here ++ [i]) (kidsAt_head h) hp.1 p hpm
    · exact visitKids_plain doc ks here (i + 1) (kidsAt_tail h) hp.2 p hpm
end

theorem target_node (doc : Tree) (id : Str) (q : Path) (t : Tree) (h : target doc id = some (q, t)) :
    findIdNode id [] doc = some q ∧ nodeAt doc q = some t := by
  unfold target at h
  split at h
  · rename_i q' hq
    split at h
    · rename_i t' ht
      simp only [Option.some.injEq, Prod.mk.injEq] at h
      obtain ⟨rfl, rfl⟩ := h
      exact ⟨hq, ht⟩
    · cases h
  · cases h

theorem itemTriples_relR (base : Str) (doc : Tree) (here : Path) (tag : Tag) (a : Attrs) (ks : List Tree)
    (hnode : nodeAt doc here = some (.elem tag a ks)) (hs : a.itemscope = true)
    (hrefs : ∀ id ∈ refsOf a, ∀ qt, target doc id = some qt → plain qt.2 = true) :
    itemTriples base doc here =
      typeStmts base a here ++ (propsOfKids base (some (subject base a here, typesOf a)) here 0 ks ++
        refProps base doc (subject base a here, typesOf a) (refsOf a)) := by
  let viaRef : List Path := (refsOf a).flatMap (fun id =>
      match findIdNode id [] doc with
      | some q => (match nodeAt doc q with | some t => visit q t | none => [])
      | none => [])
  have hvia : ∀ p ∈ viaRef, p ≠ here := by
    intro p hp hEq
    simp only [viaRef, List.mem_flatMap] at hp
    obtain ⟨id, hid, hp⟩ := hp
    split at hp
    · rename_i q hq
      split at hp
      · rename_i t ht
        have htar : target doc id = some (q, t) := by simp [target, hq, ht]
        obtain ⟨tg, a', ks', hn, hs'⟩ := visit_plain doc t q ht (hrefs id hid _ htar) p hp
        rw [hEq, hnode] at hn
        simp only [Option.some.injEq, Tree.elem.injEq] at hn
        rw [← hn.2.1, hs] at hs'
        cases hs'
      · simp at hp
    · simp at hp
  have hfilter : (visitKids here 0 ks ++ viaRef).filter (fun q => q != here) = visitKids here 0 ks ++ viaRef := by
    apply List.filter_eq_self.mpr
    intro q hq
    simp only [bne_iff_ne, ne_eq]
    rcases List.mem_append.mp hq with hq | hq
    · have := visitKids_len ks here 0 q hq
      intro h; subst h; omega
    · exact hvia q hq
  have hk := visitKids_props base doc (subject base a here, typesOf a) ks here 0 (kidsAt_of_node doc here tag a ks hnode)
  have hr : viaRef.flatMap (propF base doc (subject base a here, typesOf a)) =
      refProps base doc (subject base a here, typesOf a) (refsOf a) := by
    simp only [viaRef, refProps, List.flatMap_assoc]
    apply flatMap_congr'
    intro id _
    unfold target
    split
    · rename_i q hq
      split
      · rename_i t ht
        exact visit_props base doc _ t q ht
      · simp
    · simp
  have hprops : props doc here = (visitKids here 0 ks ++ viaRef).filter (fun q => q != here) := by
    simp only [props, hnode, viaRef, refsOf]
    rfl
  simp only [itemTriples, hnode]
  rw [hprops, hfilter, List.flatMap_append]
  rw [← hk, ← hr]
  rfl

mutual
theorem items_relR (base : Str) (doc : Tree) : ∀ (t : Tree) (here : Path), nodeAt doc here = some t →
    refsOk doc t = true → (itemsNode here t).flatMap (itemTriples base doc) = denoteRelR base doc here t
  | .text _, _, _, _ => by simp [itemsNode, denoteRelR]
  | .elem tag a ks, here, h, hr => by
    simp only [itemsNode, denoteRelR, List.flatMap_append]
    congr 1
    · split
      · rename_i hs
        simp [itemTriples_relR base doc here tag a ks h hs (refsOk_elem hr).1]
      · rfl
    · exact itemsKids_relR base doc ks here 0 (kidsAt_of_node doc here tag a ks h) (refsOk_elem hr).2
theorem itemsKids_relR (base : Str) (doc : Tree) : ∀ (ks : List Tree) (here : Path) (i : Nat), KidsAt doc here i ks →
    refsOkKids doc ks = true → (itemsKids here i ks).flatMap (itemTriples base doc) = denoteRelRKids base doc here i ks
  | [], _, _, _, _ => by simp [itemsKids, denoteRelRKids]
  | k :: ks, here, i, h, hr => by
    simp only [refsOkKids, Bool.and_eq_true] at hr
    simp only [itemsKids, denoteRelRKids, List.flatMap_append]
    rw [items_relR base doc k (here ++ [i]) (kidsAt_head h) hr.1, itemsKids_relR base doc ks here (i + 1) (kidsAt_tail h) hr.2]
end

theorem swR_perm_denote (base : Str) (doc : Tree) (h : refsOk doc doc = true) :
    (swR base doc none [] doc).Perm (denote base doc) := by
  have h1 := swR_perm base doc doc none []
  rw [propsOf_none, List.nil_append] at h1
  have h2 : denote base doc = denoteRelR base doc [] doc := items_relR base doc doc [] (nodeAt_nil doc) h
  rw [h2]; exact h1

/-! ## documents without itemref: the case `refsOf a = []` -/

mutual
theorem noRef_rel (base : Str) (doc : Tree) : ∀ (t : Tree) (here : Path), noRef t = true →
    refsOk doc t = true ∧ denoteRelR base doc here t = denoteRel base here t
  | .text _, _, _ => by simp [refsOk, denoteRelR, denoteRel]
  | .elem tag a ks, here, h => by
    simp only [noRef, Bool.and_eq_true, Option.isNone_iff_eq_none] at h
    obtain ⟨h1, h2⟩ := noRefKids_rel base doc ks here 0 h.2
    simp [refsOk, denoteRelR, denoteRel, refsOf, refProps, h.1, h1, h2]
theorem noRefKids_rel (base : Str) (doc : Tree) : ∀ (ks : List Tree) (here : Path) (i : Nat), noRefKids ks = true →
    refsOkKids doc ks = true ∧ denoteRelRKids base doc here i ks = denoteRelKids base here i ks
  | [], _, _, _ => by simp [refsOkKids, denoteRelRKids, denoteRelKids]
  | k :: ks, here, i, h => by
    simp only [noRefKids, Bool.and_eq_true] at h
    obtain ⟨h1, h2⟩ := noRef_rel base doc k (here ++ [i]) h.1
    obtain ⟨h3, h4⟩ := noRefKids_rel base doc ks here (i + 1) h.2
    simp [refsOkKids, denoteRelRKids, denoteRelKids, h1, h2, h3, h4]
end

end RdfModel.Mdd.Ref

namespace RdfModel.Mdd.Stream
open RdfModel RdfModel.Desc RdfModel.Spec.Html RdfModel.Spec.Microdata RdfModel.Mdd RdfModel.Mdd.Typed

/-- the list half of `denote_eq_rel` below, for a run of siblings -/
theorem itemsKids_rel (base : Str) (doc : Tree) : ∀ (ks : List Tree) (here : Path) (i : Nat), KidsAt doc here i ks →
    noRefKids ks = true → (itemsKids here i ks).flatMap (itemTriples base doc) = denoteRelKids base here i ks :=
  fun ks here i h hr => by
    rw [Ref.itemsKids_relR base doc ks here i h (Ref.noRefKids_rel base doc ks here i hr).1,
      (Ref.noRefKids_rel base doc ks here i hr).2]

theorem denote_eq_rel (base : Str) (doc : Tree) (h : noRef doc = true) : denote base doc = denoteRel base [] doc := by
  rw [← (Ref.noRef_rel base doc doc [] h).2]
  exact Ref.items_relR base doc doc [] (nodeAt_nil doc) (Ref.noRef_rel base doc doc [] h).1

theorem swP_perm_denote (base : Str) (doc : Tree) (h : noRef doc = true) :
    (swP base none [] doc).Perm (denote base doc) := by
  rw [denote_eq_rel base doc h]; exact swP_perm_top base doc

end RdfModel.Mdd.Stream
