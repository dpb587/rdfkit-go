/-
  Recomposition with the writer: a document that the writer's validation accepts for a graph `g` (`Spec.Microdata.validDoc`: it
  denotes `g` under the placement `pos`), without itemref or with itemref tokens that name plain elements (second half, `refsOk`),
  has the blank nodes of its denotation at blank-node item positions; hence any list that is a permutation of the denotation
  renamed by `rank` — the decoder's output, by Proofs/C11MdNested and Proofs/C11MdRef — is `g` up to order and a renaming
  injective on the graph's blank nodes (`reads_back`).
-/
import RdfModel.Proofs.C11MdRef
import RdfModel.Proofs.TermMap
namespace RdfModel.Mdd.Written
open RdfModel RdfModel.Desc RdfModel.Spec.Html RdfModel.Spec.Microdata RdfModel.Mdd RdfModel.Mdd.Typed RdfModel.Mdd.Stream
  RdfModel.Mdd.Nested

theorem subject_bnode (base : Str) (a : Attrs) (here p : Path) (h : subject base a here = .bnode p) :
    p = here ∧ isBnItem a = true := by
  unfold subject at h
  unfold isBnItem
  cases hv : a.itemid with
  | none => rw [hv] at h; simp at h; exact ⟨h.symm, rfl⟩
  | some v =>
    rw [hv] at h
    by_cases h0 : v = []
    · simp [h0] at h; exact ⟨h.symm, by simp [h0]⟩
    · simp [h0] at h

theorem value_not_bnode (base : Str) (here : Path) (tag : Tag) (a : Attrs) (ks : List Tree) (hs : a.itemscope = false)
    (p : Path) : value base here (.elem tag a ks) ≠ .bnode p := by
  -- by tag: a literal or an IRI outright, or a `match` on the attribute (URL-valued ones, `time`) with such branches
  cases tag <;> simp only [value, hs, Bool.false_eq_true, ↓reduceIte, Spec.Microdata.strLit] <;>
    (first | (intro h; cases h) | (split <;> (intro h; cases h)))

theorem subject_bnItems (base : Str) (here : Path) (tag : Tag) (a : Attrs) (ks : List Tree) (hs : a.itemscope = true)
    (p : Path) (hp : subject base a here = .bnode p) : p ∈ bnItems here (.elem tag a ks) := by
  obtain ⟨rfl, hb⟩ := subject_bnode base a here p hp
  simp [bnItems, hs, hb]

theorem kids_sub_bnItems (here : Path) (tag : Tag) (a : Attrs) (ks : List Tree) (p : Path)
    (h : p ∈ bnItemsK here 0 ks) : p ∈ bnItems here (.elem tag a ks) := by
  simp only [bnItems, List.mem_append]; exact Or.inr h

mutual
theorem propsOf_bn (base : Str) (c : T × List Str) : ∀ (t : Tree) (here : Path), ∀ tr ∈ propsOf base (some c) here t,
    tr.s = c.1 ∧ ∀ p, tr.o = .bnode p → p ∈ bnItems here t
  | .text _, _ => by simp [propsOf]
  | .elem tag a ks, here => by
    intro tr htr
    simp only [propsOf, List.mem_append] at htr
    rcases htr with htr | htr
    · simp only [linkOf, List.mem_map] at htr
      obtain ⟨nm, _, rfl⟩ := htr
      refine ⟨rfl, ?_⟩
      intro p hp
      simp only at hp
      by_cases hs : a.itemscope = true
      · have hv : value base here (.elem tag a ks) = subject base a here := by simp [value, hs]
        rw [hv] at hp
        exact subject_bnItems base here tag a ks hs p hp
      · exact absurd hp (value_not_bnode base here tag a ks (by simpa using hs) p)
    · split at htr
      · simp at htr
      · obtain ⟨h1, h2⟩ := propsOfKids_bn base c ks here 0 tr htr
        exact ⟨h1, fun p hp => kids_sub_bnItems here tag a ks p (h2 p hp)⟩
theorem propsOfKids_bn (base : Str) (c : T × List Str) : ∀ (ks : List Tree) (here : Path) (i : Nat),
    ∀ tr ∈ propsOfKids base (some c) here i ks, tr.s = c.1 ∧ ∀ p, tr.o = .bnode p → p ∈ bnItemsK here i ks
  | [], _, _ => by simp [propsOfKids]
  | k :: ks, here, i => by
    intro tr htr
    simp only [propsOfKids, List.mem_append] at htr
    simp only [bnItemsK, List.mem_append]
    rcases htr with htr | htr
    · obtain ⟨h1, h2⟩ := propsOf_bn base c k (here ++ [i]) tr htr
      exact ⟨h1, fun p hp => Or.inl (h2 p hp)⟩
    · obtain ⟨h1, h2⟩ := propsOfKids_bn base c ks here (i + 1) tr htr
      exact ⟨h1, fun p hp => Or.inr (h2 p hp)⟩
end

mutual
theorem denoteRel_bn (base : Str) : ∀ (t : Tree) (here : Path), ∀ tr ∈ denoteRel base here t,
    (∀ p, tr.s = .bnode p → p ∈ bnItems here t) ∧ (∀ p, tr.o = .bnode p → p ∈ bnItems here t)
  | .text _, _ => by simp [denoteRel]
  | .elem tag a ks, here => by
    intro tr htr
    simp only [denoteRel, List.mem_append] at htr
    rcases htr with htr | htr
    · split at htr
      · rename_i hs
        have hsub := subject_bnItems base here tag a ks hs
        simp only [List.mem_append] at htr
        rcases htr with htr | htr
        · simp only [typeStmts, List.mem_map] at htr
          obtain ⟨ty, _, rfl⟩ := htr
          exact ⟨fun p hp => hsub p hp, fun p hp => by cases hp⟩
        · obtain ⟨h1, h2⟩ := propsOfKids_bn base (subject base a here, typesOf a) ks here 0 tr htr
          exact ⟨fun p hp => hsub p (h1.symm.trans hp), fun p hp => kids_sub_bnItems here tag a ks p (h2 p hp)⟩
      · simp at htr
    · obtain ⟨h1, h2⟩ := denoteRelKids_bn base ks here 0 tr htr
      exact ⟨fun p hp => kids_sub_bnItems here tag a ks p (h1 p hp), fun p hp => kids_sub_bnItems here tag a ks p (h2 p hp)⟩
theorem denoteRelKids_bn (base : Str) : ∀ (ks : List Tree) (here : Path) (i : Nat), ∀ tr ∈ denoteRelKids base here i ks,
    (∀ p, tr.s = .bnode p → p ∈ bnItemsK here i ks) ∧ (∀ p, tr.o = .bnode p → p ∈ bnItemsK here i ks)
  | [], _, _ => by simp [denoteRelKids]
  | k :: ks, here, i => by
    intro tr htr
    simp only [denoteRelKids, List.mem_append] at htr
    simp only [bnItemsK, List.mem_append]
    rcases htr with htr | htr
    · obtain ⟨h1, h2⟩ := denoteRel_bn base k (here ++ [i]) tr htr
      exact ⟨fun p hp => Or.inl (h1 p hp), fun p hp => Or.inl (h2 p hp)⟩
    · obtain ⟨h1, h2⟩ := denoteRelKids_bn base ks here (i + 1) tr htr
      exact ⟨fun p hp => Or.inr (h1 p hp), fun p hp => Or.inr (h2 p hp)⟩
end

open RdfModel.Mdd.Ref in
mutual
theorem plain_bnItems : ∀ (t : Tree) (here : Path), plain t = true → bnItems here t = []
  | .text _, _, _ => by simp [bnItems]
  | .elem tag a ks, here, h => by
    simp only [plain, Bool.and_eq_true, Bool.not_eq_true'] at h
    simp [bnItems, h.1.1, plainKids_bnItems ks here 0 h.2]
theorem plainKids_bnItems : ∀ (ks : List Tree) (here : Path) (i : Nat), plainKids ks = true → bnItemsK here i ks = []
  | [], _, _, _ => by simp [bnItemsK]
  | k :: ks, here, i, h => by
    simp only [plainKids, Bool.and_eq_true] at h
    simp [bnItemsK, plain_bnItems k (here ++ [i]) h.1, plainKids_bnItems ks here (i + 1) h.2]
end

open RdfModel.Mdd.Ref in
theorem refProps_bn (base : Str) (doc : Tree) (c : T × List Str) (ids : List Str)
    (hids : ∀ id ∈ ids, ∀ qt, target doc id = some qt → plain qt.2 = true) :
    ∀ tr ∈ refProps base doc c ids, tr.s = c.1 ∧ ∀ p, tr.o ≠ .bnode p := by
  intro tr htr
  simp only [refProps, List.mem_flatMap] at htr
  obtain ⟨id, hid, htr⟩ := htr
  split at htr
  · rename_i qt hqt
    obtain ⟨h1, h2⟩ := propsOf_bn base c qt.2 qt.1 tr htr
    refine ⟨h1, fun p hp => ?_⟩
    have := h2 p hp
    rw [plain_bnItems qt.2 qt.1 (hids id hid qt hqt)] at this
    simp at this
  · simp at htr

open RdfModel.Mdd.Ref in
mutual
theorem denoteRelR_bn (base : Str) (doc : Tree) : ∀ (t : Tree) (here : Path), refsOk doc t = true →
    ∀ tr ∈ denoteRelR base doc here t,
    (∀ p, tr.s = .bnode p → p ∈ bnItems here t) ∧ (∀ p, tr.o = .bnode p → p ∈ bnItems here t)
  | .text _, _, _ => by simp [denoteRelR]
  | .elem tag a ks, here, hro => by
    intro tr htr
    simp only [denoteRelR, List.mem_append] at htr
    rcases htr with htr | htr
    · split at htr
      · rename_i hs
        have hsub := subject_bnItems base here tag a ks hs
        simp only [List.mem_append] at htr
        rcases htr with htr | htr | htr
        · simp only [typeStmts, List.mem_map] at htr
          obtain ⟨ty, _, rfl⟩ := htr
          exact ⟨fun p hp => hsub p hp, fun p hp => by cases hp⟩
        · obtain ⟨h1, h2⟩ := propsOfKids_bn base (subject base a here, typesOf a) ks here 0 tr htr
          exact ⟨fun p hp => hsub p (h1.symm.trans hp), fun p hp => kids_sub_bnItems here tag a ks p (h2 p hp)⟩
        · obtain ⟨h1, h2⟩ := refProps_bn base doc (subject base a here, typesOf a) (refsOf a) (refsOk_elem hro).1 tr htr
          exact ⟨fun p hp => hsub p (h1.symm.trans hp), fun p hp => absurd hp (h2 p)⟩
      · simp at htr
    · obtain ⟨h1, h2⟩ := denoteRelRKids_bn base doc ks here 0 (refsOk_elem hro).2 tr htr
      exact ⟨fun p hp => kids_sub_bnItems here tag a ks p (h1 p hp), fun p hp => kids_sub_bnItems here tag a ks p (h2 p hp)⟩
theorem denoteRelRKids_bn (base : Str) (doc : Tree) : ∀ (ks : List Tree) (here : Path) (i : Nat),
    refsOkKids doc ks = true → ∀ tr ∈ denoteRelRKids base doc here i ks,
    (∀ p, tr.s = .bnode p → p ∈ bnItemsK here i ks) ∧ (∀ p, tr.o = .bnode p → p ∈ bnItemsK here i ks)
  | [], _, _, _ => by simp [denoteRelRKids]
  | k :: ks, here, i, hro => by
    simp only [refsOkKids, Bool.and_eq_true] at hro
    intro tr htr
    simp only [denoteRelRKids, List.mem_append] at htr
    simp only [bnItemsK, List.mem_append]
    rcases htr with htr | htr
    · obtain ⟨h1, h2⟩ := denoteRelR_bn base doc k (here ++ [i]) hro.1 tr htr
      exact ⟨fun p hp => Or.inl (h1 p hp), fun p hp => Or.inl (h2 p hp)⟩
    · obtain ⟨h1, h2⟩ := denoteRelRKids_bn base doc ks here (i + 1) hro.2 tr htr
      exact ⟨fun p hp => Or.inr (h1 p hp), fun p hp => Or.inr (h2 p hp)⟩
end

section
variable {β : Type} [DecidableEq β]

/-- what remains once the decoder's output `sw` (renamed by `rank`) is known to be a permutation of the denotation
    and the blank nodes of the denotation are known to sit at blank-node item positions: a validated document is read
    back to the graph -/
theorem reads_back (lbl : β → Str) (hinj : Function.Injective lbl) (base : Str) (g : List (Triple β)) (doc : Tree)
    (pos : β → Path) (hv : validDoc base g doc pos = true) (sw : List Tr) (hsw : sw.Perm (denote base doc))
    (hbn : ∀ tr ∈ denote base doc,
      (∀ p, tr.s = .bnode p → p ∈ bnItems [] doc) ∧ (∀ p, tr.o = .bnode p → p ∈ bnItems [] doc)) :
    (∀ a ∈ bnodesOf g, ∀ b ∈ bnodesOf g,
      (rank doc ∘ candSigma lbl g pos) a = (rank doc ∘ candSigma lbl g pos) b → a = b) ∧
    (sw.map (Triple.map (rank doc))).Perm (g.map (Triple.map (rank doc ∘ candSigma lbl g pos))) := by
  obtain ⟨hσinj, hperm⟩ := validDoc_sound lbl hinj base g doc pos hv
  constructor
  · have hmem : ∀ a ∈ bnodesOf g, candSigma lbl g pos a ∈ bnItems [] doc := by
      intro a ha
      obtain ⟨t, htg, h⟩ := (mem_bnodesOf g a).1 ha
      obtain ⟨h1, h2⟩ := hbn _ (hperm.mem_iff.mpr (List.mem_map.mpr ⟨t, htg, rfl⟩))
      rcases h with h | h
      · exact h1 _ (by simp [Triple.map, h, Term.map])
      · exact h2 _ (by simp [Triple.map, h, Term.map])
    intro a ha b hb hab
    exact hσinj (rank_inj doc _ _ (hmem a ha) (hmem b hb) hab)
  · refine ((hsw.map (Triple.map (rank doc))).trans (hperm.map (Triple.map (rank doc)))).trans ?_
    rw [List.map_map]
    apply List.Perm.of_eq
    apply List.map_congr_left
    intro t _
    exact t.map_map _ _

end
end RdfModel.Mdd.Written
