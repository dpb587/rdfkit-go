import RdfModel.Proofs.C11RaFrame
import RdfModel.Proofs.C11MdBasic
namespace RdfModel.Rdfad
open RdfModel RdfModel.Desc
open RdfModel.Mdd (Node Attr Bytes Subj fields trimSpace typeTokens textContent)

/-- evaluation context of a node that is not the node `decode` starts at -/
def KidOK (ctx : Ctx) : Prop := ctx.parentSubject.isSome ∧ ctx.parentObject.isSome ∧ ctx.language ≠ some []

/-- evaluation context of the start node (a DocumentNode in Go: DataAtom 0) -/
def TopOK (ctx : Ctx) (isRoot : Bool) (n : Node) : Prop :=
  isRoot = true ∧ isHeadBody n = false ∧ ctx.incomplete = [] ∧ ctx.language ≠ some []

def NodeOK (ctx : Ctx) (isRoot : Bool) (n : Node) : Prop := KidOK ctx ∨ TopOK ctx isRoot n

/-- what steps 5 and 6 establish -/
structure Post (isRoot : Bool) (a : A) (l l' : L) : Prop where
  ns : l'.newSubject.isSome
  typed : a.typeof.isSome → a.about.isNone → l'.typed.isSome
  lang : l'.lang = l.lang
  skip : l'.skip = true → isRoot = false

theorem orElseSt_spec {c} (r : Option Subj × St) (f : St → Option Subj × St) (hr : core r.2 = c)
    (hf : ∀ st, core st = c → core (f st).2 = c ∧ (f st).1.isSome) :
    core (orElseSt r f).2 = c ∧ (orElseSt r f).1.isSome := by
  unfold orElseSt
  split
  · exact ⟨hr, rfl⟩
  · exact hf _ hr

theorem parentObject_of {ctx : Ctx} {isRoot : Bool} {n : Node} (h : NodeOK ctx isRoot n) (hr : isRoot = false) :
    ctx.parentObject.isSome := by
  rcases h with h | h
  · exact h.2.1
  · rw [h.1] at hr; cases hr

theorem inheritSubject_spec (E : Env) (active isRoot : Bool) (n : Node) (ctx : Ctx) (l : L) (st : St)
    (h : NodeOK ctx isRoot n) :
    core (inheritSubject E active isRoot n ctx l st).2 = core st ∧ (inheritSubject E active isRoot n ctx l st).1.isSome := by
  unfold inheritSubject
  split
  · rename_i hb
    have hpo : ctx.parentObject.isSome := by
      rcases h with h | h
      · exact h.2.1
      · simp [h.2.1] at hb
    obtain ⟨s, hs⟩ := Option.isSome_iff_exists.mp hpo
    simp [assertParentObject, hs]
  · split
    · rw [res_empty]; simp
    · rename_i hr
      have := parentObject_of h (by simpa using hr)
      simp [this]

theorem step5a_spec (E : Env) (active isRoot : Bool) (n : Node) (ctx : Ctx) (a : A) (l : L) (st : St)
    (h : NodeOK ctx isRoot n) (hl : l.skip = false) :
    core (step5a E active isRoot n ctx a l st).2 = core st ∧ Post isRoot a l (step5a E active isRoot n ctx a l st).1 := by
  unfold step5a
  have h1 := core_resOpt E st l a.about true
  generalize resOpt E st l a.about true = rr at h1 ⊢
  obtain ⟨aboutRes, st1⟩ := rr
  simp only at h1 ⊢
  have h2 := orElseSt_spec (c := core st) (aboutRes, st1) (inheritSubject E active isRoot n ctx l) h1
    (by intro st' hs; have := inheritSubject_spec E active isRoot n ctx l st' h; rw [hs] at this; exact this)
  generalize orElseSt (aboutRes, st1) (inheritSubject E active isRoot n ctx l) = rr at h2 ⊢
  obtain ⟨ns, st2⟩ := rr
  simp only at h2 ⊢
  obtain ⟨hc2, hns⟩ := h2
  split
  · split
    · exact ⟨hc2, ⟨hns, fun _ _ => hns, rfl, by simp [hl]⟩⟩
    · split
      · rw [res_empty]
        exact ⟨hc2, ⟨hns, fun _ _ => rfl, rfl, by simp [hl]⟩⟩
      · have h3 := orElseSt_spec (c := core st) (res3First E a { l with newSubject := ns } st2) freshBn (by simp [hc2])
          (by intro st' hs; exact ⟨by simp [hs], rfl⟩)
        generalize orElseSt (res3First E a { l with newSubject := ns } st2) freshBn = rr at h3 ⊢
        obtain ⟨t, st3⟩ := rr
        simp only at h3 ⊢
        exact ⟨h3.1, ⟨hns, fun _ _ => h3.2, rfl, by simp [hl]⟩⟩
  · rename_i hty
    refine ⟨hc2, ⟨hns, ?_, rfl, by simp [hl]⟩⟩
    intro ht; simp [ht] at hty

theorem step5b_spec (E : Env) (active isRoot : Bool) (n : Node) (ctx : Ctx) (a : A) (l : L) (st : St)
    (h : NodeOK ctx isRoot n) (hl : l.skip = false) :
    core (step5b E active isRoot n ctx a l st).2 = core st ∧ Post isRoot a l (step5b E active isRoot n ctx a l st).1 := by
  unfold step5b
  have h1 : core (orElseSt (resOpt E st l a.about true) (res3 E a l)).2 = core st :=
    core_orElseSt _ _ (by simp) (by intro st' hs; simp [hs])
  generalize orElseSt (resOpt E st l a.about true) (res3 E a l) = rr at h1 ⊢
  obtain ⟨r, st1⟩ := rr
  simp only at h1 ⊢
  cases r with
  | some s =>
    simp only
    refine ⟨h1, ⟨rfl, ?_, rfl, by simp [hl]⟩⟩
    intro ht _; simp [ht]
  | none =>
    simp only
    split
    · rename_i hb
      have := inheritSubject_spec E active isRoot n ctx l st1 h
      unfold inheritSubject at this
      rw [if_pos hb] at this
      generalize assertParentObject ctx st1 = rr at this ⊢
      obtain ⟨ns, st2⟩ := rr
      simp only at this ⊢
      refine ⟨by rw [this.1, h1], ⟨this.2, ?_, rfl, by simp [hl]⟩⟩
      intro ht _; simp [ht, this.2]
    · split
      · rw [res_empty]
        refine ⟨h1, ⟨rfl, ?_, rfl, by simp [hl]⟩⟩
        intro ht _; simp [ht]
      · rename_i hr
        split
        · exact ⟨by simp [freshBn, h1], ⟨rfl, fun _ _ => rfl, rfl, by simp [hl]⟩⟩
        · rename_i hty
          obtain ⟨s, hs⟩ := Option.isSome_iff_exists.mp (parentObject_of h (by simpa using hr))
          rw [hs]
          refine ⟨h1, ⟨rfl, ?_, rfl, ?_⟩⟩
          · intro ht; simp [ht] at hty
          · intro _; simpa using hr

theorem step5_spec (E : Env) (active isRoot : Bool) (n : Node) (ctx : Ctx) (a : A) (l : L) (st : St)
    (h : NodeOK ctx isRoot n) (hl : l.skip = false) :
    core (step5 E active isRoot n ctx a l st).2 = core st ∧ Post isRoot a l (step5 E active isRoot n ctx a l st).1 := by
  unfold step5
  split
  · exact step5a_spec E active isRoot n ctx a l st h hl
  · exact step5b_spec E active isRoot n ctx a l st h hl

theorem step6_spec (E : Env) (isRoot : Bool) (n : Node) (ctx : Ctx) (a : A) (l : L) (st : St)
    (h : NodeOK ctx isRoot n) (hl : l.skip = false) :
    core (step6 E isRoot ctx a l st).2 = core st ∧ Post isRoot a l (step6 E isRoot ctx a l st).1 := by
  unfold step6
  have h1 := core_resOpt E st l a.about true
  generalize resOpt E st l a.about true = rr at h1 ⊢
  obtain ⟨aboutRes, st1⟩ := rr
  simp only at h1 ⊢
  have h2 := orElseSt_spec (c := core st) (aboutRes, st1)
    (fun st => if isRoot then res E st l [] false else (ctx.parentObject, st)) h1
    (by
      intro st' hs
      by_cases hr : isRoot = true
      · simp [hr, res_empty, hs]
      · have := parentObject_of h (by simpa using hr)
        simp [hr, hs, this])
  generalize orElseSt (aboutRes, st1) (fun st => if isRoot then res E st l [] false else (ctx.parentObject, st)) = rr at h2 ⊢
  obtain ⟨ns, st2⟩ := rr
  simp only at h2 ⊢
  obtain ⟨hc2, hns⟩ := h2
  generalize hl' : ({ l with newSubject := ns, typed := if a.typeof.isSome then aboutRes else none } : L) = l'
  have h3 := core_res3 E a l' st2
  generalize res3 E a l' st2 = rr at h3 ⊢
  obtain ⟨cor, st3⟩ := rr
  simp only at h3 ⊢
  by_cases hcond : (a.typeof.isSome && a.about.isNone) = true
  · rw [if_pos hcond]
    have h4 := orElseSt_spec (c := core st) (cor, st3) freshBn (by rw [h3, hc2])
      (by intro st' hs; exact ⟨by simp [hs], rfl⟩)
    generalize orElseSt (cor, st3) freshBn = rr at h4 ⊢
    obtain ⟨cor', st4⟩ := rr
    simp only at h4 ⊢
    subst hl'
    refine ⟨h4.1, ⟨hns, ?_, rfl, by simp [hl]⟩⟩
    intro ht ha
    simp only [Bool.and_eq_true] at hcond
    simp only [ht, ha, Bool.true_and, ite_true]
    cases aboutRes with
    | none => simpa using h4.2
    | some s => simp
  · rw [if_neg hcond]
    subst hl'
    refine ⟨by rw [h3, hc2], ⟨hns, ?_, rfl, by simp [hl]⟩⟩
    intro ht ha
    simp [ht, ha] at hcond

theorem emitTypes_inv (t : Subj) (is : List Bytes) (st : St) (i : Inv st) : Inv (emitTypes t is st) := by
  induction is generalizing st with
  | nil => exact i
  | cons x xs ih => exact ih _ (i.emit t rdfType (.iri x) trivial)

theorem emitEach_inv (f : Bytes → St → St) (hf : ∀ p st, Inv st → Inv (f p st)) (is : List Bytes) (st : St)
    (i : Inv st) : Inv (emitEach f is st) := by
  induction is generalizing st with
  | nil => exact i
  | cons x xs ih => exact ih _ (hf x st i)

theorem emitEach_tokens_inv {E : Env} {pf dv} {t : Bool} {ts : List Bytes} {f : Bytes → St → St}
    (hf : ∀ p st, Inv st → Inv (f p st)) {st : St} (i : Inv st) :
    Inv (emitEach f (resolveTokens E pf dv t ts st).1 (resolveTokens E pf dv t ts st).2) :=
  emitEach_inv f hf _ _ (Inv.of_core (core_resolveTokens E pf dv t ts st) i)

theorem inv_of_core_eq {st st' : St} (h : core st' = core st) (i : Inv st) : Inv st' := Inv.of_core h i

theorem stepVocab_spec (E : Env) (ctx : Ctx) (a : A) (l : L) (st : St) (i : Inv st) :
    Inv (stepVocab E ctx a l st).2 ∧ (stepVocab E ctx a l st).1.skip = l.skip ∧ (stepVocab E ctx a l st).1.lang = l.lang := by
  unfold stepVocab
  split
  · exact ⟨i, rfl, rfl⟩
  · split
    · exact ⟨i, rfl, rfl⟩
    · rename_i v _ _
      have h := core_resolveAsIRI E st l.prefixes v (some l.vocab) true
      generalize resolveAsIRI E st l.prefixes _ (some l.vocab) true = rr at h ⊢
      obtain ⟨r, st1⟩ := rr
      cases r with
      | none => exact ⟨Inv.of_core h i, rfl, rfl⟩
      | some v => exact ⟨(Inv.of_core h i).emit _ _ _ trivial, rfl, rfl⟩

theorem stepLang_ne (active : Bool) (a : A) (cur : Option Bytes) (h : cur ≠ some []) : stepLang active a cur ≠ some [] := by
  unfold stepLang
  repeat' split
  -- the answer is `cur` (`h`), or `some x` of a non-empty `x` (`simp_all`), or `none`
  all_goals first | exact h | (intro hh; simp_all) | simp

theorem stepTypeof_inv (E : Env) (a : A) (l : L) (st : St) (i : Inv st) : Inv (stepTypeof E a l st) := by
  unfold stepTypeof
  split
  · rename_i v _ _
    have h := core_resolveTokens E l.prefixes (some l.vocab) true (typeTokens v) st
    generalize resolveTokens E l.prefixes (some l.vocab) true _ st = rr at h ⊢
    obtain ⟨is, st1⟩ := rr
    exact emitTypes_inv _ _ _ (Inv.of_core h i)
  · exact i

/-- steps 8–10 leave these fields of the locals alone -/
structure SameL (l l' : L) : Prop where
  ns : l'.newSubject = l.newSubject
  typed : l'.typed = l.typed
  lang : l'.lang = l.lang
  skip : l'.skip = l.skip

theorem SameL.trans {a b c : L} (h1 : SameL a b) (h2 : SameL b c) : SameL a c :=
  ⟨h2.ns.trans h1.ns, h2.typed.trans h1.typed, h2.lang.trans h1.lang, h2.skip.trans h1.skip⟩

theorem step8_spec (ctx : Ctx) (l : L) (st : St) :
    core (step8 ctx l st).2 = core st ∧ SameL l (step8 ctx l st).1 ∧ (step8 ctx l st).1.cor = l.cor := by
  unfold step8
  repeat' split
  all_goals exact ⟨rfl, ⟨rfl, rfl, rfl, rfl⟩, rfl⟩

theorem emit_inv_opt {st : St} (i : Inv st) (s : Option Subj) (p : Bytes) (o : Option Obj) (hs : s.isSome)
    (ho : ∃ x, o = some x ∧ WFObj x) : Inv (st.emit s p o) := by
  obtain ⟨x, rfl, hx⟩ := ho
  cases s with
  | none => cases hs
  | some s => exact i.emit s p x hx

theorem pushTo_inv (m : Nat) (o : Option Obj) (ho : ∃ x, o = some x ∧ WFObj x) (p : Bytes) (st : St) (i : Inv st) :
    Inv (pushTo m o p st) := by
  obtain ⟨x, rfl, hx⟩ := ho
  exact (i.ensureList m p).pushList _ _ hx

theorem step9a_spec (E : Env) (n : Node) (a : A) (o : Subj) (l : L) (st : St) (i : Inv st) :
    Inv (step9a E n a o l st).2 ∧ SameL l (step9a E n a o l st).1 := by
  unfold step9a
  split
  · exact ⟨emitEach_tokens_inv (fun p st i => pushTo_inv _ _ ⟨_, rfl, wf_subj_term o⟩ p st i) i, ⟨rfl, rfl, rfl, rfl⟩⟩
  · exact ⟨i, ⟨rfl, rfl, rfl, rfl⟩⟩

theorem step9b_spec (E : Env) (n : Node) (a : A) (o : Subj) (l : L) (st : St) (i : Inv st) (hns : l.newSubject.isSome) :
    Inv (step9b E n a o l st).2 ∧ SameL l (step9b E n a o l st).1 := by
  unfold step9b
  split
  · exact ⟨emitEach_tokens_inv (fun p st i => emit_inv_opt i _ p _ hns ⟨_, rfl, wf_subj_term o⟩) i, ⟨rfl, rfl, rfl, rfl⟩⟩
  · exact ⟨i, ⟨rfl, rfl, rfl, rfl⟩⟩

theorem step9c_spec (E : Env) (o : Subj) (l : L) (st : St) (i : Inv st) (hns : l.newSubject.isSome) :
    Inv (step9c E o l st).2 ∧ SameL l (step9c E o l st).1 := by
  unfold step9c
  split
  · obtain ⟨s, hs⟩ := Option.isSome_iff_exists.mp hns
    exact ⟨emitEach_tokens_inv (fun p st i => emit_inv_opt i _ p _ rfl ⟨s.term, by rw [hs]; rfl, wf_subj_term s⟩) i,
      ⟨rfl, rfl, rfl, rfl⟩⟩
  · exact ⟨i, ⟨rfl, rfl, rfl, rfl⟩⟩

theorem step9_spec (E : Env) (n : Node) (a : A) (l : L) (o : Subj) (st : St) (i : Inv st) (hns : l.newSubject.isSome) :
    Inv (step9 E n a l o st).2 ∧ SameL l (step9 E n a l o st).1 := by
  unfold step9
  simp only
  have h1 := step9a_spec E n a o l st i
  generalize step9a E n a o l st = r1 at h1 ⊢
  have h2 := step9b_spec E n a o r1.1 r1.2 h1.1 (by rw [h1.2.ns]; exact hns)
  generalize step9b E n a o r1.1 r1.2 = r2 at h2 ⊢
  have h3 := step9c_spec E o r2.1 r2.2 h2.1 (by rw [h2.2.ns, h1.2.ns]; exact hns)
  exact ⟨h3.1, (h1.2.trans h2.2).trans h3.2⟩

theorem addIncompleteLists_inv (m : Nat) (ps : List Bytes) (st : St) (i : Inv st) : Inv (addIncompleteLists m ps st).2 := by
  induction ps generalizing st with
  | nil => exact i
  | cons p ps ih => exact ih _ (i.ensureList m p)

theorem step10rel_spec (E : Env) (n : Node) (a : A) (l : L) (st : St) (i : Inv st) :
    Inv (step10rel E n a l st).2 ∧ SameL l (step10rel E n a l st).1 := by
  unfold step10rel
  split
  · rename_i v _
    have h := core_resolveTokens E l.prefixes (some l.vocab) true (relTokens E st.profile n v) st
    generalize resolveTokens E l.prefixes (some l.vocab) true _ st = r at h ⊢
    refine ⟨?_, ⟨rfl, rfl, rfl, rfl⟩⟩
    simp only
    split
    · exact addIncompleteLists_inv _ _ _ (Inv.of_core h i)
    · exact Inv.of_core h i
  · exact ⟨i, ⟨rfl, rfl, rfl, rfl⟩⟩

theorem step10rev_spec (E : Env) (l : L) (st : St) (i : Inv st) :
    Inv (step10rev E l st).2 ∧ SameL l (step10rev E l st).1 := by
  unfold step10rev
  split
  · rename_i v _
    have h := core_resolveTokens E l.prefixes (some l.vocab) true (fields (trimSpace v)) st
    generalize resolveTokens E l.prefixes (some l.vocab) true _ st = r at h ⊢
    exact ⟨Inv.of_core h i, ⟨rfl, rfl, rfl, rfl⟩⟩
  · exact ⟨i, ⟨rfl, rfl, rfl, rfl⟩⟩

theorem step10_spec (E : Env) (n : Node) (a : A) (l : L) (st : St) (i : Inv st) :
    Inv (step10 E n a l st).2 ∧ SameL l (step10 E n a l st).1 := by
  unfold step10
  simp only
  have h1 := step10rel_spec E n a { l with cor := some (.bn st.nextBn) } st.fresh.2 (Inv.of_core (core_fresh st) i)
  generalize step10rel E n a { l with cor := some (.bn st.nextBn) } st.fresh.2 = r1 at h1 ⊢
  have h2 := step10rev_spec E r1.1 r1.2 h1.1
  exact ⟨h2.1, SameL.trans (a := l) ⟨h1.2.ns, h1.2.typed, h1.2.lang, h1.2.skip⟩ h2.2⟩

theorem step910_spec (E : Env) (n : Node) (a : A) (l : L) (st : St) (i : Inv st) (hns : l.newSubject.isSome) :
    Inv (step910 E n a l st).2 ∧ SameL l (step910 E n a l st).1 := by
  unfold step910
  split
  · exact step9_spec E n a l _ st i hns
  · split
    · exact step10_spec E n a l st i
    · exact ⟨i, ⟨rfl, rfl, rfl, rfl⟩⟩

/-- what the theorems need of the XSD time mappers: they return typed, untagged literals -/
def EnvOK (E : Env) : Prop :=
  ∀ f ∈ E.timeMaps, ∀ v lex dt, f v = some (lex, dt) → dt ≠ [] ∧ dt ≠ rdfLangString ∧ dt ≠ rdfDirLangString

theorem xmlLit_facts : rdfXMLLiteral ≠ [] ∧ rdfXMLLiteral ≠ rdfLangString ∧ rdfXMLLiteral ≠ rdfDirLangString :=
  ⟨asc_ne_nil (by decide), asc_ne (by decide), asc_ne (by decide)⟩
theorem htmlLit_facts : rdfHTML ≠ [] ∧ rdfHTML ≠ rdfLangString ∧ rdfHTML ≠ rdfDirLangString :=
  ⟨asc_ne_nil (by decide), asc_ne (by decide), asc_ne (by decide)⟩
theorem langString_facts : rdfLangString ≠ [] ∧ rdfLangString ≠ rdfDirLangString :=
  ⟨Proofs.C01.lang_ne_nil, Proofs.C01.lang_ne_dir⟩

theorem wf_plain (lex : Bytes) {dt : Bytes} (h : dt ≠ [] ∧ dt ≠ rdfLangString ∧ dt ≠ rdfDirLangString) :
    WFObj (.lit lex dt none) := by
  simp [WFObj, h.1, h.2.1, h.2.2]

theorem firstMap_wf (v : Bytes) (fs : List (Bytes → Option (Bytes × Bytes)))
    (h : ∀ f ∈ fs, ∀ v lex dt, f v = some (lex, dt) → dt ≠ [] ∧ dt ≠ rdfLangString ∧ dt ≠ rdfDirLangString) :
    WFObj (firstMap v fs) := by
  induction fs with
  | nil => exact wf_plain _ Mdd.xsdString_facts
  | cons f fs ih =>
    unfold firstMap
    split
    · rename_i lex dt heq
      have := h f (by simp) v lex dt heq
      exact wf_plain _ this
    · exact ih (fun g hg => h g (by simp [hg]))

theorem nil_facts : ([] : Bytes) ≠ rdfLangString ∧ ([] : Bytes) ≠ rdfDirLangString :=
  ⟨Proofs.C01.lang_ne_nil.symm, Proofs.C01.dir_ne_nil.symm⟩

theorem datatypeIRI_spec (E : Env) (a : A) (l : L) (st : St) :
    core (datatypeIRI E a l st).2 = core st ∧ (datatypeIRI E a l st).1 ≠ rdfLangString ∧
      (datatypeIRI E a l st).1 ≠ rdfDirLangString := by
  unfold datatypeIRI
  split
  · rename_i v _
    have h := core_resolveAsIRI E st l.prefixes v (some l.vocab) true
    generalize resolveAsIRI E st l.prefixes _ (some l.vocab) true = rr at h ⊢
    obtain ⟨r, st1⟩ := rr
    cases r with
    | none => exact ⟨h, nil_facts.1, nil_facts.2⟩
    | some v =>
      simp only
      refine ⟨h, ?_, ?_⟩
      · split
        · exact nil_facts.1
        · rename_i hh; simp at hh; exact hh.1
      · split
        · exact nil_facts.2
        · rename_i hh; simp at hh; exact hh.2
  · exact ⟨rfl, nil_facts.1, nil_facts.2⟩

theorem valueResource_spec (E : Env) (n : Node) (a : A) (l : L) (st : St)
    (ht : a.typeof.isSome → a.about.isNone → l.typed.isSome) :
    core (valueResource E n a l st).2 = core st ∧ ∃ o, (valueResource E n a l st).1 = some o ∧ WFObj o := by
  unfold valueResource
  have h : core (if (!l.relValid && l.rev.isNone) = true then res3 E a l st else (none, st)).2 = core st := by
    split <;> simp
  generalize (if (!l.relValid && l.rev.isNone) = true then res3 E a l st else (none, st)) = rr at h ⊢
  obtain ⟨r, st1⟩ := rr
  cases r with
  | some s => exact ⟨h, _, rfl, wf_subj_term s⟩
  | none =>
    simp only
    split
    · rename_i hc
      simp only [Bool.and_eq_true] at hc
      obtain ⟨s, hs⟩ := Option.isSome_iff_exists.mp (ht hc.1 hc.2)
      exact ⟨h, s.term, by rw [hs]; rfl, wf_subj_term s⟩
    · exact ⟨h, _, rfl, wf_plain _ Mdd.xsdString_facts⟩

theorem propertyValue_spec (E : Env) (hE : EnvOK E) (active : Bool) (n : Node) (a : A) (l : L) (st : St)
    (ht : a.typeof.isSome → a.about.isNone → l.typed.isSome) :
    core (propertyValue E active n a l st).2 = core st ∧
      ∀ v, (propertyValue E active n a l st).1 = some v → ∃ o, v = some o ∧ WFObj o := by
  unfold propertyValue
  have h := datatypeIRI_spec E a l st
  generalize datatypeIRI E a l st = rr at h ⊢
  obtain ⟨dt, st1⟩ := rr
  obtain ⟨hc, hd1, hd2⟩ := h
  simp only at hc hd1 hd2 ⊢
  have lit : ∀ o : Obj, WFObj o → core st1 = core st ∧ ∀ v, some (some o) = some v → ∃ o', v = some o' ∧ WFObj o' :=
    fun o ho => ⟨hc, fun v hv => by cases hv; exact ⟨o, rfl, ho⟩⟩
  split
  · refine lit _ ?_
    split
    · rename_i hne
      exact wf_plain _ ⟨by intro h0; simp [h0] at hne, hd1, hd2⟩
    · exact firstMap_wf _ _ hE
  · split
    · rename_i hne
      exact lit _ (wf_plain _ ⟨by intro h0; simp [h0] at hne, hd1, hd2⟩)
    · split
      · exact lit _ (wf_plain _ Mdd.xsdString_facts)
      · split
        · split
          · exact lit _ (wf_plain _ xmlLit_facts)
          · exact ⟨hc, by intro v hv; cases hv⟩
        · split
          · split
            · exact lit _ (wf_plain _ htmlLit_facts)
            · exact ⟨hc, by intro v hv; cases hv⟩
          · split
            · exact lit _ (wf_plain _ Mdd.xsdString_facts)
            · have h2 := valueResource_spec E n a l st1 ht
              generalize valueResource E n a l st1 = r2 at h2 ⊢
              obtain ⟨v2, st2⟩ := r2
              simp only at h2 ⊢
              refine ⟨by rw [h2.1, hc], ?_⟩
              intro v hv
              simp only [Option.some.injEq] at hv
              subst hv
              exact h2.2

theorem applyLang_wf (lang : Option Bytes) (hl : lang ≠ some []) (o : Obj) (ho : WFObj o) :
    ∃ x, applyLang lang (some o) = some x ∧ WFObj x := by
  cases lang with
  | none => exact ⟨o, by simp [applyLang], ho⟩
  | some lg =>
    cases o with
    | iri v => exact ⟨_, by simp [applyLang], ho⟩
    | bnode b => exact ⟨_, by simp [applyLang], ho⟩
    | lit lex dt tg =>
      by_cases hd : dt = xsdString
      · refine ⟨.lit lex rdfLangString (some lg), by simp [applyLang, hd], ?_⟩
        have : lg ≠ [] := by intro h0; apply hl; rw [h0]
        simp [WFObj, langString_facts.1, langString_facts.2, this]
      · exact ⟨_, by simp [applyLang, hd], ho⟩

theorem step11_spec (E : Env) (hE : EnvOK E) (active : Bool) (n : Node) (a : A) (l : L) (st : St) (i : Inv st)
    (hns : l.newSubject.isSome) (ht : a.typeof.isSome → a.about.isNone → l.typed.isSome) (hl : l.lang ≠ some []) :
    Inv (step11 E active n a l st) := by
  unfold step11
  split
  · exact i
  · have h := propertyValue_spec E hE active n a l st ht
    generalize propertyValue E active n a l st = rr at h ⊢
    obtain ⟨v, st1⟩ := rr
    obtain ⟨hc, hv⟩ := h
    simp only at hc hv
    cases v with
    | none => exact (Inv.of_core hc i).failErr
    | some v =>
      simp only
      obtain ⟨o, rfl, ho⟩ := hv v rfl
      have hw := applyLang_wf l.lang hl o ho
      split
      · exact emitEach_tokens_inv (fun p st i => pushTo_inv _ _ hw p st i) (Inv.of_core hc i)
      · exact emitEach_tokens_inv (fun p st i => emit_inv_opt i _ p _ hns hw) (Inv.of_core hc i)

theorem step12_spec (ctx : Ctx) (l : L) (st : St) (i : Inv st) (h : ctx.incomplete = [] ∨ ctx.parentSubject.isSome) :
    Inv (step12 ctx l st) := by
  unfold step12
  split
  · rename_i s _
    split
    · exact i
    · rcases h with h | h
      · rw [h]; exact i
      · cases hp : ctx.parentSubject with
        | none => rw [hp] at h; cases h
        | some ps =>
          generalize ctx.incomplete = inc
          induction inc generalizing st with
          | nil => exact i
          | cons x xs ih =>
            simp only [List.foldl_cons]
            apply ih
            cases x with
            | lst id => exact i.pushList _ _ (wf_subj_term s)
            | fwd p => exact i.emit _ _ _ (wf_subj_term s)
            | rev p => exact i.emit _ _ _ (wf_subj_term ps)
  · exact i

theorem childCtx_ok (ctx : Ctx) (l : L) (hns : l.newSubject.isSome) (hl : l.lang ≠ some [])
    (hs : l.skip = true → KidOK ctx) : KidOK (childCtx ctx l) := by
  unfold childCtx
  split
  · rename_i hsk
    have := hs hsk
    exact ⟨this.1, this.2.1, hl⟩
  · obtain ⟨s, hs⟩ := Option.isSome_iff_exists.mp hns
    rw [hs]
    refine ⟨rfl, ?_, hl⟩
    simp only
    split <;> rfl

theorem freshN_spec (k : Nat) (st : St) : core (freshN k st).2 = core st ∧ (freshN k st).1.length = k := by
  induction k generalizing st with
  | zero => exact ⟨rfl, rfl⟩
  | succ k ih =>
    have := ih st.fresh.2
    simp only [freshN, List.length_cons]
    exact ⟨by rw [this.1]; rfl, by rw [this.2]⟩

theorem listCells_inv (cs : List Nat) (xs : List Obj) (st : St) (i : Inv st) (hx : ∀ x ∈ xs, WFObj x) :
    Inv (listCells cs xs st) := by
  induction cs generalizing xs st with
  | nil => simpa [listCells] using i
  | cons c cs ih =>
    cases xs with
    | nil => simpa [listCells] using i
    | cons x xs =>
      cases cs with
      | nil =>
        simp only [listCells]
        exact (i.emit _ _ _ (hx x (by simp))).emit _ _ _ trivial
      | cons d cs =>
        simp only [listCells]
        exact ih _ _ ((i.emit _ _ _ (hx x (by simp))).emit _ _ _ trivial) (fun y hy => hx y (by simp [hy]))

theorem flushLists_inv (pm : List (Bytes × Nat)) (subj : Option Subj) (hs : subj.isSome) (m : List (Bytes × Nat)) (st : St)
    (i : Inv st) : Inv (flushLists pm subj m st) := by
  induction m generalizing st with
  | nil => exact i
  | cons e rest ih =>
    obtain ⟨p, id⟩ := e
    simp only [flushLists]
    split
    · exact ih _ i
    · split
      · exact ih _ (emit_inv_opt i _ _ _ hs ⟨_, rfl, trivial⟩)
      · rename_i hne
        have hf := freshN_spec (st.getList id).length st
        apply ih
        apply emit_inv_opt _ _ _ _ hs
        · cases hc : (freshN (st.getList id).length st).1 with
          | nil =>
            have := hf.2
            rw [hc] at this
            simp only [List.length_nil] at this
            have : st.getList id = [] := List.eq_nil_of_length_eq_zero this.symm
            simp [this] at hne
          | cons c cs => exact ⟨_, rfl, trivial⟩
        · exact listCells_inv _ _ _ (Inv.of_core hf.1 i) (getList_wf i.2.2 id)

theorem copyBindings_obj (ds : List Stmt) (b : Subj × Subj × Bytes × Obj) (hb : b ∈ copyBindings ds) :
    ∃ t ∈ ds, b.2.2.2 = t.o := by
  unfold copyBindings at hb
  simp only [List.mem_flatMap] at hb
  obtain ⟨c, _, hb⟩ := hb
  split at hb
  · simp only [List.mem_flatMap] at hb
    obtain ⟨ty, _, hb⟩ := hb
    split at hb
    · simp only [List.mem_filterMap] at hb
      obtain ⟨t, ht, hb⟩ := hb
      split at hb
      · simp only [Option.some.injEq] at hb
        exact ⟨t, ht, by rw [← hb]⟩
      · cases hb
    · cases hb
  · cases hb

theorem copyStep_inv (st : St) (i : Inv st) : Inv (copyStep st) := by
  obtain ⟨hs, ho, hl⟩ := i
  refine ⟨hs, ?_, hl⟩
  intro t ht
  simp only [copyStep, List.mem_filter, List.mem_append, List.mem_filterMap] at ht
  rcases ht.1 with h | ⟨b, hb, hbt⟩
  · exact ho t h
  · split at hbt
    · cases hbt
    · simp only [Option.some.injEq] at hbt
      obtain ⟨u, hu, he⟩ := copyBindings_obj _ b hb
      rw [← hbt]
      simp only
      rw [he]
      exact ho u (List.mem_eraseDups.mp hu)

end RdfModel.Rdfad
