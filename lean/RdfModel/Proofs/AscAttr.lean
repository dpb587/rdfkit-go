import Lean.Meta.Tactic.Simp.RegisterCommand

/-- Constants written `asc "…"` and the lemmas that move a comparison of two of them to the string literals, where
    `simp` decides it (`String.reduceEq`, `String.reduceAppend`). `simp [asc_consts]` proves that two such constants
    differ, or that one is not empty, without decoding a literal. -/
register_simp_attr asc_consts
