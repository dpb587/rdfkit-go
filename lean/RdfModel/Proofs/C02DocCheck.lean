/-
  Boolean checkers over table *entries* for the document-level table facts
  (`C02.DocTablesOK`), with their soundness lemmas.
-/
import RdfModel.Props.C02DocDefs
import RdfModel.Proofs.C02TokCheck
namespace RdfModel.Proofs.C02Doc
open RdfModel RdfModel.Ttl RdfModel.C02 RdfModel.Proofs.C02Tok

/-- every range of the set lies above ASCII or consists of letters (`64`: a range of ASCII letters has at most 26
    members; the bound keeps the enumeration small enough for `decide`) -/
def asciiAlphaChk (rs : RangeSet) : Bool :=
  rs.all (fun e => decide (0x80 ≤ e.1) ||
    (decide (e.2 - e.1 < 64) && (List.range (e.2 - e.1 + 1)).all (fun i => isAlpha (e.1 + i) || decide (0x80 ≤ e.1 + i))))

theorem asciiAlpha_ok (rs : RangeSet) (h : asciiAlphaChk rs = true) :
    ∀ c, c < 0x80 → inRanges rs c = true → isAlpha c = true := by
  intro c hc hin
  rw [inRanges_iff] at hin
  obtain ⟨e, he, h1, h2⟩ := hin
  simp only [asciiAlphaChk, List.all_eq_true, Bool.or_eq_true, decide_eq_true_eq, Bool.and_eq_true, List.mem_range] at h
  rcases h e he with h3 | ⟨_, h4⟩
  · omega
  · have := h4 (c - e.1) (by omega)
    rw [show e.1 + (c - e.1) = c by omega] at this
    rcases this with h5 | h5
    · exact h5
    · omega

/-- Mode 1 (percent-encode) only on runes that are not IRI characters; ASCII base characters are letters;
    `<` is no PN_CHARS rune (`pn_lt`). -/
def docChk (T : Tables) : Bool :=
  both (both fun t => entAll t (pointsChk 1 fun c => !Spec.TtlPrint.iriRawOK c)) T.localEsc &&
  asciiAlphaChk T.pnCharsBase && !inRanges T.pnChars 0x3c

theorem docTablesOK_of_chk (T : Tables) (htok : TablesOK T) (h : docChk T = true) : DocTablesOK T := by
  simp only [docChk, Bool.and_eq_true, Bool.not_eq_true'] at h
  obtain ⟨⟨h1, h2⟩, h3⟩ := h
  refine ⟨htok, fun f l c hc => ?_, asciiAlpha_ok _ h2, h3⟩
  simpa using points_ok 1 (by decide) _ _ (both_elim (both_elim h1 f) l) c hc

section Dec
open RdfModel.TtlEnc RdfModel.Desc
variable {β : Type} (c : Ctx β) (base : Option (List Nat))

instance (v : List Nat) : Decidable (iriTermOK c base v) := by unfold iriTermOK; infer_instance

instance (lex dt : List Nat) (lang : Option (List Nat)) : Decidable (litOK c base lex dt lang) := by
  unfold litOK; cases lang <;> infer_instance

instance (t : Term β) : Decidable (subjectOK c base t) := by cases t <;> unfold subjectOK <;> infer_instance

instance (t : Term β) : Decidable (objectOK c base t) := by cases t <;> unfold objectOK <;> infer_instance

instance (t : Triple β) : Decidable (TripleOK c base t) :=
  decidable_of_iff (subjectOK c base t.s ∧ iriTermOK c base t.p ∧ objectOK c base t.o)
    ⟨fun ⟨a, b, c⟩ => ⟨a, b, c⟩, fun ⟨a, b, c⟩ => ⟨a, b, c⟩⟩

end Dec

end RdfModel.Proofs.C02Doc
