import RdfModel.Proofs.C01Enc
namespace RdfModel.Proofs.C01
open RdfModel RdfModel.NQ RdfModel.C01

variable {β : Type}

abbrev Asc (l : List Nat) : Prop := All (· < 0x80) l

theorem hexUpper_lt (d : Nat) (hd : d < 16) : hexUpper d < 0x80 := by
  unfold hexUpper; split <;> omega

theorem Asc_hex4 (c : Nat) : Asc (hex4 c) := All_hex4 hexUpper_lt c
theorem Asc_hex8 (c : Nat) : Asc (hex8 c) := All_hex8 hexUpper_lt c

theorem Asc_escIRIRune (T : Tables) (hA : TablesAscii T) (c : Nat) (hc : c ≤ 0x10FFFF) :
    Asc (escIRIRune T true c) := by
  rcases escIRIRune_mode (hA.iri_mode_a c) with ⟨h0, h⟩ | ⟨_, h⟩ | ⟨_, h⟩ <;> rw [h]
  · simp [hA.iri_ascii c hc h0]
  · simp [Asc_hex4]
  · simp [Asc_hex8]

theorem Asc_writeIRI (T : Tables) (hA : TablesAscii T) (s : List Nat) (hs : RunesInRange s) :
    Asc (writeIRI T true s) :=
  All_writeIRI T true s (by omega) (by omega) fun c hc => Asc_escIRIRune T hA c (hs c hc)

theorem Asc_escLitRune (T : Tables) (hA : TablesAscii T) (c : Nat) (hc : c ≤ 0x10FFFF) :
    Asc (escLitRune T true c) := by
  rcases escLitRune_mode (hA.lit_mode_a c) with ⟨h0, h⟩ | ⟨_, h⟩ | ⟨_, h⟩ | ⟨_, h⟩ <;> rw [h]
  · simp [hA.lit_ascii c hc h0]
  · simp [hA.echar_ascii c]
  · simp [Asc_hex4]
  · simp [Asc_hex8]

theorem Asc_writeLiteral (T : Tables) (hA : TablesAscii T) (lex dt : List Nat)
    (lang : Option (List Nat)) (hlex : RunesInRange lex) (hdt : RunesInRange dt)
    (hlang : ∀ t, lang = some t → Asc t) :
    Asc (writeLiteral T true lex dt lang) :=
  All_writeLiteral T true lex dt lang (by omega) (by omega) (by omega)
    (fun c hc => Asc_escLitRune T hA c (hlex c hc)) (Asc_writeIRI T hA dt hdt) hlang

theorem Asc_nodeW (T : Tables) (hA : TablesAscii T) (label : β → List Nat)
    (hlab : ∀ b, Asc (label b)) (t : Term β) (hr : TermInRange t) : Asc (nodeW T true label t) := by
  cases t with
  | iri v => exact Asc_writeIRI T hA v hr
  | bnode b => exact (All_cons _ _).2 ⟨by omega, (All_cons _ _).2 ⟨by omega, hlab b⟩⟩
  | lit l d t => exact All_nil

theorem Asc_objW (T : Tables) (hA : TablesAscii T) (label : β → List Nat)
    (hlab : ∀ b, Asc (label b)) (t : Term β) (hr : TermInRange t)
    (hlang : ∀ l d tg, t = .lit l d (some tg) → Asc tg) : Asc (objW T true label t) := by
  cases t with
  | iri v => exact Asc_nodeW T hA label hlab _ hr
  | bnode b => exact Asc_nodeW T hA label hlab _ hr
  | lit l d tg => exact Asc_writeLiteral T hA l d tg hr.1 hr.2 fun t' ht' => hlang l d t' (by rw [ht'])

theorem Asc_encodeQuad (T : Tables) (hA : TablesAscii T) (label : β → List Nat)
    (hlab : ∀ b, Asc (label b)) (quads : Bool) (q : Quad β) (hr : QuadInRange q)
    (hlang : ∀ l d tg, q.o = .lit l d (some tg) → Asc tg) :
    Asc ((encodeQuad T true label quads q).getD []) := by
  rcases encodeQuad_cases T true label quads q with h | h <;> rw [h]
  · exact All_nil
  · have hn := Asc_nodeW T hA label hlab
    exact (All_append _ _).2 ⟨All_quadBody T true label quads q (by omega) (by omega) (hn _ hr.1) (hn _ hr.2.1)
      (Asc_objW T hA label hlab _ hr.2.2.1 hlang) fun t ht => hn t (hr.2.2.2 t ht), by simp⟩

theorem ascii_output (T : Tables) (hA : TablesAscii T) (label : β → List Nat)
    (hlab : ∀ b, ∀ c ∈ label b, c < 0x80) (quads : Bool) (qs : List (Quad β))
    (hrange : ∀ q ∈ qs, QuadInRange q)
    (hlang : ∀ q ∈ qs, ∀ l d t, q.o = .lit l d (some t) → ∀ c ∈ t, c < 0x80) :
    ∀ c ∈ encodeDoc T true label quads qs, c < 0x80 := by
  have : Asc (encodeDoc T true label quads qs) := by
    unfold encodeDoc
    exact All_flatMap _ _ (fun q hq => Asc_encodeQuad T hA label hlab quads q (hrange q hq) (hlang q hq))
  exact this

end RdfModel.Proofs.C01
