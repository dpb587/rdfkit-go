import RdfModel.Proofs.C14Trace
namespace RdfModel.Proofs.C14
open RdfModel.BN RdfModel.C14

theorem fresh_unique (U : Nat → Bytes) (d : Nat) (ops : List Op) (i j : Nat) (hij : i < j)
    (opi opj : Op) (ni : Node) (idj : Ident)
    (hi : (trace U (init d) ops)[i]? = some (opi, .node ni))
    (hj : (trace U (init d) ops)[j]? = some (opj, .node (some idj)))
    (hf : FreshOp opj) :
    termEquals ni (some idj) = false ∧ termEquals (some idj) ni = false := by
  have ho := trace_out hj
  have hn := step_fresh_not_issued U (s := exec U (init d) (ops.take j)) opj hf idj ho
  exact unique_of_not_issued U (inv_init d) ops hij opi ni hi idj hn

theorem fresh_out_some (U : Nat → Bytes) (s : State) (op : Op) (hf : FreshOp op) (n : Node)
    (h : (step U s op).2 = .node n) : ∃ id, n = some id :=
  let ⟨_, id, _, e⟩ := freshOp_step U s op hf n h
  ⟨id, e⟩

theorem fresh_pairwise (U : Nat → Bytes) (d : Nat) (ops : List Op) (i j : Nat) (hij : i ≠ j)
    (opi opj : Op) (ni nj : Node)
    (hi : (trace U (init d) ops)[i]? = some (opi, .node ni))
    (hj : (trace U (init d) ops)[j]? = some (opj, .node nj))
    (hfi : FreshOp opi) (hfj : FreshOp opj) :
    termEquals ni nj = false := by
  rcases Nat.lt_or_gt_of_ne hij with h | h
  · have ho := trace_out hj
    obtain ⟨idj, rfl⟩ := fresh_out_some U _ opj hfj nj ho
    exact (fresh_unique U d ops i j h opi opj ni idj hi hj hfj).1
  · have ho := trace_out hi
    obtain ⟨idi, rfl⟩ := fresh_out_some U _ opi hfi ni ho
    exact (fresh_unique U d ops j i h opj opi nj idi hj hi hfi).2

theorem fresh_ne_string {s s' : State} {f : FactoryRef} {id : Ident} (h : fresh s f = some (s', id))
    (j : Nat) (a : Bytes) : id ≠ .bnString j a := by
  rcases fresh_eq h with ⟨_, rfl⟩ | ⟨_, _, _, _, rfl⟩ <;> exact nofun

theorem freshOp_ne_string (U : Nat → Bytes) (s : State) (op : Op) (hf : FreshOp op) (id : Ident)
    (h : (step U s op).2 = .node (some id)) (j : Nat) (a : Bytes) : id ≠ .bnString j a := by
  obtain ⟨_, _, hf, e⟩ := freshOp_step U s op hf _ h
  cases e
  exact fresh_ne_string hf j a

theorem freshOp_newString {k : Nat} {a : Bytes} : FreshOp (.newStringBlankNode k a) → a = [] := by
  rintro (⟨_, ⟨⟩⟩ | ⟨_, ⟨⟩⟩)
  rfl

theorem factory_out (U : Nat → Bytes) (s : State) (op : Op) (f : FactoryRef) (hf : opFactory op = some f)
    (x : Node) (h : (step U s op).2 = .node x) :
    FreshOp op ∨ ∃ j a, op = .newStringBlankNode j a ∧ a ≠ [] ∧ x = some (.bnString j a) := by
  cases op with
  | newBlankNode f' => exact .inl (.inl ⟨f', rfl⟩)
  | newStringBlankNode j a =>
    by_cases ha : a = []
    · exact .inl (.inr ⟨j, ha ▸ rfl⟩)
    · simp only [step, ha, if_false] at h
      split at h
      · cases h; exact .inr ⟨j, a, rfl, ha, rfl⟩
      · cases h
  | _ => cases hf

theorem factory_out_eq (U : Nat → Bytes) (d : Nat) (ops : List Op) (i j : Nat) (hij : i ≠ j)
    (opi opj : Op) (f g : FactoryRef) (x y : Node)
    (hi : (trace U (init d) ops)[i]? = some (opi, .node x))
    (hj : (trace U (init d) ops)[j]? = some (opj, .node y))
    (hf : opFactory opi = some f) (hg : opFactory opj = some g) :
    termEquals x y = true ↔ ∃ k a, a ≠ [] ∧ opi = .newStringBlankNode k a ∧ opj = .newStringBlankNode k a := by
  have hoi := trace_out hi
  have hoj := trace_out hj
  rcases factory_out U _ opi f hf x hoi with hfi | ⟨ki, ai, rfl, hai, rfl⟩
  · have hx : termEquals x y = false := by
      rcases factory_out U _ opj g hg y hoj with hfj | ⟨kj, aj, rfl, _, rfl⟩
      · exact fresh_pairwise U d ops i j hij opi opj x y hi hj hfi hfj
      · obtain ⟨idi, rfl⟩ := fresh_out_some U _ opi hfi x hoi
        rw [termEquals_comm]
        exact termEquals_false_of_ne _ _ fun h =>
          freshOp_ne_string U _ opi hfi idi hoi kj aj (Option.some.inj h).symm
    rw [hx]
    exact ⟨nofun, fun ⟨k, a, ha, e, _⟩ => absurd (freshOp_newString (e ▸ hfi)) ha⟩
  · rcases factory_out U _ opj g hg y hoj with hfj | ⟨kj, aj, rfl, haj, rfl⟩
    · obtain ⟨idj, rfl⟩ := fresh_out_some U _ opj hfj y hoj
      rw [termEquals_false_of_ne _ _ fun h => freshOp_ne_string U _ opj hfj idj hoj ki ai (Option.some.inj h).symm]
      exact ⟨nofun, fun ⟨k, a, ha, _, e⟩ => absurd (freshOp_newString (e ▸ hfj)) ha⟩
    · rw [termEquals_some]
      constructor
      · intro h; cases h; exact ⟨ki, ai, hai, rfl, rfl⟩
      · rintro ⟨k, a, _, e1, e2⟩; cases e1; cases e2; rfl

theorem string_factory_eq (U : Nat → Bytes) (d : Nat) (ops : List Op) (i j : Nat) (hij : i ≠ j)
    (f g : Nat) (a b : Bytes) (x y : Node)
    (hi : (trace U (init d) ops)[i]? = some (.newStringBlankNode f a, .node x))
    (hj : (trace U (init d) ops)[j]? = some (.newStringBlankNode g b, .node y)) :
    termEquals x y = true ↔ (f = g ∧ a = b ∧ a ≠ []) := by
  rw [factory_out_eq U d ops i j hij _ _ _ _ x y hi hj rfl rfl]
  constructor
  · rintro ⟨k, c, hc, e1, e2⟩; cases e1; cases e2; exact ⟨rfl, rfl, hc⟩
  · rintro ⟨rfl, rfl, ha⟩; exact ⟨f, a, ha, rfl, rfl⟩

theorem factories_disjoint (U : Nat → Bytes) (d : Nat) (ops : List Op) (i j : Nat)
    (opi opj : Op) (f g : FactoryRef) (x y : Node)
    (hi : (trace U (init d) ops)[i]? = some (opi, .node x))
    (hj : (trace U (init d) ops)[j]? = some (opj, .node y))
    (hf : opFactory opi = some f) (hg : opFactory opj = some g) (hfg : f ≠ g) :
    termEquals x y = false := by
  have hij : i ≠ j := by
    intro h; subst h
    rw [hi] at hj; simp at hj
    rw [hj.1] at hf; rw [hf] at hg; simp at hg; exact hfg hg
  rw [← Bool.not_eq_true, factory_out_eq U d ops i j hij opi opj f g x y hi hj hf hg]
  rintro ⟨k, a, _, rfl, rfl⟩
  exact hfg (Option.some.inj (hf.symm.trans hg))

theorem provider_function (U : Nat → Bytes) (d : Nat) (ops : List Op) (i j : Nat) (hij : i < j)
    (p : ProvRef) (n : Node) (oi oj : Out)
    (hi : (trace U (init d) ops)[i]? = some (.getLabel p n, oi))
    (hj : (trace U (init d) ops)[j]? = some (.getLabel p n, oj))
    (hb : oi ≠ .bad) : oj = oi := by
  have hp := (peek_after hi hb).1 hij
  have ho := trace_out hj
  rw [← ho]
  simp only [step]
  exact peek_getLabel U _ p n oi hp

theorem provider_injective (U : Nat → Bytes) (hU : Function.Injective U) (d : Nat) (ops : List Op) (i j : Nat)
    (p : ProvRef) (hp : isLeaf p = true) (n m : Node) (a b : Bytes)
    (hi : (trace U (init d) ops)[i]? = some (.getLabel p n, .label a))
    (hj : (trace U (init d) ops)[j]? = some (.getLabel p m, .label b))
    (hnm : n ≠ m) : a ≠ b := by
  intro hab; subst hab
  have h1 := (peek_after hi (by simp)).2
  have h2 := (peek_after hj (by simp)).2
  exact hnm (peek_inj_leaf U hU (inv_exec U (inv_init d) ops) p hp n m a h1 h2)

theorem passthrough_injective_partial (U : Nat → Bytes) (hU : Function.Injective U) (d : Nat) (ops : List Op)
    (i j : Nat) (sc : Nat) (fb : ProvRef) (hfb : isLeaf fb = true) (n m : Node) (a b : Bytes)
    (hi : (trace U (init d) ops)[i]? = some (.getLabel (.pass sc fb) n, .label a))
    (hj : (trace U (init d) ops)[j]? = some (.getLabel (.pass sc fb) m, .label b))
    (hnm : n ≠ m)
    (hdis : ∀ v x, (n = some (.bnString sc v) ∨ m = some (.bnString sc v)) →
      peek U (exec U (init d) ops) fb x ≠ some (.label v)) :
    a ≠ b := by
  intro hab; subst hab
  rcases peek_pass ((peek_after hi (by simp)).2) with ⟨v, rfl, e⟩ | ⟨_, h1⟩ <;>
    rcases peek_pass ((peek_after hj (by simp)).2) with ⟨w, rfl, e'⟩ | ⟨_, h2⟩
  · cases e; cases e'; exact hnm rfl
  · cases e; exact hdis a m (.inl rfl) h2
  · cases e'; exact hdis a n (.inr rfl) h1
  · exact hnm (peek_inj_leaf U hU (inv_exec U (inv_init d) ops) fb hfb n m a h1 h2)

theorem propagate_labels_uuid (U : Nat → Bytes) (d : Nat) (ops : List Op) (i j : Nat) (hij : i < j)
    (sc : Nat) (p : ProvRef) (n : Node) (a : Bytes)
    (hi : (trace U (init d) ops)[i]? = some (.propagate (some (.strf sc)), .prov p))
    (hj : (trace U (init d) ops)[j]? = some (.getLabel p n, .label a))
    (hn : ∀ v, n ≠ some (.bnString sc v)) : ∃ k, a = U k := by
  obtain ⟨hopi, hoi⟩ := trace_getElem? U (init d) ops i _ _ hi
  have hoj := trace_out hj
  have key : ∃ k, p = .pass sc (.uuid k) ∧ Good (exec U (init d) (ops.take (i + 1))) k := by
    rw [exec_take_succ U (init d) ops i _ hopi]
    generalize exec U (init d) (ops.take i) = s at hoi ⊢
    simp only [step] at hoi ⊢
    split at hoi
    · rename_i hsc
      exact ⟨s.uuids.length, Out.prov.inj hoi, { format := asc "%s", known := [] }, by simp [hsc], asc_fmtS⟩
    · cases hoi
  obtain ⟨k, rfl, hg⟩ := key
  have hg' := good_ext (ext_take_le U (init d) ops (Nat.succ_le_of_lt hij)) hg
  simp only [step] at hoj
  have hp := getLabel_peek U _ (.pass sc (.uuid k)) n (by rw [hoj]; nofun)
  rw [hoj, peek_pass_other U _ sc _ n hn] at hp
  exact peek_uuid_label U (good_ext (getLabel_ext U _ _ n) hg') n a hp

theorem mapNode_out (s : State) (m : Nat) (n : Node) (x : Node) (h : (mapNode s m n).2 = .node x) :
    ∃ id, x = some id := by
  simp only [mapNode] at h
  split at h
  · cases h
  · split at h
    · simp at h; exact ⟨_, h.symm⟩
    · split at h
      · cases h
      · simp at h; exact ⟨_, h.symm⟩

theorem peekMap_none_of_first (U : Nat → Bytes) (d : Nat) (ops : List Op) (j m : Nat) (n : Node)
    (hfirst : ∀ k, k < j → ops[k]? ≠ some (.mapNode m n)) : peekMap (exec U (init d) (ops.take j)) m n = none := by
  refine Classical.byContradiction fun hpm => ?_
  rcases exec_mapper_key U (init d) (ops.take j) m n hpm with h | h
  · exact h rfl
  · obtain ⟨k, hk, hkv⟩ := List.getElem_of_mem h
    rw [List.length_take] at hk
    rw [List.getElem_take] at hkv
    exact hfirst k (by omega) (by rw [List.getElem?_eq_getElem (by omega), hkv])

theorem runRefs_sound (U : Nat → Bytes) (s : State) (acc : List (Op × Out)) (rops : List ROp) (tr : List (Op × Out))
    (h : runRefs U s acc rops = some tr) : ∃ ops, tr = acc ++ trace U s ops := by
  induction rops generalizing s acc with
  | nil => simp [runRefs] at h; exact ⟨[], by simp [trace, h]⟩
  | cons r rs ih =>
    simp only [runRefs] at h
    split at h
    · cases h
    · rename_i op hop
      obtain ⟨ops, hops⟩ := ih _ _ h
      exact ⟨op :: ops, by simp [trace, hops]⟩

end RdfModel.Proofs.C14
