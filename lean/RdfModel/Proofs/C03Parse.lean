import RdfModel.Proofs.C03Model
import RdfModel.Props.C01
namespace RdfModel.Proofs.C03
open RdfModel RdfModel.Proofs.StrOrd RdfModel.C04 RdfModel.Proofs.C04


variable {β : Type} [DecidableEq β]

section
-- `C03.line_is_encoded_quad` binds `[DecidableEq β]`, which it only passes on to this lemma
set_option linter.unusedSectionVars false
theorem encodeQuad_eq_nquad (T : NQ.Tables) (henc : EncOK T) (lab : β → Str) (q : Quad β)
    (hwf : WFQuad T q) : NQ.encodeQuad T false lab true q = some (Spec.RDFC10.nquad lab q) := by
  obtain ⟨s, p, o, g⟩ := q
  obtain ⟨hs, hp, ho, hg⟩ := hwf
  rw [nquad_eq]
  cases p with
  | bnode _ => exact absurd hp (by simp [WFPredicate])
  | lit _ _ _ => exact absurd hp (by simp [WFPredicate])
  | iri pv =>
    have hpv := henc.iri pv hp
    have hS : NQ.writeNode T false lab s = some (Spec.RDFC10.term lab s) := by
      cases s with
      | lit _ _ _ => exact absurd hs (by simp [WFNode])
      | iri sv => simp [NQ.writeNode, Spec.RDFC10.term, henc.iri sv hs]
      | bnode sb => simp [NQ.writeNode, Spec.RDFC10.term]
    have hO : NQ.writeObject T false lab o = some (Spec.RDFC10.term lab o) := by
      cases o with
      | lit l d t => simp [NQ.writeObject, Spec.RDFC10.term, henc.lit l d t ho]
      | iri ov => simp [NQ.writeObject, NQ.writeNode, Spec.RDFC10.term, henc.iri ov ho]
      | bnode ob => simp [NQ.writeObject, NQ.writeNode, Spec.RDFC10.term]
    unfold NQ.encodeQuad
    simp only [hS, NQ.writePredicate, hpv, hO, Option.bind_eq_bind, Option.bind_some, Option.pure_def]
    cases g with
    | none => simp [specG, Spec.RDFC10.term]
    | some g =>
      cases g with
      | lit _ _ _ => exact absurd (hg _ rfl) (by simp [WFNode])
      | iri gv => simp [NQ.writeNode, specG, Spec.RDFC10.term, henc.iri gv (hg _ rfl)]
      | bnode gb => simp [NQ.writeNode, specG, Spec.RDFC10.term]

end

theorem encodeDoc_eq (T : NQ.Tables) (henc : EncOK T) (lab : β → Str) (qs : List (Quad β))
    (hwf : ∀ q ∈ qs, WFQuad T q) :
    NQ.encodeDoc T false lab true qs = (qs.map (Spec.RDFC10.nquad lab)).flatten := by
  unfold NQ.encodeDoc
  rw [List.flatMap_def]
  congr 1
  apply List.map_congr_left
  intro q hq
  rw [encodeQuad_eq_nquad T henc lab q (hwf q hq)]
  rfl

theorem roundtrip_labels (T : NQ.Tables) (hT1 : C01.TablesOK T) (henc : EncOK T) (urlOk : List Nat → Bool)
    (lab : β → Str) (qs : List (Quad β))
    (hwf : ∀ q ∈ qs, WFQuad T q) (hwf1 : ∀ q ∈ qs, C01.WFQuad urlOk q)
    (hlab : ∀ q ∈ qs, ∀ b ∈ Spec.RDFC10.quadBnodes q, C01.labelOK T (lab b) = true) :
    NQ.run T urlOk .eof true (qs.map (Spec.RDFC10.nquad lab)).flatten
      = (qs.map (Quad.map lab), .clean) := by
  rw [← encodeDoc_eq T henc lab qs hwf]
  refine Proofs.C01.run_roundtrip T hT1 urlOk false lab true qs (fun q hq b hb => hlab q hq b ?_) hwf1
  rw [mem_quadBnodes]
  rcases hb with h | h | h
  · exact .inl (by simp [h, Spec.RDFC10.bnodeOf])
  · exact .inr (.inl (by simp [h, Spec.RDFC10.bnodeOf]))
  · exact .inr (.inr ⟨_, h, by simp [Spec.RDFC10.bnodeOf]⟩)

/-- Facts about the regenerated PN_CHARS tables: the characters of `c14n<digits>` are label characters. -/
structure TablesLabel (T : NQ.Tables) : Prop where
  cU : inRanges T.pnCharsU 0x63 = true
  c1 : inRanges T.pnChars 0x31 = true
  c4 : inRanges T.pnChars 0x34 = true
  cn : inRanges T.pnChars 0x6e = true
  digits : ∀ d, 0x30 ≤ d → d ≤ 0x39 → inRanges T.pnChars d = true

theorem labelOK_c14n (T : NQ.Tables) (hL : TablesLabel T) (k : Nat) :
    C01.labelOK T (Spec.RDFC10.c14nPrefix ++ decimal k) = true := by
  have hrest : ∀ x ∈ [0x31, 0x34, 0x6e] ++ decimal k, inRanges T.pnChars x = true := by
    intro x hx
    simp only [List.mem_append, List.mem_cons, List.not_mem_nil, or_false] at hx
    rcases hx with (rfl | rfl | rfl) | hx
    · exact hL.c1
    · exact hL.c4
    · exact hL.cn
    · exact hL.digits x (decimal_digits k x hx).1 (decimal_digits k x hx).2
  show C01.labelOK T (0x63 :: ([0x31, 0x34, 0x6e] ++ decimal k)) = true
  unfold C01.labelOK
  simp only [hL.cU, Bool.true_or, Bool.true_and, Bool.and_eq_true, List.all_eq_true, Bool.or_eq_true]
  refine ⟨fun x hx => Or.inl (hrest x hx), ?_⟩
  cases hlast : ([0x31, 0x34, 0x6e] ++ decimal k).getLast? with
  | none => rfl
  | some z => exact hrest z (List.mem_of_getLast? hlast)

theorem labelOK_labelOf {T : NQ.Tables} (hL : TablesLabel T) {qs : List (Quad β)} {out : Rdfcanon.Out β}
    (hs : Shape T qs out) : ∀ q ∈ qs, ∀ b ∈ Spec.RDFC10.quadBnodes q, C01.labelOK T (labelOf out b) = true := by
  intro q hq b hb
  obtain ⟨v, hv⟩ := Option.isSome_iff_exists.mp (hs.total q hq b hb)
  obtain ⟨k, hk⟩ := hs.form b v hv
  simp only [labelOf, hv, Option.getD_some, hk]
  exact labelOK_c14n T hL k

theorem parses_back (T : NQ.Tables) (hT1 : C01.TablesOK T) (hT : TablesCanon T) (hL : TablesLabel T)
    (urlOk : List Nat → Bool) (qs : List (Quad β)) (out : Rdfcanon.Out β) (hs : Shape T qs out)
    (hwf : ∀ q ∈ qs, WFQuad T q) (hwf1 : ∀ q ∈ qs, C01.WFQuad urlOk q) :
    ∃ qs' : List (Quad β), qs'.Perm qs ∧
      NQ.run T urlOk .eof true out.bytes = (qs'.map (Quad.map (labelOf out)), .clean) := by
  have henc := encOK_of_tables T hT
  let le := fun (a b : Quad β) => strLe (Spec.RDFC10.nquad (labelOf out) a) (Spec.RDFC10.nquad (labelOf out) b)
  refine ⟨qs.mergeSort le, List.mergeSort_perm qs le, ?_⟩
  have hmem : ∀ q, q ∈ qs.mergeSort le ↔ q ∈ qs := fun q => List.mem_mergeSort
  have hbytes : out.bytes = ((qs.mergeSort le).map (Spec.RDFC10.nquad (labelOf out))).flatten := by
    unfold Rdfcanon.Out.bytes
    rw [lines_encoded hs]
    congr 1
    exact mergeSort_map_key (k' := id) qs fun _ _ => rfl
  rw [hbytes]
  apply roundtrip_labels T hT1 henc urlOk (labelOf out)
  · intro q hq; exact hwf q ((hmem q).mp hq)
  · intro q hq; exact hwf1 q ((hmem q).mp hq)
  · exact fun q hq => labelOK_labelOf hL hs q ((hmem q).mp hq)

omit [DecidableEq β] in
theorem term_map_inj_on {γ : Type} (f : β → γ) (t t' : Term β) (h : t.map f = t'.map f)
    (hinj : ∀ b ∈ Spec.RDFC10.bnodeOf t, ∀ b' ∈ Spec.RDFC10.bnodeOf t', f b = f b' → b = b') : t = t' := by
  cases t <;> cases t' <;> simp_all [Term.map, Spec.RDFC10.bnodeOf]

omit [DecidableEq β] in
theorem quad_map_inj_on {γ : Type} (f : β → γ) (q q' : Quad β) (hp : ∀ b, q.p ≠ .bnode b)
    (hp' : ∀ b, q'.p ≠ .bnode b) (h : q.map f = q'.map f)
    (hinj : ∀ b ∈ Spec.RDFC10.quadBnodes q, ∀ b' ∈ Spec.RDFC10.quadBnodes q', f b = f b' → b = b') :
    q = q' := by
  obtain ⟨s, p, o, g⟩ := q
  obtain ⟨s', p', o', g'⟩ := q'
  simp only [Quad.map, Quad.mk.injEq] at h
  obtain ⟨h1, h2, h3, h4⟩ := h
  have es : s = s' := term_map_inj_on f s s' h1 fun b hb b' hb' =>
    hinj b (mem_quadBnodes.2 (.inl hb)) b' (mem_quadBnodes.2 (.inl hb'))
  have eo : o = o' := term_map_inj_on f o o' h3 fun b hb b' hb' =>
    hinj b (mem_quadBnodes.2 (.inr (.inl hb))) b' (mem_quadBnodes.2 (.inr (.inl hb')))
  -- a predicate is no blank node (`hp`), so `b ∈ bnodeOf p` gives `p = .bnode b` and there is nothing to show
  have ep : p = p' := term_map_inj_on f p p' h2 fun b hb =>
    absurd (by cases p <;> simp_all [Spec.RDFC10.bnodeOf]) (hp b)
  have eg : g = g' := by
    cases g with
    | none => cases g' <;> simp_all
    | some t =>
      cases g' with
      | none => simp at h4
      | some t' =>
        exact congrArg some (term_map_inj_on f t t' (Option.some.inj h4) fun b hb b' hb' =>
          hinj b (mem_quadBnodes.2 (.inr (.inr ⟨t, rfl, hb⟩))) b' (mem_quadBnodes.2 (.inr (.inr ⟨t', rfl, hb'⟩))))
  rw [es, eo, ep, eg]

/-- Canonical lines of different quads differ.  A fact about the printer, proved through the reader: each line is
    decoded back by the N-Quads decoder (C01 round trip) to the relabelled quad, and the labelling is injective on the
    dataset.  Hence the decoder's hypotheses (`C01.TablesOK`, `TablesLabel`, `urlOk`, `hwf1`), which
    `C03.lines_sorted_unique` inherits. -/
theorem nquad_inj_on (T : NQ.Tables) (hT1 : C01.TablesOK T) (hT : TablesCanon T) (hL : TablesLabel T)
    (urlOk : List Nat → Bool) (qs : List (Quad β)) (out : Rdfcanon.Out β) (hs : Shape T qs out)
    (hwf : ∀ q ∈ qs, WFQuad T q) (hwf1 : ∀ q ∈ qs, C01.WFQuad urlOk q) :
    ∀ q ∈ qs, ∀ q' ∈ qs, Spec.RDFC10.nquad (labelOf out) q = Spec.RDFC10.nquad (labelOf out) q' → q = q' := by
  intro q hq q' hq' heq
  have henc := encOK_of_tables T hT
  have hlabok := labelOK_labelOf hL hs
  have r1 := roundtrip_labels T hT1 henc urlOk (labelOf out) [q]
    (by simpa using hwf q hq) (by simpa using hwf1 q hq) (by simpa using hlabok q hq)
  have r2 := roundtrip_labels T hT1 henc urlOk (labelOf out) [q']
    (by simpa using hwf q' hq') (by simpa using hwf1 q' hq') (by simpa using hlabok q' hq')
  simp only [List.map_cons, List.map_nil] at r1 r2
  rw [heq, r2] at r1
  have hm : q'.map (labelOf out) = q.map (labelOf out) := by
    have := (Prod.mk.inj r1).1
    simpa using this
  apply quad_map_inj_on (labelOf out) q q' (wf_pred T q (hwf q hq)) (wf_pred T q' (hwf q' hq')) hm.symm
  intro b hb b' hb' hbb
  obtain ⟨v, hv⟩ := Option.isSome_iff_exists.mp (hs.total q hq b hb)
  obtain ⟨v', hv'⟩ := Option.isSome_iff_exists.mp (hs.total q' hq' b' hb')
  simp only [labelOf, hv, hv', Option.getD_some] at hbb
  subst hbb
  exact hs.inj b b' v hv hv'

end RdfModel.Proofs.C03
