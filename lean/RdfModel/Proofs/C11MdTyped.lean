import RdfModel.Proofs.C11MdFlat
namespace RdfModel.Mdd.Typed
open RdfModel RdfModel.Desc RdfModel.Spec.Html RdfModel.Spec.Microdata RdfModel.Mdd

section
variable {β : Type} [DecidableEq β]

def itemOkT (x : Attrs × List (Triple β)) : Prop :=
  x.1.itemscope = true ∧ x.1.itemref = none ∧ ∀ t ∈ x.2, leafOk t

theorem typeTokens_eq_fields (s : Str) : typeTokens s = Spec.Html.fields s := by
  have h : ∀ (s acc : Str), typeTokensGo s acc = fieldsAux s acc := by
    intro s
    induction s with
    | nil => intro acc; simp [typeTokensGo, fieldsAux, flush]
    | cons c r ih =>
      intro acc
      unfold typeTokensGo fieldsAux
      have e : isReSpace c = isWs c := by
        unfold isReSpace isWs
        generalize (c == 9) = b1; generalize (c == 10) = b2; generalize (c == 12) = b3
        generalize (c == 13) = b4; generalize (c == 32) = b5
        cases b1 <;> cases b2 <;> cases b3 <;> cases b4 <;> cases b5 <;> rfl
      rw [e]
      cases hw : isWs c
      · simp [ih]
      · simp only [↓reduceIte, ih, flush]
        cases acc <;> simp
  exact h s []

theorem itemSubject_spec (base : Str) (tm mm : List (Bytes → Option (Term Nat))) (a : Attrs) (a' : ItemAttrs)
    (ha' : a'.itemid = a.itemid.getD []) (hid : ∀ v, a.itemid = some v → trimSpace v = trimWs v) (st0 : St) :
    itemSubject (specEnv base tm mm) a' none st0 =
      ((subjN base a st0.nextBn).1, { st0 with nextBn := (subjN base a st0.nextBn).2 }) := by
  unfold itemSubject subjN
  rw [ha']
  cases hv : a.itemid with
  | none => simp
  | some v =>
    by_cases hv0 : v = []
    · simp [hv0]
    · have := hid v hv
      simp [hv0, specEnv, resolveUrl]
      by_cases hb : base = [] <;> simp [hb]

theorem types_spec (base : Str) (tm mm : List (Bytes → Option (Term Nat))) (a : Attrs) (next : Subj) (s0 : St) :
    (if a.itemtype.getD [] ≠ [] then
      emitTypes (specEnv base tm mm) next (typeTokens (a.itemtype.getD [])) s0 else ([], s0)) =
    (typesOf a, { s0 with out := ((typesOf a).map (fun ty => (⟨next.term, Mdd.rdfType, .iri ty⟩ : Stmt))).reverse ++ s0.out }) := by
  cases hv : a.itemtype with
  | none => simp [typesOf, hv]
  | some v =>
    by_cases hv0 : v = []
    · subst hv0; simp [typesOf, hv, Spec.Html.fields, fieldsAux]
    · simp only [Option.getD_some, ne_eq, hv0, not_false_eq_true, ↓reduceIte]
      rw [emitTypes_out _ _ _ (typeTokens_ne v)]
      simp [specEnv, typesOf, hv, typeTokens_eq_fields]

end
end RdfModel.Mdd.Typed
