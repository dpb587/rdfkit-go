import RdfModel.Props.C17Defs
namespace RdfModel.Proofs.C17
open RdfModel RdfModel.Desc RdfModel.C17

section AL
variable {κ α : Type} [DecidableEq κ]

theorem alGet_alUpd (d : α) (f : α → α) (l : List (κ × α)) (x y : κ) :
    alGet d (alUpd d f l x) y = if x = y then f (alGet d l x) else alGet d l y := by
  induction l with
  | nil => simp [alUpd, alGet]
  | cons e rest ih =>
    obtain ⟨k, v⟩ := e
    by_cases hkx : k = x
    · subst hkx
      by_cases hky : k = y
      · simp [alUpd, alGet, hky]
      · simp [alUpd, alGet, hky]
    · by_cases hky : k = y
      · subst hky
        have : ¬ x = k := fun h => hkx h.symm
        simp [alUpd, alGet, hkx, this]
      · simp [alUpd, alGet, hkx, hky, ih]

/-- the keys after `alUpd … x`: a new key goes to the end -/
def addKey (ks : List κ) (x : κ) : List κ := if x ∈ ks then ks else ks ++ [x]

theorem keys_alUpd (d : α) (f : α → α) (l : List (κ × α)) (x : κ) :
    (alUpd d f l x).map (·.1) = addKey (l.map (·.1)) x := by
  unfold addKey
  induction l with
  | nil => simp [alUpd]
  | cons e rest ih =>
    obtain ⟨k, v⟩ := e
    by_cases hkx : k = x
    · subst hkx; simp [alUpd]
    · have hxk : ¬ x = k := fun h => hkx h.symm
      simp only [alUpd, hkx, if_false, List.map_cons, ih, List.mem_cons, hxk, false_or]
      split <;> simp

theorem mem_addKey {ks : List κ} {x a : κ} : a ∈ addKey ks x ↔ a ∈ ks ∨ a = x := by
  unfold addKey
  split
  · rename_i h
    exact ⟨Or.inl, fun h' => h'.elim id (fun e => e ▸ h)⟩
  · simp

theorem nodup_addKey {ks : List κ} (x : κ) (h : ks.Nodup) : (addKey ks x).Nodup := by
  unfold addKey
  split
  · exact h
  · rename_i hn
    refine List.nodup_append.2 ⟨h, by simp, fun a ha b hb hab => ?_⟩
    rw [List.mem_singleton.1 hb] at hab
    exact hn (hab ▸ ha)

theorem foldl_addKey_nodup (xs : List κ) : ∀ ks : List κ, ks.Nodup → (xs.foldl addKey ks).Nodup := by
  induction xs with
  | nil => intro ks h; exact h
  | cons x xs ih => intro ks h; exact ih _ (nodup_addKey x h)

theorem mem_foldl_addKey (xs : List κ) : ∀ (ks : List κ) (a : κ), a ∈ xs.foldl addKey ks ↔ a ∈ ks ∨ a ∈ xs := by
  induction xs with
  | nil => intro ks a; simp
  | cons x xs ih => intro ks a; simp only [List.foldl_cons, ih, mem_addKey, List.mem_cons, or_assoc]

theorem alGet_of_not_mem (d : α) (l : List (κ × α)) (x : κ) (h : x ∉ l.map (·.1)) : alGet d l x = d := by
  induction l with
  | nil => rfl
  | cons e rest ih =>
    obtain ⟨k, v⟩ := e
    simp only [List.map_cons, List.mem_cons, not_or] at h
    have : ¬ k = x := fun h' => h.1 h'.symm
    simp [alGet, this, ih h.2]

end AL

variable {β : Type} [DecidableEq β]

theorem exists_of_refs_pos (T : List (Triple β)) (b : β) (h : 0 < refs T b) :
    ∃ t ∈ T, t.o = Term.bnode b := by
  simpa [refs, List.countP_pos_iff] using h

def poOf (t : Triple β) : PO β := (t.p, t.o)

theorem stmts_add1 (B : Builder β) (t : Triple β) (s : Term β) :
    (B.add1 t).stmts s = if t.s = s then B.stmts t.s ++ [poOf t] else B.stmts s := by
  simp [Builder.add1, Builder.stmts, alGet_alUpd, poOf]

theorem refCount_add1 (B : Builder β) (t : Triple β) (b : β) :
    (B.add1 t).refCount b = B.refCount b + (if t.o = Term.bnode b then 1 else 0) := by
  unfold Builder.add1 Builder.refCount
  cases ho : t.o with
  | iri v => simp
  | lit l d g => simp
  | bnode c =>
    simp only [alGet_alUpd, Term.bnode.injEq]
    by_cases h : c = b
    · subst h; simp
    · simp [h]

theorem stmts_add (B : Builder β) (T : List (Triple β)) (s : Term β) :
    (B.add T).stmts s = B.stmts s ++ (T.filter (fun t => t.s = s)).map poOf := by
  induction T generalizing B with
  | nil => simp [Builder.add]
  | cons t rest ih =>
    have : B.add (t :: rest) = (B.add1 t).add rest := rfl
    rw [this, ih, stmts_add1]
    by_cases h : t.s = s
    · subst h; simp
    · simp [h]

theorem refCount_add (B : Builder β) (T : List (Triple β)) (b : β) :
    (B.add T).refCount b = B.refCount b + refs T b := by
  induction T generalizing B with
  | nil => simp [Builder.add, refs]
  | cons t rest ih =>
    have : B.add (t :: rest) = (B.add1 t).add rest := rfl
    rw [this, ih, refCount_add1]
    by_cases h : t.o = Term.bnode b
    · simp [refs, h]; omega
    · simp [refs, h]

theorem subjects_add1 (B : Builder β) (t : Triple β) : (B.add1 t).subjects = addKey B.subjects t.s :=
  keys_alUpd _ _ _ _

theorem subjects_add (T : List (Triple β)) : ∀ B : Builder β,
    (B.add T).subjects = (T.map (·.s)).foldl addKey B.subjects := fun _ =>
  (List.foldl_hom Builder.subjects fun B t => (subjects_add1 B t).symm).symm.trans List.foldl_map.symm

theorem stmts_build (T : List (Triple β)) (s : Term β) :
    (build T).stmts s = (T.filter (fun t => t.s = s)).map poOf := by
  rw [build, stmts_add]; simp [Builder.empty, Builder.stmts, alGet]

theorem refCount_build (T : List (Triple β)) (b : β) : (build T).refCount b = refs T b := by
  rw [build, refCount_add]; simp [Builder.empty, Builder.refCount, alGet]

theorem subjects_build_nodup (T : List (Triple β)) : (build T).subjects.Nodup := by
  rw [build, subjects_add]
  exact foldl_addKey_nodup _ _ List.nodup_nil

theorem mem_subjects_build (T : List (Triple β)) (s : Term β) :
    s ∈ (build T).subjects ↔ ∃ t ∈ T, t.s = s := by
  rw [build, subjects_add, mem_foldl_addKey]; simp [Builder.empty, Builder.subjects]

theorem isInl_build (T : List (Triple β)) (opts : Opts) (x : Term β) :
    (build T).isInl opts x = (opts.inline && once T x) := by
  cases x <;> simp [Builder.isInl, once, refCount_build]

theorem add_append (B : Builder β) (t₁ t₂ : List (Triple β)) : (B.add t₁).add t₂ = B.add (t₁ ++ t₂) := by
  simp [Builder.add, List.foldl_append]

theorem run_eq_add (h : List (HStep β)) : ∀ B : Builder β, B.run h = B.add (addedBy h) := by
  induction h with
  | nil => intro B; rfl
  | cons st h ih =>
    intro B
    have : B.run (st :: h) = (B.hstep st).run h := rfl
    rw [this, ih]
    cases st with
    | add ts => simp [Builder.hstep, addedBy, HStep.added, add_append]
    | exportRs o a b k => simp [Builder.hstep, addedBy, HStep.added]
    | exportOne o s => simp [Builder.hstep, addedBy, HStep.added]

end RdfModel.Proofs.C17
