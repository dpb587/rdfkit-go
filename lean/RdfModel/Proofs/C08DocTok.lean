/-
  C08, document level — the token theorems of `Props/C08Tokens.lean` restated against the printer of
  `Spec/TurtleAbstract.lean`: "what follows the token does not clash with it" (`TA.clash … = false`)
  is the stop condition of every producer, including a `.` glued to a name, a label or a number
  (trailing-dot hand-back).
-/
import RdfModel.Props.C08Tokens
import RdfModel.Props.C08DocDefs
namespace RdfModel.C08
open RdfModel RdfModel.TA RdfModel.C02 RdfModel.Ttl RdfModel.Spec.TtlPrint RdfModel.Proofs.C08Tok

theorem isDigit_delim {d : Nat} (h : d ∈ delims) : isDigit d = false :=
  (by decide : ∀ d ∈ delims, isDigit d = false) d h

theorem isAlpha_delim {d : Nat} (h : d ∈ delims) : isAlpha d = false :=
  (by decide : ∀ d ∈ delims, isAlpha d = false) d h

section facts
variable {T : Tables} (hT2 : TablesOK2 T)
include hT2

theorem pn_delim {d : Nat} (h : d ∈ delims) : inRanges T.pnChars d = false := hT2.delim d h

theorem pnU_delim {d : Nat} (h : d ∈ delims) : inRanges T.pnCharsU d = false :=
  Bool.eq_false_iff.2 (fun hh => by
    have := hT2.u_sub d hh
    rw [hT2.delim d h] at this
    exact Bool.noConfusion this)

theorem pnB_delim {d : Nat} (h : d ∈ delims) : inRanges T.pnCharsBase d = false :=
  Bool.eq_false_iff.2 (fun hh => by
    have := hT2.base_sub d hh
    rw [pnU_delim hT2 h] at this
    exact Bool.noConfusion this)

theorem pnB_pn {c : Nat} (h : inRanges T.pnCharsBase c = true) : inRanges T.pnChars c = true :=
  hT2.u_sub c (hT2.base_sub c h)

end facts

section toks
variable {T : Tables} (hT : TablesOK T)

theorem nameCont_false {c : Nat} (h : nameCont T c = false) :
    inRanges T.pnChars c = false ∧ inRanges T.pnCharsU c = false ∧ isDigit c = false ∧
      c ≠ 0x2e ∧ c ≠ 0x3a ∧ c ≠ 0x25 ∧ c ≠ 0x5c := by
  simp only [nameCont, Bool.or_eq_false_iff, decide_eq_false_iff_not] at h
  obtain ⟨⟨⟨⟨⟨⟨a, b⟩, c'⟩, d⟩, e'⟩, f⟩, g⟩ := h
  exact ⟨a, b, c', d, e', f, g⟩

theorem localStop_of_clash {A : List Nat} (h : clash T .name A = false) (hd : ∀ r, A ≠ 0x2e :: r) :
    LocalStop T .eof A := by
  cases A with
  | nil => rfl
  | cons c r =>
    have hc : c ≠ 0x2e := fun hh => hd r (by rw [hh])
    simp only [clash, hc, if_false] at h
    exact nameCont_false h

include hT in
/-- After a local name the scanner stops at anything that does not clash with a name; a `.` that
    something which cannot continue a name follows is taken into the name and handed back. -/
theorem localEnd_of_clash {A : List Nat} (hA : clash T .name A = false) : LocalEnd T .eof A := by
  by_cases hd : ∃ r, A = 0x2e :: r
  · obtain ⟨r, rfl⟩ := hd
    refine ⟨fun acc le h1 h2 => ?_, by rw [scanLocal]; simp [hT.pnU_dot, isDigit, NQ.isDigit]⟩
    have hstep : scanLocal T .eof .body (0x2e :: r) acc le = scanLocal T .eof .body r (0x2e :: acc) false := by
      rw [scanLocal]; simp
    rw [hstep]
    cases r with
    | nil => rw [scanLocal]; simp [localDone]
    | cons d r' =>
      simp only [clash, if_true] at hA
      obtain ⟨a, _, _, b, c', d', f⟩ := nameCont_false hA
      rw [scanLocal, a]
      simp [b, c', d', f, localDone]
  · exact .of_stop (localStop_of_clash hA (fun r hr => hd ⟨r, hr⟩))

include hT in
theorem pname_tok (chs : List Choice) (p l out A : List Nat) (hp : prefixOK T p = true) (hps : Scalars p)
    (hs : Scalars l) (h : printPrefixedName T chs p l = some out) (hA : clash T .name A = false) :
    producePrefixedName T .eof (out ++ A) = .ok (p, l) A := by
  simp only [printPrefixedName, Option.map_eq_some_iff] at h
  obtain ⟨lo, hl, rfl⟩ := h
  simpa using Proofs.C02Tok.print_pname T hT .eof chs p l lo hp hps hs hl (localEnd_of_clash hT hA)

include hT in
theorem bnode_tok (l A : List Nat) (hs : Scalars l) (hl : labelOK T l = true) (hA : clash T .label A = false) :
    produceBlankNode T .eof (0x5f :: 0x3a :: l ++ A) = .ok l A := by
  by_cases hd : ∃ r, A = 0x2e :: r
  · obtain ⟨r, rfl⟩ := hd
    have hstop : LabelStop T .eof r := by
      cases r with
      | nil => rfl
      | cons d r' =>
        simp only [clash, if_true, Bool.or_eq_false_iff, decide_eq_false_iff_not] at hA
        exact hA
    simpa using Proofs.C02Tok.bnode_dot T hT .eof l r hs hl hstop true
  · apply decode_print_bnode T hT .eof l A hs hl
    cases A with
    | nil => rfl
    | cons c r =>
      have hc : c ≠ 0x2e := fun hh => hd ⟨r, by rw [hh]⟩
      simp only [clash, hc, if_false] at hA
      exact ⟨hA, hc⟩

theorem num_tok (lex dt A : List Nat) (h : bareLiteralDatatype lex = some dt) (hdt : dt ≠ xsdBoolean)
    (hA : clash T .num A = false) :
    ∃ k : NumKind, k.datatype = dt ∧ produceNumericLiteral .eof (lex ++ A) = .ok (k, lex) A := by
  apply decode_print_numeric .eof lex dt A h hdt
  cases A with
  | nil => rfl
  | cons c r =>
    simp only [NumStop]
    by_cases hc : c = 0x2e
    · right
      refine ⟨hc, ?_⟩
      simp only [clash, hc, if_true] at hA
      cases r with
      | nil => trivial
      | cons d r' =>
        simp only [numCont, Bool.or_eq_false_iff, decide_eq_false_iff_not] at hA
        simp [hA.1.1, hA.1.2, hA.2]
    · left
      simp only [clash, hc, if_false, numCont, Bool.or_eq_false_iff, decide_eq_false_iff_not] at hA
      simp [numStopRune, hA.1.1, hA.1.2, hA.2, hc]

theorem lang_tok (t A : List Nat) (h : langOK t = true) (hA : clash T .lang A = false) :
    produceLANGTAG .eof (0x40 :: t ++ A) = .ok t A := by
  apply decode_print_langtag .eof t A h
  cases A with
  | nil => rfl
  | cons c r =>
    simp only [clash, Bool.or_eq_false_iff, decide_eq_false_iff_not] at hA
    exact ⟨hA.1.1, hA.1.2, hA.2⟩

include hT in
theorem str_tok (st : Style) (chs : List Choice) (s A : List Nat) (hs : Scalars s)
    (hA : clash T (strKind st s) A = false) :
    produceString T .eof (printString st chs s ++ A) = .ok s A := by
  apply decode_print_string T hT .eof st chs s hs A
  unfold StrStop
  by_cases h1 : st.long = true
  · exact Or.inl h1
  · by_cases h2 : s = []
    · right; right
      subst h2
      cases A with
      | nil => rfl
      | cons c r =>
        simp only [strKind, List.isEmpty_nil, h1, Bool.not_false, Bool.and_self, if_true, clash,
          decide_eq_false_iff_not] at hA
        exact hA
    · exact Or.inr (Or.inl h2)

end toks

section layout
variable {T : Tables} (hT2 : TablesOK2 T) {C : TtlDoc.Cfg}
open TtlDoc

def layHead (c : Nat) : Bool := isWsRune c || c = 0x23

theorem wsRune_ws (c : Nat) : isWsRune (wsRune c) = true := by
  unfold wsRune
  split <;> decide

theorem renderItem_head (b : Bool) (it : LItem) : ∃ h t, renderItem b it = h :: t ∧ layHead h = true := by
  cases it with
  | ws c => exact ⟨wsRune c, [], rfl, by simp [layHead, wsRune_ws]⟩
  | comment t eol => exact ⟨0x23, _, rfl, by decide⟩

theorem renderLay_head (b : Bool) (lay : List LItem) :
    renderLay b lay = [] ∨ ∃ h t, renderLay b lay = h :: t ∧ layHead h = true := by
  cases lay with
  | nil => exact Or.inl rfl
  | cons it rest =>
    right
    cases rest with
    | nil => exact renderItem_head b it
    | cons it' rest' =>
      obtain ⟨h, t, ht, hh⟩ := renderItem_head false it
      exact ⟨h, t ++ renderLay b (it' :: rest'), by simp [renderLay, ht], hh⟩

include hT2 in
theorem clash_layHead (k : Prev) {h : Nat} (t : List Nat) (hh : layHead h = true) : clash T k (h :: t) = false := by
  have hm : h ∈ delims := by
    simp only [layHead, isWsRune, Bool.or_eq_true, decide_eq_true_eq] at hh
    rcases hh with (((hh | hh) | hh) | hh) | hh <;> subst hh <;> decide
  have hne : h ≠ 0x2e ∧ h ≠ 0x3a ∧ h ≠ 0x25 ∧ h ≠ 0x5c ∧ h ≠ 0x2d ∧ h ≠ 0x65 ∧ h ≠ 0x45 ∧ h ≠ 0x22 ∧ h ≠ 0x27 := by
    simp only [layHead, isWsRune, Bool.or_eq_true, decide_eq_true_eq] at hh
    rcases hh with (((hh | hh) | hh) | hh) | hh <;> subst hh <;> decide
  obtain ⟨n1, n2, n3, n4, n5, n6, n7, n8, n9⟩ := hne
  cases k with
  | punct => rfl
  | name => simp [clash, n1, nameCont, pn_delim hT2 hm, pnU_delim hT2 hm, isDigit_delim hm, n2, n3, n4]
  | label => simp [clash, n1, pn_delim hT2 hm]
  | num => simp [clash, n1, numCont, isDigit_delim hm, n6, n7]
  | lang => simp [clash, isAlpha_delim hm, isDigit_delim hm, n5]
  | emptyStr st => cases st <;> simp [clash, Style.delim, n8, n9]

include hT2 in
theorem after_noclash (k : Prev) (s : Slot) (rest : List Nat) : clash T k (after T k s rest) = false := by
  unfold after
  split
  · exact clash_layHead hT2 k rest (by decide)
  · next hc =>
    rcases renderLay_head rest.isEmpty s.lay with h0 | ⟨h, t, ht, hh⟩
    · rw [h0] at hc ⊢
      simpa using hc
    · rw [ht]
      exact clash_layHead hT2 k _ hh

theorem isWs_of_wsRune {c : Nat} (h : isWsRune c = true) : isWs C c = true := by
  simp only [isWsRune, Bool.or_eq_true, decide_eq_true_eq] at h
  simp only [isWs, Bool.or_eq_true, decide_eq_true_eq]
  rcases h with ((h | h) | h) | h <;> simp [h]

theorem skipWs_ws {e : NQ.End} {c : Nat} (h : isWsRune c = true) (r : List Nat) :
    skipWs C e false (c :: r) = skipWs C e false r := by
  have hne : c ≠ 0x23 := by
    simp only [isWsRune, Bool.or_eq_true, decide_eq_true_eq] at h
    rcases h with ((h | h) | h) | h <;> subst h <;> decide
  rw [skipWs]
  simp [hne, isWs_of_wsRune h]

theorem skipWs_comment (t r : List Nat) (ht : ∀ c ∈ t, c ≠ 0x0a ∧ c ≠ 0x0d) :
    skipWs C .eof true (t ++ r) = skipWs C .eof true r := by
  induction t with
  | nil => rfl
  | cons c t ih =>
    rw [List.cons_append, skipWs]
    have := ht c List.mem_cons_self
    rw [if_neg (by intro h; rcases h with h | h; exact this.1 h; exact this.2 h)]
    exact ih (fun x hx => ht x (List.mem_cons_of_mem _ hx))

theorem commentText_noEol (t : List Nat) : ∀ c ∈ commentText t, c ≠ 0x0a ∧ c ≠ 0x0d := by
  intro c hc
  simp only [commentText, List.mem_filter, Bool.and_eq_true, bne_iff_ne] at hc
  exact hc.2

theorem renderItem_skip (b : Bool) (it : LItem) (r : List Nat) (hb : b = true → r = []) :
    skipWs C .eof false (renderItem b it ++ r) = skipWs C .eof false r := by
  cases it with
  | ws c => exact skipWs_ws (wsRune_ws c) r
  | comment t eol =>
    simp only [renderItem, List.cons_append]
    rw [skipWs]
    simp only [if_true]
    have hno := commentText_noEol t
    have upto : ∀ z r, z = 0x0a ∨ z = 0x0d →
        skipWs C .eof true (commentText t ++ z :: r) = skipWs C .eof false r := fun z r hz => by
      rw [skipWs_comment _ _ hno, skipWs, if_pos hz]
    have lf := upto 0x0a r (Or.inl rfl)
    match eol with
    | 0 => simpa [eolText] using lf
    | 1 =>
      have := upto 0x0d (0x0a :: r) (Or.inr rfl)
      simp only [eolText, List.append_assoc, List.cons_append, List.nil_append]
      rw [this]
      exact skipWs_ws (by decide) r
    | 2 =>
      have := upto 0x0d r (Or.inr rfl)
      simpa [eolText] using this
    | 3 =>
      cases b with
      | false => simpa [eolText] using lf
      | true =>
        have hr := hb rfl
        subst hr
        simp only [eolText, if_true, List.append_nil]
        rw [← List.append_nil (commentText t), skipWs_comment _ _ hno]
        simp [skipWs]
    | n + 4 => simpa [eolText] using lf

/-- `b` (nothing follows the layout in the document) may only be set when `r` is empty -/
theorem renderLay_skip (b : Bool) (lay : List LItem) (r : List Nat) (hb : b = true → r = []) :
    skipWs C .eof false (renderLay b lay ++ r) = skipWs C .eof false r := by
  induction lay with
  | nil => rfl
  | cons it rest ih =>
    cases rest with
    | nil =>
      simp only [renderLay]
      exact renderItem_skip _ it r hb
    | cons it' rest' =>
      simp only [renderLay, List.append_assoc]
      rw [renderItem_skip false it _ (by intro h; cases h)]
      exact ih

theorem after_skip (k : Prev) (s : Slot) (rest : List Nat) :
    skipWs C .eof false (after T k s rest) = skipWs C .eof false rest := by
  unfold after
  split
  · exact skipWs_ws (by decide) rest
  · exact renderLay_skip _ s.lay rest List.isEmpty_iff.1

/-- a keyword's layout (slot without `glue`): a white-space character, then skippable text; `lt`
    (after `BASE`) also allows nothing at all -/
theorem afterKw_form (lt : Bool) (s : Slot) (hs : slotOK s = true) (rest : List Nat) :
    (∃ w tl, afterKw T lt s rest = w :: tl ∧ isWsRune w = true ∧
        skipWs C .eof false tl = skipWs C .eof false rest) ∨
    (lt = true ∧ afterKw T lt s rest = rest) := by
  have hs' := hs
  simp only [slotOK, Bool.not_eq_true'] at hs
  unfold afterKw
  rw [if_neg (by simp [hs])]
  have hsk := renderLay_skip (C := C) rest.isEmpty s.lay rest List.isEmpty_iff.1
  cases hl : renderLay rest.isEmpty s.lay with
  | nil =>
    simp only
    cases lt with
    | true => exact Or.inr ⟨rfl, by simp⟩
    | false => exact Or.inl ⟨0x20, rest, by simp, by decide, rfl⟩
  | cons c l =>
    simp only
    rw [hl] at hsk
    left
    by_cases hw : isWsRune c = true
    · refine ⟨c, l ++ rest, by simp [hw], hw, ?_⟩
      rw [← hsk, List.cons_append, skipWs_ws hw]
    · exact ⟨0x20, c :: l ++ rest, by simp [hw], by decide, by simpa using hsk⟩

end layout

end RdfModel.C08
