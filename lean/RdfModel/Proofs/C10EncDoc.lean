/-
  Under the active context of the encoder's `@context` (`GoodCtx`), the JSON value `buildResource`
  writes for one ObjectStatement — `{"@id": …}` for an IRI or a blank node, a string, a typed or
  language-tagged value object for a literal — evaluates under `evalItem` to exactly the one quad of
  the statement, and the member name it is filed under classifies as that property.
-/
import RdfModel.Proofs.C10EncIri
namespace RdfModel.Proofs.C10
open RdfModel RdfModel.Desc RdfModel.JL RdfModel.JLEnc RdfModel.C10

variable {β : Type} {E : Enc} {bs : Option Str} {used names : List Str} {c : Ctx}

theorem evalItem_iriObj (hc : GoodCtx E bs used names c) (hbase : bs.isSome = E.base.isSome) {v : Str}
    (h : IriOK E used names v) (hrel : ∀ b, bs = some b → relOK E names b v = true)
    (g : Option T) (s : T) (p : Str) (n : Nat) :
    evalItem c TermDef.plain g s p (.obj [(kId, .str (compactDocumentIRI E v).1)]) n =
      some ([quad s p (.iri v) g], n) :=
  evalItem_idObj c g s p _ _ n (by rw [docForm hc hbase h hrel]; simp [nodeRef, h.abs])

theorem evalItem_bnodeObj (label : β → Str) (hne : ∀ b, label b ≠ []) (c : Ctx) (g : Option T) (s : T) (p : Str)
    (b : β) (n : Nat) :
    evalItem c TermDef.plain g s p (.obj [(kId, .str ([cUnderscore, cColon] ++ label b))]) n =
      some ([quad s p (.bnode (.orig (label b))) g], n) :=
  evalItem_idObj c g s p _ _ n (by
    show nodeRef (expandIri c false true (cUnderscore :: cColon :: label b)) = _
    rw [expandIri_bnode c false true _ nofun]; simp [nodeRef, hne b])

theorem evalItem_litObj (hc : GoodCtx E bs used names c) (lex dt : Str) (lang : Option Str)
    (hwf : wfObj (Term.lit lex dt lang : Term β) = true)
    (hnn : (dt == xsdInteger || dt == xsdDouble || dt == xsdBoolean) = false)
    (hdt : dt ≠ xsdString → IriOK E used names dt)
    (g : Option T) (s : T) (p : Str) (n : Nat) :
    evalItem c TermDef.plain g s p (literalValue E lex dt lang).1 n =
      some ([quad s p (.lit lex dt lang) g], n) := by
  simp only [Bool.or_eq_false_iff, beq_eq_false_iff_ne] at hnn
  obtain ⟨⟨h1, h2⟩, h3⟩ := hnn
  unfold literalValue
  by_cases hs : dt = xsdString
  · subst hs
    cases lang with
    | some l =>
      simp only [wfObj, Bool.and_eq_true, beq_iff_eq] at hwf
      exact absurd hwf.1 (by simp [asc_consts])
    | none =>
      simp only [if_true]
      -- `eq_6`, the clause for scalars: the main goal is `evalScalar` on a string; its side conditions say
      -- that `.str lex` is not `.null`, no `.arr _`, no `.obj _` of the clauses before, each by `cases e`
      rw [evalItem.eq_6] <;> first
        | simp [evalScalar, TermDef.plain, hc.lang]
        | (intros; rename_i e; cases e)
        | (intro e; cases e)
  · simp only [hs, if_false, h1, h2, h3, Bool.false_and, Bool.or_self, Bool.false_eq_true, decide_false]
    have hform := (vocabForm hc (hdt hs)).2.2 true true
    cases lang with
    | none =>
      have : (if dt = rdfLangString then (none : Option Str) else none) = none := by split <;> rfl
      simp only [this]
      exact evalItem_typedValue c _ g s p lex _ dt n hform hwf
    | some l =>
      simp only [wfObj, Bool.and_eq_true, beq_iff_eq] at hwf
      obtain ⟨rfl, hl⟩ := hwf
      simp only [if_true]
      exact evalItem_langValue c _ g s p lex l n hl

/-- with the plain term definition: the name is no term, it contains a colon -/
theorem classifyKey_vocab (hc : GoodCtx E bs used names c) {p : Str} (h : IriOK E used names p) :
    classifyKey c (compactVocabIRI E p).1 = .prop p TermDef.plain := by
  obtain ⟨hhead, hcol, hexp⟩ := vocabForm hc h
  exact classifyKey_of_expand c hhead (term?_none_of_colon hc hcol) (hexp true false) h.abs

end RdfModel.Proofs.C10
