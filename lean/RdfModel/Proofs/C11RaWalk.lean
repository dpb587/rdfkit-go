import RdfModel.Proofs.C11RaSteps
namespace RdfModel.Rdfad
open RdfModel RdfModel.Desc
open RdfModel.Mdd (Node Attr Bytes Subj fields trimSpace typeTokens textContent)

/-- profile detection and <base> leave `core` and these fields of the evaluation context alone -/
structure Framed (ctx : Ctx) (st : St) (c : Ctx × St) : Prop where
  state : core c.2 = core st
  ps : c.1.parentSubject = ctx.parentSubject
  po : c.1.parentObject = ctx.parentObject
  inc : c.1.incomplete = ctx.incomplete
  lang : c.1.language = ctx.language

theorem Framed.trans {ctx : Ctx} {st : St} {c d : Ctx × St} (h1 : Framed ctx st c) (h2 : Framed c.1 c.2 d) :
    Framed ctx st d :=
  ⟨h2.state.trans h1.state, h2.ps.trans h1.ps, h2.po.trans h1.po, h2.inc.trans h1.inc, h2.lang.trans h1.lang⟩

theorem htmlInit_spec (cfg : Cfg) (n : Node) (ctx : Ctx) (st : St) : Framed ctx st (htmlInit cfg n ctx st) := by
  unfold htmlInit
  extract_lets st1 st2 st3
  have h1 : core st1 = core st := by
    unfold st1
    split
    · exact core_profile st _
    · rfl
  have h2 : core st2 = core st := (core_terms st1 _).trans h1
  have h3 : core st3 = core st := by
    unfold st3
    split
    · exact (core_terms st2 _).trans h2
    · exact h2
  split
  · exact ⟨h3, rfl, rfl, rfl, rfl⟩
  · exact ⟨h1, rfl, rfl, rfl, rfl⟩

theorem baseElem_spec (E : Env) (n : Node) (ctx : Ctx) (st : St) : Framed ctx st (baseElem E n ctx st) := by
  unfold baseElem
  repeat' split
  all_goals exact ⟨rfl, rfl, rfl, rfl, rfl⟩

theorem pre_spec (E : Env) (cfg : Cfg) (n : Node) (ctx : Ctx) (st : St) : Framed ctx st (pre E cfg n ctx st) := by
  unfold pre
  extract_lets c
  have h1 : Framed ctx st c := by
    unfold c
    split
    · exact ⟨rfl, rfl, rfl, rfl, rfl⟩
    · split
      · exact htmlInit_spec cfg n ctx st
      · exact ⟨rfl, rfl, rfl, rfl, rfl⟩
  split
  · exact h1.trans (baseElem_spec E n c.1 c.2)
  · exact h1

theorem NodeOK.same {ctx : Ctx} {st : St} {c : Ctx × St} {isRoot : Bool} {n : Node} (h : NodeOK ctx isRoot n)
    (s : Framed ctx st c) : NodeOK c.1 isRoot n := by
  rcases h with h | h
  · left; unfold KidOK at *; rw [s.ps, s.po, s.lang]; exact h
  · right; unfold TopOK at *; rw [s.inc, s.lang]; exact h

theorem rule7_spec (E : Env) (a : A) (l : L) (st : St) :
    core (rule7 E a l st).2 = core st ∧ (rule7 E a l st).1.skip = l.skip ∧ (rule7 E a l st).1.lang = l.lang := by
  unfold rule7
  split
  · simp
  · exact ⟨rfl, rfl, rfl⟩

theorem step56_spec (E : Env) (active isRoot : Bool) (n : Node) (ctx : Ctx) (a : A) (l : L) (st : St)
    (h : NodeOK ctx isRoot n) (hl : l.skip = false) :
    core (step56 E active isRoot n ctx a l st).2 = core st ∧ Post isRoot a l (step56 E active isRoot n ctx a l st).1 := by
  unfold step56
  split
  · exact step5_spec E active isRoot n ctx a l st h hl
  · exact step6_spec E isRoot n ctx a l st h hl

theorem enter_spec (E : Env) (hE : EnvOK E) (cfg : Cfg) (isRoot : Bool) (n : Node) (ctx : Ctx) (st : St) (i : Inv st)
    (h : NodeOK ctx isRoot n) :
    Inv (enter E cfg isRoot n ctx st).2.2 ∧
      KidOK (childCtx (enter E cfg isRoot n ctx st).1 (enter E cfg isRoot n ctx st).2.1) ∧
      (enter E cfg isRoot n ctx st).2.1.newSubject.isSome := by
  unfold enter
  simp only
  have hp := pre_spec E cfg n ctx st
  generalize pre E cfg n ctx st = c at hp ⊢
  have hn : NodeOK c.1 isRoot n := h.same hp
  have hlang : c.1.language ≠ some [] := by
    rcases hn with hn | hn
    · exact hn.2.2
    · exact hn.2.2.2
  generalize scanAttrs E (isXHTML c.2.profile) n.attrs { localBase := c.1.base } = a
  have i0 : Inv { c.2 with asks := a.asks ++ c.2.asks } := Inv.of_core (by rw [core_asks]; exact hp.state) i
  generalize isActive c.2.profile = active
  generalize ({ c.2 with asks := a.asks ++ c.2.asks } : St) = st0 at i0 ⊢
  have h2 := stepVocab_spec E c.1 a (locals0 c.1 a) st0 i0
  generalize stepVocab E c.1 a (locals0 c.1 a) st0 = r2 at h2 ⊢
  have hs3 : (step34 E active a r2.1).skip = false := by simp [step34, h2.2.1, locals0]
  have hl3 : (step34 E active a r2.1).lang ≠ some [] := by
    simp only [step34]
    apply stepLang_ne
    rw [h2.2.2]; exact hlang
  have h7 := rule7_spec E a (step34 E active a r2.1) r2.2
  generalize rule7 E a (step34 E active a r2.1) r2.2 = r7 at h7 ⊢
  have h6 := step56_spec E active isRoot n c.1 a r7.1 r7.2 hn (by rw [h7.2.1]; exact hs3)
  generalize step56 E active isRoot n c.1 a r7.1 r7.2 = r6 at h6 ⊢
  obtain ⟨hc6, p6⟩ := h6
  have i6 : Inv r6.2 := Inv.of_core (by rw [hc6, h7.1]) h2.1
  have i7 := stepTypeof_inv E a r6.1 r6.2 i6
  have h8 := step8_spec c.1 r6.1 (stepTypeof E a r6.1 r6.2)
  generalize step8 c.1 r6.1 (stepTypeof E a r6.1 r6.2) = r8 at h8 ⊢
  have i8 : Inv r8.2 := Inv.of_core h8.1 i7
  have hns8 : r8.1.newSubject.isSome := by rw [h8.2.1.ns]; exact p6.ns
  have h9 := step910_spec E n a r8.1 r8.2 i8 hns8
  generalize step910 E n a r8.1 r8.2 = r9 at h9 ⊢
  -- steps 8–10 leave the four fields alone: what steps 5 / 6 established holds of the final locals
  have s := h8.2.1.trans h9.2
  have hns9 : r9.1.newSubject.isSome := by rw [s.ns]; exact p6.ns
  have hlang9 : r9.1.lang ≠ some [] := by rw [s.lang, p6.lang, h7.2.2]; exact hl3
  have ht9 : a.typeof.isSome → a.about.isNone → r9.1.typed.isSome := by rw [s.typed]; exact p6.typed
  have i11 := step11_spec E hE active n a r9.1 r9.2 h9.1 hns9 ht9 hlang9
  have hinc : c.1.incomplete = [] ∨ c.1.parentSubject.isSome := by
    rcases hn with hn | hn
    · exact Or.inr hn.1
    · exact Or.inl hn.2.2.1
  refine ⟨step12_spec c.1 r9.1 _ i11 hinc, childCtx_ok c.1 r9.1 hns9 hlang9 ?_, hns9⟩
  intro hsk
  have hsk6 : r6.1.skip = true := by rw [← s.skip]; exact hsk
  have hr := p6.skip hsk6
  rcases hn with hn | hn
  · exact hn
  · rw [hn.1] at hr; cases hr

theorem leave_spec (isRoot : Bool) (ctx : Ctx) (l : L) (st : St) (i : Inv st) (hns : l.newSubject.isSome) :
    Inv (leave isRoot ctx l st) := by
  unfold leave
  simp only
  have i1 : Inv (if flushCount (st.getMap ctx.listMapping) (st.getMap l.listMapping) ≥ 2 then { st with unordered := true } else st) := by
    split
    · exact Inv.of_core (core_unordered st true) i
    · exact i
  generalize (if flushCount (st.getMap ctx.listMapping) (st.getMap l.listMapping) ≥ 2 then { st with unordered := true } else st) = st1 at i1 ⊢
  have i2 := flushLists_inv (st.getMap ctx.listMapping) l.newSubject hns (st.getMap l.listMapping) st1 i1
  split
  · exact copyStep_inv _ i2
  · exact i2

mutual
theorem walk_inv (E : Env) (hE : EnvOK E) (cfg : Cfg) : ∀ (n : Node) (isRoot : Bool) (ctx : Ctx) (st : St),
    Inv st → NodeOK ctx isRoot n → Inv (walk E cfg isRoot ctx st n)
  | .mk i t ns atm d as ks, isRoot, ctx, st, hi, hn => by
    unfold walk
    split
    · exact hi
    · have he := enter_spec E hE cfg isRoot (Node.mk i t ns atm d as ks) ctx st hi hn
      simp only
      split
      · exact he.1
      · have hk := walkKids_inv E hE cfg ks (t == 2) _ _ he.1 he.2.1
        split
        · exact hk
        · exact leave_spec isRoot _ _ _ hk he.2.2
theorem walkKids_inv (E : Env) (hE : EnvOK E) (cfg : Cfg) : ∀ (ks : List Node) (parentDoc : Bool) (ctx : Ctx) (st : St),
    Inv st → KidOK ctx → Inv (walkKids E cfg parentDoc ctx st ks)
  | [], _, _, st, hi, _ => by unfold walkKids; exact hi
  | k :: ks, parentDoc, ctx, st, hi, hk => by
    unfold walkKids
    exact walkKids_inv E hE cfg ks parentDoc ctx _ (walk_inv E hE cfg k _ ctx st hi (Or.inl hk)) hk
end

theorem relabel_atom (doc : Node) : (Mdd.relabel doc).atom = doc.atom := by
  cases doc with
  | mk i t ns atm d as ks => simp [Mdd.relabel, Mdd.relabelFrom, Node.atom]

theorem initSt_inv (cfg : Cfg) : Inv (initSt cfg) := by
  refine ⟨⟨by simp [initSt], by simp [initSt]⟩, ?_, ?_⟩
  · intro t ht; simp [initSt] at ht
  · intro l hl; simp [initSt] at hl

/-- the start node is what x/net/html returns: a DocumentNode, whose DataAtom is 0 (not `head` / `body`) -/
def RootOK (doc : Node) : Prop := isHeadBody doc = false

theorem run_inv (E : Env) (hE : EnvOK E) (cfg : Cfg) (doc : Node) (h : RootOK doc) :
    ∀ st, run E cfg doc = some st → Inv st := by
  intro st hs
  unfold run at hs
  simp only at hs
  split at hs
  · cases hs
  · rename_i b _
    simp only [Option.some.injEq] at hs
    rw [← hs]
    apply walk_inv E hE cfg
    · exact initSt_inv cfg
    · right
      refine ⟨rfl, ?_, rfl, by simp [initCtx]⟩
      unfold RootOK isHeadBody at h
      unfold isHeadBody
      rw [relabel_atom]; exact h

theorem decode_ok {E : Env} {cfg : Cfg} {doc : Node} {ss : List Stmt} {u : Bool} (h : decode E cfg doc = .ok ss u) :
    ∃ st, run E cfg doc = some st ∧ st.out = ss := by
  unfold decode at h
  split at h
  · cases h
  · rename_i st hr
    refine ⟨st, hr, ?_⟩
    split at h <;> simp_all

end RdfModel.Rdfad
