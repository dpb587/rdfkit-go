/-
  Every function of the acceptance model (Model/GoUrl.lean) only looks at ASCII elements and treats all elements
  ≥ 0x80 alike.
-/
import RdfModel.Proofs.IriUnifyAccept
namespace RdfModel.Proofs.IriUnify
open RdfModel RdfModel.GoUrlFull

/-- `Exp rs bs`: `bs` is `rs` with every element ≥ 0x80 replaced by a non-empty block of elements ≥ 0x80 -/
inductive Exp : List Nat → List Nat → Prop
  | nil : Exp [] []
  | low (c : Nat) {rs bs : List Nat} (h : c < 0x80) : Exp rs bs → Exp (c :: rs) (c :: bs)
  | high (c : Nat) (blk : List Nat) {rs bs : List Nat} (hc : 0x80 ≤ c) (hne : blk ≠ [])
      (hb : ∀ x ∈ blk, 0x80 ≤ x) : Exp rs bs → Exp (c :: rs) (blk ++ bs)

theorem Exp.refl (s : List Nat) : Exp s s := by
  induction s with
  | nil => exact .nil
  | cons c s ih =>
    by_cases h : c < 0x80
    · exact .low c h ih
    · exact .high c [c] (by omega) (by simp) (by simp; omega) ih

theorem Exp.append {a a' b b' : List Nat} (h1 : Exp a a') (h2 : Exp b b') : Exp (a ++ b) (a' ++ b') := by
  induction h1 with
  | nil => exact h2
  | low c h _ ih => exact .low c h ih
  | high c blk hc hne hb _ ih => rw [List.append_assoc]; exact .high c blk hc hne hb ih

theorem utf8EncodeRune_low (r : Nat) (h : r < 0x80) : utf8EncodeRune r = [r] := by
  have : isScalarB r = true := by simp [isScalarB]; omega
  simp [utf8EncodeRune, runeToStringRune, this, h]

theorem utf8EncodeRune_high (r : Nat) (h : 0x80 ≤ r) :
    utf8EncodeRune r ≠ [] ∧ ∀ x ∈ utf8EncodeRune r, 0x80 ≤ x := by
  have h2 : 0x80 ≤ runeToStringRune r := by
    unfold runeToStringRune; split <;> omega
  unfold utf8EncodeRune
  generalize runeToStringRune r = q at h2
  simp only
  split
  · omega
  · split
    · simp; omega
    · split
      · simp; omega
      · simp; omega

theorem Exp_utf8 (rs : List Nat) : Exp rs (utf8Encode rs) := by
  induction rs with
  | nil => exact .nil
  | cons c rs ih =>
    unfold utf8Encode at ih ⊢
    rw [List.flatMap_cons]
    by_cases h : c < 0x80
    · rw [utf8EncodeRune_low c h]; exact .low c h ih
    · have := utf8EncodeRune_high c (by omega)
      exact .high c _ (by omega) this.1 this.2 ih

theorem Exp.cons_low {a : Nat} {rs bs' : List Nat} (ha : a < 0x80) (h : Exp (a :: rs) bs') :
    ∃ bs, bs' = a :: bs ∧ Exp rs bs := by
  cases h with
  | low _ _ h' => exact ⟨_, rfl, h'⟩
  | high _ blk hc _ _ _ => omega

theorem Exp.nil_left {bs : List Nat} (h : Exp [] bs) : bs = [] := by
  cases h; rfl

theorem Exp.nil_right' {rs bs : List Nat} (h : Exp rs bs) (hb : bs = []) : rs = [] := by
  cases h with
  | nil => rfl
  | low c _ _ => cases hb
  | high c blk hc hne _ _ => simp at hb; exact absurd hb.1 hne

theorem Exp.nil_right {rs : List Nat} (h : Exp rs []) : rs = [] := h.nil_right' rfl

theorem Exp.eq_of_low {rs bs : List Nat} (h : Exp rs bs) (hl : ∀ c ∈ rs, c < 0x80) : rs = bs := by
  induction h with
  | nil => rfl
  | low c _ _ ih => rw [ih (fun x hx => hl x (List.mem_cons_of_mem _ hx))]
  | high c blk hc _ _ _ _ => have := hl c List.mem_cons_self; omega

theorem Exp.all_low_iff {rs bs : List Nat} (h : Exp rs bs) :
    (∀ c ∈ rs, c < 0x80) ↔ (∀ c ∈ bs, c < 0x80) := by
  induction h with
  | nil => simp
  | low c hc _ ih => simp [hc, ih]
  | high c blk hc hne hb _ ih =>
    obtain ⟨x, blk, rfl⟩ := List.exists_cons_of_ne_nil hne
    have := hb x (by simp)
    simp; omega

theorem Exp.any_eq {rs bs : List Nat} (h : Exp rs bs) (p : Nat → Bool) (v : Bool)
    (hp : ∀ c, 0x80 ≤ c → p c = v) : rs.any p = bs.any p := by
  induction h with
  | nil => rfl
  | low c _ _ ih => simp [ih]
  | high c blk hc hne hb _ ih =>
    obtain ⟨x, blk, rfl⟩ := List.exists_cons_of_ne_nil hne
    cases v <;> simp_all

theorem Exp.all_eq {rs bs : List Nat} (h : Exp rs bs) (p : Nat → Bool) (v : Bool)
    (hp : ∀ c, 0x80 ≤ c → p c = v) : rs.all p = bs.all p := by
  have := h.any_eq (fun c => !p c) (!v) (by intro c hc; simp [hp c hc])
  rw [← Bool.not_not (rs.all p), ← Bool.not_not (bs.all p), List.not_all_eq_any_not, List.not_all_eq_any_not]
  exact congrArg _ this

theorem Exp.contains_eq {rs bs : List Nat} (h : Exp rs bs) (a : Nat) (ha : a < 0x80) :
    rs.contains a = bs.contains a := by
  rw [List.contains_eq_any_beq, List.contains_eq_any_beq]
  exact h.any_eq _ false (by intro c hc; simp; omega)

theorem Exp.hasCTL_eq {rs bs : List Nat} (h : Exp rs bs) : GoUrl.hasCTL rs = GoUrl.hasCTL bs := by
  unfold GoUrl.hasCTL
  exact h.any_eq _ false (by intro c hc; simp; omega)

theorem isDigitC_high (c : Nat) (h : 0x80 ≤ c) : GoUrl.isDigitC c = false := by
  simp [GoUrl.isDigitC]; omega

theorem isAlphaC_high (c : Nat) (h : 0x80 ≤ c) : GoUrl.isAlphaC c = false := by
  simp [GoUrl.isAlphaC]; omega

theorem isHexC_high (c : Nat) (h : 0x80 ≤ c) : GoUrl.isHexC c = false := by
  simp [GoUrl.isHexC, GoUrl.isDigitC]; omega

theorem Exp.validUserinfo_eq {rs bs : List Nat} (h : Exp rs bs) :
    GoUrl.validUserinfo rs = GoUrl.validUserinfo bs := by
  unfold GoUrl.validUserinfo
  exact h.all_eq _ false (by intro c hc; simp [isAlphaC_high c hc, isDigitC_high c hc]; omega)

theorem Exp.validOptionalPort_eq {rs bs : List Nat} (h : Exp rs bs) :
    GoUrl.validOptionalPort rs = GoUrl.validOptionalPort bs := by
  cases h with
  | nil => rfl
  | low c _ h' =>
    simp only [GoUrl.validOptionalPort]
    rw [h'.all_eq _ false isDigitC_high]
  | high c blk hc hne hb h' =>
    obtain ⟨x, blk, rfl⟩ := List.exists_cons_of_ne_nil hne
    have := hb x (by simp)
    have h1 : ¬ c = 58 := by omega
    have h2 : ¬ x = 58 := by omega
    simp [GoUrl.validOptionalPort, h1, h2]

theorem Exp.isPrefixOf_eq (p : List Nat) (hp : ∀ a ∈ p, a < 0x80) {rs bs : List Nat} (h : Exp rs bs) :
    p.isPrefixOf rs = p.isPrefixOf bs := by
  induction p generalizing rs bs with
  | nil => simp
  | cons a p ih =>
    have ha := hp a (by simp)
    cases h with
    | nil => rfl
    | low c _ h' =>
      simp only [List.isPrefixOf]
      rw [ih (fun x hx => hp x (List.mem_cons_of_mem _ hx)) h']
    | high c blk hc hne hb h' =>
      obtain ⟨x, blk, rfl⟩ := List.exists_cons_of_ne_nil hne
      have := hb x (by simp)
      have h1 : (a == c) = false := by simp; omega
      have h2 : (a == x) = false := by simp; omega
      simp [List.isPrefixOf, h1, h2]

/-- both absent, or both present and related -/
def ORel {α β : Type} (R : α → β → Prop) : Option α → Option β → Prop
  | none, none => True
  | some a, some b => R a b
  | _, _ => False

theorem ORel.cases {α β : Type} {R : α → β → Prop} {o : Option α} {o' : Option β} (h : ORel R o o') :
    (o = none ∧ o' = none) ∨ ∃ a b, o = some a ∧ o' = some b ∧ R a b := by
  cases o <;> cases o'
  · exact .inl ⟨rfl, rfl⟩
  · exact h.elim
  · exact h.elim
  · exact .inr ⟨_, _, rfl, rfl, h⟩

/-- `Exp` on optional tails -/
abbrev OExp : Option (List Nat) → Option (List Nat) → Prop := ORel Exp

theorem cut_high_block (sep : Nat) (hs : sep < 0x80) (blk bs : List Nat) (hb : ∀ x ∈ blk, 0x80 ≤ x) :
    GoUrlFull.cut sep (blk ++ bs) = (blk ++ (GoUrlFull.cut sep bs).1, (GoUrlFull.cut sep bs).2) := by
  induction blk with
  | nil => rfl
  | cons x blk ih =>
    have := hb x (by simp)
    have hx : ¬ x = sep := by omega
    simp [GoUrlFull.cut, hx, ih (fun y hy => hb y (List.mem_cons_of_mem _ hy))]

theorem Exp.cut {rs bs : List Nat} (h : Exp rs bs) (sep : Nat) (hs : sep < 0x80) :
    Exp (GoUrlFull.cut sep rs).1 (GoUrlFull.cut sep bs).1 ∧
      OExp (GoUrlFull.cut sep rs).2 (GoUrlFull.cut sep bs).2 := by
  induction h with
  | nil => exact ⟨.nil, trivial⟩
  | low c hc h' ih =>
    by_cases he : c = sep
    · simp [GoUrlFull.cut, he, OExp]; exact ⟨.nil, h'⟩
    · simp only [GoUrlFull.cut, he, if_false]
      exact ⟨.low c hc ih.1, ih.2⟩
  | high c blk hc hne hb h' ih =>
    have he : ¬ c = sep := by omega
    rw [cut_high_block sep hs blk _ hb]
    simp only [GoUrlFull.cut, he, if_false]
    exact ⟨.high c blk hc hne hb ih.1, ih.2⟩

/-- where a `%XX` checker stands: on a plain position, after `%`, after `%` and the hex digit `a` -/
inductive St where
  | n
  | p1
  | p2 (a : Nat)

/-- `chr`: the test on a plain element; `cond a b`: the extra test on the two hex digits -/
def run (chr : Nat → Bool) (cond : Nat → Nat → Bool) : St → List Nat → Bool
  | .n, [] => true
  | .p1, [] => false
  | .p2 _, [] => false
  | .n, c :: r => if c = 0x25 then run chr cond .p1 r else chr c && run chr cond .n r
  | .p1, a :: r => GoUrl.isHexC a && run chr cond (.p2 a) r
  | .p2 a, b :: r => GoUrl.isHexC b && cond a b && run chr cond .n r

theorem run_high_block (chr : Nat → Bool) (cond : Nat → Nat → Bool) (hchr : ∀ c, 0x80 ≤ c → chr c = true)
    (blk bs : List Nat) (hb : ∀ x ∈ blk, 0x80 ≤ x) : run chr cond .n (blk ++ bs) = run chr cond .n bs := by
  induction blk with
  | nil => rfl
  | cons x blk ih =>
    have := hb x (by simp)
    have hx : ¬ x = 37 := by omega
    simp [run, hx, hchr x this, ih (fun y hy => hb y (List.mem_cons_of_mem _ hy))]

theorem Exp.run_eq (chr : Nat → Bool) (cond : Nat → Nat → Bool) (hchr : ∀ c, 0x80 ≤ c → chr c = true)
    {rs bs : List Nat} (h : Exp rs bs) (st : St) : run chr cond st rs = run chr cond st bs := by
  induction h generalizing st with
  | nil => rfl
  | low c _ _ ih => cases st <;> simp [run, ih]
  | high c blk hc hne hb _ ih =>
    cases st with
    | n =>
      have hx : ¬ c = 37 := by omega
      rw [run_high_block chr cond hchr blk _ hb]
      simp [run, hx, hchr c hc, ih]
    | p1 =>
      obtain ⟨x, blk, rfl⟩ := List.exists_cons_of_ne_nil hne
      simp [run, isHexC_high c hc, isHexC_high x (hb x (by simp))]
    | p2 a =>
      obtain ⟨x, blk, rfl⟩ := List.exists_cons_of_ne_nil hne
      simp [run, isHexC_high c hc, isHexC_high x (hb x (by simp))]

theorem run_p1_short (chr : Nat → Bool) (cond : Nat → Nat → Bool) :
    ∀ t : List Nat, (∀ a b r, t ≠ a :: b :: r) → run chr cond .p1 t = false
  | [], _ => rfl
  | [_], _ => by simp [run]
  | a :: b :: r, h => absurd rfl (h a b r)

theorem pctOk_run (s : List Nat) : GoUrl.pctOk s = run (fun _ => true) (fun _ _ => true) .n s := by
  fun_induction GoUrl.pctOk s <;> simp_all [run, Bool.and_assoc, run_p1_short]

theorem hostEscOk_run (s : List Nat) :
    GoUrl.hostEscOk s =
      run GoUrl.hostCharOk (fun a b => GoUrl.unhexC a ≥ 8 || (a = 0x32 && b = 0x35)) .n s := by
  fun_induction GoUrl.hostEscOk s <;> simp_all [run, Bool.and_assoc, run_p1_short]

theorem zoneEscOk_run (s : List Nat) :
    GoUrl.zoneEscOk s =
      run GoUrl.hostCharOk (fun a b => (a = 0x32 && b = 0x35) || GoUrl.unhexC a * 16 + GoUrl.unhexC b = 0x20 ||
        !GoUrlFull.shouldEscape (GoUrl.unhexC a * 16 + GoUrl.unhexC b) .host) .n s := by
  fun_induction GoUrl.zoneEscOk s <;> simp_all [run, Bool.and_assoc, run_p1_short]

theorem hostCharOk_high (c : Nat) (h : 0x80 ≤ c) : GoUrl.hostCharOk c = true := by
  simp [GoUrl.hostCharOk, h]

theorem Exp.pctOk_eq {rs bs : List Nat} (h : Exp rs bs) : GoUrl.pctOk rs = GoUrl.pctOk bs := by
  rw [pctOk_run, pctOk_run]; exact h.run_eq _ _ (fun _ _ => rfl) _

theorem Exp.hostEscOk_eq {rs bs : List Nat} (h : Exp rs bs) : GoUrl.hostEscOk rs = GoUrl.hostEscOk bs := by
  rw [hostEscOk_run, hostEscOk_run]; exact h.run_eq _ _ hostCharOk_high _

theorem Exp.zoneEscOk_eq {rs bs : List Nat} (h : Exp rs bs) : GoUrl.zoneEscOk rs = GoUrl.zoneEscOk bs := by
  rw [zoneEscOk_run, zoneEscOk_run]; exact h.run_eq _ _ hostCharOk_high _

def SExp : Option (List Nat × List Nat) → Option (List Nat × List Nat) → Prop
  | none, none => True
  | some p, some q => p.1 = q.1 ∧ Exp p.2 q.2
  | _, _ => False

theorem getSchemeAux_high (whole : List Nat) (c : Nat) (rest : List Nat) (i : Nat) (hc : 0x80 ≤ c) :
    GoUrl.getSchemeAux whole (c :: rest) i = some ([], whole) := by
  have h1 : ¬ c = 0x2b := by omega
  have h2 : ¬ c = 0x2d := by omega
  have h3 : ¬ c = 0x2e := by omega
  have h4 : ¬ c = 0x3a := by omega
  simp [GoUrl.getSchemeAux, isAlphaC_high c hc, isDigitC_high c hc, h1, h2, h3, h4]

theorem getSchemeAux_exp {s s' : List Nat} (h : Exp s s') (pre whole whole' : List Nat)
    (hw : whole = pre ++ s) (hw' : whole' = pre ++ s') :
    SExp (GoUrl.getSchemeAux whole s pre.length) (GoUrl.getSchemeAux whole' s' pre.length) := by
  have hww : Exp whole whole' := by rw [hw, hw']; exact (Exp.refl pre).append h
  induction h generalizing pre with
  | nil => exact ⟨rfl, hww⟩
  | low c hc h' ih =>
    have hrec := ih (pre ++ [c]) (by simp [hw]) (by simp [hw'])
    simp only [List.length_append, List.length_singleton] at hrec
    unfold GoUrl.getSchemeAux
    split
    · exact hrec
    · split
      · split
        · exact ⟨rfl, hww⟩
        · exact hrec
      · split
        · split
          · trivial
          · refine ⟨?_, h'⟩
            simp [hw, hw']
        · exact ⟨rfl, hww⟩
  | high c blk hc hne hb h' ih =>
    obtain ⟨x, blk, rfl⟩ := List.exists_cons_of_ne_nil hne
    rw [getSchemeAux_high _ c _ _ hc, List.cons_append, getSchemeAux_high _ x _ _ (hb x (by simp))]
    exact ⟨rfl, hww⟩

theorem Exp.getScheme {s s' : List Nat} (h : Exp s s') : SExp (GoUrl.getScheme s) (GoUrl.getScheme s') :=
  getSchemeAux_exp h [] s s' rfl rfl

def splitLast (c : Nat) : List Nat → Option (List Nat × List Nat)
  | [] => none
  | x :: r =>
    match splitLast c r with
    | some p => some (x :: p.1, p.2)
    | none => if x = c then some ([], r) else none

theorem splitLast_none (c : Nat) (s : List Nat) (h : GoUrlFull.lastIndexOf c s = none) :
    splitLast c s = none := by
  fun_induction GoUrlFull.lastIndexOf c s <;> simp_all [splitLast]

theorem splitLast_some (c : Nat) (s : List Nat) (i : Nat) (h : GoUrlFull.lastIndexOf c s = some i) :
    splitLast c s = some (s.take i, s.drop (i + 1)) ∧ s.drop i = c :: s.drop (i + 1) := by
  induction s generalizing i with
  | nil => simp [GoUrlFull.lastIndexOf] at h
  | cons x r ih =>
    unfold GoUrlFull.lastIndexOf at h
    unfold splitLast
    cases hl : GoUrlFull.lastIndexOf c r with
    | some j =>
      rw [hl] at h
      simp at h
      subst h
      have := ih j hl
      simp [this.1, this.2]
    | none =>
      rw [hl] at h
      rw [splitLast_none c r hl]
      by_cases hx : x = c
      · simp [hx] at h ⊢; subst h; simp
      · simp [hx] at h

theorem lastIndexOf_drop_eq (c : Nat) (s : List Nat) (k : Nat) :
    GoUrlFull.lastIndexOf c (s.drop k) =
      match GoUrlFull.lastIndexOf c s with
      | some i => if k ≤ i then some (i - k) else none
      | none => none := by
  induction s generalizing k with
  | nil => simp [GoUrlFull.lastIndexOf]
  | cons x r ih =>
    cases k with
    | zero => simp; cases GoUrlFull.lastIndexOf c (x :: r) <;> rfl
    | succ k =>
      simp only [List.drop_succ_cons]
      rw [ih k]
      conv => rhs; unfold GoUrlFull.lastIndexOf
      cases GoUrlFull.lastIndexOf c r with
      | some j => simp
      | none => by_cases hx : x = c <;> simp [hx]

/-- `GoUrl.parseHostOk` without indices -/
def hostOk' (host : List Nat) : Bool :=
  match splitLast 0x5b host with
  | some p =>
    (match splitLast 0x5d p.2 with
      | some q => GoUrl.validOptionalPort q.2 && GoUrl.hostEscOk q.2 && GoUrl.ipLiteralOk q.1
      | none => false)
  | none =>
    (match splitLast 0x3a host with
      | some p => GoUrl.validOptionalPort (0x3a :: p.2)
      | none => true) && GoUrl.hostEscOk host

theorem parseHostOk_eq (host : List Nat) : GoUrl.parseHostOk host = hostOk' host := by
  unfold GoUrl.parseHostOk hostOk'
  simp only [lastIndexOf_eq]
  cases hob : GoUrlFull.lastIndexOf 0x5b host with
  | none =>
    rw [splitLast_none _ _ hob]
    simp only
    cases hc : GoUrlFull.lastIndexOf 0x3a host with
    | none => rw [splitLast_none _ _ hc]
    | some i =>
      have := splitLast_some _ _ _ hc
      rw [this.1]
      simp only
      rw [this.2]
  | some ob =>
    have h1 := splitLast_some _ _ _ hob
    rw [h1.1]
    simp only
    have hd := lastIndexOf_drop_eq 0x5d host (ob + 1)
    cases hcb : GoUrlFull.lastIndexOf 0x5d host with
    | none =>
      rw [hcb] at hd
      rw [splitLast_none _ _ hd]
    | some cb =>
      rw [hcb] at hd
      simp only at hd ⊢
      by_cases hlt : ob + 1 ≤ cb
      · rw [if_pos hlt] at hd
        have h2 := splitLast_some _ _ _ hd
        rw [h2.1]
        have hgt : cb > ob := by omega
        have e1 : List.drop (cb - (ob + 1) + 1) (List.drop (ob + 1) host) = List.drop (cb + 1) host := by
          rw [List.drop_drop]; congr 1; omega
        have e2 : List.take (cb - (ob + 1)) (List.drop (ob + 1) host) = List.drop (ob + 1) (List.take cb host) := by
          rw [List.drop_take]
        simp only [e1, e2, hgt, decide_true, Bool.true_and, Bool.and_assoc]
      · rw [if_neg hlt] at hd
        rw [splitLast_none _ _ hd]
        have hgt : ¬ cb > ob := by omega
        simp [hgt]

abbrev PExp : Option (List Nat × List Nat) → Option (List Nat × List Nat) → Prop :=
  ORel fun p q => Exp p.1 q.1 ∧ Exp p.2 q.2

theorem splitLast_cons (c x : Nat) (r : List Nat) :
    splitLast c (x :: r) =
      match splitLast c r with
      | some p => some (x :: p.1, p.2)
      | none => if x = c then some ([], r) else none := rfl

theorem splitLast_high_block (c : Nat) (hc : c < 0x80) (blk bs : List Nat) (hb : ∀ x ∈ blk, 0x80 ≤ x) :
    splitLast c (blk ++ bs) = (splitLast c bs).map (fun p => (blk ++ p.1, p.2)) := by
  induction blk with
  | nil => cases h : splitLast c bs <;> simp [h]
  | cons x blk ih =>
    have : ¬ x = c := by have := hb x (by simp); omega
    cases h : splitLast c bs <;> simp_all [splitLast]

theorem Exp.splitLast {rs bs : List Nat} (h : Exp rs bs) (c : Nat) (hc : c < 0x80) :
    PExp (splitLast c rs) (splitLast c bs) := by
  induction h with
  | nil => trivial
  | low x hx h' ih =>
    rw [splitLast_cons, splitLast_cons]
    rcases ih.cases with ⟨h1, h2⟩ | ⟨p, q, h1, h2, hp1, hp2⟩ <;> rw [h1, h2]
    · by_cases he : x = c
      · simp [he]; exact ⟨.nil, h'⟩
      · simp [he]; trivial
    · exact ⟨.low x hx hp1, hp2⟩
  | high x blk hx hne hb h' ih =>
    rw [splitLast_high_block c hc blk _ hb, splitLast_cons]
    have he : ¬ x = c := by omega
    rcases ih.cases with ⟨h1, h2⟩ | ⟨p, q, h1, h2, hp1, hp2⟩ <;> rw [h1, h2]
    · simp [he]; trivial
    · exact ⟨.high x blk hx hne hb hp1, hp2⟩

abbrev ZExp (rs bs : List Nat) : Option Nat → Option Nat → Prop :=
  ORel fun z z' => Exp (rs.take z) (bs.take z') ∧ Exp (rs.drop z) (bs.drop z')

theorem indexPct25_cons_ne (x : Nat) (r : List Nat) (hx : ¬ x = 0x25) :
    GoUrl.indexPct25 (x :: r) = (GoUrl.indexPct25 r).map (· + 1) := by
  have : (37 == x) = false := by simp; omega
  simp [GoUrl.indexPct25, List.isPrefixOf, this]

theorem indexPct25_high_block (blk bs : List Nat) (hb : ∀ x ∈ blk, 0x80 ≤ x) :
    GoUrl.indexPct25 (blk ++ bs) = (GoUrl.indexPct25 bs).map (blk.length + ·) := by
  induction blk with
  | nil => cases h : GoUrl.indexPct25 bs <;> simp [h]
  | cons x blk ih =>
    have := hb x (by simp)
    rw [List.cons_append, indexPct25_cons_ne x _ (by omega), ih (fun y hy => hb y (List.mem_cons_of_mem _ hy))]
    cases GoUrl.indexPct25 bs <;> simp
    omega

theorem Exp.indexPct25 {rs bs : List Nat} (h : Exp rs bs) :
    ZExp rs bs (GoUrl.indexPct25 rs) (GoUrl.indexPct25 bs) := by
  induction h with
  | nil => trivial
  | @low c rs bs hc h' ih =>
    have hpre := Exp.isPrefixOf_eq [0x25, 0x32, 0x35] (by simp) (Exp.low c hc h')
    unfold GoUrl.indexPct25
    rw [← hpre]
    by_cases hp : [0x25, 0x32, 0x35].isPrefixOf (c :: rs) = true
    · simp only [hp, if_true]
      exact ⟨.nil, .low c hc h'⟩
    · simp only [hp]
      cases h1 : GoUrl.indexPct25 rs <;> cases h2 : GoUrl.indexPct25 bs <;> rw [h1, h2] at ih
      · trivial
      · exact ih.elim
      · exact ih.elim
      · exact ⟨.low c hc ih.1, ih.2⟩
  | @high c blk rs bs hc hne hb h' ih =>
    rw [indexPct25_high_block blk _ hb, indexPct25_cons_ne c _ (by omega)]
    cases h1 : GoUrl.indexPct25 rs <;> cases h2 : GoUrl.indexPct25 bs <;> rw [h1, h2] at ih
    · trivial
    · exact ih.elim
    · exact ih.elim
    · simp only [Option.map_some, ORel, List.take_succ_cons, List.drop_succ_cons,
        List.take_length_add_append, List.drop_length_add_append]
      exact ⟨.high c blk hc hne hb ih.1, ih.2⟩

theorem isDigitC_low (c : Nat) (h : GoUrlFull.isDigitC c = true) : c < 0x80 := by
  simp [GoUrlFull.isDigitC] at h; omega

theorem ishex_low (c : Nat) (h : GoUrlFull.ishex c = true) : c < 0x80 := by
  simp [GoUrlFull.ishex, GoUrlFull.isDigitC] at h; omega

theorem ipv4Loop_low (s : List Nat) (val digLen pos : Nat) (prevDot isFirst : Bool)
    (h : ipv4Loop s val digLen pos prevDot isFirst = true) : ∀ c ∈ s, c < 0x80 := by
  fun_induction ipv4Loop s val digLen pos prevDot isFirst
  -- an accepted byte is a digit or '.', and the rest is low by induction; every other branch refuses
  case case1 => exact List.forall_mem_nil _
  case case4 ih => exact List.forall_mem_cons.mpr ⟨isDigitC_low _ ‹isDigitC _ = true›, ih h⟩
  case case7 ih =>
    exact List.forall_mem_cons.mpr ⟨by have := beq_iff_eq.mp ‹(_ == 46) = true›; omega, ih h⟩
  all_goals exact absurd h Bool.false_ne_true

/-- a string is low when what follows its hex prefix is -/
theorem low_of_drop {s r : List Nat} (hr : s.drop (s.takeWhile ishex).length = r) (h : ∀ c ∈ r, c < 0x80) :
    ∀ c ∈ s, c < 0x80 := by
  rw [← List.prefix_iff_eq_append.mp (List.takeWhile_prefix ishex (l := s)), List.forall_mem_append]
  exact ⟨fun c hc => ishex_low c (List.all_eq_true.mp List.all_takeWhile c hc), hr ▸ h⟩

theorem ipv6Loop_low (fuel : Nat) (s : List Nat) (i : Nat) (e : Bool)
    (h : ipv6Loop fuel s i e = true) : ∀ c ∈ s, c < 0x80 := by
  fun_induction ipv6Loop fuel s i e
  -- Nine branches refuse. In the others the input is empty (`done` after sixteen bytes), a dotted quad, or a hex
  -- group followed by nothing or by ':' and what the next round accepts.
  case case2 =>
    simp +zetaDelta only [Bool.and_eq_true, List.isEmpty_iff] at h
    rw [h.1]; exact List.forall_mem_nil _
  case case8 => exact ipv4Loop_low _ _ _ _ _ _ (show ipv4Ok _ = true by simpa using ‹¬(!ipv4Ok _) = true›)
  case case9 => exact low_of_drop ‹_ = []› (List.forall_mem_nil _)
  case case13 => exact low_of_drop ‹_ = _ :: _ :: _› (by simp_all)
  case case14 ih => exact low_of_drop ‹_ = _ :: _ :: _› (by simp_all)
  case case15 ih => exact low_of_drop ‹_ = _ :: _ :: _› (by simp_all)
  all_goals exact absurd h Bool.false_ne_true

theorem ipv6Ok_low (s : List Nat) (h : ipv6Ok s = true) : ∀ c ∈ s, c < 0x80 := by
  unfold ipv6Ok at h
  split at h
  · rename_i rest
    by_cases hr : rest.isEmpty = true
    · have : rest = [] := by simpa using hr
      subst this; simp
    · rw [if_neg hr] at h
      have := ipv6Loop_low _ _ _ _ h
      intro x hx
      simp only [List.mem_cons] at hx
      rcases hx with rfl | rfl | hx
      · omega
      · omega
      · exact this x hx
  · exact ipv6Loop_low _ _ _ _ h

theorem parseAddrIs6_ipv6Ok (whole s : List Nat) (h : parseAddrIs6 whole s = true) : ipv6Ok whole = true := by
  fun_induction parseAddrIs6 whole s <;> simp_all

theorem Exp.parseAddrIs6_eq {a b : List Nat} (h : Exp a b) : parseAddrIs6 a a = parseAddrIs6 b b := by
  by_cases hl : ∀ c ∈ a, c < 0x80
  · rw [h.eq_of_low hl]
  · have hl' : ¬ ∀ c ∈ b, c < 0x80 := fun hb => hl (h.all_low_iff.2 hb)
    have h1 : parseAddrIs6 a a = false := by
      cases hh : parseAddrIs6 a a with
      | false => rfl
      | true => exact absurd (ipv6Ok_low a (parseAddrIs6_ipv6Ok a a hh)) hl
    have h2 : parseAddrIs6 b b = false := by
      cases hh : parseAddrIs6 b b with
      | false => rfl
      | true => exact absurd (ipv6Ok_low b (parseAddrIs6_ipv6Ok b b hh)) hl'
    rw [h1, h2]

theorem indexPct25_prefix (s : List Nat) (z : Nat) (h : GoUrl.indexPct25 s = some z) :
    [0x25, 0x32, 0x35].isPrefixOf (s.drop z) = true := by
  induction s generalizing z with
  | nil => simp [GoUrl.indexPct25] at h
  | cons c rest ih =>
    unfold GoUrl.indexPct25 at h
    split at h
    · rename_i hp
      simp at h; subst h; exact hp
    · cases h1 : GoUrl.indexPct25 rest with
      | none => rw [h1] at h; simp at h
      | some z' =>
        rw [h1] at h; simp at h; subst h
        exact ih z' h1

theorem Exp.length_gt3 {a b : List Nat} (h : Exp a b) (hp : [0x25, 0x32, 0x35].isPrefixOf a = true) :
    decide (a.length > 3) = decide (b.length > 3) := by
  obtain ⟨t, ht⟩ := List.isPrefixOf_iff_prefix.1 hp
  subst ht
  simp only [List.cons_append, List.nil_append] at h
  obtain ⟨b1, rfl, h1⟩ := h.cons_low (by omega)
  obtain ⟨b2, rfl, h2⟩ := h1.cons_low (by omega)
  obtain ⟨b3, rfl, h3⟩ := h2.cons_low (by omega)
  cases h3 with
  | nil => rfl
  | low c _ _ => simp
  | high c blk _ hne _ _ =>
    obtain ⟨x, blk, rfl⟩ := List.exists_cons_of_ne_nil hne
    simp

theorem Exp.ipLiteralOk_eq {a b : List Nat} (h : Exp a b) : GoUrl.ipLiteralOk a = GoUrl.ipLiteralOk b := by
  unfold GoUrl.ipLiteralOk
  have hz := h.indexPct25
  cases h1 : GoUrl.indexPct25 a <;> cases h2 : GoUrl.indexPct25 b <;> rw [h1, h2] at hz
  · simp only
    rw [h.hostEscOk_eq, h.contains_eq 0x25 (by omega), h.parseAddrIs6_eq]
  · exact hz.elim
  · exact hz.elim
  · simp only
    rw [hz.1.hostEscOk_eq, hz.2.zoneEscOk_eq, hz.1.contains_eq 0x25 (by omega), hz.1.parseAddrIs6_eq,
      hz.2.length_gt3 (indexPct25_prefix _ _ h1)]

theorem Exp.hostOk_eq {a b : List Nat} (h : Exp a b) : hostOk' a = hostOk' b := by
  unfold IriUnify.hostOk'
  rcases (h.splitLast 0x5b (by omega)).cases with ⟨h1, h2⟩ | ⟨p, q, h1, h2, hp1, hp2⟩
  · rw [h1, h2]
    simp only
    rw [h.hostEscOk_eq]
    rcases (h.splitLast 0x3a (by omega)).cases with ⟨h3, h4⟩ | ⟨p, q, h3, h4, _, hp2⟩
    · rw [h3, h4]
    · rw [h3, h4]
      simp only
      rw [(Exp.low 0x3a (by omega) hp2).validOptionalPort_eq]
  · rw [h1, h2]
    simp only
    rcases (hp2.splitLast 0x5d (by omega)).cases with ⟨h3, h4⟩ | ⟨p', q', h3, h4, hq1, hq2⟩
    · rw [h3, h4]
    · rw [h3, h4]
      simp only
      rw [hq2.validOptionalPort_eq, hq2.hostEscOk_eq, hq1.ipLiteralOk_eq]

theorem Exp.parseHostOk_eq {a b : List Nat} (h : Exp a b) : GoUrl.parseHostOk a = GoUrl.parseHostOk b := by
  rw [_root_.RdfModel.Proofs.IriUnify.parseHostOk_eq a, _root_.RdfModel.Proofs.IriUnify.parseHostOk_eq b]
  exact Exp.hostOk_eq h

theorem parseAuthorityOk_split (auth : List Nat) :
    GoUrl.parseAuthorityOk auth =
      match splitLast 0x40 auth with
      | none => GoUrl.parseHostOk auth
      | some p => GoUrl.parseHostOk p.2 && (GoUrl.validUserinfo p.1 && GoUrl.pctOk p.1) := by
  unfold GoUrl.parseAuthorityOk
  rw [lastIndexOf_eq]
  cases hl : GoUrlFull.lastIndexOf 0x40 auth with
  | none => rw [splitLast_none _ _ hl]
  | some i => rw [(splitLast_some _ _ _ hl).1]

theorem Exp.parseAuthorityOk_eq {a b : List Nat} (h : Exp a b) :
    GoUrl.parseAuthorityOk a = GoUrl.parseAuthorityOk b := by
  rw [parseAuthorityOk_split, parseAuthorityOk_split]
  rcases (h.splitLast 0x40 (by omega)).cases with ⟨h1, h2⟩ | ⟨p, q, h1, h2, hp1, hp2⟩
  · rw [h1, h2]; exact h.parseHostOk_eq
  · rw [h1, h2]
    simp only
    rw [hp2.parseHostOk_eq, hp1.validUserinfo_eq, hp1.pctOk_eq]

theorem Exp.drop2 {a b : List Nat} (h : Exp a b) (hp : startsWith [0x2f, 0x2f] a = true) :
    Exp (a.drop 2) (b.drop 2) := by
  obtain ⟨t, ht⟩ := List.isPrefixOf_iff_prefix.1 hp
  subst ht
  simp only [List.cons_append, List.nil_append] at h
  obtain ⟨b1, rfl, h1⟩ := h.cons_low (by omega)
  obtain ⟨b2, rfl, h2⟩ := h1.cons_low (by omega)
  exact h2

theorem OExp.slashTail {o o' : Option (List Nat)} (h : OExp o o') : Exp (C12W.slashTail o) (C12W.slashTail o') := by
  rcases h.cases with ⟨rfl, rfl⟩ | ⟨p, q, rfl, rfl, hpq⟩
  · exact .nil
  · exact .low 0x2f (by omega) hpq

theorem Exp.restOk_eq {a b : List Nat} (h : Exp a b) (scheme : List Nat) :
    restOk scheme a = restOk scheme b := by
  unfold restOk
  have hr := (h.cut 0x3f (by omega)).1
  generalize (GoUrlFull.cut 0x3f a).1 = rest at hr
  generalize (GoUrlFull.cut 0x3f b).1 = rest' at hr
  have e1 : startsWith [0x2f] rest = startsWith [0x2f] rest' := Exp.isPrefixOf_eq [0x2f] (by simp) hr
  have e2 : startsWith [0x2f, 0x2f, 0x2f] rest = startsWith [0x2f, 0x2f, 0x2f] rest' :=
    Exp.isPrefixOf_eq [0x2f, 0x2f, 0x2f] (by simp) hr
  have e3 : startsWith [0x2f, 0x2f] rest = startsWith [0x2f, 0x2f] rest' :=
    Exp.isPrefixOf_eq [0x2f, 0x2f] (by simp) hr
  have e4 := hr.pctOk_eq
  have e5 := (hr.cut 0x2f (by omega)).1.contains_eq 0x3a (by omega)
  simp only [e1, e2, e3, e4, e5]
  by_cases h2 : startsWith [0x2f, 0x2f] rest' = true
  · have hd := hr.drop2 (e3.trans h2)
    have hc := hd.cut 0x2f (by omega)
    simp only [hc.1.parseAuthorityOk_eq, hc.2.slashTail.pctOk_eq]
  · simp [h2]

theorem Exp.singleton_right' {rs bs : List Nat} {c : Nat} (hc : c < 0x80) (h : Exp rs bs) (hb : bs = [c]) :
    rs = [c] := by
  cases h with
  | nil => cases hb
  | low x _ h' =>
    simp at hb
    rw [hb.1, h'.nil_right' hb.2]
  | high x blk hx hne hbk _ =>
    cases blk with
    | nil => exact absurd rfl hne
    | cons y blk =>
      simp at hb
      have := hbk y (by simp)
      omega

theorem Exp.eq_singleton_iff {a b : List Nat} (h : Exp a b) (c : Nat) (hc : c < 0x80) : a = [c] ↔ b = [c] := by
  constructor
  · intro ha
    subst ha
    obtain ⟨bs, rfl, h1⟩ := h.cons_low hc
    rw [h1.nil_left]
  · exact h.singleton_right' hc

theorem Exp.parseNoFrag_eq {a b : List Nat} (h : Exp a b) : GoUrl.parseNoFrag a = GoUrl.parseNoFrag b := by
  rw [parseNoFrag_restOk, parseNoFrag_restOk, ← IriUnify.hasCTL_eq, ← IriUnify.hasCTL_eq, ← IriUnify.getScheme_eq,
    ← IriUnify.getScheme_eq, h.hasCTL_eq]
  by_cases h1 : GoUrl.hasCTL b = true
  · simp [h1]
  · simp only [h1]
    by_cases h2 : a = [0x2a]
    · have h2' := (h.eq_singleton_iff 0x2a (by omega)).1 h2
      simp [h2, h2']
    · have h2' : ¬ b = [0x2a] := fun e => h2 ((h.eq_singleton_iff 0x2a (by omega)).2 e)
      simp only [h2, h2', if_false]
      have hs := h.getScheme
      cases h3 : GoUrl.getScheme a <;> cases h4 : GoUrl.getScheme b <;> rw [h3, h4] at hs
      · exact hs.elim
      · exact hs.elim
      · rename_i p q
        obtain ⟨s1, r1⟩ := p
        obtain ⟨s2, r2⟩ := q
        have e1 : s1 = s2 := hs.1
        have e2 : Exp r1 r2 := hs.2
        simp only
        rw [e1, e2.restOk_eq]

theorem Exp.parseAbsOk_eq {a b : List Nat} (h : Exp a b) :
    GoUrl.parseAbsOk a = GoUrl.parseAbsOk b ∧ GoUrl.parseOk a = GoUrl.parseOk b := by
  unfold GoUrl.parseAbsOk GoUrl.parseOk
  rw [cut_eq, cut_eq]
  have hc := h.cut 0x23 (by omega)
  rcases h1 : GoUrlFull.cut 0x23 a with ⟨u, f⟩
  rcases h2 : GoUrlFull.cut 0x23 b with ⟨u', f'⟩
  rw [h1, h2] at hc
  simp only at hc ⊢
  rw [hc.1.parseNoFrag_eq]
  rcases hc.2.cases with ⟨e1, e2⟩ | ⟨p, q, e1, e2, hpq⟩
  · subst e1; subst e2; exact ⟨rfl, rfl⟩
  · subst e1; subst e2
    refine ⟨?_, ?_⟩ <;> simp only [hpq.pctOk_eq]

theorem parseAbsOk_utf8 (rs : List Nat) :
    RdfModel.GoUrl.parseAbsOk (RdfModel.utf8Encode rs) = RdfModel.GoUrl.parseAbsOk rs :=
  ((Exp_utf8 rs).parseAbsOk_eq).1.symm

theorem parseOk_utf8 (rs : List Nat) :
    RdfModel.GoUrl.parseOk (RdfModel.utf8Encode rs) = RdfModel.GoUrl.parseOk rs :=
  ((Exp_utf8 rs).parseAbsOk_eq).2.symm

theorem urlOk_eq_goUrl (rs : List Nat) : RdfModel.IriUnify.urlOk rs = RdfModel.GoUrl.parseAbsOk rs := by
  unfold RdfModel.IriUnify.urlOk
  rw [absOkBytes_eq, parseAbsOk_utf8]

end RdfModel.Proofs.IriUnify
