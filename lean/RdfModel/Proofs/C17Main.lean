import RdfModel.Proofs.C17Perm
import RdfModel.Proofs.C17Term
import RdfModel.Spec.GraphIso
namespace RdfModel.Proofs.C17
open RdfModel RdfModel.Desc RdfModel.C17

variable {β : Type} [DecidableEq β]

/-- `al[i] ↦ fresh (n+i)`, everything else stays -/
def sigmaOf (al : List β) (n : Nat) (b : β) : BN β :=
  if b ∈ al then BN.fresh (n + al.idxOf b) else BN.orig b

theorem sigmaOf_not_mem (al : List β) (n : Nat) (b : β) (h : b ∉ al) : sigmaOf al n b = BN.orig b :=
  if_neg h

theorem sigmaOf_map (al : List β) (n : Nat) (hn : al.Nodup) :
    al.map (sigmaOf al n) = (List.range' n al.length).map BN.fresh := by
  apply List.ext_getElem (by simp)
  intro i h1 h2
  simp [sigmaOf, hn.idxOf_getElem]

theorem sigmaOf_injective (al : List β) (n : Nat) : Function.Injective (sigmaOf al n) := by
  intro b c h
  unfold sigmaOf at h
  split at h <;> split at h <;> simp at h
  · rename_i hb hc
    rw [← List.getElem_idxOf (List.idxOf_lt_length_iff.2 hb), ← List.getElem_idxOf (List.idxOf_lt_length_iff.2 hc)]
    simp [h]
  · exact h

def isAnonRoot (B : Builder β) (opts : Opts) : Term β → Bool
  | .bnode b => opts.useAnon && B.refCount b == 0
  | _ => false

omit [DecidableEq β] in
theorem newTriplesList_cons (r : Resource β) (rs : List (Resource β)) (n : Nat) :
    newTriplesList (r :: rs) n =
      ((r.newTriples n).1 ++ (newTriplesList rs (r.newTriples n).2).1, (newTriplesList rs (r.newTriples n).2).2) := by
  simp [newTriplesList]

theorem exportResource_eq (B : Builder β) (opts : Opts) (k : Nat) (s : Term β) :
    B.exportResource opts k s = (B.exportStatements opts k s).map (B.resourceOf opts s) := by
  cases s <;> rfl

/-- the node allocated for the subject itself when it is exported as an AnonResource -/
def anonOf (B : Builder β) (opts : Opts) (s : Term β) : List β :=
  if isAnonRoot B opts s then (bn? s).toList else []

theorem filter_isAnonRoot_cons (B : Builder β) (opts : Opts) (s : Term β) (l : List (Term β)) :
    (s :: l).filter (isAnonRoot B opts) = (anonOf B opts s).map Term.bnode ++ l.filter (isAnonRoot B opts) := by
  unfold anonOf
  cases h : isAnonRoot B opts s
  · simp [h]
  · cases s <;> simp_all [isAnonRoot, bn?]

/-- Flattening the resource exported for `s` is flattening its statements under the subject in use;
    an AnonResource first allocates a node for `s = _:b` itself. -/
theorem resourceOf_newTriples (B : Builder β) (opts : Opts) (s : Term β) (st : List (Stmt β)) (n : Nat) :
    ∃ x, (B.resourceOf opts s st).newTriples n = stmtsNewTriples x st (n + (anonOf B opts s).length) ∧
      ∀ σ : β → BN β, (anonOf B opts s).map σ = (List.range' n (anonOf B opts s).length).map BN.fresh →
        (isAnonRoot B opts s = false → s.map σ = s.map BN.orig) → s.map σ = x := by
  unfold anonOf
  by_cases ha : isAnonRoot B opts s = true
  · obtain ⟨b, rfl⟩ : ∃ b, s = Term.bnode b := by
      cases s with
      | bnode b => exact ⟨b, rfl⟩
      | iri v => simp [isAnonRoot] at ha
      | lit l d t => simp [isAnonRoot] at ha
    rw [if_pos ha]
    refine ⟨Term.bnode (BN.fresh n), ?_, fun σ h _ => ?_⟩
    · simp only [isAnonRoot] at ha
      simp [Builder.resourceOf, ha, Resource.newTriples, bn?]
    · simpa [Term.map, bn?] using (cons_alloc h).1
  · have ha' : isAnonRoot B opts s = false := by simpa using ha
    rw [if_neg ha]
    refine ⟨s.map BN.orig, ?_, fun σ _ h => h ha'⟩
    cases s with
    | bnode b => simp only [isAnonRoot] at ha'; simp [Builder.resourceOf, ha', Resource.newTriples]
    | iri v => rfl
    | lit l d t => rfl

/-- `rs` describes the subjects `picked`, one resource each; `W`, `nm` as in `Describes`, `ali` the inlined nodes, `al`
    all allocated nodes (the inlined ones and the subjects exported as anonymous resources). -/
inductive DescribesR (B : Builder β) (opts : Opts) :
    List (Term β) → List (Resource β) → List (Triple β) → List β → List β → List β → Prop
  | nil : DescribesR B opts [] [] [] [] [] []
  | cons {s st Ws als nms picked rs W ali al nm} :
      Describes B s (B.stmts s) st Ws als nms → DescribesR B opts picked rs W ali al nm →
      DescribesR B opts (s :: picked) (B.resourceOf opts s st :: rs) (Ws ++ W) (als ++ ali)
        (anonOf B opts s ++ (als ++ al)) (nms ++ nm)

section
variable {B : Builder β} {opts : Opts} {picked : List (Term β)} {rs : List (Resource β)} {W : List (Triple β)}
  {ali al nm : List β}

theorem DescribesR.perm (h : DescribesR B opts picked rs W ali al nm) :
    W.Perm (picked.flatMap (own B) ++ ali.flatMap (ownB B)) := by
  induction h with
  | nil => simp
  | cons d _ ih =>
    rw [List.perm_iff_count]
    intro a
    have c1 := d.perm.count_eq a
    have c2 := ih.count_eq a
    simp only [List.flatMap_cons, List.flatMap_append, own, List.count_append] at c1 c2 ⊢
    omega

theorem DescribesR.objs (h : DescribesR B opts picked rs W ali al nm) : (bobjs W).Perm (ali ++ nm) := by
  induction h with
  | nil => simp [bobjs_nil]
  | cons d _ ih =>
    rw [bobjs_append, List.perm_iff_count]
    intro a
    have c1 := d.objs.count_eq a
    have c2 := ih.count_eq a
    simp only [List.count_append] at c1 c2 ⊢
    omega

theorem DescribesR.allocs (h : DescribesR B opts picked rs W ali al nm) :
    (al.map Term.bnode).Perm (ali.map Term.bnode ++ picked.filter (isAnonRoot B opts)) := by
  induction h with
  | nil => simp
  | @cons s st _ _ _ _ _ _ _ _ _ _ _ ih =>
    rw [filter_isAnonRoot_cons, List.perm_iff_count]
    intro a
    have := ih.count_eq a
    simp only [List.map_append, List.count_append] at this ⊢
    omega

theorem DescribesR.count (h : DescribesR B opts picked rs W ali al nm) (n : Nat) :
    (newTriplesList rs n).2 = n + al.length := by
  induction h generalizing n with
  | nil => simp [newTriplesList]
  | @cons s st _ _ _ _ _ _ _ _ _ d _ ih =>
    obtain ⟨x, e, _⟩ := resourceOf_newTriples B opts s st n
    rw [newTriplesList_cons, e]
    simp only [d.count, ih, List.length_append]
    omega

theorem DescribesR.image (h : DescribesR B opts picked rs W ali al nm) (n : Nat) (σ : β → BN β)
    (hal : al.map σ = (List.range' n al.length).map BN.fresh) (hnm : ∀ b ∈ nm, σ b = BN.orig b)
    (hroot : ∀ s ∈ picked, isAnonRoot B opts s = false → s.map σ = s.map BN.orig) :
    (newTriplesList rs n).1 = W.map (Triple.map σ) := by
  induction h generalizing n with
  | @cons s st _ _ _ _ _ _ _ _ _ d _ ih =>
    obtain ⟨h0, hal⟩ := split_alloc hal
    obtain ⟨hal1, hal2⟩ := split_alloc hal
    obtain ⟨x, e, hx⟩ := resourceOf_newTriples B opts s st n
    rw [newTriplesList_cons, e, d.count,
      d.image x _ σ (hx σ h0 (hroot s (by simp))) hal1 fun c hc => hnm c (by simp [hc]),
      ih _ hal2 (fun c hc => hnm c (by simp [hc])) fun s' hs' => hroot s' (by simp [hs'])]
    simp
  | nil => simp [newTriplesList]


theorem DescribesR.append {B : Builder β} {opts : Opts} {p1 p2 : List (Term β)} {rs1 rs2 : List (Resource β)}
    {W1 W2 : List (Triple β)} {ali1 ali2 al1 al2 nm1 nm2 : List β} (h1 : DescribesR B opts p1 rs1 W1 ali1 al1 nm1)
    (h2 : DescribesR B opts p2 rs2 W2 ali2 al2 nm2) :
    DescribesR B opts (p1 ++ p2) (rs1 ++ rs2) (W1 ++ W2) (ali1 ++ ali2) (al1 ++ al2) (nm1 ++ nm2) := by
  induction h1 with
  | nil => exact h2
  | cons d _ ih => simpa [List.append_assoc] using DescribesR.cons d ih


end

theorem describes_roots (B : Builder β) (opts : Opts) (K : Nat) :
    ∀ (roots : List (Term β)) (rs : List (Resource β)), mapOpt (B.exportResource opts K) roots = some rs →
      ∃ W ali al nm, DescribesR B opts roots rs W ali al nm ∧ (∀ b ∈ ali, B.isInl opts (Term.bnode b) = true) ∧
        ∀ b ∈ nm, B.isInl opts (Term.bnode b) = false := by
  intro roots
  induction roots with
  | nil => intro rs h; cases h; exact ⟨_, _, _, _, .nil, nofun, nofun⟩
  | cons s roots ih =>
    intro rs h
    obtain ⟨r, rs', hr, hrs', rfl⟩ := mapOpt_cons_some.1 h
    obtain ⟨W', ali', al', nm', d', ha', hn'⟩ := ih rs' hrs'
    rw [exportResource_eq] at hr
    obtain ⟨st, hst, rfl⟩ := Option.map_eq_some_iff.1 hr
    obtain ⟨W, als, nms, d, ha, hn⟩ := describes_export B opts K s st hst
    exact ⟨_, _, _, _, .cons d d', List.forall_mem_append.2 ⟨ha, ha'⟩, List.forall_mem_append.2 ⟨hn, hn'⟩⟩

omit [DecidableEq β] in
theorem mem_tripleNodes_s {t : Triple β} {b : β} (h : t.s = Term.bnode b) : b ∈ tripleNodes t := by
  simp [tripleNodes, termNodes, h]

omit [DecidableEq β] in
theorem mem_tripleNodes_o {t : Triple β} {b : β} (h : t.o = Term.bnode b) : b ∈ tripleNodes t := by
  simp [tripleNodes, termNodes, h]

theorem anonymizedIn_of_alloc {T : List (Triple β)} {opts : Opts} {b : β}
    (h : (build T).isInl opts (Term.bnode b) = true ∨
      (isAnonRoot (build T) opts (Term.bnode b) = true ∧ ∃ t ∈ T, t.s = Term.bnode b)) :
    anonymizedIn T opts b = true := by
  unfold anonymizedIn
  rcases h with h1 | ⟨h1, t, ht, hts⟩
  · simp only [Builder.isInl, refCount_build, Bool.and_eq_true, beq_iff_eq] at h1
    simp [h1.1, h1.2]
  · simp only [isAnonRoot, refCount_build, Bool.and_eq_true, beq_iff_eq] at h1
    have : T.any (fun t => decide (t.s = Term.bnode b)) = true :=
      List.any_eq_true.2 ⟨t, ht, by simp [hts]⟩
    simp [h1.1, h1.2, this]

/-- The single-graph result in the form the dataset proof can combine: the export `res` terminates, its
    name-reusing flattening `W` is a permutation of `T`, and the real flattening is the image of `W`
    under any renaming that numbers the allocated nodes `al` consecutively and fixes the other nodes of `T`. -/
def GraphStrong (T : List (Triple β)) (opts : Opts) (res : Option (List (Resource β))) : Prop :=
  ∃ (rs : List (Resource β)) (W : List (Triple β)) (al : List β),
    res = some rs ∧ W.Perm T ∧ al.Nodup ∧
    (∀ b ∈ al, anonymizedIn T opts b = true) ∧
    (∀ n, (newTriplesList rs n).2 = n + al.length) ∧
    (∀ n (σ : β → BN β), al.map σ = (List.range' n al.length).map BN.fresh →
        (∀ t ∈ T, ∀ b ∈ tripleNodes t, b ∉ al → σ b = BN.orig b) →
        (newTriplesList rs n).1 = W.map (Triple.map σ))

theorem GraphStrong.iso {T : List (Triple β)} {opts : Opts} {res : Option (List (Resource β))}
    (h : GraphStrong T opts res) (n : Nat) : ∃ rs, res = some rs ∧ Spec.Iso (newTriplesList rs n).1 T := by
  obtain ⟨rs, W, al, hrs, hpT, hnd, _, _, himage⟩ := h
  refine ⟨rs, hrs, sigmaOf al n, sigmaOf_injective al n, ?_⟩
  rw [himage n (sigmaOf al n) (sigmaOf_map al n hnd) (fun _ _ b _ hb => sigmaOf_not_mem al n b hb)]
  exact hpT.map _

/-- Resources that describe every subject of `T` exactly once — as a picked root or inlined — flatten to `T`. -/
theorem GraphStrong.of_describes {T : List (Triple β)} {opts : Opts} {picked : List (Term β)}
    {rs : List (Resource β)} {W : List (Triple β)} {ali al nm : List β}
    (d : DescribesR (build T) opts picked rs W ali al nm)
    (hinl : ∀ b ∈ ali, (build T).isInl opts (Term.bnode b) = true)
    (hsub : ∀ s ∈ picked, ∃ t ∈ T, t.s = s)
    (hnd : (picked ++ ali.map Term.bnode).Nodup) (hcov : ∀ t ∈ T, t.s ∈ picked ++ ali.map Term.bnode) :
    GraphStrong T opts (some rs) := by
  have hW : W.Perm T := by
    refine d.perm.trans ?_
    have e : ali.flatMap (ownB (build T)) = (ali.map Term.bnode).flatMap (own (build T)) := by
      rw [List.flatMap_map]; rfl
    rw [e, ← List.flatMap_append, show own (build T) = fun y => T.filter (fun t => t.s = y) from
      funext (own_build T)]
    exact group_perm_all (·.s) T _ hnd hcov
  have hal_count : ∀ x, (al.map Term.bnode).count x ≤ (picked ++ ali.map Term.bnode).count x := fun x => by
    rw [d.allocs.count_eq]
    have := (List.filter_sublist (p := isAnonRoot (build T) opts) (l := picked)).count_le x
    simp only [List.count_append]
    omega
  have hal_mem : ∀ b ∈ al, b ∈ ali ∨
      (isAnonRoot (build T) opts (Term.bnode b) = true ∧ Term.bnode b ∈ picked) := fun b hb => by
    have := d.allocs.mem_iff.1 (List.mem_map.2 ⟨b, hb, rfl⟩)
    simp only [List.mem_append, List.mem_map, List.mem_filter, Term.bnode.injEq, exists_eq_right] at this
    exact this.imp_right fun h => ⟨h.2, h.1⟩
  refine ⟨rs, W, al, rfl, hW, ?_, ?_, d.count, fun n σ hal hfix => d.image n σ hal ?_ ?_⟩
  · exact nodup_map_bnode.1 (List.nodup_iff_count.2 fun x =>
      Nat.le_trans (hal_count x) (List.nodup_iff_count.1 hnd x))
  · exact fun b hb => anonymizedIn_of_alloc ((hal_mem b hb).imp (hinl b) fun h => ⟨h.1, hsub _ h.2⟩)
  · -- a blank node referenced by name is referenced, and is not allocated
    intro b hb
    have hcnt := ((bobjs_perm hW).symm.trans d.objs).count_eq b
    have hnmpos := List.count_pos_iff.2 hb
    rw [count_bobjs, List.count_append] at hcnt
    obtain ⟨t, ht, hto⟩ := exists_of_refs_pos T b (by omega)
    refine hfix t ht b (mem_tripleNodes_o hto) fun hbal => ?_
    rcases hal_mem b hbal with h | ⟨h1, _⟩
    · have hi := hinl b h
      simp only [Builder.isInl, refCount_build, Bool.and_eq_true, beq_iff_eq] at hi
      have := List.count_pos_iff.2 h
      omega
    · simp only [isAnonRoot, refCount_build, Bool.and_eq_true, beq_iff_eq] at h1
      omega
  · intro s hs hsa
    refine term_map_congr _ σ BN.orig fun b hsb => ?_
    subst hsb
    obtain ⟨t, ht, hts⟩ := hsub _ hs
    refine hfix t ht b (mem_tripleNodes_s hts) fun hbal => ?_
    rcases hal_mem b hbal with h | ⟨h1, _⟩
    · have h1 : 0 < picked.count (Term.bnode b) := List.count_pos_iff.2 hs
      have h2 : 0 < (ali.map Term.bnode).count (Term.bnode b) :=
        List.count_pos_iff.2 (List.mem_map.2 ⟨b, h, rfl⟩)
      have := List.nodup_iff_count.1 hnd (Term.bnode b)
      rw [List.count_append] at this
      omega
    · rw [hsa] at h1; cases h1

theorem count_bobjs_own (T : List (Triple β)) (b : β) (h1 : refs T b = 1) (t0 : Triple β) (ht0 : t0 ∈ T)
    (hto : t0.o = Term.bnode b) (S : List (Term β)) :
    (bobjs (S.flatMap (own (build T)))).count b = S.count t0.s := by
  induction S with
  | nil => rfl
  | cons s S ih =>
    rw [List.flatMap_cons, bobjs_append, List.count_append, ih, List.count_cons, Nat.add_comm, count_bobjs, own_build,
      refs, List.countP_filter]
    simp only [Bool.and_comm]
    rw [← List.countP_filter, refs_one T b h1 t0 ht0 hto]
    by_cases h : s = t0.s
    · subst h; simp
    · simp [h, Ne.symm h]

theorem count_map_bnode (l : List β) (y : β) : (l.map Term.bnode).count (Term.bnode y) = l.count y := by
  rw [List.count_eq_countP, List.countP_map, List.count_eq_countP]
  exact List.countP_congr fun x _ => by simp

/-- In the export of the roots, a once-referenced node is described as often as its parent is: once, since following
    the parents ends at a root (`climb`). -/
theorem inlined_once {T : List (Triple β)} {opts : Opts} {ord : List (Term β)} (hord : ord.Perm (build T).subjects)
    {rs : List (Resource β)} {W : List (Triple β)} {ali al nm : List β}
    (d : DescribesR (build T) opts ((build T).roots opts ord) rs W ali al nm)
    (ha : ∀ b ∈ ali, (build T).isInl opts (Term.bnode b) = true)
    (hn : ∀ b ∈ nm, (build T).isInl opts (Term.bnode b) = false) :
    ∀ k b, climb T k (Term.bnode b) = true → (build T).isInl opts (Term.bnode b) = true → ali.count b = 1 := by
  intro k
  induction k with
  | zero =>
    intro b hc hi
    simp only [Builder.isInl, refCount_build, Bool.and_eq_true] at hi
    simp [climb, hi.2] at hc
  | succ k ih =>
    intro b hc hi
    have h1 : refs T b = 1 := by
      have hi' := hi
      simp only [Builder.isInl, refCount_build, Bool.and_eq_true, beq_iff_eq] at hi'
      exact hi'.2
    obtain ⟨t0, ht0, hto⟩ := exists_of_refs_pos T b (by omega)
    simp only [climb, h1, beq_self_eq_true, if_true, parent_of_once T b h1 t0 ht0 hto] at hc
    -- occurrences of `b` as an object of the flattening, counted twice
    have c1 := d.objs.count_eq b
    have c2 := (bobjs_perm d.perm).count_eq b
    have e : ali.flatMap (ownB (build T)) = (ali.map Term.bnode).flatMap (own (build T)) := by
      rw [List.flatMap_map]; rfl
    rw [bobjs_append, e, List.count_append, count_bobjs_own T b h1 t0 ht0 hto,
      count_bobjs_own T b h1 t0 ht0 hto] at c2
    have hnm : nm.count b = 0 := List.count_eq_zero.2 fun hb => by rw [hn b hb] at hi; cases hi
    rw [List.count_append, hnm] at c1
    cases hp : (build T).isInl opts t0.s with
    | true =>
      obtain ⟨y, hy⟩ := isInl_bnode hp
      have h0 : ((build T).roots opts ord).count t0.s = 0 :=
        List.count_eq_zero.2 fun hm => by simpa [hp] using (List.mem_filter.1 hm).2
      rw [hy] at hc hp
      have := ih y hc hp
      rw [hy] at h0
      rw [hy, count_map_bnode] at c2
      omega
    | false =>
      have hn' : ord.Nodup := (hord.nodup_iff).2 (subjects_build_nodup T)
      have hm : t0.s ∈ (build T).roots opts ord :=
        List.mem_filter.2 ⟨hord.mem_iff.2 ((mem_subjects_build T _).2 ⟨t0, ht0, rfl⟩), by simp [hp]⟩
      have h1' : ((build T).roots opts ord).count t0.s ≤ 1 :=
        List.nodup_iff_count.1 (hn'.sublist List.filter_sublist) t0.s
      have h2' := List.count_pos_iff.2 hm
      have h0 : (ali.map Term.bnode).count t0.s = 0 :=
        List.count_eq_zero.2 fun hm => by
          obtain ⟨c, hc', e'⟩ := List.mem_map.1 hm
          rw [← e', ha c hc'] at hp; cases hp
      omega

theorem graph_strong (T : List (Triple β)) (opts : Opts) (ord : List (Term β))
    (hord : ord.Perm (build T).subjects) (h : opts.inline = true → Acyclic1 T) (K : Nat)
    (hK : T.length + 1 ≤ K) : GraphStrong T opts ((build T).exportResources opts ord K) := by
  have hrs : ((build T).exportResources opts ord K).isSome := by
    refine mapOpt_isSome fun s _ => ?_
    unfold Builder.exportResource
    rw [Option.isSome_map]
    obtain ⟨L, hL⟩ := Option.isSome_iff_exists.1 (export_isSome T opts h s)
    rw [export_mono_le (build T) opts hK hL]; rfl
  obtain ⟨rs, hrs⟩ := Option.isSome_iff_exists.1 hrs
  obtain ⟨W, ali, al, nm, d, ha, hn⟩ := describes_roots (build T) opts K ((build T).roots opts ord) rs hrs
  have once : ∀ b, (build T).isInl opts (Term.bnode b) = true → ali.count b = 1 := fun b hi =>
    inlined_once hord d ha hn _ b
      (climb_all T (h (by simp only [Builder.isInl, Bool.and_eq_true] at hi; exact hi.1)) _) hi
  have hn' : ord.Nodup := (hord.nodup_iff).2 (subjects_build_nodup T)
  rw [hrs]
  refine GraphStrong.of_describes d ha
    (fun s hs => (mem_subjects_build T s).1 (hord.mem_iff.1 (List.mem_filter.1 hs).1)) ?_ fun t ht => ?_
  · refine List.nodup_append.2 ⟨hn'.sublist List.filter_sublist, nodup_map_bnode.2 (List.nodup_iff_count.2 fun a => ?_), ?_⟩
    · by_cases hm : a ∈ ali
      · exact Nat.le_of_eq (once a (ha a hm))
      · rw [List.count_eq_zero.2 hm]; exact Nat.zero_le _
    · rintro x hx _ hy rfl
      obtain ⟨c, hc, rfl⟩ := List.mem_map.1 hy
      simpa [ha c hc] using (List.mem_filter.1 hx).2
  · cases hi : (build T).isInl opts t.s with
    | true =>
      obtain ⟨b, hb⟩ := isInl_bnode hi
      rw [hb] at hi ⊢
      exact List.mem_append_right _ (List.mem_map.2 ⟨b, List.count_pos_iff.1 (by rw [once b hi]; exact Nat.one_pos), rfl⟩)
    | false =>
      exact List.mem_append_left _ (List.mem_filter.2
        ⟨hord.mem_iff.2 ((mem_subjects_build T t.s).2 ⟨t, ht, rfl⟩), by simp [hi]⟩)


theorem flatten_export (T : List (Triple β)) (opts : Opts) (ord : List (Term β))
    (hord : ord.Perm (build T).subjects) (h : opts.inline = true → Acyclic1 T) (n : Nat) :
    ∃ rs, (build T).exportResources opts ord (T.length + 1) = some rs ∧
      Spec.Iso (newTriplesList rs n).1 T :=
  (graph_strong T opts ord hord h (T.length + 1) (Nat.le_refl _)).iso n

end RdfModel.Proofs.C17
