import RdfModel.Proofs.C16TW
import RdfModel.Model.TurtleOffsets
namespace RdfModel.Proofs.C16Ttl
open RdfModel RdfModel.TW RdfModel.NQO RdfModel.TtlO RdfModel.Proofs.C16

@[simp] theorem erase_ok {α : Type} (v : α) (rg : Option SRange) (s : S) (rest : List RP) :
    (TtlO.RO.ok v rg s rest).erase = Ttl.Res.ok v (runes rest) := rfl
@[simp] theorem erase_err {α : Type} (e : EClass) (o : EOff) :
    (TtlO.RO.err e o : TtlO.RO α).erase = Ttl.Res.err e := rfl
@[simp] theorem erase_panic {α : Type} : (TtlO.RO.panic : TtlO.RO α).erase = Ttl.Res.panic := rfl
@[simp] theorem erase_done {α : Type} (v : α) (s : S) (tok : Chunk) (rest : List RP) :
    (done v s tok rest).erase = Ttl.Res.ok v (runes rest) := rfl

theorem scanIRIREF_erase (T : Tables) (e : End) (st : SState) (s : S) (inp : List RP) (acc : List Nat)
    (unc : Chunk) :
    (TtlO.scanIRIREF T e st s inp acc unc).erase = Ttl.scanIRIREF T e st (runes inp) acc := by
  -- left for `omega`: implications from a test that the clause's hypotheses refute (`r.1 ≤ 32` against `32 < r.1`,
  -- `m < d` against `d ≤ m`); `simp_all` has normalised the negations and so does not see the contradiction
  fun_induction TtlO.scanIRIREF T e st s inp acc unc <;> simp_all [Ttl.scanIRIREF] <;> try (intros; omega)

theorem produceIRIREF_erase (T : Tables) (e : End) (s : S) (inp : List RP) :
    (TtlO.produceIRIREF T e s inp).erase = Ttl.produceIRIREF T e (runes inp) := by
  cases inp with
  | nil => rfl
  | cons c rest => exact map_ite (fun _ => scanIRIREF_erase ..) fun _ => rfl

theorem scanString_erase (T : Tables) (e : End) (delim : Nat) (triple : Bool) (st : SState) (s : S)
    (inp : List RP) (acc : List Nat) (unc : Chunk) :
    (TtlO.scanString T e delim triple st s inp acc unc).erase
      = Ttl.scanString T e delim triple st (runes inp) acc := by
  fun_induction TtlO.scanString T e delim triple st s inp acc unc <;>
    simp_all [Ttl.scanString] <;> try (intros; omega)

theorem produceString_erase (T : Tables) (e : End) (legacy : Bool) (s : S) (inp : List RP) :
    (TtlO.produceString T e legacy s inp).erase = Ttl.produceString T e (runes inp) := by
  cases inp with
  | nil => rfl
  | cons q rest =>
    refine map_ite (fun _ => ?_) fun _ => rfl
    cases rest with
    | nil => rfl
    | cons c1 r1 =>
      refine map_ite (fun _ => ?_) fun _ => scanString_erase T e q.1 false .body (s.read q) (c1 :: r1) [] [q]
      cases r1 with
      | nil => cases e <;> rfl
      | cons c2 r2 => exact map_ite (fun _ => scanString_erase ..) fun _ => rfl

theorem langDone_erase (s : S) (a0 : RP) (tagRev : Chunk) (rest : List RP) :
    (TtlO.langDone s a0 tagRev rest).erase = Ttl.langDone (runes tagRev) (runes rest) := by
  cases tagRev with
  | nil => simp [TtlO.langDone, Ttl.langDone]
  | cons l more =>
    simp only [TtlO.langDone, Ttl.langDone, runes_cons, List.head?_cons, Option.some.injEq]
    split <;> simp

theorem langSecondary_erase (e : End) (a0 : RP) (s : S) (inp : List RP) (tagRev : Chunk) :
    (TtlO.langSecondary e a0 s inp tagRev).erase = Ttl.langSecondary e (runes inp) (runes tagRev) := by
  fun_induction TtlO.langSecondary e a0 s inp tagRev <;>
    simp_all [Ttl.langSecondary, langDone_erase]

theorem langPrimary_erase (e : End) (a0 : RP) (s : S) (inp : List RP) (tagRev : Chunk) :
    (TtlO.langPrimary e a0 s inp tagRev).erase = Ttl.langPrimary e (runes inp) (runes tagRev) := by
  fun_induction TtlO.langPrimary e a0 s inp tagRev <;>
    simp_all [Ttl.langPrimary, langDone_erase, langSecondary_erase]

theorem produceLANGTAG_erase (e : End) (s : S) (inp : List RP) :
    (TtlO.produceLANGTAG e s inp).erase = Ttl.produceLANGTAG e (runes inp) := by
  cases inp with
  | nil => rfl
  | cons c rest => exact map_ite (fun _ => langPrimary_erase e c (s.read c) rest []) fun _ => rfl

theorem bnDone_erase (T : Tables) (labelOnly : Bool) (h0 : Option Hist) (s : S) (labRev : Chunk)
    (rest : List RP) :
    (TtlO.bnDone T labelOnly h0 s labRev rest).erase = Ttl.bnDone T (runes labRev) (runes rest) := by
  cases labRev with
  | nil => simp [TtlO.bnDone, Ttl.bnDone]
  | cons l more =>
    simp only [TtlO.bnDone, Ttl.bnDone, runes_cons]
    by_cases hl : l.1 = 0x2e
    · simp only [hl, if_true]
      cases more with
      | nil => simp [hl]
      | cons z more' =>
        simp only [runes_cons]
        split <;> simp_all [runes]
    · simp only [hl, if_false]
      split <;> simp_all [runes]

theorem bnLoop_erase (T : Tables) (e : End) (labelOnly : Bool) (h0 : Option Hist) (s : S)
    (inp : List RP) (labRev : Chunk) :
    (TtlO.bnLoop T e labelOnly h0 s inp labRev).erase = Ttl.bnLoop T e (runes inp) (runes labRev) := by
  fun_induction TtlO.bnLoop T e labelOnly h0 s inp labRev <;> simp_all [Ttl.bnLoop, bnDone_erase]

theorem produceBlankNode_erase (T : Tables) (e : End) (labelOnly : Bool) (s : S) (inp : List RP) :
    (TtlO.produceBlankNode T e labelOnly s inp).erase = Ttl.produceBlankNode T e (runes inp) := by
  cases inp with
  | nil => rfl
  | cons c0 r0 =>
    refine map_ite (fun _ => rfl) fun _ => ?_
    cases r0 with
    | nil => rfl
    | cons c1 r1 =>
      refine map_ite (fun _ => rfl) fun _ => ?_
      cases r1 with
      | nil => rfl
      | cons c2 r2 => exact map_ite (fun _ => bnLoop_erase T e labelOnly s.doc _ r2 [c2]) fun _ => rfl

theorem numDone_erase (s : S) (acc : Chunk) (k : Option Ttl.NumKind) (rest : List RP) :
    (TtlO.numDone s acc k rest).erase = Ttl.numDone (runes acc) k (runes rest) := by
  cases acc with
  | nil => simp [TtlO.numDone, Ttl.numDone]
  | cons l more =>
    simp only [TtlO.numDone, Ttl.numDone, runes_cons]
    split
    · simp [*]
    · split <;> simp [runes]

theorem scanNum_erase (e : End) (st : Ttl.NState) (k : Option Ttl.NumKind) (s : S) (inp : List RP)
    (acc : Chunk) :
    (TtlO.scanNum e st k s inp acc).erase = Ttl.scanNum e st k (runes inp) (runes acc) := by
  fun_induction TtlO.scanNum e st k s inp acc <;> simp_all [Ttl.scanNum, numDone_erase]

theorem produceNumericLiteral_erase (e : End) (s : S) (inp : List RP) :
    (TtlO.produceNumericLiteral e s inp).erase = Ttl.produceNumericLiteral e (runes inp) := by
  cases inp with
  | nil => rfl
  | cons c rest =>
    exact map_ite (fun _ => scanNum_erase e .sign none (s.read c) rest [c]) fun _ =>
      map_ite (fun _ => scanNum_erase e .int (some .decimal) (s.read c) rest [c]) fun _ => rfl

theorem pnameNsLoop_erase (T : Tables) (e : End) (trig : Bool) (s : S) (inp : List RP) (acc : List Nat)
    (unc : Chunk) :
    (TtlO.pnameNsLoop T e trig s inp acc unc).erase = Ttl.pnameNsLoop T e (runes inp) acc := by
  fun_induction TtlO.pnameNsLoop T e trig s inp acc unc <;> simp_all [Ttl.pnameNsLoop]

theorem producePNAME_NS_erase (T : Tables) (e : End) (trig : Bool) (s : S) (inp : List RP) :
    (TtlO.producePNAME_NS T e trig s inp).erase = Ttl.producePNAME_NS T e (runes inp) := by
  cases inp with
  | nil => rfl
  | cons c rest => exact map_ite (fun _ => rfl) fun _ => map_ite (fun _ => pnameNsLoop_erase ..) fun _ => rfl

theorem localDone_erase (s : S) (acc : List Nat) (le : Bool) (unc : Chunk) (rest : List RP) :
    (TtlO.localDone s acc le unc rest).erase = Ttl.localDone acc le (runes rest) := by
  cases acc with
  | nil => simp [TtlO.localDone, Ttl.localDone]
  | cons l more =>
    simp only [TtlO.localDone, Ttl.localDone]
    split <;> simp

theorem scanLocal_erase (T : Tables) (e : End) (st : Ttl.LState) (s : S) (inp : List RP)
    (acc : List Nat) (le : Bool) (unc : Chunk) :
    (TtlO.scanLocal T e st s inp acc le unc).erase = Ttl.scanLocal T e st (runes inp) acc le := by
  fun_induction TtlO.scanLocal T e st s inp acc le unc <;> simp_all [Ttl.scanLocal, localDone_erase]

theorem producePrefixedName_erase (T : Tables) (e : End) (trig : Bool) (s : S) (inp : List RP) :
    (TtlO.producePrefixedName T e trig s inp).erase = Ttl.producePrefixedName T e (runes inp) := by
  have h := producePNAME_NS_erase T e trig s inp
  unfold TtlO.producePrefixedName Ttl.producePrefixedName
  cases hn : TtlO.producePNAME_NS T e trig s inp with
  | err c o => simp [hn] at h; simp [← h]
  | panic => simp [hn] at h; simp [← h]
  | ok ns rgNs s1 rest =>
    simp [hn] at h
    simp only [← h]
    have hl := scanLocal_erase T e .first s1 rest [] false []
    cases hs : TtlO.scanLocal T e .first s1 rest [] false [] <;> simp [hs] at hl <;> simp [← hl]

end RdfModel.Proofs.C16Ttl
