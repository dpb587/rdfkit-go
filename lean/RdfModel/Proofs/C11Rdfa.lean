import RdfModel.Spec.RdfaFragment
namespace RdfModel.Spec.Rdfa
open RdfModel RdfModel.Spec.Html RdfModel.Desc

variable {β κ : Type}

theorem resSCI_bnodeRef (E : Env) (l : Str) : resSCI E (bnodeRef l) = some (.bnode (.named l)) := by
  simp [resSCI, bnodeRef, safeInner, curie, splitColon]

theorem resSCI_refOf (lbl : β → Str) (E : Env) (s : Term β) (h : okRes E s = true) :
    ∃ a, refOf lbl s = some a ∧ resSCI E a = some (Term.map (sigma lbl) s) := by
  cases s with
  | iri i => exact ⟨i, rfl, by simpa [okRes, Term.map] using h⟩
  | bnode b => exact ⟨bnodeRef (lbl b), rfl, by simp [resSCI_bnodeRef, Term.map, sigma]⟩
  | lit l d t => simp [okRes] at h

theorem okObj_res (E : Env) (o : Term β) (h : okObj E o = true) (hl : ∀ l d t, o ≠ .lit l d t) : okRes E o = true := by
  cases o with
  | iri i => simpa [okObj, okRes] using h
  | bnode b => rfl
  | lit l d t => exact absurd rfl (hl l d t)

theorem canon_res (C : Ctx) (n : Nat) (a r p : Str) (S O : T)
    (hinc : C.incomplete = [])
    (ha : resSCI C.env a = some S) (hr : resSCI C.env r = some O) (hp : resTCAs C.env p = [p]) :
    procNode C [] n (.elem .span { about := some a, rel := some p, resource := some r } []) =
      { out := [⟨S, p, O⟩], lm := [], next := n } := by
  simp [procNode, procKids, elemLocal, subjStep, filterRel, hinc, orElse, ha, hr, hp, complete, emitLists]

theorem canon_lit (C : Ctx) (n : Nat) (a p lex : Str) (dtA : Option Str) (l : Str) (S : T) (v : T)
    (hinc : C.incomplete = [])
    (ha : resSCI C.env a = some S) (hp : resTCAs C.env p = [p])
    (hv : propertyValue C.env { about := some a, property := some p, content := some lex, datatype := dtA, lang := some l } false none
            (if l = [] then none else some l) [] = v) :
    procNode C [] n (.elem .span { about := some a, property := some p, content := some lex, datatype := dtA, lang := some l } []) =
      { out := [⟨S, p, v⟩], lm := [], next := n } := by
  simp [procNode, procKids, elemLocal, subjStep, filterRel, hinc, orElse, ha, hp, complete, emitLists, textOfList, hv]

theorem canon_correct (lbl : β → Str) (C : Ctx) (n : Nat) (t : Triple β) (hinc : C.incomplete = [])
    (hs : okRes C.env t.s = true) (hp : okPred C.env t.p = true) (ho : okObj C.env t.o = true) :
    procNode C [] n (canon lbl t) = { out := [Triple.map (sigma lbl) t], lm := [], next := n } := by
  obtain ⟨a, hra, ha⟩ := resSCI_refOf lbl C.env t.s hs
  have hp' : resTCAs C.env t.p = [t.p] := by simpa [okPred] using hp
  obtain ⟨s, p, o⟩ := t
  cases o with
  | lit lex dt lang =>
    simp only [canon, hra]
    rw [canon_lit C n a p lex _ _ _ (.lit lex dt lang) hinc ha hp']
    · simp [Triple.map, Term.map]
    · cases lang with
      | some l =>
        simp [okObj] at ho
        simp [propertyValue, plainLit, ho.1, ho.2]
      | none =>
        simp [okObj] at ho
        rcases ho with h | h
        · simp [propertyValue, plainLit, h]
        · by_cases hx : dt = xsdString
          · simp [propertyValue, plainLit, hx]
          · simp [propertyValue, hx, h.1.2, h.2]
  | _ =>
    obtain ⟨r, hrr, hr⟩ := resSCI_refOf lbl C.env _ (okObj_res C.env _ ho (by intro l d t h; cases h))
    simp only [canon, hra, hrr]
    rw [canon_res C n a r p _ _ hinc ha hr hp']
    simp [Triple.map]

theorem procKids_append (C : Ctx) (lm : LM) (n : Nat) (xs ys : List Tree) :
    procKids C lm n (xs ++ ys) =
      { out := (procKids C lm n xs).out ++ (procKids C (procKids C lm n xs).lm (procKids C lm n xs).next ys).out,
        lm := (procKids C (procKids C lm n xs).lm (procKids C lm n xs).next ys).lm,
        next := (procKids C (procKids C lm n xs).lm (procKids C lm n xs).next ys).next } := by
  induction xs generalizing lm n with
  | nil => simp [procKids]
  | cons x xs ih => simp [procKids, ih, List.append_assoc]

theorem expressible_cons (E : Env) (t : Triple β) (g : List (Triple β)) :
    expressible E (t :: g) = true ↔ (okRes E t.s = true ∧ okPred E t.p = true ∧ okObj E t.o = true) ∧ expressible E g = true := by
  simp [expressible, and_assoc]

theorem expressible_of_sublist (E : Env) {g g' : List (Triple β)} (h : ∀ t ∈ g', t ∈ g)
    (hg : expressible E g = true) : expressible E g' = true := by
  simp only [expressible, List.all_eq_true] at *
  intro t ht; exact hg t (h t ht)

theorem procKids_canon (lbl : β → Str) (C : Ctx) (n : Nat) (hinc : C.incomplete = []) (ts : List (Triple β))
    (hg : expressible C.env ts = true) :
    procKids C [] n (ts.map (canon lbl)) = { out := expect lbl ts, lm := [], next := n } := by
  induction ts with
  | nil => simp [procKids, expect]
  | cons t ts ih =>
    obtain ⟨⟨hs, hp, ho⟩, hrest⟩ := (expressible_cons C.env t ts).mp hg
    simp [procKids, canon_correct lbl C n t hinc hs hp ho, ih hrest, expect]

theorem expect_append (lbl : β → Str) (a b : List (Triple β)) : expect lbl (a ++ b) = expect lbl a ++ expect lbl b := by
  simp [expect]

theorem writeBlocks_correct (lbl : β → Str) (C : Ctx) (take : κ → Nat) (build : κ → List (Triple β) → Tree)
    (hinc : C.incomplete = []) (n : Nat) (cs : List κ) (g : List (Triple β)) (hg : expressible C.env g = true) :
    ∃ out n', procKids C [] n (writeBlocks lbl C take build n cs g) = { out := out, lm := [], next := n' } ∧
      out.Perm (expect lbl g) := by
  fun_induction writeBlocks lbl C take build n cs g with
  | case1 n cs => exact ⟨[], n, by simp [procKids], by simp [expect]⟩
  | case2 n t ts ih =>
    obtain ⟨⟨hs, hp, ho⟩, hrest⟩ := (expressible_cons C.env t ts).mp hg
    obtain ⟨out, n', h1, h2⟩ := ih hrest
    refine ⟨Triple.map (sigma lbl) t :: out, n', ?_, ?_⟩
    · simp [procKids, canon_correct lbl C n t hinc hs hp ho, h1]
    · simpa [expect] using h2
  | case3 n c cs t ts chunk cand hv ih =>
    have hsplit : t :: ts = chunk ++ ts.drop (take c) := by
      simp [chunk, List.take_succ_cons, List.take_append_drop]
    have hrest : expressible C.env (ts.drop (take c)) = true :=
      expressible_of_sublist C.env (fun x hx => List.mem_cons_of_mem _ (List.mem_of_mem_drop hx)) hg
    obtain ⟨out, n', h1, h2⟩ := ih hrest
    simp only [validBlock, Bool.and_eq_true, List.isPerm_iff, beq_iff_eq] at hv
    refine ⟨(procNode C [] n cand).out ++ out, n', ?_, ?_⟩
    · simp only [procKids, hv.2]
      rw [h1]
    · rw [hsplit, expect_append]
      exact List.Perm.append hv.1 h2
  | case4 n c cs t ts chunk cand hv ih =>
    have hsplit : t :: ts = chunk ++ ts.drop (take c) := by
      simp [chunk, List.take_succ_cons, List.take_append_drop]
    have hrest : expressible C.env (ts.drop (take c)) = true :=
      expressible_of_sublist C.env (fun x hx => List.mem_cons_of_mem _ (List.mem_of_mem_drop hx)) hg
    have hchunk : expressible C.env chunk = true :=
      expressible_of_sublist C.env (fun x hx => List.mem_of_mem_take hx) hg
    obtain ⟨out, n', h1, h2⟩ := ih hrest
    refine ⟨expect lbl chunk ++ out, n', ?_, ?_⟩
    · rw [procKids_append, procKids_canon lbl C n hinc chunk hchunk]
      simp [h1]
    · rw [hsplit, expect_append]
      exact List.Perm.append (List.Perm.refl _) h2

theorem denote_docOf (base : Str) (prefixes terms : List (Str × Str)) (sk : Skel) (blocks : List Tree) :
    denote base prefixes terms (docOf sk blocks) =
      (procKids (bodyCtx base prefixes terms sk) [] 0 blocks).out ++
      (emitLists (.iri (resolveRef (dropFragment base) [])) (procKids (bodyCtx base prefixes terms sk) [] 0 blocks).lm
        (procKids (bodyCtx base prefixes terms sk) [] 0 blocks).next).1 := by
  simp [denote, docOf, procNode, procKids, elemLocal, subjStep, filterRel, orElse, complete, skelAttrs, bodyCtx, langOf, declsOf]

theorem sigma_injective (lbl : β → Str) (h : Function.Injective lbl) : Function.Injective (sigma lbl) := by
  intro a b hab
  simp only [sigma, BId.named.injEq] at hab
  exact h hab

theorem write_denote (base : Str) (prefixes terms : List (Str × Str)) (lbl : β → Str) (take : κ → Nat)
    (build : Ctx → κ → List (Triple β) → Tree) (sk : Skel) (cs : List κ) (g : List (Triple β))
    (hg : expressible (bodyCtx base prefixes terms {}).env g = true) :
    (denote base prefixes terms (write base prefixes terms lbl take build sk cs g)).Perm (expect lbl g) := by
  unfold write
  generalize hsk : (if expressible (bodyCtx base prefixes terms sk).env g = true then sk else ({} : Skel)) = sk'
  have hg' : expressible (bodyCtx base prefixes terms sk').env g = true := by
    subst hsk
    split
    · assumption
    · exact hg
  simp only []
  rw [denote_docOf]
  obtain ⟨out, n', h1, h2⟩ := writeBlocks_correct lbl (bodyCtx base prefixes terms sk') take
    (build (bodyCtx base prefixes terms sk')) (by simp [bodyCtx]) 0 cs g hg'
  rw [h1]
  simpa [emitLists] using h2

/-! ### pattern lemmas: what RDFa Core 1.1 §7.5 yields for chaining and for @inlist (the other idioms: Props/C11, by the same unfolding) -/

attribute [local simp] procNode procKids elemLocal subjStep filterRel orElse complete emitLists propertyValue plainLit
  textOfList textOf

/-- chaining: the child names the object and describes it -/
theorem chaining (C : Ctx) (n : Nat) (a p r q c : Str) (S O : T)
    (hinc : C.incomplete = []) (ha : resSCI C.env a = some S) (hr : resSCI C.env r = some O)
    (hp : resTCAs C.env p = [p]) (hq : resTCAs C.env q = [q]) :
    procNode C [] n (.elem .div { about := some a, rel := some p }
        [.elem .span { about := some r, property := some q, content := some c, lang := some [] } []]) =
      { out := [⟨O, q, .lit c xsdString none⟩, ⟨S, p, O⟩], lm := [], next := n + 1 } := by
  simp [hinc, ha, hr, hp, hq]

def listItem (p c : Str) : Tree := .elem .span { property := some p, inlist := some [], content := some c, lang := some [] } []

theorem listItem_proc (C : Ctx) (lm : LM) (n : Nat) (p c : Str)
    (hinc : C.incomplete = []) (hps : C.parentObject = C.parentSubject) (hp : resTCAs C.env p = [p]) :
    procNode C lm n (listItem p c) = { out := [], lm := lmAdd lm p (.lit c xsdString none), next := n } := by
  simp [listItem, hinc, hp, hps]

theorem listItems_proc (C : Ctx) (lm : LM) (n : Nat) (p : Str) (cs : List Str)
    (hinc : C.incomplete = []) (hps : C.parentObject = C.parentSubject) (hp : resTCAs C.env p = [p]) :
    procKids C lm n (cs.map (listItem p)) =
      { out := [], lm := cs.foldl (fun m c => lmAdd m p (.lit c xsdString none)) lm, next := n } := by
  induction cs generalizing lm with
  | nil => simp
  | cons c cs ih => simp [listItem_proc C lm n p c hinc hps hp, ih]

theorem foldl_lmAdd (p : Str) (xs : List T) (cs : List Str) :
    cs.foldl (fun m c => lmAdd m p (.lit c xsdString none)) [(p, xs)] = [(p, xs ++ cs.map (fun c => (.lit c xsdString none : T)))] := by
  induction cs generalizing xs with
  | nil => simp
  | cons c cs ih => simp [lmAdd, ih, List.append_assoc]

/-- @inlist: the children's values, in document order, become one RDF collection attached to the element that
    set the subject (list mapping, step 14) -/
theorem inlist_collection (C : Ctx) (n : Nat) (a p c : Str) (cs : List Str) (S : T)
    (hinc : C.incomplete = []) (ha : resSCI C.env a = some S) (hne : S ≠ C.parentSubject)
    (hp : resTCAs C.env p = [p]) :
    procNode C [] n (.elem .div { about := some a } ((c :: cs).map (listItem p))) =
      { out := listCells n ((c :: cs).map (fun c => (.lit c xsdString none : T))) ++ [⟨S, p, fresh n⟩],
        lm := [], next := n + (c :: cs).length } := by
  have hbne : (S != C.parentSubject) = true := by simpa using hne
  have hkid := listItems_proc
    { env := { base := C.env.base, prefixes := C.env.prefixes, vocab := C.env.vocab, terms := C.env.terms },
      parentSubject := S, parentObject := S, incomplete := [], lang := C.lang } [] n p (c :: cs) rfl rfl hp
  simp [-procKids, hinc, ha, hbne]
  have hkid' : procKids
      { env := { base := C.env.base, prefixes := C.env.prefixes, vocab := C.env.vocab, terms := C.env.terms },
        parentSubject := S, parentObject := S, incomplete := [], lang := C.lang }
      [] n (listItem p c :: List.map (listItem p) cs) =
      { out := [], lm := [(p, (.lit c xsdString none : T) :: cs.map (fun c => (.lit c xsdString none : T)))], next := n } := by
    have := hkid
    simp only [List.map_cons, List.foldl_cons, lmAdd] at this
    rw [foldl_lmAdd] at this
    simpa using this
  rw [hkid']
  simp

end RdfModel.Spec.Rdfa
