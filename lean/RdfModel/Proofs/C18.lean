import RdfModel.Props.C18Defs
namespace RdfModel.Proofs.C18
open RdfModel RdfModel.Pipe RdfModel.C18

theorem resolveByType_alias {aliases : List (Str × Cti)} {managers : List Cti} {t : Str} {c : Cti}
    (ht : t ≠ []) (ha : BN.assoc t aliases = some c) : resolveByType aliases managers t = some c := by
  simp [resolveByType, ht, ha]

theorem resolveByType_id {aliases : List (Str × Cti)} {managers : List Cti} {t : Str}
    (ht : t ≠ []) (ha : BN.assoc t aliases = none) (hm : t ∈ managers) :
    resolveByType aliases managers t = some t := by
  simp [resolveByType, ht, ha, hm]

theorem resolveByType_none_iff (aliases : List (Str × Cti)) (managers : List Cti) (t : Str) :
    resolveByType aliases managers t = none ↔ (t = [] ∨ (BN.assoc t aliases = none ∧ t ∉ managers)) := by
  unfold resolveByType
  by_cases ht : t = []
  · simp [ht]
  · simp only [ne_eq, ht, not_false_eq_true, if_true, false_or]
    cases ha : BN.assoc t aliases with
    | some c => simp
    | none => by_cases hm : t ∈ managers <;> simp [hm]

theorem resolveByType_empty (aliases : List (Str × Cti)) (managers : List Cti) :
    resolveByType aliases managers [] = none := by simp [resolveByType]

theorem resolveDecoderType_of_type {reg : Registry} {ord : List (Str × Cti)} {rr : ReaderInfo} {t : Str} {c : Cti}
    (h : resolveByType reg.aliases reg.decoders t = some c) : resolveDecoderType reg ord rr t = some c := by
  simp [resolveDecoderType, h]

theorem resolveDecoderType_of_media {reg : Registry} {ord : List (Str × Cti)} {rr : ReaderInfo} {t : Str} {c : Cti}
    (h0 : resolveByType reg.aliases reg.decoders t = none) (h : resolveByMedia reg.mediaTypes rr = some c) :
    resolveDecoderType reg ord rr t = some c := by
  simp [resolveDecoderType, h0, h]

theorem resolveDecoderType_of_magic {reg : Registry} {ord : List (Str × Cti)} {rr : ReaderInfo} {t : Str} {c : Cti}
    (h0 : resolveByType reg.aliases reg.decoders t = none) (h1 : resolveByMedia reg.mediaTypes rr = none)
    (h : resolveByMagic rr = some c) : resolveDecoderType reg ord rr t = some c := by
  simp [resolveDecoderType, h0, h1, h]

theorem resolveDecoderType_of_ext {reg : Registry} {ord : List (Str × Cti)} {rr : ReaderInfo} {t : Str}
    (h0 : resolveByType reg.aliases reg.decoders t = none) (h1 : resolveByMedia reg.mediaTypes rr = none)
    (h2 : resolveByMagic rr = none) : resolveDecoderType reg ord rr t = resolveByExt ord rr := by
  simp [resolveDecoderType, h0, h1, h2]

theorem resolveEncoderType_of_type {reg : Registry} {fn : Option Str} {t : Str} {c : Cti}
    (h : resolveByType reg.aliases reg.encoders t = some c) : resolveEncoderType reg fn t = some c := by
  simp [resolveEncoderType, h]

theorem resolveEncoderType_of_ext {reg : Registry} {fn : Option Str} {t : Str}
    (h0 : resolveByType reg.aliases reg.encoders t = none) :
    resolveEncoderType reg fn t = fn.bind (fun f => BN.assoc (filepathExt f) reg.fileExts) := by
  cases fn <;> simp [resolveEncoderType, h0]

theorem suffixConsistent_of_B {exts : List (Str × Cti)} (h : suffixConsistentB exts = true) : SuffixConsistent exts := by
  intro e1 h1 e2 h2 hs
  simp only [suffixConsistentB, List.all_eq_true] at h
  have := h e1 h1 e2 h2
  simp only [Bool.or_eq_true, Bool.not_eq_true', beq_iff_eq] at this
  rcases this with hn | he
  · have : e1.1.isSuffixOf e2.1 = true := by simpa using hs
    rw [this] at hn; cases hn
  · exact he

/-- all entries that match one name carry the same type: of two suffixes of one string, the shorter is a suffix
    of the longer -/
theorem match_same {exts : List (Str × Cti)} (hc : SuffixConsistent exts) {name : Str} {e1 e2 : Str × Cti}
    (h1 : e1 ∈ exts) (h2 : e2 ∈ exts) (m1 : hasSuffix name e1.1 = true) (m2 : hasSuffix name e2.1 = true) :
    e1.2 = e2.2 := by
  have s1 : e1.1 <:+ name := by simpa [hasSuffix] using m1
  have s2 : e2.1 <:+ name := by simpa [hasSuffix] using m2
  rcases Nat.le_total e1.1.length e2.1.length with h | h
  · exact hc e1 h1 e2 h2 (List.suffix_of_suffix_length_le s1 s2 h)
  · exact (hc e2 h2 e1 h1 (List.suffix_of_suffix_length_le s2 s1 h)).symm

theorem find_perm_some {exts ord ord' : List (Str × Cti)} (hc : SuffixConsistent exts)
    (hp : ord.Perm exts) (hp' : ord'.Perm exts) {name : Str} {c : Cti}
    (h : (ord.find? (fun e => hasSuffix name e.1)).map (·.2) = some c) :
    (ord'.find? (fun e => hasSuffix name e.1)).map (·.2) = some c := by
  obtain ⟨e, hf, rfl⟩ := Option.map_eq_some_iff.mp h
  have hm : hasSuffix name e.1 = true := by simpa using List.find?_some hf
  have he : e ∈ exts := hp.mem_iff.mp (List.mem_of_find?_eq_some hf)
  cases h' : ord'.find? (fun e => hasSuffix name e.1) with
  | none => exact absurd hm (by simpa using List.find?_eq_none.mp h' e (hp'.mem_iff.mpr he))
  | some e' =>
    exact congrArg some (match_same hc (hp'.mem_iff.mp (List.mem_of_find?_eq_some h')) he
      (by simpa using List.find?_some h') hm)

theorem find_perm_same {exts ord ord' : List (Str × Cti)} (hc : SuffixConsistent exts)
    (hp : ord.Perm exts) (hp' : ord'.Perm exts) (name : Str) :
    (ord.find? (fun e => hasSuffix name e.1)).map (·.2) = (ord'.find? (fun e => hasSuffix name e.1)).map (·.2) :=
  Option.ext fun _ => ⟨find_perm_some hc hp hp', find_perm_some hc hp' hp⟩

theorem resolveByExt_perm {exts ord ord' : List (Str × Cti)} (hc : SuffixConsistent exts)
    (hp : ord.Perm exts) (hp' : ord'.Perm exts) (rr : ReaderInfo) :
    resolveByExt ord rr = resolveByExt ord' rr := by
  unfold resolveByExt
  cases rr.fileName with
  | none => rfl
  | some fn => exact find_perm_same hc hp hp' _

theorem shadowFree_spec {aliases : List (Str × Cti)} {managers : List Cti} (h : aliasShadowFree aliases managers = true)
    {c : Cti} (hc : c ∈ managers) : BN.assoc c aliases = none ∨ BN.assoc c aliases = some c := by
  simp only [aliasShadowFree, List.all_eq_true] at h
  have := h c hc
  cases ha : BN.assoc c aliases with
  | none => exact Or.inl rfl
  | some c' =>
    rw [ha] at this
    simp only [beq_iff_eq] at this
    exact Or.inr (by rw [this])

theorem resolveByType_again {aliases : List (Str × Cti)} {managers : List Cti}
    (h : aliasShadowFree aliases managers = true) {c : Cti} (hc : c ∈ managers) (hne : c ≠ []) :
    resolveByType aliases managers c = some c := by
  rcases shadowFree_spec h hc with ha | ha
  · exact resolveByType_id hne ha hc
  · exact resolveByType_alias hne ha

end RdfModel.Proofs.C18
