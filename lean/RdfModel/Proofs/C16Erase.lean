import RdfModel.Proofs.C16TW
namespace RdfModel.Proofs.C16
open RdfModel RdfModel.NQ RdfModel.TW RdfModel.NQO

@[simp] theorem erase_ok {α β : Type} (f : α → β) (v : α) (s : S) (rest : List RP) :
    (RO.ok v s rest).erase f = R.ok (f v) (runes rest) := rfl
@[simp] theorem erase_err {α β : Type} (f : α → β) (e : EClass) (o : EOff) :
    (RO.err e o : RO α).erase f = R.err e := rfl

theorem scanIRI_erase (T : Tables) (e : End) (st : SState) (s : S) (inp : List RP) (acc : List Nat)
    (unc : Chunk) :
    (NQO.scanIRI T e st s inp acc unc).erase Prod.fst = NQ.scanIRI T e st (runes inp) acc := by
  -- left for `omega`: implications from a test that the clause's hypotheses refute (`r.1 ≤ 32` against `32 < r.1`,
  -- `m < d` against `d ≤ m`); `simp_all` has normalised the negations and so does not see the contradiction
  fun_induction NQO.scanIRI T e st s inp acc unc <;> simp_all [NQ.scanIRI] <;> (intros; omega)

theorem captureIRI_erase (T : Tables) (urlOk : List Nat → Bool) (e : End) (s : S) (op : RP)
    (inp : List RP) :
    (NQO.captureIRI T urlOk e s op inp).erase Prod.fst = NQ.captureIRI T urlOk e (runes inp) := by
  unfold NQO.captureIRI NQ.captureIRI
  rw [← scanIRI_erase T e .body s inp [] [op]]
  cases NQO.scanIRI T e .body s inp [] [op] with
  | err c o => rfl
  | ok v s1 rest => exact map_ite (fun _ => rfl) fun _ => rfl

theorem scanLit_erase (T : Tables) (e : End) (st : SState) (s : S) (inp : List RP) (acc : List Nat)
    (unc : Chunk) :
    (NQO.scanLit T e st s inp acc unc).erase Prod.fst = NQ.scanLit T e st (runes inp) acc := by
  fun_induction NQO.scanLit T e st s inp acc unc <;> simp_all [NQ.scanLit] <;> (intros; omega)

theorem langSecondary_erase (e : End) (a0 : RP) (s : S) (inp : List RP) (tagRev : Chunk) :
    (NQO.langSecondary e a0 s inp tagRev).erase Prod.fst = NQ.langSecondary e (runes inp) (runes tagRev) := by
  fun_induction NQO.langSecondary e a0 s inp tagRev <;>
    simp_all [NQ.langSecondary, NQO.langFinish]

theorem langPrimary_erase (e : End) (a0 : RP) (s : S) (inp : List RP) (tagRev : Chunk) :
    (NQO.langPrimary e a0 s inp tagRev).erase Prod.fst = NQ.langPrimary e (runes inp) (runes tagRev) := by
  fun_induction NQO.langPrimary e a0 s inp tagRev <;>
    simp_all [NQ.langPrimary, NQO.langFinish, langSecondary_erase]

theorem captureLiteral_erase (T : Tables) (urlOk : List Nat → Bool) (e : End) (legacy : Bool) (s : S)
    (q : RP) (inp : List RP) :
    (NQO.captureLiteral T urlOk e legacy s q inp).erase Prod.fst
      = NQ.captureLiteral T urlOk e (runes inp) := by
  have h := scanLit_erase T e .body s inp [] [q]
  unfold NQO.captureLiteral NQ.captureLiteral
  rw [← h]
  cases NQO.scanLit T e .body s inp [] [q] with
  | err c o => rfl
  | ok v s1 rest =>
    cases rest with
    | nil => cases e <;> rfl
    | cons r0 rest0 =>
      refine map_ite (fun _ => ?_) fun _ => map_ite (fun _ => ?_) fun _ => rfl
      · have hl := langPrimary_erase e r0 ((s1.commit v.2).read r0) rest0 []
        cases hp : NQO.langPrimary e r0 ((s1.commit v.2).read r0) rest0 [] <;> rw [hp] at hl <;> exact hl ▸ rfl
      · cases rest0 with
        | nil => rfl
        | cons r1 rest1 =>
          refine map_ite (fun _ => rfl) fun _ => ?_
          cases rest1 with
          | nil => rfl
          | cons r2 rest2 =>
            refine map_ite (fun _ => rfl) fun _ => ?_
            have hi := captureIRI_erase T urlOk e
              ((((s1.commit v.2).read r0).read r1).commit [r0, r1] |>.read r2) r2 rest2
            cases hc : NQO.captureIRI T urlOk e
              ((((s1.commit v.2).read r0).read r1).commit [r0, r1] |>.read r2) r2 rest2 with
            | err x o => rw [hc] at hi; exact hi ▸ rfl
            | ok d s7 r => rw [hc] at hi; exact hi ▸ map_ite (fun _ => rfl) fun _ => rfl
theorem bnFinish_erase (T : Tables) (s : S) (p labRev : Chunk) (rest : List RP) :
    (NQO.bnFinish T s p labRev rest).erase Prod.fst = NQ.bnFinish T (runes labRev) (runes rest) := by
  unfold NQO.bnFinish NQ.bnFinish
  simp only [runes, List.length_map]
  split
  · cases labRev with
    | nil => simp
    | cons l more =>
      simp only [List.map_cons]
      split
      · cases more with
        | nil => simp
        | cons l' more' =>
          simp only [List.map_cons]
          split <;> simp_all [runes]
      · split <;> simp [runes]
  · simp [runes]

theorem bnLoop_erase (T : Tables) (e : End) (p : Chunk) (s : S) (inp : List RP) (labRev : Chunk) :
    (NQO.bnLoop T e p s inp labRev).erase Prod.fst = NQ.bnLoop T e (runes inp) (runes labRev) := by
  fun_induction NQO.bnLoop T e p s inp labRev <;> simp_all [NQ.bnLoop, bnFinish_erase]

theorem captureBNode_erase (T : Tables) (e : End) (s : S) (p : Chunk) (inp : List RP) :
    (NQO.captureBNode T e s p inp).erase Prod.fst = NQ.captureBNode T e (runes inp) := by
  cases inp with
  | nil => simp [NQO.captureBNode, NQ.captureBNode]
  | cons r rest =>
    simp only [NQO.captureBNode, NQ.captureBNode, runes_cons]
    split
    · simpa using bnLoop_erase T e p (s.read r) rest [r]
    · simp

theorem captureTerm_erase (T : Tables) (urlOk : List Nat → Bool) (e : End) (legacy : Bool) (pos : Pos)
    (cm : Option Chunk) (s : S) (inp : List RP) :
    (NQO.captureTerm T urlOk e legacy pos cm s inp).erase Prod.fst
      = NQ.captureTerm T urlOk e pos cm.isSome (runes inp) := by
  fun_induction NQO.captureTerm T urlOk e legacy pos cm s inp
  all_goals (try (simp [NQ.captureTerm, captureLiteral_erase, *]; done))
  case case3 =>            -- inside a comment, at the line end
    rename_i cm s r rest h ih
    simpa [NQ.captureTerm, h] using ih
  -- `<`: IRI read / failed; `_` then `:`: blank node label read / failed
  case case5 s r rest h t s3 r' x => simp [NQ.captureTerm, h, ← captureIRI_erase T urlOk e (s.read r) r rest, x]
  case case6 s r rest h c o x => simp [NQ.captureTerm, h, ← captureIRI_erase T urlOk e (s.read r) r rest, x]
  case case9 s r h1 h2 r2 rest2 h3 t s3 r' x =>
    simp at h3
    simp [NQ.captureTerm, h1, h2, h3, ← captureBNode_erase T e ((s.read r).read r2) [r, r2] rest2, x]
  case case10 s r h1 h2 r2 rest2 h3 c o x =>
    simp at h3
    simp [NQ.captureTerm, h1, h2, h3, ← captureBNode_erase T e ((s.read r).read r2) [r, r2] rest2, x]
theorem afterObject_erase (T : Tables) (e : End) (cm : Option Chunk) (s : S) (inp : List RP) :
    (NQO.afterObject T e cm s inp).erase id = NQ.afterObject T e cm.isSome (runes inp) := by
  fun_induction NQO.afterObject T e cm s inp <;> simp_all [NQ.afterObject]

theorem expectDot_erase (T : Tables) (e : End) (cm : Option Chunk) (s : S) (inp : List RP) :
    (NQO.expectDot T e cm s inp).erase id = NQ.expectDot T e cm.isSome (runes inp) := by
  fun_induction NQO.expectDot T e cm s inp <;> simp_all [NQ.expectDot]

def eraseEol : NQO.EolRes → NQ.EolRes
  | .start _ rest => .start (runes rest)
  | .done _ => .done
  | .fail e _ => .fail e

theorem toEOL_erase (T : Tables) (e : End) (cm : Option Chunk) (s : S) (inp : List RP) :
    eraseEol (NQO.toEOL T e cm s inp) = NQ.toEOL T e cm.isSome (runes inp) := by
  fun_induction NQO.toEOL T e cm s inp <;> simp_all [NQ.toEOL, eraseEol] <;> (cases e <;> rfl)

def eraseSkip : NQO.SkipRes → Option (List Nat)
  | .stmt _ rest => some (runes rest)
  | .ended _ => none

theorem skipToStmt_erase (T : Tables) (e : End) (cm : Option Chunk) (s : S) (inp : List RP) :
    eraseSkip (NQO.skipToStmt T e cm s inp) = NQ.skipToStmt T cm.isSome (runes inp) := by
  fun_induction NQO.skipToStmt T e cm s inp <;> simp_all [NQ.skipToStmt, eraseSkip]

def eraseStep : NQO.Step → NQ.Step
  | .quad q _ _ rest => .quad q (runes rest)
  | .done _ => .done
  | .fail e _ => .fail e

theorem eraseStep_term (T : Tables) (urlOk : List Nat → Bool) (e : End) (legacy : Bool) (pos : Pos) (cm : Option Chunk)
    (s : S) (inp : List RP) {K : Term (List Nat) × Option SRange → S → List RP → NQO.Step}
    {K' : Term (List Nat) → List Nat → NQ.Step} (hK : ∀ v s' rest, eraseStep (K v s' rest) = K' v.1 (runes rest)) :
    eraseStep (match NQO.captureTerm T urlOk e legacy pos cm s inp with
      | .err x o => .fail x o
      | .ok v s' rest => K v s' rest)
    = match NQ.captureTerm T urlOk e pos cm.isSome (runes inp) with
      | .err x => .fail x
      | .ok t r => K' t r := by
  rw [← captureTerm_erase T urlOk e legacy pos cm s inp]
  cases NQO.captureTerm T urlOk e legacy pos cm s inp with
  | err x o => rfl
  | ok v s' rest => exact hK v s' rest

theorem statement_erase (T : Tables) (urlOk : List Nat → Bool) (e : End) (legacy quads : Bool) (s : S)
    (inp : List RP) :
    eraseStep (NQO.statement T urlOk e legacy quads s inp) = NQ.statement T urlOk e quads (runes inp) := by
  have hdot : ∀ s inp, (NQO.expectDot T e none s inp).erase id = NQ.expectDot T e false (runes inp) :=
    expectDot_erase T e none
  have hskip : eraseSkip (NQO.skipToStmt T e none s inp) = NQ.skipToStmt T false (runes inp) :=
    skipToStmt_erase T e none s inp
  unfold NQO.statement NQ.statement
  rw [← hskip]
  cases NQO.skipToStmt T e none s inp with
  | ended s' => cases e <;> rfl
  | stmt s0 inp' =>
    refine eraseStep_term T urlOk e legacy _ none _ _ fun sv s1 r1 => eraseStep_term T urlOk e legacy _ none _ _ fun pv s2 r2 =>
      eraseStep_term T urlOk e legacy _ none _ _ fun ov s3 r3 => ?_
    cases quads with
    | false =>
      simp only [Bool.false_eq_true, if_false]
      rw [← hdot]
      cases NQO.expectDot T e none s3 r3 <;> rfl
    | true =>
      have hobj : (NQO.afterObject T e none s3 r3).erase id = NQ.afterObject T e false (runes r3) :=
        afterObject_erase T e none s3 r3
      simp only [if_true]
      rw [← hobj]
      cases NQO.afterObject T e none s3 r3 with
      | err x o => rfl
      | ok g s4 r4 =>
        cases g with
        | none => rfl
        | some gx =>
          refine eraseStep_term T urlOk e legacy _ none _ _ fun gv s5 r5 => ?_
          rw [← hdot]
          cases NQO.expectDot T e none s5 r5 <;> rfl

theorem next_erase (T : Tables) (urlOk : List Nat → Bool) (e : End) (legacy quads started : Bool)
    (s : S) (inp : List RP) :
    eraseStep (NQO.next T urlOk e legacy quads started s inp)
      = NQ.next T urlOk e quads started (runes inp) := by
  unfold NQO.next NQ.next
  cases started with
  | false => exact statement_erase T urlOk e legacy quads s inp
  | true =>
    have h : eraseEol (NQO.toEOL T e none s inp) = NQ.toEOL T e false (runes inp) := toEOL_erase T e none s inp
    simp only [if_true]
    rw [← h]
    cases NQO.toEOL T e none s inp with
    | done s' => rfl
    | fail x o => rfl
    | start s' rest => exact statement_erase T urlOk e legacy quads s' rest

theorem runFuel_erase (T : Tables) (urlOk : List Nat → Bool) (e : End) (legacy quads : Bool)
    (fuel : Nat) (started : Bool) (s : S) (inp : List RP) :
    ((NQO.runFuel T urlOk e legacy quads fuel started s inp).stmts.map Prod.fst,
      (NQO.runFuel T urlOk e legacy quads fuel started s inp).verdict)
      = NQ.runFuel T urlOk e quads fuel started (runes inp) := by
  induction fuel generalizing started s inp with
  | zero => rfl
  | succ fuel ih =>
    simp only [NQO.runFuel, NQ.runFuel]
    rw [← next_erase T urlOk e legacy quads started s inp]
    cases NQO.next T urlOk e legacy quads started s inp with
    | done s' => rfl
    | fail x o => rfl
    | quad q rg s' rest => simp only [eraseStep, List.map_cons, ← ih true s' rest]

end RdfModel.Proofs.C16
