import RdfModel.Proofs.C19Inv
namespace RdfModel.Proofs.C19
open RdfModel.DS RdfModel.C19

/-- Pieces hung on distinct keys, each duplicate-free, each element telling its key: the
    concatenation is duplicate-free. -/
theorem nodup_flatMap_keys {κ α β : Type} {l : List (κ × α)} {f : κ × α → List β} (key : β → κ)
    (hk : (keys l).Nodup) (hf : ∀ e ∈ l, (f e).Nodup ∧ ∀ x ∈ f e, key x = e.1) : (l.flatMap f).Nodup := by
  rw [List.nodup_iff_pairwise_ne, List.pairwise_flatMap]
  refine ⟨fun e he => List.nodup_iff_pairwise_ne.1 (hf e he).1, ?_⟩
  rw [keys, List.nodup_iff_pairwise_ne, List.pairwise_map] at hk
  refine hk.imp_of_mem fun {a b} ha hb hne x hx y hy e => hne ?_
  rw [← (hf a ha).2 x hx, ← (hf b hb).2 y hy, e]

theorem nodup_abs {s : State} (hi : Inv s) : (abs s).Nodup := by
  refine nodup_flatMap_keys Quad.g hi.gkeys fun e he => ⟨?_, fun x hx => ?_⟩
  · obtain ⟨hGk, hGe⟩ := hi.graph e.1 e.2 he
    refine nodup_flatMap_keys (fun x => keyOf x.s) hGk fun f hf => ⟨?_, fun x hx => ?_⟩
    · obtain ⟨_, _, hl⟩ := hGe f.1 f.2.1 f.2.2 hf
      rw [List.nodup_iff_pairwise_ne, List.pairwise_map]
      refine hl.2.1.imp_of_mem fun {a b} ha hb hab e => hab ?_
      simp only [getQuad, Quad.mk.injEq] at e
      rw [← (hl.1 a ha).1.1, ← (hl.1 b hb).1.1, ← (hl.1 a ha).2.1.1, ← (hl.1 b hb).2.1.1, e.2.1, e.2.2.1]
      exact ⟨rfl, rfl⟩
    · obtain ⟨st, _, rfl⟩ := List.mem_map.1 hx
      obtain ⟨e, o, _⟩ := hGe f.1 f.2.1 f.2.2 hf
      exact o.1.trans e
  · simp only [List.mem_flatMap, List.mem_map] at hx
    obtain ⟨_, _, _, _, rfl⟩ := hx
    rfl

theorem stmtsAt_ok {s : State} (hi : Inv s) (g : Option Term) (k : NodeKey) :
    StmtsOK s.nextId (stmtsAt s g k) := by
  unfold stmtsAt
  split
  · exact ⟨by simp, by simp, by simp⟩
  · rename_i G hG
    split
    · exact ⟨by simp, by simp, by simp⟩
    · rename_i n l hl
      exact ((hi.graph g G (alookup_some_mem hG)).2 k n l (alookup_some_mem hl)).2.2

theorem write_spec {s : State} (hi : Inv s) {g : Option Term} {G : SubjMap} (hg : alookup g s.graphs = some G)
    {n : Node} (hn : NodeOK n) {l : List Stmt} {b : Nat} (hb : s.nextId ≤ b) (hl : StmtsOK b l) :
    Inv ⟨s.nodes, aset g (aset n.key (n, l) G) s.graphs, b⟩ ∧
      ∀ x, x ∈ abs ⟨s.nodes, aset g (aset n.key (n, l) G) s.graphs, b⟩ ↔
        WFQuad x ∧ HoldsIn (if x.g = g ∧ keyOf x.s = n.key then l else stmtsAt s x.g (keyOf x.s)) x := by
  have hgm := alookup_some_mem hg
  have hG : GraphInv b (aset n.key (n, l) G) := by
    obtain ⟨hGk, hGe⟩ := hi.graph g G hgm
    refine ⟨nodup_keys_aset _ _ _ hGk, fun k n' l' hk => ?_⟩
    rcases mem_aset hk with ⟨rfl, he⟩ | hk'
    · cases he; exact ⟨rfl, hn, hl⟩
    · obtain ⟨h1, h2, h3⟩ := hGe k n' l' hk'
      exact ⟨h1, h2, h3.mono hb⟩
  have hinv := inv_aset_graph hi hb (hi.gwf g G hgm) hG
  exact ⟨hinv, fun x => by rw [mem_abs_iff hinv, stmtsAt_write hg]⟩

theorem bindStatement_some (s : State) (ts tp to : Term) (g : Option Term) :
    bindStatement s ⟨some ts, some tp, some to, g⟩ =
      let r1 := bindNode s ts
      let r2 := bindNode r1.1 tp
      let r3 := bindNode r2.1 to
      (r3.1, some ⟨r1.2, r2.2, r3.2,
        (stmtsAt r3.1 g r1.2.key).find? (fun known => known.p.key == r2.2.key && known.o.key == r3.2.key)⟩) := rfl

/-- `ensureGraph` followed by `bindStatement` (for `HasQuad` the graph is there already): the graph
    exists afterwards, nothing stored has changed, the three nodes are those of the quad's terms, and the
    statement found is the first one of the subject's list with the quad's predicate and object keys. -/
theorem lookup_spec (s : State) (q : Quad) (hi : Inv s) (hq : WFQuad q) :
    ∃ s1 G, bindStatement (ensureGraph s q.g) q.toIn =
        (s1, some ⟨⟨keyOf q.s, q.s⟩, ⟨keyOf q.p, q.p⟩, ⟨keyOf q.o, q.o⟩,
          (stmtsAt s q.g (keyOf q.s)).find? (fun k => k.p.key == keyOf q.p && k.o.key == keyOf q.o)⟩) ∧
      Inv s1 ∧ alookup q.g s1.graphs = some G ∧ abs s1 = abs s ∧ ∀ g k, stmtsAt s1 g k = stmtsAt s g k := by
  obtain ⟨hs, hp, ho, hg⟩ := hq
  have i0 := ensureGraph_inv s q.g hi hg
  have i1 := bindNode_inv _ q.s i0 hs
  have i2 := bindNode_inv _ q.p i1 hp
  have hgr : (bindNode (bindNode (bindNode (ensureGraph s q.g) q.s).1 q.p).1 q.o).1.graphs
      = (ensureGraph s q.g).graphs := by
    rw [bindNode_graphs, bindNode_graphs, bindNode_graphs]
  obtain ⟨G, hG⟩ := ensureGraph_has s q.g
  refine ⟨_, G, ?_, bindNode_inv _ q.o i2 ho, hgr ▸ hG, by rw [abs_congr hgr, abs_ensureGraph],
    fun g k => by rw [stmtsAt_congr hgr, stmtsAt_ensureGraph]⟩
  rw [Quad.toIn, bindStatement_some]
  simp only [(bindNode_spec _ q.s i0.nodes hs).1, (bindNode_spec _ q.p i1.nodes hp).1,
    (bindNode_spec _ q.o i2.nodes ho).1, stmtsAt_congr hgr, stmtsAt_ensureGraph]

theorem find?_isSome_iff (l : List Stmt) (q : Quad) :
    (l.find? (fun k => k.p.key == keyOf q.p && k.o.key == keyOf q.o)).isSome = true ↔ HoldsIn l q := by
  rw [List.find?_isSome]; simp [HoldsIn]

theorem quad_eq_iff {x q : Quad} (hx : WFQuad x) (hq : WFQuad q) :
    x = q ↔ (x.g = q.g ∧ keyOf x.s = keyOf q.s) ∧ keyOf q.p = keyOf x.p ∧ keyOf q.o = keyOf x.o := by
  refine ⟨fun e => e ▸ ⟨⟨rfl, rfl⟩, rfl, rfl⟩, fun h => ?_⟩
  obtain ⟨xs, xp, xo, xg⟩ := x
  obtain ⟨qs, qp, qo, qg⟩ := q
  rw [Quad.mk.injEq]
  exact ⟨keyOf_injective _ _ hx.1 hq.1 h.1.2, keyOf_injective _ _ hx.2.1 hq.2.1 h.2.1.symm,
    keyOf_injective _ _ hx.2.2.1 hq.2.2.1 h.2.2.symm, h.1.1⟩

theorem hasQuad_spec (s : State) (q : Quad) (hi : Inv s) (hq : WFQuad q) :
    Inv (hasQuad s q.toIn).1 ∧ abs (hasQuad s q.toIn).1 = abs s ∧
      (hasQuad s q.toIn).2 = .bool (decide (q ∈ abs s)) := by
  unfold hasQuad
  simp only [show q.toIn.g = q.g from rfl]
  cases hl : alookup q.g s.graphs with
  | none =>
    have : q ∉ abs s := fun h => by
      obtain ⟨_, st, hst, _⟩ := (mem_abs_iff hi q).1 h
      simp [stmtsAt, hl] at hst
    exact ⟨hi, rfl, by simp [this]⟩
  | some G =>
    obtain ⟨s1, _, hb, hi1, _, habs, _⟩ := lookup_spec s q hi hq
    rw [show ensureGraph s q.g = s by unfold ensureGraph; rw [hl]] at hb
    simp only [hb]
    refine ⟨hi1, habs, congrArg Out.bool ?_⟩
    rw [Bool.eq_iff_iff, find?_isSome_iff, decide_eq_true_iff, mem_abs_iff hi]
    exact (and_iff_right hq).symm

theorem StmtsOK.append {b : Nat} {l : List Stmt} (hl : StmtsOK b l) {p o : Node} (hp : NodeOK p) (ho : NodeOK o)
    (hnew : ∀ st ∈ l, ¬(st.p.key = p.key ∧ st.o.key = o.key)) : StmtsOK (b + 1) (l ++ [⟨b, p, o⟩]) := by
  refine ⟨fun st hst => ?_, ?_, ?_⟩
  · rcases List.mem_append.1 hst with h | h
    · exact ⟨(hl.1 st h).1, (hl.1 st h).2.1, Nat.lt_succ_of_lt (hl.1 st h).2.2⟩
    · cases List.mem_singleton.1 h; exact ⟨hp, ho, Nat.lt_succ_self _⟩
  · rw [List.pairwise_append]
    exact ⟨hl.2.1, by simp, fun a ha c hc => by cases List.mem_singleton.1 hc; exact hnew a ha⟩
  · rw [List.pairwise_append]
    exact ⟨hl.2.2, by simp, fun a ha c hc => by cases List.mem_singleton.1 hc; exact Nat.ne_of_lt (hl.1 a ha).2.2⟩

theorem holdsIn_append (l : List Stmt) (i : Nat) (p o : Node) (x : Quad) :
    HoldsIn (l ++ [⟨i, p, o⟩]) x ↔ HoldsIn l x ∨ (p.key = keyOf x.p ∧ o.key = keyOf x.o) := by
  simp [HoldsIn, or_and_right, exists_or]

theorem addQuad_spec (s : State) (q : Quad) (hi : Inv s) (hq : WFQuad q) :
    Inv (addQuad s q.toIn).1 ∧ (addQuad s q.toIn).2 = .unit ∧
      ∀ x, x ∈ abs (addQuad s q.toIn).1 ↔ x = q ∨ x ∈ abs s := by
  obtain ⟨s1, G, hb, hi1, hG, habs, hst⟩ := lookup_spec s q hi hq
  unfold addQuad
  simp only [show q.toIn.g = q.g from rfl, hb]
  generalize hf : List.find? _ _ = found
  cases found with
  | some st =>
    have hqin : q ∈ abs s := (mem_abs_iff hi q).2 ⟨hq, (find?_isSome_iff _ q).1 (by rw [hf]; rfl)⟩
    exact ⟨hi1, rfl, fun x => by rw [habs]; exact ⟨Or.inr, fun h => h.elim (· ▸ hqin) id⟩⟩
  | none =>
    have hnot : ¬ HoldsIn (stmtsAt s q.g (keyOf q.s)) q := fun h => by
      simpa [hf] using (find?_isSome_iff _ q).2 h
    have hl := stmtsAt_ok hi1 q.g (keyOf q.s)
    simp only [hst, setStmts_eq hG] at hl ⊢
    obtain ⟨hi2, hm⟩ := write_spec hi1 hG (n := ⟨keyOf q.s, q.s⟩) ⟨rfl, hq.1⟩ (Nat.le_succ _)
      (hl.append (p := ⟨keyOf q.p, q.p⟩) (o := ⟨keyOf q.o, q.o⟩) ⟨rfl, hq.2.1⟩ ⟨rfl, hq.2.2.1⟩
        fun st h e => hnot ⟨st, h, e⟩)
    refine ⟨hi2, trivial, fun x => (hm x).trans ?_⟩
    rw [mem_abs_iff hi]
    simp only [hst]
    -- at `q`'s subject in `q`'s graph: `holdsIn_append` and `quad_eq_iff`; elsewhere the list is the old one and `x ≠ q`
    have hxq (e : x = q) : WFQuad x := e ▸ hq
    have he (hx : WFQuad x) := quad_eq_iff hx hq
    split <;> grind [holdsIn_append]

theorem pairwise_mem {α : Type} {R : α → α → Prop} (hs : ∀ a b, R a b → R b a) {l : List α}
    (hp : l.Pairwise R) {a b : α} (ha : a ∈ l) (hb : b ∈ l) (hab : a ≠ b) : R a b := by
  induction hp with
  | nil => cases ha
  | cons h _ ih => grind

theorem StmtsOK.exclude {b : Nat} {l : List Stmt} (hl : StmtsOK b l) (st : Stmt) : StmtsOK b (exclude l st) :=
  ⟨fun x hx => hl.1 x (List.mem_filter.1 hx).1, hl.2.1.filter _, hl.2.2.filter _⟩

/-- `Exclude` removes the one statement with `st`'s identity, which is the one with `st`'s predicate
    and object. -/
theorem holdsIn_exclude {b : Nat} {l : List Stmt} (hl : StmtsOK b l) {st : Stmt} (hst : st ∈ l) (x : Quad) :
    HoldsIn (exclude l st) x ↔ HoldsIn l x ∧ ¬(st.p.key = keyOf x.p ∧ st.o.key = keyOf x.o) := by
  constructor
  · rintro ⟨a, ha, hk⟩
    obtain ⟨hal, hne⟩ := List.mem_filter.1 ha
    refine ⟨⟨a, hal, hk⟩, fun hs => ?_⟩
    have : a ≠ st := fun e => by simp [e] at hne
    exact pairwise_mem (fun _ _ h e => h ⟨e.1.symm, e.2.symm⟩) hl.2.1 hal hst this
      ⟨hk.1.trans hs.1.symm, hk.2.trans hs.2.symm⟩
  · rintro ⟨⟨a, ha, hk⟩, hn⟩
    have : a ≠ st := fun e => hn (e ▸ hk)
    exact ⟨a, List.mem_filter.2 ⟨ha, by simpa using pairwise_mem (fun _ _ h => Ne.symm h) hl.2.2 ha hst this⟩, hk⟩

theorem deleteQuad_spec (s : State) (q : Quad) (hi : Inv s) (hq : WFQuad q) :
    Inv (deleteQuad s q.toIn).1 ∧ (deleteQuad s q.toIn).2 = .unit ∧
      (∀ x, x ∈ abs (deleteQuad s q.toIn).1 ↔ x ≠ q ∧ x ∈ abs s) ∧
      (q ∉ abs s → abs (deleteQuad s q.toIn).1 = abs s) := by
  obtain ⟨s1, G, hb, hi1, hG, habs, hst⟩ := lookup_spec s q hi hq
  unfold deleteQuad
  simp only [show q.toIn.g = q.g from rfl, hb]
  generalize hf : List.find? _ _ = found
  cases found with
  | none =>
    have hnot : q ∉ abs s := fun h => by
      simpa [hf] using (find?_isSome_iff _ q).2 ((mem_abs_iff hi q).1 h).2
    exact ⟨hi1, rfl, fun x => by rw [habs]; exact ⟨fun h => ⟨fun e => hnot (e ▸ h), h⟩, fun h => h.2⟩,
      fun _ => habs⟩
  | some st =>
    have hstm := List.mem_of_find?_eq_some hf
    have hstk : st.p.key = keyOf q.p ∧ st.o.key = keyOf q.o := by simpa using List.find?_some hf
    have hqin : q ∈ abs s := (mem_abs_iff hi q).2 ⟨hq, st, hstm, hstk⟩
    have hl := stmtsAt_ok hi1 q.g (keyOf q.s)
    simp only [hst, setStmts_eq hG] at hl ⊢
    obtain ⟨hi2, hm⟩ := write_spec hi1 hG (n := ⟨keyOf q.s, q.s⟩) ⟨rfl, hq.1⟩ (Nat.le_refl _) (hl.exclude st)
    refine ⟨hi2, trivial, fun x => (hm x).trans ?_, fun h => absurd hqin h⟩
    rw [mem_abs_iff hi]
    simp only [hst]
    -- as for `addQuad_spec`, with `holdsIn_exclude`
    have hxq (e : x = q) : WFQuad x := e ▸ hq
    have he (hx : WFQuad x) := quad_eq_iff hx hq
    have hex := holdsIn_exclude hl hstm x
    split <;> grind

end RdfModel.Proofs.C19
