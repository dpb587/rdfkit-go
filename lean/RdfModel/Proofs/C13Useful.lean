import RdfModel.Proofs.C13Rel
namespace RdfModel.Proofs.C13
open RdfModel.Spec.RFC3986Lite RdfModel.Prefix RdfModel.C13

theorem plain_pathStop (s : Str) (h : PlainSeg s) : ∀ c ∈ s, pathStop c = false := by
  intro c hc
  obtain ⟨_, h2, h3⟩ := h.2.2 c hc
  simp [pathStop, h2, h3]

theorem joinSegs_pathStop (segs : List Str) (h : ∀ s ∈ segs, PlainSeg s) : ∀ c ∈ joinSegs segs, pathStop c = false := by
  induction segs with
  | nil => intro c hc; simp [joinSegs] at hc
  | cons s r ih =>
    intro c hc
    rw [joinSegs_cons] at hc
    simp only [List.cons_append, List.mem_cons, List.mem_append] at hc
    rcases hc with rfl | hc | hc
    · decide
    · exact plain_pathStop s (h s List.mem_cons_self) c hc
    · exact ih (fun s' h' => h s' (List.mem_cons_of_mem _ h')) c hc

theorem dirOf_join (dirs : List Str) (last : Str) (hl : ∀ c ∈ last, c ≠ cSlash) :
    dirOf (joinSegs dirs ++ cSlash :: last) = joinSegs dirs ++ [cSlash] := by
  unfold dirOf
  have hcut := cut_at (fun c => c == cSlash) last.reverse (cSlash :: (joinSegs dirs).reverse)
    (by intro c hc; simpa using hl c (List.mem_reverse.mp hc))
    (Or.inr ⟨cSlash, _, rfl, by simp⟩)
  have e : (joinSegs dirs ++ cSlash :: last).reverse = last.reverse ++ cSlash :: (joinSegs dirs).reverse := by simp
  rw [e]
  have h2 := hcut.2
  unfold from_ at h2
  have e2 : (fun c => c != cSlash) = (fun c => !(c == cSlash)) := rfl
  rw [e2, h2]
  simp

theorem candidate_dir (rb : BaseIRI) (ri di : Nat) (D lastqf rest v : Str)
    (horig : rb.original = D ++ lastqf) (hv : v = D ++ rest) (hroot : rb.root = some (ri, di))
    (hdi : di = D.length) (hri : ri ≤ D.length)
    (hres2 : rb.resourceIndex ≤ rb.original.length)
    (hclean : ∀ c ∈ v, c ≠ cQuest ∧ c ≠ cHash) (hrest : rest ≠ []) (hne : rb.original ≠ v) :
    candidate rb v = .some rest := by
  have hH : ∀ i : Nat, v[i]? ≠ some cHash := fun i h => (hclean _ (List.mem_of_getElem? h)).2 rfl
  have hQ : ∀ i : Nat, v[i]? ≠ some cQuest := fun i h => (hclean _ (List.mem_of_getElem? h)).1 rfl
  have hn : rb.original.length = D.length + lastqf.length := by rw [horig]; simp
  have hvl : v.length = D.length + rest.length := by rw [hv]; simp
  have hpre : (rb.original.take (min ri rb.original.length)).isPrefixOf v = true := by
    rw [List.isPrefixOf_iff_prefix]
    have : min ri rb.original.length = ri := by omega
    rw [this, horig, List.take_append_of_le_length hri, hv]
    exact (List.take_prefix ri D).trans (List.prefix_append D rest)
  have htake : rb.original.take di = v.take di := by
    rw [horig, hv, hdi, List.take_left' rfl, List.take_left' rfl]
  have hdrop : v.drop di = rest := by rw [hv, hdi, List.drop_left' rfl]
  have hrh : ¬ (rest = [] ∨ rest.head? = some cQuest ∨ rest.head? = some cHash) := by
    rintro (h | h | h)
    · exact hrest h
    · cases rest with
      | nil => simp at h
      | cons c r => simp at h; exact (hclean c (by rw [hv]; simp [h])).1 h
    · cases rest with
      | nil => simp at h
      | cons c r => simp at h; exact (hclean c (by rw [hv]; simp [h])).2 h
  unfold candidate
  simp only [hH, hQ, and_false, if_false, hroot, hpre, not_true_eq_false, hne]
  have hfirst : (if rb.original.length < v.length ∧ rb.fragmentIndex = none ∧ rb.original.isPrefixOf v = true
      then (none : Option Str) else none) = none := by split <;> rfl
  rw [hfirst]
  simp only
  unfold candidateAbs
  simp only [hH, hQ, if_false]
  have hsw : (if rb.resourceIndex < v.length then
        if rb.original.length < rb.resourceIndex then some Outcome.panic
        else if (rb.original.take rb.resourceIndex).isPrefixOf v = true then none else none
      else (none : Option Outcome)) = none := by
    have : ¬ rb.original.length < rb.resourceIndex := by omega
    simp only [this, if_false]
    split
    · split <;> rfl
    · rfl
  rw [hsw]
  simp only
  have h1 : di ≤ v.length := by omega
  have h2 : ¬ rb.original.length < di := by omega
  simp only [h1, h2, htake, hdrop, hrh, if_true, if_false]

section
variable {sch auth : Str} {dirs : List Str} {last : Str} {q f : Option Str}

theorem base_path_eq : joinSegs (dirs ++ [last]) = joinSegs dirs ++ cSlash :: last := by
  rw [joinSegs_append]; simp [joinSegs]

theorem split_mkBase (hb : BaseShape sch auth dirs last q) :
    split (mkBase sch auth dirs last q f) = ⟨some sch, some auth, joinSegs (dirs ++ [last]), q, f⟩ := by
  unfold mkBase
  apply split_abs sch auth _ q f hb.hs hb.ha
  · right; rw [base_path_eq]
    rcases joinSegs_head dirs with h | ⟨t, h⟩
    · rw [h]; exact ⟨last, rfl⟩
    · rw [h]; exact ⟨t ++ cSlash :: last, rfl⟩
  · apply joinSegs_pathStop
    intro s hs
    rcases List.mem_append.mp hs with h | h
    · exact hb.hd s h
    · simp at h; rw [h]; exact hb.hl
  · intro x hx c hc
    simpa [queryStop] using hb.hq x hx c hc

theorem base_path_ne : joinSegs (dirs ++ [last]) ≠ [] := by
  rw [base_path_eq]
  rcases joinSegs_head dirs with h | ⟨t, h⟩ <;> rw [h] <;> simp

/-- `Parse("/")`: the root -/
theorem goResolve_root (hb : BaseShape sch auth dirs last q) :
    goResolve (mkBase sch auth dirs last q f) [cSlash] = sch ++ cColon :: cSlash :: cSlash :: auth ++ [cSlash] := by
  rw [goResolve_slash, split_mkBase hb]
  simp [schemePart, authorityPart]

/-- `Parse("./")`: the directory -/
theorem goResolve_dir (hb : BaseShape sch auth dirs last q) :
    goResolve (mkBase sch auth dirs last q f) [cDot, cSlash] =
      sch ++ cColon :: cSlash :: cSlash :: auth ++ joinSegs dirs ++ [cSlash] := by
  have hmerge : merge true (joinSegs (dirs ++ [last])) [cDot, cSlash] = joinSegs dirs ++ [cSlash, cDot, cSlash] := by
    unfold merge
    have hne := @base_path_ne dirs last
    simp only [hne, and_false, if_false]
    rw [base_path_eq, dirOf_join dirs last (fun c hc => (hb.hl.2.2 c hc).1)]
    simp
  unfold goResolve resolve
  rw [split_dotSlash_ref, split_mkBase hb]
  have hne := @base_path_ne dirs last
  have hh : ¬ (cDot = cSlash) := by decide
  have hnn : ([cDot, cSlash] : Str) ≠ [] := by simp
  simp [hne, hh, hnn, transform, hmerge, rds_dir dirs hb.hd, recompose, schemePart, authorityPart, queryPart, fragmentPart]

theorem prefix_clean (hb : BaseShape sch auth dirs last q) (segs : List Str) (hsegs : ∀ s ∈ segs, PlainSeg s) :
    ∀ c ∈ sch ++ cColon :: cSlash :: cSlash :: auth ++ joinSegs segs, pathStop c = false := by
  intro c hc
  simp only [List.mem_append, List.mem_cons] at hc
  rcases hc with (hc | rfl | rfl | rfl | hc) | hc
  · obtain ⟨_, _, h3, h4⟩ := hb.hs.2 c hc; simp [pathStop, h3, h4]
  · decide
  · decide
  · decide
  · obtain ⟨_, h3, h4⟩ := hb.ha c hc; simp [pathStop, h3, h4]
  · exact joinSegs_pathStop segs hsegs c hc

theorem segs_plain (hb : BaseShape sch auth dirs last q) : ∀ s ∈ dirs ++ [last], PlainSeg s := by
  intro s hs
  rcases List.mem_append.mp hs with h | h
  · exact hb.hd s h
  · simp at h; rw [h]; exact hb.hl

theorem newBase_fields (hb : BaseShape sch auth dirs last q) :
    (newBaseIRI (mkBase sch auth dirs last q f)).root =
      some ((sch ++ cColon :: cSlash :: cSlash :: auth ++ [cSlash]).length,
            (sch ++ cColon :: cSlash :: cSlash :: auth ++ joinSegs dirs ++ [cSlash]).length) ∧
    (newBaseIRI (mkBase sch auth dirs last q f)).resourceIndex =
      (sch ++ cColon :: cSlash :: cSlash :: auth ++ joinSegs (dirs ++ [last])).length := by
  constructor
  · simp only [newBaseIRI, split_mkBase hb, Option.isSome_some, if_true, goResolve_root hb, goResolve_dir hb]
  · exact (newBaseIRI_idx _ q f (prefix_clean hb _ (segs_plain hb))
      fun x hx c hc => by simpa [queryStop] using hb.hq x hx c hc).1

variable {seg1 : Str} {more : List Str}

theorem mkTarget_eq : mkTarget sch auth dirs (seg1 ++ joinSegs more) =
    sch ++ cColon :: cSlash :: cSlash :: auth ++ joinSegs (dirs ++ seg1 :: more) := by
  unfold mkTarget
  rw [joinSegs_append, joinSegs_cons]
  simp

theorem rel_segs_plain (hb : BaseShape sch auth dirs last q) (hr : RelShape seg1 more) :
    ∀ s ∈ dirs ++ seg1 :: more, PlainSeg s := by
  intro s hs
  rcases List.mem_append.mp hs with h | h
  · exact hb.hd s h
  · rcases List.mem_cons.mp h with rfl | h
    · exact hr.hp
    · exact hr.hm s h

theorem goResolve_rest (hb : BaseShape sch auth dirs last q) (hr : RelShape seg1 more) :
    goResolve (mkBase sch auth dirs last q f) (seg1 ++ joinSegs more) =
      mkTarget sch auth dirs (seg1 ++ joinSegs more) := by
  have hseg : ∀ c ∈ seg1, schemeStop c = false := by
    intro c hc
    obtain ⟨h2, h3, h4⟩ := hr.hp.2.2 c hc
    simp [schemeStop, hr.hc c hc, h2, h3, h4]
  have hR : split (seg1 ++ joinSegs more) = ⟨none, none, seg1 ++ joinSegs more, none, none⟩ := by
    have := split_rel seg1 (joinSegs more) none none hseg (joinSegs_head more) (Or.inl hr.hne)
      (joinSegs_pathStop more hr.hm) (by simp)
    simpa [queryPart, fragmentPart] using this
  obtain ⟨c0, r0, hc0⟩ := List.exists_cons_of_ne_nil hr.hne
  have hhead : (seg1 ++ joinSegs more).head? ≠ some cSlash := by
    rw [hc0]; simp
    intro h
    have := (hr.hp.2.2 c0 (by rw [hc0]; simp)).1
    exact this h
  have hnn : seg1 ++ joinSegs more ≠ [] := by rw [hc0]; simp
  have hmerge : merge true (joinSegs (dirs ++ [last])) (seg1 ++ joinSegs more) = joinSegs (dirs ++ seg1 :: more) := by
    unfold merge
    have hne := @base_path_ne dirs last
    simp only [hne, and_false, if_false]
    rw [base_path_eq, dirOf_join dirs last (fun c hc => (hb.hl.2.2 c hc).1), joinSegs_append, joinSegs_cons]
    simp
  unfold goResolve resolve
  rw [hR, split_mkBase hb, mkTarget_eq]
  have hne := @base_path_ne dirs last
  have hs1 : ¬ (seg1.head? = some cSlash) := by
    rw [hc0]; simp
    exact (hr.hp.2.2 c0 (by rw [hc0]; simp)).1
  simp [hne, hs1, hr.hne, hnn, transform, hmerge, rds_plain _ (rel_segs_plain hb hr), recompose, schemePart, authorityPart,
    queryPart, fragmentPart]

theorem goResolve_empty (hb : BaseShape sch auth dirs last q) :
    goResolve (mkBase sch auth dirs last q none) [] = mkBase sch auth dirs last q none := by
  have hR : split [] = ⟨none, none, [], none, none⟩ := by decide
  unfold goResolve resolve
  rw [hR, split_mkBase hb]
  simp [transform, recompose, schemePart, authorityPart, fragmentPart, mkBase]

theorem useful_core (hb : BaseShape sch auth dirs last q) (hr : RelShape seg1 more) :
    relativize (mkBase sch auth dirs last q f) (mkTarget sch auth dirs (seg1 ++ joinSegs more))
        = .some (seg1 ++ joinSegs more) ∨
    (mkTarget sch auth dirs (seg1 ++ joinSegs more) = mkBase sch auth dirs last q f ∧
      relativize (mkBase sch auth dirs last q f) (mkTarget sch auth dirs (seg1 ++ joinSegs more)) = .some []) := by
  obtain ⟨hroot, hres⟩ := @newBase_fields sch auth dirs last q f hb
  have horig : (newBaseIRI (mkBase sch auth dirs last q f)).original = mkBase sch auth dirs last q f := rfl
  have hclean : ∀ c ∈ mkTarget sch auth dirs (seg1 ++ joinSegs more), c ≠ cQuest ∧ c ≠ cHash := by
    intro c hc
    rw [mkTarget_eq] at hc
    have := prefix_clean hb _ (rel_segs_plain hb hr) c hc
    simpa [pathStop] using this
  obtain ⟨c0, r0, hc0⟩ := List.exists_cons_of_ne_nil hr.hne
  have hc0s : c0 ≠ cSlash := (hr.hp.2.2 c0 (by rw [hc0]; simp)).1
  have hc0c : c0 ≠ cColon := hr.hc c0 (by rw [hc0]; simp)
  have hnet : [cSlash, cSlash].isPrefixOf (seg1 ++ joinSegs more) = false := by
    rw [hc0]; simp [List.isPrefixOf]; intro h; exact absurd h.symm hc0s
  have hparse : goParseOK (seg1 ++ joinSegs more) = true := by
    rw [hc0]; simp [goParseOK]; exact hc0c
  by_cases heq : mkBase sch auth dirs last q f = mkTarget sch auth dirs (seg1 ++ joinSegs more)
  · right
    refine ⟨heq.symm, ?_⟩
    -- the base has no fragment: the target contains no '#'
    have hf : f = none := by
      cases f with
      | none => rfl
      | some y =>
        exfalso
        have : cHash ∈ mkBase sch auth dirs last q (some y) := by simp [mkBase, fragmentPart]
        rw [heq] at this
        exact (hclean _ this).2 rfl
    subst hf
    rcases candidate_self (mkBase sch auth dirs last q none) with hc | hc
    · unfold relativize relativizeB
      rw [← heq, hc]
      simp [hroot, goParseOK, goResolve_empty hb, horig]
    · exfalso
      -- the candidate is not `none`: the root prefix test succeeds
      unfold candidate at hc
      rw [hroot] at hc
      simp only [horig, Nat.lt_irrefl, false_and, if_false] at hc
      split at hc
      · next hpre =>
        apply hpre
        rw [List.isPrefixOf_iff_prefix]
        exact List.take_prefix _ _
      · simp at hc
  · left
    have hD : mkBase sch auth dirs last q f =
        (sch ++ cColon :: cSlash :: cSlash :: auth ++ joinSegs dirs ++ [cSlash]) ++ (last ++ queryPart q ++ fragmentPart f) := by
      unfold mkBase; rw [base_path_eq]; simp
    have hT : mkTarget sch auth dirs (seg1 ++ joinSegs more) =
        (sch ++ cColon :: cSlash :: cSlash :: auth ++ joinSegs dirs ++ [cSlash]) ++ (seg1 ++ joinSegs more) := by
      unfold mkTarget; simp
    have hcand := candidate_dir (newBaseIRI (mkBase sch auth dirs last q f)) _ _ _ _ (seg1 ++ joinSegs more)
      (mkTarget sch auth dirs (seg1 ++ joinSegs more)) (horig.trans hD) hT hroot rfl (by simp <;> omega)
      (by rw [hres, horig]; unfold mkBase; simp <;> omega) hclean (by rw [hc0]; simp) (by rw [horig]; exact heq)
    unfold relativize relativizeB
    rw [hcand]
    simp [hnet, hroot, hparse, horig, goResolve_rest hb hr]

end

end RdfModel.Proofs.C13
