import RdfModel.Proofs.C13Rel
namespace RdfModel.Proofs.C13
open RdfModel.Spec.RFC3986Lite RdfModel.Prefix RdfModel.C13

theorem base_nopath_eq (b : Str) (hp : (split b).path = []) :
    b = schemePart (split b).scheme ++ authorityPart (split b).authority ++
        (queryPart (split b).query ++ fragmentPart (split b).fragment) := by
  have := recompose_split b
  unfold recompose at this
  rw [hp] at this
  simp only [List.append_nil, List.append_assoc] at this ⊢
  exact this.symm

theorem nopath_resourceIndex (b : Str) (hp : (split b).path = []) :
    (newBaseIRI b).resourceIndex = (schemePart (split b).scheme ++ authorityPart (split b).authority).length := by
  rw [(newBaseIRI_cuts b).1, hp, List.append_nil]

/-- `Parse("./")` for a base with authority and empty path: the deviating branch, no trailing slash -/
theorem nopath_dir (b : Str) (ha : (split b).authority.isSome) (hp : (split b).path = []) :
    goResolve b [cDot, cSlash] = schemePart (split b).scheme ++ authorityPart (split b).authority := by
  have hrds : removeDotSegments (cSlash :: [cDot, cSlash]) = [cSlash] := by decide
  unfold goResolve
  rw [split_dotSlash_ref]
  have hh : ¬ (cDot = cSlash) := by decide
  simp [ha, hp, hh, hrds, recompose, queryPart, fragmentPart]

theorem path_of_hash_ref (f : Str) : (split (cHash :: f)).path = [] := by rw [split_fragment_ref]
theorem path_of_quest_ref (q : Str) : (split (cQuest :: q)).path = [] := by rw [split_query_ref]
theorem path_of_empty_ref : (split []).path = [] := by decide

theorem path_of_stop_ref (c : Nat) (t : Str) (hc : pathStop c = true) : (split (c :: t)).path = [] := by
  simp [pathStop] at hc
  rcases hc with rfl | rfl
  · exact path_of_quest_ref t
  · exact path_of_hash_ref t

theorem drop_cons_of_get (v : Str) (n c : Nat) (h : v[n]? = some c) : ∃ t, v.drop n = c :: t := by
  have hn : n < v.length := by
    rcases Nat.lt_or_ge n v.length with h' | h'
    · exact h'
    · rw [List.getElem?_eq_none h'] at h; cases h
  refine ⟨v.drop (n + 1), ?_⟩
  rw [List.drop_eq_getElem_cons hn]
  rw [List.getElem?_eq_getElem hn] at h
  cases h; rfl

/-- With an authority-only base, a candidate whose path is non-empty is never one that the deviating
    branch of `goResolve` (empty result path) would map back to the IRI. -/
theorem quirk1_absurd (b v r : Str) (hcand : candidate (newBaseIRI b) v = .some r)
    (hroot : (newBaseIRI b).root.isSome) (ha : (split b).authority.isSome) (hp : (split b).path = [])
    (hrp : (split r).path ≠ [])
    (hv : v = schemePart (split b).scheme ++ authorityPart (split b).authority ++
      (queryPart (split r).query ++ fragmentPart (split r).fragment)) : False := by
  have hb := base_nopath_eq b hp
  have hres := nopath_resourceIndex b hp
  have hdir := nopath_dir b ha hp
  have hrootv := goResolve_slash b
  generalize hSd : schemePart (split b).scheme ++ authorityPart (split b).authority = S at hb hres hdir hrootv hv
  have horig : (newBaseIRI b).original = b := rfl
  have hrt : (newBaseIRI b).root = some (S.length + 1, S.length) := by
    have hsch : (split b).scheme.isSome = true := by
      simp only [newBaseIRI] at hroot
      split at hroot
      · assumption
      · simp at hroot
    simp [newBaseIRI, hsch, hdir, hrootv]
  -- v = b: the candidate is the empty reference
  by_cases hbv : b = v
  · subst hbv
    rcases candidate_self b with hc | hc
    · rw [hc] at hcand; cases hcand; exact hrp path_of_empty_ref
    · rw [hc] at hcand; cases hcand
  have hbl : S.length ≤ b.length := by rw [hb]; simp
  rcases queryPart_head (split r).query (split r).fragment with ht | ⟨c, t', ht, hc⟩
  · -- v = scheme://authority exactly, b is longer: the root test fails
    rw [ht, List.append_nil] at hv
    have hblen : S.length < b.length := by
      rcases Nat.lt_or_ge S.length b.length with h | h
      · exact h
      · exfalso; apply hbv
        have : (queryPart (split b).query ++ fragmentPart (split b).fragment).length = 0 := by
          have hl : b.length = S.length + (queryPart (split b).query ++ fragmentPart (split b).fragment).length := by
            conv => lhs; rw [hb]
            exact List.length_append
          omega
        have h0 := List.eq_nil_of_length_eq_zero this
        rw [hb, h0, hv]; simp
    unfold candidate at hcand
    rw [hrt] at hcand
    simp only [horig] at hcand
    have hn : ¬ (b.length < v.length) := by rw [hv]; omega
    simp only [hn, false_and, if_false] at hcand
    have hpre : ¬ ((b.take (min (S.length + 1) b.length)).isPrefixOf v = true) := by
      rw [List.isPrefixOf_iff_prefix]
      intro hpf
      have := hpf.length_le
      rw [List.length_take, hv] at this
      omega
    simp [hpre] at hcand
  · -- v = scheme://authority ++ c :: t' with c one of ? #
    rw [ht] at hv
    have hvl : v.length = S.length + (t'.length + 1) := by rw [hv]; simp
    have hget : v[S.length]? = some c := by
      rw [hv, List.getElem?_append_right (Nat.le_refl _)]; simp
    have hdrop : v.drop S.length = c :: t' := by rw [hv, List.drop_left' rfl]
    have hSpre : (b.take S.length).isPrefixOf v = true := by
      rw [List.isPrefixOf_iff_prefix, hb, List.take_left' rfl, hv]
      exact List.prefix_append _ _
    unfold candidate at hcand
    rw [hrt] at hcand
    simp only [horig] at hcand
    split at hcand
    · -- suffix form
      next r' hfirst =>
      cases hcand
      split at hfirst
      · split at hfirst
        · next hh =>
          cases hfirst
          obtain ⟨t, ht⟩ := drop_cons_of_get v b.length cHash hh
          rw [ht] at hrp
          exact hrp (path_of_hash_ref t)
        · split at hfirst
          · next hh =>
            cases hfirst
            obtain ⟨t, ht⟩ := drop_cons_of_get v b.length cQuest hh.2
            rw [ht] at hrp
            exact hrp (path_of_quest_ref t)
          · cases hfirst
      · cases hfirst
    · split at hcand
      · cases hcand
      · unfold candidateAbs at hcand
        rw [hres] at hcand
        have h1 : S.length < v.length := by omega
        have h2 : ¬ b.length < S.length := by omega
        simp only [horig, h1, h2, hSpre, hget, if_true, if_false, Option.some.injEq] at hcand
        have h3 : ¬ v.length < S.length := by omega
        simp [pathStop] at hc
        rcases hc with rfl | rfl
        · have hne : ¬ (cQuest = cHash) := by decide
          simp only [hne, if_false, if_true, hdrop] at hcand
          cases hcand
          exact hrp (path_of_quest_ref t')
        · simp only [if_true, h3, if_false, hdrop] at hcand
          cases hcand
          exact hrp (path_of_hash_ref t')

theorem relativize_sound_all (b v r : Str) (h : relativize b v = .some r)
    (h2 : (split b).fragment = none ∨ r ≠ []) : resolve b r = v := by
  obtain ⟨_, hchk, hcand⟩ := relativize_checked b v r h
  cases hroot : (newBaseIRI b).root with
  | none =>
    obtain ⟨hv, hf, hr⟩ := candidate_noroot (newBaseIRI b) v r hroot hcand
    replace hv : v = b ++ r := hv
    have hfn := (newBaseIRI_cuts b).2.2.mp hf
    rcases hr with ⟨f, rfl⟩ | ⟨hq, q, rfl⟩
    · rw [hv]; exact resolve_hash_suffix b f hfn
    · rw [hv]; exact resolve_quest_suffix b q hfn ((newBaseIRI_cuts b).2.1.mp hq)
  | some rd =>
    have hrs : (newBaseIRI b).root.isSome := by rw [hroot]; rfl
    have hg := (hchk hrs).2
    unfold goResolve at hg
    simp only at hg
    split at hg
    · next hq1 =>
      exfalso
      apply quirk1_absurd b v r hcand hrs hq1.2.2.1 hq1.2.2.2.1 hq1.2.2.2.2.1
      rw [← hg]
      simp [recompose]
    · split at hg
      · next hq2 =>
        exfalso
        rw [recompose_split] at hg
        subst hg
        rcases h2 with h2 | h2
        · rw [h2] at hq2; simp at hq2
        · rcases candidate_self b with hc | hc
          · rw [hc] at hcand; cases hcand; exact h2 rfl
          · rw [hc] at hcand; cases hcand
      · exact hg

theorem relativize_sound_core (b v r : Str) (h : relativize b v = .some r)
    (h1 : (split b).path ≠ [] ∨ (split b).authority = none)
    (h2 : (split b).fragment = none ∨ r ≠ []) : resolve b r = v :=
  -- the restriction `h1` on the base is not needed
  (fun _ => relativize_sound_all b v r h h2) h1

end RdfModel.Proofs.C13
