/-
  Statement layer of Turtle/TriG: the frame invariant behind C05 (no panic) and C06 (every emitted
  statement is well formed).  One trap: the closure `collOpenSubj` of a subject-position `(` runs in the OUTER
  evaluation context (no subject), and `stepCollection` on `)` would emit a statement from it.  `stepParen` has
  looked at the rune and only hands over when it is not `)`, so the invariant carries that look-ahead (`LA`) to this
  one frame (`isCOS`), which therefore never sits on the stack or beside a pending statement.  `Bot`: the top-level
  function stays at the bottom of the stack until `terminate()`.
-/
import RdfModel.Proofs.TtlDocBasic
import RdfModel.Proofs.TtlDocCases
import RdfModel.Proofs.Asc
namespace RdfModel.TtlDoc
open RdfModel

/-- What is known about an evaluation context wherever it occurs. -/
structure XOk (trig : Bool) (x : Ectx) : Prop where
  subj : ∀ s, x.subj = some s → nodeShape s
  pred : ∀ p, x.pred = some p → isIRI p
  graph : ∀ g, x.graph = some g → trig = true ∧ nodeShape g

/-- the one frame whose safety depends on the next rune (see the head of the file) -/
def isCOS : Cont → Bool
  | .collOpenSubj _ => true
  | _ => false

/-- Per scan function: what its evaluation context and captured values satisfy. -/
def ContOK (trig : Bool) (x : Ectx) : Cont → Prop
  | .object | .objectPName | .objListContinue | .collOpenObj | .collContinue => x.subj.isSome ∧ x.pred.isSome
  | .pol | .polContinue | .polRequired | .subjAnonOrBNPL | .triples2BNPL => x.subj.isSome
  | .statement | .atBaseIRI | .atBaseDot _ | .atPrefixNS | .atPrefixIRI _ | .atPrefixDot _ _
  | .sparqlBaseIRI | .sparqlPrefixNS | .sparqlPrefixIRI _ => x.subj = none
  | .wrappedGraph | .triplesBlock | .triplesBlockQuest | .triples => x.subj = none
  | .graphLabel | .graphAnonClose => x.subj = none ∧ trig = true
  | .parenTop bn | .parenBlock bn => x.subj = none ∧ nodeShape bn
  | .collOpenSubj o => x.subj = none ∧ nodeShape o
  | .tgE1 v => x.subj = none ∧ trig = true ∧ nodeShape v
  | .tgBracket bn => x.subj = none ∧ trig = true ∧ nodeShape bn
  | .triplesEnd | .subjIRIREF | .subjPName | .subjBNode | .bnplEnd | .wrappedGraphEnd => True

def FrameOK (trig : Bool) (f : Frame) : Prop := XOk trig f.x ∧ ContOK trig f.x f.k

/-- look-ahead: the next significant rune is not `)` -/
def LA (C : Cfg) (e : End) (inp : List Nat) : Prop := ∀ c r, skipWs C e false inp = .rune c r → c ≠ 0x29

structure OutOK (C : Cfg) (e : End) (o : Out) : Prop where
  push : ∀ f ∈ o.push, FrameOK C.trig f ∧ isCOS f.k = false
  cur : ∀ f, o.cur = some f → FrameOK C.trig f ∧ (isCOS f.k = true → o.emit = none ∧ LA C e o.inp)
  emit : ∀ s, o.emit = some s → WFStmt C.trig s
  /-- `terminate()` is only ever called on a clean end of input -/
  term : o.term = true → e = .eof

def ResOK (C : Cfg) (e : End) : FnRes → Prop
  | .ok o => OutOK C e o
  | .err _ => True
  | .panic => False

def ArgOK (C : Cfg) (e : End) : Arg → Prop
  | .fail => True
  | .rune c r => skipWs C e false (c :: r) = .rune c r

theorem skipWs_idem (C : Cfg) (e : End) : ∀ (b : Bool) (inp : List Nat) (c : Nat) (r : List Nat),
    skipWs C e b inp = .rune c r → skipWs C e false (c :: r) = .rune c r := by
  intro b inp
  induction inp generalizing b with
  | nil => intro c r h; cases b <;> simp [skipWs] at h; cases e <;> simp at h
  | cons a rest ih =>
    intro c r h
    cases b with
    | true =>
      unfold skipWs at h
      split at h <;> exact ih _ _ _ h
    | false =>
      unfold skipWs at h
      split at h
      · exact ih _ _ _ h
      · split at h
        · exact ih _ _ _ h
        · next h1 h2 =>
          injection h with hc hr; subst hc; subst hr
          unfold skipWs; simp [h1, h2]

theorem LA_nul (C : Cfg) (e : End) : LA C e [0] := by
  intro c r h
  unfold skipWs at h
  simp at h
  split at h
  · simp [skipWs] at h
  · injection h with h1 h2; omega

theorem LA_of_argOK (C : Cfg) (e : End) {c : Nat} {r : List Nat} (h : ArgOK C e (.rune c r)) (hc : c ≠ 0x29) :
    LA C e (c :: r) := by
  intro c' r' h'
  simp [ArgOK] at h
  rw [h] at h'
  injection h' with h1 h2
  omega

variable {C : Cfg} {e : End}

theorem nodeShape_fresh (env : Env) : nodeShape env.fresh.1 := trivial

theorem XOk.setSubj {t : Bool} {x : Ectx} (h : XOk t x) {s : T} (hs : nodeShape s) :
    XOk t { x with subj := some s } :=
  ⟨fun s' h' => by simp at h'; subst h'; exact hs, h.pred, h.graph⟩

theorem XOk.setPred {t : Bool} {x : Ectx} (h : XOk t x) {p : T} (hp : isIRI p) :
    XOk t { x with pred := some p } :=
  ⟨h.subj, fun p' h' => by simp at h'; subst h'; exact hp, h.graph⟩

theorem XOk.clearPred {t : Bool} {x : Ectx} (h : XOk t x) {s : T} (hs : nodeShape s) :
    XOk t { x with subj := some s, pred := none } :=
  ⟨fun s' h' => by simp at h'; subst h'; exact hs, fun p' h' => by simp at h', h.graph⟩

theorem XOk.setGraph {t : Bool} {x : Ectx} (h : XOk t x) {g : T} (ht : t = true) (hg : nodeShape g) :
    XOk t { x with graph := some g } :=
  ⟨h.subj, h.pred, fun g' h' => by simp at h'; subst h'; exact ⟨ht, hg⟩⟩

theorem wf_mkStmt {t : Bool} {x : Ectx} (h : XOk t x) (hs : x.subj.isSome) (hp : x.pred.isSome) {o : T}
    (ho : litShape o) : WFStmt t (mkStmt x o) := by
  obtain ⟨s, hs'⟩ := Option.isSome_iff_exists.mp hs
  obtain ⟨p, hp'⟩ := Option.isSome_iff_exists.mp hp
  exact ⟨⟨s, hs', h.subj s hs'⟩, ⟨p, hp', h.pred p hp'⟩, ho, h.graph⟩

theorem outOK_simple {o : Out} (hpush : ∀ f ∈ o.push, FrameOK C.trig f ∧ isCOS f.k = false)
    (hcur : ∀ f, o.cur = some f → FrameOK C.trig f ∧ isCOS f.k = false)
    (hemit : ∀ s, o.emit = some s → WFStmt C.trig s) (hterm : o.term = false := by rfl) : OutOK C e o :=
  ⟨hpush, fun f hf => ⟨(hcur f hf).1, fun h => by rw [(hcur f hf).2] at h; cases h⟩, hemit,
   fun h => by rw [hterm] at h; cases h⟩

def ContsOK (t : Bool) (x : Ectx) : List Cont → Prop
  | [] => True
  | k :: ks => (ContOK t x k ∧ isCOS k = false) ∧ ContsOK t x ks

theorem ContsOK.frames {t : Bool} {x : Ectx} (hx : XOk t x) {ks : List Cont} (h : ContsOK t x ks) :
    ∀ f ∈ ks.map (Frame.mk x), FrameOK t f ∧ isCOS f.k = false := by
  induction ks with
  | nil => exact fun _ hf => nomatch hf
  | cons k ks ih =>
    intro f hf
    rcases List.mem_cons.mp hf with rfl | hf
    · exact ⟨⟨hx, h.1.1⟩, h.1.2⟩
    · exact ih h.2 f hf

/-- An answer whose frames all carry one evaluation context: the scan functions are checked one by one, by a
    tuple (`rfl` / `trivial` where `ContOK` computes). -/
theorem resOK_ectx {x : Ectx} (hx : XOk C.trig x) (cur : Option Cont) (ks : List Cont)
    (h : ContsOK C.trig x (cur.toList ++ ks)) (inp : List Nat) (env : Env) {em : Option Stmt}
    (hem : ∀ s, em = some s → WFStmt C.trig s) :
    ResOK C e (.ok { cur := cur.map (Frame.mk x), push := ks.map (Frame.mk x), emit := em, inp := inp, env := env }) := by
  have hf := ContsOK.frames hx h
  refine outOK_simple (fun f hf' => hf f ?_) (fun f hf' => hf f ?_) hem
  · simp only [List.map_append, List.mem_append]; exact .inr hf'
  · cases cur <;> simp_all

theorem outOK_noemit {cur : Option Frame} {push : List Frame} {inp : List Nat} {env : Env}
    (hpush : ∀ f ∈ push, FrameOK C.trig f ∧ isCOS f.k = false)
    (hcur : ∀ f, cur = some f → FrameOK C.trig f ∧ isCOS f.k = false) :
    ResOK C e (.ok { cur := cur, push := push, inp := inp, env := env }) :=
  outOK_simple hpush hcur (fun s h => by simp at h)

/-- `k` is read off the goal.  A hypothesis whose type is `ContOK … x k` only after `ContOK` is unfolded at that `k` has to
    wait for it: such call sites write `(by exact hk)` / `(by rfl)`. -/
theorem resOK_self {x : Ectx} (hx : XOk C.trig x) {k : Cont} (hk : ContOK C.trig x k) (hc : isCOS k = false)
    (inp : List Nat) (env' : Env) : ResOK C e (.ok { cur := some ⟨x, k⟩, inp := inp, env := env' }) :=
  resOK_ectx hx (some k) [] ⟨⟨hk, hc⟩, trivial⟩ _ _ fun _ h => nomatch h

theorem resOK_pair {x : Ectx} (hx : XOk C.trig x) {k k' : Cont} (hk : ContOK C.trig x k) (hk' : ContOK C.trig x k')
    (inp : List Nat) (env' : Env) (hc : isCOS k = false := by rfl) (hc' : isCOS k' = false := by rfl) :
    ResOK C e (.ok { cur := some ⟨x, k⟩, push := [⟨x, k'⟩], inp := inp, env := env' }) :=
  resOK_ectx hx (some k) [k'] ⟨⟨hk, hc⟩, ⟨hk', hc'⟩, trivial⟩ _ _ fun _ h => nomatch h

theorem resOK_plain (inp : List Nat) (env' : Env) : ResOK C e (.ok { inp := inp, env := env' }) :=
  outOK_noemit (fun _ h => nomatch h) (fun _ h => nomatch h)

theorem resOK_emit {x : Ectx} (hx : XOk C.trig x) (hs : x.subj.isSome) (hp : x.pred.isSome) {o : T} (ho : litShape o)
    (inp : List Nat) (env : Env) : ResOK C e (.ok { emit := some (mkStmt x o), inp := inp, env := env }) := by
  exact resOK_ectx hx none [] trivial _ _ fun s h => by cases h; exact wf_mkStmt hx hs hp ho

def TermResOK : TermRes → Prop
  | .ok t _ _ => nodeShape t
  | .err _ => True
  | .panic => False

theorem iriIRIREF_np (hP : C.P.NoPanic) (env : Env) (inp : List Nat) : iriIRIREF C e env inp ≠ .panic := by
  unfold iriIRIREF
  have := hP.iriref e inp
  split <;> simp_all
  split <;> simp

theorem iriPName_np (hP : C.P.NoPanic) (env : Env) (inp : List Nat) : iriPName C e env inp ≠ .panic := by
  unfold iriPName
  have := hP.pname e inp
  split <;> simp_all
  split <;> simp

theorem IriRes.toTerm_ok_or_err {ir : IriRes} (h : ir ≠ .panic) (env : Env) :
    (∃ i r, ir.toTerm env = .ok (.iri i) r env) ∨ (∃ k, ir.toTerm env = .err k) := by
  cases ir with
  | ok i r => exact .inl ⟨i, r, rfl⟩
  | err k => exact .inr ⟨k, rfl⟩
  | panic => exact absurd rfl h

theorem termBNode_ok (hP : C.P.NoPanic) (env : Env) (inp : List Nat) : TermResOK (termBNode C e env inp) := by
  unfold termBNode
  have := hP.bnode e inp
  cases h : C.P.bnode e inp with
  | panic => exact absurd h this
  | err k => trivial
  | ok l r =>
    simp only [TermResOK, Env.labelled, Env.fresh]
    split <;> trivial

theorem Kind.term_ok (hP : C.P.NoPanic) (env : Env) (inp : List Nat) (K : Kind) : TermResOK (K.term C e env inp) := by
  have iri : ∀ {ir : IriRes}, ir ≠ .panic → TermResOK (ir.toTerm env) := fun h => by
    rcases IriRes.toTerm_ok_or_err h env with ⟨i, r, h⟩ | ⟨k, h⟩ <;> rw [h] <;> trivial
  cases K
  · exact iri (iriIRIREF_np hP env inp)
  · exact iri (iriPName_np hP env inp)
  · exact termBNode_ok hP env inp

theorem Kind.cont_ok (t : Bool) (x : Ectx) (K : Kind) : ContOK t x K.cont ∧ isCOS K.cont = false := by
  cases K <;> exact ⟨trivial, rfl⟩

theorem subjectTail_ok {x : Ectx} (hx : XOk C.trig x) {s : T} (hs : nodeShape s) (inp : List Nat) (env : Env) :
    ResOK C e (subjectTail x s inp env) := by
  exact resOK_pair (k := .polRequired) (k' := .polContinue) (hx.setSubj hs) rfl rfl _ _

theorem subjectOf_ok {x : Ectx} (hx : XOk C.trig x) {tr : TermRes} (h : TermResOK tr) : ResOK C e (subjectOf x tr) := by
  cases tr with
  | ok t r env => exact subjectTail_ok hx h r env
  | err k => trivial
  | panic => exact h

theorem labelOrSubject_ok {x : Ectx} (hx : XOk C.trig x) (hn : x.subj = none) (ht : C.trig = true) {tr : TermRes}
    (h : TermResOK tr) : ResOK C e (labelOrSubject x tr) := by
  cases tr with
  | ok t r env => exact resOK_self (k := .tgE1 t) hx ⟨hn, ht, h⟩ rfl _ _
  | err k => trivial
  | panic => exact h

theorem kwFallback_ok (hP : C.P.NoPanic) {x : Ectx} (hx : XOk C.trig x) (hn : x.subj = none) (env : Env) (inp : List Nat) :
    ResOK C e (kwFallback C e x env inp) := by
  unfold kwFallback
  split
  · next ht => exact labelOrSubject_ok hx hn ht (Kind.term_ok hP env inp .pname)
  · exact resOK_pair (k := .subjPName) (k' := .triplesEnd) hx trivial trivial _ _

theorem stepWrappedGraph_ok {x : Ectx} (hx : XOk C.trig x) (hn : x.subj = none) (env : Env) (a : Arg) :
    ResOK C e (stepWrappedGraph e x env a) := by
  unfold stepWrappedGraph
  split
  · trivial
  · split
    · trivial
    · exact resOK_pair (k := .triplesBlock) (k' := .wrappedGraphEnd) hx hn trivial _ _

theorem resOK_withSelf {x : Ectx} (hx : XOk C.trig x) (hn : x.subj = none) {r : FnRes} (h : ResOK C e r) :
    ResOK C e (withSelf x r) := by
  cases r with
  | ok o =>
    refine ⟨?_, h.cur, h.emit, h.term⟩
    intro f hf
    simp at hf
    rcases hf with rfl | hf
    · exact ⟨⟨hx, hn⟩, rfl⟩
    · exact h.push f hf
  | err k => trivial
  | panic => exact h

theorem graphOfTerm_ok {x : Ectx} (hx : XOk C.trig x) (hn : x.subj = none) (ht : C.trig = true) {tr : TermRes}
    (h : TermResOK tr) : ResOK C e (graphOfTerm x tr) := by
  cases tr with
  | ok g r env => exact resOK_self (k := .wrappedGraph) (hx.setGraph ht h) hn rfl _ _
  | err k => trivial
  | panic => exact h

theorem stepAtDirective_ok {x : Ectx} (hx : XOk C.trig x) (hn : x.subj = none) (env : Env) (rest : List Nat) :
    ResOK C e (stepAtDirective e x env rest) := by
  unfold stepAtDirective
  split
  · trivial
  · split
    · split <;> first | trivial | exact resOK_self hx (by exact hn) (by rfl) _ _
    · split
      · split <;> first | trivial | exact resOK_self hx (by exact hn) (by rfl) _ _
      · trivial

theorem stepKwBase_ok (hP : C.P.NoPanic) {x : Ectx} (hx : XOk C.trig x) (hn : x.subj = none)
    (env : Env) (c : Nat) (rest : List Nat) : ResOK C e (stepKwBase C e x env c rest) := by
  unfold stepKwBase
  split
  · trivial
  · exact kwFallback_ok hP hx hn _ _
  · split
    · trivial
    · split
      · exact resOK_self hx (by exact hn) (by rfl) _ _
      · split
        · exact kwFallback_ok hP hx hn _ _
        · exact resOK_self hx (by exact hn) (by rfl) _ _

theorem stepKwSpace_ok (hP : C.P.NoPanic) {x : Ectx} (hx : XOk C.trig x) (hn : x.subj = none)
    (env : Env) (kw : List (Nat × Nat)) {k : Cont} (hk : ContOK C.trig x k) (hc : isCOS k = false) (c : Nat)
    (rest : List Nat) : ResOK C e (stepKwSpace C e x env kw k c rest) := by
  unfold stepKwSpace
  split
  · trivial
  · exact kwFallback_ok hP hx hn _ _
  · split
    · trivial
    · split
      · exact kwFallback_ok hP hx hn _ _
      · exact resOK_self hx hk hc _ _

theorem stepSubjectStart_ok (hP : C.P.NoPanic) {x : Ectx} (hx : XOk C.trig x) (hn : x.subj = none)
    (env : Env) (c : Nat) (rest : List Nat) : ResOK C e (stepSubjectStart C e x env c rest) :=
  stepSubjectStart_cases x env c (motive := fun F => ResOK C e (F rest))
    (err := fun _ => trivial)
    (label := fun ht K => labelOrSubject_ok hx hn ht (K.term_ok hP _ _))
    (token := fun _ K => resOK_pair (k' := .triplesEnd) hx (K.cont_ok _ x).1 trivial _ _ (K.cont_ok C.trig x).2)
    (bracketG := fun _ ht => resOK_self (k := .tgBracket _) hx ⟨hn, ht, nodeShape_fresh env⟩ rfl _ _)
    (bracket := fun _ _ => resOK_self (k := .subjAnonOrBNPL) (hx.setSubj (nodeShape_fresh env)) rfl rfl _ _)
    (paren := fun _ => resOK_self (k := .parenTop _) hx ⟨hn, nodeShape_fresh env⟩ rfl _ _)

theorem stepStatementRune_ok (hP : C.P.NoPanic) {x : Ectx} (hx : XOk C.trig x) (hn : x.subj = none)
    (env : Env) (c : Nat) (rest : List Nat) : ResOK C e (stepStatementRune C e x env c rest) :=
  stepStatementRune_cases x env c (motive := fun F => ResOK C e (F rest))
    (at_ := fun _ => stepAtDirective_ok hx hn _ _)
    (base := fun _ => stepKwBase_ok hP hx hn _ _ _)
    (pfx := fun _ => stepKwSpace_ok (k := .sparqlPrefixNS) hP hx hn _ _ hn rfl _ _)
    (graph := fun ht _ => stepKwSpace_ok (k := .graphLabel) hP hx hn _ _ ⟨hn, ht⟩ rfl _ _)
    (brace := fun _ _ => stepWrappedGraph_ok hx hn _ _)
    (subject := stepSubjectStart_ok hP hx hn _ _ _)

theorem stepCollection_ok {x : Ectx} (hx : XOk C.trig x) (env : Env) (c : Nat) (rest : List Nat) {o : T}
    (ho : nodeShape o) (h : (x.subj.isSome ∧ x.pred.isSome) ∨ (x.subj = none ∧ c ≠ 0x29)) :
    ResOK C e (stepCollection x env c rest o) := by
  have hnx : XOk C.trig { x with subj := some o, pred := some (.iri rdfFirst) } :=
    ⟨fun s' h' => by simp at h'; subst h'; exact ho, fun p' h' => by simp at h'; subst h'; trivial, hx.graph⟩
  unfold stepCollection
  split
  · next hc =>
    rcases h with ⟨hs, hp⟩ | ⟨_, hne⟩
    · exact resOK_emit (o := .iri rdfNil) hx hs hp trivial _ _
    · exact absurd hc hne
  · split
    · exact resOK_pair (k := .object) (k' := .collContinue) hnx ⟨rfl, rfl⟩ ⟨rfl, rfl⟩ _ _
    · next s hs =>
      rcases h with ⟨hs', hp⟩ | ⟨hn, _⟩
      · refine resOK_ectx hnx (some .object) [.collContinue] ⟨⟨⟨rfl, rfl⟩, rfl⟩, ⟨⟨rfl, rfl⟩, rfl⟩, trivial⟩ _ _ fun s h => ?_
        cases h
        exact wf_mkStmt hx hs' hp (by cases o <;> trivial)
      · rw [hn] at hs; cases hs

theorem polGo_ok {x : Ectx} (hx : XOk C.trig x) (hs : x.subj.isSome) {p : T} (hp : isIRI p) (inp : List Nat)
    (env : Env) : ResOK C e (polGo x p inp env) := by
  exact resOK_pair (k := .object) (k' := .objListContinue) (hx.setPred hp) ⟨hs, rfl⟩ ⟨hs, rfl⟩ _ _

theorem polOfTerm_ok {x : Ectx} (hx : XOk C.trig x) (hs : x.subj.isSome) {ir : IriRes} (h : ir ≠ .panic) (env : Env) :
    ResOK C e (polOfTerm x (ir.toTerm env)) := by
  rcases IriRes.toTerm_ok_or_err h env with ⟨i, r, h⟩ | ⟨k, h⟩ <;> rw [h]
  · exact polGo_ok hx hs (by trivial) _ _
  · trivial

theorem stepPOL_ok (hP : C.P.NoPanic) {x : Ectx} (hx : XOk C.trig x) (hs : x.subj.isSome) (env : Env) (c : Nat)
    (rest : List Nat) : ResOK C e (stepPOL C e x env c rest) := by
  unfold stepPOL
  split
  · exact polOfTerm_ok hx hs (iriIRIREF_np hP _ _) _
  · split
    · split
      · trivial
      · split
        · exact polOfTerm_ok hx hs (iriPName_np hP _ _) _
        · exact polGo_ok hx hs (by trivial) _ _
    · split
      · exact polOfTerm_ok hx hs (iriPName_np hP _ _) _
      · refine outOK_noemit ?_ ?_ <;> intro f hf <;> simp at hf

theorem emitOfTerm_ok {x : Ectx} (hx : XOk C.trig x) (hs : x.subj.isSome) (hp : x.pred.isSome) {tr : TermRes}
    (h : TermResOK tr) : ResOK C e (emitOfTerm x tr) := by
  cases tr with
  | ok t r env => exact resOK_emit hx hs hp (by cases t <;> trivial) _ _
  | err k => trivial
  | panic => exact h

theorem stepLiteralTail_ok (hP : C.P.NoPanic) (hL : C.P.LangNonEmpty) {x : Ectx} (hx : XOk C.trig x)
    (hs : x.subj.isSome) (hp : x.pred.isSome) (env : Env) (lex rest : List Nat) :
    ResOK C e (stepLiteralTail C e x env lex rest) :=
  stepLiteralTail_cases x env lex rest (motive := ResOK C e)
    (err := fun _ => trivial)
    (panic := fun ⟨i, h⟩ => h.elim (hP.langtag e i) fun h => h.elim (iriIRIREF_np hP env i) (iriPName_np hP env i))
    (lang := fun _ _ h => resOK_emit (o := .lit _ _ (some _)) hx hs hp ⟨rfl, hL _ _ _ _ h⟩ _ _)
    (typed := fun _ _ _ _ _ _ h1 h2 => resOK_emit (o := .lit _ _ none) hx hs hp ⟨h1, h2⟩ _ _)
    (plain := fun _ => resOK_emit (o := .lit _ _ none) hx hs hp ⟨asc_ne (by simp), asc_ne (by simp)⟩ _ _)

theorem emitOfNumeric_ok {x : Ectx} (hx : XOk C.trig x) (hs : x.subj.isSome) (hp : x.pred.isSome) (env : Env)
    {r : Ttl.Res (Ttl.NumKind × List Nat)} (h : r ≠ .panic) : ResOK C e (emitOfNumeric x env r) := by
  cases r with
  | ok v rest =>
    obtain ⟨k, lex⟩ := v
    exact resOK_emit (o := .lit _ _ none) hx hs hp (by cases k <;> exact ⟨asc_ne (by simp), asc_ne (by simp)⟩) _ _
  | err k => trivial
  | panic => exact absurd rfl h

theorem stepObject_ok (hP : C.P.NoPanic) (hL : C.P.LangNonEmpty) {x : Ectx} (hx : XOk C.trig x)
    (hs : x.subj.isSome) (hp : x.pred.isSome) (env : Env) (c : Nat) (rest : List Nat) :
    ResOK C e (stepObject C e x env c rest) :=
  stepObject_cases x env c rest (motive := ResOK C e)
    (err := fun _ => trivial)
    (panic := hP.string e _)
    (term := fun K => emitOfTerm_ok hx hs hp (K.term_ok hP _ _))
    (coll := fun _ => resOK_self (k := .collOpenObj) hx ⟨hs, hp⟩ rfl _ _)
    (bnpl := fun _ nx hnx => by
      have hok : XOk C.trig nx := hnx ▸ hx.clearPred trivial
      have hsub : nx.subj.isSome := hnx ▸ rfl
      refine resOK_ectx hok none [.bnplEnd, .polContinue, .pol] ⟨⟨trivial, rfl⟩, ⟨hsub, rfl⟩, ⟨hsub, rfl⟩, trivial⟩ _ _
        fun s h => ?_
      cases h
      exact wf_mkStmt hx hs hp trivial)
    (string := fun _ _ _ => stepLiteralTail_ok hP hL hx hs hp _ _ _)
    (numeric := fun _ => emitOfNumeric_ok hx hs hp _ (hP.numeric _ _))
    (bool := fun _ _ _ => resOK_emit (o := .lit _ _ none) hx hs hp ⟨asc_ne (by simp), asc_ne (by simp)⟩ _ _)
    (pname := resOK_self (k := .objectPName) hx ⟨hs, hp⟩ rfl _ _)

theorem stepTriples_ok {x : Ectx} (hx : XOk C.trig x) (hn : x.subj = none) (env : Env) (c : Nat) (rest : List Nat) :
    ResOK C e (stepTriples C x env c rest) :=
  stepTriples_cases x env c (motive := fun F => ResOK C e (F rest))
    (err := fun _ => trivial)
    (token := fun K => resOK_self hx (K.cont_ok _ x).1 (K.cont_ok C.trig x).2 _ _)
    (bracket := fun _ x' hx' => by
      have hok : XOk C.trig x' := hx' ▸ hx.setSubj trivial
      have hsub : x'.subj.isSome := hx' ▸ rfl
      exact resOK_ectx hok (some .pol) [.polContinue, .pol, .bnplEnd, .polContinue]
        ⟨⟨hsub, rfl⟩, ⟨hsub, rfl⟩, ⟨hsub, rfl⟩, ⟨trivial, rfl⟩, ⟨hsub, rfl⟩, trivial⟩ _ _ fun _ h => nomatch h)
    (paren := fun _ => resOK_self (k := .parenBlock _) hx ⟨hn, nodeShape_fresh env⟩ rfl _ _)

theorem stepParen_ok (top : Bool) {x : Ectx} (hx : XOk C.trig x) (hn : x.subj = none) (env : Env) {bn : T}
    (hb : nodeShape bn) {a : Arg} (ha : ArgOK C e a) : ResOK C e (stepParen top x env bn a) := by
  have hla : a.orNul.1 ≠ 0x29 → LA C e (a.orNul.1 :: a.orNul.2) := by
    intro hne
    cases a with
    | fail => exact LA_nul C e
    | rune c r => exact LA_of_argOK C e ha hne
  have htail : ∀ f ∈ (if top then [(⟨x, .triplesEnd⟩ : Frame)] else []), FrameOK C.trig f ∧ isCOS f.k = false := by
    intro f hf
    cases top <;> simp at hf
    subst hf; exact ⟨⟨hx, trivial⟩, rfl⟩
  unfold stepParen
  simp only []
  split
  · have hnx : XOk C.trig { x with subj := some (.iri rdfNil) } := hx.setSubj trivial
    refine outOK_noemit ?_ ?_
    · intro f hf
      simp only [List.mem_append, List.mem_singleton] at hf
      rcases hf with hf | rfl
      · exact htail f hf
      · exact ⟨⟨hnx, rfl⟩, rfl⟩
    · intro f hf; simp at hf; subst hf; exact ⟨⟨hnx, rfl⟩, rfl⟩
  · next hne =>
    have hnx : XOk C.trig { x with subj := some bn } := hx.setSubj hb
    refine ⟨?_, ?_, ?_, (fun h => by cases h)⟩
    · intro f hf
      simp only [List.mem_append, List.mem_cons, List.not_mem_nil, or_false] at hf
      rcases hf with hf | rfl | rfl
      · exact htail f hf
      · exact ⟨⟨hnx, rfl⟩, rfl⟩
      · exact ⟨⟨hnx, rfl⟩, rfl⟩
    · intro f hf
      simp at hf; subst hf
      exact ⟨⟨hx, hn, hb⟩, fun _ => ⟨rfl, hla hne⟩⟩
    · intro s h; simp at h

theorem iriref_split (hP : C.P.NoPanic) (inp : List Nat) :
    (∃ v r, C.P.iriref e inp = .ok v r) ∨ (∃ k, C.P.iriref e inp = .err k) := by
  cases h : C.P.iriref e inp with
  | ok v r => exact Or.inl ⟨v, r, rfl⟩
  | err k => exact Or.inr ⟨k, rfl⟩
  | panic => exact absurd h (hP.iriref e inp)

theorem stepFn_ok (hP : C.P.NoPanic) (hL : C.P.LangNonEmpty) {x : Ectx} {k : Cont} (hf : FrameOK C.trig ⟨x, k⟩)
    (env : Env) {a : Arg} (ha : ArgOK C e a) (hcos : isCOS k = true → a.orNul.1 ≠ 0x29) :
    ResOK C e (stepFn C e k x env a) := by
  obtain ⟨hx, hk⟩ := hf
  simp only at hx hk
  have bnpl : ∀ {k₀ : Cont} (_ : ContOK C.trig x k₀) (_ : isCOS k₀ = false) (_ : ContOK C.trig x .pol) (c : Nat) (r : List Nat),
      ResOK C e (if c = 0x5d then
          .ok { cur := some ⟨x, k₀⟩, push := [⟨x, .triplesEnd⟩, ⟨x, .polContinue⟩], inp := r, env := env }
        else .ok { cur := some ⟨x, k₀⟩,
                   push := [⟨x, .triplesEnd⟩, ⟨x, .polContinue⟩, ⟨x, .pol⟩, ⟨x, .bnplEnd⟩, ⟨x, .polContinue⟩],
                   inp := c :: r, env := env }) := by
    intro k₀ h0 hc0 hs c r
    split
    · exact resOK_ectx hx (some k₀) [.triplesEnd, .polContinue] ⟨⟨h0, hc0⟩, ⟨trivial, rfl⟩, ⟨hs, rfl⟩, trivial⟩ _ _ fun _ h => nomatch h
    · exact resOK_ectx hx (some k₀) [.triplesEnd, .polContinue, .pol, .bnplEnd, .polContinue]
        ⟨⟨h0, hc0⟩, ⟨trivial, rfl⟩, ⟨hs, rfl⟩, ⟨hs, rfl⟩, ⟨trivial, rfl⟩, ⟨hs, rfl⟩, trivial⟩ _ _ fun _ h => nomatch h
  have anonClose : ∀ a' : Arg, ContOK C.trig x .graphAnonClose → ResOK C e (stepFn C e .graphAnonClose x env a') := by
    intro a' hk
    simp only [stepFn]
    split
    · trivial
    · exact resOK_self (k := .wrappedGraph) (hx.setGraph hk.2 (nodeShape_fresh env)) hk.1 rfl _ _
  have e1 : ∀ (a' : Arg) (v : T), ContOK C.trig x (.tgE1 v) → ResOK C e (stepFn C e (.tgE1 v) x env a') := by
    intro a' v hk
    simp only [stepFn]
    split
    · exact resOK_pair (k := .triplesBlock) (k' := .wrappedGraphEnd) (hx.setGraph hk.2.1 hk.2.2) hk.1 trivial _ _
    · have hnx : XOk C.trig { x with subj := some v } := hx.setSubj hk.2.2
      split
      · exact False.elim hk.2.2
      · exact resOK_ectx hnx (some .polRequired) [.triplesEnd, .polContinue] ⟨⟨rfl, rfl⟩, ⟨trivial, rfl⟩, ⟨rfl, rfl⟩, trivial⟩ _ _ fun _ h => nomatch h
  have bracket : ∀ (a' : Arg) (bn : T), ContOK C.trig x (.tgBracket bn) → ResOK C e (stepFn C e (.tgBracket bn) x env a') := by
    intro a' bn hk
    simp only [stepFn]
    split
    · exact resOK_self (k := .tgE1 bn) hx hk rfl _ _
    · exact resOK_self (k := .triples2BNPL) (hx.setSubj hk.2.2) rfl rfl _ _
  cases a with
  | fail =>
    cases k with
    | statement =>
      cases e with
      | eof => exact ⟨(fun f h => by simp at h), (fun f h => by simp at h), (fun f h => by simp at h), (fun _ => rfl)⟩
      | ioerr => trivial
    | collOpenSubj o => exact stepCollection_ok hx _ _ _ hk.2 (Or.inr ⟨hk.1, hcos rfl⟩)
    | parenTop bn => exact stepParen_ok true hx hk.1 _ hk.2 ha
    | parenBlock bn => exact stepParen_ok false hx hk.1 _ hk.2 ha
    | graphAnonClose => exact anonClose _ hk
    | tgE1 v => exact e1 _ v hk
    | tgBracket bn => exact bracket _ bn hk
    | _ => trivial
  | rune c r =>
    cases k with
    | statement => exact resOK_withSelf hx hk (stepStatementRune_ok hP hx hk _ _ _)
    | collOpenSubj o => exact stepCollection_ok hx _ _ _ hk.2 (Or.inr ⟨hk.1, hcos rfl⟩)
    | parenTop bn => exact stepParen_ok true hx hk.1 _ hk.2 ha
    | parenBlock bn => exact stepParen_ok false hx hk.1 _ hk.2 ha
    | wrappedGraph => simp only [stepFn]; exact stepWrappedGraph_ok hx hk _ _
    | graphAnonClose => exact anonClose _ hk
    | tgE1 v => exact e1 _ v hk
    | tgBracket bn => exact bracket _ bn hk
    | atBaseIRI | sparqlBaseIRI | atPrefixIRI ns | sparqlPrefixIRI ns =>
      simp only [stepFn]
      rcases iriref_split (e := e) hP (c :: r) with ⟨v, r', h⟩ | ⟨k, h⟩ <;> rw [h]
      · simp only []
        split
        · trivial
        · exact resOK_self hx (by exact hk) (by rfl) _ _
      · trivial
    | atBaseDot b | atPrefixDot ns b =>
      simp only [stepFn]; split <;> first | trivial | exact resOK_self hx (by exact hk) (by rfl) _ _
    | atPrefixNS | sparqlPrefixNS =>
      simp only [stepFn]
      have := hP.pnameNS e (c :: r)
      split
      · next h => exact absurd h this
      · trivial
      · exact resOK_self hx (by exact hk) (by rfl) _ _
    | subjAnonOrBNPL | triples2BNPL => simp only [stepFn]; exact bnpl (by exact hk) (by rfl) (by exact hk) c r
    | triplesEnd | bnplEnd => simp only [stepFn]; split <;> first | trivial | exact resOK_plain _ _
    | wrappedGraphEnd => simp only [stepFn]; split <;> first | trivial | exact resOK_plain _ _
    | subjIRIREF => exact subjectOf_ok hx (Kind.term_ok hP _ _ .iriref)
    | subjPName => exact subjectOf_ok hx (Kind.term_ok hP _ _ .pname)
    | subjBNode => exact subjectOf_ok hx (termBNode_ok hP _ _)
    | pol => exact stepPOL_ok hP hx hk _ _ _
    | polContinue | objListContinue =>
      simp only [stepFn]; split
      · exact resOK_pair hx (by exact hk) (by exact hk) _ _
      · exact resOK_plain _ _
    | polRequired => exact polRequired_sat (fun _ => trivial) (stepPOL_ok hP hx hk env c r)
    | object => exact stepObject_ok hP hL hx hk.1 hk.2 _ _ _
    | objectPName => exact emitOfTerm_ok hx hk.1 hk.2 (Kind.term_ok hP _ _ .pname)
    | collOpenObj => exact stepCollection_ok hx _ _ _ (nodeShape_fresh env) (Or.inl hk)
    | collContinue =>
      simp only [stepFn]
      obtain ⟨s, hs⟩ := Option.isSome_iff_exists.mp hk.1
      have hwf : ∀ o : T, litShape o → WFStmt C.trig { s := x.subj, p := some (.iri rdfRest), o := o, g := x.graph } :=
        fun o ho => ⟨⟨s, hs, hx.subj s hs⟩, ⟨_, rfl, trivial⟩, ho, hx.graph⟩
      split
      · exact resOK_ectx hx none [] trivial _ _ fun s' h => by cases h; exact hwf _ trivial
      · have hnx : XOk C.trig { x with subj := some env.fresh.1 } := hx.setSubj trivial
        have hpred : ({ x with subj := some env.fresh.1 } : Ectx).pred.isSome := hk.2
        exact resOK_ectx hnx (some .object) [.collContinue] ⟨⟨⟨rfl, hpred⟩, rfl⟩, ⟨⟨rfl, hpred⟩, rfl⟩, trivial⟩ _ _
          fun s' h => by cases h; exact hwf _ trivial
    | graphLabel =>
      exact graphLabel_cases x env c (motive := fun F => ResOK C e (F r)) (fun _ => resOK_self hx (by exact hk) (by rfl) _ _)
        fun K => graphOfTerm_ok hx hk.1 hk.2 (K.term_ok hP env _)
    | triplesBlock =>
      simp only [stepFn]; split
      · exact resOK_plain _ _
      · exact resOK_pair hx (by exact hk) (by exact hk) _ _
    | triplesBlockQuest =>
      simp only [stepFn]; split
      · exact resOK_self hx (by exact hk) (by rfl) _ _
      · split
        · exact resOK_plain _ _
        · exact resOK_self hx (by exact hk) (by rfl) _ _
    | triples => exact stepTriples_ok hx hk _ _ _

theorem scanFn_ok (hP : C.P.NoPanic) (hL : C.P.LangNonEmpty) {f : Frame} (hf : FrameOK C.trig f)
    (inp : List Nat) (env : Env) (hla : isCOS f.k = true → LA C e inp) : ResOK C e (scanFn C e f inp env) := by
  unfold scanFn
  split
  · trivial
  · exact stepFn_ok hP hL hf env trivial (fun _ => by simp [Arg.orNul])
  · next c r h =>
    exact stepFn_ok hP hL hf env (skipWs_idem C e _ _ _ _ h) (fun hc => by simpa [Arg.orNul] using hla hc c r h)

theorem withSelf_push {x : Ectx} {r : FnRes} {o : Out} (h : withSelf x r = .ok o) :
    ∃ ps, o.push = ⟨x, .statement⟩ :: ps := by
  cases r with
  | ok o' => simp [withSelf] at h; subst h; exact ⟨_, rfl⟩
  | err k => simp [withSelf] at h
  | panic => simp [withSelf] at h

/-- the bottom of the scan-function stack is the top-level function (`reader_scanStatement` /
    `reader_scan_trigDoc`): it re-pushes itself before it does anything else -/
def Bot (cur : Option Frame) (st : St) : Prop := ∃ fs x, cur.toList ++ st.stack = fs ++ [⟨x, .statement⟩]

/-- invariant of the decoder between two iterations of the loop in `Next` -/
structure MInv (C : Cfg) (e : End) (cr : Option Frame) (st : St) : Prop where
  stack : ∀ f ∈ st.stack, FrameOK C.trig f ∧ isCOS f.k = false
  cur : ∀ f, cr = some f → FrameOK C.trig f ∧ (isCOS f.k = true → st.stmts = [] ∧ LA C e st.inp)
  stmts : ∀ s ∈ st.stmts, WFStmt C.trig s
  /-- as long as the stack has not been dropped by `terminate()`, which needs a clean end of input -/
  bot : e = .ioerr → st.err = none → Bot cr st

def NextResOK (C : Cfg) (e : End) : NextRes → Prop
  | .yes st' => MInv C e none st'
  | .no st' => e = .ioerr → st'.err.isSome
  | .panic => False
  | .outOfFuel => True

theorem last_of_append_singleton {α} {a b : α} {l1 l2 : List α} (h : a :: l1 = l2 ++ [b]) :
    (l1 = [] ∧ a = b ∧ l2 = []) ∨ (∃ l2', l1 = l2' ++ [b]) := by
  cases l2 with
  | nil => simp at h; exact Or.inl ⟨h.2, h.1, rfl⟩
  | cons c l2 => simp at h; exact Or.inr ⟨l2, h.2⟩

theorem nextLoop_inv (hP : C.P.NoPanic) (hL : C.P.LangNonEmpty) :
    ∀ fuel cur st, MInv C e cur st → NextResOK C e (nextLoop C e fuel cur st) := by
  intro fuel
  induction fuel with
  | zero => intro cur st _; simp [nextLoop, NextResOK]
  | succ n ih =>
    intro cur st hinv
    unfold nextLoop
    split
    · next herr => exact fun _ => herr
    · next herr =>
      have herr' : st.err = none := by cases h : st.err <;> simp_all
      split
      · next hne =>
        -- Next() = true: rsNext (if any) is pushed
        refine ⟨?_, (fun f h => by cases h), ?_, ?_⟩
        · intro f hf
          cases cur with
          | none => exact hinv.stack f hf
          | some g =>
            simp [pushCur] at hf
            rcases hf with rfl | hf
            · refine ⟨(hinv.cur f rfl).1, ?_⟩
              cases hc : isCOS f.k with
              | false => rfl
              | true =>
                have := ((hinv.cur f rfl).2 hc).1
                simp [this] at hne
            · exact hinv.stack f hf
        · intro s hs
          cases cur <;> exact hinv.stmts s (by simpa [pushCur] using hs)
        · intro he _
          obtain ⟨fs, x, h⟩ := hinv.bot he herr'
          refine ⟨fs, x, ?_⟩
          cases cur <;> simpa [pushCur] using h
      · next hne =>
        have hempty : st.stmts = [] := eq_nil_of_not_isEmpty_false hne
        split
        · next hp =>
          -- nothing left to run: only after `terminate()`
          intro he
          obtain ⟨fs, x, h⟩ := hinv.bot he herr'
          simp [popFrame_none_iff.1 hp] at h
        · next f st1 hp =>
          obtain ⟨t, hfr, rfl⟩ := popFrame_iff.1 hp
          -- the frame that runs and the frames below it, from `rsNext` or from the stack
          have hf : (FrameOK C.trig f ∧ (isCOS f.k = true → LA C e st.inp)) ∧
              ∀ g ∈ t, FrameOK C.trig g ∧ isCOS g.k = false := by
            cases cur with
            | some g =>
              obtain ⟨rfl, rfl⟩ := List.cons.inj hfr
              exact ⟨⟨(hinv.cur _ rfl).1, fun hc => ((hinv.cur _ rfl).2 hc).2⟩, hinv.stack⟩
            | none =>
              have hst : st.stack = f :: t := hfr
              have := hinv.stack f (by rw [hst]; exact List.mem_cons_self)
              exact ⟨⟨this.1, fun hc => by rw [this.2] at hc; cases hc⟩,
                fun g hg => hinv.stack g (by rw [hst]; exact List.mem_cons_of_mem _ hg)⟩
          obtain ⟨hf, hstack1⟩ := hf
          have hres := scanFn_ok (e := e) hP hL hf.1 st.inp st.env hf.2
          unfold scan
          cases hsc : scanFn C e f st.inp st.env with
          | panic => rw [hsc] at hres; exact hres.elim
          | err k =>
            simp only []
            refine ih none _ ⟨hstack1, (fun f h => by cases h), ?_, (fun _ h => by cases h)⟩
            intro s hs
            simp [hempty] at hs
          | ok o =>
            rw [hsc] at hres
            simp only []
            have hres : OutOK C e o := hres
            have : MInv C e o.cur (applyOut { st with stack := t } o) := by
              refine ⟨?_, ?_, ?_, ?_⟩
              · intro g hg
                simp only [applyOut] at hg
                split at hg
                · cases hg
                · rcases List.mem_append.mp hg with hg | hg
                  · exact hres.push g (List.mem_reverse.mp hg)
                  · exact hstack1 g hg
              · intro g hg
                refine ⟨(hres.cur g hg).1, fun hc => ?_⟩
                have := (hres.cur g hg).2 hc
                refine ⟨?_, this.2⟩
                simp [applyOut, this.1, hempty]
              · intro s hs
                simp [applyOut, hempty] at hs
                exact hres.emit s hs
              · intro he _
                have hterm : o.term = false := by
                  cases ht : o.term with
                  | false => rfl
                  | true => have := hres.term ht; rw [he] at this; cases this
                obtain ⟨fs, x, hb⟩ := hinv.bot he herr'
                rw [hfr] at hb
                simp only [Bot, applyOut, hterm, Bool.false_eq_true, ite_false]
                rcases last_of_append_singleton hb with ⟨hnil, hfx, _⟩ | ⟨l2, hl2⟩
                · -- the top-level function itself ran: it has pushed itself first
                  have hk : f.k = .statement := by rw [hfx]
                  unfold scanFn at hsc
                  rw [hk] at hsc
                  have : ∃ ps, o.push = ⟨f.x, .statement⟩ :: ps := by
                    split at hsc
                    · cases hsc
                    · simp only [stepFn] at hsc; subst he; simp at hsc
                    · simp only [stepFn] at hsc; exact withSelf_push hsc
                  obtain ⟨ps, hps⟩ := this
                  refine ⟨o.cur.toList ++ ps.reverse, f.x, ?_⟩
                  simp [hps, hnil]
                · refine ⟨o.cur.toList ++ o.push.reverse ++ l2, x, ?_⟩
                  simp [hl2]
            exact ih o.cur (applyOut { st with stack := t } o) this

theorem mInv_init (C : Cfg) (e : End) (base : Option (List Nat)) (pf : List (List Nat × List Nat))
    (inp : List Nat) : MInv C e none (init base pf inp) := by
  refine ⟨?_, (fun f h => by cases h), (fun s h => by simp [init] at h), (fun _ _ => ⟨[], {}, by simp [init]⟩)⟩
  intro f hf
  simp [init] at hf; subst hf
  exact ⟨⟨⟨(fun s h => by cases h), (fun s h => by cases h), (fun s h => by cases h)⟩, rfl⟩, rfl⟩

theorem mInv_drop {st : St} (h : MInv C e none st) : MInv C e none { st with stmts := st.stmts.drop 1 } :=
  ⟨h.stack, (fun f hf => by cases hf), (fun s hs => h.stmts s (List.mem_of_mem_drop hs)), h.bot⟩

theorem runLoop_ok (hP : C.P.NoPanic) (hL : C.P.LangNonEmpty) :
    ∀ n st, MInv C e none st →
      (runLoop C e n st).2 ≠ .panic ∧ (∀ s ∈ (runLoop C e n st).1, WFStmt C.trig s) ∧
      (e = .ioerr → (runLoop C e n st).2 ≠ .clean) := by
  intro n
  induction n with
  | zero => intro st _; simp [runLoop]
  | succ n ih =>
    intro st hinv
    unfold runLoop
    have hstep := nextLoop_inv (e := e) hP hL (({ st with stmts := st.stmts.drop 1 } : St).cost + 1) none _ (mInv_drop hinv)
    have hyes := nextLoop_yes C e (({ st with stmts := st.stmts.drop 1 } : St).cost + 1) none { st with stmts := st.stmts.drop 1 }
    unfold next
    simp only []
    split
    · next h => rw [h] at hstep; exact hstep.elim
    · simp
    · next st' h =>
      rw [h] at hstep
      refine ⟨by cases st'.err <;> simp, by simp, fun he => ?_⟩
      have := hstep he
      cases hh : st'.err with
      | none => simp [hh] at this
      | some k => simp
    · next st' h =>
      rw [h] at hstep
      change MInv C e none st' at hstep
      have hne := hyes st' h
      split
      · next hnil => exact absurd hnil hne
      · next s rest hcons =>
        have := ih st' hstep
        refine ⟨this.1, ?_, this.2.2⟩
        intro s' hs'
        simp at hs'
        rcases hs' with rfl | hs'
        · exact hstep.stmts _ (by rw [hcons]; exact List.mem_cons_self)
        · exact this.2.1 s' hs'

end RdfModel.TtlDoc
