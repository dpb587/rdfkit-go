/-
  The decoder model is described one token at a time (`parse_cons`); what holds of a token list follows by
  induction on it.  The unrepaired decoder (unchecked assertions) does not panic on token streams a JSON
  tokenizer can produce (`WellNested`), because the nesting stacks a parser state can sit on (`stacks`,
  `Compat`) are kept by every transition (`keeps`, a clause of `Cont`).
-/
import RdfModel.Props.C01RJDefs
import RdfModel.Proofs.C01Consts
namespace RdfModel.Proofs.C01RJ
open RdfModel RdfModel.RJ RdfModel.C01RJ RdfModel.Proofs.C01

theorem mkBNode_ok (l : List Nat) (n : Nat) : BNodeOK (mkBNode l n).1 := by
  cases l <;> simp [mkBNode, BNodeOK]

theorem subjectOf_ok (key : List Nat) (n : Nat) : NodeOK (subjectOf key n).1 := by
  unfold subjectOf
  cases bnPrefix? key with
  | none => simp [NodeOK]
  | some l => simpa [NodeOK] using mkBNode_ok l n

/-- The subject a parser state carries is an IRI or a blank node with an identity. -/
def SubjOK : PState → Prop
  | .subjColon s | .subjOpen s | .preds s | .predColon s _ | .predOpen s _ | .objs s _
  | .members s _ _ | .memColon s _ _ _ | .memValue s _ _ _ => NodeOK s
  | _ => True

/-- The nesting stacks a parser state can sit on while the token stream is well nested.  The loop states
    (`subjects`, `preds`, `members`) have two: just after `{` or `,` (`objName`) and after a member value
    (`objAfter`).  The list does not look at the state's arguments, so `keeps` evaluates on a state with
    variables in it. -/
def stacks : PState → List (List Frame)
  | .start => [[.root]]
  | .subjects => [[.objName, .done], [.objAfter, .done]]
  | .subjColon _ => [[.objColon, .done]]
  | .subjOpen _ => [[.objValue, .done]]
  | .preds _ => [[.objName, .objAfter, .done], [.objAfter, .objAfter, .done]]
  | .predColon _ _ => [[.objColon, .objAfter, .done]]
  | .predOpen _ _ => [[.objValue, .objAfter, .done]]
  | .objs _ _ => [[.arr, .objAfter, .objAfter, .done]]
  | .members _ _ _ => [[.objName, .arr, .objAfter, .objAfter, .done], [.objAfter, .arr, .objAfter, .objAfter, .done]]
  | .memColon _ _ _ _ => [[.objColon, .arr, .objAfter, .objAfter, .done]]
  | .memValue _ _ _ _ => [[.objValue, .arr, .objAfter, .objAfter, .done]]
  | .trailing => [[.done]]

def Compat (st : PState) (stk : List Frame) : Prop := stk ∈ stacks st

/-- On every stack of `st` the token `t` is no token a tokenizer can produce there, or leads to a stack of `st'`. -/
def keeps (st : PState) (t : Tok) (st' : Option PState) : Bool :=
  (stacks st).all fun stk =>
    match wnStep stk t, st' with
    | none, _ => true
    | some stk', some st' => decide (stk' ∈ stacks st')
    | some _, none => false

/-- What `parse` does with one more token: it fails, panics (unchecked assertions only, and only on a
    token no tokenizer produces at this nesting: `keeps … none`), goes on with the same statements, or
    goes on from the end of an object record with one more — in a state whose nesting stacks are
    those the token leads to. -/
inductive Cont (v : Variant) (e : TEnd) (st : PState) (t : Tok) (rest : List Tok) (acc : Acc) : Result → Prop
  | fail : Cont v e st t rest acc (acc.fail .syntax)
  | panic : v.checked = false → keeps st t none = true → Cont v e st t rest acc .panic
  | same (st' : PState) (n : Nat) : (SubjOK st → SubjOK st') → keeps st t (some st') = true →
      Cont v e st t rest acc (parse v e st' rest { acc with anon := n })
  | emit (s : Term BNode) (p : List Nat) (o : Term BNode) (n : Nat) :
      (SubjOK st → NodeOK s) → (∃ m, finishObject v m acc.anon = some (o, n)) → keeps st t (some (.objs s p)) = true →
      Cont v e st t rest acc (parse v e (.objs s p) rest { stmts := ⟨s, .iri p, o⟩ :: acc.stmts, anon := n })

theorem parse_cons (v : Variant) (e : TEnd) (st : PState) (t : Tok) (rest : List Tok) (acc : Acc) :
    Cont v e st t rest acc (parse v e st (t :: rest) acc) := by
  cases st with
  | start =>
    cases t with
    | beginObject => exact .same _ acc.anon id rfl
    | _ => exact .fail
  | subjects =>
    cases t with
    | str key => exact .same _ _ (fun _ => subjectOf_ok key acc.anon) rfl
    | endObject | valueSep => exact .same _ acc.anon id rfl
    | _ => exact .fail
  | trailing => exact .fail
  | preds s =>
    cases t with
    | endObject => exact .same _ acc.anon (fun _ => trivial) rfl
    | valueSep | str => exact .same _ acc.anon id rfl
    | _ =>
      simp only [parse]
      cases hv : v.checked
      · exact .panic hv rfl
      · exact .fail
  | members s p m =>
    cases t with
    | endObject =>
      simp only [parse]
      split
      · exact .fail
      · next o n ho => exact .emit s p o n id ⟨m, ho⟩ rfl
    | valueSep => exact .same _ acc.anon id rfl
    | str name =>
      simp only [parse]
      split
      · exact .same _ acc.anon id rfl
      · exact .fail
    | _ =>
      simp only [parse]
      cases hv : v.checked
      · exact .panic hv rfl
      · exact .fail
  -- the other states go on with their subject on the one or two tokens they expect and fail otherwise
  | _ => cases t <;> first | exact .same _ acc.anon id rfl | exact .fail

theorem done_of_fail {acc : Acc} {c : EClass} {ss : List (Triple BNode)} {vd : Verdict}
    (h : acc.fail c = .done ss vd) : ss = acc.stmts.reverse := by
  cases h; rfl

theorem done_of_parse_nil {v : Variant} {e : TEnd} {st : PState} {acc : Acc} {ss : List (Triple BNode)}
    {vd : Verdict} (h : parse v e st [] acc = .done ss vd) : ss = acc.stmts.reverse := by
  unfold parse at h
  split at h
  · cases h; rfl
  · exact done_of_fail h

theorem parse_checked_no_panic (v : Variant) (hv : v.checked = true) (e : TEnd) (toks : List Tok) :
    ∀ st acc, parse v e st toks acc ≠ .panic := by
  induction toks with
  | nil => intro st acc; unfold parse; split <;> exact Result.noConfusion
  | cons t rest ih =>
    intro st acc
    have hc := parse_cons v e st t rest acc
    generalize parse v e st (t :: rest) acc = r at hc
    cases hc with
    | fail => exact Result.noConfusion
    | panic hv' _ => rw [hv] at hv'; cases hv'
    | same | emit => exact ih _ _

theorem parse_length (v : Variant) (e : TEnd) (toks : List Tok) :
    ∀ st acc ss vd, parse v e st toks acc = .done ss vd → ss.length ≤ acc.stmts.length + toks.length := by
  induction toks with
  | nil => intro st acc ss vd h; simp [done_of_parse_nil h]
  | cons t rest ih =>
    intro st acc ss vd h
    have hc := parse_cons v e st t rest acc
    generalize parse v e st (t :: rest) acc = r at h hc
    cases hc with
    | fail => simp [done_of_fail h]
    | panic => cases h
    | same => have := ih _ _ _ _ h; exact Nat.le_succ_of_le this
    | emit => have := ih _ _ _ _ h; simp only [List.length_cons] at this ⊢; omega

theorem finishLiteral_ok (v : Variant) (hl : v.litChecks = true) (value : List Nat) (m : Members)
    (o : Term BNode) (h : finishLiteral v value m = some o) : ObjectOK v.dirCheck o := by
  unfold finishLiteral at h
  simp only [hl, Bool.true_and, Bool.not_true, Bool.false_or, Bool.and_eq_true, decide_eq_true_eq] at h
  split at h; · cases h
  split at h; · cases h
  split at h; · cases h
  next h1 h2 h3 =>
  split at h
  · next d hd =>
    split at h
    · next hne =>
      cases h
      exact ⟨fun h0 => h2 (h0 ▸ hd), fun hdir h0 => h3 ⟨hdir, h0 ▸ hd⟩, hne⟩
    · split at h
      · next l hlang =>
        cases h
        exact ⟨lang_ne_nil, fun _ => lang_ne_dir, rfl, fun h0 => h1 (h0 ▸ hlang)⟩
      · cases h
  · next l hd hlang =>
    cases h
    exact ⟨lang_ne_nil, fun _ => lang_ne_dir, rfl, fun h0 => h1 (h0 ▸ hlang)⟩
  · cases h
    exact ⟨xsd_ne_nil, fun _ => xsd_ne_dir, xsd_ne_lang⟩

theorem finishObject_ok (v : Variant) (hl : v.litChecks = true) (m : Members) (n : Nat)
    (o : Term BNode) (n' : Nat) (h : finishObject v m n = some (o, n')) : ObjectOK v.dirCheck o := by
  unfold finishObject at h
  split at h
  · cases h
  · cases h
  · split at h
    · simp only [Option.map_eq_some_iff, Prod.mk.injEq] at h
      obtain ⟨t, ht, rfl, _⟩ := h
      exact finishLiteral_ok v hl _ m _ ht
    · split at h
      · cases h; trivial
      · split at h
        · split at h
          · cases h
          · cases h
            exact mkBNode_ok _ _
        · cases h

theorem parse_wf (v : Variant) (hl : v.litChecks = true) (e : TEnd) (toks : List Tok) :
    ∀ st acc ss vd, SubjOK st → (∀ t ∈ acc.stmts, WFOut v.dirCheck t) →
      parse v e st toks acc = .done ss vd → ∀ t ∈ ss, WFOut v.dirCheck t := by
  induction toks with
  | nil => intro st acc ss vd _ hacc h; simpa [done_of_parse_nil h] using hacc
  | cons t rest ih =>
    intro st acc ss vd hst hacc h
    have hc := parse_cons v e st t rest acc
    generalize parse v e st (t :: rest) acc = r at h hc
    cases hc with
    | fail => simpa [done_of_fail h] using hacc
    | panic => cases h
    | same st' n hs _ => exact ih st' { acc with anon := n } ss vd (hs hst) hacc h
    | emit s p o n hs ho _ =>
      obtain ⟨m, ho⟩ := ho
      refine ih (.objs s p) _ ss vd (hs hst) (fun t ht => ?_) h
      rcases List.mem_cons.1 ht with rfl | ht
      · exact ⟨hs hst, trivial, finishObject_ok v hl m acc.anon o n ho⟩
      · exact hacc t ht

theorem keeps_step {st : PState} {t : Tok} {o : Option PState} (h : keeps st t o = true) {stk stk' : List Frame}
    (hc : Compat st stk) (hw : wnStep stk t = some stk') : ∃ st', o = some st' ∧ Compat st' stk' := by
  have := List.all_eq_true.1 h stk hc
  rw [hw] at this
  cases o with
  | none => cases this
  | some st' => exact ⟨st', rfl, of_decide_eq_true (p := stk' ∈ stacks st') this⟩

theorem parse_wellNested_no_panic (v : Variant) (e : TEnd) (toks : List Tok) :
    ∀ st stk acc, Compat st stk → wnFrom stk toks = true → parse v e st toks acc ≠ .panic := by
  induction toks with
  | nil => intro st stk acc _ _; unfold parse; split <;> exact Result.noConfusion
  | cons t rest ih =>
    intro st stk acc hc hw
    simp only [wnFrom] at hw
    split at hw
    · cases hw
    next stk' hs =>
    have hcont := parse_cons v e st t rest acc
    generalize parse v e st (t :: rest) acc = r at hcont
    cases hcont with
    | fail => exact Result.noConfusion
    | panic _ hk => obtain ⟨_, h, _⟩ := keeps_step hk hc hs; cases h
    | same st' n _ hk => obtain ⟨_, h, hc'⟩ := keeps_step hk hc hs; cases h; exact ih _ _ _ hc' hw
    | emit s p o n _ _ hk => obtain ⟨_, h, hc'⟩ := keeps_step hk hc hs; cases h; exact ih _ _ _ hc' hw

end RdfModel.Proofs.C01RJ
