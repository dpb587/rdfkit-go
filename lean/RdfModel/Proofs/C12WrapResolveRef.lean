import RdfModel.Proofs.C12WrapTarget
namespace RdfModel.C12W
open RdfModel.GoUrlFull RdfModel.PIRI
open RdfModel.Spec.RFC3986 (Parts recompose resolveParts)

/-- `rawOf .path` of a path that is its own decoded form (no '%'): `RawPath` is set exactly when the default
    encoding of the path differs from it -/
def rawOf' (p : Str) : Str := if escape .path p = p then [] else p

/-- `uPath` / `refuPath` of `ResolveReference` give the path text back -/
theorem pathOf_spec (u : URL) (h : u.rawPath = rawOf' u.path ∨ (u.rawPath = [] ∧ u.path = [0x2a])) : pathOf u = u.path := by
  unfold pathOf URL.escapedPath
  rcases h with h | ⟨h1, h2⟩
  · unfold rawOf' at h
    by_cases he : escape .path u.path = u.path
    · rw [if_pos he] at h
      simp only [h, List.isEmpty_nil, Bool.not_true, Bool.false_eq_true, if_false, Bool.false_and]
      split
      · rename_i h2; exact h2.symm
      · exact he
    · rw [if_neg he] at h
      have hne : u.path ≠ [] := by intro e; rw [e] at he; exact he (by simp [escape])
      simp [h, isEmpty_false_of_ne hne]
  · simp [h1, h2]

def fragFields (P : Parts) : Str × Str :=
  match fragNonEmpty P with
  | some f => (unescD .fragment f, rawOf .fragment f)
  | none => ([], [])

theorem urlOf_eq (P : Parts) :
    urlOf P = { urlNoFrag P with fragment := (fragFields P).1, rawFragment := (fragFields P).2 } := by
  unfold urlOf fragFields
  cases fragNonEmpty P with
  | some f => rfl
  | none =>
    obtain ⟨h1, h2⟩ := urlNoFrag_frag P
    cases hu : urlNoFrag P
    rw [hu] at h1 h2
    simp only at h1 h2
    simp [h1, h2]

theorem unescD_noPct (mode : Mode) (hm : mode ≠ .host) (s : Str) (h : 0x25 ∉ s) : unescD mode s = s := by
  simp [unescD, unescape_noPct mode hm s h]

/-- the parsed relative reference, uniformly for `*` and every other path -/
theorem urlNoFrag_rel {R : Parts} (hs : R.scheme = none) (ha : R.authority = none) (hp : 0x25 ∉ R.path) :
    ∃ rp, urlNoFrag R = { path := R.path, rawPath := rp, forceQuery := (R.query == some []), rawQuery := R.query.getD [] } ∧
      (rp = rawOf' R.path ∨ (rp = [] ∧ R.path = [0x2a])) := by
  by_cases hst : preOf R = [0x2a]
  · have hpre : preOf R = R.path ++ RdfModel.Spec.RFC3986.queryPart R.query := by
      simp [preOf, hs, ha, RdfModel.Spec.RFC3986.schemePart, RdfModel.Spec.RFC3986.authorityPart]
    rw [hpre] at hst
    have hq : R.query = none := by
      cases hq : R.query with
      | none => rfl
      | some q =>
        rw [hq] at hst
        have hm : (0x3f : Nat) ∈ R.path ++ RdfModel.Spec.RFC3986.queryPart (some q) := by
          simp [RdfModel.Spec.RFC3986.queryPart, RdfModel.Spec.RFC3986.cQuest]
        rw [hst] at hm
        simp at hm
    rw [hq] at hst
    simp only [RdfModel.Spec.RFC3986.queryPart, List.append_nil] at hst
    refine ⟨[], ?_, Or.inr ⟨rfl, hst⟩⟩
    have : preOf R = [0x2a] := by rw [hpre, hq]; simpa [RdfModel.Spec.RFC3986.queryPart] using hst
    unfold urlNoFrag
    simp [this, hq, hst]
  · refine ⟨rawOf' R.path, ?_, Or.inl rfl⟩
    rw [urlNoFrag_path hst ha (Or.inl hs)]
    simp [hs, unescD_noPct .path (by decide) _ hp, rawOf, rawOf']

theorem resolve_core (ub ur : URL) (fb fr o : Bool)
    (h1 : ur.scheme = []) (h2 : ur.host = []) (h3 : ur.user = none) (h4 : ur.opaq = []) (h5 : ub.opaq = [])
    (h6 : pathOf ub ≠ []) :
    ParsedIRI.resolveReference ⟨ub, fb, false⟩ ⟨ur, fr, o⟩ =
      .ok ⟨setPathIgnore { inheritQF ub { ur with scheme := ub.scheme } ur with host := ub.host, user := ub.user }
            (RdfModel.IRI.resolvePath (pathOf ub) (pathOf ur)), fb || fr, false⟩ := by
  unfold ParsedIRI.resolveReference
  simp only [h1, h2, h3, h4, h5, List.isEmpty_nil, Bool.not_true, Option.isSome_none, Bool.or_self, Bool.false_eq_true,
    if_false, if_true, Bool.and_false]
  unfold resolveRel
  simp only [isEmpty_false_of_ne h6, Bool.false_eq_true, if_false]

theorem setPathIgnore_noPct (u : URL) (p : Str) (h : 0x25 ∉ p) :
    setPathIgnore u p = { u with path := p, rawPath := rawOf' p } := by
  unfold setPathIgnore setPath
  rw [unescape_noPct .path (by decide) p h]
  rfl

theorem fragFields_empty {R : Parts} (hf : (match R.fragment with | some f => fragOk f | none => true) = true)
    (h : (fragFields R).1 = []) : (fragFields R).2 = [] := by
  unfold fragFields at h ⊢
  cases hfn : fragNonEmpty R with
  | none => rfl
  | some f =>
    exfalso
    rw [hfn] at h
    simp only at h
    unfold fragNonEmpty at hfn
    cases hF : R.fragment with
    | none => rw [hF] at hfn; cases hfn
    | some g =>
      rw [hF] at hfn hf
      simp only at hfn hf
      split at hfn
      · cases hfn
      · rename_i hne
        simp only [Option.some.injEq] at hfn
        subst hfn
        obtain ⟨⟨r, hr⟩, _⟩ := frag_facts hf
        have : unescD .fragment g = r := by simp [unescD, hr]
        rw [this] at h
        exact unescape_ne_nil hr (by intro e; rw [e] at hne; simp at hne) h

theorem resolve_pOf {B R : Parts} (h : RLFacts B R) :
    (pOf B).resolveReference (pOf R) = .ok (pOf (tgt B R)) := by
  have fb := langFacts h.inB
  have fr := langFacts h.inR
  obtain ⟨sch, hsch⟩ := Option.isSome_iff_exists.mp h.bs
  obtain ⟨a, ha⟩ := Option.isSome_iff_exists.mp h.ba
  have hschOk : schemeOk sch = true := by have := fb.sch; rw [hsch] at this; exact this
  have haOk : authorityOk a = true := by have := fb.auth; rw [ha] at this; exact this
  have hane : a.isEmpty = false := isEmpty_false_of_ne (authority_facts haOk).1
  have hneB : preOf B ≠ [0x2a] := preOf_ne_star_scheme hsch (schemeOk_ne_nil hschOk)
  have hbne : B.path ≠ [] := by intro e; have := h.bh; rw [e] at this; simp at this
  have hUB : urlNoFrag B = { scheme := sch, host := a, path := B.path, rawPath := rawOf' B.path, forceQuery := (B.query == some []), rawQuery := B.query.getD [] } := by
    rw [urlNoFrag_auth hneB ha, hsch]
    simp [unescD_noPct .path (by decide) _ h.bp, rawOf, rawOf']
  have hfB : fragFields B = ([], []) := by simp [fragFields, fragNonEmpty, h.bf]
  have hpB : pOf B = ⟨{ scheme := sch, host := a, path := B.path, rawPath := rawOf' B.path, forceQuery := (B.query == some []), rawQuery := B.query.getD [] }, false, false⟩ := by
    unfold pOf
    rw [urlOf_eq, hUB, hfB]
    simp [h.bf, reclassGuard, hane]
  obtain ⟨rp, hUR, hrp⟩ := urlNoFrag_rel h.rs h.ra h.rp
  have hpR : pOf R = ⟨{ path := R.path, rawPath := rp, forceQuery := (R.query == some []), rawQuery := R.query.getD [], fragment := (fragFields R).1, rawFragment := (fragFields R).2 }, R.fragment == some [], false⟩ := by
    unfold pOf
    rw [urlOf_eq, hUR]
    simp [reclassGuard]
  obtain ⟨_, hpctT0, _, _⟩ := tgt_path_facts h
  have hpctT : 0x25 ∉ RdfModel.IRI.resolvePath B.path R.path := hpctT0
  have hneT : preOf (tgt B R) ≠ [0x2a] := preOf_ne_star_scheme (P := tgt B R) hsch (schemeOk_ne_nil hschOk)
  have hUT : urlNoFrag (tgt B R) = { scheme := sch, host := a, path := RdfModel.IRI.resolvePath B.path R.path, rawPath := rawOf' (RdfModel.IRI.resolvePath B.path R.path), forceQuery := (tquery B R == some []), rawQuery := (tquery B R).getD [] } := by
    rw [urlNoFrag_auth hneT (a := a) ha]
    have e1 : (tgt B R).scheme = some sch := hsch
    have e2 : (tgt B R).path = RdfModel.IRI.resolvePath B.path R.path := rfl
    have e3 : (tgt B R).query = tquery B R := rfl
    rw [e1, e2, e3]
    simp [unescD_noPct .path (by decide) _ hpctT, rawOf, rawOf']
  have hfT : fragFields (tgt B R) = fragFields R := rfl
  have hpT : pOf (tgt B R) = ⟨{ scheme := sch, host := a, path := RdfModel.IRI.resolvePath B.path R.path, rawPath := rawOf' (RdfModel.IRI.resolvePath B.path R.path), forceQuery := (tquery B R == some []), rawQuery := (tquery B R).getD [], fragment := (fragFields R).1, rawFragment := (fragFields R).2 }, R.fragment == some [], false⟩ := by
    unfold pOf
    rw [urlOf_eq, hUT, hfT]
    have e : (tgt B R).fragment = R.fragment := rfl
    simp [e, reclassGuard, hane]
  rw [hpB, hpR, hpT]
  have hpathB : pathOf ({ scheme := sch, host := a, path := B.path, rawPath := rawOf' B.path, forceQuery := (B.query == some []), rawQuery := B.query.getD [] } : URL) = B.path :=
    pathOf_spec _ (Or.inl rfl)
  have hpathR : pathOf ({ path := R.path, rawPath := rp, forceQuery := (R.query == some []), rawQuery := R.query.getD [], fragment := (fragFields R).1, rawFragment := (fragFields R).2 } : URL) = R.path :=
    pathOf_spec _ hrp
  rw [resolve_core _ _ _ _ _ rfl rfl rfl rfl rfl (by rw [hpathB]; exact hbne), hpathB, hpathR,
    setPathIgnore_noPct _ _ hpctT]
  simp only [Bool.false_or]
  congr 2
  unfold inheritQF tquery
  by_cases hpr : R.path = []
  · cases hq : R.query with
    | none =>
      by_cases hfe : (fragFields R).1 = []
      · have hfe2 := fragFields_empty fr.frag hfe
        simp [hpr, hfe, hfe2]
      · simp [hpr, isEmpty_false_of_ne hfe]
    | some q =>
      cases q <;> simp [hpr]
  · simp [hpr, isEmpty_false_of_ne hpr]

end RdfModel.C12W
