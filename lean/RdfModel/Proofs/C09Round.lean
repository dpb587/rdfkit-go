import RdfModel.Proofs.C09Attrs
namespace RdfModel.RX
open RdfModel RdfModel.Desc

variable (rs : Str → Str → Str)

theorem wfPAttr_isProp (env : Env) (a : PAttr) (h : wfPAttr rs env a = true) : isPropAttr a.render = true := by
  cases a with
  | lit ns name val lang =>
    simp only [wfPAttr, Bool.and_eq_true] at h
    exact h.1.1.1
  | type iri ref =>
    have h1 : badAttrName n_type = false := by decide
    have h2 : syntaxAttrName n_type = false := by decide
    simp [PAttr.render, isPropAttr, rdfNS_ne_nil, xmlNS_ne_rdfNS.symm, h1, h2]

theorem wfPAttrs_isProp (env : Env) (pattrs : List PAttr) (h : wfPAttrs rs env pattrs = true) :
    ∀ a ∈ pattrs.map PAttr.render, isPropAttr a = true := by
  intro a ha
  simp only [wfPAttrs, Bool.and_eq_true, List.all_eq_true] at h
  obtain ⟨b, hb, rfl⟩ := List.mem_map.mp ha
  exact wfPAttr_isProp rs env b (h.1 b hb)

theorem wfPAttr_triple (env : Env) (s : Term BN) (a : PAttr) (h : wfPAttr rs env a = true) :
    propAttrTriple rs env s a.render = a.triple s := by
  cases a with
  | lit ns name val lang =>
    simp only [wfPAttr, Bool.and_eq_true, Bool.not_eq_true', decide_eq_true_eq] at h
    obtain ⟨⟨⟨_, h2⟩, _⟩, h4⟩ := h
    have h2' : ¬(ns = rdfNS ∧ name = n_type) := by simpa using h2
    simp [propAttrTriple, PAttr.render, PAttr.triple, h2', h4]
  | type iri ref =>
    simp only [wfPAttr, decide_eq_true_eq] at h
    simp [propAttrTriple, PAttr.render, PAttr.triple, h]

theorem wfPAttrs_triples (env : Env) (s : Term BN) (pattrs : List PAttr) (h : wfPAttrs rs env pattrs = true) :
    (pattrs.map PAttr.render).map (propAttrTriple rs env s) = pattrs.map (PAttr.triple s) := by
  simp only [wfPAttrs, Bool.and_eq_true, List.all_eq_true] at h
  rw [List.map_map]
  apply List.map_congr_left
  intro a ha
  exact wfPAttr_triple rs env s a (h.1 a ha)

theorem map_pair_some {α β : Type} {o : Option β} {a a' : α} {b : β} (h : o.map (fun x => (a, x)) = some (a', b)) :
    o = some b ∧ a = a' := by
  cases o with
  | none => simp at h
  | some x => simp only [Option.map_some, Option.some.injEq, Prod.mk.injEq] at h; exact ⟨by rw [h.2], h.1⟩

theorem if_map_pair_some {α β : Type} {c : Prop} [Decidable c] {o : Option β} {a a' : α} {b : β}
    (h : (if c then o.map (fun x => (a, x)) else none) = some (a', b)) : c ∧ o = some b ∧ a = a' := by
  split at h
  · rename_i hc; exact ⟨hc, map_pair_some h⟩
  · cases h

theorem wfId_optId (env : Env) (id : PId) (st st' : St) (h : wfId rs env id st = some st') :
    optId rs env (PId.val id) st = .ok (PId.iri id, st') := by
  cases id with
  | none => simp only [wfId, Option.some.injEq] at h; subst h; rfl
  | some p =>
    obtain ⟨iri, v⟩ := p
    simp only [wfId, Option.ite_none_right_eq_some, Option.some.injEq, Bool.and_eq_true, decide_eq_true_eq,
      Bool.not_eq_true', List.contains_eq_mem, decide_eq_false_iff_not] at h
    obtain ⟨hc, rfl⟩ := h
    simp [optId, PId.val, PId.iri, useId, hc.1.1, hc.1.2, hc.2]

theorem wfSubj_subjectOf (env : Env) (sc : Scope) (props : List Attr) (subj : Subj) (st st' : St)
    (h : wfSubj rs env st subj = some st') :
    subjectOf rs env (subj.info sc props) st = .ok (subj.term, st') := by
  cases subj with
  | about iri ref =>
    simp only [wfSubj, Option.ite_none_right_eq_some, Option.some.injEq] at h
    obtain ⟨hc, rfl⟩ := h
    simp [subjectOf, Subj.info, Subj.term, hc]
  | id iri v =>
    simp only [wfSubj] at h
    have := wfId_optId rs env (some (iri, v)) st st' h
    simp only [optId, PId.val, PId.iri, Option.map] at this
    simp only [subjectOf, Subj.info, Subj.term]
    split at this
    · rename_i r st1 hu
      simp only [Except.ok.injEq, Prod.mk.injEq, Option.some.injEq] at this
      rw [this.1, this.2]
    · exact absurd this (by simp)
  | nodeID l =>
    simp only [wfSubj, Option.ite_none_right_eq_some, Option.some.injEq] at h
    obtain ⟨hc, rfl⟩ := h
    simp [subjectOf, Subj.info, Subj.term, hc]
  | anon n =>
    simp only [wfSubj, Option.ite_none_right_eq_some, Option.some.injEq] at h
    obtain ⟨rfl, rfl⟩ := h
    simp [subjectOf, Subj.info, Subj.term]

theorem wfName_facts (li : Nat) (nm : PName) (h : wfName li nm = true) :
    ¬(nm.ns = rdfNS ∧ badPropName nm.name = true) ∧ propPred nm.ns nm.name li = nm.pred ∧
      propLi nm.ns nm.name li = nm.nextLi li := by
  cases nm with
  | el ns name =>
    simp only [wfName, Bool.and_eq_true, Bool.not_eq_true', decide_eq_true_eq, Bool.and_eq_false_iff,
      Bool.or_eq_false_iff, decide_eq_false_iff_not] at h
    obtain ⟨⟨_, _⟩, h3⟩ := h
    have hli : isLiName ns name = false := by
      simp only [isLiName, decide_eq_false_iff_not, not_and]
      intro hns
      rcases h3 with h3 | h3
      · exact absurd hns h3
      · exact h3.2
    refine ⟨?_, ?_, ?_⟩
    · simp only [PName.ns, PName.name, not_and, Bool.not_eq_true]
      intro hns
      rcases h3 with h3 | h3
      · exact absurd hns h3
      · exact h3.1
    · simp [propPred, PName.ns, PName.name, PName.pred, hli]
    · simp [propLi, PName.ns, PName.name, PName.nextLi, hli]
  | li p =>
    simp only [wfName, decide_eq_true_eq] at h
    refine ⟨?_, ?_, ?_⟩
    · simp only [PName.ns, PName.name]; decide
    · simp [propPred, PName.ns, PName.name, PName.pred, isLiName, h]
    · simp [propLi, PName.ns, PName.name, PName.nextLi, isLiName]

theorem Subj.info_fields (sc : Scope) (props : List Attr) (subj : Subj) :
    (subj.info sc props).props = props ∧ (subj.info sc props).bad = false ∧
    (subj.info sc props).unsup = false ∧ (subj.info sc props).resource = none ∧
    (subj.info sc props).datatype = none ∧ (subj.info sc props).parseType = none ∧
    (subj.info sc props).base = sc.base ∧ (subj.info sc props).lang = sc.lang := by
  cases subj <;> simp [Subj.info]

theorem wfTyp_facts (s : Term BN) (typ : Option (Str × Str)) (h : wfTyp typ = true) :
    ¬(typNs typ = rdfNS ∧ badNodeName (typName typ) = true) ∧
    typeTriple s (typNs typ) (typName typ) = typTriple s typ := by
  cases typ with
  | none =>
    refine ⟨?_, ?_⟩
    · simp only [typNs, typName, not_and, Bool.not_eq_true]; intro _; decide
    · simp [typeTriple, typTriple, typNs, typName]
  | some p =>
    obtain ⟨ns, name⟩ := p
    simp only [wfTyp, Bool.and_eq_true, Bool.not_eq_true', decide_eq_true_eq, Bool.and_eq_false_iff,
      Bool.or_eq_false_iff, decide_eq_false_iff_not] at h
    obtain ⟨_, h3⟩ := h
    refine ⟨?_, ?_⟩
    · simp only [typNs, typName, not_and, Bool.not_eq_true]
      intro hns
      rcases h3 with h3 | h3
      · exact absurd hns h3
      · exact h3.1
    · have : ¬(ns = rdfNS ∧ name = n_Description) := by
        intro ⟨h1, h2⟩
        rcases h3 with h3 | h3
        · exact h3 h1
        · exact h3.2 h2
      simp [typeTriple, typTriple, typNs, typName, this]

theorem textOnly_renderNode (n : PNode) (ks : List Node) : textOnly (renderNode n :: ks) = none := by
  cases n; simp [renderNode, textOnly]

theorem resKids_single (env : Env) (n : PNode) (st st1 : St) (o : Term BN) (ts : List T)
    (h : nodeElt rs env (renderNode n) st = .ok (o, ts, st1)) :
    resKids rs env [renderNode n] st = .ok (some (o, ts), st1) := by
  cases n
  simp only [renderNode] at h ⊢
  simp only [resKids, h]

section
variable {rs} {env : Env} {li li' : Nat} {st st' : St} {sc : Scope} {nm : PName} {id : PId}

theorem wfNode_inv {subj : Subj} {typ : Option (Str × Str)} {pattrs : List PAttr} {props : List PProp}
    (h : wfNode rs env st (.mk sc subj typ pattrs props) = some st') :
    (wfTyp typ = true ∧ wfPAttrs rs (env.push rs sc.base sc.lang) pattrs = true) ∧
    ∃ st1, wfSubj rs (env.push rs sc.base sc.lang) st subj = some st1 ∧
      wfProps rs (env.push rs sc.base sc.lang) 0 st1 props = some st' := by
  simp only [wfNode] at h
  split at h
  · rename_i hc
    split at h
    · cases h
    · rename_i st1 hs
      exact ⟨by simpa using hc, st1, hs, h⟩
  · cases h

theorem wfProps_cons_inv {p : PProp} {ps : List PProp}
    (h : wfProps rs env li st (p :: ps) = some st') :
    ∃ li1 st1, wfProp rs env li st p = some (li1, st1) ∧ wfProps rs env li1 st1 ps = some st' := by
  simp only [wfProps] at h
  split at h
  · cases h
  · rename_i li1 st1 hp
    exact ⟨li1, st1, hp, h⟩

theorem wfNodes_cons_inv {n : PNode} {ns : List PNode}
    (h : wfNodes rs env st (n :: ns) = some st') :
    ∃ st1, wfNode rs env st n = some st1 ∧ wfNodes rs env st1 ns = some st' := by
  simp only [wfNodes] at h
  split at h
  · cases h
  · rename_i st1 hn
    exact ⟨st1, hn, h⟩

theorem wfColl_cons_inv {c : Nat} {cs : List Nat} {n : PNode} {ns : List PNode}
    (h : wfColl rs env st (c :: cs) (n :: ns) = some st') :
    c = st.next ∧ ∃ st1, wfNode rs env { st with next := st.next + 1 } n = some st1 ∧ wfColl rs env st1 cs ns = some st' := by
  simp only [wfColl] at h
  split at h
  · rename_i hc
    split at h
    · cases h
    · rename_i st1 hn
      exact ⟨hc, st1, hn, h⟩
  · cases h

/-! `wfProp` read backwards for the four productions that go on after `wfId`; the others are a guard and `wfId`
    (`if_map_pair_some`). -/

theorem wfProp_node_inv {n : PNode} (h : wfProp rs env li st (.node sc nm id n) = some (li', st')) :
    wfName li nm = true ∧ li' = nm.nextLi li ∧ ∃ st0, wfId rs (env.push rs sc.base sc.lang) id st = some st0 ∧
      wfNode rs (env.push rs sc.base sc.lang) st0 n = some st' := by
  simp only [wfProp] at h
  split at h
  · rename_i hn
    split at h
    · cases h
    · rename_i st0 hid
      obtain ⟨hnode, rfl⟩ := map_pair_some h
      exact ⟨hn, rfl, st0, hid, hnode⟩
  · cases h

theorem wfProp_ptRes_inv {k : Nat} {props : List PProp} (h : wfProp rs env li st (.ptRes sc nm id k props) = some (li', st')) :
    wfName li nm = true ∧ li' = nm.nextLi li ∧ ∃ st0, wfId rs (env.push rs sc.base sc.lang) id st = some st0 ∧
      k = st0.next ∧ wfProps rs (env.push rs sc.base sc.lang) 0 { st0 with next := st0.next + 1 } props = some st' := by
  simp only [wfProp] at h
  split at h
  · rename_i hn
    split at h
    · cases h
    · rename_i st0 hid
      obtain ⟨hk, hprops, rfl⟩ := if_map_pair_some h
      exact ⟨hn, rfl, st0, hid, hk, hprops⟩
  · cases h

theorem wfProp_ptColl_inv {cells : List Nat} {items : List PNode} (h : wfProp rs env li st (.ptColl sc nm id cells items) = some (li', st')) :
    wfName li nm = true ∧ li' = nm.nextLi li ∧ ∃ st0, wfId rs (env.push rs sc.base sc.lang) id st = some st0 ∧
      wfColl rs (env.push rs sc.base sc.lang) st0 cells items = some st' := by
  simp only [wfProp] at h
  split at h
  · rename_i hn
    split at h
    · cases h
    · rename_i st0 hid
      obtain ⟨hcoll, rfl⟩ := map_pair_some h
      exact ⟨hn, rfl, st0, hid, hcoll⟩
  · cases h

theorem wfProp_banon_inv {k : Nat} {dt : Option Str} {pattrs : List PAttr} (h : wfProp rs env li st (.banon sc nm id k dt pattrs) = some (li', st')) :
    (wfName li nm = true ∧ (dt.isSome = true ∨ pattrs ≠ []) ∧ wfPAttrs rs (env.push rs sc.base sc.lang) pattrs = true) ∧
    li' = nm.nextLi li ∧ ∃ st0, wfId rs (env.push rs sc.base sc.lang) id st = some st0 ∧
      k = st0.next ∧ st' = { st0 with next := st0.next + 1 } := by
  simp only [wfProp] at h
  split at h
  · rename_i hc
    simp only [Bool.and_eq_true, Bool.or_eq_true, Bool.not_eq_true', List.isEmpty_eq_false_iff] at hc
    split at h
    · cases h
    · rename_i st0 hid
      split at h
      · rename_i hk
        simp only [Option.some.injEq, Prod.mk.injEq] at h
        exact ⟨⟨hc.1.1, hc.1.2, hc.2⟩, h.1.symm, st0, hid, hk, h.2.symm⟩
      · cases h
  · cases h

end

mutual

theorem nodeElt_render : ∀ (n : PNode) (env : Env) (st st' : St), wfNode rs env st n = some st' →
    nodeElt rs env (renderNode n) st = .ok (n.subj, flatNode n, st')
  | .mk sc subj typ pattrs props, env, st, st', h => by
    obtain ⟨⟨htyp, hpa⟩, st1, hs, h⟩ := wfNode_inv h
    obtain ⟨ht1, ht2⟩ := wfTyp_facts subj.term typ htyp
    obtain ⟨f1, f2, f3, f4, f5, f6, f7, f8⟩ := Subj.info_fields sc (pattrs.map PAttr.render) subj
    have hsub := wfSubj_subjectOf rs _ sc (pattrs.map PAttr.render) subj st st1 hs
    have hpl := propList_render props (env.push rs sc.base sc.lang) subj.term 0 st1 st' h
    simp only [renderNode, nodeElt]
    rw [info_stdAttrs _ (by rw [f1]; exact wfPAttrs_isProp rs _ pattrs hpa) f2 f3]
    simp only [ht1, if_false, f1, f2, f3, f4, f5, f6, f7, f8, hsub, hpl, ht2,
      wfPAttrs_triples rs _ subj.term pattrs hpa]
    simp [PNode.subj, flatNode]

theorem propList_render : ∀ (ps : List PProp) (env : Env) (s : Term BN) (li : Nat) (st st' : St),
    wfProps rs env li st ps = some st' →
    propList rs env s (renderProps ps) li st = .ok (flatProps s ps, st')
  | [], env, s, li, st, st', h => by
    simp only [wfProps, Option.some.injEq] at h
    simp [renderProps, propList, flatProps, h]
  | p :: ps, env, s, li, st, st', h => by
    obtain ⟨li1, st1, hp, h⟩ := wfProps_cons_inv h
    have h1 := propElt_render p env s li st li1 st1 hp
    have h2 := propList_render ps env s li1 st1 st' h
    simp only [renderProps, propList, h1, h2, flatProps]

theorem propElt_render : ∀ (p : PProp) (env : Env) (s : Term BN) (li : Nat) (st : St) (li' : Nat) (st' : St),
    wfProp rs env li st p = some (li', st') →
    propElt rs env s (renderProp p) li st = .ok (flatProp s p, li', st')
  | .lit sc nm id lex lang, env, s, li, st, li', st', h => by
    simp only [wfProp] at h
    obtain ⟨hc, hid, rfl⟩ := if_map_pair_some h
    simp only [Bool.and_eq_true, decide_eq_true_eq, ne_eq, decide_not, Bool.not_eq_true',
      decide_eq_false_iff_not] at hc
    obtain ⟨⟨hn, hlex⟩, hlang⟩ := hc
    obtain ⟨hn1, hn2, hn3⟩ := wfName_facts li nm hn
    have hoid := wfId_optId rs _ id st st' hid
    simp only [renderProp, propElt]
    rw [info_stdAttrs _ (by simp) rfl rfl]
    simp only [hn1, if_false, hn2, hn3, hoid]
    cases lex with
    | nil => exact absurd rfl hlex
    | cons c cs => simp [textOnly, flatProp, hlang]
  | .typed sc nm id lex dt ref, env, s, li, st, li', st', h => by
    simp only [wfProp] at h
    obtain ⟨hc, hid, rfl⟩ := if_map_pair_some h
    simp only [Bool.and_eq_true, decide_eq_true_eq, ne_eq, decide_not, Bool.not_eq_true',
      decide_eq_false_iff_not] at hc
    obtain ⟨⟨⟨⟨hn, hlex⟩, hdt⟩, hnl⟩, hnd⟩ := hc
    obtain ⟨hn1, hn2, hn3⟩ := wfName_facts li nm hn
    have hoid := wfId_optId rs _ id st st' hid
    simp only [renderProp, propElt]
    rw [info_stdAttrs _ (by simp) rfl rfl]
    simp only [hn1, if_false, hn2, hn3, hoid]
    cases lex with
    | nil => exact absurd rfl hlex
    | cons c cs => simp [textOnly, flatProp, hdt, hnl, hnd]
  | .empty sc nm id lang, env, s, li, st, li', st', h => by
    simp only [wfProp] at h
    obtain ⟨hc, hid, rfl⟩ := if_map_pair_some h
    simp only [Bool.and_eq_true, decide_eq_true_eq] at hc
    obtain ⟨hn, hlang⟩ := hc
    obtain ⟨hn1, hn2, hn3⟩ := wfName_facts li nm hn
    have hoid := wfId_optId rs _ id st st' hid
    simp only [renderProp, propElt]
    rw [info_stdAttrs _ (by simp) rfl rfl]
    simp only [hn1, if_false, hn2, hn3, hoid]
    simp [textOnly, flatProp, hlang]
  | .res sc nm id iri ref pattrs, env, s, li, st, li', st', h => by
    simp only [wfProp] at h
    obtain ⟨hc, hid, rfl⟩ := if_map_pair_some h
    simp only [Bool.and_eq_true, decide_eq_true_eq] at hc
    obtain ⟨⟨hn, href⟩, hpa⟩ := hc
    obtain ⟨hn1, hn2, hn3⟩ := wfName_facts li nm hn
    have hoid := wfId_optId rs _ id st st' hid
    simp only [renderProp, propElt]
    rw [info_stdAttrs _ (wfPAttrs_isProp rs _ pattrs hpa) rfl rfl]
    simp only [hn1, if_false, hn2, hn3, hoid]
    simp [textOnly, flatProp, emptyObj, href, wfPAttrs_triples rs _ _ pattrs hpa]
  | .bref sc nm id l pattrs, env, s, li, st, li', st', h => by
    simp only [wfProp] at h
    obtain ⟨hc, hid, rfl⟩ := if_map_pair_some h
    simp only [Bool.and_eq_true] at hc
    obtain ⟨⟨hn, hl⟩, hpa⟩ := hc
    obtain ⟨hn1, hn2, hn3⟩ := wfName_facts li nm hn
    have hoid := wfId_optId rs _ id st st' hid
    simp only [renderProp, propElt]
    rw [info_stdAttrs _ (wfPAttrs_isProp rs _ pattrs hpa) rfl rfl]
    simp only [hn1, if_false, hn2, hn3, hoid]
    simp [textOnly, flatProp, emptyObj, hl, wfPAttrs_triples rs _ _ pattrs hpa]
  | .banon sc nm id n dt pattrs, env, s, li, st, li', st', h => by
    obtain ⟨⟨hn, hne, hpa⟩, rfl, st0, hid, rfl, rfl⟩ := wfProp_banon_inv h
    obtain ⟨hn1, hn2, hn3⟩ := wfName_facts li nm hn
    have hoid := wfId_optId rs _ id st st0 hid
    simp only [renderProp, propElt]
    rw [info_stdAttrs _ (wfPAttrs_isProp rs _ pattrs hpa) rfl rfl]
    simp only [hn1, if_false, hn2, hn3, hoid]
    simp [textOnly, flatProp, emptyObj, wfPAttrs_triples rs _ _ pattrs hpa]
    -- left: the grammar's test for the attribute-free empty element; `wfProp` asks for rdf:datatype or a property attribute
    intro hd hp
    subst hd hp
    simp at hne
  | .node sc nm id n, env, s, li, st, li', st', h => by
    obtain ⟨hn, rfl, st0, hid, hnd⟩ := wfProp_node_inv h
    obtain ⟨hn1, hn2, hn3⟩ := wfName_facts li nm hn
    have hoid := wfId_optId rs _ id st st0 hid
    have hne := nodeElt_render n (env.push rs sc.base sc.lang) st0 st' hnd
    have hrk := resKids_single rs _ n st0 st' _ _ hne
    simp only [renderProp, propElt]
    rw [info_stdAttrs _ (by simp) rfl rfl]
    simp only [hn1, if_false, hn2, hn3, hoid, textOnly_renderNode, hrk]
    simp [flatProp]
  | .ptRes sc nm id n props, env, s, li, st, li', st', h => by
    obtain ⟨hn, rfl, st0, hid, rfl, hps⟩ := wfProp_ptRes_inv h
    obtain ⟨hn1, hn2, hn3⟩ := wfName_facts li nm hn
    have hoid := wfId_optId rs _ id st st0 hid
    have hpl := propList_render props (env.push rs sc.base sc.lang) (.bnode (.gen st0.next)) 0 _ st' hps
    simp only [renderProp, propElt]
    rw [info_stdAttrs _ (by simp) rfl rfl]
    simp only [hn1, if_false, hn2, hn3, hoid]
    simp [flatProp, hpl]
  | .ptColl sc nm id cells items, env, s, li, st, li', st', h => by
    obtain ⟨hn, rfl, st0, hid, hcl⟩ := wfProp_ptColl_inv h
    obtain ⟨hn1, hn2, hn3⟩ := wfName_facts li nm hn
    have hoid := wfId_optId rs _ id st st0 hid
    have hck := collKids_render cells items (env.push rs sc.base sc.lang) s nm.pred st0 st' hcl
    simp only [renderProp, propElt]
    rw [info_stdAttrs _ (by simp) rfl rfl]
    simp only [hn1, if_false, hn2, hn3, hoid]
    have hne : n_Collection ≠ n_Resource := by decide
    simp [flatProp, hck, hne]
  | .ptLit sc nm id pt content, env, s, li, st, li', st', h => by
    simp only [wfProp] at h
    obtain ⟨hc, hid, rfl⟩ := if_map_pair_some h
    simp only [Bool.and_eq_true, ne_eq, decide_not, Bool.not_eq_true',
      decide_eq_false_iff_not] at hc
    obtain ⟨⟨hn, hp1⟩, hp2⟩ := hc
    obtain ⟨hn1, hn2, hn3⟩ := wfName_facts li nm hn
    have hoid := wfId_optId rs _ id st st' hid
    simp only [renderProp, propElt]
    rw [info_stdAttrs _ (by simp) rfl rfl]
    simp only [hn1, if_false, hn2, hn3, hoid]
    simp [rawOnly, flatProp, hp1, hp2]

theorem collKids_render : ∀ (cells : List Nat) (items : List PNode) (env : Env) (s : Term BN) (p : Str)
    (st st' : St), wfColl rs env st cells items = some st' →
    collKids rs env s p (renderNodes items) st = .ok (flatColl s p cells items, st')
  | [], [], env, s, p, st, st', h => by
    simp only [wfColl, Option.some.injEq] at h
    simp [renderNodes, collKids, flatColl, h]
  | c :: cs, [], env, s, p, st, st', h => by simp [wfColl] at h
  | [], n :: ns, env, s, p, st, st', h => by simp [wfColl] at h
  | c :: cs, n :: ns, env, s, p, st, st', h => by
    obtain ⟨rfl, st1, hnd, h⟩ := wfColl_cons_inv h
    have hne := nodeElt_render n env _ st1 hnd
    have hck := collKids_render cs ns env (.bnode (.gen st.next)) rdfRest st1 st' h
    cases n
    simp only [renderNode] at hne
    simp only [renderNodes, renderNode, collKids, hne, hck, flatColl]

end

end RdfModel.RX
