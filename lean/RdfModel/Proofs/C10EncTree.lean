/-
  `GR props groups` relates the `graphProperties` map of `buildResource` (member name ↦ JSON values) to
  the groups of the expected tree (member name ↦ predicate, value trees): same names in the same order,
  each name classifies as its predicate (`KeyOK`), each JSON value evaluates to the denotation of its
  tree (`ValRel`). `GR` is preserved by filing one more statement (`GR_step`), and a related pair
  evaluates under `evalMembers` to `denGroups` (`evalMembers_props`).
-/
import RdfModel.Proofs.C10EncDoc
namespace RdfModel.Proofs.C10
open RdfModel RdfModel.Desc RdfModel.JL RdfModel.JLEnc RdfModel.C10

variable {β : Type}

inductive F2 {α γ : Type} (R : α → γ → Prop) : List α → List γ → Prop where
  | nil : F2 R [] []
  | cons {a : α} {b : γ} {l₁ : List α} {l₂ : List γ} : R a b → F2 R l₁ l₂ → F2 R (a :: l₁) (b :: l₂)

/-- `j` is no array: a value that `propMembers` may write as the only one of its member -/
def notArr (j : Json) : Prop := ∀ xs, j ≠ .arr xs

/-- the member name `k` stands for the predicate `p` -/
def KeyOK (c : Ctx) (k p : Str) : Prop :=
  if k = kType then p = rdfType else classifyKey c k = .prop p TermDef.plain

/-- the JSON value `j`, filed under `k`, is read as the tree `t` (a value of `p`) -/
def ValRel (label : β → Str) (c : Ctx) (k p : Str) (j : Json) (t : Tree β) : Prop :=
  j.wf = true ∧
  if k = kType then ∃ ts v, j = .str ts ∧ t = .term (.iri v) ∧ nodeRef (expandIri c true true ts) = some (.iri v)
  else notArr j ∧ ∀ g s n, evalItem c TermDef.plain g s p j n = some (denVal label g s p t n)

/-- one entry of the property map against one group: same member name, which stands for the group's
    predicate; at least one value; the values are read as the group's trees, one by one -/
def GroupRel (label : β → Str) (c : Ctx) (pj : Str × List Json) (gr : Str × Str × List (Tree β)) : Prop :=
  pj.1 = gr.1 ∧ KeyOK c gr.1 gr.2.1 ∧ pj.2 ≠ [] ∧ F2 (ValRel label c gr.1 gr.2.1) pj.2 gr.2.2

def GR (label : β → Str) (c : Ctx) (props : List (Str × List Json)) (groups : List (Str × Str × List (Tree β))) : Prop :=
  F2 (GroupRel label c) props groups

theorem keyOK_unique {c : Ctx} {k p p' : Str} (h : KeyOK c k p) (h' : KeyOK c k p') : p = p' := by
  unfold KeyOK at h h'
  by_cases hk : k = kType
  · rw [if_pos hk] at h h'; rw [h, h']
  · rw [if_neg hk] at h h'
    rw [h] at h'
    injection h' with h1 _

theorem F2.snoc {α γ : Type} {R : α → γ → Prop} {l₁ : List α} {l₂ : List γ} {a : α} {b : γ}
    (h : F2 R l₁ l₂) (hab : R a b) : F2 R (l₁ ++ [a]) (l₂ ++ [b]) := by
  induction h with
  | nil => exact .cons hab .nil
  | cons h1 _ ih => exact .cons h1 ih

theorem GR_step (label : β → Str) (c : Ctx) {props : List (Str × List Json)} {groups : List (Str × Str × List (Tree β))}
    (h : GR label c props groups) {k p : Str} {j : Json} {t : Tree β} (hk : KeyOK c k p)
    (hv : ValRel label c k p j t) :
    GR label c (addProp props k j) (alUpd (p, []) (fun x => (x.1, x.2 ++ [t])) groups k) := by
  unfold addProp
  induction h with
  | nil =>
    simp only [alUpd]
    exact .cons ⟨rfl, hk, by simp, F2.cons hv .nil⟩ .nil
  | @cons pj gr props' groups' hg _ ih =>
    obtain ⟨pk, pvs⟩ := pj
    obtain ⟨gk, gp, gts⟩ := gr
    obtain ⟨h1, h2, h3, h4⟩ := hg
    simp only at h1 h2 h3 h4
    subst h1
    simp only [alUpd]
    by_cases hkk : pk = k
    · subst hkk
      have hp : p = gp := keyOK_unique hk h2
      subst hp
      simp only [if_true]
      exact .cons ⟨rfl, h2, by simp, h4.snoc hv⟩ ‹_›
    · simp only [if_neg hkk]
      exact .cons ⟨rfl, h2, h3, h4⟩ ih

theorem andThen_some (r : List Q × Nat) (f : Nat → Option (List Q × Nat)) :
    andThen (some r) f = (f r.2).map (fun x => (r.1 ++ x.1, x.2)) := by
  obtain ⟨q, m⟩ := r
  simp only [andThen]
  cases f m with
  | none => rfl
  | some x => obtain ⟨a, b⟩ := x; rfl

theorem evalItems_rel (label : β → Str) (c : Ctx) {k p : Str} (hk : k ≠ kType) {js : List Json} {ts : List (Tree β)}
    (h : F2 (ValRel label c k p) js ts) (g : Option T) (s : T) (n : Nat) :
    evalItems c TermDef.plain g s p js n = some (denVals label g s p ts n) := by
  induction h generalizing n with
  | nil => simp [evalItems, denVals]
  | @cons j t js' ts' hjt _ ih =>
    have hv := hjt.2
    rw [if_neg hk] at hv
    simp only [evalItems, hv.2 g s n, andThen_some, ih, denVals, Option.map_some]

theorem evalTypes_str (c : Ctx) (ts : Str) : evalTypes c (.str ts) = (nodeRef (expandIri c true true ts)).map fun t => [t] := by
  simp [evalTypes]

theorem evalTypes_cons (c : Ctx) (ts : Str) (js : List Json) {b : T} {bs : List T}
    (h1 : nodeRef (expandIri c true true ts) = some b) (h2 : evalTypes c (.arr js) = some bs) :
    evalTypes c (.arr (.str ts :: js)) = some (b :: bs) := by
  simp only [evalTypes] at h2 ⊢
  simp only [mapOpt, h1, h2]

theorem types_rel (label : β → Str) (c : Ctx) {p : Str} {js : List Json} {ts : List (Tree β)}
    (h : F2 (ValRel label c kType p) js ts) (g : Option T) (s : T) (n : Nat) :
    ∃ terms, evalTypes c (.arr js) = some terms ∧
      denVals label g s rdfType ts n = (terms.map fun t => quad s rdfType t g, n) := by
  induction h with
  | nil => exact ⟨[], by simp [evalTypes, mapOpt], by simp [denVals]⟩
  | @cons j t js' ts' hjt _ ih =>
    obtain ⟨terms, h1, h2⟩ := ih
    have hv := hjt.2
    rw [if_pos rfl] at hv
    obtain ⟨tstr, v, rfl, rfl, hn⟩ := hv
    refine ⟨.iri v :: terms, ?_, ?_⟩
    · exact evalTypes_cons c tstr js' hn h1
    · simp [denVals, denVal, h2, outTerm, Term.map]

theorem propMembers_cons (pk : Str) (v : Json) (vs : List Json) (props : List (Str × List Json)) :
    propMembers ((pk, v :: vs) :: props) = (pk, if vs = [] then v else .arr (v :: vs)) :: propMembers props := by
  cases vs <;> simp [propMembers]

theorem member_eval (label : β → Str) (c : Ctx) {pj : Str × List Json} {gr : Str × Str × List (Tree β)}
    (h : GroupRel label c pj gr) (props : List (Str × List Json)) (g : Option T) (s : T) (dflt : Bool) (n : Nat)
    (rest : List (Str × Json)) :
    evalMembers c g s dflt (propMembers (pj :: props) ++ rest) n =
      andThen (some (denVals label g s gr.2.1 gr.2.2 n)) (fun n1 => evalMembers c g s dflt (propMembers props ++ rest) n1) := by
  obtain ⟨pk, pvs⟩ := pj
  obtain ⟨gk, gp, gts⟩ := gr
  obtain ⟨h1, h2, h3, h4⟩ := h
  simp only at h1 h2 h3 h4
  subst h1
  unfold KeyOK at h2
  cases h4 with
  | nil => exact absurd rfl h3
  | @cons j t js' ts' hjt hrest =>
    cases hrest with
    | nil =>
      rw [propMembers_cons, if_pos rfl, List.cons_append]
      have hv := hjt.2
      by_cases hk : pk = kType
      · subst hk
        rw [if_pos rfl] at hv h2
        obtain ⟨tstr, v, rfl, rfl, hn⟩ := hv
        subst h2
        -- `eq_4`: the value, a string, is neither an array nor an object (numbering: Proofs/C10Flat)
        rw [evalMembers.eq_4 _ _ _ _ _ _ _ _ (by intro xs e; cases e) (by intro ms e; cases e), classifyKey_type]
        simp [typeQuads, evalTypes_str, hn, denVals, denVal, outTerm, Term.map]
      · rw [if_neg hk] at hv h2
        have hd : denVals label g s gp [t] n = denVal label g s gp t n := by
          simp [denVals]
        rw [hd, ← hv.2 g s n]
        have hplain : (TermDef.plain.cont = Container.list) = False := by simp [TermDef.plain]
        have hplain2 : (TermDef.plain.cont = Container.language) = False := by simp [TermDef.plain]
        -- `evalMembers` on the value: an array is excluded, an object is `eq_3`, the rest `eq_4`
        cases j with
        | arr xs => exact absurd rfl (hv.1 xs)
        | obj ms' =>
          rw [evalMembers.eq_3, h2]
          simp [hplain, hplain2]
        | _ => rw [evalMembers.eq_4 _ _ _ _ _ _ _ _ (by intro xs e; cases e) (by intro ms e; cases e), h2]; simp [hplain]
    | @cons j2 t2 js'' ts'' hjt2 hrest2 =>
      -- several values: the member's value is the array (`eq_2`)
      rw [propMembers_cons, if_neg (List.cons_ne_nil _ _), List.cons_append, evalMembers.eq_2]
      have hall : F2 (ValRel label c pk gp) (j :: j2 :: js'') (t :: t2 :: ts'') := .cons hjt (.cons hjt2 hrest2)
      by_cases hk : pk = kType
      · subst hk
        rw [if_pos rfl] at h2
        subst h2
        obtain ⟨terms, e1, e2⟩ := types_rel label c hall g s n
        rw [classifyKey_type]
        simp only [typeQuads, e1, Option.map_some, e2]
      · rw [if_neg hk] at h2
        have hplain : (TermDef.plain.cont = Container.list) = False := by simp [TermDef.plain]
        rw [h2]
        simp only [hplain, if_false, evalItems_rel label c hk hall g s n]

theorem evalMembers_props (label : β → Str) (c : Ctx) {props : List (Str × List Json)}
    {groups : List (Str × Str × List (Tree β))} (h : GR label c props groups) (g : Option T) (s : T) (dflt : Bool)
    (rest : List (Str × Json)) (n : Nat) :
    evalMembers c g s dflt (propMembers props ++ rest) n =
      andThen (some (denGroups label g s (groups.map (·.2)) n)) (fun n1 => evalMembers c g s dflt rest n1) := by
  induction h generalizing n with
  | nil =>
    simp only [propMembers, List.filterMap_nil, List.nil_append, List.map_nil, denGroups, andThen_some]
    cases evalMembers c g s dflt rest n with
    | none => rfl
    | some x => simp
  | @cons pj gr props' groups' hg _ ih =>
    rw [member_eval label c hg props' g s dflt n rest]
    obtain ⟨gk, gp, gts⟩ := gr
    simp only [List.map_cons, denGroups, andThen_some, ih]
    cases evalMembers c g s dflt rest (denGroups label g s (List.map (fun x => x.2) groups') (denVals label g s gp gts n).2).2 with
    | none => rfl
    | some r => simp [List.append_assoc]

end RdfModel.Proofs.C10
