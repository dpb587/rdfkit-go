/-
  The prefix flag of the definition Create Term Definition STORES is the one of steps 14.2.5 and 25
  evaluated on the inputs (link between `prefix_flag_spec` / `prefix_entry_spec` and the model's `ctdBody`).
-/
import RdfModel.Model.JsonLdContext
namespace RdfModel.JLC
open RdfModel RdfModel.JL

variable {P : Type}

theorem Res.bind_eq_ok {α β : Type} {r : Res P α} {f : α → St P → Res P β} {b : β} {s' : St P}
    (h : r.bind f = .ok b s') : ∃ a s, r = .ok a s ∧ f a s = .ok b s' := by
  cases r <;> simp [Res.bind] at h
  exact ⟨_, _, rfl, h⟩

theorem mget_mset_self {α : Type} (k : Str) (v : α) : ∀ (m : List (Str × α)), mget k (mset k v m) = some v
  | [] => by simp [mset, mget]
  | (k0, v0) :: r => by
    have ih := mget_mset_self k v r
    simp only [mset]
    split
    · simp [mget, List.lookup]
    · split
      · simp [mget, List.lookup]
      · rename_i hne _
        have : (k == k0) = false := by simpa using hne
        simp only [mget, List.lookup, this]
        simpa [mget] using ih

/-- a fact about the value of an `ok` outcome -/
def Res.Val {α : Type} (Q : α → Prop) : Res P α → Prop
  | .ok a _ => Q a
  | _ => True

theorem Res.Val.bind {α β : Type} {Q : β → Prop} {r : Res P α} {f : α → St P → Res P β}
    (hf : ∀ a s, (f a s).Val Q) : (r.bind f).Val Q := by
  cases r <;> first | exact hf _ _ | trivial

theorem Res.Val.of_ok {α : Type} {Q : α → Prop} {r : Res P α} {a : α} {s : St P} (h : r.Val Q) (e : r = .ok a s) : Q a := by
  rw [e] at h; exact h

/-- the prefix flag steps 14–18 leave behind: the one of step 14.2.5 for a definition with an `@id` string other
    than the term; `false` otherwise (`@id` null or equal to the term, no `@id`: steps 14.1, 15–18) -/
def basePfx (mode : Mode) (term : Str) (vo : List (Str × Json)) (simple : Bool) (iri : SIri) : Bool :=
  match getKey kId vo with
  | some (.str i) => if i == term then false else prefixFlag145 mode term simple iri
  | _ => false

/-- a forward walk; steps 15–18 (no usable `@id`) are reached in two ways -/
theorem iriStep_val (mode : Mode) (expand : St P → Str → Bool → Res P SIri) (ctdCb : St P → Str → Res P Unit)
    (loc : List (Str × Json)) (term : Str) (vo : List (Str × Json)) (simple : Bool) (tm : Option SIri) (st : St P)
    (hi : ∀ i, getKey kId vo = some (.str i) → i ≠ term → isKeyword i = true ∨ isKeywordForm i = false) :
    (iriStep mode expand ctdCb loc term vo simple tm st).Val
      fun ipo => ∃ ip, ipo = some ip ∧ ip.pfx = basePfx mode term vo simple ip.iri := by
  have walk : (getKey kId vo = none ∨ ∃ i, getKey kId vo = some (.str i) ∧ (i == term) = true) →
      (iriStep mode expand ctdCb loc term vo simple tm st).Val
        fun ipo => ∃ ip, ipo = some ip ∧ ip.pfx = basePfx mode term vo simple ip.iri := by
    intro hid
    unfold iriStep basePfx
    rcases hid with hid | ⟨i, hid, heq⟩ <;> simp only [*, if_true]
    -- both ways lead to the branch `idv = none` of `iriStep`, where `basePfx` is `false`; its steps in
    -- order: every `ok` leaf stores `pfx := false` (`⟨_, rfl, rfl⟩`), every other leaf is an error (`trivial`)
    all_goals
      split  -- 15: has the term a non-empty part before a colon?
      · refine .bind fun _ s => ?_  -- 15.1: that part is defined first
        split
        · split <;> first | exact ⟨_, rfl, rfl⟩ | trivial  -- it is a term: its IRI mapping, or `plainPrefixType`
        · split <;> exact ⟨_, rfl, rfl⟩  -- it is none: a blank node identifier or the term itself
      · split  -- 16: a slash in the term
        · refine .bind fun e s => ?_
          split <;> first | exact ⟨_, rfl, rfl⟩ | trivial  -- the expansion is an IRI, or `invalidIRIMapping`
        · split  -- 17: `@type`
          · exact ⟨_, rfl, rfl⟩
          · split <;> first | exact ⟨_, rfl, rfl⟩ | trivial  -- 18: the vocabulary mapping, or none
  cases hid : getKey kId vo with
  | none => exact walk (.inl hid)
  | some j =>
    cases j with
    | str i =>
      by_cases he : (i == term) = true
      · exact walk (.inr ⟨i, hid, he⟩)
      · have hi' : (!isKeyword i && isKeywordForm i) = false := by
          rcases hi i hid (by simpa using he) with h | h <;> simp [h]
        unfold iriStep basePfx
        simp only [hid, he, hi', Bool.false_eq_true, if_false]
        -- 14.2: after the expansion either `bad` (an error) or, past the check of 14.2.4, the flag of 14.2.5
        refine .bind fun e s => ?_
        split
        · trivial
        · exact .bind fun _ _ => ⟨_, rfl, rfl⟩
    | null => unfold iriStep basePfx; simp only [hid]; exact ⟨_, rfl, rfl⟩
    | _ => unfold iriStep; simp only [hid]; trivial

/-- steps 22–26 as one `Except` block: when it succeeds the prefix step succeeded with that flag -/
theorem rest_ok {A B C : Type} (x : Except Err A) (y : Except Err B) (z : Except Err C) (w : Except Err Bool)
    (u : Except Err Unit) (a : A) (b : B) (c : C) (p : Bool)
    (h : (do
      let a ← x
      let b ← y
      let c ← z
      let p ← w
      u
      pure (a, b, c, p)) = Except.ok (a, b, c, p)) : w = .ok p := by
  cases x <;> cases y <;> cases z <;> cases w <;> cases u <;>
    simp [bind, Except.bind, pure, Except.pure] at h
  simp [h.2.2.2]

theorem equals_pfx_iri {d pd : TermDef} (h : d.equals pd = true) : pd.iri = d.iri ∧ pd.pfx = d.pfx := by
  unfold TermDef.equals at h
  simp only [Bool.and_eq_true, beq_iff_eq] at h
  -- `TermDef.equals` is eleven tests joined by `&&` (associated to the left); `iri` and `pfx` are the first
  -- two, so the innermost pair
  exact ⟨h.1.1.1.1.1.1.1.1.1.1.symm, h.1.1.1.1.1.1.1.1.1.2.symm⟩

theorem isKeywordForm_kType : isKeywordForm kType = true := by decide

theorem prefix_flag_stored_aux (mode : Mode) (expand : St P → Str → Bool → Res P SIri) (ctdCb : St P → Str → Res P Unit)
    (nested : Context P → Json → Out (Context P)) (loc : List (Str × Json)) (st st' : St P) (term : Str)
    (baseStr : Option Str) (prot ov : Bool)
    (h : ctdBody mode expand ctdCb nested loc st term baseStr prot ov = .ok () st')
    (hnew : mget term st.defined = none) (hkf : isKeywordForm term = false)
    (value : Json) (vo : List (Str × Json)) (simple : Bool)
    (hv : getKey term loc = some value) (hn : normalizeValue value = .ok (vo, simple))
    (hrev : getKey kReverse vo = none)
    (hi : ∀ i, getKey kId vo = some (.str i) → i ≠ term → isKeyword i = true ∨ isKeywordForm i = false) :
    ∃ d, mget term st'.ctx.core.terms = some d ∧
      prefixStep mode term vo d.iri (basePfx mode term vo simple d.iri) = .ok d.pfx := by
  unfold ctdBody at h
  have hty : (term == kType) = false := by
    cases hk : term == kType with
    | false => rfl
    | true =>
      have : term = kType := by simpa using hk
      rw [this, isKeywordForm_kType] at hkf
      simp at hkf
  simp only [hnew, hv, hty, hkf, hn, hrev, Bool.false_eq_true, if_false] at h
  split at h
  · simp at h
  by_cases hk : isKeyword term = true
  · simp [hk] at h
  simp only [hk, Bool.false_eq_true, if_false] at h
  split at h
  · simp at h
  obtain ⟨tm, s1, _, h⟩ := Res.bind_eq_ok h
  obtain ⟨ipo, s2, hip, h⟩ := Res.bind_eq_ok h
  obtain ⟨ip, rfl, hpf⟩ := (iriStep_val mode expand ctdCb loc term vo simple tm.1 s1 hi).of_ok hip
  simp only at h
  split at h
  · simp at h
  split at h
  · simp at h
  obtain ⟨index, s3, _, h⟩ := Res.bind_eq_ok h
  obtain ⟨cx, s4, _, h⟩ := Res.bind_eq_ok h
  split at h
  · simp at h
  rename_i language direction nest pfx hrest
  have hps := rest_ok _ _ _ _ _ _ _ _ _ hrest
  split at h
  · simp at h
  rename_i d h27
  simp only [Res.ok.injEq, true_and] at h
  subst h
  refine ⟨d, mget_mset_self _ _ _, ?_⟩
  have hd : d.iri = ip.iri ∧ d.pfx = pfx := by
    split at h27
    · split at h27
      · split at h27
        · simp at h27
        · rename_i heq
          simp only [Except.ok.injEq] at h27
          subst h27
          have := equals_pfx_iri (by simpa using heq)
          exact this
      · simp only [Except.ok.injEq] at h27
        subst h27
        exact ⟨rfl, rfl⟩
    · simp only [Except.ok.injEq] at h27
      subst h27
      exact ⟨rfl, rfl⟩
  rw [hd.1, hd.2, ← hpf]
  exact hps

end RdfModel.JLC
