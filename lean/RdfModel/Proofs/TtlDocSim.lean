/-
  Statement layer of Turtle/TriG: the simulation behind C07 "every Turtle document is TriG".

  Over the iterations of `Next`'s loop (`iter`, `Reach`, `Accepts`: Proofs/TtlDocIter.lean), `Rel` relates
  a state of the Turtle run (`trig := false`) with a state of the TriG run (`trig := true`) on the same input:

    * `main`  same `rsNext`, same environment / statements / error, stacks equal up to the evaluation
              context of `Triples_End` frames (which never look at it), buffers equal up to the white
              space and comments `scan` skips anyway;
    * `tok`   Turtle has pushed `Triples_End` and is about to RE-SCAN the subject token through
              `Triples_Subject_*`; TriG has produced it already and is about to run `E1`;
    * `br`    after `[` in subject position (`Subject_AnonOrBlankNode` vs the `[` closure of trigDoc);
    * `pol`   Turtle runs `PredicateObjectList_Required` where TriG (`triples2`) runs the optional
              `PredicateObjectList` inside a subject `[ … ]`.

  Every Turtle iteration is answered by one or two TriG iterations (stuttering), unless the Turtle
  run is doomed to end with an error (`Doomed`), in which case nothing is claimed.
-/
import RdfModel.Proofs.TtlDocInv
import RdfModel.Proofs.TtlDocIter
namespace RdfModel.TtlDoc
open RdfModel

/-- the answers of `Next` that matter for a clean run: `true`, or `false` without an error -/
def Good : NextRes → Prop
  | .yes _ => True
  | .no s => s.err = none
  | _ => False

/-- from here `Next` can only end with an error (or a panic) -/
def Doomed (C : Cfg) (e : End) (cur : Option Frame) (st : St) : Prop := ∀ r, Reach C e cur st r → ¬ Good r

theorem doomed_err {C : Cfg} {e : End} {cur : Option Frame} {st : St} (h : st.err.isSome = true) :
    Doomed C e cur st := by
  intro r hr hg
  cases hr with
  | done hi =>
    rw [iter_of_err h] at hi
    injection hi with hi; subst hi
    simp [Good] at hg; simp [hg] at h
  | step hi _ => rw [iter_of_err h] at hi; cases hi

theorem doomed_step {C : Cfg} {e : End} {cur : Option Frame} {st : St} {c : Option Frame} {s : St}
    (hi : iter C e cur st = .cont c s) (hd : Doomed C e c s) : Doomed C e cur st := by
  intro r hr
  cases hr with
  | done hi' => rw [hi] at hi'; cases hi'
  | step hi' hr' =>
    rw [hi] at hi'
    injection hi' with h1 h2; subst h1; subst h2
    exact hd r hr'

theorem doomed_panic {C : Cfg} {e : End} {cur : Option Frame} {st : St}
    (hi : iter C e cur st = .done .panic) : Doomed C e cur st := by
  intro r hr
  cases hr with
  | done hi' => rw [hi] at hi'; injection hi' with h; subst h; simp [Good]
  | step hi' _ => rw [hi] at hi'; cases hi'

theorem doomed_of_scan_err {C : Cfg} {e : End} {f : Frame} {st : St} {k : EClass}
    (herr : st.err = none) (hs : st.stmts = []) (h : scanFn C e f st.inp st.env = .err k) :
    Doomed C e (some f) st := by
  refine doomed_step (c := none) (s := { st with err := some k }) ?_ (doomed_err rfl)
  rw [iter_cur C e f herr hs, h]

theorem skipWs_flag (C : Cfg) (b : Bool) (e : End) : ∀ bb i, skipWs { C with trig := b } e bb i = skipWs C e bb i := by
  intro bb i
  induction i generalizing bb with
  | nil => cases bb <;> rfl
  | cons c r ih =>
    cases bb
    · simp only [skipWs, isWs, ih]; rfl
    · simp only [skipWs, ih]

theorem stepFn_flag (C : Cfg) (b : Bool) (e : End) (k : Cont) (x : Ectx) (env : Env) (a : Arg)
    (hk : k ≠ .statement) : stepFn { C with trig := b } e k x env a = stepFn C e k x env a := by
  cases k <;> first | rfl | exact absurd rfl hk

theorem scanFn_flag (C : Cfg) (b : Bool) (e : End) (f : Frame) (inp : List Nat) (env : Env)
    (hk : f.k ≠ .statement) : scanFn { C with trig := b } e f inp env = scanFn C e f inp env := by
  unfold scanFn
  rw [skipWs_flag]
  split <;> simp [stepFn_flag C b e f.k f.x env _ hk]

/-- frames equal up to the evaluation context of `Triples_End`, which that function never reads -/
def FrameEq (f g : Frame) : Prop := f = g ∨ (f.k = .triplesEnd ∧ g.k = .triplesEnd)

theorem FrameEq.rfl' (f : Frame) : FrameEq f f := Or.inl rfl

inductive StackEq : List Frame → List Frame → Prop where
  | nil : StackEq [] []
  | cons {f g l l'} : FrameEq f g → StackEq l l' → StackEq (f :: l) (g :: l')

theorem StackEq.refl : ∀ l : List Frame, StackEq l l
  | [] => .nil
  | _ :: l => .cons (Or.inl rfl) (StackEq.refl l)

theorem StackEq.append_left : ∀ (p : List Frame) {l l' : List Frame}, StackEq l l' → StackEq (p ++ l) (p ++ l')
  | [], _, _, h => h
  | _ :: p, _, _, h => .cons (Or.inl rfl) (StackEq.append_left p h)

structure Main (C : Cfg) (e : End) (s t : St) : Prop where
  env : s.env = t.env
  stmts : s.stmts = t.stmts
  err : s.err = t.err
  stack : StackEq s.stack t.stack
  inp : skipWs C e false s.inp = skipWs C e false t.inp

theorem Main.refl (C : Cfg) (e : End) (s : St) : Main C e s s :=
  ⟨rfl, rfl, rfl, .refl _, rfl⟩

theorem Main.dropFirst {C : Cfg} {e : End} {s t : St} (hm : Main C e s t) : Main C e s.dropFirst t.dropFirst :=
  ⟨hm.env, by simp [St.dropFirst, hm.stmts], hm.err, hm.stack, hm.inp⟩

theorem stepFn_frameEq (C : Cfg) (e : End) {f g : Frame} (h : FrameEq f g) (hk : f.k ≠ .statement)
    (env : Env) (a : Arg) :
    stepFn { C with trig := false } e f.k f.x env a = stepFn { C with trig := true } e g.k g.x env a := by
  rcases h with rfl | ⟨h1, h2⟩
  · rw [stepFn_flag C false e f.k f.x env a hk, stepFn_flag C true e f.k f.x env a hk]
  · rw [h1, h2]; cases a <;> rfl

theorem scanFn_frameEq (C : Cfg) (e : End) {f g : Frame} (h : FrameEq f g) (hk : f.k ≠ .statement)
    {s t : St} (hm : Main C e s t) :
    scanFn { C with trig := false } e f s.inp s.env = scanFn { C with trig := true } e g t.inp t.env := by
  have h1 := skipWs_flag C false e false s.inp
  have h2 := skipWs_flag C true e false t.inp
  unfold scanFn
  rw [h1, h2, hm.inp, hm.env]
  cases skipWs C e false t.inp <;> simp [stepFn_frameEq C e h hk]

theorem Main.applyOut2 {C : Cfg} {e : End} {s t : St} (hm : Main C e s t) {o o' : Out} (hp : o.push = o'.push)
    (hi : o.inp = o'.inp) (hv : o.env = o'.env) (he : o.emit = o'.emit) (ht : o.term = o'.term) :
    Main C e (TtlDoc.applyOut s o) (TtlDoc.applyOut t o') := by
  refine ⟨hv, ?_, hm.err, ?_, by simp [TtlDoc.applyOut, hi]⟩
  · simp [TtlDoc.applyOut, hm.stmts, he]
  · simp only [TtlDoc.applyOut, hp, ht]
    split
    · exact .nil
    · exact StackEq.append_left _ hm.stack

theorem Main.applyOut {C : Cfg} {e : End} {s t : St} (hm : Main C e s t) (o : Out) :
    Main C e (applyOut s o) (applyOut t o) :=
  hm.applyOut2 rfl rfl rfl rfl rfl

theorem Main.pop {C : Cfg} {e : End} {s t : St} (hm : Main C e s t) (cur : Option Frame) :
    (popFrame cur s = none → popFrame cur t = none) ∧
    (∀ f s1, popFrame cur s = some (f, s1) →
      ∃ g t1, popFrame cur t = some (g, t1) ∧ FrameEq f g ∧ Main C e s1 t1) := by
  have hst := StackEq.append_left cur.toList hm.stack
  simp only [popFrame_none_iff, popFrame_iff]
  generalize cur.toList ++ t.stack = T at hst ⊢
  refine ⟨fun h => ?_, fun f s1 ⟨S, hfr, h1⟩ => ?_⟩
  · rw [h] at hst; cases hst; rfl
  · rw [hfr] at hst
    cases hst with
    | @cons _ g _ S' hab hl => exact ⟨g, _, ⟨S', rfl, rfl⟩, hab, h1 ▸ ⟨hm.env, hm.stmts, hm.err, hl, hm.inp⟩⟩

theorem Main.pushCur {C : Cfg} {e : End} {s t : St} (hm : Main C e s t) (cur : Option Frame) :
    Main C e (pushCur cur s) (pushCur cur t) := by
  cases cur with
  | none => exact hm
  | some f => exact ⟨hm.env, hm.stmts, hm.err, .cons (Or.inl rfl) hm.stack, hm.inp⟩

theorem Kind.term_flag (C : Cfg) (b : Bool) (e : End) (env : Env) (inp : List Nat) (K : Kind) :
    K.term { C with trig := b } e env inp = K.term C e env inp := by
  cases K <;> rfl

theorem Kind.term_ok_or_err {C : Cfg} {e : End} (hP : C.P.NoPanic) (env : Env) (inp : List Nat) (K : Kind) :
    (∃ v r env', K.term C e env inp = .ok v r env' ∧ nodeShape v) ∨ (∃ k, K.term C e env inp = .err k) := by
  have := K.term_ok (e := e) hP env inp
  cases h : K.term C e env inp with
  | ok v r env' => rw [h] at this; exact .inl ⟨_, _, _, rfl, this⟩
  | err k => exact .inr ⟨k, rfl⟩
  | panic => rw [h] at this; exact this.elim

inductive Rel (C : Cfg) (e : End) : Option Frame → St → Option Frame → St → Prop where
  | main {cur s t} : Main C e s t → Rel C e cur s cur t
  -- `tok`: the premises on `s` are the Turtle side (token still unread, `Triples_End` pushed), those on `t` the TriG side
  -- (token read: buffer `r`, environment `env'`); `StackEq` relates what lies below
  | tok {K x c rest v r env' s t S S'} :
      s.stack = ⟨x, .triplesEnd⟩ :: ⟨x, .statement⟩ :: S → s.inp = c :: rest →
      skipWs C e false (c :: rest) = .rune c rest → s.stmts = [] → s.err = none →
      Kind.term C e s.env (c :: rest) K = .ok v r env' → nodeShape v →
      t.stack = ⟨x, .statement⟩ :: S' → t.inp = r → t.env = env' → t.stmts = [] → t.err = none →
      StackEq S S' →
      Rel C e (some ⟨x, K.cont⟩) s (some ⟨x, .tgE1 v⟩) t
  | br {x bn s t} : nodeShape bn → s.stmts = [] → s.err = none → Main C e s t →
      Rel C e (some ⟨{ x with subj := some bn }, .subjAnonOrBNPL⟩) s (some ⟨x, .tgBracket bn⟩) t
  | pol {x s t} : s.stmts = [] → s.err = none → Main C e s t →
      Rel C e (some ⟨x, .polRequired⟩) s (some ⟨x, .pol⟩) t

def ResRel (C : Cfg) (e : End) : NextRes → NextRes → Prop
  | .yes s', .yes t' => Main C e s' t'
  | .no _, .no t' => t'.err = none
  | _, _ => False

/-- the runes after a `G`/`g` make TriG read the keyword `GRAPH` (or fail inside it) -/
def graphKwHit (C : Cfg) (rest : List Nat) : Bool :=
  match matchKw (kwCI "RAPH") rest with
  | .eoi => true
  | .mismatch => false
  | .ok [] => true
  | .ok (r6 :: _) => C.isSpace r6

/-- Where the two top-level functions branch apart, the Turtle side must not find a subject:
    `{` starts no prefixed name, and `GRAPH` + white space is no prefix label.  The second clause
    FAILS for Go's `unicode.IsSpace` (finding C07-graph-ogham: U+1680 is a PN_CHARS rune). -/
structure KwSafe (C : Cfg) : Prop where
  brace : C.pnBase 0x7b = false
  graph : ∀ e c rest, (c = 0x47 ∨ c = 0x67) → graphKwHit C rest = true → ∃ k, C.P.pname e (c :: rest) = .err k

/-- Turtle's answer to a subject token: push `Triples_End`, hand the *unread* input to `Triples_Subject_*` -/
def tokOut (x : Ectx) (K : Kind) (inp : List Nat) (env : Env) : FnRes :=
  .ok { cur := some ⟨x, K.cont⟩, push := [⟨x, .triplesEnd⟩], inp := inp, env := env }

/-- How `reader_scanStatement` (A) and `reader_scan_trigDoc` (B) answer the same rune. -/
def StmtCases (C : Cfg) (e : End) (x : Ectx) (env : Env) (c : Nat) (rest : List Nat) (A B : FnRes) : Prop :=
  A = B ∨ (∃ k, A = .err k) ∨
  (∃ K, A = tokOut x K (c :: rest) env ∧
    (B = labelOrSubject x (Kind.term C e env (c :: rest) K) ∨ ∃ k, Kind.term C e env (c :: rest) K = .err k)) ∨
  (A = .ok { cur := some ⟨{ x with subj := some env.fresh.1 }, .subjAnonOrBNPL⟩, inp := rest, env := env.fresh.2 } ∧
   B = .ok { cur := some ⟨x, .tgBracket env.fresh.1⟩, inp := rest, env := env.fresh.2 })

variable {C : Cfg} {e : End}

theorem stmtCases_kwFallback (x : Ectx) (env : Env) (c : Nat) (rest : List Nat) :
    StmtCases C e x env c rest (kwFallback { C with trig := false } e x env (c :: rest))
      (kwFallback { C with trig := true } e x env (c :: rest)) :=
  Or.inr (Or.inr (Or.inl ⟨.pname, rfl, Or.inl rfl⟩))

theorem stmtCases_kwBase (x : Ectx) (env : Env) (c : Nat) (rest : List Nat) :
    StmtCases C e x env c rest (stepKwBase { C with trig := false } e x env c rest)
      (stepKwBase { C with trig := true } e x env c rest) := by
  unfold stepKwBase
  split
  · exact Or.inl rfl
  · exact stmtCases_kwFallback x env c rest
  · split
    · exact Or.inl rfl
    · split
      · exact Or.inl rfl
      · split
        · exact stmtCases_kwFallback x env c rest
        · exact Or.inl rfl

theorem stmtCases_kwSpace (x : Ectx) (env : Env) (kw : List (Nat × Nat)) (k : Cont) (c : Nat) (rest : List Nat) :
    StmtCases C e x env c rest (stepKwSpace { C with trig := false } e x env kw k c rest)
      (stepKwSpace { C with trig := true } e x env kw k c rest) := by
  unfold stepKwSpace
  split
  · exact Or.inl rfl
  · exact stmtCases_kwFallback x env c rest
  · split
    · exact Or.inl rfl
    · split
      · exact stmtCases_kwFallback x env c rest
      · exact Or.inl rfl

theorem stmtCases_subjStart (x : Ectx) (env : Env) (c : Nat) (rest : List Nat) :
    StmtCases C e x env c rest (stepSubjectStart { C with trig := false } e x env c rest)
      (stepSubjectStart { C with trig := true } e x env c rest) := by
  unfold stepSubjectStart
  by_cases h1 : c = 0x3c
  · simp only [h1, if_true]
    exact Or.inr (Or.inr (Or.inl ⟨.iriref, rfl, Or.inl rfl⟩))
  · simp only [h1, if_false]
    by_cases h2 : c = 0x5f
    · simp only [h2, if_true]
      exact Or.inr (Or.inr (Or.inl ⟨.bnode, rfl, Or.inl rfl⟩))
    · simp only [h2, if_false]
      by_cases h3 : c = 0x5b
      · simp only [h3, if_true]
        exact Or.inr (Or.inr (Or.inr ⟨rfl, rfl⟩))
      · simp only [h3, if_false]
        by_cases h4 : c = 0x28
        · simp only [h4, if_true]; exact Or.inl rfl
        · simp only [h4, if_false]
          by_cases h5 : c = 0x3a ∨ C.pnBase c = true
          · simp only [h5, if_true]
            exact Or.inr (Or.inr (Or.inl ⟨.pname, rfl, Or.inl rfl⟩))
          · simp only [h5, if_false]; exact Or.inl rfl

theorem subjStart_letter (b : Bool) (x : Ectx) (env : Env) (c : Nat) (rest : List Nat)
    (h1 : c ≠ 0x3c) (h2 : c ≠ 0x5f) (h3 : c ≠ 0x5b) (h4 : c ≠ 0x28) :
    stepSubjectStart { C with trig := b } e x env c rest =
      if c = 0x3a ∨ C.pnBase c = true then
        (if b then labelOrSubject x (Kind.term C e env (c :: rest) .pname) else tokOut x .pname (c :: rest) env)
      else .err .syntax := by
  unfold stepSubjectStart
  simp only [h1, h2, h3, h4, if_false]
  cases b <;> rfl

theorem termPName_err {e : End} {env : Env} {inp : List Nat} {k : NQ.EClass} (h : C.P.pname e inp = .err k) :
    Kind.term C e env inp .pname = .err (ofTok k) := by
  simp [Kind.term, termPName, iriPName, h, IriRes.toTerm]

theorem stmtCases_graph (hK : KwSafe C) (x : Ectx) (env : Env) (c : Nat) (rest : List Nat) (hc : c = 0x47 ∨ c = 0x67) :
    StmtCases C e x env c rest (stepSubjectStart { C with trig := false } e x env c rest)
      (stepKwSpace { C with trig := true } e x env (kwCI "RAPH") .graphLabel c rest) := by
  rw [subjStart_letter (C := C) (e := e) false x env c rest (by omega) (by omega) (by omega) (by omega)]
  by_cases h5 : c = 0x3a ∨ C.pnBase c = true
  · simp only [h5, if_true, Bool.false_eq_true, if_false]
    refine Or.inr (Or.inr (Or.inl ⟨.pname, rfl, ?_⟩))
    -- TriG reads the keyword (then Turtle must fail on the name) or falls back to the prefixed name as Turtle does
    have hhit : graphKwHit C rest = true → ∃ k, Kind.term C e env (c :: rest) .pname = .err k := fun hh =>
      let ⟨k, hk⟩ := hK.graph e c rest hc hh
      ⟨_, termPName_err hk⟩
    cases hm : matchKw (kwCI "RAPH") rest with
    | eoi => exact .inr (hhit (by simp [graphKwHit, hm]))
    | mismatch => left; simp only [stepKwSpace, hm]; rfl
    | ok r =>
      cases r with
      | nil => exact .inr (hhit (by simp [graphKwHit, hm]))
      | cons r6 rest6 =>
        cases h2 : C.isSpace r6 with
        | true => exact .inr (hhit (by simp [graphKwHit, hm, h2]))
        | false => left; simp only [stepKwSpace, hm, h2, Bool.not_false, if_true]; rfl
  · simp only [h5, if_false]; exact Or.inr (Or.inl ⟨_, rfl⟩)

theorem stmtCases_rune (hK : KwSafe C) (x : Ectx) (env : Env) (c : Nat) (rest : List Nat) :
    StmtCases C e x env c rest (stepStatementRune { C with trig := false } e x env c rest)
      (stepStatementRune { C with trig := true } e x env c rest) := by
  unfold stepStatementRune
  by_cases h1 : c = 0x40
  · simp only [h1, if_true]; exact Or.inl rfl
  · simp only [h1, if_false]
    by_cases h2 : c = 0x42 ∨ c = 0x62
    · simp only [h2, if_true]; exact stmtCases_kwBase x env c rest
    · simp only [h2, if_false]
      by_cases h3 : c = 0x50 ∨ c = 0x70
      · simp only [h3, if_true]; exact stmtCases_kwSpace x env _ _ c rest
      · simp only [h3, if_false]
        simp only [Bool.false_eq_true, false_and, if_false, true_and]
        by_cases h4 : c = 0x47 ∨ c = 0x67
        · simp only [h4, if_true]; exact stmtCases_graph hK x env c rest h4
        · simp only [h4, if_false]
          by_cases h5 : c = 0x7b
          · simp only [h5, if_true]
            refine Or.inr (Or.inl ⟨.syntax, ?_⟩)
            have := subjStart_letter (C := C) (e := e) false x env 0x7b rest (by omega) (by omega) (by omega) (by omega)
            rw [this]
            simp [hK.brace]
          · simp only [h5, if_false]; exact stmtCases_subjStart x env c rest

theorem polRequired_bad (hK : KwSafe C) (b : Bool) (x : Ectx) (inp : List Nat) (env : Env)
    (h : ∀ c r, skipWs C e false inp = .rune c r → c = 0x7b) :
    ∃ k, scanFn { C with trig := b } e ⟨x, .polRequired⟩ inp env = .err k := by
  have h1 := skipWs_flag C b e false inp
  unfold scanFn
  rw [h1]
  cases hs : skipWs C e false inp with
  | commentIo => exact ⟨_, rfl⟩
  | end_ => exact ⟨_, rfl⟩
  | rune c r =>
    have := h c r hs; subst this
    refine ⟨.syntax, ?_⟩
    simp [stepFn, stepPOL, hK.brace]

theorem doomed_polRequired (hK : KwSafe C) {x : Ectx} {st : St} (herr : st.err = none) (hs : st.stmts = [])
    (h : ∀ c r, skipWs C e false st.inp = .rune c r → c = 0x7b) :
    Doomed { C with trig := false } e (some ⟨x, .polRequired⟩) st := by
  obtain ⟨k, hk⟩ := polRequired_bad (e := e) hK false x st.inp st.env h
  exact doomed_of_scan_err herr hs hk

theorem tgE1_go (x : Ectx) (v : T) (r : List Nat) (env : Env) (c' : Nat) (rest' : List Nat) (hv : nodeShape v)
    (hs : skipWs C e false r = .rune c' rest') (hc : c' ≠ 0x7b) :
    scanFn { C with trig := true } e ⟨x, .tgE1 v⟩ r env =
      .ok { cur := some ⟨{ x with subj := some v }, .polRequired⟩,
            push := [⟨{ x with subj := some v }, .triplesEnd⟩, ⟨{ x with subj := some v }, .polContinue⟩],
            inp := c' :: rest', env := env } := by
  have h1 := skipWs_flag C true e false r
  unfold scanFn
  rw [h1, hs]
  simp only [stepFn, Arg.orNul, hc, if_false]
  cases v <;> first | rfl | exact hv.elim

/-- not `{`, or nothing at all: what makes `PredicateObjectList_Required` fail right after a subject -/
theorem skip_cases (inp : List Nat) :
    (∀ c r, skipWs C e false inp = .rune c r → c = 0x7b) ∨
    (∃ c r, skipWs C e false inp = .rune c r ∧ c ≠ 0x7b) := by
  cases hs : skipWs C e false inp with
  | commentIo => left; intro c r h; cases h
  | end_ => left; intro c r h; cases h
  | rune c r =>
    by_cases hc : c = 0x7b
    · left; intro c' r' h; injection h with h1 h2; omega
    · right; exact ⟨c, r, rfl, hc⟩

theorem polReq_ok {x : Ectx} {env : Env} {a : Arg} {o : Out}
    (h : stepFn C e .polRequired x env a = .ok o) : stepFn C e .pol x env a = .ok o := by
  cases a with
  | fail => simp [stepFn] at h
  | rune c r =>
    simp only [stepFn] at h ⊢
    cases hp : stepPOL C e x env c r with
    | ok o' =>
      rw [hp] at h
      simp only [] at h
      split at h
      · cases h
      · exact h
    | err k => rw [hp] at h; simp at h
    | panic => rw [hp] at h; simp at h

theorem rel_done {cur cur' : Option Frame} {s t : St} {r : NextRes} (hrel : Rel C e cur s cur' t)
    (hi : iter { C with trig := false } e cur s = .done r) (hg : Good r) :
    ∃ r', Reach { C with trig := true } e cur' t r' ∧ ResRel C e r r' := by
  rcases iter_done_iff.1 hi with ⟨h1, rfl⟩ | ⟨herr, hne, rfl⟩ | ⟨herr, hst, hp, rfl⟩ | ⟨_, _, _, _, _, _, rfl⟩
  · rw [show s.err = none from hg] at h1; cases h1
  · -- a statement is pending: only in `main`
    cases hrel with
    | main hm => exact ⟨_, .done (iter_yes (hm.err ▸ herr) (hm.stmts ▸ hne)), hm.pushCur cur⟩
    | tok _ _ _ hst => exact absurd hst hne
    | br _ hst => exact absurd hst hne
    | pol hst => exact absurd hst hne
  · -- nothing left to run: only in `main`, the other cases have `rsNext` set
    cases hrel with
    | main hm =>
      exact ⟨.no t, .done (iter_none (hm.err ▸ herr) (hm.stmts ▸ hst) ((hm.pop cur).1 hp)), hm.err.symm.trans herr⟩
    | tok => cases hp
    | br => cases hp
    | pol => cases hp
  · exact hg.elim

/-- What one Turtle iteration is answered with: the Turtle run is doomed, or the TriG run gets (in
    one or two iterations) to a related state. -/
def Answer (C : Cfg) (e : End) (c2 : Option Frame) (s2 : St) (cur' : Option Frame) (t : St) : Prop :=
  Doomed { C with trig := false } e c2 s2 ∨
  ∃ c2' t2, (∀ r', Reach { C with trig := true } e c2' t2 r' → Reach { C with trig := true } e cur' t r') ∧
    Rel C e c2 s2 c2' t2

theorem answer_one {c2 : Option Frame} {s2 : St} {cur' : Option Frame} {t : St} {c2' : Option Frame} {t2 : St}
    (hi : iter { C with trig := true } e cur' t = .cont c2' t2) (hr : Rel C e c2 s2 c2' t2) :
    Answer C e c2 s2 cur' t :=
  Or.inr ⟨c2', t2, fun _ h => .step hi h, hr⟩

theorem main_step (hP : C.P.NoPanic) (hK : KwSafe C) {cur : Option Frame} {s t : St} (hm : Main C e s t)
    (herr : s.err = none) (hst : s.stmts = []) {f : Frame} {s1 : St} (hp : popFrame cur s = some (f, s1)) {o : Out}
    (hA : scanFn { C with trig := false } e f s1.inp s1.env = .ok o) :
    Answer C e o.cur (TtlDoc.applyOut s1 o) cur t := by
  obtain ⟨g, t1, hpt, hfg, hm1⟩ := (hm.pop cur).2 f s1 hp
  have herr' : t.err = none := hm.err ▸ herr
  have hst' : t.stmts = [] := hm.stmts ▸ hst
  obtain ⟨_, _, h1⟩ := popFrame_iff.1 hp
  obtain ⟨_, _, h2⟩ := popFrame_iff.1 hpt
  have hit := iter_pop { C with trig := true } e herr' hst' hpt
  by_cases hk : f.k = .statement
  · -- the top-level function
    have hfg' : f = g := by
      rcases hfg with h | ⟨h, _⟩
      · exact h
      · rw [hk] at h; cases h
    subst hfg'
    obtain ⟨x, k⟩ := f
    simp only at hk; subst hk
    have e1 := skipWs_flag C false e false s1.inp
    have e2 := skipWs_flag C true e false t1.inp
    unfold scanFn at hA hit
    rw [e1] at hA
    rw [e2, ← hm1.inp, ← hm1.env] at hit
    cases hsk : skipWs C e false s1.inp with
    | commentIo => rw [hsk] at hA; cases hA
    | end_ =>
      rw [hsk] at hA hit; simp only [stepFn] at hA hit
      cases e with
      | eof =>
        simp only [] at hA hit
        injection hA with hA; subst hA
        exact answer_one hit (.main (hm1.applyOut _))
      | ioerr => cases hA
    | rune c rest =>
      rw [hsk] at hA hit; simp only [stepFn] at hA hit
      have hidem := skipWs_idem C e _ _ _ _ hsk
      rcases stmtCases_rune (e := e) hK x s1.env c rest with hAB | ⟨k, hT⟩ | ⟨K, hT, hB⟩ | ⟨hT, hB⟩
      · rw [← hAB] at hit
        cases hS : stepStatementRune { C with trig := false } e x s1.env c rest with
        | panic => rw [hS] at hA; cases hA
        | err k => rw [hS] at hA; cases hA
        | ok o' =>
          rw [hS] at hA hit; simp only [withSelf] at hA hit
          injection hA with hA; subst hA
          exact answer_one hit (.main (hm1.applyOut _))
      · rw [hT] at hA; cases hA
      · rw [hT] at hA; simp only [withSelf, tokOut] at hA
        injection hA with hA; subst hA
        -- Turtle's next iteration re-scans the token
        rcases Kind.term_ok_or_err (e := e) hP s1.env (c :: rest) K with ⟨v, r, env', hv, hns⟩ | ⟨k, hk⟩
        · rcases hB with hB | ⟨k, hk⟩
          · rw [hB, hv] at hit; simp only [labelOrSubject, withSelf] at hit
            refine answer_one hit ?_
            refine Rel.tok (K := K) (x := x) (c := c) (rest := rest) (v := v) (r := r) (env' := env') (S := s1.stack) (S' := t1.stack)
              ?_ ?_ hidem ?_ ?_ ?_ hns ?_ ?_ ?_ ?_ ?_ hm1.stack
            · simp [TtlDoc.applyOut]
            · simp [TtlDoc.applyOut]
            · simp [TtlDoc.applyOut, h1, hst]
            · simp [TtlDoc.applyOut, h1, herr]
            · simpa [TtlDoc.applyOut] using hv
            · simp [TtlDoc.applyOut]
            · simp [TtlDoc.applyOut]
            · simp [TtlDoc.applyOut]
            · simp [TtlDoc.applyOut, h2, hst']
            · simp [TtlDoc.applyOut, h2, herr']
          · rw [hv] at hk; cases hk
        · refine Or.inl (doomed_of_scan_err (k := k) (by simp [TtlDoc.applyOut, h1, herr])
            (by simp [TtlDoc.applyOut, h1, hst]) ?_)
          have e3 := skipWs_flag C false e false (c :: rest)
          simp only [TtlDoc.applyOut, scanFn]
          rw [e3, hidem]
          simp only [Kind.stepFn, Kind.term_flag, hk, subjectOf]
      · rw [hT] at hA; rw [hB] at hit; simp only [withSelf] at hA hit
        injection hA with hA; subst hA
        refine answer_one hit (.br (by trivial) ?_ ?_ ?_)
        · simp [TtlDoc.applyOut, h1, hst]
        · simp [TtlDoc.applyOut, h1, herr]
        · exact hm1.applyOut2 rfl rfl rfl rfl rfl
  · -- every other scan function: identical calls
    rw [← scanFn_frameEq C e hfg hk hm1, hA] at hit
    exact answer_one hit (.main (hm1.applyOut _))

theorem scanFn_congr (b : Bool) (f : Frame) {i1 i2 : List Nat} (env : Env)
    (h : skipWs C e false i1 = skipWs C e false i2) :
    scanFn { C with trig := b } e f i1 env = scanFn { C with trig := b } e f i2 env := by
  have h1 := skipWs_flag C b e false i1
  have h2 := skipWs_flag C b e false i2
  unfold scanFn
  rw [h1, h2, h]

theorem scanFn_polReq {x : Ectx} {inp : List Nat} {env : Env} {o : Out}
    (h : scanFn { C with trig := false } e ⟨x, .polRequired⟩ inp env = .ok o) :
    scanFn { C with trig := true } e ⟨x, .pol⟩ inp env = .ok o := by
  rw [scanFn_flag C false e ⟨x, .polRequired⟩ inp env (by simp)] at h
  rw [scanFn_flag C true e ⟨x, .pol⟩ inp env (by simp)]
  unfold scanFn at h ⊢
  cases hs : skipWs C e false inp with
  | commentIo => rw [hs] at h; cases h
  | end_ => rw [hs] at h; exact polReq_ok h
  | rune c r => rw [hs] at h; exact polReq_ok h

theorem pol_step {x : Ectx} {s t : St} (hst : s.stmts = []) (herr : s.err = none) (hm : Main C e s t) {o : Out}
    (hA : scanFn { C with trig := false } e ⟨x, .polRequired⟩ s.inp s.env = .ok o) :
    Answer C e o.cur (TtlDoc.applyOut s o) (some ⟨x, .pol⟩) t := by
  have hit := iter_cur { C with trig := true } e ⟨x, .pol⟩ (hm.err ▸ herr) (hm.stmts ▸ hst)
  have := scanFn_polReq hA
  rw [scanFn_congr true _ _ hm.inp, hm.env] at this
  rw [this] at hit
  exact answer_one hit (.main (hm.applyOut _))

theorem tok_step (hK : KwSafe C) {K : Kind} {x : Ectx} {c : Nat} {rest : List Nat} {v : T} {r : List Nat} {env' : Env}
    {s t : St} {S S' : List Frame}
    (h1 : s.stack = ⟨x, .triplesEnd⟩ :: ⟨x, .statement⟩ :: S) (h2 : s.inp = c :: rest)
    (h3 : skipWs C e false (c :: rest) = .rune c rest) (hst : s.stmts = []) (herr : s.err = none)
    (hv : Kind.term C e s.env (c :: rest) K = .ok v r env') (hns : nodeShape v)
    (g1 : t.stack = ⟨x, .statement⟩ :: S') (g2 : t.inp = r) (g3 : t.env = env') (hst' : t.stmts = []) (herr' : t.err = none)
    (hS : StackEq S S') {o : Out} (hA : scanFn { C with trig := false } e ⟨x, K.cont⟩ s.inp s.env = .ok o) :
    Answer C e o.cur (TtlDoc.applyOut s o) (some ⟨x, .tgE1 v⟩) t := by
  have hit := iter_cur { C with trig := true } e ⟨x, .tgE1 v⟩ herr' hst'
  have hT : scanFn { C with trig := false } e ⟨x, K.cont⟩ s.inp s.env = subjectTail x v r env' := by
    have e3 := skipWs_flag C false e false (c :: rest)
    simp only [scanFn, h2]
    rw [e3, h3]
    simp only [Kind.stepFn, Kind.term_flag, hv, subjectOf]
  rw [hT] at hA; simp only [subjectTail] at hA
  injection hA with hA; subst hA
  rcases skip_cases (C := C) (e := e) r with hbad | ⟨c', rest', hsk, hne⟩
  · exact Or.inl (doomed_polRequired hK (by simp [TtlDoc.applyOut, herr]) (by simp [TtlDoc.applyOut, hst])
      (by simpa [TtlDoc.applyOut] using hbad))
  · rw [g2, g3, tgE1_go x v r env' c' rest' hns hsk hne] at hit
    simp only [] at hit
    refine answer_one hit (.main ⟨?_, ?_, ?_, ?_, ?_⟩)
    · simp [TtlDoc.applyOut]
    · simp [TtlDoc.applyOut, hst, hst']
    · simp [TtlDoc.applyOut, herr, herr']
    · simp only [TtlDoc.applyOut, h1, g1, Bool.false_eq_true, if_false, List.reverse_cons, List.reverse_nil,
        List.nil_append, List.cons_append]
      exact .cons (Or.inl rfl) (.cons (Or.inr ⟨rfl, rfl⟩) (.cons (Or.inl rfl) hS))
    · simp only [TtlDoc.applyOut]
      rw [hsk, skipWs_idem C e _ _ _ _ hsk]

theorem br_step (hK : KwSafe C) {x : Ectx} {bn : T} {s t : St} (hbn : nodeShape bn) (hst : s.stmts = [])
    (herr : s.err = none) (hm : Main C e s t) {o : Out}
    (hA : scanFn { C with trig := false } e ⟨{ x with subj := some bn }, .subjAnonOrBNPL⟩ s.inp s.env = .ok o) :
    Answer C e o.cur (TtlDoc.applyOut s o) (some ⟨x, .tgBracket bn⟩) t := by
  have herr' : t.err = none := hm.err ▸ herr
  have hst' : t.stmts = [] := hm.stmts ▸ hst
  have hit := iter_cur { C with trig := true } e ⟨x, .tgBracket bn⟩ herr' hst'
  have e1 := skipWs_flag C false e false s.inp
  have e2 := skipWs_flag C true e false t.inp
  unfold scanFn at hA hit
  rw [e1] at hA
  rw [e2, ← hm.inp] at hit
  cases hsk : skipWs C e false s.inp with
  | commentIo => rw [hsk] at hA; cases hA
  | end_ => rw [hsk] at hA; cases hA
  | rune c rest =>
    rw [hsk] at hA hit; simp only [stepFn, Arg.orNul] at hA hit
    have hidem := skipWs_idem C e _ _ _ _ hsk
    by_cases hc : c = 0x5d
    · simp only [hc, if_true] at hA hit
      injection hA with hA; subst hA
      rcases skip_cases (C := C) (e := e) rest with hbad | ⟨c', rest', hsk', hne⟩
      · exact Or.inl (doomed_polRequired hK (by simp [TtlDoc.applyOut, herr]) (by simp [TtlDoc.applyOut, hst])
          (by simpa [TtlDoc.applyOut] using hbad))
      · -- TriG: `E1` looks for `{` and then catches up
        have hit2 := iter_cur { C with trig := true } e ⟨x, .tgE1 bn⟩
          (st := TtlDoc.applyOut t { cur := some ⟨x, .tgE1 bn⟩, inp := rest, env := t.env })
          (by simp [TtlDoc.applyOut, herr']) (by simp [TtlDoc.applyOut, hst'])
        have hgo := tgE1_go (C := C) (e := e) x bn rest t.env c' rest' hbn hsk' hne
        simp only [TtlDoc.applyOut] at hit2
        rw [hgo] at hit2
        simp only [] at hit2
        refine Or.inr ⟨_, _, fun r' h => .step hit (.step hit2 h), .main ⟨?_, ?_, ?_, ?_, ?_⟩⟩
        · simp [TtlDoc.applyOut, hm.env]
        · simp [TtlDoc.applyOut, hst, hst']
        · simp [TtlDoc.applyOut, herr, herr']
        · simp only [TtlDoc.applyOut, Bool.false_eq_true, if_false, List.reverse_cons, List.reverse_nil,
            List.nil_append, List.cons_append]
          exact .cons (Or.inl rfl) (.cons (Or.inl rfl) hm.stack)
        · simp only [TtlDoc.applyOut]
          rw [hsk', skipWs_idem C e _ _ _ _ hsk']
    · simp only [hc, if_false] at hA hit
      injection hA with hA; subst hA
      have hit2 := iter_cur { C with trig := true } e ⟨{ x with subj := some bn }, .triples2BNPL⟩
        (st := TtlDoc.applyOut t { cur := some ⟨{ x with subj := some bn }, .triples2BNPL⟩, inp := c :: rest, env := t.env })
        (by simp [TtlDoc.applyOut, herr']) (by simp [TtlDoc.applyOut, hst'])
      have e3 := skipWs_flag C true e false (c :: rest)
      simp only [TtlDoc.applyOut, scanFn] at hit2
      rw [e3, hidem] at hit2
      simp only [stepFn, hc, if_false] at hit2
      refine Or.inr ⟨_, _, fun r' h => .step hit (.step hit2 h), .pol ?_ ?_ ⟨?_, ?_, ?_, ?_, ?_⟩⟩
      · simp [TtlDoc.applyOut, hst]
      · simp [TtlDoc.applyOut, herr]
      · simp [TtlDoc.applyOut, hm.env]
      · simp [TtlDoc.applyOut, hst, hst']
      · simp [TtlDoc.applyOut, herr, herr']
      · simp only [TtlDoc.applyOut, Bool.false_eq_true, if_false, List.reverse_cons, List.reverse_nil,
          List.nil_append, List.cons_append]
        exact StackEq.append_left [_, _, _, _, _] hm.stack
      · simp [TtlDoc.applyOut]

/-- A Turtle iteration that latches an error dooms the run; otherwise its scan call succeeded with some `o`,
    and each case of `Rel` answers that call. -/
theorem rel_step (hP : C.P.NoPanic) (hK : KwSafe C) {cur cur' : Option Frame} {s t : St} (hrel : Rel C e cur s cur' t)
    {c2 : Option Frame} {s2 : St} (hi : iter { C with trig := false } e cur s = .cont c2 s2) :
    Answer C e c2 s2 cur' t := by
  obtain ⟨herr, hst, f, s1, hp, ⟨k, _, rfl, rfl⟩ | ⟨o, hA, rfl, rfl⟩⟩ := iter_cont_iff.1 hi
  · exact Or.inl (doomed_err rfl)
  cases hrel with
  | main hm => exact main_step hP hK hm herr hst hp hA
  | tok h1 h2 h3 _ _ hv hns g1 g2 g3 hst' herr' hS =>
    cases hp; exact tok_step hK h1 h2 h3 hst herr hv hns g1 g2 g3 hst' herr' hS hA
  | br hbn _ _ hm => cases hp; exact br_step hK hbn hst herr hm hA
  | pol _ _ hm => cases hp; exact pol_step hst herr hm hA

theorem sim (hP : C.P.NoPanic) (hK : KwSafe C) {cur : Option Frame} {s : St} {r : NextRes}
    (h : Reach { C with trig := false } e cur s r) :
    ∀ cur' t, Rel C e cur s cur' t → Good r → ∃ r', Reach { C with trig := true } e cur' t r' ∧ ResRel C e r r' := by
  induction h with
  | done hi => intro cur' t hrel hg; exact rel_done hrel hi hg
  | step hi hr ih =>
    intro cur' t hrel hg
    rcases rel_step hP hK hrel hi with hd | ⟨c2', t2, hreach, hrel2⟩
    · exact absurd hg (hd _ hr)
    · obtain ⟨r', h1, h2⟩ := ih c2' t2 hrel2 hg
      exact ⟨r', hreach r' h1, h2⟩

theorem sim_accepts (hP : C.P.NoPanic) (hK : KwSafe C) {s : St} {ts : List Stmt}
    (h : Accepts { C with trig := false } e s ts) :
    ∀ t, Main C e s t → Accepts { C with trig := true } e t ts := by
  induction h with
  | stop hr he =>
    intro t hm
    obtain ⟨r', h1, h2⟩ := sim hP hK hr none _ (.main hm.dropFirst) he
    cases r' with
    | no t' => exact .stop h1 h2
    | _ => exact h2.elim
  | yield hr hs _ ih =>
    intro t hm
    obtain ⟨r', h1, h2⟩ := sim hP hK hr none _ (.main hm.dropFirst) trivial
    cases r' with
    | yes t' => exact .yield h1 (h2.stmts ▸ hs) (ih t' h2)
    | _ => exact h2.elim

theorem sim_run (hP : C.P.NoPanic) (hC : C.P.Consumes) (hK : KwSafe C) (base : Option (List Nat))
    (pf : List (List Nat × List Nat)) (inp : List Nat) (ts : List Stmt)
    (h : run { C with trig := false } e base pf inp = (ts, .clean)) :
    run { C with trig := true } e base pf inp = (ts, .clean) :=
  run_of_accepts (C := { C with trig := true }) hC
    (sim_accepts hP hK (accepts_of_runLoop _ _ _ h) _ (Main.refl C e _))

theorem pnameNsLoop_kw (T : Ttl.Tables) (e : End) :
    ∀ (kw : List (Nat × Nat)) (rest acc : List Nat), (∀ p ∈ kw, p.1 ≠ 0x3a ∧ p.2 ≠ 0x3a) →
      match matchKw kw rest with
      | .eoi => ∃ k, Ttl.pnameNsLoop T e rest acc = .err k
      | .ok r => (∀ acc', ∃ k, Ttl.pnameNsLoop T e r acc' = .err k) → ∃ k, Ttl.pnameNsLoop T e rest acc = .err k
      | .mismatch => True := by
  intro kw
  induction kw with
  | nil => intro rest acc _; simp only [matchKw]; exact fun h => h acc
  | cons p kw ih =>
    intro rest acc hkw
    obtain ⟨u, l⟩ := p
    cases rest with
    | nil => simp only [matchKw]; exact ⟨_, rfl⟩
    | cons c r =>
      simp only [matchKw]
      by_cases hc : c = u ∨ c = l
      · simp only [hc, if_true]
        have hne : c ≠ 0x3a := by
          have := hkw (u, l) List.mem_cons_self
          rcases hc with rfl | rfl
          · exact this.1
          · exact this.2
        have hstep : Ttl.pnameNsLoop T e (c :: r) acc =
            if inRanges T.pnChars c || c = 0x2e then Ttl.pnameNsLoop T e r (c :: acc) else .err .syntax := by
          simp [Ttl.pnameNsLoop, hne]
        have := ih r (c :: acc) (fun p hp => hkw p (List.mem_cons_of_mem _ hp))
        cases hm : matchKw kw r with
        | eoi =>
          rw [hm] at this; simp only [] at this ⊢
          rw [hstep]; split
          · exact this
          · exact ⟨_, rfl⟩
        | mismatch => trivial
        | ok r' =>
          rw [hm] at this; simp only [] at this ⊢
          intro h
          rw [hstep]; split
          · exact this h
          · exact ⟨_, rfl⟩
      · simp only [hc, if_false]

/-- what the white-space predicate must satisfy: no rune of it continues (or ends) a prefix label -/
def SpaceOK (T : Ttl.Tables) (isSpace : Nat → Bool) : Prop :=
  ∀ c, isSpace c = true → c ≠ 0x3a ∧ c ≠ 0x2e ∧ inRanges T.pnChars c = false

theorem real_kwSafe (T : Ttl.Tables) (trig : Bool) (resolve : Option (List Nat) → List Nat → Option (List Nat))
    (isSpace : Nat → Bool) (hb : inRanges T.pnCharsBase 0x7b = false) (hsp : SpaceOK T isSpace) :
    KwSafe { trig := trig, P := Producers.real T, resolve := resolve, isSpace := isSpace, pnBase := inRanges T.pnCharsBase } where
  brace := hb
  graph := by
    intro e c rest hc hhit
    show ∃ k, Ttl.producePrefixedName T e (c :: rest) = .err k
    have hloop : ∃ k, Ttl.pnameNsLoop T e rest [c] = .err k := by
      have := pnameNsLoop_kw T e (kwCI "RAPH") rest [c] (by decide)
      unfold graphKwHit at hhit
      cases hm : matchKw (kwCI "RAPH") rest with
      | eoi => rw [hm] at this; exact this
      | mismatch => rw [hm] at hhit; cases hhit
      | ok r =>
        rw [hm] at this hhit
        refine this ?_
        intro acc'
        cases r with
        | nil => exact ⟨_, rfl⟩
        | cons r6 rest6 =>
          obtain ⟨h1, h2, h3⟩ := hsp r6 hhit
          exact ⟨.syntax, by simp [Ttl.pnameNsLoop, h1, h2, h3]⟩
    obtain ⟨k, hk⟩ := hloop
    have hne : c ≠ 0x3a := by omega
    have hns : ∃ k', Ttl.producePNAME_NS T e (c :: rest) = .err k' := by
      unfold Ttl.producePNAME_NS
      simp only [hne, if_false]
      split
      · exact ⟨_, hk⟩
      · exact ⟨_, rfl⟩
    obtain ⟨k', hk'⟩ := hns
    exact ⟨k', by simp [Ttl.producePrefixedName, hk']⟩

end RdfModel.TtlDoc
