/-
  What the Turtle/TriG token scanners leave in the rune buffer, and that their answer does not change when the
  input goes on — one induction per scanner.  The three loops that end on a terminator they consume (`>`, the
  closing quote, `:`) leave what follows it, unconditionally (`Reads`).  The four scanners that end on a rune they only
  look at (LANGTAG with its two loops, blank-node labels, numbers, local names) leave a suffix or, three of them, the `.` read last in
  front of one (`Left`), and are local only while something is left behind the token (`Peeks`).
-/
import RdfModel.Model.TurtleDoc
namespace RdfModel.TtlDoc
open RdfModel

theorem runeCost_eq {c : Nat} (h : c ≠ 0) : runeCost c = 64 := by simp [runeCost, h]
theorem runeCost_le (c : Nat) : runeCost c ≤ 64 := by unfold runeCost; split <;> omega

theorem inputCost_append (p r : List Nat) : inputCost (p ++ r) = inputCost p + inputCost r := by
  induction p with
  | nil => simp [inputCost]
  | cons c p ih => simp only [List.cons_append, inputCost, ih, Nat.add_assoc]

theorem inputCost_le_of_suffix {r i : List Nat} (h : r <:+ i) : inputCost r ≤ inputCost i := by
  obtain ⟨p, rfl⟩ := h
  rw [inputCost_append]; exact Nat.le_add_left _ _

theorem cost_cons {c : Nat} {i r : List Nat} (hc : c ≠ 0) (h : r <:+ i) : inputCost r + 64 ≤ inputCost (c :: i) := by
  have := inputCost_le_of_suffix h
  simp only [inputCost, runeCost_eq hc]; omega

theorem matchKw_suffix : ∀ (kw : List (Nat × Nat)) (rest r : List Nat), matchKw kw rest = .ok r → r <:+ rest := by
  intro kw
  induction kw with
  | nil => intro rest r h; simp only [matchKw] at h; injection h with h; subst h; exact List.suffix_refl _
  | cons p kw ih =>
    intro rest r h
    obtain ⟨u, l⟩ := p
    cases rest with
    | nil => simp [matchKw] at h
    | cons c rest' =>
      simp only [matchKw] at h
      split at h
      · exact (ih _ _ h).trans (List.suffix_cons _ _)
      · cases h

end RdfModel.TtlDoc

namespace RdfModel.Ttl
open RdfModel

def SubL (i r : List Nat) : Prop := ∀ y ∈ r, y ∈ i ∨ y = 0x2e

theorem SubL.refl (i : List Nat) : SubL i i := fun _ hy => Or.inl hy
theorem SubL.tail {c : Nat} {i r : List Nat} (h : SubL i r) : SubL (c :: i) r :=
  fun y hy => (h y hy).imp (List.mem_cons_of_mem _) id
theorem SubL.dot {i r : List Nat} (h : SubL i r) : SubL i (0x2e :: r) := by
  intro y hy
  rcases List.mem_cons.mp hy with rfl | hy
  · exact Or.inr rfl
  · exact h y hy

theorem SubL.trans {i r r' : List Nat} (h1 : SubL i r) (h2 : SubL r r') : SubL i r' := by
  intro y hy
  rcases h2 y hy with h | h
  · exact h1 y h
  · exact Or.inr h

theorem SubL.of_suffix {i r : List Nat} (h : r <:+ i) : SubL i r := fun _ hy => Or.inl (h.subset hy)

theorem suffix_tail {c : Nat} {i r : List Nat} (h : r <:+ i) : r <:+ c :: i := h.trans (List.suffix_cons c i)

theorem matchKeyword_suffix (e : End) : ∀ (kw i r : List Nat), matchKeyword e kw i = some (some r) → r <:+ i := by
  intro kw
  induction kw with
  | nil => intro i r h; simp only [matchKeyword] at h; injection h with h; injection h with h; subst h; exact List.suffix_refl _
  | cons k ks ih =>
    intro i r h
    cases i with
    | nil => simp [matchKeyword] at h
    | cons c rest =>
      simp only [matchKeyword] at h
      split at h
      · exact suffix_tail (ih _ _ h)
      · cases h

/-- A scanner that ends on a terminator `d` found it in `i`, left what follows it, and answers the same
    however the input goes on after `i` (and whatever ends it). -/
structure Reads {α : Type} (F : End → List Nat → Res α) (d : Nat) (i : List Nat) (v : α) (r : List Nat) : Prop where
  suffix : d :: r <:+ i
  ext : ∀ e' s, F e' (i ++ s) = .ok v (r ++ s)

theorem Reads.here {α : Type} {F : End → List Nat → Res α} {d : Nat} {v : α} {r : List Nat}
    (h : ∀ e' s, F e' (d :: (r ++ s)) = .ok v (r ++ s)) : Reads F d (d :: r) v r :=
  ⟨List.suffix_refl _, h⟩

theorem Reads.cons {α : Type} {F G : End → List Nat → Res α} {c d : Nat} {i : List Nat} {v : α} {r : List Nat}
    (h : Reads F d i v r) (hG : ∀ e' s, G e' (c :: (i ++ s)) = F e' (i ++ s)) : Reads G d (c :: i) v r :=
  ⟨suffix_tail h.suffix, fun e' s => (hG e' s).trans (h.ext e' s)⟩

theorem Reads.rest {α : Type} {F : End → List Nat → Res α} {d : Nat} {i : List Nat} {v : α} {r : List Nat}
    (h : Reads F d i v r) : r <:+ i :=
  (List.suffix_cons d r).trans h.suffix

theorem scanIRIREF_reads (T : Tables) (e : End) : ∀ (i : List Nat) (st : SState) (acc v r : List Nat),
    scanIRIREF T e st i acc = .ok v r → Reads (fun e i => scanIRIREF T e st i acc) 0x3e i v r := by
  intro i
  induction i with
  | nil => intro st acc v r h; cases st <;> simp [scanIRIREF] at h
  | cons c rest ih =>
    intro st acc v r h
    cases st with
    | body =>
      simp only [scanIRIREF] at h
      split at h
      · next hc =>
        injection h with h1 h2; subst h1; subst h2; subst hc
        exact .here fun e' s => by simp only [scanIRIREF, if_true]
      · next hc =>
        split at h
        · next h2 => exact (ih _ _ _ _ h).cons fun e' s => by simp only [scanIRIREF, if_neg hc, if_pos h2]
        · next h2 =>
          split at h
          · cases h
          · next h3 => exact (ih _ _ _ _ h).cons fun e' s => by simp only [scanIRIREF, if_neg hc, if_neg h2, h3]; rfl
    | esc =>
      simp only [scanIRIREF] at h
      split at h
      · next hc => exact (ih _ _ _ _ h).cons fun e' s => by simp only [scanIRIREF, if_pos hc]
      · next hc =>
        split at h
        · next h2 => exact (ih _ _ _ _ h).cons fun e' s => by simp only [scanIRIREF, if_neg hc, if_pos h2]
        · cases h
    | hex ms val =>
      cases ms with
      | nil => simp [scanIRIREF] at h
      | cons m ms =>
        simp only [scanIRIREF] at h
        split at h
        · cases h
        · next d hd =>
          split at h
          · cases h
          · next h2 =>
            cases ms with
            | nil => exact (ih _ _ _ _ h).cons fun e' s => by simp only [scanIRIREF, hd, if_neg h2]
            | cons m' ms' => exact (ih _ _ _ _ h).cons fun e' s => by simp only [scanIRIREF, hd, if_neg h2]

theorem scanString_reads (T : Tables) (e : End) (delim : Nat) (triple : Bool) :
    ∀ (i : List Nat) (st : SState) (acc v r : List Nat), scanString T e delim triple st i acc = .ok v r →
      Reads (fun e i => scanString T e delim triple st i acc) delim i v r := by
  intro i
  induction i with
  | nil => intro st acc v r h; cases st <;> simp [scanString] at h
  | cons c rest ih =>
    intro st acc v r h
    cases st with
    | body =>
      simp only [scanString] at h
      by_cases hq : c = 0x22 ∨ c = 0x27
      · rw [if_pos hq] at h
        by_cases hd : c = delim
        · rw [if_pos hd] at h
          cases triple with
          | false =>
            simp only [Bool.not_false, if_true] at h
            injection h with h1 h2; subst h1; subst h2; subst hd
            exact .here fun e' s => by simp only [scanString, if_pos hq, Bool.not_false, if_true]
          | true =>
            simp only [Bool.not_true, Bool.false_eq_true, if_false] at h
            cases rest with
            | nil => simp at h
            | cons c1 r1 =>
              simp only [] at h
              by_cases h1 : c1 = delim
              · rw [if_pos h1] at h
                cases r1 with
                | nil => simp at h
                | cons c2 r2 =>
                  simp only [] at h
                  by_cases h2 : c2 = delim
                  · rw [if_pos h2] at h
                    injection h with q1 q2; subst q1; subst q2
                    refine ⟨?_, fun e' s => ?_⟩
                    · rw [← h2]; exact suffix_tail (List.suffix_cons _ _)
                    · simp only [List.cons_append, scanString, if_pos hq, if_pos hd, if_pos h1, if_pos h2, Bool.not_true,
                        Bool.false_eq_true, if_false]
                  · rw [if_neg h2] at h
                    exact (ih _ _ _ _ h).cons fun e' s => by
                      simp only [List.cons_append, scanString, if_pos hq, if_pos hd, if_pos h1, if_neg h2, Bool.not_true,
                        Bool.false_eq_true, if_false]
              · rw [if_neg h1] at h
                exact (ih _ _ _ _ h).cons fun e' s => by
                  simp only [List.cons_append, scanString, if_pos hq, if_pos hd, if_neg h1, Bool.not_true, Bool.false_eq_true,
                    if_false]
        · rw [if_neg hd] at h
          exact (ih _ _ _ _ h).cons fun e' s => by simp only [scanString, if_pos hq, if_neg hd]
      · rw [if_neg hq] at h
        by_cases hb : c = 0x5c
        · rw [if_pos hb] at h; exact (ih _ _ _ _ h).cons fun e' s => by simp only [scanString, if_neg hq, if_pos hb]
        · rw [if_neg hb] at h; exact (ih _ _ _ _ h).cons fun e' s => by simp only [scanString, if_neg hq, if_neg hb]
    | esc =>
      simp only [scanString] at h
      by_cases h1 : c = 0x75
      · rw [if_pos h1] at h; exact (ih _ _ _ _ h).cons fun e' s => by simp only [scanString, if_pos h1]
      · rw [if_neg h1] at h
        by_cases h2 : c = 0x55
        · rw [if_pos h2] at h; exact (ih _ _ _ _ h).cons fun e' s => by simp only [scanString, if_neg h1, if_pos h2]
        · rw [if_neg h2] at h
          cases hd : echarDecode c with
          | none => rw [hd] at h; cases h
          | some d =>
            rw [hd] at h
            exact (ih _ _ _ _ h).cons fun e' s => by simp only [scanString, if_neg h1, if_neg h2, hd]
    | hex ms val =>
      cases ms with
      | nil => simp [scanString] at h
      | cons m ms =>
        simp only [scanString] at h
        split at h
        · cases h
        · next d hd =>
          split at h
          · cases h
          · next h2 =>
            cases ms with
            | nil => exact (ih _ _ _ _ h).cons fun e' s => by simp only [scanString, hd, if_neg h2]
            | cons m' ms' => exact (ih _ _ _ _ h).cons fun e' s => by simp only [scanString, hd, if_neg h2]

theorem pnameNsLoop_reads (T : Tables) (e : End) : ∀ (i acc v r : List Nat), pnameNsLoop T e i acc = .ok v r →
    Reads (fun e i => pnameNsLoop T e i acc) 0x3a i v r := by
  intro i
  induction i with
  | nil => intro acc v r h; simp [pnameNsLoop] at h
  | cons c rest ih =>
    intro acc v r h
    simp only [pnameNsLoop] at h
    split at h
    · next hc =>
      injection h with h1 h2; subst h1; subst h2; subst hc
      exact .here fun e' s => by simp only [pnameNsLoop, if_true]
    · next hc =>
      split at h
      · next h2 => exact (ih _ _ _ h).cons fun e' s => by simp only [pnameNsLoop, if_neg hc, if_pos h2]
      · cases h

/-- Blank-node labels, numbers and local names may end in a `.` that is handed back; it is the rune read last
    (`dot`: the accumulator ends in it), so with it in front of all of `i` the buffer is a suffix one step earlier.
    `Left.cons` takes `dot` as `head = '.' ∧ p`, `p` being what else a scanner asks before it hands the `.` back (local
    names: no escape, state `.body`); the scanners that ask nothing write `∧ True`, LANGTAG, which never hands back, `False`. -/
def Left (dot : Prop) (i r : List Nat) : Prop := r <:+ i ∨ (dot ∧ r = 0x2e :: i)

theorem Left.cons {c : Nat} {acc i r : List Nat} {p : Prop} (h : Left ((c :: acc).head? = some 0x2e ∧ p) i r) :
    r <:+ c :: i := by
  rcases h with h | ⟨⟨hc, _⟩, rfl⟩
  · exact suffix_tail h
  · injection hc with hc; subst hc; exact List.suffix_refl _

theorem Left.suffix {dot : Prop} {i r : List Nat} (h : Left dot i r) (hd : ¬ dot) : r <:+ i :=
  h.resolve_right fun h' => hd h'.1

theorem Left.subL {dot : Prop} {i r : List Nat} (h : Left dot i r) : SubL i r := by
  rcases h with h | ⟨_, rfl⟩
  · exact SubL.of_suffix h
  · exact (SubL.refl _).dot

/-- A scanner that ends on a rune it does not consume.  What it leaves is `Left`: a suffix, or the `.` read last
    in front of one (`back`: this scanner hands a `.` back at all).  The answer is the same however the input goes
    on, as long as the scanner has seen the rune behind the token: something is left, and more than a lone `.`
    that it may have handed back itself.  `Reads` is the case without look-ahead: the terminator is consumed, so
    what is left is a proper suffix and no condition is needed. -/
structure Peeks {α : Type} (F : End → List Nat → Res α) (dot back : Prop) (i : List Nat) (v : α) (r : List Nat) :
    Prop where
  left : Left dot i r
  ext : r ≠ [] → (back → r ≠ [0x2e]) → ∀ e' s, F e' (i ++ s) = .ok v (r ++ s)

section
variable {α : Type} {F G : End → List Nat → Res α} {dot dot' back : Prop} {i rest r : List Nat} {v : α} {c : Nat}

theorem Peeks.stop (hr : r = rest ∨ (dot ∧ r = 0x2e :: rest)) (h : ∀ e' s, F e' (rest ++ s) = .ok v (r ++ s)) :
    Peeks F dot back rest v r :=
  ⟨hr.imp_left fun h => by rw [h]; exact List.suffix_refl _, fun _ _ => h⟩

theorem Peeks.eof (hr : r = [] ∨ (dot ∧ r = [0x2e])) (hb : dot → back) : Peeks F dot back [] v r :=
  ⟨hr.imp_left fun h => by rw [h]; exact List.suffix_refl _,
   fun h1 h2 => (hr.elim h1 fun h => h2 (hb h.1) h.2).elim⟩

/-- one rune earlier (`hl`: a `.` handed back was this rune, `Left.cons`, or none is: `Left.suffix`) -/
theorem Peeks.cons (h : Peeks F dot' back i v r) (hl : Left dot' i r → r <:+ c :: i)
    (hG : ∀ e' s, G e' (c :: (i ++ s)) = F e' (i ++ s)) : Peeks G dot back (c :: i) v r :=
  ⟨.inl (hl h.left), fun h1 h2 e' s => (hG e' s).trans (h.ext h1 h2 e' s)⟩

theorem Left.tail (h : Left dot i r) (hd : ¬ dot) : r <:+ c :: i := suffix_tail (h.suffix hd)
end

theorem langDone_stop {acc rest v r : List Nat} (h : langDone acc rest = .ok v r) :
    (r = rest ∨ (False ∧ r = 0x2e :: rest)) ∧ ∀ s, langDone acc (rest ++ s) = .ok v (r ++ s) := by
  unfold langDone at h ⊢
  split at h
  · cases h
  · next hc => injection h with h1 h2; subst h1; subst h2; exact ⟨.inl rfl, fun _ => by rw [if_neg hc]⟩

theorem langSecondary_peeks (e : End) : ∀ (i acc v r : List Nat), langSecondary e i acc = .ok v r →
    Peeks (fun e i => langSecondary e i acc) False False i v r := by
  intro i
  induction i with
  | nil =>
    intro acc v r h
    simp only [langSecondary] at h
    cases e <;> simp only [] at h
    · exact .eof (langDone_stop h).1 id
    · cases h
  | cons c rest ih =>
    intro acc v r h
    simp only [langSecondary] at h
    split at h
    · next hc => exact (ih _ _ _ h).cons (·.tail id) fun e' s => by simp only [langSecondary, hc, if_true]
    · next hc =>
      split at h
      · next h2 =>
        split at h
        · cases h
        · next h3 => exact (ih _ _ _ h).cons (·.tail id) fun e' s => by simp only [langSecondary, hc, if_pos h2, if_neg h3]; rfl
      · next h2 =>
        exact .stop (langDone_stop h).1 fun e' s => by
          simp only [List.cons_append, langSecondary, hc, if_neg h2]; exact (langDone_stop h).2 s

theorem langPrimary_peeks (e : End) : ∀ (i acc v r : List Nat), langPrimary e i acc = .ok v r →
    Peeks (fun e i => langPrimary e i acc) False False i v r := by
  intro i
  induction i with
  | nil =>
    intro acc v r h
    simp only [langPrimary] at h
    cases e <;> simp only [] at h
    · split at h
      · cases h
      · exact .eof (langDone_stop h).1 id
    · cases h
  | cons c rest ih =>
    intro acc v r h
    simp only [langPrimary] at h
    split at h
    · next hc => exact (ih _ _ _ h).cons (·.tail id) fun e' s => by simp only [langPrimary, hc, if_true]
    · next hc =>
      split at h
      · next h2 =>
        split at h
        · cases h
        · next h3 =>
          exact (langSecondary_peeks e _ _ _ _ h).cons (·.tail id) fun e' s => by
            simp only [langPrimary, hc, if_pos h2, if_neg h3]; rfl
      · next h2 =>
        split at h
        · cases h
        · next h3 =>
          exact .stop (langDone_stop h).1 fun e' s => by
            simp only [List.cons_append, langPrimary, hc, if_neg h2, if_neg h3]; exact (langDone_stop h).2 s

theorem bnDone_stop (T : Tables) {acc rest v r : List Nat} (h : bnDone T acc rest = .ok v r) :
    (r = rest ∨ ((acc.head? = some 0x2e ∧ True) ∧ r = 0x2e :: rest)) ∧ ∀ s, bnDone T acc (rest ++ s) = .ok v (r ++ s) := by
  cases acc with
  | nil => simp [bnDone] at h
  | cons l more =>
    by_cases hl : l = 0x2e
    · simp only [bnDone, hl, if_true] at h ⊢
      cases more with
      | nil => simp only [] at h ⊢; injection h with h1 h2; subst h1; subst h2; exact ⟨.inr ⟨⟨rfl, trivial⟩, rfl⟩, fun _ => rfl⟩
      | cons z more' =>
        simp only [] at h ⊢
        split at h
        · cases h
        · next hz => simp only [if_neg hz]; injection h with h1 h2; subst h1; subst h2; exact ⟨.inr ⟨⟨rfl, trivial⟩, rfl⟩, fun _ => rfl⟩
    · simp only [bnDone, hl, if_false] at h ⊢
      split at h
      · cases h
      · next hz => simp only [if_neg hz]; injection h with h1 h2; subst h1; subst h2; exact ⟨.inl rfl, fun _ => rfl⟩

theorem bnLoop_peeks (T : Tables) (e : End) : ∀ (i acc v r : List Nat), bnLoop T e i acc = .ok v r →
    Peeks (fun e i => bnLoop T e i acc) (acc.head? = some 0x2e ∧ True) True i v r := by
  intro i
  induction i with
  | nil =>
    intro acc v r h
    simp only [bnLoop] at h
    cases e <;> simp only [] at h
    · exact .eof (bnDone_stop T h).1 fun _ => trivial
    · cases h
  | cons c rest ih =>
    intro acc v r h
    simp only [bnLoop] at h
    split at h
    · next hc => exact (ih _ _ _ h).cons Left.cons fun e' s => by simp only [bnLoop, hc, if_true]
    · next hc =>
      exact .stop (bnDone_stop T h).1 fun e' s => by simp only [List.cons_append, bnLoop, hc]; exact (bnDone_stop T h).2 s

theorem numDone_stop {acc : List Nat} {k : Option NumKind} {rest : List Nat} {v : NumKind × List Nat} {r : List Nat}
    (h : numDone acc k rest = .ok v r) :
    (r = rest ∨ ((acc.head? = some 0x2e ∧ True) ∧ r = 0x2e :: rest)) ∧ ∀ s, numDone acc k (rest ++ s) = .ok v (r ++ s) := by
  cases acc with
  | nil => simp [numDone] at h
  | cons l more =>
    simp only [numDone] at h ⊢
    split at h
    · next hl => simp only [if_pos hl]; injection h with h1 h2; subst h1; subst h2; exact ⟨.inr ⟨⟨by rw [hl]; rfl, trivial⟩, rfl⟩, fun _ => rfl⟩
    · next hl =>
      simp only [if_neg hl]
      split at h
      · cases h
      · next h2 => simp only [if_neg h2]; injection h with h1 h2; subst h1; subst h2; exact ⟨.inl rfl, fun _ => rfl⟩

theorem scanNum_peeks (e : End) : ∀ (i : List Nat) (st : NState) (k : Option NumKind) (acc : List Nat)
    (v : NumKind × List Nat) (r : List Nat), scanNum e st k i acc = .ok v r →
    Peeks (fun e i => scanNum e st k i acc) (acc.head? = some 0x2e ∧ True) True i v r := by
  intro i
  induction i with
  | nil =>
    intro st k acc v r h
    cases st <;> cases e <;> simp only [scanNum] at h <;>
      first
      | (cases h; done)
      | exact .eof (numDone_stop h).1 fun _ => trivial
  | cons c rest ih =>
    intro st k acc v r h
    have stop : ∀ {st : NState}, (∀ e' s, scanNum e' st k (c :: (rest ++ s)) acc = numDone acc k (c :: (rest ++ s))) →
        numDone acc k (c :: rest) = .ok v r →
        Peeks (fun e i => scanNum e st k i acc) (acc.head? = some 0x2e ∧ True) True (c :: rest) v r :=
      fun hs hd => .stop (numDone_stop hd).1 fun e' s => (hs e' s).trans ((numDone_stop hd).2 s)
    cases st with
    | sign =>
      simp only [scanNum] at h
      split at h
      · next hc => exact (ih _ _ _ _ _ h).cons Left.cons fun e' s => by simp only [scanNum, hc, if_true]
      · next hc =>
        split at h
        · next h2 => exact (ih _ _ _ _ _ h).cons Left.cons fun e' s => by simp only [scanNum, hc, if_pos h2]; rfl
        · next h2 =>
          split at h
          · next h3 => exact (ih _ _ _ _ _ h).cons Left.cons fun e' s => by simp only [scanNum, hc, if_neg h2, if_pos h3]; rfl
          · next h3 => exact stop (fun e' s => by simp only [scanNum, hc, if_neg h2, if_neg h3]; rfl) h
    | int =>
      simp only [scanNum] at h
      split at h
      · next hc => exact (ih _ _ _ _ _ h).cons Left.cons fun e' s => by simp only [scanNum, hc, if_true]
      · next hc =>
        split at h
        · next h3 => exact (ih _ _ _ _ _ h).cons Left.cons fun e' s => by simp only [scanNum, hc, if_pos h3]; rfl
        · next h3 => exact stop (fun e' s => by simp only [scanNum, hc, if_neg h3]; rfl) h
    | exp0 =>
      simp only [scanNum] at h
      split at h
      · next hc => exact (ih _ _ _ _ _ h).cons Left.cons fun e' s => by simp only [scanNum, if_pos hc]
      · cases h
    | exp =>
      simp only [scanNum] at h
      split at h
      · next hc => exact (ih _ _ _ _ _ h).cons Left.cons fun e' s => by simp only [scanNum, hc, if_true]
      · next hc => exact stop (fun e' s => by simp only [scanNum, hc]; rfl) h

theorem localDone_stop {acc : List Nat} {le : Bool} {rest v r : List Nat} (h : localDone acc le rest = .ok v r) :
    (r = rest ∨ ((acc.head? = some 0x2e ∧ le = false ∧ LState.body = .body) ∧ r = 0x2e :: rest)) ∧
      ∀ s, localDone acc le (rest ++ s) = .ok v (r ++ s) := by
  cases acc with
  | nil => simp [localDone] at h
  | cons l more =>
    simp only [localDone] at h ⊢
    split at h
    · next hl =>
      simp only [if_pos hl]; injection h with h1 h2; subst h1; subst h2
      simp only [Bool.and_eq_true, Bool.not_eq_true', decide_eq_true_eq] at hl
      exact ⟨.inr ⟨⟨by rw [hl.1]; rfl, hl.2, trivial⟩, rfl⟩, fun _ => rfl⟩
    · next hl => simp only [if_neg hl]; injection h with h1 h2; subst h1; subst h2; exact ⟨.inl rfl, fun _ => rfl⟩

/-- only the `.body` state hands a `.` back -/
theorem scanLocal_peeks (T : Tables) (e : End) : ∀ (i : List Nat) (st : LState) (acc : List Nat) (le : Bool) (v r : List Nat),
    scanLocal T e st i acc le = .ok v r →
    Peeks (fun e i => scanLocal T e st i acc le) (acc.head? = some 0x2e ∧ le = false ∧ st = .body) True i v r := by
  intro i
  induction i with
  | nil =>
    intro st acc le v r h
    cases st <;> cases e <;> simp only [scanLocal] at h <;>
      first
      | (cases h; done)
      | (injection h with _ h2; subst h2; exact .eof (.inl rfl) fun _ => trivial)
      | exact .eof (localDone_stop h).1 fun _ => trivial
  | cons c rest ih =>
    intro st acc le v r h
    -- into a state other than `.body`: no `.` comes back from there
    have other : ∀ {st' : LState} {acc' : List Nat} {le' : Bool}, st' ≠ .body →
        Left (acc'.head? = some 0x2e ∧ le' = false ∧ st' = .body) rest r → r <:+ c :: rest :=
      fun hs h => h.tail fun h' => hs h'.2.2
    cases st with
    | first =>
      simp only [scanLocal] at h
      split at h
      · next hc => exact (ih _ _ _ _ _ h).cons Left.cons fun e' s => by simp only [scanLocal, if_pos hc]
      · next hc =>
        split at h
        · next h2 => exact (ih _ _ _ _ _ h).cons (other (by simp)) fun e' s => by simp only [scanLocal, if_neg hc, if_pos h2]
        · next h2 =>
          split at h
          · next h3 => exact (ih _ _ _ _ _ h).cons (other (by simp)) fun e' s => by simp only [scanLocal, if_neg hc, if_neg h2, if_pos h3]
          · next h3 =>
            injection h with h1 h2'; subst h1; subst h2'
            exact .stop (.inl rfl) fun e' s => by simp only [List.cons_append, scanLocal, if_neg hc, if_neg h2, if_neg h3]
    | body =>
      simp only [scanLocal] at h
      split at h
      · next hc => exact (ih _ _ _ _ _ h).cons Left.cons fun e' s => by simp only [scanLocal, if_pos hc]
      · next hc =>
        split at h
        · next h2 => exact (ih _ _ _ _ _ h).cons (other (by simp)) fun e' s => by simp only [scanLocal, if_neg hc, if_pos h2]
        · next h2 =>
          split at h
          · next h3 => exact (ih _ _ _ _ _ h).cons (other (by simp)) fun e' s => by simp only [scanLocal, if_neg hc, if_neg h2, if_pos h3]
          · next h3 =>
            exact .stop (localDone_stop h).1 fun e' s => by
              simp only [List.cons_append, scanLocal, if_neg hc, if_neg h2, if_neg h3]; exact (localDone_stop h).2 s
    | pct1 =>
      simp only [scanLocal] at h
      split at h
      · cases h
      · next hc => exact (ih _ _ _ _ _ h).cons (other (by simp)) fun e' s => by simp only [scanLocal, if_neg hc]
    | pct2 hx =>
      simp only [scanLocal] at h
      split at h
      · cases h
      · next hc => exact (ih _ _ _ _ _ h).cons Left.cons fun e' s => by simp only [scanLocal, if_neg hc]
    | esc =>
      simp only [scanLocal] at h
      split at h
      · next hc =>
        exact (ih _ _ _ _ _ h).cons (·.tail fun h' => Bool.noConfusion h'.2.1) fun e' s => by simp only [scanLocal, if_pos hc]
      · cases h

end RdfModel.Ttl
