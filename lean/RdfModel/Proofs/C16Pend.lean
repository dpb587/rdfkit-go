/-
  The namespace is the producers' (`Proofs.C16Ttl`), whose result type `TtlO.RO` `Scan` is stated over; the N-Quads side
  (Proofs/C16Scan) opens `Pend` and `Scan` from it.
-/
import RdfModel.Proofs.C16TW
import RdfModel.Model.TurtleOffsets
namespace RdfModel.Proofs.C16Ttl
open RdfModel RdfModel.TW RdfModel.NQO RdfModel.TtlO RdfModel.Proofs.C16 RdfModel.C16

/-! What the operations on `NQO.S` do to its two fields.  The same facts stand under the same names in `Proofs.C16`
    (Proofs/C16Scan) and as `bo_read`, `doc_read`, … in `Proofs.C16TtlDocO` (Proofs/C16TtlDocOErr); all are `rfl`. -/

@[simp] theorem read_bo (s : S) (c : RP) : (s.read c).bo = s.bo + c.2 := rfl
@[simp] theorem read_doc (s : S) (c : RP) : (s.read c).doc = s.doc := rfl
@[simp] theorem unread_bo (s : S) (c : RP) : (s.unread c).bo = s.bo - c.2 := rfl
@[simp] theorem unread_doc (s : S) (c : RP) : (s.unread c).doc = s.doc := rfl
@[simp] theorem commit_bo (s : S) (c : Chunk) : (s.commit c).bo = s.bo := rfl
@[simp] theorem commit_doc (s : S) (c : Chunk) : (s.commit c).doc = s.doc.map (fun h => c :: h) := rfl
@[simp] theorem range_def (s : S) (c : Chunk) : s.range c = s.doc.map (fun h => (h, c :: h)) := rfl

/-- Pending-runes invariant of a scanner call: what the writer holds plus the `n` bytes of pending
    (read, not yet committed) runes is at most what the rune buffer has handed out. -/
def Pend (s : S) (n : Nat) : Prop := ∀ h, s.doc = some h → size (histRunes h) + n ≤ s.bo

theorem bound_offErr (s : S) (u : Chunk) (ign n : Nat)
    (hp : ∀ h, s.doc = some h → size (histRunes h) + size u ≤ n) (hn : s.bo ≤ n) :
    EOff.bound (s.offErr u ign) ≤ n := by
  unfold S.offErr
  cases hd : s.doc with
  | none => simp [EOff.bound]; omega
  | some h => have := hp h hd; simpa [EOff.bound] using this

theorem Pend.commit {s s' : S} {X : Chunk} (hp : Pend s 0) (hb : s'.bo = s.bo + size X)
    (hd : s'.doc = s.doc.map (fun h => X :: h)) : Pend s' 0 := by
  intro d' hd'
  rw [hd, Option.map_eq_some_iff] at hd'
  obtain ⟨d, hd0, rfl⟩ := hd'
  have := hp d hd0
  simp only [histRunes, size_append, hb]; omega

/-- What a scanner does that runs in state `s` with `n` bytes read since the last commit and `inp` ahead:
    `P` of a success; the offset of an error lies inside the bytes read plus `inp`. -/
def Scan {α : Type} (P : α → Option SRange → S → List RP → Prop) (s : S) (n : Nat) (inp : List RP) :
    TtlO.RO α → Prop
  | .ok v rg s' rest => P v rg s' rest
  | .err _ o => Pend s n → EOff.bound o ≤ s.bo + size inp
  | .panic => True

section
variable {α : Type} {P P' : α → Option SRange → S → List RP → Prop} {s : S} {n : Nat} {inp rest : List RP}
  {c : RP} {k : EClass} {res : TtlO.RO α}

theorem Scan.ok {v : α} {rg : Option SRange} {s' : S} (h : Scan P s n inp res) (hr : res = .ok v rg s' rest) :
    P v rg s' rest := by subst hr; exact h

theorem Scan.err {o : EOff} (h : Scan P s n inp res) (hr : res = .err k o) (hp : Pend s n) :
    EOff.bound o ≤ s.bo + size inp := by subst hr; exact h hp

theorem Scan.imp (h : Scan P s n inp res) (hP : ∀ v rg s' r, P v rg s' r → P' v rg s' r) : Scan P' s n inp res := by
  cases res with
  | ok v rg s' r => exact hP _ _ _ _ h
  | err k o => exact h
  | panic => trivial

theorem Scan.mono {n' : Nat} (h : Scan P s n' inp res) (hn : n' ≤ n) : Scan P s n inp res := by
  cases res with
  | err k o => exact fun hp => h fun d hd => by have := hp d hd; omega
  | _ => exact h

theorem Scan.err0 : Scan P s n inp (.err k .none) := fun _ => Nat.zero_le _

theorem Scan.offErr {u : Chunk} {ign : Nat} (hu : size u ≤ n) : Scan P s n inp (.err k (s.offErr u ign)) :=
  fun hp => bound_offErr s u ign _ (fun h hd => by have := hp h hd; omega) (Nat.le_add_right _ _)

theorem Scan.offErrBack {u : Chunk} {ign : Nat} {l : RP} (hu : size u ≤ n) :
    Scan P s n inp (.err k ((s.unread l).offErr u ign)) :=
  fun hp => bound_offErr _ u ign _ (fun h hd => by have := hp h hd; omega) (by simp only [unread_bo]; omega)

/-- The pending bytes are spelt `c.2 + n`: the callers (C16TtlScan, C16Scan) keep the pending runes in a chunk `unc`
    and measure them by `size unc`, and `size (c :: unc)` is `c.2 + size unc` by `rfl`.  `h` comes first so that `P'`
    is known when `hP` is elaborated. -/
theorem Scan.read (h : Scan P' (s.read c) (c.2 + n) rest res) (hP : ∀ v rg s' r, P' v rg s' r → P v rg s' r) :
    Scan P s n (c :: rest) res := by
  cases res with
  | ok v rg s' r => exact hP _ _ _ _ h
  | panic => trivial
  | err k o =>
    intro hp
    have := h fun d hd => by have := hp d hd; simp only [read_bo]; omega
    simpa [Nat.add_assoc] using this

theorem Scan.read' (h : Scan P (s.read c) (c.2 + n) rest res) : Scan P s n (c :: rest) res :=
  h.read fun _ _ _ _ hp => hp

theorem Scan.readErr {u : Chunk} {ign : Nat} (hu : size u ≤ c.2 + n) :
    Scan P s n (c :: rest) (.err k ((s.read c).offErr u ign)) :=
  .read' (.offErr hu)

theorem Scan.commit {X : Chunk} (h : Scan P (s.commit X) n inp res) : Scan P s (n + size X) inp res := by
  cases res with
  | err k o =>
    refine fun hp => h fun d hd => ?_
    simp only [commit_doc, Option.map_eq_some_iff] at hd
    obtain ⟨d0, hd0, rfl⟩ := hd
    have := hp d0 hd0
    simp only [histRunes, size_append, commit_bo]; omega
  | _ => exact h

end

end RdfModel.Proofs.C16Ttl
