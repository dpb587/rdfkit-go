/-
  Nested-resource mode as a printed abstract document, denotation of lists:
  what `TA.dObjs` / `TA.dPOs` / `TA.dItems` yield for the abstract syntax the encoder's text stands for, in
  terms of the flattening (`Desc.stmtsNewTriples`) of a deep permutation of the statement tree.
-/
import RdfModel.Proofs.C02DocNestList
import RdfModel.Proofs.C02DocDP
import RdfModel.Props.C02DocNestDefs
namespace RdfModel.Proofs.C02Doc
open RdfModel RdfModel.Ttl RdfModel.TtlEnc RdfModel.C02 RdfModel.Desc RdfModel.Spec.TtlPrint

variable {T : Tables} {β : Type} {C : TtlDoc.Cfg} {c : Ctx β} {base : Option (List Nat)}

/-! the printer's `rdf:` constants (`TA`) are the encoder's (`Desc`); `C08.rdfFirst_eq` … compare them with the decoder's (`TtlDoc`) -/

theorem rdfFirst_eq' : TA.rdfFirst = Desc.rdfFirst := congrArg asc (by decide)
theorem rdfRest_eq' : TA.rdfRest = Desc.rdfRest := congrArg asc (by decide)
theorem rdfNil_eq' : TA.rdfNil = Desc.rdfNil := congrArg asc (by decide)

theorem stmtsNewTriples_append (s : Term (Desc.BN β)) : ∀ (a b : List (Stmt β)) (n : Nat),
    stmtsNewTriples s (a ++ b) n =
      ((stmtsNewTriples s a n).1 ++ (stmtsNewTriples s b (stmtsNewTriples s a n).2).1,
       (stmtsNewTriples s b (stmtsNewTriples s a n).2).2)
  | [], b, n => by simp [stmtsNewTriples]
  | x :: a, b, n => by
    simp only [List.cons_append, stmtsNewTriples, stmtsNewTriples_append s a b, List.append_assoc]

/-- the abstract object `x` denotes (under every subject and state) what the statement `s'` flattens to -/
def ObjDen (C : TtlDoc.Cfg) (c : Ctx β) (base : Option (List Nat)) (x : TA.Obj) (s' : Stmt β)
    (used : List (List Nat)) : Prop :=
  ∀ (D : List Nat → Prop) (st : TA.DState), StOK base c.pm D st → (∀ l ∈ used, D l) → ∀ (sN : Term (Desc.BN β)),
    ∃ (o' : TA.TermB) (ts : List (Triple TA.B)),
      TA.dObj C.resolve none st x =
        some (o', ts.map quadOf, { st with next := (Stmt.newTriples sN s' st.next).2 }) ∧
      ((⟨sN.map (sig c.label), stmtPred s', o'⟩ : Triple TA.B) :: ts).Perm
        ((Stmt.newTriples sN s' st.next).1.map (Triple.map (sig c.label)))

/-- the predicate-object list `pos` denotes (under every subject and state) what the statement list `l'` flattens to -/
def POsDen (C : TtlDoc.Cfg) (c : Ctx β) (base : Option (List Nat)) (pos : List TA.PO) (l' : List (Stmt β))
    (used : List (List Nat)) : Prop :=
  ∀ (D : List Nat → Prop) (st : TA.DState), StOK base c.pm D st → (∀ l ∈ used, D l) → ∀ (sN : Term (Desc.BN β)),
    ∃ (ts : List (Triple TA.B)),
      TA.dPOs C.resolve (sN.map (sig c.label)) none st pos =
        some (ts.map quadOf, { st with next := (stmtsNewTriples sN l' st.next).2 }) ∧
      ts.Perm ((stmtsNewTriples sN l' st.next).1.map (Triple.map (sig c.label)))

theorem st_next_eta (st : TA.DState) : { st with next := st.next } = st := by cases st; rfl

theorem objs_den (p : List Nat) : ∀ (os : List (SItem β)),
    (∀ o ∈ os, ObjDen C c base o.x o.s' o.used ∧ stmtPred o.s' = p) →
    ∀ (D : List Nat → Prop) (st : TA.DState), StOK base c.pm D st → (∀ o ∈ os, ∀ l ∈ o.used, D l) →
    ∀ (sN : Term (Desc.BN β)),
      ∃ (ts : List (Triple TA.B)),
        TA.dObjs C.resolve (sN.map (sig c.label)) (.iri p) none st (os.map (·.x)) =
          some (ts.map quadOf, { st with next := (stmtsNewTriples sN (os.map (·.s')) st.next).2 }) ∧
        ts.Perm ((stmtsNewTriples sN (os.map (·.s')) st.next).1.map (Triple.map (sig c.label)))
  | [], _, D, st, _, _, sN => by
    refine ⟨[], ?_, List.Perm.refl _⟩
    cases st
    rfl
  | o :: os, h, D, st, hst, hD, sN => by
    obtain ⟨hden, hp⟩ := h o List.mem_cons_self
    obtain ⟨o', ts1, h1, hp1⟩ := hden D st hst (hD o List.mem_cons_self) sN
    obtain ⟨ts2, h2, hp2⟩ := objs_den p os (fun x hx => h x (List.mem_cons_of_mem _ hx)) D _
      (hst.next (Stmt.newTriples sN o.s' st.next).2) (fun x hx => hD x (List.mem_cons_of_mem _ hx)) sN
    refine ⟨(⟨sN.map (sig c.label), p, o'⟩ : Triple TA.B) :: ts1 ++ ts2, ?_, ?_⟩
    · simp only [List.map_cons, TA.dObjs, h1, h2, stmtsNewTriples]
      simp [quadOf]
    · simp only [List.map_cons, stmtsNewTriples, List.map_append]
      rw [hp] at hp1
      exact List.Perm.append hp1 hp2

/-- the group `po` (verb and objects) denotes what the statement list `l'` flattens to -/
def PODen (C : TtlDoc.Cfg) (c : Ctx β) (base : Option (List Nat)) (po : TA.PO) (l' : List (Stmt β))
    (used : List (List Nat)) : Prop :=
  ∀ (D : List Nat → Prop) (st : TA.DState), StOK base c.pm D st → (∀ l ∈ used, D l) → ∀ (sN : Term (Desc.BN β)),
    ∃ (ts : List (Triple TA.B)),
      TA.dPO C.resolve (sN.map (sig c.label)) none st po =
        some (ts.map quadOf, { st with next := (stmtsNewTriples sN l' st.next).2 }) ∧
      ts.Perm ((stmtsNewTriples sN l' st.next).1.map (Triple.map (sig c.label)))

theorem pos_den : ∀ (gs : List (GW β)), (∀ g ∈ gs, PODen C c base g.po g.l' g.used) →
    POsDen C c base (gs.map (·.po)) (gs.flatMap (·.l')) (gs.flatMap (·.used))
  | [], _ => by
    intro D st _ _ sN
    refine ⟨[], ?_, List.Perm.refl _⟩
    cases st
    rfl
  | g :: gs, h => by
    intro D st hst hD sN
    obtain ⟨ts1, h1, hp1⟩ := h g List.mem_cons_self D st hst
      (fun l hl => hD l (by simp only [List.flatMap_cons, List.mem_append]; exact Or.inl hl)) sN
    obtain ⟨ts2, h2, hp2⟩ := pos_den gs (fun x hx => h x (List.mem_cons_of_mem _ hx)) D _
      (hst.next (stmtsNewTriples sN g.l' st.next).2)
      (fun l hl => hD l (by simp only [List.flatMap_cons, List.mem_append]; exact Or.inr hl)) sN
    refine ⟨ts1 ++ ts2, ?_, ?_⟩
    · simp only [List.map_cons, TA.dPOs, h1, h2, List.flatMap_cons, stmtsNewTriples_append]
      simp
    · simp only [List.flatMap_cons, stmtsNewTriples_append, List.map_append]
      exact List.Perm.append hp1 hp2

/-- the statements of the first cell of the list with the entries `es` (as `Desc.listCells`, with the
    entries as statements) -/
def chain : List (Stmt β) → List (Stmt β)
  | [] => []
  | [e] => [e, .obj Desc.rdfRest (.iri Desc.rdfNil)]
  | e :: e2 :: es => [e, .anon Desc.rdfRest (chain (e2 :: es))]

theorem items_den : ∀ (os : List (SItem β)), os ≠ [] →
    (∀ o ∈ os, ObjDen C c base o.x o.s' o.used ∧ stmtPred o.s' = Desc.rdfFirst) →
    ∀ (D : List Nat → Prop) (st : TA.DState), StOK base c.pm D st → (∀ o ∈ os, ∀ l ∈ o.used, D l) →
    ∀ (b : Nat),
      ∃ (ts : List (Triple TA.B)),
        TA.dItems C.resolve none st (.bnode (.anon b)) (os.map (·.x)) =
          some (ts.map quadOf,
            { st with next := (stmtsNewTriples (.bnode (.fresh b)) (chain (os.map (·.s'))) st.next).2 }) ∧
        ts.Perm ((stmtsNewTriples (.bnode (.fresh b)) (chain (os.map (·.s'))) st.next).1.map (Triple.map (sig c.label)))
  | [], h, _, _, _, _, _, _ => absurd rfl h
  | [o], _, h, D, st, hst, hD, b => by
    obtain ⟨hden, hp⟩ := h o List.mem_cons_self
    obtain ⟨o', ts1, h1, hp1⟩ := hden D st hst (hD o List.mem_cons_self) (.bnode (.fresh b))
    refine ⟨((⟨.bnode (.anon b), Desc.rdfFirst, o'⟩ : Triple TA.B) :: ts1) ++
      [(⟨.bnode (.anon b), Desc.rdfRest, .iri Desc.rdfNil⟩ : Triple TA.B)], ?_, ?_⟩
    · simp only [List.map_cons, List.map_nil, TA.dItems, h1, chain, stmtsNewTriples, Stmt.newTriples]
      simp [quadOf, rdfFirst_eq', rdfRest_eq', rdfNil_eq']
    · simp only [List.map_cons, List.map_nil, chain, stmtsNewTriples, Stmt.newTriples, List.map_append,
        List.append_nil]
      rw [hp] at hp1
      exact List.Perm.append hp1 (List.Perm.refl _)
  | o :: o2 :: os, _, h, D, st, hst, hD, b => by
    obtain ⟨hden, hp⟩ := h o List.mem_cons_self
    obtain ⟨o', ts1, h1, hp1⟩ := hden D st hst (hD o List.mem_cons_self) (.bnode (.fresh b))
    obtain ⟨ts2, h2, hp2⟩ := items_den (o2 :: os) (by simp) (fun x hx => h x (List.mem_cons_of_mem _ hx)) D
      { st with next := (Stmt.newTriples (.bnode (.fresh b)) o.s' st.next).2 + 1 } (hst.next _)
      (fun x hx => hD x (List.mem_cons_of_mem _ hx)) (Stmt.newTriples (.bnode (.fresh b)) o.s' st.next).2
    refine ⟨((⟨.bnode (.anon b), Desc.rdfFirst, o'⟩ : Triple TA.B) :: ts1) ++
      ((⟨.bnode (.anon b), Desc.rdfRest, .bnode (.anon (Stmt.newTriples (.bnode (.fresh b)) o.s' st.next).2)⟩ :
        Triple TA.B) :: ts2), ?_, ?_⟩
    · simp only [List.map_cons] at h2 ⊢
      simp only [TA.dItems, h1, TA.DState.fresh, h2, chain, stmtsNewTriples, Stmt.newTriples]
      simp [quadOf, rdfFirst_eq', rdfRest_eq']
    · simp only [List.map_cons] at hp2 ⊢
      simp only [chain, stmtsNewTriples, Stmt.newTriples, List.map_append, List.append_nil, List.map_cons,
        List.map_nil]
      rw [hp] at hp1
      refine List.Perm.append hp1 ?_
      exact (List.Perm.cons _ hp2).trans (List.perm_append_singleton _ _).symm

end RdfModel.Proofs.C02Doc
