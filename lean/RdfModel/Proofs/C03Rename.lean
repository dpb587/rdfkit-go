/-
  The equivariance is of the computation, not only of the result: on `qs.map (Quad.map σ)` with the renamed order
  parameters the algorithm performs exactly the renamed steps.  So it needs no hypothesis on the hash function, on
  ties, or on the shape of the dataset.
-/
import RdfModel.Proofs.C03Model
namespace RdfModel.Proofs.C03
open RdfModel RdfModel.Spec.RDFC10 RdfModel.Proofs.StrOrd


variable {β : Type} [DecidableEq β] {γ : Type} [DecidableEq γ]

def mapND (σ : β → γ) (r : NDResult β) : NDResult γ := ⟨r.hash, mapIssuer σ r.issuer⟩

def mapHn (σ : β → γ) (m : List (Str × List β)) : List (Str × List γ) :=
  m.map (fun e => (e.1, e.2.map σ))

def mapTry (σ : β → γ) : Try (Str × Issuer β) → Try (Str × Issuer γ)
  | .out => .out
  | .skip => .skip
  | .ok (p, i) => .ok (p, mapIssuer σ i)

omit [DecidableEq β] [DecidableEq γ] in
theorem addToMap_mapHn (σ : β → γ) (m : List (Str × List β)) (k : Str) (v : β) :
    addToMap (mapHn σ m) k (σ v) = mapHn σ (addToMap m k v) :=
  addToMap_mapKV (fun s : Str => s) (fun _ _ h => h) σ m k v

omit [DecidableEq β] [DecidableEq γ] in
theorem sortByKey_mapHn (σ : β → γ) (m : List (Str × List β)) :
    sortByKey (mapHn σ m) = mapHn σ (sortByKey m) :=
  mergeSort_map_key m fun _ _ => rfl

/-! ### §4.7, §4.8 on a renamed state

`B`, `B'` are the blank node to quads maps of the dataset and of the renamed dataset; all that is used
about them is `hG` (stored quads correspond) and `hF` (first-degree hashes agree). -/

section nd
variable (H : Str → Str) (σ : β → γ) (hσ : Function.Injective σ) (B : B2Q β) (B' : B2Q γ)
  (hG : ∀ b, getList B' (σ b) = (getList B b).map (Quad.map σ))
  (hF : ∀ b, hashFirstDegree H B' (σ b) = hashFirstDegree H B b)

omit [DecidableEq β] [DecidableEq γ] in
theorem predicateValue_map (q : Quad β) : predicateValue (q.map σ) = predicateValue q := by
  obtain ⟨s, p, o, g⟩ := q
  cases p <;> rfl

include hσ hF in
theorem hashRelated_map (C I : Issuer β) (r : β) (q : Quad β) (pos : Nat) :
    hashRelated H B' (mapIssuer σ C) (mapIssuer σ I) (σ r) (q.map σ) pos
      = hashRelated H B C I r q pos := by
  unfold hashRelated
  simp only [get?_map σ hσ, predicateValue_map, hF]

include hσ in
theorem relT_map (i : β) (t : Term β) (pos : Nat) :
    relT (σ i) (t.map σ) pos = (relT i t pos).map (fun cp : β × Nat => (σ cp.1, cp.2)) := by
  cases t with
  | bnode b =>
    simp only [relT, Term.map, hσ.eq_iff]
    split <;> rfl
  | iri v => rfl
  | lit l d t => rfl

include hσ in
theorem relatedOf_map (i : β) (q : Quad β) :
    relatedOf (σ i) (q.map σ) = (relatedOf i q).map (fun cp : β × Nat => (σ cp.1, cp.2)) := by
  rw [relatedOf_eq, relatedOf_eq]
  obtain ⟨s, p, o, g⟩ := q
  cases g with
  | none => simp only [Quad.map, relT_map σ hσ, List.map_append, Option.map_none, List.map_nil]
  | some g => simp only [Quad.map, relT_map σ hσ, List.map_append, Option.map_some]

include hσ hG hF in
theorem hashToRelated_map (C I : Issuer β) (i : β) :
    hashToRelated H B' (mapIssuer σ C) (mapIssuer σ I) (σ i) = mapHn σ (hashToRelated H B C I i) := by
  unfold hashToRelated
  rw [hG, List.foldl_map]
  refine List.foldl_hom (mapHn σ) (init := []) fun m q => ?_
  rw [relatedOf_map σ hσ, List.foldl_map]
  refine List.foldl_hom (mapHn σ) fun m cp => ?_
  rw [hashRelated_map H σ hσ B B' hF, addToMap_mapHn]

include hσ in
theorem pathLoop_map (C : Issuer β) (chosen : Str) (p : List β) (path : Str) (ic : Issuer β)
    (recl : List β) :
    pathLoop (mapIssuer σ C) chosen (p.map σ) (path, mapIssuer σ ic, recl.map σ)
      = (pathLoop C chosen p (path, ic, recl)).map
          (fun st => (st.1, mapIssuer σ st.2.1, st.2.2.map σ)) := by
  induction p generalizing path ic recl with
  | nil => rfl
  | cons r rest ih =>
    simp only [List.map_cons, pathLoop, get?_map σ hσ]
    cases hC : C.get? r with
    | some id =>
      simp only
      split
      · rfl
      · exact ih _ _ _
    | none =>
      simp only [issue_map_fst σ hσ, issue_map σ hσ]
      split
      · rfl
      · have hr : (if (ic.get? r).isNone = true then recl.map σ ++ [σ r] else recl.map σ)
            = (if (ic.get? r).isNone = true then recl ++ [r] else recl).map σ := by
          split <;> simp
        rw [hr]
        exact ih _ _ _

variable (perms : List β → List (List β)) (perms' : List γ → List (List γ))
  (hperms : ∀ l, perms' (l.map σ) = (perms l).map (List.map σ))
  (rec : β → Issuer β → Option (NDResult β)) (rec' : γ → Issuer γ → Option (NDResult γ))
  (hrec : ∀ b I, rec' (σ b) (mapIssuer σ I) = (rec b I).map (mapND σ))

include hσ hrec in
theorem recLoop_map (chosen : Str) (recl : List β) (path : Str) (ic : Issuer β) :
    recLoop rec' chosen (recl.map σ) path (mapIssuer σ ic)
      = mapTry σ (recLoop rec chosen recl path ic) := by
  induction recl generalizing path ic with
  | nil => rfl
  | cons r rest ih =>
    simp only [List.map_cons, recLoop, hrec]
    cases rec r ic with
    | none => rfl
    | some result =>
      simp only [Option.map_some, mapND, issue_map_fst σ hσ]
      split
      · rfl
      · exact ih _ _

include hσ hrec in
theorem permLoop_map (C I : Issuer β) (ps : List (List β)) (cp : Str) (ci : Issuer β) :
    permLoop rec' (mapIssuer σ C) (mapIssuer σ I) (ps.map (List.map σ)) cp (mapIssuer σ ci)
      = (permLoop rec C I ps cp ci).map (fun r => (r.1, mapIssuer σ r.2)) := by
  induction ps generalizing cp ci with
  | nil => rfl
  | cons p ps ih =>
    simp only [List.map_cons, permLoop]
    have hp := pathLoop_map σ hσ C cp p [] I []
    simp only [List.map_nil] at hp
    rw [hp]
    cases pathLoop C cp p ([], I, []) with
    | none => exact ih _ _
    | some st =>
      obtain ⟨path, ic, recl⟩ := st
      simp only [Option.map_some, recLoop_map σ hσ rec rec' hrec]
      cases recLoop rec cp recl path ic with
      | out => rfl
      | skip => exact ih _ _
      | ok a =>
        obtain ⟨path2, ic2⟩ := a
        simp only [mapTry]
        split
        · exact ih _ _
        · exact ih _ _

include hσ hrec hperms in
theorem groupLoop_map (C : Issuer β) (gs : List (Str × List β)) (data : Str) (I : Issuer β) :
    groupLoop rec' (mapIssuer σ C) perms' (mapHn σ gs) data (mapIssuer σ I)
      = (groupLoop rec C perms gs data I).map (fun r => (r.1, mapIssuer σ r.2)) := by
  induction gs generalizing data I with
  | nil => rfl
  | cons g gs ih =>
    obtain ⟨rh, bl⟩ := g
    simp only [mapHn, List.map_cons, groupLoop, hperms, permLoop_map σ hσ rec rec' hrec]
    cases permLoop rec C I (perms bl) [] I with
    | none => rfl
    | some r =>
      obtain ⟨cpath, cissuer⟩ := r
      exact ih _ _

include hσ hG hF hperms in
theorem hashNDegree_map (C : Issuer β) (fuel : Nat) (i : β) (I : Issuer β) :
    hashNDegree H perms' B' (mapIssuer σ C) fuel (σ i) (mapIssuer σ I)
      = (hashNDegree H perms B C fuel i I).map (mapND σ) := by
  induction fuel generalizing i I with
  | zero => rfl
  | succ fuel ih =>
    simp only [hashNDegree, hashToRelated_map H σ hσ B B' hG hF, sortByKey_mapHn]
    rw [groupLoop_map σ hσ perms perms' hperms _ _ ih]
    cases groupLoop (hashNDegree H perms B C fuel) C perms (sortByKey (hashToRelated H B C I i)) [] I with
    | none => rfl
    | some r => rfl

include hσ hG hF hperms in
theorem hashPathList_map (C : Issuer β) (fuel : Nat) (ns : List β) :
    hashPathList H perms' B' (mapIssuer σ C) fuel (ns.map σ)
      = (hashPathList H perms B C fuel ns).map (List.map (mapND σ)) := by
  induction ns with
  | nil => rfl
  | cons n rest ih =>
    simp only [List.map_cons, hashPathList, get?_map σ hσ]
    split
    · exact ih
    · have ht : ((Issuer.new [0x62] : Issuer γ).issue (σ n)).2
          = mapIssuer σ ((Issuer.new [0x62] : Issuer β).issue n).2 := by
        rw [← mapIssuer_new σ, issue_map σ hσ]
      rw [ht, hashNDegree_map H σ hσ B B' hG hF perms perms' hperms, ih]
      cases hashNDegree H perms B C fuel n ((Issuer.new [0x62] : Issuer β).issue n).2 with
      | none => rfl
      | some r =>
        cases hashPathList H perms B C fuel rest with
        | none => rfl
        | some rs => rfl

omit [DecidableEq β] [DecidableEq γ] in
theorem mergeSort_mapND (σ : β → γ) (l : List (NDResult β)) :
    (l.map (mapND σ)).mergeSort (fun a b => strLe a.hash b.hash)
      = (l.mergeSort (fun a b => strLe a.hash b.hash)).map (mapND σ) :=
  mergeSort_map_key l fun _ _ => rfl

include hσ hG hF hperms in
theorem step5_map (fuel : Nat) (gs : List (Str × List β)) (C : Issuer β) :
    step5 H perms' B' fuel (mapHn σ gs) (mapIssuer σ C)
      = (step5 H perms B fuel gs C).map (mapIssuer σ) := by
  induction gs generalizing C with
  | nil => rfl
  | cons g gs ih =>
    obtain ⟨h, il⟩ := g
    simp only [mapHn, List.map_cons, step5, hashPathList_map H σ hσ B B' hG hF perms perms' hperms]
    cases hashPathList H perms B C fuel il with
    | none => rfl
    | some hpl =>
      simp only [Option.map_some, mergeSort_mapND]
      rw [List.foldl_map, List.foldl_hom (mapIssuer σ)
        (g₁ := fun c r => issueAll c (r.issuer.issued.map (·.1))) fun c r => by
          simp only [mapND, issued_keys_map, issueAll_map σ hσ]]
      exact ih _

end nd

theorem step4S_map (σ : β → γ) (hσ : Function.Injective σ) (C : Issuer β) (e : Str × List β) :
    C04.step4S (mapIssuer σ C) (e.1, e.2.map σ) = mapIssuer σ (C04.step4S C e) := by
  obtain ⟨k, l⟩ := e
  match l with
  | [] => rfl
  | [n] => simp only [C04.step4S, List.map_cons, List.map_nil, issue_map σ hσ]
  | _ :: _ :: _ => rfl

def mapResult (σ : β → γ) (r : Result β) : Result γ :=
  ⟨r.lines, r.issued.map (fun e => (σ e.1, e.2))⟩

theorem canonFuel_rename (H : Str → Str) (σ : β → γ) (hσ : Function.Injective σ)
    (ord : List β → List β) (ord' : List γ → List γ) (hord : ∀ l, ord' (l.map σ) = (ord l).map σ)
    (perms : List β → List (List β)) (perms' : List γ → List (List γ))
    (hperms : ∀ l, perms' (l.map σ) = (perms l).map (List.map σ)) (fuel : Nat) (qs : List (Quad β)) :
    canonFuel H ord' perms' true fuel (qs.map (Quad.map σ))
      = (canonFuel H ord perms true fuel qs).map (mapResult σ) := by
  have hG := getList_bnodeToQuads_map σ hσ qs
  have hF := first_degree_rename H σ hσ qs
  have h3 : C04.h2bS H ord' (bnodeToQuads true (qs.map (Quad.map σ)))
      = mapHn σ (C04.h2bS H ord (bnodeToQuads true qs)) := by
    unfold C04.h2bS group
    rw [keys_bnodeToQuads_map σ hσ, hord, List.foldl_map]
    exact List.foldl_hom (mapHn σ) (init := []) fun m n => by rw [hF, addToMap_mapHn]
  rw [C04.canonFuel_unfold, C04.canonFuel_unfold, h3, sortByKey_mapHn]
  generalize sortByKey (C04.h2bS H ord (bnodeToQuads true qs)) = sorted
  have h4 : (mapHn σ sorted).foldl C04.step4S (Issuer.new c14nPrefix)
      = mapIssuer σ (sorted.foldl C04.step4S (Issuer.new c14nPrefix)) :=
    List.foldl_map.trans
      (List.foldl_hom (mapIssuer σ) (init := Issuer.new c14nPrefix) fun c e => step4S_map σ hσ c e)
  have hrem : (mapHn σ sorted).filter (fun e => decide (e.2.length ≠ 1))
      = mapHn σ (sorted.filter (fun e => decide (e.2.length ≠ 1))) := by
    simp [mapHn, List.filter_map, Function.comp_def]
  rw [h4, hrem, step5_map H σ hσ _ _ hG hF perms perms' hperms]
  cases step5 H perms (bnodeToQuads true qs) fuel (sorted.filter (fun e => decide (e.2.length ≠ 1)))
    (sorted.foldl C04.step4S (Issuer.new c14nPrefix)) with
  | none => rfl
  | some canon =>
    simp only [Option.map_some, mapResult, List.map_map]
    congr 2
    apply congrArg
    apply List.map_congr_left
    intro q _
    simp only [Function.comp_apply, nquad_map]
    congr 1
    funext b
    simp only [Function.comp_apply, get?_map σ hσ]

omit [DecidableEq β] [DecidableEq γ] in
theorem swapAt_map (σ : β → γ) (l : List β) (i j : Nat) :
    Rdfcanon.swapAt (l.map σ) i j = (Rdfcanon.swapAt l i j).map σ := by
  unfold Rdfcanon.swapAt
  simp only [List.getElem?_map]
  cases l[i]? <;> cases l[j]? <;> simp [List.map_set]

omit [DecidableEq β] [DecidableEq γ] in
theorem heapNext_map (σ : β → γ) (fuel : Nat) (arr : List β) (c : List Nat) (i : Nat) :
    Rdfcanon.heapNext fuel (arr.map σ) c i
      = (Rdfcanon.heapNext fuel arr c i).map (fun r => (r.1.map σ, r.2)) := by
  induction fuel generalizing c i with
  | zero => rfl
  | succ fuel ih =>
    simp only [Rdfcanon.heapNext, List.length_map, swapAt_map]
    split
    · rfl
    · split
      · rfl
      · exact ih _ _

omit [DecidableEq β] [DecidableEq γ] in
theorem heapPermsFrom_map (σ : β → γ) (n : Nat) (arr : List β) (c : List Nat) :
    Rdfcanon.heapPermsFrom n (arr.map σ) c = (Rdfcanon.heapPermsFrom n arr c).map (List.map σ) := by
  induction n generalizing arr c with
  | zero => rfl
  | succ n ih =>
    simp only [Rdfcanon.heapPermsFrom, heapNext_map, List.length_map, List.map_cons]
    cases Rdfcanon.heapNext (arr.length + 1) arr c 0 with
    | none => rfl
    | some r => obtain ⟨a, c'⟩ := r; simp only [Option.map_some, ih]

section
-- `C03.heapPerms_renamed` binds the two `DecidableEq` instances, which it only passes on to this lemma
set_option linter.unusedSectionVars false
theorem heapPerms_map (σ : β → γ) (n : Nat) (l : List β) :
    Rdfcanon.heapPerms n (l.map σ) = (Rdfcanon.heapPerms n l).map (List.map σ) := by
  unfold Rdfcanon.heapPerms
  rw [List.length_map]
  exact heapPermsFrom_map σ n l _
end

theorem canon_relabel (T : NQ.Tables) (hT : C04.TablesCanon T) (H : Str → Str) (σ : β → γ)
    (hσ : Function.Injective σ) (lim : Rdfcanon.Limits) (ord : List β → List β) (ord' : List γ → List γ)
    (hord : C04.OrdOK ord) (hord' : C04.OrdOK ord') (hoo : ∀ l, ord' (l.map σ) = (ord l).map σ)
    (qs : List (Quad β)) (hwf : ∀ q ∈ qs, C04.WFQuad T q) (out : Rdfcanon.Out β) (out' : Rdfcanon.Out γ)
    (h : Rdfcanon.canon T H lim ord qs = .ok out)
    (h' : Rdfcanon.canon T H lim ord' (qs.map (Quad.map σ)) = .ok out') :
    out'.lines.map (·.encoded) = out.lines.map (·.encoded) ∧ out'.bytes = out.bytes ∧
      out'.issued = out.issued.map (fun e => (σ e.1, e.2)) ∧
      (∀ b, labelOf out' (σ b) = labelOf out b) := by
  have hwf' := wfQuad_perm_map (σ := σ) (List.Perm.refl _) hwf
  -- against the specification run with Go's own enumeration `heapPerms (lim.maxPermutations + 1)` (`PermsAgree` by `rfl`)
  have s1 := C04.canon_refines_spec T hT H lim ord hord _
    (fun _ _ => rfl) qs hwf out h
  have s2 := C04.canon_refines_spec T hT H lim ord' hord' _
    (fun _ _ => rfl) (qs.map (Quad.map σ)) hwf' out' h'
  rw [canonFuel_rename H σ hσ ord ord' hoo _ _ (heapPerms_map σ _) _ qs, s1] at s2
  simp only [Option.map_some, Option.some.injEq, mapResult, C04.specView] at s2
  have hl : out.lines.map (·.encoded) = out'.lines.map (·.encoded) := congrArg Result.lines s2
  have hi : out.issued.map (fun e => (σ e.1, e.2)) = out'.issued := congrArg Result.issued s2
  refine ⟨hl.symm, ?_, hi.symm, ?_⟩
  · unfold Rdfcanon.Out.bytes; rw [hl]
  · intro b
    unfold labelOf
    rw [← hi, assoc_map_inj σ hσ]

end RdfModel.Proofs.C03
