/-
  A fuel-free view of the statement machine of `Model/TurtleDoc.lean`: configurations (`Conf`: the stack with `rsNext`
  on top, buffer, environment) and runs of scan calls with the statements they emit (`Steps`).  A run from the initial
  configuration that empties the stack IS what `TtlDoc.run` computes (`run_of_steps`): a scan call of a configuration is
  an iteration of the loop in `Next` (`Reach`, `Accepts`), with `rsNext` pushed back on the stack.
-/
import RdfModel.Proofs.TtlDocIter
namespace RdfModel.TtlDoc
open RdfModel

structure Conf where
  stk : List Frame
  inp : List Nat
  env : Env

def stepConf (C : Cfg) (e : End) (c : Conf) : Option (Conf × Option Stmt) :=
  match c.stk with
  | [] => none
  | f :: s =>
    match scanFn C e f c.inp c.env with
    | .ok o => some (⟨o.cur.toList ++ (if o.term then [] else o.push.reverse ++ s), o.inp, o.env⟩, o.emit)
    | _ => none

inductive Steps (C : Cfg) (e : End) : Conf → List Stmt → Conf → Prop where
  | refl (c : Conf) : Steps C e c [] c
  | quiet {c c' c'' : Conf} {ss : List Stmt} : stepConf C e c = some (c', none) → Steps C e c' ss c'' → Steps C e c ss c''
  | emit {c c' c'' : Conf} {s : Stmt} {ss : List Stmt} :
      stepConf C e c = some (c', some s) → Steps C e c' ss c'' → Steps C e c (s :: ss) c''

variable {C : Cfg} {e : End}

theorem Steps.trans {c1 c2 c3 : Conf} {s1 s2 : List Stmt} (h1 : Steps C e c1 s1 c2) (h2 : Steps C e c2 s2 c3) :
    Steps C e c1 (s1 ++ s2) c3 := by
  induction h1 with
  | refl c => simpa using h2
  | quiet h _ ih => exact .quiet h (ih h2)
  | emit h _ ih => exact .emit h (ih h2)

theorem Steps.one {c c' : Conf} {em : Option Stmt} (h : stepConf C e c = some (c', em)) :
    Steps C e c em.toList c' := by
  cases em with
  | none => exact .quiet h (.refl _)
  | some s => exact .emit h (.refl _)

theorem Steps.step {c c' c'' : Conf} {em : Option Stmt} {ss : List Stmt}
    (h : stepConf C e c = some (c', em)) (h2 : Steps C e c' ss c'') : Steps C e c (em.toList ++ ss) c'' :=
  (Steps.one h).trans h2

def stOf (c : Conf) (stmts : List Stmt) : St :=
  { stack := c.stk, inp := c.inp, env := c.env, err := none, stmts := stmts }

theorem reach_stepConf {c c' : Conf} {em : Option Stmt} {r : NextRes} (h : stepConf C e c = some (c', em))
    (hr : Reach C e none (stOf c' em.toList) r) : Reach C e none (stOf c []) r := by
  unfold stepConf at h
  cases hs : c.stk with
  | nil => simp [hs] at h
  | cons f s =>
    simp only [hs] at h
    cases hf : scanFn C e f c.inp c.env with
    | panic => simp [hf] at h
    | err k => simp [hf] at h
    | ok o =>
      simp only [hf, Option.some.injEq, Prod.mk.injEq] at h
      obtain ⟨rfl, rfl⟩ := h
      refine reach_pop_step (st := stOf c []) rfl rfl hs hf rfl (reach_pushCur (by simp [applyOut, stOf]) ?_)
      have : pushCur o.cur (applyOut { stOf c [] with stack := s } o) =
          stOf ⟨o.cur.toList ++ (if o.term then [] else o.push.reverse ++ s), o.inp, o.env⟩ o.emit.toList := by
        cases o.cur <;> simp [pushCur, applyOut, stOf]
      rw [this]; exact hr

theorem accepts_of_steps {c cf : Conf} {ss : List Stmt} (h : Steps C e c ss cf) (hf : cf.stk = []) :
    Accepts C e (stOf c []) ss := by
  induction h with
  | refl c => exact .stop (.done (iter_none rfl rfl (by simp [popFrame, stOf, St.dropFirst, hf]))) rfl
  | quiet hs _ ih =>
    cases ih hf with
    | stop hr he => exact .stop (reach_stepConf hs hr) he
    | yield hr hst ha => exact .yield (reach_stepConf hs hr) hst ha
  | @emit c c' c'' s ss hs _ ih =>
    -- the statement is pending: this `Next` answers `true`, the next one starts from `c'`
    exact .yield (a' := stOf c' [s]) (reach_stepConf hs (.done (iter_yes rfl (by simp [stOf])))) rfl
      (accepts_congr (a := stOf c' []) rfl (ih hf))

theorem run_of_steps (hC : C.P.Consumes) (base : Option (List Nat)) (pf : List (List Nat × List Nat)) (inp : List Nat)
    (ss : List Stmt) (cf : Conf)
    (h : Steps C e ⟨[⟨{}, .statement⟩], inp, { base := base, prefixes := pf, nextAnon := 0 }⟩ ss cf)
    (hf : cf.stk = []) : run C e base pf inp = (ss, .clean) :=
  run_of_accepts hC (accepts_of_steps h hf)

end RdfModel.TtlDoc
