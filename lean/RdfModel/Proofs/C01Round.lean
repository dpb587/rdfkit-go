import RdfModel.Proofs.C01Scan
namespace RdfModel.Proofs.C01
open RdfModel RdfModel.NQ RdfModel.C01

variable {β : Type}

theorem captureTerm_sp (T : Tables) (hT : TablesOK T) (urlOk : List Nat → Bool) (e : End) (pos : Pos)
    (r : List Nat) :
    captureTerm T urlOk e pos false (0x20 :: r) = captureTerm T urlOk e pos false r := by
  simp [captureTerm, isSpace, hT.space_sp]

theorem captureTerm_iri (T : Tables) (hT : TablesOK T) (urlOk : List Nat → Bool) (e : End) (pos : Pos)
    (ascii : Bool) (v : List Nat) (hv : WFIri urlOk v) (rest : List Nat) :
    captureTerm T urlOk e pos false (writeIRI T ascii v ++ rest) = .ok (.iri v) rest := by
  simp only [writeIRI, List.cons_append, List.append_assoc, List.nil_append]
  simp [captureTerm, captureIRI_write T hT urlOk e ascii v hv rest]

theorem captureTerm_bnode (T : Tables) (hT : TablesOK T) (urlOk : List Nat → Bool) (e : End) (pos : Pos)
    (hpos : pos.bnode = true) (l : List Nat) (hl : labelOK T l = true) (rest : List Nat) :
    captureTerm T urlOk e pos false (0x5f :: 0x3a :: l ++ 0x20 :: rest)
      = .ok (.bnode l) (0x20 :: rest) := by
  simp only [List.cons_append]
  simp [captureTerm, hpos, captureBNode_write T hT.pn_sp hT.pn_dot e l rest hl]

theorem captureTerm_node (T : Tables) (hT : TablesOK T) (urlOk : List Nat → Bool) (e : End) (pos : Pos)
    (hpos : pos.bnode = true) (ascii : Bool) (label : β → List Nat) (t : Term β)
    (hl : ∀ b, t = .bnode b → labelOK T (label b) = true) (ht : WFNode urlOk t) (rest : List Nat) :
    captureTerm T urlOk e pos false (nodeW T ascii label t ++ 0x20 :: rest)
      = .ok (t.map label) (0x20 :: rest) := by
  cases t with
  | iri v => exact captureTerm_iri T hT urlOk e pos ascii v ht _
  | bnode b => exact captureTerm_bnode T hT urlOk e pos hpos _ (hl b rfl) rest
  | lit l d t => exact ht.elim

theorem captureTerm_lit (T : Tables) (hT : TablesOK T) (urlOk : List Nat → Bool) (e : End)
    (ascii : Bool) (lex dt : List Nat) (lang : Option (List Nat)) (h : WFLit urlOk lex dt lang)
    (rest : List Nat) :
    captureTerm T urlOk e posObject false (writeLiteral T ascii lex dt lang ++ 0x20 :: rest)
      = .ok (.lit lex dt lang) (0x20 :: rest) := by
  obtain ⟨sfx, hw, hs⟩ := writeLiteral_wf T ascii h
  have hg := goString_id_of_scalar h.1
  rw [hw]
  simp only [List.cons_append, List.append_assoc, captureTerm, posObject, captureLiteral,
    scanLit_body T hT e ascii lex h.1]
  rcases hs with ⟨rfl, hx, rfl⟩ | ⟨t, rfl, hl, rfl, ht⟩ | ⟨rfl, _, hl, hd, rfl⟩
  · simp [hg, hx]
  · simp [hg, hl, langPrimary_write e t rest ht]
  · simp [hg, writeIRI, captureIRI_write T hT urlOk e ascii dt h.2.1, hl, hd]

theorem captureTerm_obj (T : Tables) (hT : TablesOK T) (urlOk : List Nat → Bool) (e : End)
    (ascii : Bool) (label : β → List Nat) (t : Term β)
    (hl : ∀ b, t = .bnode b → labelOK T (label b) = true) (ht : WFObject urlOk t) (rest : List Nat) :
    captureTerm T urlOk e posObject false (objW T ascii label t ++ 0x20 :: rest)
      = .ok (t.map label) (0x20 :: rest) := by
  cases t with
  | iri v => exact captureTerm_iri T hT urlOk e _ ascii v ht _
  | bnode b => exact captureTerm_bnode T hT urlOk e _ rfl _ (hl b rfl) rest
  | lit l d t => exact captureTerm_lit T hT urlOk e ascii l d t ht rest

theorem afterObject_dot (T : Tables) (hT : TablesOK T) (e : End) (r : List Nat) :
    afterObject T e false (0x20 :: 0x2e :: r) = .ok none r := by
  simp [afterObject, isSpace, hT.space_sp]

theorem expectDot_dot (T : Tables) (hT : TablesOK T) (e : End) (r : List Nat) :
    expectDot T e false (0x20 :: 0x2e :: r) = .ok () r := by
  simp [expectDot, isSpace, hT.space_sp]

theorem afterObject_graph (T : Tables) (hT : TablesOK T) (e : End) (c : Nat) (r : List Nat)
    (hc : c = 0x3c ∨ c = 0x5f) :
    afterObject T e false (0x20 :: c :: r) = .ok (some (c :: r)) (c :: r) := by
  rcases hc with rfl | rfl
  · simp [afterObject, isSpace, hT.space_sp, hT.space_lt]
  · simp [afterObject, isSpace, hT.space_sp, hT.space_us]

/-- What the decoder returns for an encoded quad. -/
def outQuad (label : β → List Nat) (quads : Bool) (q : Quad β) : Quad (List Nat) :=
  if quads then q.map label else (Quad.dropGraph q).map label

/-- The blank nodes a statement carries (subject, object, graph name) have admissible labels. -/
def LabelsOn (T : Tables) (label : β → List Nat) (q : Quad β) : Prop :=
  ∀ b, q.s = .bnode b ∨ q.o = .bnode b ∨ q.g = some (.bnode b) → labelOK T (label b) = true

theorem statement_write (T : Tables) (hT : TablesOK T) (urlOk : List Nat → Bool) (e : End)
    (ascii : Bool) (label : β → List Nat) (quads : Bool)
    (q : Quad β) (hl : LabelsOn T label q) (h : WFQuad urlOk q) (rest : List Nat) :
    statement T urlOk e quads (quadBody T ascii label quads q ++ 0x0a :: rest)
      = .quad (outQuad label quads q) (0x0a :: rest) := by
  obtain ⟨s, p, o, g⟩ := q
  obtain ⟨hs, hp, ho, hg⟩ := h
  cases p with
  | bnode b => exact hp.elim
  | lit l d t => exact hp.elim
  | iri pv =>
  have hpw : nodeW T ascii label (Term.iri pv) = writeIRI T ascii pv := rfl
  have hnode := captureTerm_node T hT urlOk e posSubject rfl ascii label
  have hskip : ∀ tl, skipToStmt T false (nodeW T ascii label s ++ tl) = some (nodeW T ascii label s ++ tl) := by
    obtain ⟨c, r, hsc, hc⟩ := nodeW_head T ascii label urlOk s hs
    rw [hsc]
    rcases hc with rfl | rfl
    · simp [skipToStmt, isSpace, hT.space_lt]
    · simp [skipToStmt, isSpace, hT.space_us]
  have hobj := captureTerm_obj T hT urlOk e ascii label o (fun b h => hl b (.inr (.inl h))) ho
  -- subject and predicate; the object lemma wants the text after it to begin with a space, which
  -- shows once the graph slot is split
  simp only [statement, quadBody, List.append_assoc, List.cons_append, List.nil_append, hskip, hnode s (fun b h => hl b (.inl h)) hs,
    captureTerm_sp T hT, hpw, captureTerm_iri T hT urlOk e posPredicate ascii pv hp]
  cases quads with
  | false =>
    have : graphW T ascii label false g = [] := by cases g <;> rfl
    simp [this, hobj, expectDot_dot T hT, outQuad, Quad.map, Term.map, Quad.dropGraph]
  | true =>
    cases g with
    | none => simp [graphW, hobj, afterObject_dot T hT, outQuad, Quad.map, Term.map]
    | some g =>
      obtain ⟨c, r, hcr, hc⟩ := nodeW_head T ascii label urlOk g (hg g rfl)
      have key := hnode g (fun b h => hl b (.inr (.inr (congrArg some h)))) (hg g rfl) (0x2e :: 0x0a :: rest)
      simp only [hcr, List.cons_append] at key
      simp [graphW, hobj, hcr, afterObject_graph T hT e c _ hc, key, expectDot_dot T hT, outQuad, Quad.map, Term.map]

theorem statement_nil (T : Tables) (urlOk : List Nat → Bool) (quads : Bool) :
    statement T urlOk .eof quads [] = .done := by
  simp [statement, skipToStmt]

theorem encodeDoc_length (T : Tables) (urlOk : List Nat → Bool) (ascii : Bool)
    (label : β → List Nat) (quads : Bool) (qs : List (Quad β)) (hwf : ∀ q ∈ qs, WFQuad urlOk q) :
    qs.length ≤ (encodeDoc T ascii label quads qs).length := by
  induction qs with
  | nil => simp
  | cons q qs ih =>
    rw [encodeDoc_cons_wf T ascii label urlOk quads q qs (hwf q List.mem_cons_self)]
    have := ih (fun x hx => hwf x (List.mem_cons_of_mem _ hx))
    simp only [List.length_append, List.length_cons]
    omega

/-- Decoding an encoded document, from the start (`started = false`) or from the line feed that ends
    the statement returned before. -/
theorem runFuel_encodeDoc (T : Tables) (hT : TablesOK T) (urlOk : List Nat → Bool) (ascii : Bool)
    (label : β → List Nat) (quads : Bool) :
    ∀ (qs : List (Quad β)) (started : Bool) (fuel : Nat), qs.length < fuel →
      (∀ q ∈ qs, LabelsOn T label q ∧ WFQuad urlOk q) →
      runFuel T urlOk .eof quads fuel started
          ((if started then [0x0a] else []) ++ encodeDoc T ascii label quads qs)
        = (qs.map (outQuad label quads), .clean)
  | [], started, fuel + 1, _, _ => by
    cases started <;> simp [runFuel, next, toEOL, encodeDoc_nil, statement_nil]
  | q :: qs, started, fuel + 1, hf, hwf => by
    obtain ⟨hl, hq⟩ := hwf q List.mem_cons_self
    have hn : next T urlOk .eof quads started ((if started then [0x0a] else []) ++
        (quadBody T ascii label quads q ++ 0x0a :: encodeDoc T ascii label quads qs))
        = .quad (outQuad label quads q) (0x0a :: encodeDoc T ascii label quads qs) := by
      cases started <;> simp [next, toEOL, statement_write T hT urlOk .eof ascii label quads q hl hq]
    have ih := runFuel_encodeDoc T hT urlOk ascii label quads qs true fuel (Nat.lt_of_succ_lt_succ hf)
      fun x hx => hwf x (List.mem_cons_of_mem _ hx)
    rw [if_pos rfl, List.singleton_append] at ih
    rw [encodeDoc_cons_wf T ascii label urlOk quads q qs hq, runFuel, hn]
    simp only [ih, List.map_cons]

theorem run_roundtrip (T : Tables) (hT : TablesOK T) (urlOk : List Nat → Bool) (ascii : Bool)
    (label : β → List Nat) (quads : Bool) (qs : List (Quad β)) (hl : ∀ q ∈ qs, LabelsOn T label q)
    (hwf : ∀ q ∈ qs, WFQuad urlOk q) :
    run T urlOk .eof quads (encodeDoc T ascii label quads qs)
      = (qs.map (outQuad label quads), .clean) :=
  runFuel_encodeDoc T hT urlOk ascii label quads qs false _
    (Nat.lt_succ_of_le (encodeDoc_length T urlOk ascii label quads qs hwf)) fun q hq => ⟨hl q hq, hwf q hq⟩

theorem nquads_roundtrip (T : Tables) (hT : TablesOK T) (urlOk : List Nat → Bool) (ascii : Bool)
    (label : β → List Nat) (hl : LabelsOK T label) (qs : List (Quad β))
    (hwf : ∀ q ∈ qs, WFQuad urlOk q) :
    run T urlOk .eof true (encodeDoc T ascii label true qs) = (qs.map (Quad.map label), .clean) := by
  rw [run_roundtrip T hT urlOk ascii label true qs (fun _ _ b _ => hl.wf b) hwf]
  rfl

theorem ntriples_roundtrip (T : Tables) (hT : TablesOK T) (urlOk : List Nat → Bool) (ascii : Bool)
    (label : β → List Nat) (hl : LabelsOK T label) (qs : List (Quad β))
    (hwf : ∀ q ∈ qs, WFQuad urlOk q) :
    run T urlOk .eof false (encodeDoc T ascii label false qs)
      = (qs.map (fun q => Quad.map label (Quad.dropGraph q)), .clean) := by
  rw [run_roundtrip T hT urlOk ascii label false qs (fun _ _ b _ => hl.wf b) hwf]
  rfl

end RdfModel.Proofs.C01
