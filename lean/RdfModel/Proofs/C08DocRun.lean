/-
  Runs of the statement machine on printed objects, object lists and predicate-object lists, generic in a predicate
  `ObjGood` on objects so that the nested cases can reuse them.
-/
import RdfModel.Proofs.C08DocStep
namespace RdfModel.C08
open RdfModel RdfModel.TA RdfModel.C02 RdfModel.Ttl RdfModel.Spec.TtlPrint RdfModel.TtlDoc

theorem slot_ok {ch : Choices} (hch : choicesOK ch = true) (i : Nat) : slotOK (ch.at i) = true := by
  unfold Choices.at
  rw [List.getD_eq_getElem?_getD]
  cases h : ch[i]? with
  | none => rfl
  | some s =>
    simp only [Option.getD_some]
    have hm : s ∈ ch := List.mem_of_getElem? h
    simp only [choicesOK, List.all_eq_true] at hch
    exact hch s hm

theorem pname_printable {T : Tables} {p l : List Nat} (cs : List Choice) (h : (printLocal T [] l).isSome = true) :
    ∃ out, printPrefixedName T cs p l = some out := by
  have : (printLocal T cs l).isSome = true := by
    unfold printLocal at h ⊢
    rw [Proofs.C08Tok.printLocal_isSome_indep]; exact h
  obtain ⟨lo, hlo⟩ := Option.isSome_iff_exists.1 this
  exact ⟨p ++ 0x3a :: lo, by simp [printPrefixedName, hlo]⟩

theorem scalars_of_B {s : List Nat} (h : scalarsB s = true) : Scalars s := by
  intro c hc
  simp only [scalarsB, List.all_eq_true] at h
  exact (isScalarB_iff c).1 (h c hc)

/-- What every position of a prefixed name needs: it is printable whatever the choices, and its
    text, with anything after it, starts with a name-start rune. -/
theorem pname_text {T : Tables} (cs : List Choice) {p l : List Nat} (hwf : iriWf T (.pn p l) = true)
    (A : List Nat) :
    ∃ out lo c0 tl0, printPrefixedName T cs p l = some out ∧ out ++ A = c0 :: tl0 ∧
      p ++ 0x3a :: (lo ++ A) = c0 :: tl0 ∧ NameStart T c0 ∧ prefixOK2 T p = true ∧ Scalars p ∧ Scalars l := by
  simp only [iriWf, Bool.and_eq_true] at hwf
  obtain ⟨⟨⟨hp, hps⟩, hls⟩, hpl⟩ := hwf
  obtain ⟨out, hout⟩ := pname_printable (p := p) cs hpl
  obtain ⟨lo, rfl⟩ := pname_shape hout
  obtain ⟨c0, tl0, htext⟩ : ∃ c0 tl0, p ++ 0x3a :: (lo ++ A) = c0 :: tl0 := by cases p <;> simp
  exact ⟨_, lo, c0, tl0, hout, by simpa using htext, htext, prefix_head hp _ c0 tl0 htext, hp,
    scalars_of_B hps, scalars_of_B hls⟩

section
variable {T : Tables} (hT : TablesOK T) (hT2 : TablesOK2 T) {C : Cfg} (hC : CfgOK T C)
variable {ch : Choices} (hch : choicesOK ch = true)

theorem after_skip_at (T : Tables) (C : Cfg) (ch : Choices) (k : Prev) (i : Nat) (R : List Nat) : SkEq C (after T k (ch.at i) R) R :=
  after_skip k _ R

theorem layHead_ne {h : Nat} (hh : layHead h = true) : h ≠ 0x40 ∧ h ≠ 0x5e := by
  simp only [layHead, isWsRune, Bool.or_eq_true, decide_eq_true_eq] at hh
  rcases hh with (((hh | hh) | hh) | hh) | hh <;> subst hh <;> decide

theorem after_head (k : Prev) (s : Slot) {rest : List Nat} {c : Nat} {r : List Nat} (hf : Follows C rest c r)
    (h1 : c ≠ 0x40) (h2 : c ≠ 0x5e) : ∃ a A', after T k s rest = a :: A' ∧ a ≠ 0x40 ∧ a ≠ 0x5e := by
  unfold after
  split
  · exact ⟨0x20, rest, rfl, by decide, by decide⟩
  · rcases renderLay_head rest.isEmpty s.lay with h0 | ⟨h, t, ht, hh⟩
    · rw [h0, hf.1]; exact ⟨c, r, rfl, h1, h2⟩
    · rw [ht]; exact ⟨h, t ++ rest, rfl, layHead_ne hh⟩

include hT2 hC in
theorem Steps.punct {x : Ectx} {k : Cont} {s : List Frame} {inp text : List Nat} {env : Env} {c : Nat} {tl : List Nat}
    {o : Out} {ss : List Stmt} {cf : Conf} (hin : SkEq C inp text) (htext : text = c :: tl)
    (hc : c ∈ delims ∧ isWsRune c = false ∧ c ≠ 0x23) (hfn : stepFn C .eof k x env (.rune c tl) = .ok o)
    (hrest : Steps C .eof ⟨o.cur.toList ++ (if o.term then [] else o.push.reverse ++ s), o.inp, o.env⟩ ss cf) :
    Steps C .eof ⟨⟨x, k⟩ :: s, inp, env⟩ (o.emit.toList ++ ss) cf :=
  Steps.tok hin htext (vis_punct hT2 hC hc) hfn hrest

theorem iriOf_ref (st : DState) (r : List Nat) : iriOf C.resolve st (.ref r) = resolveIRI C (envOf st) r := rfl

theorem iriOf_pn (R : Resolver) (st : DState) (p l : List Nat) : iriOf R st (.pn p l) = (envOf st).expand p l := by
  simp [iriOf, Env.expand, envOf, lookupNs_eq]

include hT hT2 hC in
theorem iri_tok (x : IriS) (hwf : iriWf T x = true) (st : DState) (ii : List Nat) (hii : iriOf C.resolve st x = some ii)
    (i : Nat) (R : List Nat) :
    ∃ c tl A, pIri ⟨T, ch⟩ i x R = c :: tl ∧ SkEq C A R ∧ c ≠ 0x5f ∧ TermTok C (envOf st) (.iri ii) A c tl ∧
      (objNoBoolPfx (.iri x) = true → c = 0x74 ∨ c = 0x66 → C.P.boolean .eof (c :: tl) = .other) := by
  cases x with
  | ref rr =>
    have htext := printIRIREF_text (ch.at i).cs rr (after T .punct (ch.at i) R)
    refine ⟨0x3c, printIriBody (ch.at i).cs rr ++ [0x3e] ++ after T .punct (ch.at i) R, _,
      by simpa [pIri, iriText, iriKind] using htext, after_skip_at T C ch .punct i R, by decide, .ref (vis_punct hT2 hC (by decide)) ?_,
      fun _ h => absurd h (by decide)⟩
    rw [← htext]
    exact termIRIREF_print hT hC _ _ rr ii _ (scalars_of_B (by simpa [iriWf] using hwf)) (by rw [← iriOf_ref]; exact hii)
  | pn p l =>
    obtain ⟨out, lo, c0, tl0, hout, htext, htext', hns, hp, hps, hls⟩ :=
      pname_text (ch.at i).cs hwf (after T .name (ch.at i) R)
    refine ⟨c0, tl0, _, by simp [pIri, iriText, iriKind, hout, htext], after_skip_at T C ch .name i R,
      (nameStart_not_digit hT2 hns).2.2, .pn (pnText_of_prefix hT2 hC hp _ c0 tl0 htext') ?_,
      fun hnb _ => by rw [hC.prod]; exact scanBoolean_other (by simpa [objNoBoolPfx] using hnb) _ c0 tl0 htext'⟩
    rw [← htext]
    exact termPName_print hT hC _ _ p l out ii _ hp hps hls hout (after_noclash hT2 .name (ch.at i) R)
      (by rw [← iriOf_pn]; exact hii)

include hT hT2 hC in
theorem bn_tok (l : List Nat) (hwf : labelWf T l = true) (env : Env) (i : Nat) (R : List Nat) :
    ∃ tl A, pBNode ⟨T, ch⟩ i l R = 0x5f :: tl ∧ SkEq C A R ∧ TermTok C env (.bnode (.lbl l)) A 0x5f tl := by
  simp only [labelWf, Bool.and_eq_true] at hwf
  refine ⟨_, _, rfl, after_skip_at T C ch .label i R,
    .bn (vis_solid hT2 hC (solid_pn (hT2.u_sub 0x5f hT2.us) (by decide)) (by decide)) ?_⟩
  simpa using termBNode_print hT hC env l _ (scalars_of_B hwf.1) hwf.2 (after_noclash hT2 .label (ch.at i) R)

-- Of the premises below, `x.subj.isSome` is read by `stepCollection` only (`objGood_coll`), and `c ≠ '@'`, `c ≠ '^'`
-- (the rune after the object) by the tail of a plain string only (`objGood_lit`).
/-- The run of `reader_scan_Object` over a printed object: the statement linking it to its context,
    then the statements inside it. -/
def ObjGood (T : Tables) (C : Cfg) (ch : Choices) (o : Obj) : Prop :=
  ∀ (i : Nat) (x : Ectx) (s : List Frame) (inp rest : List Nat) (c : Nat) (r : List Nat) (g : Option TermB)
    (st st' : DState) (t : TermB) (qs : List QuadB),
    Follows C rest c r → c ≠ 0x40 → c ≠ 0x5e → x.subj.isSome = true → x.graph = g.map toT →
    dObj C.resolve g st o = some (t, qs, st') →
    SkEq C inp (pObj ⟨T, ch⟩ i o rest) →
    ∃ inp', SkEq C inp' rest ∧
      Steps C .eof ⟨⟨x, .object⟩ :: s, inp, envOf st⟩ (mkStmt x (toT t) :: qs.map toStmt) ⟨s, inp', envOf st'⟩

include hT hT2 hC in
theorem objGood_iri (x0 : IriS) (hwf : iriWf T x0 = true) (hnb : objNoBoolPfx (.iri x0) = true) :
    ObjGood T C ch (.iri x0) := by
  intro i x s inp rest c r g st st' t qs hf h40 h5e hxsome hg hd hin
  simp only [dObj, Option.map_eq_some_iff, Prod.mk.injEq] at hd
  obtain ⟨ii, hii, rfl, rfl, rfl⟩ := hd
  obtain ⟨c0, tl0, A, htx, hA, _, htok, hsb⟩ := iri_tok (ch := ch) hT hT2 hC x0 hwf st ii hii i rest
  exact ⟨A, hA, by simpa [toT, Term.map] using obj_run htok (hsb hnb) (by simpa [pObj, htx] using hin)⟩

include hT hT2 hC in
theorem objGood_bn (l : List Nat) (hwf : labelWf T l = true) : ObjGood T C ch (.bn l) := by
  intro i x s inp rest c r g st st' t qs hf h40 h5e hxsome hg hd hin
  simp only [dObj, Option.some.injEq, Prod.mk.injEq] at hd
  obtain ⟨rfl, rfl, rfl⟩ := hd
  obtain ⟨tl0, A, htx, hA, htok⟩ := bn_tok (ch := ch) hT hT2 hC l hwf (envOf st) i rest
  have := obj_run (x := x) (s := s) htok (fun h => absurd h (by decide)) (by simpa [pObj, htx] using hin)
  exact ⟨A, hA, by simpa [toT, Term.map, toBN] using this⟩

theorem rdfNil_eq : TA.rdfNil = TtlDoc.rdfNil := rfl
theorem rdfType_eq : TA.rdfType = TtlDoc.rdfType := rfl

include hT2 hC in
theorem objGood_nil : ObjGood T C ch (.coll []) := by
  intro i x s inp rest c r g st st' t qs hf h40 h5e hxsome hg hd hin
  simp only [dObj, Option.some.injEq, Prod.mk.injEq] at hd
  obtain ⟨rfl, rfl, rfl⟩ := hd
  have hA1 := after_skip_at T C ch .punct i (0x29 :: after T .punct (ch.at (i + 1)) rest)
  have hA2 := after_skip_at T C ch .punct (i + 1) rest
  refine ⟨_, hA2, ?_⟩
  have s2 := Steps.fol (s := s)
    (inp := after T .punct (ch.at i) (0x29 :: after T .punct (ch.at (i + 1)) rest)) hA1
    (follows_punct hT2 hC (by decide) _)
    (fn_collOpenObj_close x (envOf st) _) (Steps.refl _)
  have s1 := Steps.punct hT2 hC (s := s) hin
    (show pObj ⟨T, ch⟩ i (.coll []) rest = 0x28 :: after T .punct (ch.at i) (0x29 :: after T .punct (ch.at (i + 1)) rest) by
      simp [pObj, pPunct, pItems, itemsSlots])
    (by decide) (fn_object_paren x (envOf st) _) (by simpa using s2)
  simpa [envOf_fresh, toT, Term.map, rdfNil_eq] using s1

theorem delim_solid (T : Tables) (st : Style) : solid T st.delim = true := by
  cases st <;> simp [Style.delim, solid, delims, isWsRune]

theorem delim_ne23 (st : Style) : st.delim ≠ 0x23 := by
  cases st <;> simp [Style.delim]

include hT hT2 hC in
/-- the scan call on a printed string; `htail`: what `stepLiteralTail` makes of the text after it -/
theorem Steps.str {x : Ectx} {s : List Frame} {inp text : List Nat} {env : Env} {t : TtlDoc.T} {A : List Nat}
    (st : Style) (cs : List Choice) (lex B : List Nat) (hin : SkEq C inp text) (htext : text = printString st cs lex ++ B)
    (hs : Scalars lex) (hB : clash T (strKind st lex) B = false)
    (htail : stepLiteralTail C .eof x env lex B = .ok { emit := some (mkStmt x t), inp := A, env := env }) :
    Steps C .eof ⟨⟨x, .object⟩ :: s, inp, env⟩ [mkStmt x t] ⟨s, A, env⟩ := by
  obtain ⟨tl0, h0⟩ := printString_text st cs lex B
  simpa using Steps.tok (s := s) hin (htext.trans h0) (vis_solid hT2 hC (delim_solid T st) (delim_ne23 st))
    ((fn_object_printed hT hC x env st cs lex B _ tl0 h0 hs hB).trans htail) (Steps.refl _)

include hT hT2 hC in
theorem objGood_lit (l : Lit) (hwf : litWf T l = true) : ObjGood T C ch (.lit l) := by
  intro i x s inp rest c r g st st' t qs hf h40 h5e hxsome hg hd hin
  simp only [dObj, Option.map_eq_some_iff, Prod.mk.injEq] at hd
  obtain ⟨tt, htt, rfl, rfl, rfl⟩ := hd
  cases l with
  | plain lex =>
    simp only [litOf, Option.some.injEq] at htt
    subst htt
    have hs : Scalars lex := scalars_of_B (by simpa [litWf] using hwf)
    have hcl := after_noclash hT2 (strKind (ch.at i).sty lex) (ch.at i) rest
    obtain ⟨a, A', hAe, ha1, ha2⟩ := after_head (strKind (ch.at i).sty lex) (ch.at i) hf h40 h5e
    refine ⟨_, after_skip_at T C ch (strKind (ch.at i).sty lex) i rest, ?_⟩
    rw [hAe] at hcl ⊢
    simpa [toT, Term.map] using Steps.str hT hT2 hC (s := s) (ch.at i).sty (ch.at i).cs lex _ hin (by simp [pObj, pLit, hAe]) hs hcl
      (literalTail_plain x (envOf st) lex a A' ha1 ha2)
  | lang lex tag =>
    simp only [litOf, Option.some.injEq] at htt
    subst htt
    simp only [litWf, Bool.and_eq_true] at hwf
    refine ⟨_, after_skip_at T C ch .lang i rest, ?_⟩
    simpa [toT, Term.map] using Steps.str hT hT2 hC (s := s) (ch.at i).sty (ch.at i).cs lex _ hin (by simp [pObj, pLit])
      (scalars_of_B hwf.1) (clash_str _ lex _ (by decide) (by decide))
      (literalTail_lang x (envOf st) lex tag _ (langtag_print hC tag _ hwf.2 (after_noclash hT2 .lang (ch.at i) rest)))
  | typed lex dt =>
    simp only [litOf] at htt
    cases hdt : iriOf C.resolve st dt with
    | none => simp [hdt] at htt
    | some ii =>
      simp only [hdt] at htt
      split at htt
      · cases htt
      · next hnl =>
        simp only [Option.some.injEq] at htt
        subst htt
        simp only [litWf, Bool.and_eq_true] at hwf
        obtain ⟨c2, tl2, A, htx, hA, hbn, htok, _⟩ := iri_tok (ch := ch) hT hT2 hC dt hwf.2 st ii hdt (i + 1) rest
        refine ⟨A, hA, ?_⟩
        simpa [toT, Term.map] using Steps.str hT hT2 hC (s := s) (ch.at i).sty (ch.at i).cs lex _ hin
          (by rw [← htx]; simp [pObj, pLit]) (scalars_of_B hwf.1) (clash_str _ lex _ (by decide) (by decide))
          (literalTail_typed x (envOf st) lex c2 tl2 ii A (htok.iri hbn) hnl)
  | num lex =>
    simp only [litOf] at htt
    cases hb : bareLiteralDatatype lex with
    | none => simp [hb] at htt
    | some dt =>
      simp only [hb] at htt
      split at htt
      · cases htt
      · next hnb =>
        simp only [Option.some.injEq] at htt
        subst htt
        refine ⟨_, after_skip_at T C ch .num i rest, ?_⟩
        obtain ⟨k, hk, hp⟩ := numeric_print hC lex dt _ hb hnb (after_noclash hT2 .num (ch.at i) rest)
        obtain ⟨c0, lt, hlex, hso, h23, _⟩ := num_head_solid hT hT2 lex dt hb hnb
        have := Steps.tok (s := s) hin
          (show pObj ⟨T, ch⟩ i (.lit (.num lex)) rest = c0 :: (lt ++ after T .num (ch.at i) rest) by simp [pObj, pLit, hlex])
          (vis_solid hT2 hC hso h23)
          (fn_object_num x (envOf st) lex dt _ k c0 _ (by simp [hlex]) hb hnb hk hp) (Steps.refl _)
        simpa [toT, Term.map] using this
  | bool b =>
    simp only [litOf, Option.some.injEq] at htt
    subst htt
    refine ⟨_, after_skip_at T C ch .name i rest, ?_⟩
    obtain ⟨c0, tl0, htext, hal, hc0, hb⟩ := bool_tok hC b (after T .name (ch.at i) rest)
    have := Steps.tok (s := s) hin
      (show pObj ⟨T, ch⟩ i (.lit (.bool b)) rest = c0 :: tl0 by simp [pObj, pLit, htext])
      (vis_solid hT2 hC (alpha_solid hT2 hal).1 (alpha_solid hT2 hal).2)
      (fn_object_bool x (envOf st) b _ c0 tl0 hc0 hb) (Steps.refl _)
    simpa [toT, Term.map, boolText] using this

def ObjsGood (T : Tables) (C : Cfg) (ch : Choices) (os : List Obj) : Prop :=
  ∀ (i : Nat) (x : Ectx) (s : List Frame) (inp rest : List Nat) (c : Nat) (r : List Nat) (g : Option TermB)
    (st st' : DState) (qs : List QuadB) (sS pP : TermB),
    Follows C rest c r → c ≠ 0x40 → c ≠ 0x5e → c ≠ 0x2c →
    x.subj = some (toT sS) → x.pred = some (toT pP) → x.graph = g.map toT → os ≠ [] →
    dObjs C.resolve sS pP g st os = some (qs, st') →
    SkEq C inp (pObjs ⟨T, ch⟩ i os rest) →
    ∃ inp', SkEq C inp' rest ∧
      Steps C .eof ⟨⟨x, .object⟩ :: ⟨x, .objListContinue⟩ :: s, inp, envOf st⟩ (qs.map toStmt) ⟨s, inp', envOf st'⟩

theorem mkStmt_toStmt {x : Ectx} {sS pP : TermB} {g : Option TermB} (hs : x.subj = some (toT sS))
    (hp : x.pred = some (toT pP)) (hg : x.graph = g.map toT) (t : TermB) :
    mkStmt x (toT t) = toStmt ⟨sS, pP, t, g⟩ := by
  simp [mkStmt, toStmt, hs, hp, hg, toT]
  cases g <;> rfl

include hT2 hC in
theorem objsGood (os : List Obj) (h : ∀ o ∈ os, ObjGood T C ch o) : ObjsGood T C ch os := by
  induction os with
  | nil => intro i x s inp rest c r g st st' qs sS pP _ _ _ _ _ _ _ hne; exact absurd rfl hne
  | cons o os ih =>
    intro i x s inp rest c r g st st' qs sS pP hf h40 h5e h2c hs hp hg _ hd hin
    have hgo := h o List.mem_cons_self
    simp only [dObjs] at hd
    cases hdo : dObj C.resolve g st o with
    | none => simp [hdo] at hd
    | some res =>
      obtain ⟨t, qs1, st1⟩ := res
      simp only [hdo] at hd
      cases hdr : dObjs C.resolve sS pP g st1 os with
      | none => simp [hdr] at hd
      | some res2 =>
        obtain ⟨qs2, st2⟩ := res2
        simp only [hdr, Option.some.injEq, Prod.mk.injEq] at hd
        obtain ⟨rfl, rfl⟩ := hd
        cases os with
        | nil =>
          simp only [dObjs, Option.some.injEq, Prod.mk.injEq] at hdr
          obtain ⟨rfl, rfl⟩ := hdr
          obtain ⟨inp1, he1, s1⟩ := hgo i x (⟨x, .objListContinue⟩ :: s) inp rest c r g st st1 t qs1 hf h40 h5e (by simp [hs]) hg hdo
            (by simpa [pObjs] using hin)
          refine ⟨c :: r, hf.skEq, ?_⟩
          have s2 := Steps.fol (s := s) he1 hf
            (fn_objListContinue_pop x (envOf st1) c r h2c) (Steps.refl _)
          have := s1.trans (by simpa using s2)
          simpa [mkStmt_toStmt hs hp hg] using this
        | cons o' os' =>
          have hfc : Follows C (pPunct ⟨T, ch⟩ (i + objSlots o) 0x2c (pObjs ⟨T, ch⟩ (i + objSlots o + 1) (o' :: os') rest)) 0x2c
              (after T .punct (ch.at (i + objSlots o)) (pObjs ⟨T, ch⟩ (i + objSlots o + 1) (o' :: os') rest)) :=
            follows_punct hT2 hC (by decide) _
          obtain ⟨inp1, he1, s1⟩ := hgo i x (⟨x, .objListContinue⟩ :: s) inp _ 0x2c _ g st st1 t qs1 hfc (by decide) (by decide)
            (by simp [hs]) hg hdo (by simpa [pObjs] using hin)
          obtain ⟨inp2, he2, s3⟩ := ih (fun o2 ho2 => h o2 (List.mem_cons_of_mem _ ho2)) (i + objSlots o + 1) x s
            (after T .punct (ch.at (i + objSlots o)) (pObjs ⟨T, ch⟩ (i + objSlots o + 1) (o' :: os') rest)) rest c r g st1 st2 qs2
            sS pP hf h40 h5e h2c hs hp hg (by simp) hdr (after_skip .punct _ _)
          refine ⟨inp2, he2, ?_⟩
          have s2 := Steps.fol (s := s) he1 hfc
            (fn_objListContinue_comma x _ _) (by simpa using s3)
          have := s1.trans (by simpa using s2)
          simpa [mkStmt_toStmt hs hp hg] using this

theorem semis_head (P : PCtx) (j k : Nat) (R : List Nat) : ∃ tl, semis P j (k + 1) R = 0x3b :: tl := by
  cases k with
  | zero => exact ⟨_, rfl⟩
  | succ k => exact ⟨_, rfl⟩

include hT2 hC in
theorem semis_more (x : Ectx) (s : List Frame) (env : Env) (j : Nat) (R : List Nat) : ∀ (k : Nat) (inp : List Nat),
    SkEq C inp (semis ⟨T, ch⟩ j (k + 1) R) →
    ∃ inp', SkEq C inp' R ∧
      Steps C .eof ⟨⟨x, .polContinue⟩ :: s, inp, env⟩ [] ⟨⟨x, .pol⟩ :: ⟨x, .polContinue⟩ :: s, inp', env⟩ := by
  intro k
  induction k with
  | zero =>
    intro inp hin
    refine ⟨_, after_skip_at T C ch .punct j R, ?_⟩
    have := Steps.punct hT2 hC (s := s) hin
      (show semis ⟨T, ch⟩ j 1 R = 0x3b :: after T .punct (ch.at j) R from rfl)
      (by decide) (fn_polContinue_semi x env _) (Steps.refl _)
    simpa using this
  | succ k ih =>
    intro inp hin
    obtain ⟨tl, htl⟩ := semis_head ⟨T, ch⟩ j k R
    have hsk : SkEq C (renderLay false (ch.at j).lay2 ++ semis ⟨T, ch⟩ j (k + 1) R) (semis ⟨T, ch⟩ j (k + 1) R) :=
      renderLay_skip false _ _ (by intro h; cases h)
    have hfs : Follows C (semis ⟨T, ch⟩ j (k + 1) R) 0x3b tl := by
      rw [htl]; exact follows_punct hT2 hC (by decide) tl
    obtain ⟨inp', he, s3⟩ := ih (0x3b :: tl) (by rw [htl]; exact SkEq.rfl')
    refine ⟨inp', he, ?_⟩
    have s2 := Steps.fol (s := ⟨x, .polContinue⟩ :: s) hsk hfs
      (fn_pol_punct hT2 hC x env _ _ (Or.inr (Or.inr (Or.inr rfl)))) (by simpa using s3)
    have := Steps.punct hT2 hC (s := s) hin
      (show semis ⟨T, ch⟩ j (k + 2) R = 0x3b :: (renderLay false (ch.at j).lay2 ++ semis ⟨T, ch⟩ j (k + 1) R) from rfl)
      (by decide) (fn_polContinue_semi x env _) (by simpa using s2)
    simpa using this

include hT hT2 hC hch in
theorem verb_step (v : Verb) (hwf : verbWf T v = true) (req : Bool) (x : Ectx) (s : List Frame) (i : Nat)
    (inp R : List Nat) (st : DState) (p : TermB) (hv : verbOf C.resolve st v = some p)
    (hin : SkEq C inp (pVerb ⟨T, ch⟩ i v R)) :
    ∃ inp', SkEq C inp' R ∧
      Steps C .eof ⟨⟨x, if req then .polRequired else .pol⟩ :: s, inp, envOf st⟩ []
        ⟨⟨{ x with pred := some (toT p) }, .object⟩ :: ⟨{ x with pred := some (toT p) }, .objListContinue⟩ :: s, inp', envOf st⟩ := by
  cases v with
  | a =>
    simp only [verbOf, Option.some.injEq] at hv
    subst hv
    rcases afterKw_form (T := T) (C := C) false (ch.at i) (slot_ok hch i) R with ⟨w, tl, hform, hw, hsk⟩ | ⟨hlt, _⟩
    · refine ⟨tl, hsk, ?_⟩
      have hfn := (fn_pol_of x (envOf st) 0x61 (w :: tl) _ tl req (stepPOL_a x (envOf st) w tl (hC.ws w hw))).trans (polGo_eq _ _ _ _)
      have := Steps.tok (s := s) hin
        (show pVerb ⟨T, ch⟩ i .a R = 0x61 :: (w :: tl) by simp [pVerb, hform])
        (vis_solid hT2 hC (alpha_solid hT2 (c := 0x61) (by decide)).1 (by decide)) hfn (Steps.refl _)
      simpa [toT, Term.map, rdfType_eq] using this
    · cases hlt
  | iri x0 =>
    simp only [verbOf, Option.map_eq_some_iff] at hv
    obtain ⟨ii, hii, rfl⟩ := hv
    obtain ⟨c0, tl0, A, htx, hA, hbn, htok, _⟩ := iri_tok (ch := ch) hT hT2 hC x0 hwf st ii hii i R
    refine ⟨A, hA, ?_⟩
    simpa [toT, Term.map] using Steps.tok (s := s) hin (show pVerb ⟨T, ch⟩ i (.iri x0) R = c0 :: tl0 from htx)
      htok.vis ((fn_pol_of x (envOf st) c0 tl0 _ _ req (stepPOL_tok htok hbn)).trans (polGo_eq _ _ _ _)) (Steps.refl _)

def POsGood (T : Tables) (C : Cfg) (ch : Choices) (pos : List PO) : Prop :=
  ∀ (i : Nat) (x : Ectx) (s : List Frame) (inp rest : List Nat) (c : Nat) (r : List Nat) (g : Option TermB)
    (st st' : DState) (qs : List QuadB) (sS : TermB) (req : Bool),
    Follows C rest c r → (c = 0x2e ∨ c = 0x5d ∨ c = 0x7d) →
    x.subj = some (toT sS) → x.graph = g.map toT → (pos = [] → req = false) →
    dPOs C.resolve sS g st pos = some (qs, st') →
    SkEq C inp (pPOs ⟨T, ch⟩ i pos rest) →
    ∃ inp', SkEq C inp' rest ∧
      Steps C .eof ⟨⟨x, if req then .polRequired else .pol⟩ :: ⟨x, .polContinue⟩ :: s, inp, envOf st⟩ (qs.map toStmt)
        ⟨s, inp', envOf st'⟩

/-- a predicate-object pair is fit for `posGood`: well-formed verb, non-empty list of good objects -/
def POFit (T : Tables) (C : Cfg) (ch : Choices) : PO → Prop
  | .mk v os => verbWf T v = true ∧ os ≠ [] ∧ ∀ o ∈ os, ObjGood T C ch o

include hT hT2 hC hch in
theorem posGood (pos : List PO) (h : ∀ po ∈ pos, POFit T C ch po) : POsGood T C ch pos := by
  induction pos with
  | nil =>
    -- no verb follows: `reader_scan_PredicateObjectList` and its `…_Continue` both leave the rune
    intro i x s inp rest c r g st st' qs sS req hf hc _ _ hreq hd hin
    rw [hreq rfl]
    simp only [dPOs, Option.some.injEq, Prod.mk.injEq] at hd
    obtain ⟨rfl, rfl⟩ := hd
    have hne : c ≠ 0x3b := by rcases hc with h | h | h <;> subst h <;> decide
    refine ⟨c :: r, hf.skEq, ?_⟩
    have s2 := Steps.fol (s := s) hf.skEq hf (fn_polContinue_pop x (envOf st) c r hne) (Steps.refl _)
    simpa using Steps.fol (s := ⟨x, .polContinue⟩ :: s) (by simpa [pPOs] using hin) hf
      (fn_pol_punct hT2 hC x _ c r (by rcases hc with h | h | h <;> simp [h])) (by simpa using s2)
  | cons po pos ih =>
    intro i x s inp rest c r g st st' qs sS req hf hc hs hg _ hd hin
    obtain ⟨v, os⟩ := po
    obtain ⟨hvw, hone, hgood⟩ := h (.mk v os) List.mem_cons_self
    simp only [dPOs, dPO] at hd
    cases hv : verbOf C.resolve st v with
    | none => simp [hv] at hd
    | some p =>
      simp only [hv] at hd
      cases hdo : dObjs C.resolve sS p g st os with
      | none => simp [hdo] at hd
      | some res =>
        obtain ⟨qs1, st1⟩ := res
        simp only [hdo] at hd
        cases hdr : dPOs C.resolve sS g st1 pos with
        | none => simp [hdr] at hd
        | some res2 =>
          obtain ⟨qs2, st2⟩ := res2
          simp only [hdr, Option.some.injEq, Prod.mk.injEq] at hd
          obtain ⟨rfl, rfl⟩ := hd
          have hne3 : c ≠ 0x40 ∧ c ≠ 0x5e ∧ c ≠ 0x2c := by rcases hc with h | h | h <;> subst h <;> decide
          let x' : Ectx := { x with pred := some (toT p) }
          have hx's : x'.subj = some (toT sS) := hs
          have hx'g : x'.graph = g.map toT := hg
          let j := i + poSlots (.mk v os) - 1
          let R' := pPOs ⟨T, ch⟩ (i + poSlots (.mk v os)) pos rest
          -- the semicolons after this pair: at least one if another pair follows
          obtain ⟨K, hK, htx⟩ : ∃ K, (K = 0 → pos = []) ∧
              pPOs ⟨T, ch⟩ i (.mk v os :: pos) rest = pVerb ⟨T, ch⟩ i v (pObjs ⟨T, ch⟩ (i + 1) os (semis ⟨T, ch⟩ j K R')) := by
            cases pos with
            | nil => exact ⟨(ch.at j).n % 3, fun _ => rfl, by simp [pPOs, pPO, j, R']⟩
            | cons po' pos' => exact ⟨(ch.at j).n % 3 + 1, fun h => by omega, by simp [pPOs, pPO, j, R', Nat.add_comm]⟩
          obtain ⟨inp1, he1, s1⟩ := verb_step hT hT2 hC hch v hvw req x (⟨x, .polContinue⟩ :: s) i inp _ st p hv
            (by rw [← htx]; exact hin)
          cases K with
          | zero =>
            -- the list ends here: `reader_scan_PredicateObjectList_Continue` leaves the rune
            obtain rfl := hK rfl
            simp only [dPOs, Option.some.injEq, Prod.mk.injEq] at hdr
            obtain ⟨rfl, rfl⟩ := hdr
            have hR : semis ⟨T, ch⟩ j 0 R' = rest := by simp [semis, R', pPOs]
            obtain ⟨inp2, he2, s2⟩ := objsGood hT2 hC os hgood (i + 1) x' (⟨x, .polContinue⟩ :: s) inp1 _ c r g st st1 qs1
              sS p (hR ▸ hf) hne3.1 hne3.2.1 hne3.2.2 hx's rfl hx'g hone hdo he1
            refine ⟨c :: r, hf.skEq, ?_⟩
            have s3 := Steps.fol (s := s) (hR ▸ he2) hf
              (fn_polContinue_pop x (envOf st1) c r (by rcases hc with h | h | h <;> subst h <;> decide)) (Steps.refl _)
            have s23 := s2.trans (by simpa using s3)
            rw [List.append_nil] at s23
            simpa using s1.trans s23
          | succ k =>
            obtain ⟨tl, htl⟩ := semis_head ⟨T, ch⟩ j k R'
            have hf1 : Follows C (semis ⟨T, ch⟩ j (k + 1) R') 0x3b tl := by
              rw [htl]; exact follows_punct hT2 hC (by decide) tl
            obtain ⟨inp2, he2, s2⟩ := objsGood hT2 hC os hgood (i + 1) x' (⟨x, .polContinue⟩ :: s) inp1 _ 0x3b tl g st st1 qs1
              sS p hf1 (by decide) (by decide) (by decide) hx's rfl hx'g hone hdo he1
            obtain ⟨inp3, he3, s3⟩ := semis_more hT2 hC x s (envOf st1) j R' k inp2 he2
            obtain ⟨inp4, he4, s4⟩ := ih (fun po2 hpo2 => h po2 (List.mem_cons_of_mem _ hpo2)) (i + poSlots (.mk v os)) x s inp3 rest
              c r g st1 st2 qs2 sS false hf hc hs hg (fun _ => rfl) hdr he3
            refine ⟨inp4, he4, ?_⟩
            simpa using s1.trans (s2.trans (s3.trans (by simpa using s4)))

end
end RdfModel.C08
