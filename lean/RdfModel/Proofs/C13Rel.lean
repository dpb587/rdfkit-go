import RdfModel.Proofs.C13Rfc
import RdfModel.Proofs.Ite
namespace RdfModel.Proofs.C13
open RdfModel.Spec.RFC3986Lite RdfModel.Prefix RdfModel.C13

theorem relativize_checked (b v r : Str) (h : relativize b v = .some r) :
    [cSlash, cSlash].isPrefixOf r = false ∧
    ((newBaseIRI b).root.isSome → goParseOK r = true ∧ goResolve b r = v) ∧
    candidate (newBaseIRI b) v = .some r := by
  unfold relativize relativizeB at h
  cases hc : candidate (newBaseIRI b) v with
  | panic => rw [hc] at h; cases h
  | none => rw [hc] at h; cases h
  | some rel =>
    rw [hc] at h
    simp only at h
    by_cases h1 : [cSlash, cSlash].isPrefixOf rel = true
    · simp [h1] at h
    · simp only [h1, Bool.false_eq_true, if_false] at h
      by_cases h2 : (newBaseIRI b).root.isSome
      · simp only [h2, if_true] at h
        split at h
        · next hg =>
          cases h
          exact ⟨Bool.eq_false_iff.mpr h1, fun _ => hg, rfl⟩
        · cases h
      · simp only [h2, Bool.false_eq_true, if_false] at h
        cases h
        exact ⟨Bool.eq_false_iff.mpr h1, fun h' => absurd h' h2, rfl⟩

theorem candidate_self (b : Str) : candidate (newBaseIRI b) b = .some [] ∨ candidate (newBaseIRI b) b = .none := by
  unfold candidate
  have hn : ¬ ((newBaseIRI b).original.length < b.length) := by simp [newBaseIRI]
  simp only [hn, false_and, if_false]
  cases (newBaseIRI b).root with
  | none => right; rfl
  | some rd =>
    obtain ⟨ri, di⟩ := rd
    simp only
    split
    · right; rfl
    · left; simp [newBaseIRI]

/-- without root indices only the "#…" / "?…" suffix form is offered -/
theorem candidate_noroot (rb : BaseIRI) (v r : Str) (hroot : rb.root = none) (h : candidate rb v = .some r) :
    v = rb.original ++ r ∧ rb.fragmentIndex = none ∧
    ((∃ f, r = cHash :: f) ∨ (rb.queryIndex = none ∧ ∃ q, r = cQuest :: q)) := by
  unfold candidate at h
  rw [hroot] at h
  simp only at h
  by_cases hc : rb.original.length < v.length ∧ rb.fragmentIndex = none ∧ rb.original.isPrefixOf v = true
  · simp only [hc, and_self, if_true] at h
    obtain ⟨hlen, hfrag, hpre⟩ := hc
    obtain ⟨t, rfl⟩ := List.isPrefixOf_iff_prefix.mp hpre
    have hdrop : (rb.original ++ t).drop rb.original.length = t := by simp
    have hget : (rb.original ++ t)[rb.original.length]? = t.head? := by
      rw [List.getElem?_append_right (Nat.le_refl _)]; simp [List.head?_eq_getElem?]
    rw [hdrop, hget] at h
    cases t with
    | nil => simp at hlen
    | cons c t' =>
      simp only [List.head?_cons, Option.some.injEq] at h
      by_cases h1 : c = cHash
      · subst h1; simp only [if_true] at h; cases h; exact ⟨rfl, hfrag, .inl ⟨t', rfl⟩⟩
      · simp only [h1, if_false] at h
        by_cases h2 : rb.queryIndex = none ∧ c = cQuest
        · obtain ⟨hq, rfl⟩ := h2
          simp only [hq, and_self, if_true] at h; cases h; exact ⟨rfl, hfrag, .inr ⟨hq, t', rfl⟩⟩
        · simp only [h2, if_false] at h; cases h
  · simp only [hc, if_false] at h
    cases h

theorem mem_of_upTo_ne (stop : Nat → Bool) (s : Str) (h : upTo stop s ≠ s) : ∃ c ∈ s, stop c = true := by
  rcases from_head stop s with h' | ⟨c, r, h', hc⟩
  · exfalso; apply h
    have := upTo_append_from stop s
    rw [h'] at this; simpa using this
  · refine ⟨c, ?_, hc⟩
    have := upTo_append_from stop s
    rw [← this, h']; simp

theorem split_slash_ref : split [cSlash] = ⟨none, none, [cSlash], none, none⟩ := by decide

theorem split_dotSlash_ref : split [cDot, cSlash] = ⟨none, none, [cDot, cSlash], none, none⟩ := by decide

theorem rds_slash : removeDotSegments [cSlash] = [cSlash] := by decide

/-- `Parse("/")`: scheme and authority of the base followed by "/", whatever its path, query and fragment -/
theorem goResolve_slash (b : Str) :
    goResolve b [cSlash] = schemePart (split b).scheme ++ authorityPart (split b).authority ++ [cSlash] := by
  unfold goResolve resolve
  rw [split_slash_ref]
  simp [transform, rds_slash, recompose, queryPart, fragmentPart]

theorem split_fragment_ref (f : Str) : split (cHash :: f) = ⟨none, none, [], none, some f⟩ := by
  have := split_rel [] [] none (some f) (by simp) (Or.inl rfl) (Or.inr (by simp)) (by simp) (by simp)
  simpa [queryPart, fragmentPart] using this

theorem fragmentPart_after_query (q : Str) :
    fragmentPart (splitFragment (from_ queryStop q)) = from_ queryStop q := by
  apply splitFragment_glue
  rcases from_head queryStop q with h | ⟨c, r, h, hc⟩
  · left; exact h
  · right; refine ⟨r, ?_⟩; rw [h]; simp [queryStop] at hc; rw [hc]

theorem split_query_ref (q : Str) :
    split (cQuest :: q) = ⟨none, none, [], some (upTo queryStop q), splitFragment (from_ queryStop q)⟩ := by
  have hfr := fragmentPart_after_query q
  have := split_rel [] [] (some (upTo queryStop q)) (splitFragment (from_ queryStop q)) (by simp) (Or.inl rfl)
    (Or.inr (by simp)) (by simp) (by intro x hx; cases hx; exact upTo_clean queryStop q)
  simp only [List.nil_append, queryPart, List.cons_append, hfr, upTo_append_from] at this
  exact this

theorem resolve_hash_suffix (b f : Str) (hfn : (split b).fragment = none) : resolve b (cHash :: f) = b ++ cHash :: f := by
  unfold resolve
  rw [split_fragment_ref]
  have hrec := recompose_split b
  unfold recompose at hrec
  rw [hfn] at hrec
  simp only [transform, recompose, fragmentPart, List.append_nil, ↓reduceIte] at hrec ⊢
  rw [hrec]

theorem resolve_quest_suffix (b q : Str) (hfn : (split b).fragment = none) (hqn : (split b).query = none) :
    resolve b (cQuest :: q) = b ++ cQuest :: q := by
  unfold resolve
  rw [split_query_ref]
  have hrec := recompose_split b
  unfold recompose at hrec
  rw [hfn, hqn] at hrec
  have hfr := fragmentPart_after_query q
  simp only [transform, recompose, ↓reduceIte] at hrec ⊢
  rw [hfr]
  simp only [fragmentPart, queryPart, List.append_nil] at hrec ⊢
  rw [hrec]
  conv => rhs; rw [← upTo_append_from queryStop q]
  simp

theorem newBaseIRI_idx (S : Str) (q f : Option Str) (hS : ∀ c ∈ S, pathStop c = false)
    (hq : ∀ x, q = some x → ∀ c ∈ x, queryStop c = false) :
    (newBaseIRI (S ++ queryPart q ++ fragmentPart f)).resourceIndex = S.length ∧
    ((newBaseIRI (S ++ queryPart q ++ fragmentPart f)).queryIndex = none ↔ q = none) ∧
    ((newBaseIRI (S ++ queryPart q ++ fragmentPart f)).fragmentIndex = none ↔ f = none) := by
  have h1 := cut_at (fun c => c == cHash) (S ++ queryPart q) (fragmentPart f)
    (by intro c hc
        rcases List.mem_append.mp hc with hc | hc
        · have := hS c hc; simp [pathStop] at this; simp [this.2]
        · cases q with
          | none => simp [queryPart] at hc
          | some x =>
            simp only [queryPart, List.mem_cons] at hc
            rcases hc with rfl | hc
            · decide
            · simpa [queryStop] using hq x rfl c hc)
    (fragmentPart_head f)
  have h2 := cut_at (fun c => c == cQuest) S (queryPart q)
    (by intro c hc; have := hS c hc; simp [pathStop] at this; simp [this.1])
    (by cases q with
        | none => left; rfl
        | some y => right; exact ⟨cQuest, y, rfl, by simp⟩)
  simp only [newBaseIRI]
  rw [h1.1, h2.1]
  refine ⟨rfl, ?_, ?_⟩
  · cases q <;> simp [queryPart]
  · cases f <;> simp [fragmentPart]

/-- the `strings.Cut` calls of `NewBaseIRI` find the boundaries of Appendix B: everything before the query,
    and whether a query and a fragment are present -/
theorem newBaseIRI_cuts (b : Str) :
    (newBaseIRI b).resourceIndex =
      (schemePart (split b).scheme ++ authorityPart (split b).authority ++ (split b).path).length ∧
    ((newBaseIRI b).queryIndex = none ↔ (split b).query = none) ∧
    ((newBaseIRI b).fragmentIndex = none ↔ (split b).fragment = none) := by
  have hw := C12.wf_split b
  have hr := recompose_split b
  rw [split_eq] at hr ⊢
  obtain ⟨e1, e2, e3, e4⟩ := stop_eqs
  generalize Spec.RFC3986.split b = P at hw hr
  obtain ⟨sc, au, pa, qu, fr⟩ := P
  simp only [recompose] at hr ⊢
  -- `S`: what precedes the query; no `?`, no `#` in it
  generalize hS : schemePart sc ++ authorityPart au ++ pa = S at hr ⊢
  have hSc : ∀ c ∈ S, pathStop c = false := by
    subst hS
    intro c hc
    simp only [List.mem_append] at hc
    rcases hc with (hc | hc) | hc
    · cases sc with
      | none => simp [schemePart] at hc
      | some s =>
        simp only [schemePart, List.mem_append, List.mem_singleton] at hc
        rcases hc with hc | rfl
        · have := (hw.scheme s rfl).2 c hc; simp_all [schemeStop, pathStop]
        · decide
    · cases au with
      | none => simp [authorityPart] at hc
      | some a =>
        simp only [authorityPart, List.cons_append, List.nil_append, List.mem_cons] at hc
        rcases hc with rfl | rfl | hc
        · decide
        · decide
        · have := hw.authority a rfl c hc; simp_all [authStop, pathStop]
    · have := hw.path c hc; simp_all
  have hq : ∀ x, qu = some x → ∀ c ∈ x, queryStop c = false := fun x hx c hc => by
    have := hw.query x hx c hc; simp_all
  exact hr ▸ newBaseIRI_idx S qu fr hSc hq

theorem match_ne {sw : Option Outcome} {tail : Outcome} (h1 : sw ≠ some .panic) (h2 : tail ≠ .panic) :
    (match sw with | some o => o | none => tail) ≠ .panic := by
  cases sw with
  | none => exact h2
  | some o => exact fun e => h1 (congrArg some e)

theorem candidateAbs_no_panic (rb : BaseIRI) (ri di : Nat) (v : Str)
    (hres : rb.resourceIndex ≤ rb.original.length) (hri : 1 ≤ ri) (hri2 : ri ≤ rb.original.length + 1)
    (hdi : di ≤ rb.resourceIndex) (hlen : min ri rb.original.length ≤ v.length) :
    candidateAbs rb ri di v ≠ .panic := by
  have hroot : rootRelative ri v ≠ .panic := by
    unfold rootRelative
    have : ¬ (ri = 0 ∨ v.length < ri - 1) := by omega
    simp [this]
  unfold candidateAbs
  simp only
  refine match_ne ?_ (ite_ne ?_ hroot)
  · by_cases c1 : rb.resourceIndex < v.length
    · rw [if_pos c1, if_neg (by omega)]
      refine ite_ne (ite_ne ?_ (ite_ne nofun nofun)) nofun
      rw [if_neg (by omega)]
      nofun
    · rw [if_neg c1]
      nofun
  · rw [if_neg (by omega)]
    exact ite_ne (ite_ne nofun nofun) hroot

theorem relativize_no_panic_core (b v : Str) (h : IndicesOK (newBaseIRI b)) : relativize b v ≠ .panic := by
  have hc : candidate (newBaseIRI b) v ≠ .panic := by
    unfold candidate
    simp only
    split
    · simp
    · cases hroot : (newBaseIRI b).root with
      | none => simp
      | some rd =>
        obtain ⟨ri, di⟩ := rd
        simp only
        unfold IndicesOK at h
        rw [hroot] at h
        simp only at h
        split
        · simp
        · next hpre =>
          split
          · simp
          · apply candidateAbs_no_panic _ _ _ _ h.1 h.2.1 h.2.2.1 h.2.2.2
            have hp : ((newBaseIRI b).original.take (min ri (newBaseIRI b).original.length)) <+: v := by
              have := hpre
              simp only [Decidable.not_not] at this
              exact List.isPrefixOf_iff_prefix.mp this
            have := hp.length_le
            rw [List.length_take] at this
            omega
  unfold relativize relativizeB
  cases hcd : candidate (newBaseIRI b) v with
  | panic => exact absurd hcd hc
  | none => simp
  | some rel =>
    simp only
    split
    · simp
    · split
      · split <;> simp
      · simp

end RdfModel.Proofs.C13
