/-
  The round trip goes through an arbitrary key order: the decoder reads the buffer in the order it was written
  (`parseRoot_rawTokens`), and key sorting and `AddTriple` only permute the decoded statements.
-/
import RdfModel.Props.C01RJDefs
namespace RdfModel.Proofs.C01RJ
open RdfModel RdfModel.RJ RdfModel.C01RJ
open scoped List

variable {β : Type}

def recMembers (r : ObjRec) : Members := ⟨r.datatype, r.lang, some r.type, some r.value⟩

/-- What the decoder makes of the record (junk `default` for a record it refuses; `GoodRec` excludes that). -/
def decRec (v : Variant) (r : ObjRec) : Term BNode :=
  match finishObject v (recMembers r) 0 with
  | some (t, _) => t
  | none => default

/-- The record is accepted and makes no anonymous node. -/
def GoodRec (v : Variant) (r : ObjRec) : Prop := ∀ n, finishObject v (recMembers r) n = some (decRec v r, n)

def decSubj (k : List Nat) : Term BNode := (subjectOf k 0).1

def GoodSubj (k : List Nat) : Prop := ∀ n, subjectOf k n = (decSubj k, n)

theorem set_datatype (m : Members) (x : List Nat) : m.set kDatatype x = { m with datatype := some x } := by
  simp [Members.set]
theorem set_lang (m : Members) (x : List Nat) : m.set kLang x = { m with lang := some x } := by
  simp [Members.set, kLang, kDatatype]
theorem set_type (m : Members) (x : List Nat) : m.set kType x = { m with type := some x } := by
  simp [Members.set, kLang, kDatatype, kType]
theorem set_value (m : Members) (x : List Nat) : m.set kValue x = { m with value := some x } := by
  simp [Members.set, kLang, kDatatype, kType, kValue]

/-- In state `st` the decoder reads `toks`, is back in `st` with the statements `out` (in the order read)
    and has made no anonymous node. -/
def Eats (v : Variant) (e : TEnd) (st : PState) (toks : List Tok) (out : List (Triple BNode)) : Prop :=
  ∀ rest acc, parse v e st (toks ++ rest) acc = parse v e st rest { stmts := out.reverse ++ acc.stmts, anon := acc.anon }

section
variable {α : Type} {v : Variant} {e : TEnd} {st : PState} {toks : α → List Tok} {out : α → List (Triple BNode)}

theorem Eats.sep (hsep : Eats v e st [Tok.valueSep] []) :
    ∀ xs : List α, (∀ x ∈ xs, Eats v e st (toks x) (out x)) →
      Eats v e st (xs.flatMap fun x => Tok.valueSep :: toks x) (xs.flatMap out)
  | [], _ => fun _ _ => rfl
  | x :: xs, h => fun rest acc => by
    simp only [List.flatMap_cons, List.cons_append, List.append_assoc, List.reverse_append]
    have := hsep (toks x ++ (xs.flatMap (fun x => Tok.valueSep :: toks x) ++ rest)) acc
    simp only [List.singleton_append, List.reverse_nil, List.nil_append] at this
    rw [this, h x (.head _), Eats.sep hsep xs (fun y hy => h y (.tail _ hy))]

theorem Eats.joinSep (hsep : Eats v e st [Tok.valueSep] []) (xs : List α)
    (h : ∀ x ∈ xs, Eats v e st (toks x) (out x)) : Eats v e st (joinSep (xs.map toks)) (xs.flatMap out) := by
  cases xs with
  | nil => exact fun _ _ => rfl
  | cons x xs =>
    intro rest acc
    rw [List.map_cons, RJ.joinSep, List.flatMap_map, List.append_assoc, h x (.head _),
      Eats.sep hsep xs (fun y hy => h y (.tail _ hy))]
    simp

end

theorem parse_rec (v : Variant) (e : TEnd) (s : Term BNode) (p : List Nat) (r : ObjRec) (hg : GoodRec v r) :
    Eats v e (.objs s p) (recTokens r) [⟨s, .iri p, decRec v r⟩] := by
  intro rest acc
  have hk1 : isMemberKey kDatatype = true := by decide
  have hk2 : isMemberKey kLang = true := by decide
  have hk3 : isMemberKey kType = true := by decide
  have hk4 : isMemberKey kValue = true := by decide
  obtain ⟨ty, val, lang, dt⟩ := r
  have hg' := hg acc.anon
  simp only [recMembers] at hg'
  cases dt <;> cases lang <;>
    simp [recTokens, joinSep, member, parse, hk1, hk2, hk3, hk4, set_datatype, set_lang, set_type, set_value, hg']

/-- Statements of one predicate entry, in the order read. -/
def stmtsOf (v : Variant) (s : Term BNode) (p : List Nat) (os : List ObjRec) : List (Triple BNode) :=
  os.map (fun r => ⟨s, .iri p, decRec v r⟩)

theorem parse_pred (v : Variant) (e : TEnd) (s : Term BNode) (pe : List Nat × List ObjRec)
    (hg : ∀ r ∈ pe.2, GoodRec v r) : Eats v e (.preds s) (predTokens pe) (stmtsOf v s pe.1 pe.2) := by
  obtain ⟨p, os⟩ := pe
  intro rest acc
  simp only [predTokens, List.cons_append, List.append_assoc, parse]
  rw [Eats.joinSep (fun _ _ => by simp [parse]) os fun r hr => parse_rec v e s p r (hg r hr)]
  simp [parse, stmtsOf, List.map_eq_flatMap]

def stmtsOfPreds (v : Variant) (s : Term BNode) (ps : PMap) : List (Triple BNode) :=
  ps.flatMap (fun pe => stmtsOf v s pe.1 pe.2)

def PMapAll (Q : ObjRec → Prop) (ps : PMap) : Prop := ∀ pe ∈ ps, ∀ r ∈ pe.2, Q r

/-- Every subject key of the buffer satisfies `K`, every object record `Q`. -/
def StateAll (K : List Nat → Prop) (Q : ObjRec → Prop) (st : State) : Prop :=
  ∀ se ∈ st, K se.1 ∧ PMapAll Q se.2

theorem parse_subj (v : Variant) (e : TEnd) (se : List Nat × PMap) (hs : GoodSubj se.1) (hg : PMapAll (GoodRec v) se.2) :
    Eats v e .subjects (subjTokens se) (stmtsOfPreds v (decSubj se.1) se.2) := by
  obtain ⟨k, ps⟩ := se
  intro rest acc
  simp only [subjTokens, List.cons_append, List.append_assoc, parse, hs acc.anon]
  rw [Eats.joinSep (fun _ _ => by simp [parse]) ps fun pe hpe => parse_pred v e _ pe (hg pe hpe)]
  simp [parse, stmtsOfPreds]

def stmtsOfState (v : Variant) (st : State) : List (Triple BNode) :=
  st.flatMap (fun se => stmtsOfPreds v (decSubj se.1) se.2)

def GoodState (v : Variant) : State → Prop := StateAll GoodSubj (GoodRec v)

theorem parseRoot_rawTokens (v : Variant) (st : State) (hg : GoodState v st) :
    parseRoot v (rawTokens st) .eof = .done (stmtsOfState v st) .clean := by
  simp only [parseRoot, rawTokens, parse]
  rw [Eats.joinSep (fun _ _ => by simp [parse]) st fun se hse => parse_subj v .eof se (hg se hse).1 (hg se hse).2]
  simp [parse, stmtsOfState]

theorem perm_snoc_mid {α : Type} (a r : List α) (x : α) : (a ++ [x]) ++ r ~ (a ++ r) ++ [x] := by
  rw [List.append_assoc, List.append_assoc]
  exact List.Perm.append_left a List.perm_append_comm

theorem flatMap_perm_pointwise {α γ : Type} (f g : α → List γ) :
    ∀ l : List α, (∀ a ∈ l, f a ~ g a) → l.flatMap f ~ l.flatMap g := by
  intro l
  induction l with
  | nil => intro _; simp
  | cons a l ih =>
    intro h
    simp only [List.flatMap_cons]
    exact List.Perm.append (h a (by simp)) (ih (fun b hb => h b (by simp [hb])))

theorem insertSorted_perm {α : Type} (k : List Nat) (x : α) :
    ∀ l : List (List Nat × α), insertSorted k x l ~ (k, x) :: l := by
  intro l
  induction l with
  | nil => simp [insertSorted]
  | cons e l ih =>
    obtain ⟨k', x'⟩ := e
    simp only [insertSorted]
    split
    · exact (List.Perm.cons _ ih).trans (List.Perm.swap _ _ _)
    · exact List.Perm.refl _

theorem sortKeys_perm {α : Type} : ∀ l : List (List Nat × α), sortKeys l ~ l := by
  intro l
  induction l with
  | nil => simp [sortKeys]
  | cons e l ih =>
    obtain ⟨k, x⟩ := e
    simp only [sortKeys]
    exact (insertSorted_perm k x _).trans (List.Perm.cons _ ih)

theorem stmtsOfState_sort (v : Variant) (st : State) : stmtsOfState v (sortState st) ~ stmtsOfState v st := by
  unfold stmtsOfState sortState
  refine (List.Perm.flatMap_right _ (sortKeys_perm _)).trans ?_
  rw [List.flatMap_map]
  apply flatMap_perm_pointwise
  intro se _
  exact List.Perm.flatMap_right _ (sortKeys_perm _)

theorem stateAll_sort {K : List Nat → Prop} {Q : ObjRec → Prop} (st : State) (h : StateAll K Q st) :
    StateAll K Q (sortState st) := by
  intro se hse
  have hmem := (sortKeys_perm _).mem_iff.1 hse
  simp only [List.mem_map] at hmem
  obtain ⟨se0, h0, rfl⟩ := hmem
  refine ⟨(h se0 h0).1, ?_⟩
  intro pe hpe
  exact (h se0 h0).2 pe ((sortKeys_perm _).mem_iff.1 hpe)

theorem stmtsOfPreds_insert (v : Variant) (s : Term BNode) (p : List Nat) (o : ObjRec) :
    ∀ ps : PMap, stmtsOfPreds v s (insertObj p o ps) ~ stmtsOfPreds v s ps ++ [⟨s, .iri p, decRec v o⟩] := by
  intro ps
  induction ps with
  | nil => simp [insertObj, stmtsOfPreds, stmtsOf]
  | cons pe ps ih =>
    obtain ⟨k, os⟩ := pe
    simp only [insertObj]
    split
    · next hk =>
      subst hk
      simp only [stmtsOfPreds, List.flatMap_cons, stmtsOf, List.map_append, List.map_cons, List.map_nil]
      exact perm_snoc_mid _ _ _
    · simp only [stmtsOfPreds, List.flatMap_cons, List.append_assoc]
      exact List.Perm.append_left _ ih

theorem stmtsOfState_insert (v : Variant) (s p : List Nat) (o : ObjRec) :
    ∀ st : State, stmtsOfState v (insertSPO s p o st) ~ stmtsOfState v st ++ [⟨decSubj s, .iri p, decRec v o⟩] := by
  intro st
  induction st with
  | nil => simp [insertSPO, stmtsOfState, stmtsOfPreds, stmtsOf]
  | cons se st ih =>
    obtain ⟨k, ps⟩ := se
    simp only [insertSPO]
    split
    · next hk =>
      subst hk
      simp only [stmtsOfState, List.flatMap_cons]
      exact (List.Perm.append_right _ (stmtsOfPreds_insert v _ p o ps)).trans (perm_snoc_mid _ _ _)
    · simp only [stmtsOfState, List.flatMap_cons, List.append_assoc]
      exact List.Perm.append_left _ ih

theorem pmapAll_insert {Q : ObjRec → Prop} (p : List Nat) (o : ObjRec) (ho : Q o) :
    ∀ ps : PMap, PMapAll Q ps → PMapAll Q (insertObj p o ps)
  | [], _ => by simpa [insertObj, PMapAll] using ho
  | (k, os) :: ps, h => by
    have ih := pmapAll_insert p o ho ps fun pe hpe => h pe (.tail _ hpe)
    have h0 := h (k, os) (.head _)
    unfold insertObj
    split
    · exact List.forall_mem_cons.2 ⟨List.forall_mem_append.2 ⟨h0, by simpa using ho⟩, fun pe hpe => h pe (.tail _ hpe)⟩
    · exact List.forall_mem_cons.2 ⟨h0, ih⟩

theorem stateAll_insert {K : List Nat → Prop} {Q : ObjRec → Prop} (s p : List Nat) (o : ObjRec) (hs : K s) (ho : Q o) :
    ∀ st : State, StateAll K Q st → StateAll K Q (insertSPO s p o st)
  | [], _ => by simpa [insertSPO, StateAll] using ⟨hs, pmapAll_insert p o ho [] nofun⟩
  | (k, ps) :: st, h => by
    have ih := stateAll_insert s p o hs ho st fun se hse => h se (.tail _ hse)
    have h0 := h (k, ps) (.head _)
    unfold insertSPO
    split
    · exact List.forall_mem_cons.2 ⟨⟨h0.1, pmapAll_insert p o ho ps h0.2⟩, fun se hse => h se (.tail _ hse)⟩
    · exact List.forall_mem_cons.2 ⟨h0, ih⟩

theorem goodRec_of (v : Variant) (r : ObjRec) (t : Term BNode)
    (h : ∀ n, finishObject v (recMembers r) n = some (t, n)) : GoodRec v r ∧ decRec v r = t := by
  have ht : decRec v r = t := by simp [decRec, h 0]
  exact ⟨fun n => by rw [ht]; exact h n, ht⟩

theorem bnPrefix_bnKey (l : List Nat) : bnPrefix? (bnKey l) = some l := rfl

theorem mkBNode_named (l : List Nat) (hl : l ≠ []) (n : Nat) : mkBNode l n = (.named l, n) := by
  cases l with
  | nil => exact absurd rfl hl
  | cons a l => simp [mkBNode]

/-- The subject key written by `AddTriple`. -/
def subjKey (label : β → List Nat) : Term β → List Nat
  | .bnode b => bnKey (label b)
  | .iri v => v
  | .lit .. => []

theorem goodSubj_of_wf (label : β → List Nat) (hl : ∀ b, label b ≠ []) (s : Term β) (hs : WFSubject s) :
    GoodSubj (subjKey label s) ∧ decSubj (subjKey label s) = s.map (fun b => BNode.named (label b)) := by
  cases s with
  | iri k =>
    simp only [WFSubject] at hs
    simp [GoodSubj, decSubj, subjKey, subjectOf, hs, Term.map]
  | bnode b =>
    simp [GoodSubj, decSubj, subjKey, subjectOf, bnPrefix_bnKey, mkBNode_named _ (hl b), Term.map]
  | lit l d t => exact absurd hs (by simp [WFSubject])

theorem wfLit_cases {dt : List Nat} {tag : Option (List Nat)} (h : WFLit dt tag) :
    (∃ l, dt = rdfLangString ∧ tag = some l ∧ l ≠ []) ∨ (dt ≠ rdfLangString ∧ tag = none) := by
  obtain ⟨_, _, h⟩ := h
  cases tag with
  | some l => exact .inl ⟨l, h.1, rfl, h.2⟩
  | none => exact .inr ⟨h, rfl⟩

theorem goodRec_of_wf (v : Variant) (label : β → List Nat) (hl : ∀ b, label b ≠ []) (o : Term β)
    (ho : WFObject o) :
    GoodRec v (objRec label o) ∧ decRec v (objRec label o) = o.map (fun b => BNode.named (label b)) := by
  have h1 : vUri ≠ vLiteral := by decide
  have h2 : vBnode ≠ vLiteral := by decide
  have h3 : vBnode ≠ vUri := by decide
  apply goodRec_of
  intro n
  cases o with
  | iri x => simp [objRec, recMembers, finishObject, h1, Term.map]
  | bnode b =>
    simp [objRec, recMembers, finishObject, h2, h3, bnPrefix_bnKey, mkBNode_named _ (hl b), Term.map]
  | lit lex dt tag =>
    simp only [objRec]
    rcases wfLit_cases ho with ⟨l, rfl, rfl, hl0⟩ | ⟨hlang, rfl⟩
    · simp [recMembers, finishObject, finishLiteral, hl0, Term.map]
    · by_cases hx : dt = xsdString
      · subst hx
        simp [hlang, recMembers, finishObject, finishLiteral, Term.map]
      · simp [hlang, hx, recMembers, finishObject, finishLiteral, ho.1, ho.2.1, Term.map]

theorem addTriple_wf (label : β → List Nat) (st : State) (t : Triple β) (hwf : WFTriple t) :
    ∃ p, t.p = .iri p ∧
      addTriple label st t = some (insertSPO (subjKey label t.s) p (objRec label t.o) st) := by
  obtain ⟨hs, hp, _⟩ := hwf
  obtain ⟨s, p, o⟩ := t
  cases p with
  | iri pv =>
    refine ⟨pv, rfl, ?_⟩
    cases s with
    | iri k => simp [addTriple, subjKey]
    | bnode b => simp [addTriple, subjKey]
    | lit l d t => exact absurd hs (by simp [WFSubject])
  | bnode b => exact absurd hp (by simp [WFPredicate])
  | lit l d t => exact absurd hp (by simp [WFPredicate])

theorem stateAll_addAllFrom {K : List Nat → Prop} {Q : ObjRec → Prop} (label : β → List Nat)
    (hK : ∀ s : Term β, WFSubject s → K (subjKey label s)) (hQ : ∀ o : Term β, WFObject o → Q (objRec label o)) :
    ∀ (ts : List (Triple β)) (st : State), (∀ t ∈ ts, WFTriple t) → StateAll K Q st →
      StateAll K Q (addAllFrom label st ts)
  | [], _, _, h => h
  | t :: ts, st, hwf, h => by
    have ht := hwf t (.head _)
    obtain ⟨p, _, hadd⟩ := addTriple_wf label st t ht
    simp only [addAllFrom, hadd, Option.getD_some]
    exact stateAll_addAllFrom label hK hQ ts _ (fun t' ht' => hwf t' (.tail _ ht'))
      (stateAll_insert _ p _ (hK _ ht.s) (hQ _ ht.o) st h)

theorem stmtsOfState_addAllFrom (v : Variant) (label : β → List Nat) (hl : ∀ b, label b ≠ []) :
    ∀ (ts : List (Triple β)) (st : State), (∀ t ∈ ts, WFTriple t) →
      stmtsOfState v (addAllFrom label st ts) ~ stmtsOfState v st ++ ts.map (relabel label)
  | [], _, _ => by simp [addAllFrom]
  | t :: ts, st, hwf => by
    have ht := hwf t (.head _)
    obtain ⟨p, hp, hadd⟩ := addTriple_wf label st t ht
    have hrel : (⟨decSubj (subjKey label t.s), .iri p, decRec v (objRec label t.o)⟩ : Triple BNode) = relabel label t := by
      obtain ⟨s, p', o⟩ := t
      simp only at hp
      subst hp
      simp [relabel, Triple.map, (goodSubj_of_wf label hl s ht.s).2, (goodRec_of_wf v label hl o ht.o).2, Term.map]
    simp only [addAllFrom, hadd, Option.getD_some]
    refine (stmtsOfState_addAllFrom v label hl ts _ fun t' ht' => hwf t' (.tail _ ht')).trans ?_
    rw [List.map_cons, ← hrel]
    refine (List.Perm.append_right _ (stmtsOfState_insert v _ p _ st)).trans ?_
    simp

end RdfModel.Proofs.C01RJ
