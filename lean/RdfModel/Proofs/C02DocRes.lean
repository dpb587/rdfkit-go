/-
  Nested-resource mode for flat resources: AddResource for resources with an explicit subject whose statements are all
  ObjectStatements (no `[ … ]`, no `( … )`): predicate-object lists with `;` and `,`, the keyword `a`, the multi-line
  layout.
-/
import RdfModel.Proofs.C02DocMain
import RdfModel.Proofs.C02DocDP
namespace RdfModel.Proofs.C02Doc
open RdfModel RdfModel.Ttl RdfModel.TtlEnc RdfModel.C02 RdfModel.TtlDoc RdfModel.Desc

variable {C : Cfg} {T : Tables}

section Flat
variable {β : Type} {c : Ctx β} {base : Option (List Nat)} {D : List Nat → Prop}

/-- what the term writers produce, as total functions (used where they do not fail) -/
def objText (c : Ctx β) (o : Term β) : List Nat := match writeObject c o with | .ok t => t | _ => []
def predText (c : Ctx β) (p : List Nat) : List Nat := match writePredicate c p with | .ok t => t | _ => []
def subjText (c : Ctx β) (s : Term β) : List Nat := match writeSubject c s with | .ok t => t | _ => []

theorem joinSep_cons (sep a : List Nat) (l : List (List Nat)) :
    joinSep sep (a :: l) = a ++ l.flatMap (fun b => sep ++ b) := by
  induction l generalizing a with
  | nil => simp [joinSep]
  | cons b l ih => simp [joinSep, ih b]

theorem lead_cons (m : Bool) (ind : Nat) : ∃ f tl, lead m ind = f :: tl ∧ (f = 0x20 ∨ f = 0x0a) ∧ WS tl := by
  unfold lead
  cases m
  · exact ⟨0x20, [], by simp [sp], Or.inl rfl, ws_nil⟩
  · exact ⟨0x0a, tabs ind, by simp [nl], Or.inr rfl, ws_tabs ind⟩

theorem writeObject_objText (S : Setup C T c base) (o : Term β) (ho : objectOK c base o) :
    writeObject c o = .ok (objText c o) := by
  obtain ⟨t, ht, _⟩ := writeObject_form S.writeIRI_isOk ho
  simp [objText, ht]

theorem writePredicate_predText (S : Setup C T c base) (p : List Nat) (hp : iriTermOK c base p) :
    writePredicate c p = .ok (predText c p) := by
  obtain ⟨t, ht⟩ := writePredicate_isOk S.writeIRI_isOk hp
  simp [predText, ht]

theorem writeSubject_subjText (S : Setup C T c base) (s : Term β) (hs : subjectOK c base s) :
    writeSubject c s = .ok (subjText c s) := by
  obtain ⟨t, ht⟩ := writeSubject_isOk S.writeIRI_isOk hs
  simp [subjText, ht]

/-- the objects of one predicate: `O₁ , O₂ , …` -/
theorem run_items (S : Setup C T c base) (env : Env) (henv : EnvOK env base c.pm D) (x : Ectx) (K : List Frame)
    (pMulti : Bool) (ind2 : Nat) (rest : List Nat) (hf : SpOrNl rest) :
    ∀ (os : List (Term β)) (o : Term β) (ws : List Nat), WS ws →
      (∀ o' ∈ o :: os, objectOK c base o' ∧ ∀ l ∈ usedOfObject c.pm o', D l) →
      Steps C .eof ⟨⟨x, .object⟩ :: ⟨x, .objListContinue⟩ :: K,
          ws ++ (objText c o ++ (os.flatMap (fun o' => [sp, 0x2c] ++ (lead pMulti ind2 ++ objText c o')) ++ rest)), env⟩
        ((o :: os).map (fun o' => mkStmt x (dterm c.label o')))
        ⟨⟨x, .objListContinue⟩ :: K, rest, env⟩
  | [], o, ws, hws, h => by
    obtain ⟨ho, hD⟩ := h o List.mem_cons_self
    have := run_object_term S env henv o ho hD (objText c o) (writeObject_objText S o ho) x
      (⟨x, .objListContinue⟩ :: K) ws hws rest hf
    simpa using this
  | o2 :: os, o, ws, hws, h => by
    obtain ⟨ho, hD⟩ := h o List.mem_cons_self
    have r1 := run_object_term S env henv o ho hD (objText c o) (writeObject_objText S o ho) x
      (⟨x, .objListContinue⟩ :: K) ws hws
      (0x20 :: 0x2c :: (lead pMulti ind2 ++ (objText c o2 ++
        (os.flatMap (fun o' => [sp, 0x2c] ++ (lead pMulti ind2 ++ objText c o')) ++ rest)))) (spOrNl_sp _)
    have r2 := run_comma S.hC x K env (lead pMulti ind2 ++ (objText c o2 ++
        (os.flatMap (fun o' => [sp, 0x2c] ++ (lead pMulti ind2 ++ objText c o')) ++ rest)))
    have r3 := run_items S env henv x K pMulti ind2 rest hf os o2 (lead pMulti ind2) (ws_lead _ _).1
      (fun o' ho' => h o' (List.mem_cons_of_mem _ ho'))
    have := (r1.trans r2).trans r3
    simpa [sp, List.flatMap_cons] using this


/-- the text of one predicate group -/
def groupText (c : Ctx β) (multi : Bool) (ind1 : Nat) (p : List Nat) (objs : List (Term β)) : List Nat :=
  lead multi ind1 ++ (predText c p ++
    joinSep [sp, 0x2c] (objs.map (fun o => lead (decide (objs.length > 1)) (if decide (objs.length > 1) then ind1 + 1 else ind1) ++
      objText c o)))

theorem run_group (S : Setup C T c base) (env : Env) (henv : EnvOK env base c.pm D) (x : Ectx) (K : List Frame)
    {k : Cont} (hk : IsPol k) (multi : Bool) (ind1 : Nat) (p : List Nat) (objs : List (Term β)) (hne : objs ≠ [])
    (hp : iriTermOK c base p) (hDp : ∀ l ∈ usedOfPredicate c.pm p, D l)
    (hobjs : ∀ o ∈ objs, objectOK c base o ∧ ∀ l ∈ usedOfObject c.pm o, D l) (rest : List Nat) (hf : SpOrNl rest) :
    Steps C .eof ⟨⟨x, k⟩ :: K, groupText c multi ind1 p objs ++ rest, env⟩
      (objs.map (fun o => mkStmt { x with pred := some (.iri p) } (dterm c.label o)))
      ⟨⟨{ x with pred := some (.iri p) }, .objListContinue⟩ :: K, rest, env⟩ := by
  cases objs with
  | nil => exact absurd rfl hne
  | cons o os =>
    obtain ⟨L, hL⟩ : ∃ L, L = lead (decide ((o :: os).length > 1)) (if decide ((o :: os).length > 1) then ind1 + 1 else ind1) :=
      ⟨_, rfl⟩
    obtain ⟨f, tl, hl, hf1, htl⟩ := lead_cons (decide ((o :: os).length > 1))
      (if decide ((o :: os).length > 1) then ind1 + 1 else ind1)
    rw [← hL] at hl
    have hshape : groupText c multi ind1 p (o :: os) ++ rest =
        lead multi ind1 ++ (predText c p ++ (L ++ (objText c o ++ (os.flatMap (fun o' => [sp, 0x2c] ++ (L ++ objText c o')) ++ rest)))) := by
      simp only [groupText, List.map_cons, joinSep_cons, ← hL, List.flatMap_map, List.append_assoc]
    rw [hshape]
    obtain ⟨ws', hws', r1⟩ := run_pol_term S env henv p hp hDp _ (writePredicate_predText S p hp) hk x K
      (lead multi ind1) (ws_lead _ _).1 f hf1
      (tl ++ (objText c o ++ (os.flatMap (fun o' => [sp, 0x2c] ++ (L ++ objText c o')) ++ rest)))
    have r2 := run_items S env henv { x with pred := some (.iri p) } K (decide ((o :: os).length > 1))
      (if decide ((o :: os).length > 1) then ind1 + 1 else ind1) rest hf os o (ws' ++ tl) (hws'.append htl) hobjs
    rw [← hL, List.append_assoc] at r2
    have := r1.trans r2
    rw [← List.cons_append, ← hl] at this
    simpa using this

/-- groups as data: predicate and objects -/
abbrev Group (β : Type) := List Nat × List (Term β)

def groupsTail (c : Ctx β) (multi : Bool) (ind1 : Nat) (gs : List (Group β)) : List Nat :=
  gs.flatMap (fun g => [sp, 0x3b] ++ groupText c multi ind1 g.1 g.2)

def groupOK (c : Ctx β) (base : Option (List Nat)) (D : List Nat → Prop) (g : Group β) : Prop :=
  g.2 ≠ [] ∧ iriTermOK c base g.1 ∧ (∀ l ∈ usedOfPredicate c.pm g.1, D l) ∧
  ∀ o ∈ g.2, objectOK c base o ∧ ∀ l ∈ usedOfObject c.pm o, D l

def groupOut (label : β → List Nat) (s : TtlDoc.T) (g : Group β) : List Stmt :=
  g.2.map (fun o => ⟨some s, some (.iri g.1), dterm label o, none⟩)

/-- `G₁ ; G₂ ; …` -/
theorem run_groups (S : Setup C T c base) (env : Env) (henv : EnvOK env base c.pm D) (s : TtlDoc.T) (K : List Frame)
    (multi : Bool) (ind1 : Nat) (rest : List Nat) (hf : SpOrNl rest) :
    ∀ (gs : List (Group β)) (g : Group β) {k : Cont}, IsPol k → (∀ g' ∈ g :: gs, groupOK c base D g') →
      ∃ x2, Steps C .eof ⟨⟨{ subj := some s }, k⟩ :: ⟨{ subj := some s }, .polContinue⟩ :: K,
          groupText c multi ind1 g.1 g.2 ++ (groupsTail c multi ind1 gs ++ rest), env⟩
        ((g :: gs).flatMap (groupOut c.label s))
        ⟨⟨x2, .objListContinue⟩ :: ⟨{ subj := some s }, .polContinue⟩ :: K, rest, env⟩
  | [], g, k, hk, h => by
    obtain ⟨h1, h2, h3, h4⟩ := h g List.mem_cons_self
    refine ⟨{ subj := some s, pred := some (.iri g.1) }, ?_⟩
    have := run_group S env henv { subj := some s } (⟨{ subj := some s }, .polContinue⟩ :: K) hk multi ind1
      g.1 g.2 h1 h2 h3 h4 rest hf
    simpa [groupsTail, groupOut, mkStmt] using this
  | g2 :: gs, g, k, hk, h => by
    obtain ⟨h1, h2, h3, h4⟩ := h g List.mem_cons_self
    have r1 := run_group S env henv { subj := some s } (⟨{ subj := some s }, .polContinue⟩ :: K) hk multi ind1
      g.1 g.2 h1 h2 h3 h4
      (0x20 :: 0x3b :: (groupText c multi ind1 g2.1 g2.2 ++ (groupsTail c multi ind1 gs ++ rest))) (spOrNl_sp _)
    have r2 := run_semicolon S.hC { subj := some s, pred := some (.iri g.1) } { subj := some s } K env
      (groupText c multi ind1 g2.1 g2.2 ++ (groupsTail c multi ind1 gs ++ rest))
    obtain ⟨x2, r3⟩ := run_groups S env henv s K multi ind1 rest hf gs g2 (Or.inl rfl)
      (fun g' hg' => h g' (List.mem_cons_of_mem _ hg'))
    refine ⟨x2, ?_⟩
    have := (r1.trans r2).trans r3
    simpa [groupsTail, groupOut, mkStmt, sp, List.flatMap_cons, List.append_assoc] using this


/-- a resource with an explicit subject and ObjectStatements only -/
abbrev FlatRes (β : Type) := Term β × List (List Nat × Term β)

def FlatRes.stmts (r : FlatRes β) : List (Stmt β) := r.2.map (fun po => Stmt.obj po.1 po.2)

def FlatRes.toResource (r : FlatRes β) : Resource β := Resource.subject (some r.1) r.stmts

/-- the objects of predicate `p`, in statement order -/
def objsOfPred (p : List Nat) (pos : List (List Nat × Term β)) : List (Term β) :=
  (pos.filter (fun po => po.1 == p)).map (·.2)

def FlatRes.preds (r : FlatRes β) : List (List Nat) := predicateList r.stmts
def FlatRes.multi (r : FlatRes β) : Bool := decide (r.preds.length > 1)
def FlatRes.ind1 (r : FlatRes β) : Nat := if r.multi then 1 else 0
def FlatRes.groups (r : FlatRes β) : List (Group β) := r.preds.map (fun p => (p, objsOfPred p r.2))

/-- the section `AddResource` writes for a flat resource -/
def secFlat (c : Ctx β) (r : FlatRes β) : List Nat :=
  subjText c r.1 ++ (joinSep [sp, 0x3b] (r.groups.map (fun g => groupText c r.multi r.ind1 g.1 g.2)) ++ [sp, 0x2e, nl])

/-- the prefixes it marks as used -/
def usedFlat (pm : Prefix.PM) (r : FlatRes β) : List (List Nat) :=
  usedOfSubject pm r.1 ++ r.groups.flatMap (fun g => usedOfPredicate pm g.1 ++ g.2.flatMap (usedOfObject pm))

/-- what the decoder must yield for it -/
def outFlat (label : β → List Nat) (r : FlatRes β) : List Stmt :=
  r.groups.flatMap (groupOut label (dterm label r.1))

/-- well-formedness of a flat resource (every term as in `TripleOK`), non-empty -/
structure FlatOK (c : Ctx β) (base : Option (List Nat)) (r : FlatRes β) : Prop where
  ne : r.2 ≠ []
  s : subjectOK c base r.1
  po : ∀ po ∈ r.2, iriTermOK c base po.1 ∧ objectOK c base po.2

theorem withPred_flat (p : List Nat) (pos : List (List Nat × Term β)) :
    withPred p (pos.map (fun po => Stmt.obj po.1 po.2)) = (pos.filter (fun po => po.1 == p)).map (fun po => Stmt.obj po.1 po.2) := by
  induction pos with
  | nil => rfl
  | cons po pos ih =>
    simp only [withPred, List.map_cons, List.filter_cons, stmtPred] at ih ⊢
    split <;> simp [ih]

theorem mem_predicateList {l : List (Stmt β)} {p : List Nat} : p ∈ predicateList l ↔ ∃ s ∈ l, stmtPred s = p := by
  have hs : ∀ q, q ∈ sortStrs (dedup (l.map stmtPred)) ↔ ∃ s ∈ l, stmtPred s = q := by
    intro q
    rw [sortStrs, (isortBy_perm strLe _).mem_iff, mem_dedup, List.mem_map]
  unfold predicateList
  simp only
  split
  · next hty =>
    simp only [List.mem_cons, List.mem_filter, bne_iff_ne, ne_eq]
    constructor
    · rintro (rfl | ⟨h, _⟩)
      · exact (hs _).mp hty
      · exact (hs _).mp h
    · intro h
      by_cases hp : p = TtlEnc.rdfType
      · exact Or.inl hp
      · exact Or.inr ⟨(hs _).mpr h, hp⟩
  · exact hs p

theorem pred_ok {r : FlatRes β} (hr : FlatOK c base r) {p : List Nat} (hp : p ∈ r.preds) : iriTermOK c base p := by
  obtain ⟨st, hst, rfl⟩ := mem_predicateList.mp hp
  simp only [FlatRes.stmts, List.mem_map] at hst
  obtain ⟨po, hpo, rfl⟩ := hst
  exact (hr.po po hpo).1

theorem groups_ok (r : FlatRes β) (hr : FlatOK c base r)
    (hD : ∀ l ∈ usedFlat c.pm r, D l) : ∀ g ∈ r.groups, groupOK c base D g := by
  intro g hg
  simp only [FlatRes.groups, List.mem_map] at hg
  obtain ⟨p, hp, rfl⟩ := hg
  obtain ⟨st, hst, hpp⟩ := mem_predicateList.mp hp
  simp only [FlatRes.stmts, List.mem_map] at hst
  obtain ⟨po, hpo, rfl⟩ := hst
  simp only [stmtPred] at hpp
  have hDg : ∀ l ∈ usedOfPredicate c.pm p ++ (objsOfPred p r.2).flatMap (usedOfObject c.pm), D l := by
    intro l hl
    apply hD
    simp only [usedFlat, List.mem_append, List.mem_flatMap]
    right
    exact ⟨(p, objsOfPred p r.2), by simp only [FlatRes.groups, List.mem_map]; exact ⟨p, hp, rfl⟩, by simpa using hl⟩
  refine ⟨?_, ?_, ?_, ?_⟩
  · simp only [objsOfPred]
    intro h
    have : po ∈ r.2.filter (fun po => po.1 == p) := by simp [List.mem_filter, hpo, hpp]
    have hm := List.mem_map_of_mem (f := (·.2)) this
    rw [h] at hm
    cases hm
  · exact pred_ok hr hp
  · intro l hl; exact hDg l (List.mem_append_left _ hl)
  · intro o ho
    simp only [objsOfPred, List.mem_map, List.mem_filter] at ho
    obtain ⟨po', ⟨hpo', _⟩, rfl⟩ := ho
    refine ⟨(hr.po po' hpo').2, fun l hl => hDg l (List.mem_append_right _ ?_)⟩
    simp only [List.mem_flatMap]
    exact ⟨po'.2, by simp only [objsOfPred, List.mem_map, List.mem_filter]; exact ⟨po', ⟨hpo', by assumption⟩, rfl⟩, hl⟩

theorem preds_ne (r : FlatRes β) (hne : r.2 ≠ []) : r.preds ≠ [] := by
  cases hr : r.2 with
  | nil => exact absurd hr hne
  | cons po pos =>
    intro h
    have : po.1 ∈ r.preds := mem_predicateList.mpr ⟨Stmt.obj po.1 po.2, by simp [FlatRes.stmts, hr], rfl⟩
    rw [h] at this
    cases this

theorem run_flat (S : Setup C T c base) (env : Env) (henv : EnvOK env base c.pm D) (r : FlatRes β)
    (hr : FlatOK c base r) (hD : ∀ l ∈ usedFlat c.pm r, D l) (K : List Frame) (k : Nat) (rest : List Nat) :
    Steps C .eof ⟨⟨{}, .statement⟩ :: K, List.replicate k 0x0a ++ (secFlat c r ++ rest), env⟩ (outFlat c.label r)
      ⟨⟨{}, .statement⟩ :: K, 0x0a :: rest, env⟩ := by
  have hgs := groups_ok r hr hD
  have hpne := preds_ne r hr.ne
  obtain ⟨g, gs, hgg⟩ : ∃ g gs, r.groups = g :: gs := by
    cases h : r.groups with
    | nil => simp [FlatRes.groups] at h; exact absurd h hpne
    | cons g gs => exact ⟨g, gs, rfl⟩
  have htext : secFlat c r ++ rest = subjText c r.1 ++ (groupText c r.multi r.ind1 g.1 g.2 ++
      (groupsTail c r.multi r.ind1 gs ++ (0x20 :: 0x2e :: 0x0a :: rest))) := by
    simp only [secFlat, hgg, List.map_cons, joinSep_cons, groupsTail, List.flatMap_map, List.append_assoc]
    simp [sp, nl]
  rw [htext]
  have hsub := writeSubject_subjText S r.1 hr.s
  have hfol : SpOrNl (groupText c r.multi r.ind1 g.1 g.2 ++
      (groupsTail c r.multi r.ind1 gs ++ (0x20 :: 0x2e :: 0x0a :: rest))) := by
    obtain ⟨f, tl, hl, hf1, _⟩ := lead_cons r.multi r.ind1
    simp only [groupText, hl, List.cons_append]
    exact ⟨_, _, rfl, hf1⟩
  have r1 := run_subject_term S env henv r.1 hr.s
    (fun l hl => hD l (by simp [usedFlat, hl])) (subjText c r.1) hsub {} K k _ hfol
  obtain ⟨x2, r2⟩ := run_groups S env henv (dterm c.label r.1) (⟨{}, .triplesEnd⟩ :: ⟨{}, .statement⟩ :: K)
    r.multi r.ind1 (0x20 :: 0x2e :: 0x0a :: rest) (spOrNl_sp _) gs g (k := .polRequired) (Or.inr rfl)
    (fun g' hg' => hgs g' (by rw [hgg]; exact hg'))
  have r3 := run_statement_end S.hC x2 { subj := some (dterm c.label r.1) } {} (⟨{}, .statement⟩ :: K)
    (0x0a :: rest) env
  have := (r1.trans r2).trans r3
  simpa [outFlat, hgg, subjFrames] using this


def FlatRes.single (t : Triple β) : FlatRes β := (t.s, [(t.p, t.o)])

theorem single_preds (t : Triple β) : (FlatRes.single t).preds = [t.p] := by
  by_cases h : TtlEnc.rdfType = t.p <;>
    simp [FlatRes.preds, FlatRes.stmts, FlatRes.single, predicateList, sortStrs, isortBy, insertBy, dedup, stmtPred, h]

theorem single_groups (t : Triple β) : (FlatRes.single t).groups = [(t.p, [t.o])] := by
  rw [FlatRes.groups, single_preds]; simp [objsOfPred, FlatRes.single]

theorem usedFlat_single (pm : Prefix.PM) (t : Triple β) : usedFlat pm (.single t) = usedOfTriple pm t := by
  simp [usedFlat, single_groups, usedOfTriple]; rfl

theorem outFlat_single (label : β → List Nat) (t : Triple β) : outFlat label (.single t) = [stmtOf label t] := by
  simp [outFlat, single_groups, groupOut, stmtOf, dterm]; rfl

theorem flatOK_single {t : Triple β} (ht : TripleOK c base t) : FlatOK c base (.single t) :=
  ⟨by simp [FlatRes.single], ht.s, by simp [FlatRes.single, ht.p, ht.o]⟩

theorem tripleSection_flat (S : Setup C T c base) (t : Triple β) (ht : TripleOK c base t) :
    tripleSection c t = .ok (secFlat c (.single t)) := by
  simp [tripleSection, writeSubject_subjText S _ ht.s, writePredicate_predText S _ ht.p, writeObject_objText S _ ht.o,
    TtlEnc.Res.bind, secFlat, single_groups, groupText, FlatRes.multi, single_preds, lead, joinSep]
  rfl

theorem mapRes_sections (S : Setup C T c base) : ∀ (ts : List (Triple β)), (∀ t ∈ ts, TripleOK c base t) →
    mapRes (tripleSection c) ts = .ok (ts.map (fun t => secFlat c (.single t)))
  | [], _ => rfl
  | t :: ts, h => by
    have ih := mapRes_sections S ts (fun t' ht' => h t' (List.mem_cons_of_mem _ ht'))
    simp [mapRes, Res.bind, tripleSection_flat S t (h t List.mem_cons_self), ih]

theorem bind_mapOR_map_ok {α α' γ δ : Type} {f : α' → OR γ} {h : α → α'} {g : α → γ} {l : List α}
    {k : List γ → OR δ} (hh : ∀ a ∈ l, f (h a) = OR.ok (g a)) : (mapOR f (l.map h)).bind k = k (l.map g) := by
  have : mapOR f (l.map h) = OR.ok (l.map g) := by
    induction l with
    | nil => rfl
    | cons a l ih =>
      simp only [List.map_cons, mapOR, hh a List.mem_cons_self, ih (fun b hb => hh b (List.mem_cons_of_mem _ hb)),
        OR.bind, OR.ok]
  rw [this]; rfl

theorem bind_mapOR_ok {α γ δ : Type} {f : α → OR γ} {g : α → γ} {l : List α} {k : List γ → OR δ}
    (h : ∀ a ∈ l, f a = OR.ok (g a)) : (mapOR f l).bind k = k (l.map g) := by
  simpa using bind_mapOR_map_ok (h := id) (k := k) h

def pieceOfStmt (c : Ctx β) : Stmt β → Piece
  | .obj _ o => ⟨objText c o, false, usedOfObject c.pm o⟩
  | .anon _ _ => ⟨[], false, []⟩

theorem stmtsDepth_flat (pos : List (List Nat × Term β)) : stmtsDepth (pos.map (fun po => Stmt.obj po.1 po.2)) = 0 := by
  induction pos with
  | nil => simp [stmtsDepth]
  | cons po pos ih => simp [stmtsDepth, stmtDepth, ih]

theorem flat_used (c : Ctx β) (L : List (List Nat × Term β)) :
    (List.map (pieceOfStmt c) (L.map (fun po => Stmt.obj po.1 po.2))).flatMap (·.used) =
      (L.map (·.2)).flatMap (usedOfObject c.pm) := by
  induction L with
  | nil => rfl
  | cons po L ih => simp only [List.map_cons, List.flatMap_cons, pieceOfStmt, ih]

theorem flat_texts (c : Ctx β) (ld : List Nat) (L : List (List Nat × Term β)) :
    List.map (fun r => ld ++ r.text) (List.map (pieceOfStmt c) (L.map (fun po => Stmt.obj po.1 po.2))) =
      (L.map (·.2)).map (fun o => ld ++ objText c o) := by
  induction L with
  | nil => rfl
  | cons po L ih => simp only [List.map_cons, pieceOfStmt, ih]

variable [DecidableEq β]

theorem write_put_flat (S : Setup C T c base) (d7 : Bool) (r : FlatRes β) (hr : FlatOK c base r) (n : Nat) :
    ∃ m, write c d7 (n + 2) (.put 0 r.stmts) =
      OR.ok ⟨joinSep [sp, 0x3b] (r.groups.map (fun g => groupText c r.multi r.ind1 g.1 g.2)), m,
        r.groups.flatMap (fun g => usedOfPredicate c.pm g.1 ++ g.2.flatMap (usedOfObject c.pm))⟩ := by
  rw [write]
  rw [bind_mapOR_ok (g := fun p => (⟨groupText c r.multi r.ind1 p (objsOfPred p r.2),
      decide ((objsOfPred p r.2).length > 1) || ((withPred p r.stmts).map (pieceOfStmt c)).any (·.multi),
      usedOfPredicate c.pm p ++ (objsOfPred p r.2).flatMap (usedOfObject c.pm)⟩ : Piece))]
  · apply Exists.intro
    simp only [OR.ok, FlatRes.groups, List.map_map, List.flatMap_map, Function.comp_def]
    rfl
  · intro p hp
    have hw : withPred p r.stmts = (r.2.filter (fun po => po.1 == p)).map (fun po => Stmt.obj po.1 po.2) :=
      withPred_flat p r.2
    rw [writePredicate_predText S p (pred_ok hr hp)]
    simp only
    rw [bind_mapOR_ok (g := pieceOfStmt c)]
    ·
      have hlen : (withPred p r.stmts).length = (objsOfPred p r.2).length := by
        rw [hw]; simp [objsOfPred]
      have hused : ((withPred p r.stmts).map (pieceOfStmt c)).flatMap (·.used) =
          (objsOfPred p r.2).flatMap (usedOfObject c.pm) := by
        rw [hw, flat_used]; rfl
      have htext : ∀ ld, List.map (fun r => ld ++ r.text) ((withPred p r.stmts).map (pieceOfStmt c)) =
          (objsOfPred p r.2).map (fun o => ld ++ objText c o) := by
        intro ld; rw [hw, flat_texts]; rfl
      simp only [OR.ok, hlen, hused, htext, groupText, FlatRes.multi, FlatRes.ind1, FlatRes.preds, List.append_assoc,
        Nat.zero_add]
      rfl
    · intro st hst
      rw [hw] at hst
      simp only [List.mem_map, List.mem_filter] at hst
      obtain ⟨po, ⟨hpo, _⟩, rfl⟩ := hst
      rw [write]
      simp only [objectPiece, writeObject_objText S po.2 (hr.po po hpo).2, pieceOfStmt]

theorem resourceSection_flat (S : Setup C T c base) (d7 : Bool) (r : FlatRes β) (hr : FlatOK c base r) :
    resourceSection c d7 r.toResource = OR.ok (some (secFlat c r), usedFlat c.pm r) := by
  have hne : r.stmts.isEmpty = false := by
    cases h : r.2 with
    | nil => exact absurd h hr.ne
    | cons a l => simp [FlatRes.stmts, h]
  have hsub := writeSubject_subjText S r.1 hr.s
  have hfuel : fuelFor r.stmts = 1 + 2 := by
    simp [fuelFor, FlatRes.stmts, stmtsDepth_flat]
  obtain ⟨m, hw⟩ := write_put_flat S d7 r hr 1
  simp only [resourceSection, FlatRes.toResource, hne, Bool.false_eq_true, ↓reduceIte, hsub, hfuel, hw, OR.bind, OR.ok,
    secFlat, usedFlat, List.append_assoc]


omit [DecidableEq β] in
theorem predicateList_nodup (l : List (Stmt β)) : (predicateList l).Nodup := by
  have hs : (sortStrs (dedup (l.map stmtPred))).Nodup :=
    (isortBy_perm strLe _).nodup_iff.mpr (nodup_dedup _)
  unfold predicateList
  simp only
  split
  · refine List.nodup_cons.mpr ⟨?_, hs.filter _⟩
    simp [List.mem_filter]
  · exact hs

/-- the triples a flat resource stands for (`Resource.NewTriples`) -/
def FlatRes.triples (r : FlatRes β) : List (Triple β) := r.2.map (fun po => ⟨r.1, po.1, po.2⟩)

/-- the triples in the order the encoder writes them: grouped by predicate -/
def FlatRes.grouped (r : FlatRes β) : List (Triple β) :=
  r.groups.flatMap (fun g => g.2.map (fun o => ⟨r.1, g.1, o⟩))

omit [DecidableEq β] in
theorem grouped_perm (r : FlatRes β) : r.grouped.Perm r.triples := by
  have h := regroup_perm r.preds r.2 (predicateList_nodup _) (by
    intro po hpo
    exact mem_predicateList.mpr ⟨Stmt.obj po.1 po.2, by simp only [FlatRes.stmts, List.mem_map]; exact ⟨po, hpo, rfl⟩, rfl⟩)
  have h2 := h.map (fun po : List Nat × Term β => (⟨r.1, po.1, po.2⟩ : Triple β))
  simp only [FlatRes.grouped, FlatRes.groups, FlatRes.triples, List.flatMap_map, objsOfPred, List.map_map,
    Function.comp_def, List.map_flatMap] at h2 ⊢
  exact h2

omit [DecidableEq β] in
theorem outFlat_triples (label : β → List Nat) (r : FlatRes β) :
    (outFlat label r).map tripleOfStmt = (r.grouped.map (Triple.map (fun b => BN.lbl (label b)))).map some := by
  simp only [outFlat, FlatRes.grouped, groupOut, List.map_flatMap, List.map_map, Function.comp_def]
  rfl

omit [DecidableEq β] in
/-- `Resource.NewTriples` of a flat resource (Model/Description.lean): no fresh blank node is made -/
theorem newTriples_flat (r : FlatRes β) (n : Nat) :
    r.toResource.newTriples n = (r.triples.map (Triple.map BN.orig), n) := by
  have h : ∀ (pos : List (List Nat × Term β)) (s : Term (BN β)) (n : Nat),
      stmtsNewTriples s (pos.map (fun po => Stmt.obj po.1 po.2)) n =
        (pos.map (fun po => (⟨s, po.1, po.2.map BN.orig⟩ : Triple (BN β))), n) := by
    intro pos s n
    induction pos with
    | nil => simp [stmtsNewTriples]
    | cons po pos ih => simp [stmtsNewTriples, Stmt.newTriples, ih]
  simp only [FlatRes.toResource, Resource.newTriples, FlatRes.stmts, h, FlatRes.triples, List.map_map,
    Function.comp_def, Triple.map]


variable {cfg : Config} {pm : Prefix.PM} {label : β → List Nat}

/-- Nested-resource mode, flat resources: `AddResource` for resources with an explicit subject
    whose statements are ObjectStatements, then `Close` — every configuration. -/
theorem flat_roundtrip (hT : DocTablesOK T) (hC : CfgOK C T) (hcfg : ConfigOK C.isSpace T cfg pm)
    (hlbl : LabelOK T label) (d7 : Bool) (rs : List (FlatRes β))
    (hrs : ∀ r ∈ rs, FlatOK (ctxOf T cfg pm label) cfg.base r) :
    ∃ (doc : List Nat) (rs' : List (FlatRes β)),
      encodeResourceListWith T d7 cfg pm label (rs.map FlatRes.toResource) = OR.ok doc ∧ rs'.Perm rs ∧
      run C .eof (defaultBase cfg) (defaultPrefixes cfg pm) doc = (rs'.flatMap (outFlat label), .clean) := by
  have S := setup_of (label := label) hT hC hcfg hlbl
  have henc : encodeResourceListWith T d7 cfg pm label (rs.map FlatRes.toResource) =
      OR.ok (document cfg pm (rs.map (secFlat (ctxOf T cfg pm label))) (rs.flatMap (usedFlat pm))) := by
    unfold encodeResourceListWith
    rw [bind_mapOR_map_ok (g := fun r => (some (secFlat (ctxOf T cfg pm label) r), usedFlat pm r))
      (fun r hr => resourceSection_flat S d7 r (hrs r hr))]
    simp only [List.filterMap_map, List.flatMap_map, Function.comp_def, List.filterMap_eq_map']
  obtain ⟨rs', hperm, hrun⟩ := doc_generic (C := C) hT hC hcfg rs (secFlat (ctxOf T cfg pm label)) (outFlat label)
    (usedFlat pm)
    (fun env D henv r hr hD K k rest => run_flat S env henv r (hrs r hr) hD K k rest)
  exact ⟨_, rs', henc, hperm, hrun⟩

end Flat

end RdfModel.Proofs.C02Doc
