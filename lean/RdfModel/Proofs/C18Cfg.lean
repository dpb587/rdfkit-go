import RdfModel.Props.C18Defs
import RdfModel.Props.C02DocDefs
import RdfModel.Proofs.C02DocRes
import RdfModel.Proofs.C13PM
namespace RdfModel.Proofs.C18
open RdfModel RdfModel.Pipe RdfModel.BN RdfModel.C18

variable {β : Type}

theorem toTriple_map (σ : β → List Nat) (q : Quad β) :
    toTriple (q.map σ) = (toTriple q).map (Desc.Triple.map σ) := by
  obtain ⟨s, p, o, g⟩ := q
  cases p <;> simp [toTriple, Quad.map, Term.map, Desc.Triple.map]

theorem toTriples_map (σ : β → List Nat) (qs : List (Quad β)) :
    toTriples (qs.map (Quad.map σ)) = (toTriples qs).map (fun ts => ts.map (Desc.Triple.map σ)) := by
  induction qs with
  | nil => rfl
  | cons q rest ih =>
    simp only [List.map_cons, toTriples, ih, toTriple_map]
    cases toTriple q <;> cases toTriples rest <;> simp [consOpt]

/-- the triples of a statement list whose predicates are IRIs, graph names dropped -/
def triplesOf (qs : List (Quad β)) : Option (List (Desc.Triple β)) := toTriples (qs.map quadAsTriple)

theorem toRJ_map (σ : β → List Nat) (q : Quad β) : toRJ (q.map σ) = (toRJ q).map σ := rfl

open TtlEnc in
theorem tripleSection_map (T : Ttl.Tables) (cfg : Config) (pm : Prefix.PM) (σ : β → List Nat) (t : Desc.Triple β) :
    tripleSection (ctxOf T cfg pm id) (t.map σ) = tripleSection (ctxOf T cfg pm σ) t := by
  obtain ⟨s, p, o⟩ := t
  cases s <;> cases o <;> rfl

open TtlEnc in
theorem usedOfTriple_map (pm : Prefix.PM) (σ : β → List Nat) (t : Desc.Triple β) :
    usedOfTriple pm (t.map σ) = usedOfTriple pm t := by
  obtain ⟨s, p, o⟩ := t
  cases s <;> cases o <;> rfl

open TtlEnc in
theorem mapRes_map {α γ δ : Type} (f : γ → Res δ) (g : α → γ) (l : List α) :
    mapRes f (l.map g) = mapRes (fun a => f (g a)) l := by
  induction l with
  | nil => rfl
  | cons a l ih => simp only [List.map_cons, mapRes, ih]

open TtlEnc in
theorem encodePlainWith_map (T : Ttl.Tables) (cfg : Config) (pm : Prefix.PM) (σ : β → List Nat)
    (ts : List (Desc.Triple β)) :
    encodePlainWith T cfg pm id (ts.map (Desc.Triple.map σ)) = encodePlainWith T cfg pm σ ts := by
  simp only [encodePlainWith, mapRes_map, tripleSection_map, List.flatMap_map, usedOfTriple_map]

section Label
variable (T : Ttl.Tables) (cfg : TtlEnc.Config) (pm : Prefix.PM) (l1 l2 : β → List Nat)

theorem subjectOK_label {t : Term β} (h : C02.subjectOK (TtlEnc.ctxOf T cfg pm l1) cfg.base t) :
    C02.subjectOK (TtlEnc.ctxOf T cfg pm l2) cfg.base t := by
  cases t <;> exact h

theorem objectOK_label {t : Term β} (h : C02.objectOK (TtlEnc.ctxOf T cfg pm l1) cfg.base t) :
    C02.objectOK (TtlEnc.ctxOf T cfg pm l2) cfg.base t := by
  cases t with
  | lit lex dt lang => exact ⟨h.1, by cases lang <;> exact h.2⟩
  | _ => exact h

theorem tripleOK_label (t : Desc.Triple β) (h : C02.TripleOK (TtlEnc.ctxOf T cfg pm l1) cfg.base t) :
    C02.TripleOK (TtlEnc.ctxOf T cfg pm l2) cfg.base t :=
  ⟨subjectOK_label T cfg pm l1 l2 h.s, h.p, objectOK_label T cfg pm l1 l2 h.o⟩

theorem flatOK_label (r : Proofs.C02Doc.FlatRes β) (h : Proofs.C02Doc.FlatOK (TtlEnc.ctxOf T cfg pm l1) cfg.base r) :
    Proofs.C02Doc.FlatOK (TtlEnc.ctxOf T cfg pm l2) cfg.base r :=
  ⟨h.ne, subjectOK_label T cfg pm l1 l2 h.s,
    fun po hpo => ⟨(h.po po hpo).1, objectOK_label T cfg pm l1 l2 (h.po po hpo).2⟩⟩

end Label

section Stable

/-- `v` consists of IRI characters and the resolver leaves it alone under `base`: `C02.iriTermOK` then holds in
    every context, whichever form `writeIRI` picks for `v`. -/
def iriStable (base : Option (List Nat)) (v : List Nat) : Bool := C02.iriOK v && C02.stableUnder base v

/-- `C02.subjectOK` (`lit = false`) and `C02.objectOK` (`lit = true`) with `iriStable` for `C02.iriTermOK` -/
def termStable (base : Option (List Nat)) (lit : Bool) : Term β → Bool
  | .iri v => iriStable base v
  | .bnode _ => true
  | .lit lex dt lang => lit && decide (C02.Scalars lex) &&
    match lang with
    | some t => dt == rdfLangString && C02.langOK t
    | none => dt != rdfLangString && dt != rdfDirLangString && iriStable base dt

def tripleStable (base : Option (List Nat)) (t : Desc.Triple β) : Bool :=
  termStable base false t.s && iriStable base t.p && termStable base true t.o

def flatStable (base : Option (List Nat)) (r : Proofs.C02Doc.FlatRes β) : Bool :=
  !r.2.isEmpty && termStable base false r.1 && r.2.all (fun po => iriStable base po.1 && termStable base true po.2)

variable (c : TtlEnc.Ctx β) {base : Option (List Nat)}

theorem iriTermOK_of_stable {v : List Nat} (h : iriStable base v = true) : C02.iriTermOK c base v := by
  simp only [iriStable, Bool.and_eq_true] at h
  exact ⟨h.1, fun _ => h.2⟩

theorem subjectOK_of_stable {t : Term β} (h : termStable base false t = true) : C02.subjectOK c base t := by
  cases t with
  | iri v => exact iriTermOK_of_stable c h
  | bnode b => trivial
  | lit lex dt lang => simp [termStable] at h

theorem objectOK_of_stable {t : Term β} (h : termStable base true t = true) : C02.objectOK c base t := by
  cases t with
  | iri v => exact iriTermOK_of_stable c h
  | bnode b => trivial
  | lit lex dt lang =>
    simp only [termStable, Bool.true_and, Bool.and_eq_true, decide_eq_true_eq] at h
    refine ⟨h.1, ?_⟩
    cases lang with
    | some t => simpa using h.2
    | none =>
      simp only [Bool.and_eq_true, bne_iff_ne, ne_eq] at h
      exact ⟨h.2.1.1, h.2.1.2, iriTermOK_of_stable c h.2.2⟩

theorem tripleOK_of_stable {ts : List (Desc.Triple β)} (h : ts.all (tripleStable base) = true) :
    ∀ t ∈ ts, C02.TripleOK c base t := by
  intro t ht
  have h := List.all_eq_true.mp h t ht
  simp only [tripleStable, Bool.and_eq_true] at h
  exact ⟨subjectOK_of_stable c h.1.1, iriTermOK_of_stable c h.1.2, objectOK_of_stable c h.2⟩

theorem flatOK_of_stable {rs : List (Proofs.C02Doc.FlatRes β)} (h : rs.all (flatStable base) = true) :
    ∀ r ∈ rs, Proofs.C02Doc.FlatOK c base r := by
  intro r hr
  have h := List.all_eq_true.mp h r hr
  simp only [flatStable, Bool.and_eq_true, Bool.not_eq_true', List.isEmpty_eq_false_iff, List.all_eq_true] at h
  exact ⟨h.1.1, subjectOK_of_stable c h.1.2,
    fun po hpo => ⟨iriTermOK_of_stable c (h.2 po hpo).1, objectOK_of_stable c (h.2 po hpo).2⟩⟩

end Stable

/-- what `NewPrefixManager(ms)` holds comes from `ms`, whatever the tie-break of its sort -/
theorem mem_of_mem_new (S : Prefix.Sorter) (ms : List Prefix.Mapping) (m : Prefix.Mapping)
    (h : m ∈ (Prefix.new S ms).ordered) : m ∈ ms := by
  have hg := ((Proofs.C13.new_inv S ms).agree m).mp h
  rw [Prefix.new, Proofs.C13.add_get] at hg
  cases hf : ms.reverse.find? (fun x => x.pfx == m.pfx) with
  | none => simp [hf, Prefix.GoMap.get] at hg
  | some x =>
    simp only [hf, Option.some.injEq] at hg
    have hx : x = m := by
      obtain ⟨xp, xe⟩ := x
      obtain ⟨mp, me⟩ := m
      simp only at hg
      simpa [hg] using List.find?_some hf
    exact List.mem_reverse.mp (hx ▸ List.mem_of_find?_eq_some hf)

theorem configOK_new (isSpace : Nat → Bool) (T : Ttl.Tables) (S : Prefix.Sorter) (cfg : TtlEnc.Config)
    (hp : ∀ m ∈ cfg.prefixes, C02.labelSafe isSpace T m.pfx = true ∧ C02.iriOK m.expanded = true ∧
      C02.stableUnder cfg.base m.expanded = true)
    (hb : ∀ b, cfg.base = some b → C02.baseOK b) :
    C02.ConfigOK isSpace T cfg (Prefix.new S cfg.prefixes) where
  agree := ⟨(Proofs.C13.new_inv S _).nodup, (Proofs.C13.new_inv S _).agree⟩
  labels m hm := (hp m (mem_of_mem_new S _ m hm)).1
  ns m hm := (hp m (mem_of_mem_new S _ m hm)).2
  base := hb
  empty h := by rw [h]; rfl

theorem rj_addTriple_map (σ : β → List Nat) (st : RJ.State) (t : RJ.Triple β) :
    RJ.addTriple id st (t.map σ) = RJ.addTriple σ st t := by
  obtain ⟨s, p, o⟩ := t
  cases s <;> cases p <;> cases o <;> rfl

theorem rjAddAll_eq (σ : β → List Nat) (ts : List (RJ.Triple β))
    (hacc : ∀ st, ∀ t ∈ ts, (RJ.addTriple σ st t).isSome) :
    ∀ st, rjAddAll st (ts.map (RJ.Triple.map σ)) = some (RJ.addAllFrom σ st ts) := by
  induction ts with
  | nil => intro st; rfl
  | cons t rest ih =>
    intro st
    obtain ⟨st', h⟩ := Option.isSome_iff_exists.mp (hacc st t (List.mem_cons_self ..))
    simp only [List.map_cons, rjAddAll, rj_addTriple_map, RJ.addAllFrom, h, Option.getD_some]
    exact ih (fun st t ht => hacc st t (List.mem_cons_of_mem _ ht)) st'

end RdfModel.Proofs.C18
