import RdfModel.Proofs.C12Segs
namespace RdfModel.Proofs.C12
open RdfModel.Spec.RFC3986

/-- conditions 2A–2D of section 5.2.4 -/
def stepAD (inp : Str) : Prop :=
  (∃ t, inp = [cDot, cDot, cSlash] ++ t) ∨ (∃ t, inp = [cDot, cSlash] ++ t) ∨
  (∃ t, inp = [cSlash, cDot, cSlash] ++ t) ∨ inp = [cSlash, cDot] ∨
  (∃ t, inp = [cSlash, cDot, cDot, cSlash] ++ t) ∨ inp = [cSlash, cDot, cDot] ∨
  inp = [cDot] ∨ inp = [cDot, cDot]

theorem rdsStep_E {inp : Str} (h : ¬ stepAD inp) (out : Str) :
    rdsStep inp out = (afterFirstSegment inp, out ++ firstSegment inp) := by
  unfold stepAD at h
  simp only [not_or] at h
  obtain ⟨h1, h2, h3, h4, h5, h6, h7, h8⟩ := h
  have b1 : beginsWith [cDot, cDot, cSlash] inp = false := by
    rw [Bool.eq_false_iff]; intro hb; exact h1 ((beginsWith_iff _ _).mp hb)
  have b2 : beginsWith [cDot, cSlash] inp = false := by
    rw [Bool.eq_false_iff]; intro hb; exact h2 ((beginsWith_iff _ _).mp hb)
  have b3 : beginsWith [cSlash, cDot, cSlash] inp = false := by
    rw [Bool.eq_false_iff]; intro hb; exact h3 ((beginsWith_iff _ _).mp hb)
  have b5 : beginsWith [cSlash, cDot, cDot, cSlash] inp = false := by
    rw [Bool.eq_false_iff]; intro hb; exact h5 ((beginsWith_iff _ _).mp hb)
  unfold rdsStep
  simp [b1, b2, b3, b5, h4, h6, h7, h8]

theorem stepAD_has_dot {inp : Str} (h : stepAD inp) : ¬ NoDotSegments inp := by
  have key : ∀ (a d t : Str), d ∈ segments a → isDotSegment d = true → ¬ NoDotSegments (a ++ cSlash :: t) := by
    intro a d t hd hdot hn
    have := hn d (by rw [segments_append_slash]; exact List.mem_append_left _ hd)
    rw [hdot] at this
    cases this
  rcases h with ⟨t, rfl⟩ | ⟨t, rfl⟩ | ⟨t, rfl⟩ | rfl | ⟨t, rfl⟩ | rfl | rfl | rfl
  · exact key [cDot, cDot] [cDot, cDot] t (by decide) rfl
  · exact key [cDot] [cDot] t (by decide) rfl
  · exact key [cSlash, cDot] [cDot] t (by decide) rfl
  · decide
  · exact key [cSlash, cDot, cDot] [cDot, cDot] t (by decide) rfl
  · decide
  · decide
  · decide

theorem noDot_afterFirstSegment {inp : Str} (h : NoDotSegments inp) : NoDotSegments (afterFirstSegment inp) := by
  rcases afterFirstSegment_shape inp with ha | ⟨t, ha⟩
  · rw [ha]; exact noDot_nil
  · have e := firstSegment_append_after inp
    rw [ha] at e
    rw [ha]
    intro s hs
    rw [segments_cons_slash] at hs
    rcases List.mem_cons.mp hs with hs | hs
    · subst hs; rfl
    · apply h
      rw [← e, segments_append_slash]
      exact List.mem_append_right _ hs

theorem rdsLoop_succ (n : Nat) (inp out : Str) :
    rdsLoop (n + 1) inp out = if inp = [] then out else rdsLoop n (rdsStep inp out).1 (rdsStep inp out).2 := rfl

theorem rdsLoop_noDot : ∀ (n : Nat) (inp out : Str), inp.length < n → NoDotSegments inp →
    rdsLoop n inp out = out ++ inp := by
  intro n
  induction n with
  | zero => intro inp out h; omega
  | succ n ih =>
    intro inp out hl hn
    rw [rdsLoop_succ]
    by_cases he : inp = []
    · simp [he]
    · rw [if_neg he, rdsStep_E (fun h => stepAD_has_dot h hn)]
      rw [ih _ _ (by have := afterFirstSegment_length he; omega) (noDot_afterFirstSegment hn)]
      rw [List.append_assoc, firstSegment_append_after]

theorem rds_noDot_id {p : Str} (h : NoDotSegments p) : removeDotSegments p = p := by
  unfold removeDotSegments
  rw [rdsLoop_noDot _ _ _ (by omega) h]; rfl

/-- loop invariant: the output buffer is dot-free, and while it is non-empty the input buffer is
    empty or starts with "/" -/
def Inv (inp out : Str) : Prop :=
  NoDotSegments out ∧ (out = [] ∨ inp = [] ∨ ∃ t, inp = cSlash :: t)

theorem isDot_cases {s : Str} (h : isDotSegment s = true) : s = [cDot] ∨ s = [cDot, cDot] := by
  unfold isDotSegment at h
  simpa using h

theorem firstSegment_slash (r : Str) : firstSegment (cSlash :: r) = cSlash :: r.takeWhile (· != cSlash) := by
  simp [firstSegment]

theorem firstSegment_ne {c : Nat} (hc : c ≠ cSlash) (r : Str) :
    firstSegment (c :: r) = (c :: r).takeWhile (· != cSlash) := by
  simp [firstSegment, hc]

theorem stepAD_of_dot {d r : Str} (hd : isDotSegment d = true) (hr : r = d ∨ ∃ t, r = d ++ cSlash :: t) :
    stepAD (cSlash :: r) ∧ stepAD r := by
  unfold stepAD
  rcases isDot_cases hd with rfl | rfl <;> rcases hr with rfl | ⟨t, rfl⟩ <;> simp

theorem stepE_noDot {inp out : Str} (hne : inp ≠ []) (hAD : ¬ stepAD inp) (hI : Inv inp out) :
    NoDotSegments (out ++ firstSegment inp) := by
  obtain ⟨hno, hshape⟩ := hI
  cases inp with
  | nil => exact absurd rfl hne
  | cons c r =>
    by_cases hc : c = cSlash
    · subst hc
      rw [firstSegment_slash]
      obtain ⟨s, hs, hse, hr⟩ := split_at_slash r
      rw [← hse]
      intro x hx
      rw [segments_append_slash, segments_noSlash hs] at hx
      rcases List.mem_append.mp hx with hx | hx
      · exact hno x hx
      · rw [List.mem_singleton.mp hx]
        exact Bool.eq_false_iff.mpr fun hd => hAD (stepAD_of_dot hd hr).1
    · have hout : out = [] := by
        rcases hshape with h | h | ⟨t, h⟩
        · exact h
        · exact absurd h hne
        · injection h with h _; exact absurd h hc
      subst hout
      rw [firstSegment_ne hc, List.nil_append]
      obtain ⟨s, hs, hse, hr⟩ := split_at_slash (c :: r)
      rw [← hse]
      intro x hx
      rw [segments_noSlash hs] at hx
      rw [List.mem_singleton.mp hx]
      exact Bool.eq_false_iff.mpr fun hd => hAD (stepAD_of_dot hd hr).2

/-- what a step 2A–2D does: the output buffer stays or loses its last segment; the input buffer gets shorter,
    keeps only bytes it had, and is then empty or absolute unless it was relative before -/
theorem rdsStep_AD {inp : Str} (h : stepAD inp) (out : Str) :
    ((rdsStep inp out).2 = out ∨ (rdsStep inp out).2 = popSegment out) ∧
    (rdsStep inp out).1.length < inp.length ∧ (∀ c ∈ (rdsStep inp out).1, c ∈ inp) ∧
    ((rdsStep inp out).1 = [] ∨ (∃ t, (rdsStep inp out).1 = cSlash :: t) ∨ ∀ t, inp ≠ cSlash :: t) := by
  have hds : cDot ≠ cSlash := by decide
  rcases h with ⟨t, rfl⟩ | ⟨t, rfl⟩ | ⟨t, rfl⟩ | rfl | ⟨t, rfl⟩ | rfl | rfl | rfl <;>
    simp +contextual [rdsStep, beginsWith, hds] <;> omega

theorem rdsStep_length {inp : Str} (hne : inp ≠ []) (out : Str) : (rdsStep inp out).1.length < inp.length := by
  by_cases hAD : stepAD inp
  · exact (rdsStep_AD hAD out).2.1
  · rw [rdsStep_E hAD]
    exact afterFirstSegment_length hne

theorem rdsLoop_fuel : ∀ (n : Nat) (inp out : Str), inp.length ≤ n → rdsLoop (n + 1) inp out = rdsLoop n inp out := by
  intro n
  induction n with
  | zero =>
    intro inp out h
    rw [List.length_eq_zero_iff.mp (Nat.le_zero.mp h)]
    rfl
  | succ n ih =>
    intro inp out h
    by_cases he : inp = []
    · simp [rdsLoop_succ, he]
    · have := rdsStep_length he out
      rw [rdsLoop_succ (n + 1), rdsLoop_succ n inp, if_neg he, if_neg he]
      exact ih _ _ (by omega)

theorem rdsStep_inv {inp out : Str} (hne : inp ≠ []) (hI : Inv inp out) :
    Inv (rdsStep inp out).1 (rdsStep inp out).2 := by
  by_cases hAD : stepAD inp
  · obtain ⟨ho, _, _, hi⟩ := rdsStep_AD hAD out
    refine ⟨ho.elim (fun h => by rw [h]; exact hI.1) fun h => by rw [h]; exact noDot_popSegment hI.1, ?_⟩
    rcases hi with h | h | h
    · exact .inr (.inl h)
    · exact .inr (.inr h)
    · -- a relative input buffer: nothing has been moved to the output buffer yet
      have : out = [] := hI.2.resolve_right fun h' => h'.elim hne fun ⟨t, ht⟩ => h t ht
      rcases ho with h' | h' <;> rw [h', this] <;> exact .inl rfl
  · rw [rdsStep_E hAD]
    refine ⟨stepE_noDot hne hAD hI, ?_⟩
    rcases afterFirstSegment_shape inp with h | ⟨t, h⟩
    · right; left; exact h
    · right; right; exact ⟨t, h⟩

theorem rdsLoop_inv : ∀ (n : Nat) (inp out : Str), inp.length < n → Inv inp out →
    NoDotSegments (rdsLoop n inp out) := by
  intro n
  induction n with
  | zero => intro inp out h; omega
  | succ n ih =>
    intro inp out hl hI
    rw [rdsLoop_succ]
    by_cases he : inp = []
    · rw [if_pos he]; exact hI.1
    · rw [if_neg he]
      have h2 := rdsStep_length he out
      exact ih _ _ (by omega) (rdsStep_inv he hI)

theorem rds_no_dots (p : Str) : NoDotSegments (removeDotSegments p) := by
  unfold removeDotSegments
  exact rdsLoop_inv _ _ _ (by omega) ⟨noDot_nil, Or.inl rfl⟩

theorem rds_idempotent (p : Str) : removeDotSegments (removeDotSegments p) = removeDotSegments p :=
  rds_noDot_id (rds_no_dots p)

theorem popSegment_sub (out : Str) : ∀ c ∈ popSegment out, c ∈ out := fun _ hc =>
  List.mem_reverse.mp ((List.dropWhile_suffix _).subset (List.mem_of_mem_drop (List.mem_reverse.mp hc)))

theorem rdsStep_sub (inp out : Str) :
    (∀ c ∈ (rdsStep inp out).1, c ∈ inp) ∧ (∀ c ∈ (rdsStep inp out).2, c ∈ inp ∨ c ∈ out) := by
  by_cases hAD : stepAD inp
  · obtain ⟨ho, _, hs, _⟩ := rdsStep_AD hAD out
    refine ⟨hs, fun c hc => .inr ?_⟩
    rcases ho with h | h <;> rw [h] at hc
    · exact hc
    · exact popSegment_sub out c hc
  · rw [rdsStep_E hAD]
    have e := firstSegment_append_after inp
    refine ⟨fun c hc => e ▸ List.mem_append_right _ hc, fun c hc => ?_⟩
    rcases List.mem_append.mp hc with h | h
    · exact .inr h
    · exact .inl (e ▸ List.mem_append_left _ h)

theorem rdsLoop_sub : ∀ (n : Nat) (inp out : Str), ∀ c ∈ rdsLoop n inp out, c ∈ inp ∨ c ∈ out := by
  intro n
  induction n with
  | zero => exact fun _ _ c hc => .inr hc
  | succ n ih =>
    intro inp out c hc
    rw [rdsLoop_succ] at hc
    by_cases he : inp = []
    · rw [if_pos he] at hc; exact .inr hc
    · rw [if_neg he] at hc
      obtain ⟨h1, h2⟩ := rdsStep_sub inp out
      rcases ih _ _ c hc with h | h
      · exact .inl (h1 c h)
      · exact h2 c h

theorem rds_sub (p : Str) : ∀ c ∈ removeDotSegments p, c ∈ p :=
  fun c hc => (rdsLoop_sub _ p [] c hc).resolve_right (by simp)

end RdfModel.Proofs.C12
