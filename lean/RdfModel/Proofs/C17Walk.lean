import RdfModel.Proofs.C17Builder
namespace RdfModel.Proofs.C17
open RdfModel RdfModel.Desc RdfModel.C17

section MapOpt
variable {α γ : Type}

theorem mapOpt_cons_some {f : α → Option γ} {a : α} {l : List α} {r : List γ} :
    mapOpt f (a :: l) = some r ↔ ∃ b bs, f a = some b ∧ mapOpt f l = some bs ∧ r = b :: bs := by
  simp only [mapOpt]
  cases f a <;> cases mapOpt f l <;> simp [eq_comm]

theorem mapOpt_nil {f : α → Option γ} : mapOpt f [] = some [] := rfl

theorem mapOpt_congr_some {f g : α → Option γ} {l : List α} {r : List γ}
    (h : ∀ a ∈ l, ∀ b, f a = some b → g a = some b) (hf : mapOpt f l = some r) : mapOpt g l = some r := by
  induction l generalizing r with
  | nil => simpa [mapOpt_nil] using hf
  | cons a l ih =>
    obtain ⟨b, bs, hb, hbs, rfl⟩ := mapOpt_cons_some.1 hf
    exact mapOpt_cons_some.2 ⟨b, bs, h a (by simp) b hb, ih (fun a' ha' => h a' (by simp [ha'])) hbs, rfl⟩

theorem mapOpt_isSome_iff {f : α → Option γ} {l : List α} :
    (mapOpt f l).isSome ↔ ∀ a ∈ l, (f a).isSome := by
  induction l with
  | nil => simp [mapOpt]
  | cons a l ih =>
    rw [List.forall_mem_cons, ← ih, mapOpt]
    cases f a <;> cases mapOpt f l <;> simp

theorem mapOpt_isSome {f : α → Option γ} {l : List α} (h : ∀ a ∈ l, (f a).isSome) :
    (mapOpt f l).isSome := mapOpt_isSome_iff.2 h

theorem mapOpt_none_of_mem {f : α → Option γ} {l : List α} {a : α} (ha : a ∈ l) (hf : f a = none) :
    mapOpt f l = none := by
  cases h : mapOpt f l with
  | none => rfl
  | some r => simpa [hf] using (mapOpt_isSome_iff (f := f)).1 (by simp [h]) a ha

theorem mapOpt_some_mem {f : α → Option γ} {l : List α} {r : List γ} (hf : mapOpt f l = some r)
    {a : α} (ha : a ∈ l) : ∃ b, f a = some b :=
  Option.isSome_iff_exists.1 (mapOpt_isSome_iff.1 (by simp [hf]) a ha)

theorem mapOpt_length {f : α → Option γ} {l : List α} {r : List γ} (h : mapOpt f l = some r) :
    r.length = l.length := by
  induction l generalizing r with
  | nil => cases h; rfl
  | cons a l ih =>
    obtain ⟨b, bs, _, hbs, rfl⟩ := mapOpt_cons_some.1 h
    simp [ih hbs]

end MapOpt

variable {β : Type} [DecidableEq β]

/-- the triple a statement of subject `y` stands for -/
def tr (y : Term β) (po : PO β) : Triple β := ⟨y, po.1, po.2⟩

/-- one statement of ExportResourceStatements at depth budget `k` -/
def expStmt (B : Builder β) (opts : Opts) (k : Nat) (po : PO β) : Option (Stmt β) :=
  if B.isInl opts po.2 then (B.exportStatements opts k po.2).map (Stmt.anon po.1)
  else some (Stmt.obj po.1 po.2)

theorem exportStatements_succ (B : Builder β) (opts : Opts) (k : Nat) (s : Term β) :
    B.exportStatements opts (k + 1) s = mapOpt (expStmt B opts k) (B.stmts s) := rfl

theorem exportStatements_zero (B : Builder β) (opts : Opts) (s : Term β) :
    B.exportStatements opts 0 s = none := rfl

/-- Name-reusing closure: the triples below subject `y`, nested descriptions first, link triple after
    (the order `AnonResourceStatement.NewTriples` produces), with the *original* blank nodes. A statement about the
    model's fuel in its own right (`cw_mono_le`: more fuel, same closure); the flattening theorems do not build on it,
    they read the same list off `Describes` (its index `W`). -/
def cw (B : Builder β) (opts : Opts) : Nat → Term β → Option (List (Triple β))
  | 0, _ => none
  | k + 1, y =>
    (mapOpt (fun (po : PO β) =>
      if B.isInl opts po.2 then (cw B opts k po.2).map (fun w => w ++ [tr y po])
      else some [tr y po]) (B.stmts y)).map List.flatten

def cwStmt (B : Builder β) (opts : Opts) (k : Nat) (y : Term β) (po : PO β) : Option (List (Triple β)) :=
  if B.isInl opts po.2 then (cw B opts k po.2).map (fun w => w ++ [tr y po]) else some [tr y po]

theorem cw_succ (B : Builder β) (opts : Opts) (k : Nat) (y : Term β) :
    cw B opts (k + 1) y = (mapOpt (cwStmt B opts k y) (B.stmts y)).map List.flatten := rfl

theorem isInl_bnode {B : Builder β} {opts : Opts} {x : Term β} (h : B.isInl opts x = true) :
    ∃ b, x = Term.bnode b := by
  cases x with
  | bnode b => exact ⟨b, rfl⟩
  | iri v => simp [Builder.isInl] at h
  | lit l d t => simp [Builder.isInl] at h

omit [DecidableEq β] in
theorem nodup_map_bnode {l : List β} : (l.map Term.bnode).Nodup ↔ l.Nodup := by
  unfold List.Nodup
  rw [List.pairwise_map]
  exact ⟨fun h => h.imp fun hne e => hne (by rw [e]), fun h => h.imp fun hne e => hne (by simpa using e)⟩

omit [DecidableEq β] in
theorem split_alloc {σ : β → BN β} {al₁ al₂ : List β} {n : Nat}
    (h : (al₁ ++ al₂).map σ = (List.range' n (al₁ ++ al₂).length).map BN.fresh) :
    al₁.map σ = (List.range' n al₁.length).map BN.fresh ∧
      al₂.map σ = (List.range' (n + al₁.length) al₂.length).map BN.fresh := by
  have e : List.range' n (al₁ ++ al₂).length =
      List.range' n al₁.length ++ List.range' (n + al₁.length) al₂.length := by
    rw [List.length_append, ← List.range'_append]; simp
  rw [e, List.map_append, List.map_append] at h
  exact List.append_inj h (by simp)

omit [DecidableEq β] in
theorem cons_alloc {σ : β → BN β} {b : β} {al : List β} {n : Nat}
    (h : (b :: al).map σ = (List.range' n (b :: al).length).map BN.fresh) :
    σ b = BN.fresh n ∧ al.map σ = (List.range' (n + 1) al.length).map BN.fresh := by
  simpa [List.range'_succ] using h

omit [DecidableEq β] in
theorem stmtsNewTriples_nil (x : Term (BN β)) (n : Nat) : stmtsNewTriples x ([] : List (Stmt β)) n = ([], n) := by
  simp [stmtsNewTriples]

omit [DecidableEq β] in
theorem stmtsNewTriples_cons (x : Term (BN β)) (st : Stmt β) (l : List (Stmt β)) (n : Nat) :
    stmtsNewTriples x (st :: l) n =
      ((Stmt.newTriples x st n).1 ++ (stmtsNewTriples x l (Stmt.newTriples x st n).2).1,
       (stmtsNewTriples x l (Stmt.newTriples x st n).2).2) := by
  simp [stmtsNewTriples]

omit [DecidableEq β] in
theorem newTriples_obj (x : Term (BN β)) (p : List Nat) (o : Term β) (n : Nat) :
    Stmt.newTriples x (Stmt.obj p o) n = ([⟨x, p, o.map BN.orig⟩], n) := by
  simp [Stmt.newTriples]

omit [DecidableEq β] in
theorem newTriples_anon (x : Term (BN β)) (p : List Nat) (l : List (Stmt β)) (n : Nat) :
    Stmt.newTriples x (Stmt.anon p l) n =
      ((stmtsNewTriples (Term.bnode (BN.fresh n)) l (n + 1)).1 ++ [⟨x, p, Term.bnode (BN.fresh n)⟩],
       (stmtsNewTriples (Term.bnode (BN.fresh n)) l (n + 1)).2) := by
  simp [Stmt.newTriples]

omit [DecidableEq β] in
/-- The collection triples for `v :: vs` with cells `fresh k, fresh (k+1), …` in the order the Go code
    emits them: a cell's rdf:first, then the rest of the list, then the cell's rdf:rest link. -/
def listTriples : Nat → Term β → List (Term β) → List (Triple (BN β))
  | k, v, [] =>
    [⟨Term.bnode (BN.fresh k), rdfFirst, v.map BN.orig⟩, ⟨Term.bnode (BN.fresh k), rdfRest, Term.iri rdfNil⟩]
  | k, v, w :: ws =>
    ⟨Term.bnode (BN.fresh k), rdfFirst, v.map BN.orig⟩ ::
      (listTriples (k + 1) w ws ++ [⟨Term.bnode (BN.fresh k), rdfRest, Term.bnode (BN.fresh (k + 1))⟩])

omit [DecidableEq β] in
theorem listCells_flatten : ∀ (vs : List (Term β)) (v : Term β) (k : Nat),
    stmtsNewTriples (Term.bnode (BN.fresh k)) (listCells v vs) (k + 1) =
      (listTriples k v vs, k + 1 + vs.length) := by
  intro vs
  induction vs with
  | nil =>
    intro v k
    simp [listCells, listCell, stmtsNewTriples_cons, stmtsNewTriples_nil, newTriples_obj, listTriples, Term.map]
  | cons w ws ih =>
    intro v k
    simp only [listCells, listCell, stmtsNewTriples_cons, stmtsNewTriples_nil, newTriples_obj, newTriples_anon,
      ih w (k + 1), listTriples, List.length_cons, List.append_nil, List.cons_append, List.nil_append]
    refine Prod.ext rfl ?_
    simp only
    omega

def own (B : Builder β) (y : Term β) : List (Triple β) := (B.stmts y).map (tr y)

def ownB (B : Builder β) (b : β) : List (Triple β) := own B (Term.bnode b)

def bn? : Term β → Option β
  | .bnode b => some b
  | _ => none

def bobjs (W : List (Triple β)) : List β := (W.map (·.o)).filterMap bn?

omit [DecidableEq β] in
theorem bobjs_append (W₁ W₂ : List (Triple β)) : bobjs (W₁ ++ W₂) = bobjs W₁ ++ bobjs W₂ := by
  simp [bobjs, List.filterMap_append]

omit [DecidableEq β] in
theorem bobjs_nil : bobjs ([] : List (Triple β)) = [] := rfl

omit [DecidableEq β] in
theorem bobjs_perm {W T : List (Triple β)} (h : W.Perm T) : (bobjs W).Perm (bobjs T) :=
  (h.map _).filterMap _

theorem count_bobjs (T : List (Triple β)) (b : β) : (bobjs T).count b = refs T b := by
  unfold bobjs refs
  rw [List.count_eq_countP, List.countP_filterMap, List.countP_map]
  apply List.countP_congr
  intro t _
  cases h : t.o <;> simp [bn?, h]

omit [DecidableEq β] in
theorem term_map_congr (o : Term β) (σ τ : β → BN β) (h : ∀ b, o = Term.bnode b → σ b = τ b) :
    o.map σ = o.map τ := by
  cases o with
  | bnode b => simp [Term.map, h b rfl]
  | iri v => rfl
  | lit l d t => rfl

/-- `L` describes the statements `l` of subject `y`: an object is named, or replaced by the description of its
    own statements. `W` is what `L` flattens to when every anonymous resource keeps the blank node it was made
    from, `al` those nodes in allocation order, `nm` the blank nodes referenced by name. -/
inductive Describes (B : Builder β) :
    Term β → List (PO β) → List (Stmt β) → List (Triple β) → List β → List β → Prop
  | nil {y} : Describes B y [] [] [] [] []
  | obj {y po rest L W al nm} : Describes B y rest L W al nm →
      Describes B y (po :: rest) (Stmt.obj po.1 po.2 :: L) (tr y po :: W) al ((bn? po.2).toList ++ nm)
  | anon {y p b rest Lb Wb alb nmb L W al nm} :
      Describes B (Term.bnode b) (B.stmts (Term.bnode b)) Lb Wb alb nmb → Describes B y rest L W al nm →
      Describes B y ((p, Term.bnode b) :: rest) (Stmt.anon p Lb :: L) (Wb ++ tr y (p, Term.bnode b) :: W)
        (b :: (alb ++ al)) (nmb ++ nm)

section
variable {B : Builder β} {y : Term β} {l : List (PO β)} {L : List (Stmt β)} {W : List (Triple β)} {al nm : List β}

theorem Describes.count (h : Describes B y l L W al nm) (x : Term (BN β)) (n : Nat) :
    (stmtsNewTriples x L n).2 = n + al.length := by
  induction h generalizing x n with
  | nil => simp [stmtsNewTriples_nil]
  | obj _ ih => rw [stmtsNewTriples_cons, newTriples_obj]; exact ih x n
  | anon _ _ ihb ih =>
    rw [stmtsNewTriples_cons, newTriples_anon]
    simp only [ihb, ih, List.length_cons, List.length_append]
    omega

/-- the real flattening is the image of `W` under every renaming that sends `y` to the subject in use, the
    allocated nodes to their fresh nodes and the named nodes to themselves -/
theorem Describes.image (h : Describes B y l L W al nm) (x : Term (BN β)) (n : Nat) (σ : β → BN β)
    (hy : y.map σ = x) (hal : al.map σ = (List.range' n al.length).map BN.fresh)
    (hnm : ∀ b ∈ nm, σ b = BN.orig b) : (stmtsNewTriples x L n).1 = W.map (Triple.map σ) := by
  induction h generalizing x n with
  | nil => simp [stmtsNewTriples_nil]
  | @obj y po _ _ _ _ _ _ ih =>
    rw [stmtsNewTriples_cons, newTriples_obj, ih x n hy hal fun c hc => hnm c (by simp [hc])]
    simp only [List.map_cons, List.cons_append, List.nil_append, List.cons.injEq, and_true, tr, Triple.map, hy]
    congr 1
    exact (term_map_congr _ σ BN.orig fun b' hb' => hnm b' (by simp [hb', bn?])).symm
  | @anon y p b _ _ _ alb _ _ _ _ _ hb _ ihb ih =>
    obtain ⟨hσb, hal2⟩ := cons_alloc hal
    obtain ⟨halb, hal'⟩ := split_alloc hal2
    rw [stmtsNewTriples_cons, newTriples_anon, hb.count,
      ihb _ (n + 1) (by simp [Term.map, hσb]) halb fun c hc => hnm c (by simp [hc]),
      ih x (n + 1 + alb.length) hy hal' fun c hc => hnm c (by simp [hc])]
    simp [tr, Triple.map, ← hy, Term.map, hσb]

/-- `W` consists of the statements described and of all statements of the nodes inlined on the way -/
theorem Describes.perm (h : Describes B y l L W al nm) : W.Perm (l.map (tr y) ++ al.flatMap (ownB B)) := by
  induction h with
  | nil => simp
  | obj _ ih => exact ih.cons _
  | anon _ _ ihb ih =>
    rw [List.perm_iff_count]
    intro a
    have c1 := ihb.count_eq a
    have c2 := ih.count_eq a
    simp only [List.map_cons, List.flatMap_cons, List.flatMap_append, ownB, own, List.count_append,
      List.count_cons] at c1 c2 ⊢
    omega

theorem Describes.objs (h : Describes B y l L W al nm) : (bobjs W).Perm (al ++ nm) := by
  induction h with
  | nil => simp [bobjs_nil]
  | @obj y po _ _ W _ _ _ ih =>
    have : bobjs (tr y po :: W) = (bn? po.2).toList ++ bobjs W := by
      simp only [bobjs, List.map_cons, tr]
      cases h2 : bn? po.2 <;> simp [h2]
    rw [this]
    refine (ih.append_left _).trans ?_
    rw [← List.append_assoc, ← List.append_assoc]
    exact List.perm_append_comm.append_right _
  | @anon y p b _ _ Wb _ _ _ W _ _ _ _ ihb ih =>
    have e : bobjs (Wb ++ tr y (p, Term.bnode b) :: W) = bobjs Wb ++ b :: bobjs W := by
      rw [bobjs_append]; simp [bobjs, tr, bn?]
    rw [e, List.perm_iff_count]
    intro a
    have c1 := ihb.count_eq a
    have c2 := ih.count_eq a
    simp only [List.count_append, List.count_cons] at c1 c2 ⊢
    omega

end

/-- The export without the `inlined` set (`exportStatements`) builds a description; what it inlines is exactly what `isInl` says. -/
theorem describes_export (B : Builder β) (opts : Opts) :
    ∀ k y L, B.exportStatements opts k y = some L →
      ∃ W al nm, Describes B y (B.stmts y) L W al nm ∧
        (∀ b ∈ al, B.isInl opts (Term.bnode b) = true) ∧ ∀ b ∈ nm, B.isInl opts (Term.bnode b) = false := by
  intro k
  induction k with
  | zero => intro y L h; simp [exportStatements_zero] at h
  | succ k ih =>
    intro y L h
    rw [exportStatements_succ] at h
    generalize B.stmts y = l at h ⊢
    induction l generalizing L with
    | nil => cases h; exact ⟨_, _, _, .nil, nofun, nofun⟩
    | cons po rest ihl =>
      obtain ⟨st, L', hst, hL', rfl⟩ := mapOpt_cons_some.1 h
      obtain ⟨W', al', nm', g', ha', hn'⟩ := ihl L' hL'
      by_cases hin : B.isInl opts po.2 = true
      · obtain ⟨p, o⟩ := po
        obtain ⟨b, rfl⟩ := isInl_bnode hin
        simp only [expStmt, hin, if_true, Option.map_eq_some_iff] at hst
        obtain ⟨Lb, hLb, rfl⟩ := hst
        obtain ⟨Wb, alb, nmb, gb, hab, hnb⟩ := ih _ Lb hLb
        exact ⟨_, _, _, .anon gb g', List.forall_mem_cons.2 ⟨hin, List.forall_mem_append.2 ⟨hab, ha'⟩⟩,
          List.forall_mem_append.2 ⟨hnb, hn'⟩⟩
      · have hin' : B.isInl opts po.2 = false := by simpa using hin
        simp only [expStmt, hin', Bool.false_eq_true, if_false, Option.some.injEq] at hst
        subst hst
        refine ⟨_, _, _, .obj g', ha', List.forall_mem_append.2 ⟨fun b hb => ?_, hn'⟩⟩
        have hb' : po.2 = Term.bnode b := by cases h2 : po.2 <;> simp_all [bn?]
        exact hb' ▸ hin'

end RdfModel.Proofs.C17
