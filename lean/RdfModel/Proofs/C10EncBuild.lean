/-
  For the tagged statements `l : List (TStmt β)` of an exported resource: the `graphProperties` map that
  `buildResource` fills from the untagged statements (`buildStmts E label (untags l)`) is related (`GR`) to
  the groups of the expected tree (`groupByKey (stmtTrees E l)`), nested AnonResources included.
-/
import RdfModel.Proofs.C10EncTree
import RdfModel.Proofs.C17Builder
namespace RdfModel.Proofs.C10
open RdfModel RdfModel.Desc RdfModel.JL RdfModel.JLEnc RdfModel.C10

variable {β : Type}

mutual
def untag : TStmt β → Stmt β
  | .obj p o => .obj p o
  | .anon _ p l => .anon p (untags l)
def untags : List (TStmt β) → List (Stmt β)
  | [] => []
  | x :: xs => untag x :: untags xs
end

mutual
/-- the (predicate, object) pairs of the builder a tagged statement was made from -/
def tpos : TStmt β → List (PO β)
  | .obj p o => [(p, o)]
  | .anon b p l => (p, .bnode b) :: tposL l
def tposL : List (TStmt β) → List (PO β)
  | [] => []
  | x :: xs => tpos x ++ tposL xs
end

def pfxOf (E : Enc) (v : Str) : List Str :=
  match compactPrefix E v with
  | some (q, _) => [q]
  | none => []

theorem vocab_pfx (E : Enc) (v : Str) : (compactVocabIRI E v).2 = pfxOf E v := by
  unfold compactVocabIRI pfxOf
  cases compactPrefix E v with
  | none => rfl
  | some pr => obtain ⟨p, r⟩ := pr; simp only []; split <;> rfl

theorem doc_pfx (E : Enc) (v : Str) : (compactDocumentIRI E v).2 = pfxOf E v := by
  unfold compactDocumentIRI pfxOf
  -- every branch of `compactDocumentIRI` (compact form or not, base, `relativizeB`, the test on the
  -- reference) returns the same second component; the `split`s only reach the leaves
  cases compactPrefix E v with
  | none => simp only []; split <;> (try split) <;> (try split) <;> rfl
  | some pr => obtain ⟨p, r⟩ := pr; simp only []; split <;> (try split) <;> (try split) <;> (try split) <;> rfl

mutual
theorem buildStmt_frame (E : Enc) (label : β → Str) : ∀ (st : Stmt β) (used : List Str),
    buildStmt E label st used =
      ((buildStmt E label st []).1, (buildStmt E label st []).2.1, used ++ (buildStmt E label st []).2.2)
  | .obj p (.iri v), used => by
    simp only [buildStmt]
    split <;> simp [List.append_assoc]
  | .obj p (.bnode b), used => by simp [buildStmt]
  | .obj p (.lit lex dt lang), used => by simp [buildStmt, List.append_assoc]
  | .anon p l, used => by
    simp only [buildStmt]
    rw [buildStmts_frame E label l [] used]
    simp [List.append_assoc]
theorem buildStmts_frame (E : Enc) (label : β → Str) : ∀ (l : List (Stmt β)) (props : List (Str × List Json)) (used : List Str),
    buildStmts E label l props used =
      ((buildStmts E label l props []).1, used ++ (buildStmts E label l props []).2)
  | [], props, used => by simp [buildStmts]
  | st :: rest, props, used => by
    simp only [buildStmts]
    rw [buildStmt_frame E label st used, buildStmts_frame E label rest _ (used ++ _),
      buildStmts_frame E label rest _ ((buildStmt E label st []).2.2)]
    simp [List.append_assoc]
end

/-- what is known about an IRI of the dataset before it is known which prefixes are used: `IriOK` without
    `usedIn`, which `iriOK_of` adds once the prefix of the IRI is known to be among `used` -/
structure IriG (E : Enc) (used names : List Str) (v : Str) : Prop where
  abs : absIri v = true
  free : schemeFree names v = true
  compact : compactOK E v = true
  name : ∀ p r, compactPrefix E v = some (p, r) → p ∈ used → pfxNameOK p = true

theorem iriOK_of {E : Enc} {used names : List Str} {v : Str} (h : IriG E used names v)
    (hu : ∀ q ∈ pfxOf E v, q ∈ used) : IriOK E used names v :=
  ⟨h.abs, h.free, h.compact, fun p r e => hu p (by simp [pfxOf, e]), h.name⟩

structure POk (E : Enc) (used names : List Str) (bs : Option Str) (po : PO β) : Prop where
  pred : IriG E used names po.1
  wf : wfObj po.2 = true
  iri : ∀ v, po.2 = .iri v → IriG E used names v ∧ ∀ b, bs = some b → relOK E names b v = true
  lit : ∀ lex dt lang, po.2 = .lit lex dt lang →
    (dt == xsdInteger || dt == xsdDouble || dt == xsdBoolean) = false ∧ IriG E used names dt

theorem keyOK_not_special {c : Ctx} {k p : Str} (h : KeyOK c k p) :
    k ≠ kValue ∧ k ≠ kList ∧ k ≠ kSet ∧ k ≠ kContext ∧ k ≠ kId ∧ k ≠ kGraph := by
  have hf : isKeywordForm kValue = true ∧ isKeywordForm kList = true ∧ isKeywordForm kSet = true := by decide +kernel
  -- `hf` with its constants unfolded, as they stand in `h` after the `simp` below
  simp only [asc_consts] at hf
  -- for each of the six constants `classifyKey` answers before it looks at the context
  refine ⟨?_, ?_, ?_, ?_, ?_, ?_⟩ <;> rintro rfl <;> simp [KeyOK, classifyKey, hf, asc_consts] at h

theorem propMembers_keys {label : β → Str} {c : Ctx} {props : List (Str × List Json)}
    {groups : List (Str × Str × List (Tree β))} (h : GR label c props groups) :
    (propMembers props).map (·.1) = props.map (·.1) ∧
      ∀ k ∈ props.map (·.1), k ≠ kValue ∧ k ≠ kList ∧ k ≠ kSet ∧ k ≠ kContext ∧ k ≠ kId ∧ k ≠ kGraph := by
  induction h with
  | nil => exact ⟨rfl, by intro k hk; cases hk⟩
  | @cons pj gr props' groups' hg _ ih =>
    obtain ⟨pk, pvs⟩ := pj
    obtain ⟨h1, h2, h3, h4⟩ := hg
    simp only at h1 h3
    constructor
    · cases pvs with
      | nil => exact absurd rfl h3
      | cons v vs => rw [propMembers_cons, List.map_cons, List.map_cons, ih.1]
    · intro k hk
      simp only [List.map_cons, List.mem_cons] at hk
      rcases hk with rfl | hk
      · rw [h1]; exact keyOK_not_special h2
      · exact ih.2 k hk

theorem evalItem_node (c : Ctx) (td : TermDef) (g : Option T) (s : T) (p : Str) (ms : List (Str × Json)) (n : Nat)
    (hk : ∀ k ∈ ms.map (·.1), k ≠ kValue ∧ k ≠ kList ∧ k ≠ kSet ∧ k ≠ kContext ∧ k ≠ kId ∧ k ≠ kGraph) :
    evalItem c td g s p (.obj ms) n =
      andThen (evalMembers c g (.bnode (.fresh n)) false ms (n + 1)) (fun n1 => some ([quad s p (.bnode (.fresh n)) g], n1)) := by
  have hhead : nodeHead c false ms n = some (c, .bnode (.fresh n), n + 1, false) := by
    simp [nodeHead, getKey_none_of_not_mem fun h => (hk _ h).2.2.2.1 rfl,
      getKey_none_of_not_mem fun h => (hk _ h).2.2.2.2.1 rfl, evalId]
  -- by the clause of `evalItem` that applies (numbering: Proofs/C10Flat): no member or several (`eq_5`),
  -- one member whose value is an array (`eq_3`) or not (`eq_4`)
  cases ms with
  | nil =>
    rw [evalItem.eq_5 _ _ _ _ _ _ _ (by intro k xs e; cases e) (by intro k x e; cases e)]
    simp only [hasKey, List.any_nil, Bool.false_eq_true, if_false, hhead]
  | cons m rest =>
    cases rest with
    | nil =>
      obtain ⟨k, x⟩ := m
      obtain ⟨h1, h2, h3, _, _, _⟩ := hk k (by simp)
      by_cases hx : ∃ xs, x = .arr xs
      · obtain ⟨xs, rfl⟩ := hx
        rw [evalItem.eq_3, if_neg h1, if_neg h2, if_neg h3, hhead]
      · rw [evalItem.eq_4 _ _ _ _ _ _ _ _ (by intro xs e; exact hx ⟨xs, e⟩), if_neg h1, if_neg h2, if_neg h3, hhead]
    | cons m2 rest2 =>
      rw [evalItem.eq_5 _ _ _ _ _ _ _ (by intro k xs e; cases e) (by intro k x e; cases e)]
      rw [hasKey_false_of_not_mem fun h => (hk _ h).1 rfl, hasKey_false_of_not_mem fun h => (hk _ h).2.1 rfl,
        hasKey_false_of_not_mem fun h => (hk _ h).2.2.1 rfl]
      simp only [Bool.false_eq_true, if_false, hhead]

theorem wfList_of_F2 {label : β → Str} {c : Ctx} {k p : Str} {js : List Json} {ts : List (Tree β)}
    (h : F2 (ValRel label c k p) js ts) : wfList js = true := by
  induction h with
  | nil => rfl
  | cons h1 _ ih => simp [wfList, h1.1, ih]

theorem wfMembers_props {label : β → Str} {c : Ctx} {props : List (Str × List Json)}
    {groups : List (Str × Str × List (Tree β))} (h : GR label c props groups) :
    wfMembers (propMembers props) = true := by
  induction h with
  | nil => rfl
  | @cons pj gr props' groups' hg _ ih =>
    obtain ⟨pk, pvs⟩ := pj
    obtain ⟨h1, h2, h3, h4⟩ := hg
    simp only at h3 h4
    have hw := wfList_of_F2 h4
    cases pvs with
    | nil => exact absurd rfl h3
    | cons v vs =>
      rw [propMembers_cons, wfMembers, ih, Bool.and_true]
      split
      · simp only [wfList, Bool.and_eq_true] at hw
        exact hw.1
      · exact hw

theorem obj_props_wf {label : β → Str} {c : Ctx} {props : List (Str × List Json)}
    {groups : List (Str × Str × List (Tree β))} (h : GR label c props groups) (hn : (props.map (·.1)).Nodup) :
    (Json.obj (propMembers props)).wf = true := by
  simp only [Json.wf, (propMembers_keys h).1, wfMembers_props h, Bool.and_true, decide_eq_true_eq]
  exact hn

section Induction
variable (E : Enc) (label : β → Str) (c : Ctx) (U names : List Str) (bs : Option Str)

def gstep (acc : List (Str × Str × List (Tree β))) (e : Str × Str × Tree β) : List (Str × Str × List (Tree β)) :=
  alUpd (e.2.1, []) (fun x => (x.1, x.2 ++ [e.2.2])) acc e.1

section
-- the statement binds `[DecidableEq β]` though nothing in it asks for the instance
variable [DecidableEq β]
set_option linter.unusedSectionVars false
theorem groupByKey_eq (kps : List (Str × Str × Tree β)) : groupByKey kps = kps.foldl gstep [] := rfl
end

/-- The induction's claim for one tagged statement: if the prefixes it marks are among `U` and its pairs
    satisfy `POk`, then member name and value are those of `stmtTree` and the value evaluates to the
    tree's denotation. `buildStmt` is taken at the used list `[]`: by `buildStmt_frame` any other list
    is only a prefix of the result, so the claim at `[]` covers every call. -/
def PS (x : TStmt β) : Prop :=
  (∀ q ∈ (buildStmt E label (untag x) []).2.2, q ∈ U) → (∀ po ∈ tpos x, POk E U names bs po) →
    (buildStmt E label (untag x) []).1 = (stmtTree E x).1 ∧
    KeyOK c (stmtTree E x).1 (stmtTree E x).2.1 ∧
    ValRel label c (stmtTree E x).1 (stmtTree E x).2.1 (buildStmt E label (untag x) []).2.1 (stmtTree E x).2.2

/-- The claim for a statement list, for every property map `props` built so far: the member names stay
    distinct (first conjunct; `obj_props_wf` needs it at every nested object, so it is carried through
    the same induction), and a map related to `groups` by `GR` stays related after the statements are
    filed. At the used list `[]`, as in `PS`. -/
def PL (l : List (TStmt β)) : Prop :=
  (∀ props, (props.map (·.1)).Nodup → ((buildStmts E label (untags l) props []).1.map (·.1)).Nodup) ∧
  (∀ props groups, (∀ q ∈ (buildStmts E label (untags l) props []).2, q ∈ U) →
    (∀ po ∈ tposL l, POk E U names bs po) → GR label c props groups →
    GR label c (buildStmts E label (untags l) props []).1 ((stmtTrees E l).foldl gstep groups))

end Induction

section Steps
variable {E : Enc} {label : β → Str} {c : Ctx} {U names : List Str} {bs : Option Str}

theorem literalValue_shape (E : Enc) (lex dt : Str) (lang : Option Str)
    (hnn : (dt == xsdInteger || dt == xsdDouble || dt == xsdBoolean) = false) :
    (literalValue E lex dt lang).1.wf = true ∧ notArr (literalValue E lex dt lang).1 ∧
      (literalValue E lex dt lang).2 = (if dt = xsdString then [] else pfxOf E dt) := by
  simp only [Bool.or_eq_false_iff, beq_eq_false_iff_ne] at hnn
  obtain ⟨⟨h1, h2⟩, h3⟩ := hnn
  unfold literalValue
  by_cases hs : dt = xsdString
  · simp only [hs, if_true]
    exact ⟨rfl, (fun xs e => by cases e), trivial⟩
  · simp only [hs, if_false, h1, h2, h3, Bool.false_and, Bool.or_self, Bool.false_eq_true, decide_false]
    split
    · exact ⟨by simp +decide [Json.wf, wfMembers], (fun xs e => by cases e), vocab_pfx E dt⟩
    · exact ⟨by simp +decide [Json.wf, wfMembers], (fun xs e => by cases e), vocab_pfx E dt⟩

theorem keyOK_vocab (hc : GoodCtx E bs U names c) {p : Str} (h : IriOK E U names p) :
    (compactVocabIRI E p).1 ≠ kType ∧ KeyOK c (compactVocabIRI E p).1 p := by
  have hkne := ne_of_head kw_head.2.2.1 (vocabForm hc h).1
  exact ⟨hkne, by unfold KeyOK; rw [if_neg hkne]; exact classifyKey_vocab hc h⟩

theorem valRel_vocab (label : β → Str) (hc : GoodCtx E bs U names c) {p : Str} (hp : IriOK E U names p)
    {j : Json} {t : Tree β} (hw : j.wf = true) (hna : notArr j)
    (hev : ∀ g s n, evalItem c TermDef.plain g s p j n = some (denVal label g s p t n)) :
    KeyOK c (compactVocabIRI E p).1 p ∧ ValRel label c (compactVocabIRI E p).1 p j t := by
  obtain ⟨hkne, hkey⟩ := keyOK_vocab hc hp
  refine ⟨hkey, hw, ?_⟩
  rw [if_neg hkne]
  exact ⟨hna, hev⟩

theorem PS_obj (hc : GoodCtx E bs U names c) (hbase : bs.isSome = E.base.isSome) (hne : ∀ b, label b ≠ [])
    (p : Str) (o : Term β) : PS E label c U names bs (.obj p o) := by
  intro hU hpo
  have hP := hpo (p, o) (by simp [tpos])
  cases o with
  | iri v =>
    obtain ⟨hvG, hvrel⟩ := hP.iri v rfl
    by_cases hp : p = rdfType
    · subst hp
      simp only [untag, buildStmt, ↓reduceIte, stmtTree, encKey] at hU ⊢
      have hv : IriOK E U names v := iriOK_of hvG (fun q hq => hU q (by simp [vocab_pfx, hq]))
      refine ⟨trivial, by simp [KeyOK], rfl, ?_⟩
      rw [if_pos rfl]
      exact ⟨_, v, rfl, rfl, by rw [(vocabForm hc hv).2.2 true true]; simp [nodeRef, hvG.abs]⟩
    · simp only [untag, buildStmt, hp, ↓reduceIte, stmtTree, encKey] at hU ⊢
      have hv : IriOK E U names v := iriOK_of hvG (fun q hq => hU q (by simp [doc_pfx, hq]))
      exact ⟨trivial, valRel_vocab label hc (iriOK_of hP.pred (fun q hq => hU q (by simp [vocab_pfx, hq])))
        (by simp +decide [Json.wf, wfMembers]) (fun xs e => by cases e) (evalItem_iriObj hc hbase hv hvrel · · p ·)⟩
  | bnode b =>
    simp only [untag, buildStmt, stmtTree, encKey] at hU ⊢
    exact ⟨trivial, valRel_vocab label hc (iriOK_of hP.pred (fun q hq => hU q (by simp [vocab_pfx, hq])))
      (by simp +decide [Json.wf, wfMembers]) (fun xs e => by cases e) (evalItem_bnodeObj label hne c · · p b ·)⟩
  | lit lex dt lang =>
    obtain ⟨hnn, hdtG⟩ := hP.lit lex dt lang rfl
    obtain ⟨hw, hna, hpf⟩ := literalValue_shape E lex dt lang hnn
    simp only [untag, buildStmt, stmtTree, encKey] at hU ⊢
    exact ⟨trivial, valRel_vocab label hc (iriOK_of hP.pred (fun q hq => hU q (by simp [vocab_pfx, hq]))) hw hna
      (evalItem_litObj hc lex dt lang hP.wf hnn
        (fun hs => iriOK_of hdtG (fun q hq => hU q (by rw [hpf, if_neg hs]; simp [hq]))) · · p ·)⟩

theorem PS_anon (hc : GoodCtx E bs U names c) (b : β) (p : Str) (l : List (TStmt β))
    (ih : PL E label c U names bs l) : PS E label c U names bs (.anon b p l) := by
  obtain ⟨ih2, ih3⟩ := ih
  intro hU hpo
  have hP := hpo (p, .bnode b) (by simp [tpos])
  simp only [untag, buildStmt, stmtTree, encKey] at hU ⊢
  have hgr := ih3 [] [] (fun q hq => hU q (by simp [hq]))
    (fun po hpo' => hpo po (by simp [tpos, hpo'])) F2.nil
  have hkeys := propMembers_keys hgr
  refine ⟨trivial, valRel_vocab label hc (iriOK_of hP.pred (fun q hq => hU q (by simp [vocab_pfx, hq])))
    (obj_props_wf hgr (ih2 [] (by simp))) (fun xs e => by cases e) fun g s n => ?_⟩
  rw [evalItem_node c _ g s p _ n (by rw [hkeys.1]; exact hkeys.2)]
  have := evalMembers_props label c hgr g (.bnode (.fresh n)) false [] (n + 1)
  rw [List.append_nil] at this
  rw [this]
  simp [andThen_some, evalMembers, denVal, denId, groupByKey_eq]

theorem PL_nil : PL E label c U names bs ([] : List (TStmt β)) :=
  ⟨fun props h => by simpa [untags, buildStmts] using h,
    fun props groups _ _ h => by simpa [untags, buildStmts, stmtTrees] using h⟩

theorem PL_cons (x : TStmt β) (xs : List (TStmt β)) (hx : PS E label c U names bs x)
    (hxs : PL E label c U names bs xs) : PL E label c U names bs (x :: xs) := by
  obtain ⟨h2, h3⟩ := hxs
  refine ⟨?_, ?_⟩
  · intro props hn
    simp only [untags, buildStmts]
    rw [buildStmts_frame]
    exact h2 _ (by rw [addProp, C17.keys_alUpd]; exact C17.nodup_addKey _ hn)
  · intro props groups hU hpo hg
    simp only [untags, buildStmts] at hU ⊢
    rw [buildStmts_frame] at hU ⊢
    obtain ⟨e1, e2, e3⟩ := hx (fun q hq => hU q (List.mem_append_left _ hq)) (fun po h => hpo po (by simp [tposL, h]))
    simp only [stmtTrees, List.foldl_cons]
    apply h3 _ _ (fun q hq => hU q (List.mem_append_right _ hq)) (fun po h => hpo po (by simp [tposL, h]))
    rw [e1]
    exact GR_step label c hg e2 e3

theorem build_rel (hc : GoodCtx E bs U names c) (hbase : bs.isSome = E.base.isSome) (hne : ∀ b, label b ≠ [])
    (l : List (TStmt β)) : PL E label c U names bs l := by
  refine TStmt.rec_1 (motive_1 := fun x => PS E label c U names bs x)
    (motive_2 := fun l => PL E label c U names bs l) ?_ ?_ ?_ ?_ l
  · intro p o; exact PS_obj hc hbase hne p o
  · intro b p l ih; exact PS_anon hc b p l ih
  · exact PL_nil
  · intro x xs hx hxs; exact PL_cons x xs hx hxs

end Steps

end RdfModel.Proofs.C10
