import RdfModel.Model.Rdfcanon
import RdfModel.Spec.RDFC10
import RdfModel.Proofs.C03FirstDegree
namespace RdfModel.Proofs.C04
open RdfModel RdfModel.Proofs.StrOrd

variable {β : Type} [DecidableEq β]

theorem assoc_cons {ν : Type} (l : List (β × ν)) (b b' : β) (v : ν) :
    assoc ((b, v) :: l) b' = if b = b' then some v else assoc l b' := by
  simp [assoc]

/-- Relation between a *temporary* Go issuer (no provider) and a specification issuer. -/
structure IRel (mi : Rdfcanon.Issuer β) (si : Spec.RDFC10.Issuer β) : Prop where
  nostr : mi.stringer = none
  pfx : si.pfx = mi.pfx
  look : ∀ b, assoc mi.known b = assoc si.issued b
  order : mi.order = si.issued.map (·.1)
  counter : si.counter = mi.order.length

theorem IRel.getIfKnown {mi : Rdfcanon.Issuer β} {si : Spec.RDFC10.Issuer β} (h : IRel mi si) (b : β) :
    mi.getIfKnown b = si.get? b := h.look b

theorem IRel.get {mi : Rdfcanon.Issuer β} {si : Spec.RDFC10.Issuer β} (h : IRel mi si) (b : β) :
    (mi.get b).1 = (si.issue b).1 ∧ IRel (mi.get b).2 (si.issue b).2 := by
  have hl := h.look b
  unfold Rdfcanon.Issuer.get Spec.RDFC10.Issuer.issue Spec.RDFC10.Issuer.get?
  rw [h.nostr]
  cases hs : assoc si.issued b with
  | some id =>
    rw [hs] at hl
    simp only [hl]
    exact ⟨trivial, h⟩
  | none =>
    rw [hs] at hl
    simp only [hl]
    refine ⟨by rw [h.pfx, h.counter], ?_⟩
    constructor
    · rfl
    · exact h.pfx
    · intro b'
      simp only
      rw [assoc_cons, assoc_append_of_none _ _ _ _ hs, h.look b', h.pfx, h.counter]
    · simp [h.order]
    · simp [h.counter]

theorem IRel.init : IRel (Rdfcanon.newTemporaryIssuer : Rdfcanon.Issuer β) (Spec.RDFC10.Issuer.new [0x62]) :=
  ⟨rfl, rfl, fun _ => rfl, rfl, rfl⟩

/-- Relation between the *canonical* Go issuer (names from the int64 provider) and a specification
    issuer. The provider's state is tied to the issuer's: it has seen exactly the issued nodes. -/
structure CRel (mi : Rdfcanon.Issuer β) (si : Spec.RDFC10.Issuer β) : Prop where
  str : ∃ sp, mi.stringer = some sp ∧ sp.pfx = si.pfx ∧ sp.next = mi.order.length ∧
    ∀ b, assoc mi.known b = (assoc sp.known b).map (fun i => sp.pfx ++ decimal i)
  look : ∀ b, assoc mi.known b = assoc si.issued b
  order : mi.order = si.issued.map (·.1)
  counter : si.counter = mi.order.length
  nodup : (si.issued.map (·.1)).Nodup
  /-- the issued identifiers are prefix ++ 0, prefix ++ 1, … in issue order -/
  seq : si.issued.map (·.2) = (List.range si.counter).map (fun k => si.pfx ++ decimal k)
  cpfx : si.pfx = Spec.RDFC10.c14nPrefix

theorem assoc_none_not_mem (l : List (β × Str)) (b : β) (h : assoc l b = none) : b ∉ l.map (·.1) := fun hm => by
  have := (Proofs.C03.assoc_isSome_iff l b).2 hm
  rw [h] at this
  cases this

theorem CRel.getIfKnown {mi : Rdfcanon.Issuer β} {si : Spec.RDFC10.Issuer β} (h : CRel mi si) (b : β) :
    mi.getIfKnown b = si.get? b := h.look b

/-- On a node that already has an identifier, `GetBlankNodeString` returns it and changes nothing. -/
theorem CRel.get_known {mi : Rdfcanon.Issuer β} {si : Spec.RDFC10.Issuer β} (h : CRel mi si) (b : β) (id : Str)
    (hk : si.get? b = some id) : mi.get b = (id, mi) := by
  obtain ⟨sp, hsp, hpfx, hnext, hkn⟩ := h.str
  have hl : assoc mi.known b = some id := (h.look b).trans hk
  have hkb := hkn b
  rw [hl] at hkb
  cases hq : assoc sp.known b with
  | none => simp [hq] at hkb
  | some i =>
    simp only [hq, Option.map_some, Option.some.injEq] at hkb
    -- `hkb : id = sp.pfx ++ decimal i`: the provider has seen `b` (`hq`) and returns exactly the stored identifier,
    -- leaving its state alone; `known` has `b` (`hl`), so nothing is added
    cases mi
    simp_all [Rdfcanon.Issuer.get, Rdfcanon.Int64SP.get]

theorem CRel.get {mi : Rdfcanon.Issuer β} {si : Spec.RDFC10.Issuer β} (h : CRel mi si) (b : β) :
    (mi.get b).1 = (si.issue b).1 ∧ CRel (mi.get b).2 (si.issue b).2 := by
  cases hs : si.get? b with
  | some id =>
    rw [h.get_known b id hs]
    simp only [Spec.RDFC10.Issuer.issue, hs]
    exact ⟨trivial, h⟩
  | none =>
    obtain ⟨sp, hsp, hpfx, hnext, hk⟩ := h.str
    have hl := h.look b
    have hkb := hk b
    unfold Spec.RDFC10.Issuer.get? at hs
    rw [hs] at hl
    rw [hl] at hkb
    simp only [Rdfcanon.Issuer.get, Spec.RDFC10.Issuer.issue, Spec.RDFC10.Issuer.get?, hsp, Rdfcanon.Int64SP.get, hs]
    cases hq : assoc sp.known b with
    | some i => simp [hq] at hkb
    | none =>
      simp only [hl]
      refine ⟨by rw [hpfx, h.counter, hnext], ⟨_, rfl, hpfx, by simp [hnext], fun b' => ?_⟩, fun b' => ?_,
        by simp [h.order], by simp [h.counter], ?_, ?_, h.cpfx⟩
      · by_cases hb : b = b' <;> simp [assoc_cons, hb, hk b']
      · simp only [assoc_cons, assoc_append_of_none _ _ _ _ hs, h.look b', hpfx, h.counter, hnext]
      · have := assoc_none_not_mem _ _ hs
        simp only [List.mem_map, not_exists, not_and] at this
        simpa [List.nodup_append, h.nodup] using fun a x hx e => this (a, x) hx e
      · simp only [List.map_append, List.map_cons, List.map_nil, List.range_succ, h.seq]

theorem CRel.init : CRel (Rdfcanon.newCanonicalIssuer : Rdfcanon.Issuer β)
    (Spec.RDFC10.Issuer.new Spec.RDFC10.c14nPrefix) :=
  ⟨⟨_, rfl, rfl, rfl, fun _ => rfl⟩, fun _ => rfl, rfl, rfl, by simp [Spec.RDFC10.Issuer.new],
    by simp [Spec.RDFC10.Issuer.new], rfl⟩

theorem CRel.issueAll {mi : Rdfcanon.Issuer β} {si : Spec.RDFC10.Issuer β} (h : CRel mi si) (l : List β) :
    CRel (Rdfcanon.issueAll mi l) (Spec.RDFC10.issueAll si l) :=
  List.foldl_rel h fun b _ _ _ hc => (hc.get b).2

end RdfModel.Proofs.C04
