import RdfModel.Proofs.C12Abs
import RdfModel.Props.C12Defs
namespace RdfModel.Proofs.C12
open RdfModel.Spec.RFC3986 RdfModel.C12

theorem noDot_of_hasDotSegment {p : Str} (h : hasDotSegment p = false) : NoDotSegments p :=
  fun s hs => by simpa using List.any_eq_false.mp h s hs

theorem cutSlash_eq (r : Str) : IRI.cutSlash r =
    (r.takeWhile (· != cSlash), match r.dropWhile (· != cSlash) with | [] => none | _ :: t => some t) := by
  induction r with
  | nil => rfl
  | cons c r ih => by_cases hc : c = cSlash <;> simp_all [IRI.cutSlash]

theorem cutSlash_spec (r : Str) :
    (∀ s, IRI.cutSlash r = (s, none) → r = s ∧ NoSlash s ∧ segments r = [s]) ∧
    (∀ s rest, IRI.cutSlash r = (s, some rest) → r = s ++ cSlash :: rest ∧ NoSlash s ∧ segments r = s :: segments rest) := by
  have hr := List.takeWhile_append_dropWhile (p := (· != cSlash)) (l := r)
  have hs := takeWhile_ns_noSlash r
  rw [cutSlash_eq]
  generalize r.takeWhile (· != cSlash) = s0 at hr hs ⊢
  rcases dropWhile_ns_shape r with hd | ⟨t, hd⟩ <;> rw [hd] at hr ⊢ <;> subst hr
  · refine ⟨?_, by simp⟩
    rintro s ⟨⟩
    exact ⟨List.append_nil _, hs, by rw [List.append_nil, segments_noSlash hs]⟩
  · refine ⟨by simp, ?_⟩
    rintro s rest ⟨⟩
    exact ⟨rfl, hs, by rw [segments_append_slash, segments_noSlash hs]; rfl⟩
theorem lastIndexSlash_noSlash {s : Str} (h : NoSlash s) : IRI.lastIndexSlash s = none := by
  induction s with
  | nil => rfl
  | cons c r ih =>
    have hc : ¬ c = 0x2f := h c (by simp)
    have hr : NoSlash r := fun x hx => h x (by simp [hx])
    simp [IRI.lastIndexSlash, ih hr, hc]

theorem lastIndexSlash_append {s : Str} (h : NoSlash s) (a : Str) :
    IRI.lastIndexSlash (a ++ cSlash :: s) = some a.length := by
  induction a with
  | nil => simp [IRI.lastIndexSlash, lastIndexSlash_noSlash h]
  | cons c r ih => simp [IRI.lastIndexSlash, ih]

theorem rpBody_dot (dst : Str) (first : Bool) : IRI.rpBody [cDot] dst first = (dst, false) := by
  simp [IRI.rpBody]

theorem rpBody_dotdot_none {dst : Str} (first : Bool) (h : IRI.lastIndexSlash (dst.drop 1) = none) :
    IRI.rpBody [cDot, cDot] dst first = ([cSlash], true) := by
  rw [List.drop_one] at h
  simp [IRI.rpBody, h]

theorem rpBody_dotdot_some {dst : Str} (first : Bool) {i : Nat} (h : IRI.lastIndexSlash (dst.drop 1) = some i) :
    IRI.rpBody [cDot, cDot] dst first = (cSlash :: (dst.drop 1).take i, first) := by
  rw [List.drop_one] at h
  simp [IRI.rpBody, h]

theorem rpBody_reg {s : Str} (h1 : s ≠ [cDot]) (h2 : s ≠ [cDot, cDot]) (dst : Str) (first : Bool) :
    IRI.rpBody s dst first = ((if first then dst else dst ++ [cSlash]) ++ s, false) := by
  have h1' : ¬ s = [0x2e] := h1
  have h2' : ¬ s = [0x2e, 0x2e] := h2
  simp [IRI.rpBody, h1', h2']

/-- `Rel st dst first segs`: the Go state `(dst, first)` represents the stack `st` (top first);
    `segs` are the segments still to come (only used to exclude the deviating pattern after a pop
    on an empty stack). -/
inductive Rel : List Str → Str → Bool → List Str → Prop
  | N (st segs) : Rel st (cSlash :: joinSlash st.reverse) false segs
  | F (segs) (ok : ∀ e2 rest, segs ≠ [] :: e2 :: rest) : Rel [] [cSlash] true segs
  | M (up : List Str) (b : Str) (segs) (hb : b ≠ []) : Rel (up ++ [b]) (joinSlash (up ++ [b]).reverse) false segs

theorem dde_pat_false {segs : List Str} (h : nextEmptyNotLast segs = false) :
    ∀ e2 rest, segs ≠ [] :: e2 :: rest := by
  intro e2 rest he
  subst he
  simp [nextEmptyNotLast] at h

theorem joinSlash_rev_snoc (up : List Str) (b : Str) :
    joinSlash (up ++ [b]).reverse = cSlash :: (b ++ joinSlash up.reverse) := by
  rw [List.reverse_append]; simp [joinSlash_cons]

/-- One pass of the loop body keeps the relation. `hreg`: in state `F` (`dst = "/"`, `first = true`, reached by a
    ".." on the empty stack) the next segment is appended without a slash, so an empty one would leave `dst = "/"`,
    which no state stands for with `[""]` on the stack; `Rel.F` excludes an empty segment that is not the last,
    and the last one is handled in `finish_rel`. -/
theorem body_rel {st : List Str} {dst : Str} {first : Bool} {s : Str} {more : List Str}
    (hst : AllNoSlash st) (hrel : Rel st dst first (s :: more))
    (hdde : ddeAux st.length (s :: more) = false)
    (hreg : first = true → s ≠ [cDot] → s ≠ [cDot, cDot] → s ≠ []) :
    Rel (absStep st s) (IRI.rpBody s dst first).1 (IRI.rpBody s dst first).2 more ∧
      ddeAux (absStep st s).length more = false := by
  by_cases h1 : s = [cDot]
  · subst h1
    have hd : ddeAux st.length more = false := by simpa [ddeAux] using hdde
    rw [rpBody_dot]
    simp only [absStep, if_true]
    refine ⟨?_, hd⟩
    cases hrel with
    | N => exact Rel.N _ _
    | F _ ok => exact Rel.N [] more
    | M up b _ hb => exact Rel.M up b more hb
  · by_cases h2 : s = [cDot, cDot]
    · subst h2
      have hd : ((st.length - 1 == 0) && nextEmptyNotLast more) = false ∧
          ddeAux (st.length - 1) more = false := by
        have : ddeAux st.length ([cDot, cDot] :: more) =
            (((st.length - 1 == 0) && nextEmptyNotLast more) || ddeAux (st.length - 1) more) := by
          simp [ddeAux]
        rw [this] at hdde
        exact Bool.or_eq_false_iff.mp hdde
      have hlen : (absStep st [cDot, cDot]).length = st.length - 1 := by simp [absStep]
      rw [hlen]
      refine ⟨?_, hd.2⟩
      simp only [absStep, show ([cDot, cDot] : Str) ≠ [cDot] from by decide, if_false, if_true]
      cases hrel with
      | N =>
        cases st with
        | nil =>
          rw [rpBody_dotdot_none _ (by rfl)]
          apply Rel.F
          apply dde_pat_false
          simpa using hd.1
        | cons top st' =>
          have htop : NoSlash top := hst top (by simp)
          have e : (cSlash :: joinSlash (top :: st').reverse).drop 1 = joinSlash st'.reverse ++ cSlash :: top := by
            rw [List.reverse_cons, joinSlash_snoc]; rfl
          rw [rpBody_dotdot_some _ (by rw [e]; exact lastIndexSlash_append htop _), e]
          simp only [List.take_left', List.tail_cons]
          exact Rel.N _ _
      | F _ ok =>
        rw [rpBody_dotdot_none _ (by rfl)]
        apply Rel.F
        apply dde_pat_false
        simpa using hd.1
      | M up b _ hb =>
        cases up with
        | nil =>
          have hbn : NoSlash b := hst b (by simp)
          have e : (joinSlash ([] ++ [b]).reverse).drop 1 = b := by simp [joinSlash_cons, joinSlash_nil]
          rw [rpBody_dotdot_none _ (by rw [e]; exact lastIndexSlash_noSlash hbn)]
          apply Rel.F
          apply dde_pat_false
          simpa using hd.1
        | cons top up' =>
          have htop : NoSlash top := hst top (by simp)
          have e : (joinSlash (top :: up' ++ [b]).reverse).drop 1 = (b ++ joinSlash up'.reverse) ++ cSlash :: top := by
            rw [show top :: up' ++ [b] = [top] ++ (up' ++ [b]) from rfl, List.reverse_append, joinSlash_append,
              joinSlash_rev_snoc]
            simp [joinSlash_cons, joinSlash_nil]
          rw [rpBody_dotdot_some _ (by rw [e]; exact lastIndexSlash_append htop _), e]
          simp only [List.take_left', List.cons_append, List.tail_cons]
          rw [← joinSlash_rev_snoc]
          exact Rel.M up' b more hb
    · have hd : ddeAux (st.length + 1) more = false := by simpa [ddeAux, h1, h2] using hdde
      rw [rpBody_reg h1 h2]
      simp only [absStep, h1, h2, if_false, List.length_cons]
      refine ⟨?_, hd⟩
      cases hrel with
      | N =>
        simp only [Bool.false_eq_true, if_false]
        have : (cSlash :: joinSlash st.reverse ++ [cSlash]) ++ s = cSlash :: joinSlash (s :: st).reverse := by
          rw [List.reverse_cons, joinSlash_snoc]; simp
        rw [this]; exact Rel.N _ _
      | F _ ok =>
        simp only [if_true]
        have hsne : s ≠ [] := hreg rfl h1 h2
        have : [cSlash] ++ s = joinSlash ([] ++ [s]).reverse := by simp [joinSlash_cons, joinSlash_nil]
        rw [this]
        exact Rel.M [] s more hsne
      | M up b _ hb =>
        simp only [Bool.false_eq_true, if_false]
        have : (joinSlash (up ++ [b]).reverse ++ [cSlash]) ++ s = joinSlash ((s :: up) ++ [b]).reverse := by
          rw [show (s :: up) ++ [b] = s :: (up ++ [b]) from rfl, List.reverse_cons, joinSlash_snoc]; simp
        rw [this]
        exact Rel.M (s :: up) b more hb

theorem rel_first_true {st : List Str} {dst : Str} {segs : List Str} (h : Rel st dst true segs) :
    ∀ e2 rest, segs ≠ [] :: e2 :: rest := by
  cases h with
  | F _ ok => exact ok

/-- `if len(r) > 1 && r[1] == '/' { r = r[1:] }` -/
def strip (d : Str) : Str :=
  match d with
  | _ :: 0x2f :: _ => d.drop 1
  | _ => d

theorem strip_slash2 (c : Nat) (t : Str) : strip (c :: cSlash :: t) = cSlash :: t := rfl
theorem strip_single (c : Nat) : strip [c] = [c] := rfl
theorem strip_keep {x : Nat} (hx : x ≠ cSlash) (c : Nat) (t : Str) : strip (c :: x :: t) = c :: x :: t := by
  have hx' : ¬ x = 0x2f := hx
  unfold strip
  split
  · next h => injection h with _ h; injection h with h _; exact absurd h hx'
  · rfl

theorem rpFinish_dotty {s : Str} (h : s = [cDot] ∨ s = [cDot, cDot]) (d : Str) :
    IRI.rpFinish (d, s) = strip (d ++ [cSlash]) := by
  have h' : s = [0x2e] ∨ s = [0x2e, 0x2e] := h
  unfold IRI.rpFinish strip
  simp only [h', if_true]
  rfl

theorem rpFinish_reg {s : Str} (h1 : s ≠ [cDot]) (h2 : s ≠ [cDot, cDot]) (d : Str) :
    IRI.rpFinish (d, s) = strip d := by
  have h' : ¬ (s = [0x2e] ∨ s = [0x2e, 0x2e]) := by
    intro h; rcases h with h | h
    · exact h1 h
    · exact h2 h
  unfold IRI.rpFinish strip
  simp only [h', if_false]
  rfl

/-- a trailing dot segment: `dst += "/"`, then the double-slash fix-up -/
theorem finish_dotty {st : List Str} {dst : Str} {first : Bool} {segs : List Str}
    (hst : AllNoSlash st) (hrel : Rel st dst first segs) :
    strip (dst ++ [cSlash]) = joinSlash ([] :: st).reverse := by
  cases hrel with
  | N =>
    rw [List.reverse_cons, joinSlash_snoc]
    rcases joinSlash_shape st.reverse with h | ⟨t, h⟩
    · rw [h]; rfl
    · rw [h]; rfl
  | F _ ok => rfl
  | M up b _ hb =>
    have hbn : NoSlash b := hst b (by simp)
    rw [List.reverse_cons, joinSlash_snoc, joinSlash_rev_snoc]
    cases b with
    | nil => exact absurd rfl hb
    | cons x b' =>
      have hx : x ≠ cSlash := hbn x (by simp)
      simp only [List.cons_append]
      rw [strip_keep hx]

theorem finish_rel {st : List Str} {dst : Str} {first : Bool} {s : Str}
    (hst : AllNoSlash st) (hs : NoSlash s) (hrel : Rel st dst first [s]) :
    IRI.rpFinish ((IRI.rpBody s dst first).1, s) = joinSlash (absLast st s).reverse := by
  by_cases h1 : s = [cDot]
  · have hb := body_rel hst hrel (by subst h1; simp [ddeAux]) (fun _ h => absurd h1 h)
    rw [rpFinish_dotty (Or.inl h1), finish_dotty (allNoSlash_absStep hst hs) hb.1]
    simp [absLast, h1]
  · by_cases h2 : s = [cDot, cDot]
    · have hb := body_rel hst hrel (by subst h2; simp [ddeAux, nextEmptyNotLast]) (fun _ _ h => absurd h2 h)
      rw [rpFinish_dotty (Or.inr h2), finish_dotty (allNoSlash_absStep hst hs) hb.1]
      simp [absLast, h2]
    · rw [rpFinish_reg h1 h2, rpBody_reg h1 h2]
      simp only [absLast, absStep, h1, h2, or_self, if_false]
      cases hrel with
      | N =>
        simp only [Bool.false_eq_true, if_false]
        rw [List.reverse_cons, joinSlash_snoc]
        rcases joinSlash_shape st.reverse with h | ⟨t, h⟩
        · rw [h]; rfl
        · rw [h]
          simp only [List.cons_append, List.append_assoc]
          rw [strip_slash2]; simp
      | F _ ok =>
        simp only [if_true]
        cases s with
        | nil => rfl
        | cons x s' =>
          have hx : x ≠ cSlash := hs x (by simp)
          simp only [List.cons_append, List.nil_append]
          rw [strip_keep hx]
          simp [joinSlash_cons, joinSlash_nil]
      | M up b _ hb =>
        have hbn : NoSlash b := hst b (by simp)
        simp only [Bool.false_eq_true, if_false]
        rw [List.reverse_cons, joinSlash_snoc, joinSlash_rev_snoc]
        cases b with
        | nil => exact absurd rfl hb
        | cons x b' =>
          have hx : x ≠ cSlash := hbn x (by simp)
          simp only [List.cons_append, List.append_assoc]
          rw [strip_keep hx]
          simp

theorem rpLoop_rel : ∀ (n : Nat) (r : Str) (st : List Str) (dst : Str) (first : Bool),
    r.length < n → AllNoSlash st → Rel st dst first (segments r) → ddeAux st.length (segments r) = false →
    IRI.rpFinish (IRI.rpLoop n r dst first) = joinSlash (absRun st (segments r)).reverse := by
  intro n
  induction n with
  | zero => intro r st dst first h; omega
  | succ n ih =>
    intro r st dst first hlen hst hrel hdde
    rcases hc : IRI.cutSlash r with ⟨s, o⟩
    cases o with
    | none =>
      obtain ⟨_, hs, hseg⟩ := (cutSlash_spec r).1 s hc
      rw [hseg] at hrel ⊢
      simp only [IRI.rpLoop, hc]
      exact finish_rel hst hs hrel
    | some rest =>
      obtain ⟨hr, hs, hseg⟩ := (cutSlash_spec r).2 s rest hc
      rw [hseg] at hrel hdde ⊢
      simp only [IRI.rpLoop, hc]
      cases hsr : segments rest with
      | nil => exact absurd hsr (segments_ne_nil rest)
      | cons s2 tl =>
        have hreg : first = true → s ≠ [cDot] → s ≠ [cDot, cDot] → s ≠ [] := by
          intro hf _ _ hse
          subst hf
          exact rel_first_true hrel s2 tl (by rw [hsr, hse])
        obtain ⟨hrel', hdde'⟩ := body_rel hst hrel hdde hreg
        have hl : rest.length < n := by
          have := congrArg List.length hr
          simp at this; omega
        have := ih rest (absStep st s) _ _ hl (allNoSlash_absStep hst hs) hrel' hdde'
        rw [this, hsr]
        rfl

theorem uptoLastSlash_eq_dirOf (base : Str) : IRI.uptoLastSlash base = dirOf base := by
  unfold IRI.uptoLastSlash dirOf
  rcases split_at_last_slash base with h | ⟨a, s, hs, rfl⟩
  · rw [lastIndexSlash_noSlash h]
    have : NoSlash base.reverse := fun c hc => h c (by simpa using hc)
    rw [dropWhile_ns_self this]; rfl
  · rw [lastIndexSlash_append hs]
    have hr : NoSlash s.reverse := fun c hc => hs c (by simpa using hc)
    have e : (a ++ cSlash :: s).reverse = s.reverse ++ cSlash :: a.reverse := by simp
    rw [e, (span_ns hr (.inr ⟨_, rfl⟩)).2]
    simp [List.take_append, List.take_of_length_le]

theorem fullPath_eq_rfcFull (base ref : Str) : IRI.fullPath base ref = rfcFull base ref := by
  unfold IRI.fullPath rfcFull merge
  by_cases h1 : ref = []
  · simp [h1]
  · by_cases h2 : ref.head? = some cSlash
    · have h2' : ref.head? = some 0x2f := h2
      simp [h1, h2']
    · have h2' : ¬ ref.head? = some 0x2f := h2
      simp [h1, h2, uptoLastSlash_eq_dirOf]

theorem dirOf_head {base : Str} (hb : base.head? = some cSlash) : (dirOf base).head? = some cSlash := by
  rw [← uptoLastSlash_eq_dirOf]
  unfold IRI.uptoLastSlash
  rcases split_at_last_slash base with h | ⟨a, s, hs, rfl⟩
  · cases base with
    | nil => simp at hb
    | cons c r => simp at hb; exact absurd hb (h c (by simp))
  · rw [lastIndexSlash_append hs]
    cases a with
    | nil => simp
    | cons c a' => simp at hb ⊢; exact hb

theorem rfcFull_head {base : Str} (hb : base.head? = some cSlash) (ref : Str) :
    (rfcFull base ref).head? = some cSlash := by
  unfold rfcFull merge
  by_cases h1 : ref = []
  · simp [h1, hb]
  · by_cases h2 : ref.head? = some cSlash
    · simp [h1, h2]
    · simp only [h1, h2, if_false, Bool.false_eq_true, false_and]
      have := dirOf_head hb
      cases hd : dirOf base with
      | nil => rw [hd] at this; simp at this
      | cons c t => rw [hd] at this; simpa using this

theorem rfcFull_sub (base ref : Str) : ∀ c ∈ rfcFull base ref, c ∈ base ∨ c ∈ ref := by
  intro c hc
  unfold rfcFull merge dirOf at hc
  split at hc
  · exact .inl hc
  · split at hc
    · exact .inr hc
    · simp only [Bool.false_eq_true, false_and, if_false, List.mem_append] at hc
      exact hc.imp (fun h => List.mem_reverse.mp ((List.dropWhile_suffix _).subset (List.mem_reverse.mp h))) id

theorem resolvePath_abs (r : Str) (base ref : Str) (hf : IRI.fullPath base ref = cSlash :: r)
    (hk : dotdotThenEmpty (cSlash :: r) = false) :
    IRI.resolvePath base ref = removeDotSegments (cSlash :: r) := by
  unfold IRI.resolvePath
  simp only [hf]
  rw [if_neg (by simp)]
  have hdde : ddeAux 0 (segments r) = false := by simpa [dotdotThenEmpty] using hk
  have h0 : IRI.rpLoop ((cSlash :: r).length + 1) (cSlash :: r) [0x2f] true
      = IRI.rpLoop (r.length + 1) r [cSlash] false := by
    simp [IRI.rpLoop, IRI.cutSlash, IRI.rpBody]
  rw [h0, rpLoop_rel (r.length + 1) r [] [cSlash] false (by omega) (by intro s hs; simp at hs)
    (Rel.N [] _) hdde, rds_abs]

end RdfModel.Proofs.C12
