/-
  Every statement the model emits is well-formed (C06), also the statements appended before an error.
  Invariant carried through the mutual functions: `CtxOK` (`ECtx.ok` as a proposition).
-/
import RdfModel.Proofs.C10DPanic
namespace RdfModel.Proofs.C10D
open RdfModel RdfModel.Desc RdfModel.JLD RdfModel.C10D

def AllWf (r : R) : Prop := ∀ q ∈ R.quads r, WfRQ q = true

def ListWf (qs : List RQ) : Prop := ∀ q ∈ qs, WfRQ q = true

theorem allWf_ok {qs : List RQ} {n : Nat} (h : ListWf qs) : AllWf (.ok qs n) := h
theorem allWf_err {e : Err} {qs : List RQ} (h : ListWf qs) : AllWf (.err e qs) := h
theorem allWf_panic : AllWf .panic := by intro q hq; simp [R.quads] at hq
theorem listWf_nil : ListWf [] := by intro q hq; simp at hq
theorem listWf_cons {q : RQ} {qs : List RQ} (h1 : WfRQ q = true) (h2 : ListWf qs) : ListWf (q :: qs) := by
  intro x hx
  rcases List.mem_cons.1 hx with rfl | hx
  · exact h1
  · exact h2 x hx
theorem listWf_append {a b : List RQ} (h1 : ListWf a) (h2 : ListWf b) : ListWf (a ++ b) := by
  intro x hx
  rcases List.mem_append.1 hx with hx | hx
  · exact h1 x hx
  · exact h2 x hx

theorem allWf_andThen {r : R} {f : Nat → R} (hr : AllWf r) (hf : ∀ n, AllWf (f n)) : AllWf (r.andThen f) := by
  cases r with
  | panic => exact allWf_panic
  | err e q => exact hr
  | ok q n =>
    have h2 := hf n
    simp only [R.andThen]
    cases h : f n with
    | panic => exact allWf_panic
    | err e q2 => rw [h] at h2; exact listWf_append hr h2
    | ok q2 n2 => rw [h] at h2; exact listWf_append hr h2

theorem allWf_pre {qs : List RQ} {r : R} (hq : ListWf qs) (hr : AllWf r) : AllWf (R.pre qs r) := by
  cases r with
  | panic => exact allWf_panic
  | err e q => exact listWf_append hq hr
  | ok q n => exact listWf_append hq hr

theorem allWf_wrapList {r : R} (hr : AllWf r) : AllWf r.wrapList := by
  cases r <;> exact hr

theorem allWf_ite {c : Prop} [Decidable c] {a b : R} (ha : AllWf a) (hb : AllWf b) : AllWf (if c then a else b) := by
  split <;> assumption

/-- `i18nNs` starts with `https`, the two tagged-string datatypes with `http:` -/
theorem i18n_ne (x : Str) : i18nNs ++ x ≠ [] ∧ i18nNs ++ x ≠ rdfLangString ∧ i18nNs ++ x ≠ rdfDirLangString := by
  have h5 : 5 ≤ i18nNs.length ∧ i18nNs.take 5 ≠ rdfLangString.take 5 ∧ i18nNs.take 5 ≠ rdfDirLangString.take 5 := by
    decide +kernel
  have take5 : (i18nNs ++ x).take 5 = i18nNs.take 5 := List.take_append_of_le_length h5.1
  refine ⟨fun h => ?_, fun h => ?_, fun h => ?_⟩
  · have := h5.1
    rw [(List.append_eq_nil_iff.mp h).1] at this
    exact absurd this (by decide)
  · have h1 : (i18nNs ++ x).take 5 = rdfLangString.take 5 := by rw [h]
    rw [take5] at h1
    exact h5.2.1 h1
  · have h1 : (i18nNs ++ x).take 5 = rdfDirLangString.take 5 := by rw [h]
    rw [take5] at h1
    exact h5.2.2 h1

theorem wfrq_mk {s o g : Option T} {p : Str} (hs : wfSubject s = true) (hp : p ≠ []) (ho : wfObject o = true)
    (hg : wfGraph g = true) : WfRQ ⟨s, p, o, g⟩ = true := by
  simp [WfRQ, hs, hp, ho, hg]

theorem allWf_one {s g : Option T} {p : Str} (hs : wfSubject s = true) (hp : p ≠ []) (hg : wfGraph g = true)
    {o : T} (ho : wfObject (some o) = true) (n : Nat) : AllWf (.ok [⟨s, p, some o, g⟩] n) :=
  allWf_ok (listWf_cons (wfrq_mk hs hp ho hg) listWf_nil)

theorem wfObject_plain (lex dt : Str) (h : dt ≠ [] ∧ dt ≠ rdfLangString ∧ dt ≠ rdfDirLangString) :
    wfObject (some (lit lex dt none)) = true := by
  simp [wfObject, lit, h.1, h.2.1, h.2.2]

theorem wfObject_xsdString (lex : Str) : wfObject (some (lit lex xsdString none)) = true :=
  wfObject_plain _ _ (by simp [asc_consts])

/-- `if len(lit.Datatype) == 0 { lit.Datatype = xsd:string }` -/
theorem wfObject_finish (lex dt : Str) (h : dt ≠ rdfLangString ∧ dt ≠ rdfDirLangString) :
    wfObject (some (lit lex (if dt = [] then xsdString else dt) none)) = true := by
  split
  · exact wfObject_xsdString _
  · rename_i h0; exact wfObject_plain _ _ ⟨h0, h.1, h.2⟩

theorem wfObject_lang (lex tag : Str) (h : tag ≠ []) : wfObject (some (lit lex rdfLangString (some tag))) = true := by
  simp [wfObject, lit, h]

theorem wfSubject_object {s : Option T} (h : wfSubject s = true) : wfObject s = true := by
  cases s with
  | none => simp [wfSubject] at h
  | some t => cases t <;> simp_all [wfSubject, wfObject]

theorem wfSubject_graph {t : T} (h : wfSubject (some t) = true) : wfGraph (some t) = true := by
  cases t <;> simp_all [wfSubject, wfGraph]

theorem wfLang_ne {l : Str} (h : isWellFormedLang l = true) : l ≠ [] := by
  intro h0; subst h0; simp [isWellFormedLang] at h

theorem wfIri_ne {k : Str} (h : isWellFormedIRI k = true) : k ≠ [] := by
  intro h0; subst h0; simp [isWellFormedIRI, wfIriGo] at h

theorem taggedString_wf (cfg : Cfg) (g s : Option T) (p lex : Str) (lang? dir? : Option Str) (n : Nat)
    (hdir : cfg.dir ≠ .other) (hs : wfSubject s = true) (hp : p ≠ []) (hg : wfGraph g = true)
    (hl : langBad lang? = false) : AllWf (taggedString cfg g s p lex lang? dir? n) := by
  have fin : ∀ dt, dt ≠ rdfLangString ∧ dt ≠ rdfDirLangString → ∀ m,
      AllWf (.ok [⟨s, p, some (lit lex (if dt = [] then xsdString else dt) none), g⟩] m) :=
    fun dt h m => allWf_one hs hp hg (wfObject_finish lex dt h) m
  have finLang : ∀ l : Str, l ≠ [] → ∀ m,
      AllWf (.ok [⟨s, p, some (lit lex (if rdfLangString = [] then xsdString else rdfLangString) (some l)), g⟩] m) := by
    intro l hl m
    rw [if_neg (by simp [asc_consts] : rdfLangString ≠ [])]
    exact allWf_one hs hp hg (wfObject_lang lex l hl) m
  have hnode : wfSubject (some (Term.bnode (Desc.BN.fresh n) : T)) = true := rfl
  have three : ∀ dir : Str, ListWf [(⟨s, p, some (Term.bnode (Desc.BN.fresh n)), g⟩ : RQ),
      ⟨some (Term.bnode (Desc.BN.fresh n)), rdfValue, some (lit lex xsdString none), g⟩,
      ⟨some (Term.bnode (Desc.BN.fresh n)), rdfDirection, some (lit dir xsdString none), g⟩] := fun dir =>
    listWf_cons (wfrq_mk hs hp rfl hg) (listWf_cons (wfrq_mk hnode (by simp [asc_consts]) (wfObject_xsdString _) hg)
      (listWf_cons (wfrq_mk hnode (by simp [asc_consts]) (wfObject_xsdString _) hg) listWf_nil))
  have hl' : lang?.isSome = true → lang?.getD [] ≠ [] := by
    intro h
    cases lang? with
    | none => cases h
    | some l => exact wfLang_ne (by simpa [langBad] using hl)
  unfold taggedString
  dsimp only
  split
  · split
    · split
      · exact finLang _ (hl' ‹_›) n
      · exact fin [] (by simp [asc_consts]) n
    · exact fin _ ⟨(i18n_ne _).2.1, (i18n_ne _).2.2⟩ n
    · refine allWf_ok (listWf_append (three _) ?_)
      split
      · exact listWf_cons (wfrq_mk hnode (by simp [asc_consts]) (wfObject_xsdString _) hg) listWf_nil
      · exact listWf_nil
    · exact absurd ‹_› hdir
  · split
    · exact finLang _ (hl' ‹_›) n
    · exact fin [] (by simp [asc_consts]) n

theorem decodeStringValue_wf (cfg : Cfg) (g s : Option T) (p dt0 lex : Str) (atLang atDir : Option Exp) (n : Nat)
    (hdir : cfg.dir ≠ .other) (hs : wfSubject s = true) (hp : p ≠ []) (hg : wfGraph g = true)
    (hdt : dt0 ≠ rdfLangString ∧ dt0 ≠ rdfDirLangString) :
    AllWf (decodeStringValue cfg g s p dt0 lex atLang atDir n) := by
  have fin : AllWf (.ok [⟨s, p, some (lit lex (if dt0 = [] then xsdString else dt0) none), g⟩] n) :=
    allWf_one hs hp hg (wfObject_finish lex dt0 hdt) n
  unfold decodeStringValue
  simp only []
  split
  · exact fin
  · split
    · exact allWf_err listWf_nil
    · split
      · exact allWf_ok listWf_nil
      · rename_i hlb
        split
        · exact allWf_err listWf_nil
        · split
          · exact allWf_ok listWf_nil
          · split
            · rename_i h0
              exact allWf_one hs hp hg (wfObject_plain _ _ ⟨h0, hdt.1, hdt.2⟩) n
            · exact taggedString_wf cfg g s p lex _ _ n hdir hs hp hg (by simpa using hlb)

theorem numberLiteral_dt (dt0 : Str) (x : Num) (hdt : dt0 ≠ rdfLangString ∧ dt0 ≠ rdfDirLangString) :
    (numberLiteral dt0 x).1 ≠ rdfLangString ∧ (numberLiteral dt0 x).1 ≠ rdfDirLangString := by
  have h : (numberLiteral dt0 x).1 = dt0 ∨ (numberLiteral dt0 x).1 = xsdDouble ∨ (numberLiteral dt0 x).1 = xsdInteger := by
    unfold numberLiteral
    simp only []
    split <;> (split <;> (try split) <;> simp)
  rcases h with h | h | h <;> rw [h]
  · exact hdt
  · simp [asc_consts]
  · simp [asc_consts]

theorem decodeValuePrim_wf (cfg : Cfg) (g s : Option T) (p dt0 : Str) (atLang atDir : Option Exp) (v : PVal) (jt : JText) (n : Nat)
    (hdir : cfg.dir ≠ .other) (hs : wfSubject s = true) (hp : p ≠ []) (hg : wfGraph g = true)
    (hdt : dt0 ≠ rdfLangString ∧ dt0 ≠ rdfDirLangString) :
    AllWf (decodeValuePrim cfg g s p dt0 atLang atDir v jt n) := by
  have one : ∀ (o : T), wfObject (some o) = true → AllWf (.ok [⟨s, p, some o, g⟩] n) :=
    fun _ ho => allWf_one hs hp hg ho n
  unfold decodeValuePrim
  simp only []
  split
  · split
    · exact allWf_panic
    · exact allWf_panic
    · exact allWf_err listWf_nil
    · exact allWf_err listWf_nil
    · exact one _ (wfObject_plain _ _ (by simp [asc_consts]))
  · split
    · exact decodeStringValue_wf cfg g s p dt0 _ atLang atDir n hdir hs hp hg hdt
    ·
      rename_i x
      exact one _ (wfObject_finish _ _ (numberLiteral_dt dt0 x hdt))
    · apply one
      apply wfObject_finish
      split
      · simp [asc_consts]
      · exact hdt
    · exact allWf_panic
    · exact allWf_err listWf_nil
    · exact allWf_err listWf_nil
    · exact allWf_err listWf_nil

theorem decodeValueNode_wf (cfg : Cfg) (g s : Option T) (p : Str) (ms : List (Str × Exp)) (n : Nat)
    (hdir : cfg.dir ≠ .other) (hs : wfSubject s = true) (hp : p ≠ []) (hg : wfGraph g = true) :
    AllWf (decodeValueNode cfg g s p ms n) := by
  unfold decodeValueNode
  simp only []
  split
  · exact allWf_err listWf_nil
  · split
    · exact allWf_ok listWf_nil
    · rename_i hdt
      simp only [Bool.or_eq_true, decide_eq_true_eq, not_or] at hdt
      split
      · exact decodeValuePrim_wf cfg g s p _ _ _ _ _ n hdir hs hp hg hdt
      · exact allWf_err listWf_nil
      · exact allWf_err listWf_nil

theorem typeQuadsPartial_wf (g : Option T) (s : T) (hs : wfSubject (some s) = true) (hg : wfGraph g = true) :
    ∀ tvs : List Exp, ListWf (typeQuadsPartial g s tvs).1
  | [] => by simp [typeQuadsPartial]; exact listWf_nil
  | x :: rest => by
    have ih := typeQuadsPartial_wf g s hs hg rest
    cases x with
    | prim v jt =>
      cases v with
      | null => simpa [typeQuadsPartial] using ih
      | str t =>
        simp only [typeQuadsPartial]
        split
        · exact listWf_cons (wfrq_mk hs (by simp [asc_consts]) rfl hg) ih
        · split
          · exact ih
          · exact listWf_cons (wfrq_mk hs (by simp [asc_consts]) rfl hg) ih
      | _ => simp [typeQuadsPartial]; exact listWf_nil
    | _ => simp [typeQuadsPartial]; exact listWf_nil

theorem typeStage_wf (g : Option T) (s : T) (ms : List (Str × Exp)) (n : Nat) (hs : wfSubject (some s) = true)
    (hg : wfGraph g = true) : AllWf (typeStage g s ms n) := by
  unfold typeStage
  split
  · exact allWf_ok listWf_nil
  · rename_i tvs _
    have := typeQuadsPartial_wf g s hs hg tvs
    split
    · rename_i qs heq; rw [heq] at this; exact allWf_ok this
    · rename_i qs e heq; rw [heq] at this; exact allWf_err this
  · exact allWf_err listWf_nil

theorem selfSubject_wf {ms : List (Str × Exp)} {n n1 : Nat} {self : T}
    (h : selfSubject ms n = .ok (some (self, n1))) : wfSubject (some self) = true := by
  unfold selfSubject at h
  split at h
  · simp at h
  · split at h
    · simp only [Except.ok.injEq, Option.some.injEq] at h
      unfold stringBlankNode at h
      split at h <;> (cases h; rfl)
    · split at h
      · simp at h
      · simp only [Except.ok.injEq, Option.some.injEq, Prod.mk.injEq] at h
        obtain ⟨h1, _⟩ := h; subst h1; rfl
  · simp at h
  · simp at h
  · simp only [Except.ok.injEq, Option.some.injEq, Prod.mk.injEq] at h
    obtain ⟨h1, _⟩ := h; subst h1; rfl

structure CtxOK (c : ECtx) : Prop where
  graph : wfGraph c.graph = true
  prop : ∀ p, c.prop = some p → wfSubject c.subj = true ∧ p ≠ []

theorem ctxOK_of_ok {c : ECtx} (h : ECtx.ok c = true) : CtxOK c := by
  unfold ECtx.ok at h
  simp only [Bool.and_eq_true] at h
  refine ⟨h.2, ?_⟩
  intro p hp
  have h1 := h.1.1
  rw [hp] at h1
  simpa using h1

theorem keyProp_ne {k p : Str} (h : keyProp k = some (some p)) : p ≠ [] := by
  unfold keyProp at h
  split at h
  · simp at h
  · split at h
    · simp at h
    · split at h
      · simp at h
      · rename_i hw
        simp only [Option.some.injEq] at h
        subst h
        exact wfIri_ne (by simpa using hw)

theorem ctxOK_member {c : ECtx} {k : Str} {prop : Option Str} {r : Bool} (hc : CtxOK c) (hs : wfSubject c.subj = true)
    (hk : keyProp k = some prop) : CtxOK { c with prop := prop, rev := r } := by
  refine ⟨hc.graph, ?_⟩
  intro p hp
  simp only at hp
  subst hp
  exact ⟨hs, keyProp_ne hk⟩

theorem ctxOK_list {c : ECtx} (hc : CtxOK c) (cell : T) (hcell : wfSubject (some cell) = true) :
    CtxOK { c with subj := some cell, prop := some rdfFirst } := by
  refine ⟨hc.graph, ?_⟩
  intro p hp
  simp only [Option.some.injEq] at hp
  subst hp
  exact ⟨hcell, (by simp [asc_consts])⟩

theorem valueProp_some {c : ECtx} {ms : List (Str × Exp)} {p : Str}
    (h : (match c.prop with
          | some p => if hasKey kValue ms then some p else none
          | none => none) = some p) : c.prop = some p := by
  cases hp : c.prop with
  | none => rw [hp] at h; simp at h
  | some p' =>
    rw [hp] at h
    simp only at h
    split at h
    · exact h
    · simp at h

theorem bnode_wf (b : B) : wfSubject (some (Term.bnode b : T)) = true := rfl

mutual
theorem decodeElement_wf (cfg : Cfg) (hdir : cfg.dir ≠ .other) (c : ECtx) (hc : CtxOK c) :
    ∀ (e : Exp) (n : Nat), AllWf (decodeElement cfg c e n)
  | .nil, n => by rw [decodeElement]; exact allWf_ok listWf_nil
  | .arr xs, n => by rw [decodeElement]; exact decodeItems_wf cfg hdir c hc xs n
  | .prim _ _, n => by rw [decodeElement]; exact allWf_err listWf_nil
  | .obj ms, n => by
    rw [decodeElement]
    split
    · rename_i p hp
      have hcp := valueProp_some hp
      exact decodeValueNode_wf cfg _ _ p ms n hdir (hc.prop p hcp).1 (hc.prop p hcp).2 hc.graph
    · split
      · exact findList_wf cfg hdir c hc ms n
      · split
        · exact allWf_err listWf_nil
        · exact allWf_ok listWf_nil
        · rename_i self n1 hself
          have hs := selfSubject_wf hself
          have hc1 : ∀ r, CtxOK { graph := c.graph, subj := some self, prop := c.prop, rev := r } := fun r =>
            ⟨hc.graph, fun p hp => ⟨hs, (hc.prop p hp).2⟩⟩
          apply allWf_pre
          ·
            cases hp : c.prop with
            | none => exact listWf_nil
            | some p =>
              have := hc.prop p hp
              simp only []
              split
              · exact listWf_cons (wfrq_mk hs this.2 (wfSubject_object this.1) hc.graph) listWf_nil
              · exact listWf_cons (wfrq_mk this.1 this.2 (wfSubject_object hs) hc.graph) listWf_nil
          apply allWf_andThen (findReverse_wf cfg hdir _ (hc1 _) hs ms _)
          intro n2
          apply allWf_andThen (typeStage_wf _ _ _ _ hs hc.graph)
          intro n3
          apply allWf_andThen (allWf_ite (findKeyArr_wf cfg hdir _ ⟨wfSubject_graph hs, fun p hp => by simp at hp⟩ _ ms _) (allWf_ok listWf_nil))
          intro n4
          refine allWf_andThen (findKeyArr_wf cfg hdir _ ?_ _ ms _) ?_
          · exact ⟨hc.graph, fun p hp => by cases hp⟩
          intro n5
          exact members_wf cfg hdir _ (hc1 _) hs ms _

theorem decodeItems_wf (cfg : Cfg) (hdir : cfg.dir ≠ .other) (c : ECtx) (hc : CtxOK c) :
    ∀ (xs : List Exp) (n : Nat), AllWf (decodeItems cfg c xs n)
  | [], n => by rw [decodeItems]; exact allWf_ok listWf_nil
  | x :: xs, n => by
    rw [decodeItems]
    exact allWf_andThen (decodeElement_wf cfg hdir c hc x n) (fun n1 => decodeItems_wf cfg hdir c hc xs n1)

theorem findList_wf (cfg : Cfg) (hdir : cfg.dir ≠ .other) (c : ECtx) (hc : CtxOK c) :
    ∀ (ms : List (Str × Exp)) (n : Nat), AllWf (findList cfg c ms n)
  | [], n => by rw [findList]; exact allWf_ok listWf_nil
  | (k, v) :: rest, n => by
    unfold findList
    split
    · cases v with
      | arr xs =>
        cases xs with
        | nil =>
          cases hp : c.prop with
          | none => exact allWf_ok listWf_nil
          | some p =>
            have := hc.prop p hp
            exact allWf_ok (listWf_cons (wfrq_mk this.1 this.2 rfl hc.graph) listWf_nil)
        | cons x xs =>
          apply allWf_pre
          · cases hp : c.prop with
            | none => exact listWf_nil
            | some p =>
              have := hc.prop p hp
              exact listWf_cons (wfrq_mk this.1 this.2 rfl hc.graph) listWf_nil
          · exact listCells_wf cfg hdir c hc _ (bnode_wf _) true (x :: xs) _
      | _ => exact allWf_err listWf_nil
    · exact findList_wf cfg hdir c hc rest n

theorem listCells_wf (cfg : Cfg) (hdir : cfg.dir ≠ .other) (c : ECtx) (hc : CtxOK c) (cell : T) (hcell : wfSubject (some cell) = true)
    (first : Bool) : ∀ (xs : List Exp) (n : Nat), AllWf (JLD.listCells cfg c cell first xs n)
  | [], n => by
    rw [JLD.listCells]
    split
    · exact allWf_ok (listWf_cons (wfrq_mk hcell (by simp [asc_consts]) rfl hc.graph) listWf_nil)
    · exact allWf_ok listWf_nil
  | x :: xs, n => by
    rw [JLD.listCells]
    split
    · apply allWf_pre (listWf_cons (wfrq_mk hcell (by simp [asc_consts]) rfl hc.graph) listWf_nil)
      exact allWf_andThen (allWf_wrapList (decodeElement_wf cfg hdir _ (ctxOK_list hc _ (bnode_wf _)) x _))
        (fun n1 => listCells_wf cfg hdir c hc _ (bnode_wf _) false xs n1)
    · exact allWf_andThen (allWf_wrapList (decodeElement_wf cfg hdir _ (ctxOK_list hc _ hcell) x _))
        (fun n1 => listCells_wf cfg hdir c hc _ hcell false xs n1)

theorem findKeyArr_wf (cfg : Cfg) (hdir : cfg.dir ≠ .other) (c : ECtx) (hc : CtxOK c) (key : Str) :
    ∀ (ms : List (Str × Exp)) (n : Nat), AllWf (findKeyArr cfg c key ms n)
  | [], n => by rw [findKeyArr]; exact allWf_ok listWf_nil
  | (k, v) :: rest, n => by
    unfold findKeyArr
    split
    · cases v with
      | arr xs => exact decodeItems_wf cfg hdir c hc xs n
      | _ => exact allWf_err listWf_nil
    · exact findKeyArr_wf cfg hdir c hc key rest n

theorem findReverse_wf (cfg : Cfg) (hdir : cfg.dir ≠ .other) (c : ECtx) (hc : CtxOK c) (hs : wfSubject c.subj = true) :
    ∀ (ms : List (Str × Exp)) (n : Nat), AllWf (findReverse cfg c ms n)
  | [], n => by rw [findReverse]; exact allWf_ok listWf_nil
  | (k, v) :: rest, n => by
    unfold findReverse
    split
    · cases v with
      | obj rms =>
        simp only [reverseMembers_eq]
        exact members_wf cfg hdir { c with rev := true } ⟨hc.graph, hc.prop⟩ hs rms n
      | _ => exact allWf_err listWf_nil
    · exact findReverse_wf cfg hdir c hc hs rest n

theorem members_wf (cfg : Cfg) (hdir : cfg.dir ≠ .other) (c : ECtx) (hc : CtxOK c) (hs : wfSubject c.subj = true) :
    ∀ (ms : List (Str × Exp)) (n : Nat), AllWf (members cfg c ms n)
  | [], n => by rw [members]; exact allWf_ok listWf_nil
  | (k, v) :: rest, n => by
    have ih := fun n1 => members_wf cfg hdir c hc hs rest n1
    rw [members]
    split
    · exact ih n
    · rename_i prop hk
      refine allWf_andThen ?_ ih
      cases v with
      | arr xs => exact decodeItems_wf cfg hdir _ (ctxOK_member (r := c.rev) hc hs hk) xs n
      | _ => exact allWf_err listWf_nil
end

theorem reverseMembers_wf (cfg : Cfg) (hdir : cfg.dir ≠ .other) (c : ECtx) (hc : CtxOK c) (hs : wfSubject c.subj = true) :
    ∀ (ms : List (Str × Exp)) (n : Nat), AllWf (reverseMembers cfg c ms n) := fun ms n => by
  rw [reverseMembers_eq]
  exact members_wf cfg hdir { c with rev := true } ⟨hc.graph, hc.prop⟩ hs ms n

end RdfModel.Proofs.C10D
