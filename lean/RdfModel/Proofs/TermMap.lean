import RdfModel.Model.Description
namespace RdfModel

theorem Term.map_map {β γ δ : Type} (f : β → γ) (g : γ → δ) (t : Term β) :
    (t.map f).map g = t.map (g ∘ f) := by
  cases t <;> rfl

theorem Quad.map_map {β γ δ : Type} (f : β → γ) (g : γ → δ) (q : Quad β) :
    (q.map f).map g = q.map (g ∘ f) := by
  obtain ⟨s, p, o, gr⟩ := q
  cases gr <;> simp [Quad.map, Term.map_map]

theorem Desc.Triple.map_map {β γ δ : Type} (f : β → γ) (g : γ → δ) (t : Desc.Triple β) :
    (t.map f).map g = t.map (g ∘ f) := by
  simp [Desc.Triple.map, Term.map_map]

end RdfModel
