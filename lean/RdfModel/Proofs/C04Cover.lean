import RdfModel.Spec.RDFC10
import RdfModel.Proofs.C03FirstDegree
namespace RdfModel.Proofs.C04
open RdfModel RdfModel.Proofs.StrOrd RdfModel.Spec.RDFC10

variable {β : Type} [DecidableEq β]

/-- `j` extends `i`: every identifier `i` has issued is still the identifier in `j`. -/
def Sub (i j : Issuer β) : Prop := ∀ b v, i.get? b = some v → j.get? b = some v

theorem Sub.refl (i : Issuer β) : Sub i i := fun _ _ h => h
theorem Sub.trans {i j k : Issuer β} (h1 : Sub i j) (h2 : Sub j k) : Sub i k :=
  fun b v h => h2 b v (h1 b v h)

theorem Sub.isSome {i j : Issuer β} (h : Sub i j) (b : β) (hb : (i.get? b).isSome) : (j.get? b).isSome := by
  obtain ⟨v, hv⟩ := Option.isSome_iff_exists.mp hb
  rw [h b v hv]; rfl

theorem issue_sub (i : Issuer β) (b : β) : Sub i (i.issue b).2 := by
  intro b' v h
  unfold Issuer.issue
  cases hg : i.get? b with
  | some id => exact h
  | none =>
    unfold Issuer.get? at hg h ⊢
    have : ¬ b = b' := fun e => by rw [e, h] at hg; cases hg
    simp only [assoc_append_of_none _ _ _ _ hg, this, if_false, h]

theorem issue_knows (i : Issuer β) (b : β) : ((i.issue b).2.get? b).isSome := by
  unfold Issuer.issue
  cases hg : i.get? b with
  | some id => simp [hg]
  | none => simp [Issuer.get?, assoc_append_of_none _ _ _ _ hg]

theorem issueAll_sub (c : Issuer β) (l : List β) : Sub c (issueAll c l) :=
  List.foldlRecOn l _ (Sub.refl c) fun i hi a _ => hi.trans (issue_sub i a)

theorem issueAll_knows (c : Issuer β) (l : List β) : ∀ b ∈ l, ((issueAll c l).get? b).isSome := by
  induction l generalizing c with
  | nil => intro b hb; simp at hb
  | cons a rest ih =>
    intro b hb
    simp only [issueAll, List.foldl_cons]
    simp only [List.mem_cons] at hb
    rcases hb with hb | hb
    · subst hb
      exact (issueAll_sub _ rest).isSome b (issue_knows c b)
    · exact ih _ b hb

theorem knows_iff_mem_keys (i : Issuer β) (b : β) : (i.get? b).isSome ↔ b ∈ i.issued.map (·.1) :=
  Proofs.C03.assoc_isSome_iff i.issued b

theorem foldl_issueAll_sub (rs : List (NDResult β)) (c : Issuer β) :
    Sub c (rs.foldl (fun c r => issueAll c (r.issuer.issued.map (·.1))) c) :=
  List.foldlRecOn rs _ (Sub.refl c) fun i hi _ _ => hi.trans (issueAll_sub i _)

theorem foldl_issueAll_knows (rs : List (NDResult β)) (c : Issuer β) :
    ∀ r ∈ rs, ∀ n, (r.issuer.get? n).isSome →
      ((rs.foldl (fun c r => issueAll c (r.issuer.issued.map (·.1))) c).get? n).isSome := by
  induction rs generalizing c with
  | nil => intro r hr; simp at hr
  | cons r0 rest ih =>
    intro r hr n hn
    simp only [List.foldl_cons]
    simp only [List.mem_cons] at hr
    rcases hr with hr | hr
    · subst hr
      apply (foldl_issueAll_sub rest _).isSome n
      exact issueAll_knows c _ n ((knows_iff_mem_keys r.issuer n).mp hn)
    · exact ih _ r hr n hn

end RdfModel.Proofs.C04
