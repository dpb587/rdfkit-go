/-
  Flattening a resource list is invariant, up to graph isomorphism,
  under deep permutation (reordering nested statement lists, reordering resources, dropping
  resources without statements).
-/
import RdfModel.Spec.GraphIso
import RdfModel.Proofs.C02DocDP
namespace RdfModel.Proofs.C02Doc
open RdfModel RdfModel.Desc

variable {β : Type}

mutual
def cnt : Stmt β → Nat
  | .obj _ _ => 0
  | .anon _ l => 1 + cnts l
def cnts : List (Stmt β) → Nat
  | [] => 0
  | x :: xs => cnt x + cnts xs
end

@[simp] theorem cnt_obj (p : List Nat) (o : Term β) : cnt (Stmt.obj p o) = 0 := by simp [cnt]
@[simp] theorem cnt_anon (p : List Nat) (l : List (Stmt β)) : cnt (Stmt.anon p l) = 1 + cnts l := by simp [cnt]
@[simp] theorem cnts_nil : cnts ([] : List (Stmt β)) = 0 := by simp [cnts]
@[simp] theorem cnts_cons (x : Stmt β) (l : List (Stmt β)) : cnts (x :: l) = cnt x + cnts l := by simp [cnts]

mutual
theorem newTriples_snd (s : Term (BN β)) (x : Stmt β) (n : Nat) : (Stmt.newTriples s x n).2 = n + cnt x :=
  match x with
  | .obj p o => by simp [Stmt.newTriples]
  | .anon p l => by
    simp only [Stmt.newTriples, cnt_anon]
    rw [stmtsNewTriples_snd _ l (n + 1)]; omega
theorem stmtsNewTriples_snd (s : Term (BN β)) (l : List (Stmt β)) (n : Nat) : (stmtsNewTriples s l n).2 = n + cnts l :=
  match l with
  | [] => by simp [stmtsNewTriples]
  | x :: xs => by
    simp only [stmtsNewTriples, cnts_cons]
    rw [stmtsNewTriples_snd s xs, newTriples_snd s x n]; omega
end

theorem DP.cnts_eq {l l' : List (Stmt β)} (h : DP l l') : cnts l' = cnts l := by
  induction h with
  | nil => rfl
  | obj p o _ ih => simp [ih]
  | anon p _ _ ih1 ih2 => simp [ih1, ih2]
  | swap x y l => simp; omega
  | trans _ _ ih1 ih2 => omega

def ren (g : Nat → Nat) : BN β → BN β
  | .orig b => .orig b
  | .fresh k => .fresh (g k)

mutual
/-- `Stmt.newTriples` (triples only) where the node made from counter value `k` is `fresh (ν k)` -/
def gS (ν : Nat → Nat) (s : Term (BN β)) : Stmt β → Nat → List (Triple (BN β))
  | .obj p o, _ => [⟨s, p, o.map BN.orig⟩]
  | .anon p l, n => gL ν (Term.bnode (BN.fresh (ν n))) l (n + 1) ++ [⟨s, p, Term.bnode (BN.fresh (ν n))⟩]
def gL (ν : Nat → Nat) (s : Term (BN β)) : List (Stmt β) → Nat → List (Triple (BN β))
  | [], _ => []
  | x :: xs, n => gS ν s x n ++ gL ν s xs (n + cnt x)
end

@[simp] theorem gS_obj (ν : Nat → Nat) (s : Term (BN β)) (p : List Nat) (o : Term β) (n : Nat) :
    gS ν s (Stmt.obj p o) n = [⟨s, p, o.map BN.orig⟩] := by simp [gS]
@[simp] theorem gS_anon (ν : Nat → Nat) (s : Term (BN β)) (p : List Nat) (l : List (Stmt β)) (n : Nat) :
    gS ν s (Stmt.anon p l) n =
      gL ν (Term.bnode (BN.fresh (ν n))) l (n + 1) ++ [⟨s, p, Term.bnode (BN.fresh (ν n))⟩] := by simp [gS]
@[simp] theorem gL_nil (ν : Nat → Nat) (s : Term (BN β)) (n : Nat) : gL ν s ([] : List (Stmt β)) n = [] := by
  simp [gL]
@[simp] theorem gL_cons (ν : Nat → Nat) (s : Term (BN β)) (x : Stmt β) (l : List (Stmt β)) (n : Nat) :
    gL ν s (x :: l) n = gS ν s x n ++ gL ν s l (n + cnt x) := by simp [gL]

theorem term_map_ren_orig (g : Nat → Nat) (o : Term β) : (o.map BN.orig).map (ren g) = o.map BN.orig := by
  cases o <;> simp [Term.map, ren]

mutual
theorem gS_map (ν : Nat → Nat) (s : Term (BN β)) (x : Stmt β) (n : Nat) :
    gS ν (s.map (ren ν)) x n = (Stmt.newTriples s x n).1.map (Triple.map (ren ν)) :=
  match x with
  | .obj p o => by simp [Stmt.newTriples, Triple.map, term_map_ren_orig]
  | .anon p l => by
    have ih := gL_map ν (Term.bnode (BN.fresh n)) l (n + 1)
    simp only [Term.map, ren] at ih
    simp [Stmt.newTriples, Triple.map, ih, Term.map, ren]
theorem gL_map (ν : Nat → Nat) (s : Term (BN β)) (l : List (Stmt β)) (n : Nat) :
    gL ν (s.map (ren ν)) l n = (stmtsNewTriples s l n).1.map (Triple.map (ren ν)) :=
  match l with
  | [] => by simp [stmtsNewTriples]
  | x :: xs => by
    simp only [gL_cons, stmtsNewTriples, List.map_append]
    rw [gS_map ν s x n, gL_map ν s xs, newTriples_snd]
end

mutual
/-- the flattening only looks at `ν` on its own range, and only relative to the start -/
theorem gS_congr (ν ν' : Nat → Nat) (s : Term (BN β)) (x : Stmt β) (m n : Nat)
    (h : ∀ i, i < cnt x → ν' (m + i) = ν (n + i)) : gS ν' s x m = gS ν s x n :=
  match x with
  | .obj p o => by simp
  | .anon p l => by
    have h0 : ν' m = ν n := by simpa using h 0 (by simp; omega)
    have ih := gL_congr ν ν' (Term.bnode (BN.fresh (ν n))) l (m + 1) (n + 1) (by
      intro i hi
      have := h (1 + i) (by simp; omega)
      simpa [Nat.add_assoc] using this)
    simp [h0, ih]
theorem gL_congr (ν ν' : Nat → Nat) (s : Term (BN β)) (l : List (Stmt β)) (m n : Nat)
    (h : ∀ i, i < cnts l → ν' (m + i) = ν (n + i)) : gL ν' s l m = gL ν s l n :=
  match l with
  | [] => by simp
  | x :: xs => by
    have h1 := gS_congr ν ν' s x m n (fun i hi => h i (by simp; omega))
    have h2 := gL_congr ν ν' s xs (m + cnt x) (n + cnt x) (by
      intro i hi
      have := h (cnt x + i) (by simp; omega)
      simpa [Nat.add_assoc] using this)
    simp [h1, h2]
end

/-- `g`, `h` are mutually inverse and `g` is the identity outside `[lo, hi)` -/
structure WinPerm (lo hi : Nat) (g h : Nat → Nat) : Prop where
  hg : ∀ k, h (g k) = k
  gh : ∀ k, g (h k) = k
  out : ∀ k, (k < lo ∨ hi ≤ k) → g k = k

theorem WinPerm.id (lo hi : Nat) : WinPerm lo hi id id := ⟨fun _ => rfl, fun _ => rfl, fun _ _ => rfl⟩

theorem WinPerm.comp {lo hi : Nat} {g1 h1 g2 h2 : Nat → Nat} (w1 : WinPerm lo hi g1 h1) (w2 : WinPerm lo hi g2 h2) :
    WinPerm lo hi (g1 ∘ g2) (h2 ∘ h1) :=
  ⟨fun k => by simp [w1.hg, w2.hg], fun k => by simp [w1.gh, w2.gh],
   fun k hk => by simp [w2.out k hk, w1.out k hk]⟩

theorem WinPerm.widen {lo hi lo' hi' : Nat} {g h : Nat → Nat} (w : WinPerm lo hi g h) (h1 : lo' ≤ lo) (h2 : hi ≤ hi') :
    WinPerm lo' hi' g h :=
  ⟨w.hg, w.gh, fun k hk => w.out k (by omega)⟩

/-- swap the adjacent blocks `[n, n+a)` and `[n+a, n+a+b)` -/
def bswap (n a b k : Nat) : Nat :=
  if k < n then k else if k < n + a then k + b else if k < n + a + b then k - a else k

-- the four facts below: the three-way case split of `bswap` (`k < n`, `k < n + a`, `k < n + a + b`) and linear arithmetic
theorem bswap_fst (n a b i : Nat) (h : i < a) : bswap n a b (n + i) = n + b + i := by
  grind [bswap]
theorem bswap_snd (n a b i : Nat) (h : i < b) : bswap n a b (n + a + i) = n + i := by
  grind [bswap]
theorem bswap_out (n a b k : Nat) (h : k < n ∨ n + a + b ≤ k) : bswap n a b k = k := by
  grind [bswap]
/-- swapping back: with `bswap_out` this makes `bswap` a window permutation (`bswap_win`) -/
theorem bswap_bswap (n a b k : Nat) : bswap n b a (bswap n a b k) = k := by
  grind [bswap]

theorem bswap_win (n a b : Nat) : WinPerm n (n + a + b) (bswap n a b) (bswap n b a) :=
  ⟨bswap_bswap n a b, bswap_bswap n b a, bswap_out n a b⟩

/-- `gL ν s l n` flattens `l` under subject `s`, naming the fresh nodes `ν n, ν (n + 1), …` in the order they are met.
    For a deep permutation `l'` of `l` the ids of the window `[n, n + cnts l)` can be renamed — `g`, with inverse `h`, the
    identity outside the window — so that `l'` under the naming `ν ∘ g` yields the triples of `l` under `ν`, in some
    order; `g` does not depend on `ν`. -/
theorem DP.win {l l' : List (Stmt β)} (d : DP l l') :
    ∀ n : Nat, ∃ g h : Nat → Nat, WinPerm n (n + cnts l) g h ∧
      ∀ (ν : Nat → Nat) (s : Term (BN β)), (gL (ν ∘ g) s l' n).Perm (gL ν s l n) := by
  induction d with
  | nil => intro n; exact ⟨id, id, WinPerm.id _ _, fun ν s => by simp⟩
  | obj p o _ ih =>
    intro n
    obtain ⟨g, h, w, hp⟩ := ih n
    refine ⟨g, h, by simpa using w, fun ν s => ?_⟩
    simpa using hp ν s
  | @anon p a a' l l' da dl iha ihl =>
    intro n
    obtain ⟨g1, h1, w1, hp1⟩ := iha (n + 1)
    obtain ⟨g2, h2, w2, hp2⟩ := ihl (n + 1 + cnts a)
    have ea := da.cnts_eq
    have el := dl.cnts_eq
    refine ⟨g1 ∘ g2, h2 ∘ h1, ?_, fun ν s => ?_⟩
    · exact (w1.widen (by omega) (by simp; omega)).comp (w2.widen (by omega) (by simp; omega))
    · have gn : (g1 ∘ g2) n = n := by
        simp [w2.out n (by omega), w1.out n (by omega)]
      have e1 : gL (ν ∘ g1 ∘ g2) (Term.bnode (BN.fresh (ν n))) a' (n + 1) =
          gL (ν ∘ g1) (Term.bnode (BN.fresh (ν n))) a' (n + 1) :=
        gL_congr _ _ _ _ _ _ (fun i hi => by simp [w2.out (n + 1 + i) (by omega)])
      have e2 : gL (ν ∘ g1) s l (n + 1 + cnts a) = gL ν s l (n + 1 + cnts a) :=
        gL_congr _ _ _ _ _ _ (fun i hi => by simp [w1.out (n + 1 + cnts a + i) (by omega)])
      have q1 := hp1 ν (Term.bnode (BN.fresh (ν n)))
      have q2 := hp2 (ν ∘ g1) s
      rw [e2] at q2
      rw [← e1] at q1
      have gn' : (ν ∘ g1 ∘ g2) n = ν n := by
        show ν ((g1 ∘ g2) n) = ν n
        rw [gn]
      simp only [gL_cons, gS_anon, cnt_anon, gn', ea]
      have q2' : (gL (ν ∘ g1 ∘ g2) s l' (n + (1 + cnts a))).Perm (gL ν s l (n + (1 + cnts a))) := by
        rw [← Nat.add_assoc]; exact q2
      exact (q1.append_right _).append q2'
  | swap x y l =>
    intro n
    refine ⟨bswap n (cnt y) (cnt x), bswap n (cnt x) (cnt y), ?_, fun ν s => ?_⟩
    · exact (bswap_win n (cnt y) (cnt x)).widen (Nat.le_refl _) (by simp; omega)
    · have e1 : gS (ν ∘ bswap n (cnt y) (cnt x)) s y n = gS ν s y (n + cnt x) :=
        gS_congr _ _ _ _ _ _ (fun i hi => by simp [bswap_fst n (cnt y) (cnt x) i hi])
      have e2 : gS (ν ∘ bswap n (cnt y) (cnt x)) s x (n + cnt y) = gS ν s x n :=
        gS_congr _ _ _ _ _ _ (fun i hi => by simp [bswap_snd n (cnt y) (cnt x) i hi])
      have e3 : gL (ν ∘ bswap n (cnt y) (cnt x)) s l (n + cnt y + cnt x) = gL ν s l (n + cnt x + cnt y) :=
        gL_congr _ _ _ _ _ _ (fun i hi => by
          simp [bswap_out n (cnt y) (cnt x) (n + cnt y + cnt x + i) (by omega)]
          congr 1; omega)
      simp only [gL_cons, e1, e2, e3, ← List.append_assoc]
      exact List.perm_append_comm.append_right _
  | @trans a b c d1 d2 ih1 ih2 =>
    intro n
    obtain ⟨g1, h1, w1, hp1⟩ := ih1 n
    obtain ⟨g2, h2, w2, hp2⟩ := ih2 n
    have e := d1.cnts_eq
    refine ⟨g1 ∘ g2, h2 ∘ h1, w1.comp (w2.widen (Nat.le_refl _) (by omega)), fun ν s => ?_⟩
    exact (hp2 (ν ∘ g1) s).trans (hp1 ν s)

/-- ids consumed by the root itself -/
def rootOff (r : Resource β) : Nat := match resSubj r with | some _ => 0 | none => 1
/-- the subject the statements of `r` are flattened with -/
def rootT (ν : Nat → Nat) (r : Resource β) (n : Nat) : Term (BN β) :=
  match resSubj r with | some s => s.map BN.orig | none => Term.bnode (BN.fresh (ν n))
def cntR (r : Resource β) : Nat := rootOff r + cnts (resStmts r)
def cntRs : List (Resource β) → Nat
  | [] => 0
  | r :: rs => cntR r + cntRs rs
def gR (ν : Nat → Nat) (r : Resource β) (n : Nat) : List (Triple (BN β)) :=
  gL ν (rootT ν r n) (resStmts r) (n + rootOff r)
def gRs (ν : Nat → Nat) : List (Resource β) → Nat → List (Triple (BN β))
  | [], _ => []
  | r :: rs, n => gR ν r n ++ gRs ν rs (n + cntR r)

@[simp] theorem cntRs_nil : cntRs ([] : List (Resource β)) = 0 := rfl
@[simp] theorem cntRs_cons (r : Resource β) (rs : List (Resource β)) : cntRs (r :: rs) = cntR r + cntRs rs := rfl
@[simp] theorem gRs_nil (ν : Nat → Nat) (n : Nat) : gRs ν ([] : List (Resource β)) n = [] := rfl
@[simp] theorem gRs_cons (ν : Nat → Nat) (r : Resource β) (rs : List (Resource β)) (n : Nat) :
    gRs ν (r :: rs) n = gR ν r n ++ gRs ν rs (n + cntR r) := rfl

theorem resNewTriples_snd (r : Resource β) (n : Nat) : (r.newTriples n).2 = n + cntR r := by
  cases r with
  | subject s st =>
    cases s <;> simp [Resource.newTriples, stmtsNewTriples_snd, cntR, rootOff, resSubj, resStmts] <;> omega
  | anon st => simp [Resource.newTriples, stmtsNewTriples_snd, cntR, rootOff, resSubj, resStmts]; omega

theorem newTriplesList_snd (rs : List (Resource β)) (n : Nat) : (newTriplesList rs n).2 = n + cntRs rs := by
  induction rs generalizing n with
  | nil => simp [newTriplesList]
  | cons r rs ih => simp [newTriplesList, ih, resNewTriples_snd]; omega

theorem gR_map (ν : Nat → Nat) (r : Resource β) (n : Nat) :
    gR ν r n = (r.newTriples n).1.map (Triple.map (ren ν)) := by
  cases r with
  | subject s st =>
    cases s with
    | none =>
      have := gL_map ν (Term.bnode (BN.fresh n)) st (n + 1)
      simpa [gR, rootT, rootOff, resSubj, resStmts, Resource.newTriples, Term.map, ren] using this
    | some s =>
      have := gL_map ν (s.map BN.orig) st n
      simpa [gR, rootT, rootOff, resSubj, resStmts, Resource.newTriples, term_map_ren_orig] using this
  | anon st =>
    have := gL_map ν (Term.bnode (BN.fresh n)) st (n + 1)
    simpa [gR, rootT, rootOff, resSubj, resStmts, Resource.newTriples, Term.map, ren] using this

theorem gRs_map (ν : Nat → Nat) (rs : List (Resource β)) (n : Nat) :
    gRs ν rs n = (newTriplesList rs n).1.map (Triple.map (ren ν)) := by
  induction rs generalizing n with
  | nil => simp [newTriplesList]
  | cons r rs ih => simp [newTriplesList, ih, gR_map, resNewTriples_snd]

theorem rootT_congr (ν ν' : Nat → Nat) (r r' : Resource β) (m n : Nat) (hs : resSubj r = resSubj r')
    (h : rootOff r = 1 → ν' m = ν n) : rootT ν' r' m = rootT ν r n := by
  unfold rootT
  unfold rootOff at h
  rw [← hs]
  cases hr : resSubj r with
  | none => rw [hr] at h; simp [h rfl]
  | some s => rfl

theorem rootOff_congr (r r' : Resource β) (hs : resSubj r = resSubj r') : rootOff r' = rootOff r := by
  unfold rootOff; rw [hs]

theorem rootOff_le (r : Resource β) : rootOff r ≤ 1 := by
  unfold rootOff; cases resSubj r <;> simp

theorem gR_congr (ν ν' : Nat → Nat) (r : Resource β) (m n : Nat)
    (h : ∀ i, i < cntR r → ν' (m + i) = ν (n + i)) : gR ν' r m = gR ν r n := by
  unfold gR
  unfold cntR at h
  have := rootOff_le r
  rw [rootT_congr ν ν' r r m n rfl (fun e => by simpa using h 0 (by omega))]
  exact gL_congr _ _ _ _ _ _ (fun i hi => by
    have := h (rootOff r + i) (by omega)
    simpa [Nat.add_assoc] using this)

theorem gRs_congr (ν ν' : Nat → Nat) (rs : List (Resource β)) (m n : Nat)
    (h : ∀ i, i < cntRs rs → ν' (m + i) = ν (n + i)) : gRs ν' rs m = gRs ν rs n := by
  induction rs generalizing m n with
  | nil => rfl
  | cons r rs ih =>
    have h1 := gR_congr ν ν' r m n (fun i hi => h i (by simp; omega))
    have h2 := ih (m + cntR r) (n + cntR r) (by
      intro i hi
      have := h (cntR r + i) (by simp; omega)
      simpa [Nat.add_assoc] using this)
    simp [h1, h2]

theorem RP.cntRs_le {rs rs' : List (Resource β)} (h : RP rs rs') : cntRs rs' ≤ cntRs rs := by
  induction h with
  | nil => exact Nat.le_refl _
  | @cons r r' rs rs' hs hd _ ih =>
    simp only [cntRs_cons, cntR, rootOff_congr r r' hs, hd.cnts_eq]; omega
  | drop _ _ ih => simp; omega
  | swap x y l => simp; omega
  | trans _ _ ih1 ih2 => omega

/-- `DP.win` for resource lists (`gRs`; an anonymous root takes the first id of its resource, `rootOff`): what the
    decoder numbers in its own order is, after a renaming inside the window, what the encoder's input stands for. -/
theorem RP.win {rs rs' : List (Resource β)} (d : RP rs rs') :
    ∀ n : Nat, ∃ g h : Nat → Nat, WinPerm n (n + cntRs rs) g h ∧
      ∀ ν : Nat → Nat, (gRs (ν ∘ g) rs' n).Perm (gRs ν rs n) := by
  induction d with
  | nil => intro n; exact ⟨id, id, WinPerm.id _ _, fun ν => by simp⟩
  | @cons r r' rs rs' hs hd dr ih =>
    intro n
    obtain ⟨g1, h1, w1, hp1⟩ := hd.win (n + rootOff r)
    obtain ⟨g2, h2, w2, hp2⟩ := ih (n + cntR r)
    have ec := hd.cnts_eq
    have eo := rootOff_congr r r' hs
    have eR : cntR r' = cntR r := by simp [cntR, ec, eo]
    have hle := rootOff_le r
    refine ⟨g1 ∘ g2, h2 ∘ h1, ?_, fun ν => ?_⟩
    · exact (w1.widen (by omega) (by simp [cntR]; omega)).comp (w2.widen (by omega) (by simp only [cntRs_cons]; omega))
    · have gn : rootOff r = 1 → (ν ∘ g1 ∘ g2) n = ν n := by
        intro e
        show ν (g1 (g2 n)) = ν n
        rw [w2.out n (by simp [cntR]; omega), w1.out n (by omega)]
      have eT : rootT (ν ∘ g1 ∘ g2) r' n = rootT ν r n := rootT_congr _ _ r r' n n hs gn
      have e1 : gL (ν ∘ g1 ∘ g2) (rootT ν r n) (resStmts r') (n + rootOff r) =
          gL (ν ∘ g1) (rootT ν r n) (resStmts r') (n + rootOff r) :=
        gL_congr _ _ _ _ _ _ (fun i hi => by
          simp [w2.out (n + rootOff r + i) (by simp [cntR]; omega)])
      have e2 : gRs (ν ∘ g1) rs (n + cntR r) = gRs ν rs (n + cntR r) :=
        gRs_congr _ _ _ _ _ (fun i hi => by
          simp [w1.out (n + cntR r + i) (by simp [cntR]; omega)])
      have q1 := hp1 ν (rootT ν r n)
      have q2 := hp2 (ν ∘ g1)
      rw [e2] at q2
      rw [← e1] at q1
      simp only [gRs_cons, gR, eT, eo, eR]
      exact q1.append q2
  | @drop r rs rs' hst dr ih =>
    -- `r` has no statements and is not written, but an anonymous root has taken the id `n`: `rs` is numbered from
    -- `n + rootOff r`, `rs'` from `n`; `bswap` moves the ids of `rs` down past that one id
    intro n
    obtain ⟨g1, h1, w1, hp1⟩ := ih (n + rootOff r)
    have hle := dr.cntRs_le
    have eR : cntR r = rootOff r := by simp [cntR, hst]
    refine ⟨g1 ∘ bswap n (cntRs rs) (rootOff r), bswap n (rootOff r) (cntRs rs) ∘ h1, ?_, fun ν => ?_⟩
    · exact (w1.widen (by omega) (by simp [eR]; omega)).comp
        ((bswap_win n (cntRs rs) (rootOff r)).widen (Nat.le_refl _) (by simp [eR]; omega))
    · have e1 : gRs (ν ∘ g1 ∘ bswap n (cntRs rs) (rootOff r)) rs' n = gRs (ν ∘ g1) rs' (n + rootOff r) :=
        gRs_congr _ _ _ _ _ (fun i hi => by
          simp [bswap_fst n (cntRs rs) (rootOff r) i (by omega)])
      rw [e1]
      simpa [gR, hst, eR] using hp1 ν
  | swap x y l =>
    intro n
    refine ⟨bswap n (cntR y) (cntR x), bswap n (cntR x) (cntR y), ?_, fun ν => ?_⟩
    · exact (bswap_win n (cntR y) (cntR x)).widen (Nat.le_refl _) (by simp; omega)
    · have e1 : gR (ν ∘ bswap n (cntR y) (cntR x)) y n = gR ν y (n + cntR x) :=
        gR_congr _ _ _ _ _ (fun i hi => by simp [bswap_fst n (cntR y) (cntR x) i hi])
      have e2 : gR (ν ∘ bswap n (cntR y) (cntR x)) x (n + cntR y) = gR ν x n :=
        gR_congr _ _ _ _ _ (fun i hi => by simp [bswap_snd n (cntR y) (cntR x) i hi])
      have e3 : gRs (ν ∘ bswap n (cntR y) (cntR x)) l (n + cntR y + cntR x) = gRs ν l (n + cntR x + cntR y) :=
        gRs_congr _ _ _ _ _ (fun i hi => by
          simp [bswap_out n (cntR y) (cntR x) (n + cntR y + cntR x + i) (by omega)]
          congr 1; omega)
      simp only [gRs_cons, e1, e2, e3, ← List.append_assoc]
      exact List.perm_append_comm.append_right _
  | @trans a b c d1 d2 ih1 ih2 =>
    intro n
    obtain ⟨g1, h1, w1, hp1⟩ := ih1 n
    obtain ⟨g2, h2, w2, hp2⟩ := ih2 n
    have e := d1.cntRs_le
    refine ⟨g1 ∘ g2, h2 ∘ h1, w1.comp (w2.widen (Nat.le_refl _) (by omega)), fun ν => ?_⟩
    exact (hp2 (ν ∘ g1)).trans (hp1 ν)

theorem term_map_id {γ : Type} (t : Term γ) : t.map (fun b => b) = t := by cases t <;> rfl

theorem ren_of_inv (g h : Nat → Nat) (e : ∀ k, h (g k) = k) (b : BN β) : ren h (ren g b) = b := by
  cases b <;> simp [ren, e]

theorem triple_map_ren_id (g : Nat → Nat) (e : ∀ k, g k = k) (t : Triple (BN β)) : Triple.map (ren g) t = t := by
  have : (ren g : BN β → BN β) = fun b => b := by
    funext b; cases b <;> simp [ren, e]
  cases t; simp [Triple.map, this, term_map_id]

theorem newTriplesList_iso_of_RP {β : Type} {rs rs' : List (Resource β)} (h : RP rs rs') (n : Nat) :
    Spec.Iso (newTriplesList rs' n).1 (newTriplesList rs n).1 := by
  obtain ⟨g, k, w, hp⟩ := h.win n
  refine ⟨ren k, ?_, ?_⟩
  · intro a b hab
    have := congrArg (ren g) hab
    simpa [ren_of_inv k g w.gh] using this
  · have q := hp k
    rw [gRs_map, gRs_map] at q
    have e : (newTriplesList rs' n).1.map (Triple.map (ren (k ∘ g))) = (newTriplesList rs' n).1 := by
      conv => rhs; rw [← List.map_id (newTriplesList rs' n).1]
      apply List.map_congr_left
      intro t _
      exact triple_map_ren_id _ (fun i => by simp [w.hg]) t
    rw [e] at q
    exact q

end RdfModel.Proofs.C02Doc
