/-
  `fuelFor loc` units of fuel suffice — Context Processing never answers `fuel`.
  Invariant: the set of terms `defined` knows only grows (`DGL`); every Create Term Definition call that
  goes past step 1 adds its term, so the number of members of the context definition not yet in `defined`
  (`undef`) bounds the nesting of Create Term Definition and IRI Expansion; a scoped context is a proper
  sub-value.
-/
import RdfModel.Proofs.C10CtxOutcome
namespace RdfModel.JLC
open RdfModel RdfModel.JL

variable {P : Type}

/-- `defined` only grows: every term `a` knows, `b` knows -/
def DGL (a b : List (Str × Bool)) : Prop := ∀ k, mget k a ≠ none → mget k b ≠ none

theorem DGL.refl (a : List (Str × Bool)) : DGL a a := fun _ h => h
theorem DGL.trans {a b c : List (Str × Bool)} (h1 : DGL a b) (h2 : DGL b c) : DGL a c := fun k h => h2 k (h1 k h)

theorem mget_cons {α : Type} (k t : Str) (v : α) (b : List (Str × α)) :
    mget k ((t, v) :: b) = if k == t then some v else mget k b := by
  simp only [mget, List.lookup]
  cases h : k == t <;> simp

theorem DGL_cons {a b : List (Str × Bool)} (t : Str) (v : Bool) (h : DGL a b) : DGL a ((t, v) :: b) := by
  intro k hk
  rw [mget_cons]
  split
  · simp
  · exact h k hk

def Out.NoFuel {α : Type} : Out α → Prop
  | .fuel => False
  | _ => True

@[simp] theorem Out.noFuel_ok {α : Type} (a : α) : (Out.ok a).NoFuel := trivial
@[simp] theorem Out.noFuel_err {α : Type} (e : Err) : (Out.err e : Out α).NoFuel := trivial
@[simp] theorem Out.noFuel_unmodelled {α : Type} : (Out.unmodelled : Out α).NoFuel := trivial
@[simp] theorem Out.noFuel_panic {α : Type} : (Out.panic : Out α).NoFuel := trivial

/-- members of the context definition whose name `defined` does not know -/
def undef (loc : List (Str × Json)) (d : List (Str × Bool)) : Nat :=
  loc.countP (fun m => (mget m.1 d).isNone)

theorem undef_mono {a b : List (Str × Bool)} (h : DGL a b) (loc : List (Str × Json)) : undef loc b ≤ undef loc a :=
  List.countP_mono_left fun m _ hb => by
    cases ha : mget m.1 a with
    | none => rfl
    | some v => exact absurd (Option.isNone_iff_eq_none.1 hb) (h m.1 (by simp [ha]))

/-- defining a member's name takes that member out of the count -/
theorem undef_cons_lt (term : Str) (v : Bool) (d : List (Str × Bool)) (hd : mget term d = none)
    (loc : List (Str × Json)) (hk : hasKey term loc = true) : undef loc ((term, v) :: d) + 1 ≤ undef loc d := by
  obtain ⟨m, hm, e⟩ := List.any_eq_true.1 hk
  obtain ⟨l₁, l₂, rfl⟩ := List.append_of_mem hm
  have e : m.1 = term := by simpa using e
  have h₁ := undef_mono (DGL_cons term v (DGL.refl d)) l₁
  have h₂ := undef_mono (DGL_cons term v (DGL.refl d)) l₂
  simp only [undef, List.countP_append, List.countP_cons, e, hd, mget_cons, beq_self_eq_true, if_true,
    Option.isNone_some, Option.isNone_none, Bool.false_eq_true, if_false] at h₁ h₂ ⊢
  omega

def scopedNeed (v : Json) : Nat :=
  match normalizeValue v with
  | .ok (vo, _) => (match getKey kContext vo with
    | some j => fuelFor j
    | none => 0)
  | .error _ => 0

def scopedSum : List (Str × Json) → Nat
  | [] => 0
  | (_, v) :: ms => scopedNeed v + scopedSum ms

theorem scopedNeed_le_of_getKey (term : Str) : ∀ (loc : List (Str × Json)) (value : Json),
    getKey term loc = some value → scopedNeed value ≤ scopedSum loc
  | [], _, h => by simp [getKey] at h
  | (k, v) :: ms, value, h => by
    simp only [getKey] at h
    split at h
    · simp only [Option.some.injEq] at h
      subst h
      simp [scopedSum]
    · have := scopedNeed_le_of_getKey term ms value h
      simp [scopedSum]; omega

theorem scopedOf_le {loc : List (Str × Json)} {term : Str} {j : Json} (h : ScopedOf loc term j) :
    fuelFor j ≤ scopedSum loc := by
  obtain ⟨value, vo, simple, h1, h2, h3⟩ := h
  have := scopedNeed_le_of_getKey term loc value h1
  simp only [scopedNeed, h2, h3] at this
  exact this

theorem jsonSize_getKey (k : Str) : ∀ (ms : List (Str × Json)) (j : Json), getKey k ms = some j →
    1 + jsonSize j ≤ jsonSizeMembers ms
  | [], _, h => by simp [getKey] at h
  | (k', v) :: ms, j, h => by
    simp only [getKey] at h
    split at h
    · simp only [Option.some.injEq] at h
      subst h
      simp [jsonSizeMembers]
    · have := jsonSize_getKey k ms j h
      simp [jsonSizeMembers]; omega

theorem scopedNeed_le (v : Json) : scopedNeed v ≤ 3 * jsonSize v + 1 := by
  unfold scopedNeed normalizeValue
  split
  · rename_i vo simple heq
    split at heq
    · simp only [Except.ok.injEq, Prod.mk.injEq] at heq
      simp [← heq.1, getKey, kId, kContext, asc]
    · simp only [Except.ok.injEq, Prod.mk.injEq] at heq
      simp [← heq.1, getKey, kId, kContext, asc]
    · rename_i ms
      simp only [Except.ok.injEq, Prod.mk.injEq] at heq
      rw [← heq.1]
      split
      · rename_i j hj
        have := jsonSize_getKey kContext ms j hj
        simp [fuelFor, jsonSize]; omega
      · omega
    · simp at heq
  · omega

theorem scopedSum_le : ∀ (ms : List (Str × Json)), scopedSum ms + 2 * ms.length ≤ 3 * jsonSizeMembers ms
  | [] => by simp [scopedSum, jsonSizeMembers]
  | (_, v) :: ms => by
    have := scopedSum_le ms
    have := scopedNeed_le v
    simp [scopedSum, jsonSizeMembers]; omega

theorem fuelFor_obj (ms : List (Str × Json)) : 2 * ms.length + scopedSum ms + 3 ≤ fuelFor (.obj ms) := by
  have := scopedSum_le ms
  simp [fuelFor, jsonSize]; omega

theorem jsonSize_mem : ∀ (xs : List Json) (x : Json), x ∈ xs → jsonSize x ≤ jsonSizeList xs
  | [], _, h => by simp at h
  | y :: ys, x, h => by
    simp only [List.mem_cons] at h
    rcases h with h | h
    · subst h; simp [jsonSizeList]
    · have := jsonSize_mem ys x h
      simp [jsonSizeList]; omega

theorem fuelFor_item (loc x : Json) (h : x ∈ itemsOf loc) : fuelFor x ≤ fuelFor loc := by
  unfold itemsOf at h
  split at h
  · rename_i xs
    have := jsonSize_mem xs x h
    simp [fuelFor, jsonSize]; omega
  · simp only [List.mem_singleton] at h
    subst h
    exact Nat.le_refl _

/-- Each call hands `n - 1` to the functions it calls. Create Term Definition (third conjunct) first puts
    its term into `defined`, which lowers `undef` by one, and then calls IRI expansion, itself, or Context
    Processing on a scoped context; an IRI expansion with a local context (first conjunct) calls Create
    Term Definition before anything is defined: one unit more than a definition (`+ 2` against `+ 1`), and
    `2 * undef` because between two definitions there may be one expansion. Without a local context
    (second conjunct) an expansion calls nothing and needs the one unit it runs on. Context Processing
    (fourth conjunct) calls both; `fuelFor` of the local context is at least `2 * length + scopedSum + 3`
    of every object among its items (`fuelFor_item`, `fuelFor_obj`). -/
theorem all_fuel (ops : IriOps P) (mode : Mode) : ∀ (n : Nat),
    (∀ loc st s d v, 2 * undef loc st.defined + scopedSum loc + 2 ≤ n →
      (iriExpandStr ops mode n (some loc) st s d v).Sat (DGL st.defined) True False) ∧
    (∀ st s d v, 1 ≤ n → (iriExpandStr ops mode n none st s d v).Sat (DGL st.defined) True False) ∧
    (∀ loc st term b p o, hasKey term loc = true → 2 * undef loc st.defined + scopedSum loc + 1 ≤ n →
      (ctd ops mode n loc st term b p o).Sat (DGL st.defined) True False) ∧
    (∀ active loc b o p, fuelFor loc ≤ n → (processCtx ops mode n active loc b o p).Sat True False)
  | 0 => by
    refine ⟨?_, ?_, ?_, ?_⟩
    · intro loc st s d v h; omega
    · intro st s d v h; omega
    · intro loc st term b p o hk h; omega
    · intro active loc b o p h; simp [fuelFor] at h
  | n + 1 => by
    obtain ⟨hA, hA0, hB, hC⟩ := all_fuel ops mode n
    refine ⟨?_, ?_, ?_, ?_⟩
    · intro loc st s d v hn
      rw [iriExpandStr]
      refine iriExpandBody_sat (.inl trivial) _ (some loc) (fun st' t ms hl hk hdg => ?_) st s d v (DGL.refl _)
      cases hl
      have hm := undef_mono hdg loc
      exact (hB loc st' t none false false hk (by omega)).mono fun _ => hdg.trans
    · intro st s d v _
      rw [iriExpandStr]
      exact iriExpandBody_sat (.inl trivial) _ none (fun _ _ _ hl => nomatch hl) st s d v (DGL.refl _)
    · intro loc st term b p o hk hn
      rw [ctd]
      refine ctdBody_sat (D' := DGL ((term, false) :: st.defined)) (fun t v _ => DGL_cons t v)
        (fun _ => (DGL_cons _ _ (DGL.refl _)).trans) mode _ _ _ loc st term (DGL.refl _) (fun _ => DGL.refl _)
        (fun hnone s x v hdg => ?_) (fun hnone s t hkt hdg => ?_) (fun c j hs => ?_) (fun _ => trivial) b p o
      · have h1 := undef_cons_lt term false st.defined hnone loc hk
        have h2 := undef_mono hdg loc
        exact (hA loc s x false v (by omega)).mono fun _ => hdg.trans
      · have h1 := undef_cons_lt term false st.defined hnone loc hk
        have h2 := undef_mono hdg loc
        exact (hB loc s t none false false hkt (by omega)).mono fun _ => hdg.trans
      · have := scopedOf_le hs
        exact hC c j b true true (by omega)
    · intro active loc b o p hn
      rw [processCtx]
      refine processBody_sat (.inl trivial) mode _ _ (fun st s => ?_) loc (fun ms hms st t pr hk => ?_) _ _ _
      · exact (hA0 st s true true (by simp [fuelFor] at hn; omega)).mono fun _ _ => trivial
      · have h1 := fuelFor_item loc (.obj ms) hms
        have h2 := fuelFor_obj ms
        have h3 : undef ms st.defined ≤ ms.length := List.countP_le_length
        exact (hB ms st t b pr o hk (by omega)).mono fun _ _ => trivial

end RdfModel.JLC
