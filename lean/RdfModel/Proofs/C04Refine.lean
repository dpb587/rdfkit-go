import RdfModel.Proofs.C04NDegree
import RdfModel.Proofs.C04Fuel
import RdfModel.Proofs.C04Tables
namespace RdfModel.Proofs.C04
open RdfModel RdfModel.Proofs.StrOrd RdfModel.C04

variable {β : Type} [DecidableEq β]

theorem encOK_of_tables (T : NQ.Tables) (hT : TablesCanon T) : EncOK T :=
  ⟨fun v h => canonical_iri T v h, fun l d t h => canonical_literal_escaping T hT l d t h⟩

/-- Two hash path lists correspond entry by entry (as the two projections of a list of pairs, so that
    sorting both by the common hash is sorting the pairs). -/
def ZRel (mrs : List (Rdfcanon.NDResult β)) (srs : List (Spec.RDFC10.NDResult β)) : Prop :=
  ∃ zs : List (Rdfcanon.NDResult β × Spec.RDFC10.NDResult β),
    mrs = zs.map (·.1) ∧ srs = zs.map (·.2) ∧ ∀ z ∈ zs, NDRel z.1 z.2

section steps
variable (T : NQ.Tables) (henc : EncOK T) (H : Str → Str) {sb : Spec.RDFC10.B2Q β} (lim : Rdfcanon.Limits)
  (perms : List β → List (List β)) (hperms : PermsAgree lim.maxPermutations perms)

include henc hperms in
theorem hashPathList_rel {st : Rdfcanon.State β} {cs : Spec.RDFC10.Issuer β}
    (hb : BRel T st.b2q sb) (hc : CRel st.canon cs) (l : List β) :
    Refines ZRel (Rdfcanon.hashPathList H st lim l)
      (Spec.RDFC10.hashPathList H perms sb cs (lim.maxRecursionDepth + 1) l) := by
  induction l with
  | nil => exact ⟨_, rfl, [], rfl, rfl, nofun⟩
  | cons n rest ih =>
    simp only [Rdfcanon.hashPathList, Spec.RDFC10.hashPathList, hc.getIfKnown n]
    cases cs.get? n with
    | some id => exact ih
    | none =>
      have hn := hashNDegree_rel T henc H hb hc lim.maxPermutations perms hperms
        (lim.maxRecursionDepth + 1) n _ _ (IRel.init.get n).2
      simp only [Option.isSome_none, Bool.false_eq_true, if_false]
      split
      · trivial
      · next hnm => rw [hnm] at hn; exact hn
      · next r hnm =>
        rw [hnm] at hn
        obtain ⟨sr, hs, hr⟩ := hn
        rw [hs]
        cases hrm : Rdfcanon.hashPathList H st lim rest with
        | limit l => trivial
        | panic => rw [hrm] at ih; exact ih
        | ok rs =>
          rw [hrm] at ih
          obtain ⟨_, hz, zs, rfl, rfl, hzs⟩ := ih
          rw [hz]
          exact ⟨_, rfl, (r, sr) :: zs, rfl, rfl, List.forall_mem_cons.2 ⟨hr, hzs⟩⟩

theorem foldl_issue_rel (zs : List (Rdfcanon.NDResult β × Spec.RDFC10.NDResult β))
    (cm : Rdfcanon.Issuer β) (cs : Spec.RDFC10.Issuer β) (hc : CRel cm cs) (hz : ∀ z ∈ zs, NDRel z.1 z.2) :
    CRel ((zs.map (·.1)).foldl (fun c r => Rdfcanon.issueAll c r.issuer.order) cm)
      ((zs.map (·.2)).foldl (fun c r => Spec.RDFC10.issueAll c (r.issuer.issued.map (·.1))) cs) := by
  rw [List.foldl_map, List.foldl_map]
  exact List.foldl_rel hc fun z hm _ _ h => by rw [(hz z hm).2.order]; exact h.issueAll _

include henc hperms in
theorem step5_rel (gs : List (Str × List β)) (st : Rdfcanon.State β) (cs : Spec.RDFC10.Issuer β)
    (hb : BRel T st.b2q sb) (hc : CRel st.canon cs) :
    Refines (fun st' cs' => CRel st'.canon cs' ∧ st'.all = st.all)
      (Rdfcanon.step5 H lim gs st) (Spec.RDFC10.step5 H perms sb (lim.maxRecursionDepth + 1) gs cs) := by
  induction gs generalizing st cs with
  | nil => exact ⟨_, rfl, hc, rfl⟩
  | cons g rest ih =>
    obtain ⟨hsh, ids⟩ := g
    have hh := hashPathList_rel T henc H lim perms hperms hb hc ids
    simp only [Rdfcanon.step5, Spec.RDFC10.step5]
    split
    · trivial
    · next hm => rw [hm] at hh; exact hh
    · next mrs hm =>
      rw [hm] at hh
      obtain ⟨_, hs, zs, rfl, rfl, hz⟩ := hh
      -- sort the pairs once; both sorted lists are projections of it
      simp only [hs]
      rw [Proofs.C03.mergeSort_map_key (k := fun z => z.1.hash) (f := (·.1)) zs fun _ _ => rfl,
        Proofs.C03.mergeSort_map_key (k := fun z => z.1.hash) (f := (·.2)) zs fun z hz' => (hz z hz').1.symm]
      exact ih { st with canon := _ } _ hb
        (foldl_issue_rel _ st.canon cs hc fun z hz' => hz z (List.mem_mergeSort.mp hz'))

end steps

end RdfModel.Proofs.C04
