/-
  The statement machine on one token — single scan calls of `Model/TurtleDoc.lean`, stated without the tables: what is
  assumed is where `skipWs` stops (`Vis`), what a token producer answers on the text at hand, and,
  for a prefixed name, the few facts about its label the scan functions look at (`PNText`).
-/
import RdfModel.Proofs.C08Mach
import RdfModel.Proofs.TtlDocInv
import RdfModel.Props.C08DocDefs
import RdfModel.Props.C08Tokens
namespace RdfModel.C08
open RdfModel RdfModel.Ttl RdfModel.TtlDoc

variable {C : Cfg}

/-- a rune at which `skipWs` stops -/
def Vis (C : Cfg) (c : Nat) : Prop := c ≠ 0x23 ∧ isWs C c = false

theorem skipWs_vis {c : Nat} (h : Vis C c) (r : List Nat) : skipWs C .eof false (c :: r) = .rune c r := by
  rw [skipWs]; simp [h.1, h.2]

/-- inputs the machine cannot tell apart: equal after white space and comments -/
def SkEq (C : Cfg) (a b : List Nat) : Prop := skipWs C .eof false a = skipWs C .eof false b

theorem SkEq.rfl' {a : List Nat} : SkEq C a a := rfl
theorem SkEq.trans {a b c : List Nat} (h1 : SkEq C a b) (h2 : SkEq C b c) : SkEq C a c := Eq.trans h1 h2
theorem SkEq.symm {C : Cfg} {a b : List Nat} (h : SkEq C a b) : SkEq C b a := Eq.symm h

/-- `rest` begins (no layout) with the token rune `c` -/
def Follows (C : Cfg) (rest : List Nat) (c : Nat) (r : List Nat) : Prop :=
  rest = c :: r ∧ skipWs C .eof false rest = .rune c r

theorem Follows.skEq {rest : List Nat} {c : Nat} {r : List Nat} (h : Follows C rest c r) : SkEq C (c :: r) rest := by
  rw [h.1]; exact SkEq.rfl'

theorem follows_vis {c : Nat} (h : Vis C c) (r : List Nat) : Follows C (c :: r) c r := ⟨rfl, skipWs_vis h r⟩

theorem skEq_rune {a : List Nat} {c : Nat} {r : List Nat} (h : skipWs C .eof false a = .rune c r) : SkEq C (c :: r) a := by
  unfold SkEq
  rw [h]
  exact skipWs_idem C .eof false a c r h

open TA in
/-- decoder environment of a denotation state -/
def envOf (st : DState) : Env := { base := st.base, prefixes := st.ns, nextAnon := st.next }

open TA in
theorem lookupNs_eq (p : List Nat) (ns : List (List Nat × List Nat)) : lookupPfx p ns = lookupNs p ns := by
  induction ns with
  | nil => rfl
  | cons a rest ih =>
    obtain ⟨q, x⟩ := a
    simp only [lookupPfx, lookupNs, ih]

theorem stepConf_rune {f : Frame} {s : List Frame} {inp : List Nat} {env : Env} {a : Nat} {r : List Nat} {o : Out}
    (hsk : skipWs C .eof false inp = .rune a r) (hfn : stepFn C .eof f.k f.x env (.rune a r) = .ok o) :
    stepConf C .eof ⟨f :: s, inp, env⟩ =
      some (⟨o.cur.toList ++ (if o.term then [] else o.push.reverse ++ s), o.inp, o.env⟩, o.emit) := by
  simp [stepConf, scanFn, hsk, hfn]

/-- at statement level the end of the input ends the run: `terminate()` -/
theorem stepConf_end (x : Ectx) (s : List Frame) (inp : List Nat) (env : Env)
    (h : skipWs C .eof false inp = .end_) :
    stepConf C .eof ⟨⟨x, .statement⟩ :: s, inp, env⟩ = some (⟨[], [], env⟩, none) := by
  simp [stepConf, scanFn, h, stepFn]

theorem Steps.first {f : Frame} {s : List Frame} {inp : List Nat} {env : Env} {a : Nat} {r : List Nat} {o : Out}
    {ss : List Stmt} {cf : Conf}
    (hsk : skipWs C .eof false inp = .rune a r) (hfn : stepFn C .eof f.k f.x env (.rune a r) = .ok o)
    (hrest : Steps C .eof ⟨o.cur.toList ++ (if o.term then [] else o.push.reverse ++ s), o.inp, o.env⟩ ss cf) :
    Steps C .eof ⟨f :: s, inp, env⟩ (o.emit.toList ++ ss) cf :=
  Steps.step (stepConf_rune hsk hfn) hrest

theorem Steps.tok {x : Ectx} {k : Cont} {s : List Frame} {inp text : List Nat} {env : Env} {c : Nat} {tl : List Nat}
    {o : Out} {ss : List Stmt} {cf : Conf} (hin : SkEq C inp text) (htext : text = c :: tl) (hv : Vis C c)
    (hfn : stepFn C .eof k x env (.rune c tl) = .ok o)
    (hrest : Steps C .eof ⟨o.cur.toList ++ (if o.term then [] else o.push.reverse ++ s), o.inp, o.env⟩ ss cf) :
    Steps C .eof ⟨⟨x, k⟩ :: s, inp, env⟩ (o.emit.toList ++ ss) cf := by
  apply Steps.first (f := ⟨x, k⟩) (a := c) (r := tl) _ hfn hrest
  rw [hin, htext]
  exact skipWs_vis hv tl

theorem Steps.fol {x : Ectx} {k : Cont} {s : List Frame} {inp rest : List Nat} {env : Env} {c : Nat} {tl : List Nat}
    {o : Out} {ss : List Stmt} {cf : Conf} (hin : SkEq C inp rest) (hf : Follows C rest c tl)
    (hfn : stepFn C .eof k x env (.rune c tl) = .ok o)
    (hrest : Steps C .eof ⟨o.cur.toList ++ (if o.term then [] else o.push.reverse ++ s), o.inp, o.env⟩ ss cf) :
    Steps C .eof ⟨⟨x, k⟩ :: s, inp, env⟩ (o.emit.toList ++ ss) cf := by
  apply Steps.first (f := ⟨x, k⟩) (a := c) (r := tl) _ hfn hrest
  rw [hin]; exact hf.2

section obj
variable (x : Ectx) (env : Env)

theorem fn_object_bracket (rest : List Nat) :
    stepFn C .eof .object x env (.rune 0x5b rest) =
      .ok { push := [⟨{ x with subj := some env.fresh.1, pred := none }, .bnplEnd⟩,
                     ⟨{ x with subj := some env.fresh.1, pred := none }, .polContinue⟩,
                     ⟨{ x with subj := some env.fresh.1, pred := none }, .pol⟩],
            emit := some (mkStmt x env.fresh.1), inp := rest, env := env.fresh.2 } := by
  simp [stepFn, stepObject]

theorem fn_object_paren (rest : List Nat) :
    stepFn C .eof .object x env (.rune 0x28 rest) = .ok { cur := some ⟨x, .collOpenObj⟩, inp := rest, env := env } := by
  simp [stepFn, stepObject]

theorem fn_collOpenObj_close (rest : List Nat) :
    stepFn C .eof .collOpenObj x env (.rune 0x29 rest) =
      .ok { emit := some (mkStmt x (.iri TtlDoc.rdfNil)), inp := rest, env := env.fresh.2 } := by
  simp [stepFn, stepCollection]

theorem fn_collOpenObj_item (c : Nat) (tl : List Nat) (hc : c ≠ 0x29) (sj : TtlDoc.T)
    (hs : x.subj = some sj) :
    stepFn C .eof .collOpenObj x env (.rune c tl) =
      .ok { cur := some ⟨{ x with subj := some env.fresh.1, pred := some (.iri TtlDoc.rdfFirst) }, .object⟩,
            push := [⟨{ x with subj := some env.fresh.1, pred := some (.iri TtlDoc.rdfFirst) }, .collContinue⟩],
            emit := some (mkStmt x env.fresh.1), inp := c :: tl, env := env.fresh.2 } := by
  simp [stepFn, stepCollection, hc, hs]

theorem fn_collContinue_close (tl : List Nat) :
    stepFn C .eof .collContinue x env (.rune 0x29 tl) =
      .ok { emit := some { s := x.subj, p := some (.iri TtlDoc.rdfRest), o := .iri TtlDoc.rdfNil, g := x.graph },
            inp := tl, env := env } := by
  simp [stepFn]

theorem fn_collContinue_item (c : Nat) (tl : List Nat) (hc : c ≠ 0x29) :
    stepFn C .eof .collContinue x env (.rune c tl) =
      .ok { cur := some ⟨{ x with subj := some env.fresh.1 }, .object⟩,
            push := [⟨{ x with subj := some env.fresh.1 }, .collContinue⟩],
            emit := some { s := x.subj, p := some (.iri TtlDoc.rdfRest), o := env.fresh.1, g := x.graph },
            inp := c :: tl, env := env.fresh.2 } := by
  simp [stepFn, hc]

theorem fn_object_string (s B : List Nat) (c : Nat) (tl : List Nat) (hq : c = 0x22 ∨ c = 0x27)
    (hstr : C.P.string .eof (c :: tl) = .ok s B) :
    stepFn C .eof .object x env (.rune c tl) = stepLiteralTail C .eof x env s B := by
  rcases hq with rfl | rfl <;> simp [stepFn, stepObject, hstr]

theorem literalTail_plain (s : List Nat) (a : Nat) (A : List Nat) (h1 : a ≠ 0x40) (h2 : a ≠ 0x5e) :
    stepLiteralTail C .eof x env s (a :: A) =
      .ok { emit := some (mkStmt x (.lit s xsdString none)), inp := a :: A, env := env } := by
  simp only [stepLiteralTail, h1, h2, if_false]

theorem literalTail_lang (s tag A : List Nat) (hl : C.P.langtag .eof (0x40 :: (tag ++ A)) = .ok tag A) :
    stepLiteralTail C .eof x env s (0x40 :: (tag ++ A)) =
      .ok { emit := some (mkStmt x (.lit s rdfLangString (some tag))), inp := A, env := env } := by
  simp only [stepLiteralTail, if_true, hl]

theorem literalTail_typed (s : List Nat) (c2 : Nat) (tl2 : List Nat) (dt A : List Nat)
    (hiri : (if c2 = 0x3c then iriIRIREF C .eof env (c2 :: tl2) else iriPName C .eof env (c2 :: tl2)) = .ok dt A)
    (hdt : ¬(dt = rdfLangString ∨ dt = rdfDirLangString)) :
    stepLiteralTail C .eof x env s (0x5e :: 0x5e :: c2 :: tl2) =
      .ok { emit := some (mkStmt x (.lit s dt none)), inp := A, env := env } := by
  simp only [stepLiteralTail]
  simp only [show (0x5e : Nat) ≠ 0x40 by decide, if_false, if_true, ne_eq, not_true_eq_false]
  simp only [hiri, hdt, if_false]

theorem num_head (lex dt : List Nat) (h : bareLiteralDatatype lex = some dt) (hdt : dt ≠ xsdBoolean) :
    ∃ c lt, lex = c :: lt ∧
      ((c = 0x2b ∨ c = 0x2d ∨ isDigit c = true) ∨ (c = 0x2e ∧ ∃ d lt', lt = d :: lt' ∧ isDigit d = true)) :=
  Proofs.C02Tok.bare_head lex dt h (Proofs.C02Tok.not_bool_of_dt h hdt)

theorem fn_object_num (lex dt A : List Nat) (k : NumKind) (c : Nat) (tl : List Nat)
    (htext : lex ++ A = c :: tl) (h : bareLiteralDatatype lex = some dt) (hdt : dt ≠ xsdBoolean)
    (hk : k.datatype = dt) (hp : C.P.numeric .eof (lex ++ A) = .ok (k, lex) A) :
    stepFn C .eof .object x env (.rune c tl) =
      .ok { emit := some (mkStmt x (.lit lex dt none)), inp := A, env := env } := by
  obtain ⟨c', lt, rfl, hcl⟩ := num_head lex dt h hdt
  simp only [List.cons_append, List.cons.injEq] at htext
  obtain ⟨rfl, rfl⟩ := htext
  simp only [List.cons_append] at hp
  have hnum : emitOfNumeric x env (C.P.numeric .eof (c' :: (lt ++ A))) =
      .ok { emit := some (mkStmt x (.lit (c' :: lt) dt none)), inp := A, env := env } := by
    simp only [hp, emitOfNumeric, hk]
  rcases hcl with hcl | ⟨rfl, d, lt', rfl, hd⟩
  · have hcls : c' = 0x2b ∨ c' = 0x2d ∨ (0x30 ≤ c' ∧ c' ≤ 0x39) := by simpa [isDigit, NQ.isDigit] using hcl
    have n : c' ≠ 0x3c ∧ c' ≠ 0x5f ∧ c' ≠ 0x28 ∧ c' ≠ 0x5b ∧ c' ≠ 0x22 ∧ c' ≠ 0x27 ∧ c' ≠ 0x2e := by omega
    simp only [stepFn, stepObject, n.1, n.2.1, n.2.2.1, n.2.2.2.1, n.2.2.2.2.1, n.2.2.2.2.2.1, n.2.2.2.2.2.2, if_false,
      or_false, hcls, if_true, hnum]
  · have hd' : ¬(d < 0x30 ∨ d > 0x39) := by simp [isDigit, NQ.isDigit] at hd; omega
    simp only [List.cons_append] at hnum ⊢
    simp [stepFn, stepObject, hd', hnum]

theorem fn_object_bool (b : Bool) (A : List Nat) (c : Nat) (tl : List Nat) (hc : c = 0x74 ∨ c = 0x66)
    (hb : C.P.boolean .eof (c :: tl) = .bool b A) :
    stepFn C .eof .object x env (.rune c tl) =
      .ok { emit := some (mkStmt x (.lit (asc (if b then "true" else "false")) xsdBoolean none)), inp := A, env := env } := by
  rcases hc with rfl | rfl <;> simp [stepFn, stepObject, hb]

end obj

section pol
variable (x : Ectx) (env : Env)

theorem polGo_eq (x : Ectx) (p : TtlDoc.T) (inp : List Nat) (env : Env) :
    polGo x p inp env = .ok { cur := some ⟨{ x with pred := some p }, .object⟩,
                              push := [⟨{ x with pred := some p }, .objListContinue⟩], inp := inp, env := env } := rfl

theorem stepPOL_a (w : Nat) (tl : List Nat) (hw : C.isSpace w = true) :
    stepPOL C .eof x env 0x61 (w :: tl) = polGo x (.iri TtlDoc.rdfType) tl env := by
  simp [stepPOL, hw]

theorem fn_pol_of (c : Nat) (tl : List Nat) (p : TtlDoc.T) (A : List Nat) (req : Bool)
    (h : stepPOL C .eof x env c tl = polGo x p A env) :
    stepFn C .eof (if req then .polRequired else .pol) x env (.rune c tl) = polGo x p A env := by
  cases req
  · simp only [Bool.false_eq_true, if_false, stepFn, h]
  · simp only [if_true, stepFn, h, polGo_eq]
    rfl

theorem fn_pol_pop (c : Nat) (tl : List Nat) (hc : c = 0x2e ∨ c = 0x5d ∨ c = 0x7d ∨ c = 0x3b) (hb : C.pnBase c = false) :
    stepFn C .eof .pol x env (.rune c tl) = .ok { inp := c :: tl, env := env } := by
  rcases hc with h | h | h | h <;> subst h <;> simp [stepFn, stepPOL, hb]

theorem fn_polContinue_semi (tl : List Nat) :
    stepFn C .eof .polContinue x env (.rune 0x3b tl) =
      .ok { cur := some ⟨x, .pol⟩, push := [⟨x, .polContinue⟩], inp := tl, env := env } := by
  simp [stepFn]

theorem fn_polContinue_pop (c : Nat) (tl : List Nat) (hc : c ≠ 0x3b) :
    stepFn C .eof .polContinue x env (.rune c tl) = .ok { inp := c :: tl, env := env } := by
  simp [stepFn, hc]

theorem fn_objListContinue_comma (tl : List Nat) :
    stepFn C .eof .objListContinue x env (.rune 0x2c tl) =
      .ok { cur := some ⟨x, .object⟩, push := [⟨x, .objListContinue⟩], inp := tl, env := env } := by
  simp [stepFn]

theorem fn_objListContinue_pop (c : Nat) (tl : List Nat) (hc : c ≠ 0x2c) :
    stepFn C .eof .objListContinue x env (.rune c tl) = .ok { inp := c :: tl, env := env } := by
  simp [stepFn, hc]

theorem fn_triplesEnd (tl : List Nat) :
    stepFn C .eof .triplesEnd x env (.rune 0x2e tl) = .ok { inp := tl, env := env } := by
  simp [stepFn]

theorem fn_bnplEnd (tl : List Nat) :
    stepFn C .eof .bnplEnd x env (.rune 0x5d tl) = .ok { inp := tl, env := env } := by
  simp [stepFn]

end pol

theorem matchKeyword_other (e : Ttl.End) : ∀ (kw p' r : List Nat), (∀ k ∈ kw, k ≠ 0x3a) → kw.isPrefixOf p' = false →
    matchKeyword e kw (p' ++ 0x3a :: r) = some none := by
  intro kw
  induction kw with
  | nil => intro p' r _ h; simp at h
  | cons k ks ih =>
    intro p' r hk h
    cases p' with
    | nil =>
      simp only [List.nil_append, matchKeyword]
      rw [if_neg (fun hh => hk k List.mem_cons_self hh.symm)]
    | cons a p'' =>
      simp only [List.cons_append, matchKeyword]
      by_cases hak : a = k
      · subst hak
        simp only [if_true]
        apply ih p'' r (fun k' hk' => hk k' (List.mem_cons_of_mem _ hk'))
        simpa [List.isPrefixOf] using h
      · rw [if_neg hak]

theorem scanBoolean_other {p : List Nat} (hb : boolPrefixed p = false) (rest : List Nat) (c : Nat) (tl : List Nat)
    (htext : p ++ 0x3a :: rest = c :: tl) : scanBoolean .eof (c :: tl) = .other := by
  simp only [boolPrefixed, Bool.or_eq_false_iff] at hb
  rw [← htext]
  cases p with
  | nil => simp [scanBoolean]
  | cons a p' =>
    simp only [List.cons_append, scanBoolean]
    by_cases h1 : a = 0x74
    · subst h1
      have : (asc "rue").isPrefixOf p' = false := by
        have := hb.1; rw [Proofs.C02Tok.asc_true] at this; rw [Proofs.C02Tok.asc_rue]
        simpa [List.isPrefixOf] using this
      simp only [if_true]
      rw [matchKeyword_other .eof (asc "rue") p' rest (by decide) this]
    · by_cases h2 : a = 0x66
      · subst h2
        have : (asc "alse").isPrefixOf p' = false := by
          have := hb.2; rw [Proofs.C02Tok.asc_false] at this; rw [Proofs.C02Tok.asc_alse]
          simpa [List.isPrefixOf] using this
        simp only [show (0x66 : Nat) ≠ 0x74 by decide, if_false, if_true]
        rw [matchKeyword_other .eof (asc "alse") p' rest (by decide) this]
      · simp [h1, h2]

/-- the runes of a prefix label after the first, the colon, and whatever follows -/
def Labely (C : Cfg) (l : List Nat) : Prop :=
  ∃ q R, l = q ++ 0x3a :: R ∧ ∀ a ∈ q, C.isSpace a = false ∧ a ≠ 0x3c

/-- What the scan functions look at in the text `c :: tl` of a prefixed name: that `skipWs` stops at
    `c`, the dispatch on `c`, and — behind a letter that could start `BASE`, `PREFIX`, `GRAPH` or be the
    keyword `a` — label runes up to the colon that are neither white space nor `<`. -/
structure PNText (C : Cfg) (c : Nat) (tl : List Nat) : Prop where
  vis : Vis C c
  colon : C.isSpace 0x3a = false
  base : c = 0x3a ∨ C.pnBase c = true
  ne : ∀ d ∈ delims, d ≠ 0x3a → c ≠ d
  nd : ¬(0x30 ≤ c ∧ c ≤ 0x39) ∧ c ≠ 0x2d ∧ c ≠ 0x5f
  rest : c ≠ 0x3a → Labely C tl

theorem Labely.head {l : List Nat} (hc : C.isSpace 0x3a = false) (h : Labely C l) :
    ∃ b tl, l = b :: tl ∧ C.isSpace b = false ∧ b ≠ 0x3c := by
  obtain ⟨q, R, rfl, hq⟩ := h
  cases q with
  | nil => exact ⟨0x3a, R, rfl, hc, by decide⟩
  | cons b q' => exact ⟨b, q' ++ 0x3a :: R, rfl, (hq b List.mem_cons_self).1, (hq b List.mem_cons_self).2⟩

theorem matchKw_labely : ∀ (ks : List (Nat × Nat)) (l : List Nat), (∀ k ∈ ks, k.1 ≠ 0x3a ∧ k.2 ≠ 0x3a) → Labely C l →
    matchKw ks l = .mismatch ∨ ∃ l', matchKw ks l = .ok l' ∧ Labely C l' := by
  intro ks
  induction ks with
  | nil => intro l _ h; exact Or.inr ⟨l, rfl, h⟩
  | cons k ks ih =>
    intro l hk h
    obtain ⟨q, R, rfl, hq⟩ := h
    obtain ⟨u, lo⟩ := k
    cases q with
    | nil =>
      left
      have := hk (u, lo) List.mem_cons_self
      simp only [List.nil_append, matchKw]
      rw [if_neg (by intro hh; rcases hh with hh | hh; exact this.1 hh.symm; exact this.2 hh.symm)]
    | cons b q' =>
      simp only [List.cons_append, matchKw]
      split
      · exact ih _ (fun k' hk' => hk k' (List.mem_cons_of_mem _ hk')) ⟨q', R, rfl, fun a ha => hq a (List.mem_cons_of_mem _ ha)⟩
      · exact Or.inl rfl

theorem kwCI_ne (s : String) (h : ∀ c ∈ asc s, c ≠ 0x3a ∧ c + 0x20 ≠ 0x3a) : ∀ k ∈ kwCI s, k.1 ≠ 0x3a ∧ k.2 ≠ 0x3a := by
  intro k hk
  simp only [kwCI, List.mem_map] at hk
  obtain ⟨c, hc, rfl⟩ := hk
  exact h c hc

/-- what the statement-level function does with a subject that is a prefixed name: TriG reads it at once (graph label or
    subject), Turtle hands it to `.subjPName`; `kwFallback` is this (`kwFallback_eq`) -/
def pnameStart (C : Cfg) (x : Ectx) (env : Env) (c : Nat) (tl : List Nat) : FnRes :=
  if C.trig then labelOrSubject x (termPName C .eof env (c :: tl))
  else .ok { cur := some ⟨x, .subjPName⟩, push := [⟨x, .triplesEnd⟩], inp := c :: tl, env := env }

theorem kwFallback_eq (x : Ectx) (env : Env) (c : Nat) (tl : List Nat) :
    kwFallback C .eof x env (c :: tl) = pnameStart C x env c tl := rfl

section kw
variable (x : Ectx) (env : Env)

theorem stepKwBase_pname (hc : C.isSpace 0x3a = false) (c : Nat) (tl : List Nat) (h : Labely C tl) :
    stepKwBase C .eof x env c tl = pnameStart C x env c tl := by
  unfold stepKwBase
  rcases matchKw_labely (kwCI "ASE") tl (kwCI_ne "ASE" (by decide)) h with hm | ⟨l', hm, hn⟩
  · rw [hm]; rfl
  · rw [hm]
    obtain ⟨b, tl', rfl, hs, hb⟩ := hn.head hc
    simp only [hb, if_false, hs, Bool.not_false, if_true]
    rfl

theorem stepKwSpace_pname (hc : C.isSpace 0x3a = false) (s : String) (hs : ∀ c ∈ asc s, c ≠ 0x3a ∧ c + 0x20 ≠ 0x3a)
    (k : Cont) (c : Nat) (tl : List Nat) (h : Labely C tl) :
    stepKwSpace C .eof x env (kwCI s) k c tl = pnameStart C x env c tl := by
  unfold stepKwSpace
  rcases matchKw_labely (kwCI s) tl (kwCI_ne s hs) h with hm | ⟨l', hm, hn⟩
  · rw [hm]; rfl
  · rw [hm]
    obtain ⟨b, tl', rfl, hs, hb⟩ := hn.head hc
    simp only [hs, Bool.not_false, if_true]
    rfl

theorem stepStatementRune_pname {c : Nat} {tl : List Nat} (h : PNText C c tl) :
    stepStatementRune C .eof x env c tl = pnameStart C x env c tl := by
  have n := h.ne
  obtain ⟨nd, nm, nu⟩ := h.nd
  unfold stepStatementRune
  rw [if_neg (n 0x40 (by decide) (by decide))]
  split
  · next hh => exact stepKwBase_pname x env h.colon c tl (h.rest (by rcases hh with hh | hh <;> omega))
  · split
    · next hh =>
      exact stepKwSpace_pname x env h.colon "REFIX" (by decide) _ c tl (h.rest (by rcases hh with hh | hh <;> omega))
    · split
      · next hh =>
        exact stepKwSpace_pname x env h.colon "RAPH" (by decide) _ c tl (h.rest (by rcases hh.2 with hh | hh <;> omega))
      · rw [if_neg (by intro hh; exact n 0x7b (by decide) (by decide) hh.2)]
        simp only [stepSubjectStart, n 0x3c (by decide) (by decide), nu, n 0x5b (by decide) (by decide),
          n 0x28 (by decide) (by decide), if_false, h.base, if_true, pnameStart]

end kw

section kwd
variable (x : Ectx) (env : Env)

theorem matchKw_kwCase (R : List Nat) : ∀ (u : List Nat) (n : Nat),
    matchKw (u.map (fun c => (c, c + 0x20))) (TA.kwCase n u ++ R) = .ok R := by
  intro u
  induction u with
  | nil => intro n; rfl
  | cons a u ih =>
    intro n
    simp only [List.map_cons, TA.kwCase, List.cons_append, matchKw]
    by_cases hn : n % 2 = 1
    · simp only [hn, if_true, or_true]; exact ih (n / 2)
    · simp only [hn, if_false, true_or, if_true]; exact ih (n / 2)

theorem matchKw_exact (R : List Nat) : ∀ (u : List Nat), matchKw (u.map (fun c => (c, c))) (u ++ R) = .ok R := by
  intro u
  induction u with
  | nil => rfl
  | cons a u ih => simp [matchKw, ih]

theorem asc_atprefix : asc "@prefix" = 0x40 :: 0x70 :: asc "refix" := by decide
theorem asc_atbase : asc "@base" = 0x40 :: 0x62 :: asc "ase" := by decide

theorem kwExact_eq (s : String) : kwExact s = (asc s).map (fun c => (c, c)) := rfl

theorem fn_statement_atprefix (A : List Nat) :
    stepFn C .eof .statement x env (.rune 0x40 (0x70 :: (asc "refix" ++ A))) =
      .ok { cur := some ⟨x, .atPrefixNS⟩, push := [⟨x, .statement⟩], inp := A, env := env } := by
  simp [stepFn, stepStatementRune, stepAtDirective, kwExact_eq, matchKw_exact, withSelf]

theorem fn_statement_atbase (A : List Nat) :
    stepFn C .eof .statement x env (.rune 0x40 (0x62 :: (asc "ase" ++ A))) =
      .ok { cur := some ⟨x, .atBaseIRI⟩, push := [⟨x, .statement⟩], inp := A, env := env } := by
  simp [stepFn, stepStatementRune, stepAtDirective, kwExact_eq, matchKw_exact, withSelf]

theorem kwCI_eq (s : String) : kwCI s = (asc s).map (fun c => (c, c + 0x20)) := rfl

theorem asc_PREFIX : asc "PREFIX" = 0x50 :: asc "REFIX" := by decide
theorem asc_BASE : asc "BASE" = 0x42 :: asc "ASE" := by decide
theorem asc_GRAPH : asc "GRAPH" = 0x47 :: asc "RAPH" := by decide

theorem kwCase_text {n k : Nat} {ks R : List Nat} {c : Nat} {tl : List Nat} (h : TA.kwCase n (k :: ks) ++ R = c :: tl) :
    (c = k ∨ c = k + 0x20) ∧ tl = TA.kwCase (n / 2) ks ++ R := by
  simp only [TA.kwCase, List.cons_append, List.cons.injEq] at h
  refine ⟨?_, h.2.symm⟩
  rw [← h.1]; split <;> simp

theorem fn_statement_PREFIX (n : Nat) (w : Nat) (A : List Nat) (hw : C.isSpace w = true)
    (c : Nat) (tl : List Nat) (htext : TA.kwCase n (asc "PREFIX") ++ w :: A = c :: tl) :
    stepFn C .eof .statement x env (.rune c tl) =
      .ok { cur := some ⟨x, .sparqlPrefixNS⟩, push := [⟨x, .statement⟩], inp := A, env := env } := by
  rw [asc_PREFIX] at htext
  obtain ⟨hcc, rfl⟩ := kwCase_text htext
  have h40 : c ≠ 0x40 := by omega
  have hb : ¬(c = 0x42 ∨ c = 0x62) := by omega
  simp only [stepFn, stepStatementRune, h40, hb, hcc, if_false, if_true, stepKwSpace, kwCI_eq, matchKw_kwCase,
    hw, Bool.not_true, Bool.false_eq_true, withSelf]

theorem fn_statement_GRAPH (htr : C.trig = true) (x : Ectx) (env : Env) (n : Nat) (w : Nat) (A : List Nat)
    (hw : C.isSpace w = true) (c : Nat) (tl : List Nat) (htext : TA.kwCase n (asc "GRAPH") ++ w :: A = c :: tl) :
    stepFn C .eof .statement x env (.rune c tl) =
      .ok { cur := some ⟨x, .graphLabel⟩, push := [⟨x, .statement⟩], inp := A, env := env } := by
  rw [asc_GRAPH] at htext
  obtain ⟨hcc, rfl⟩ := kwCase_text htext
  have h40 : c ≠ 0x40 := by omega
  have hb : ¬(c = 0x42 ∨ c = 0x62) := by omega
  have hp : ¬(c = 0x50 ∨ c = 0x70) := by omega
  simp only [stepFn, stepStatementRune, h40, hb, hp, htr, hcc, if_false, if_true, true_and, stepKwSpace, kwCI_eq,
    matchKw_kwCase, hw, Bool.not_true, Bool.false_eq_true, withSelf]

theorem fn_statement_BASE (n : Nat) (w : Nat) (A : List Nat) (hw : C.isSpace w = true ∨ w = 0x3c)
    (c : Nat) (tl : List Nat) (htext : TA.kwCase n (asc "BASE") ++ w :: A = c :: tl) :
    stepFn C .eof .statement x env (.rune c tl) =
      .ok { cur := some ⟨x, .sparqlBaseIRI⟩, push := [⟨x, .statement⟩], inp := if w = 0x3c then w :: A else A, env := env } := by
  rw [asc_BASE] at htext
  obtain ⟨hcc, rfl⟩ := kwCase_text htext
  have h40 : c ≠ 0x40 := by omega
  simp only [stepFn, stepStatementRune, h40, hcc, if_false, if_true, stepKwBase, kwCI_eq, matchKw_kwCase]
  by_cases hlt : w = 0x3c
  · simp [hlt, withSelf]
  · rcases hw with hw | hw
    · simp [hlt, hw, withSelf]
    · exact absurd hw hlt

end kwd

section top
variable (x : Ectx) (env : Env)

theorem stepStatementRune_punct (c : Nat) (tl : List Nat)
    (hc : c = 0x3c ∨ c = 0x5f ∨ c = 0x5b ∨ c = 0x28) :
    stepStatementRune C .eof x env c tl = stepSubjectStart C .eof x env c tl := by
  rcases hc with h | h | h | h <;> subst h <;> simp [stepStatementRune]

theorem fn_statement_ttl_bracket (htr : C.trig = false) (x : Ectx) (env : Env) (tl : List Nat) :
    stepFn C .eof .statement x env (.rune 0x5b tl) =
      .ok { cur := some ⟨{ x with subj := some env.fresh.1 }, .subjAnonOrBNPL⟩, push := [⟨x, .statement⟩], inp := tl,
            env := env.fresh.2 } := by
  simp [stepFn, stepStatementRune_punct, stepSubjectStart, htr, withSelf]

theorem fn_statement_paren (tl : List Nat) :
    stepFn C .eof .statement x env (.rune 0x28 tl) =
      .ok { cur := some ⟨x, .parenTop env.fresh.1⟩, push := [⟨x, .statement⟩], inp := tl, env := env.fresh.2 } := by
  simp [stepFn, stepStatementRune_punct, stepSubjectStart, withSelf]

theorem fn_statement_trig_bracket (htr : C.trig = true) (x : Ectx) (env : Env) (tl : List Nat) :
    stepFn C .eof .statement x env (.rune 0x5b tl) =
      .ok { cur := some ⟨x, .tgBracket env.fresh.1⟩, push := [⟨x, .statement⟩], inp := tl, env := env.fresh.2 } := by
  simp [stepFn, stepStatementRune_punct, stepSubjectStart, htr, withSelf]

theorem fn_statement_trig_brace (htr : C.trig = true) (x : Ectx) (env : Env) (tl : List Nat) :
    stepFn C .eof .statement x env (.rune 0x7b tl) =
      .ok { cur := some ⟨x, .triplesBlock⟩, push := [⟨x, .statement⟩, ⟨x, .wrappedGraphEnd⟩], inp := tl, env := env } := by
  simp [stepFn, stepStatementRune, htr, stepWrappedGraph, withSelf]

theorem subjectTail_eq (x : Ectx) (t : TtlDoc.T) (A : List Nat) (env : Env) :
    subjectTail x t A env = .ok { cur := some ⟨{ x with subj := some t }, .polRequired⟩,
                                  push := [⟨{ x with subj := some t }, .polContinue⟩], inp := A, env := env } := rfl

theorem fn_subjAnon_close (tl : List Nat) :
    stepFn C .eof .subjAnonOrBNPL x env (.rune 0x5d tl) =
      .ok { cur := some ⟨x, .polRequired⟩, push := [⟨x, .triplesEnd⟩, ⟨x, .polContinue⟩], inp := tl, env := env } := by
  simp [stepFn]

theorem fn_parenTop_close (bn : TtlDoc.T) (tl : List Nat) :
    stepFn C .eof (.parenTop bn) x env (.rune 0x29 tl) =
      .ok { cur := some ⟨{ x with subj := some (.iri TtlDoc.rdfNil) }, .polRequired⟩,
            push := [⟨x, .triplesEnd⟩, ⟨{ x with subj := some (.iri TtlDoc.rdfNil) }, .polContinue⟩], inp := tl, env := env } := by
  simp [stepFn, stepParen, Arg.orNul]

theorem fn_parenBlock_close (bn : TtlDoc.T) (tl : List Nat) :
    stepFn C .eof (.parenBlock bn) x env (.rune 0x29 tl) =
      .ok { cur := some ⟨{ x with subj := some (.iri TtlDoc.rdfNil) }, .polRequired⟩,
            push := [⟨{ x with subj := some (.iri TtlDoc.rdfNil) }, .polContinue⟩], inp := tl, env := env } := by
  simp [stepFn, stepParen, Arg.orNul]

theorem fn_parenTop_item (bn : TtlDoc.T) (c : Nat) (tl : List Nat) (hc : c ≠ 0x29) :
    stepFn C .eof (.parenTop bn) x env (.rune c tl) =
      .ok { cur := some ⟨x, .collOpenSubj bn⟩,
            push := [⟨x, .triplesEnd⟩, ⟨{ x with subj := some bn }, .polContinue⟩, ⟨{ x with subj := some bn }, .polRequired⟩],
            inp := c :: tl, env := env } := by
  simp [stepFn, stepParen, Arg.orNul, hc]

theorem fn_parenBlock_item (bn : TtlDoc.T) (c : Nat) (tl : List Nat) (hc : c ≠ 0x29) :
    stepFn C .eof (.parenBlock bn) x env (.rune c tl) =
      .ok { cur := some ⟨x, .collOpenSubj bn⟩,
            push := [⟨{ x with subj := some bn }, .polContinue⟩, ⟨{ x with subj := some bn }, .polRequired⟩],
            inp := c :: tl, env := env } := by
  simp [stepFn, stepParen, Arg.orNul, hc]

theorem fn_collOpenSubj_item (o : TtlDoc.T) (c : Nat) (tl : List Nat) (hc : c ≠ 0x29)
    (hs : x.subj = none) :
    stepFn C .eof (.collOpenSubj o) x env (.rune c tl) =
      .ok { cur := some ⟨{ x with subj := some o, pred := some (.iri TtlDoc.rdfFirst) }, .object⟩,
            push := [⟨{ x with subj := some o, pred := some (.iri TtlDoc.rdfFirst) }, .collContinue⟩],
            inp := c :: tl, env := env } := by
  simp [stepFn, stepCollection, hc, hs, Arg.orNul]

theorem fn_subjAnon_item (c : Nat) (tl : List Nat) (hc : c ≠ 0x5d) :
    stepFn C .eof .subjAnonOrBNPL x env (.rune c tl) =
      .ok { cur := some ⟨x, .polRequired⟩,
            push := [⟨x, .triplesEnd⟩, ⟨x, .polContinue⟩, ⟨x, .pol⟩, ⟨x, .bnplEnd⟩, ⟨x, .polContinue⟩],
            inp := c :: tl, env := env } := by
  simp [stepFn, hc]

theorem fn_tgE1_brace (v : TtlDoc.T) (tl : List Nat) :
    stepFn C .eof (.tgE1 v) x env (.rune 0x7b tl) =
      .ok { cur := some ⟨{ x with graph := some v }, .triplesBlock⟩,
            push := [⟨{ x with graph := some v }, .wrappedGraphEnd⟩], inp := tl, env := env } := by
  simp [stepFn, Arg.orNul]

theorem fn_tgE1_subj (v : TtlDoc.T) (hv : ∀ a b c, v ≠ .lit a b c) (c : Nat) (tl : List Nat)
    (hc : c ≠ 0x7b) :
    stepFn C .eof (.tgE1 v) x env (.rune c tl) =
      .ok { cur := some ⟨{ x with subj := some v }, .polRequired⟩,
            push := [⟨{ x with subj := some v }, .triplesEnd⟩, ⟨{ x with subj := some v }, .polContinue⟩],
            inp := c :: tl, env := env } := by
  cases v with
  | lit a b c' => exact absurd rfl (hv a b c')
  | iri i => simp [stepFn, Arg.orNul, hc]
  | bnode b => simp [stepFn, Arg.orNul, hc]

theorem fn_tgBracket_close (bn : TtlDoc.T) (tl : List Nat) :
    stepFn C .eof (.tgBracket bn) x env (.rune 0x5d tl) = .ok { cur := some ⟨x, .tgE1 bn⟩, inp := tl, env := env } := by
  simp [stepFn, Arg.orNul]

theorem fn_tgBracket_item (bn : TtlDoc.T) (c : Nat) (tl : List Nat) (hc : c ≠ 0x5d) :
    stepFn C .eof (.tgBracket bn) x env (.rune c tl) =
      .ok { cur := some ⟨{ x with subj := some bn }, .triples2BNPL⟩, inp := c :: tl, env := env } := by
  simp [stepFn, Arg.orNul, hc]

theorem fn_triples2BNPL_item (c : Nat) (tl : List Nat) (hc : c ≠ 0x5d) :
    stepFn C .eof .triples2BNPL x env (.rune c tl) =
      .ok { cur := some ⟨x, .pol⟩,
            push := [⟨x, .triplesEnd⟩, ⟨x, .polContinue⟩, ⟨x, .pol⟩, ⟨x, .bnplEnd⟩, ⟨x, .polContinue⟩],
            inp := c :: tl, env := env } := by
  simp [stepFn, hc]

theorem fn_graphLabel_bracket (tl : List Nat) :
    stepFn C .eof .graphLabel x env (.rune 0x5b tl) = .ok { cur := some ⟨x, .graphAnonClose⟩, inp := tl, env := env } := by
  simp [stepFn]

theorem fn_graphAnonClose (tl : List Nat) :
    stepFn C .eof .graphAnonClose x env (.rune 0x5d tl) =
      .ok { cur := some ⟨{ x with graph := some env.fresh.1 }, .wrappedGraph⟩, inp := tl, env := env.fresh.2 } := by
  simp [stepFn, Arg.orNul]

theorem fn_wrappedGraph (tl : List Nat) :
    stepFn C .eof .wrappedGraph x env (.rune 0x7b tl) =
      .ok { cur := some ⟨x, .triplesBlock⟩, push := [⟨x, .wrappedGraphEnd⟩], inp := tl, env := env } := by
  simp [stepFn, stepWrappedGraph]

theorem fn_wrappedGraphEnd (tl : List Nat) :
    stepFn C .eof .wrappedGraphEnd x env (.rune 0x7d tl) = .ok { inp := tl, env := env } := by
  simp [stepFn]

theorem fn_triplesBlock_close (tl : List Nat) :
    stepFn C .eof .triplesBlock x env (.rune 0x7d tl) = .ok { inp := 0x7d :: tl, env := env } := by
  simp [stepFn]

theorem fn_triplesBlock_open (c : Nat) (tl : List Nat) (hc : c ≠ 0x7d) :
    stepFn C .eof .triplesBlock x env (.rune c tl) =
      .ok { cur := some ⟨x, .triples⟩, push := [⟨x, .triplesBlockQuest⟩], inp := c :: tl, env := env } := by
  simp [stepFn, hc]

theorem fn_triplesBlockQuest_dot (tl : List Nat) :
    stepFn C .eof .triplesBlockQuest x env (.rune 0x2e tl) = .ok { cur := some ⟨x, .triplesBlock⟩, inp := tl, env := env } := by
  simp [stepFn]

theorem fn_triplesBlockQuest_close (tl : List Nat) :
    stepFn C .eof .triplesBlockQuest x env (.rune 0x7d tl) = .ok { inp := 0x7d :: tl, env := env } := by
  simp [stepFn]

theorem fn_triples_bracket (tl : List Nat) :
    stepFn C .eof .triples x env (.rune 0x5b tl) =
      .ok { cur := some ⟨{ x with subj := some env.fresh.1 }, .pol⟩,
            push := [⟨{ x with subj := some env.fresh.1 }, .polContinue⟩, ⟨{ x with subj := some env.fresh.1 }, .pol⟩,
                     ⟨{ x with subj := some env.fresh.1 }, .bnplEnd⟩, ⟨{ x with subj := some env.fresh.1 }, .polContinue⟩],
            inp := tl, env := env.fresh.2 } := by
  simp [stepFn, stepTriples]

theorem fn_triples_paren (tl : List Nat) :
    stepFn C .eof .triples x env (.rune 0x28 tl) =
      .ok { cur := some ⟨x, .parenBlock env.fresh.1⟩, inp := tl, env := env.fresh.2 } := by
  simp [stepFn, stepTriples]

theorem fn_prefixNS (at_ : Bool) (x : Ectx) (env : Env) (p A : List Nat) (c : Nat) (tl : List Nat)
    (hns : C.P.pnameNS .eof (c :: tl) = .ok p A) :
    stepFn C .eof (if at_ then .atPrefixNS else .sparqlPrefixNS) x env (.rune c tl) =
      .ok { cur := some ⟨x, if at_ then .atPrefixIRI p else .sparqlPrefixIRI p⟩, inp := A, env := env } := by
  cases at_ <;> simp [stepFn, hns]

theorem fn_atPrefixIRI (ns : List Nat) (r b A : List Nat) (c : Nat) (tl : List Nat)
    (hiri : C.P.iriref .eof (c :: tl) = .ok r A) (hres : resolveURL C env r = some b) :
    stepFn C .eof (.atPrefixIRI ns) x env (.rune c tl) = .ok { cur := some ⟨x, .atPrefixDot ns b⟩, inp := A, env := env } := by
  simp [stepFn, hiri, hres]

theorem fn_sparqlPrefixIRI (ns : List Nat) (r b A : List Nat) (c : Nat) (tl : List Nat)
    (hiri : C.P.iriref .eof (c :: tl) = .ok r A) (hres : resolveURL C env r = some b) :
    stepFn C .eof (.sparqlPrefixIRI ns) x env (.rune c tl) =
      .ok { cur := some ⟨x, .statement⟩, inp := A, env := env.addPrefix ns b } := by
  simp [stepFn, hiri, hres]

theorem fn_atPrefixDot (ns b : List Nat) (tl : List Nat) :
    stepFn C .eof (.atPrefixDot ns b) x env (.rune 0x2e tl) =
      .ok { cur := some ⟨x, .statement⟩, inp := tl, env := env.addPrefix ns b } := by
  simp [stepFn]

theorem fn_atBaseIRI (r b A : List Nat) (c : Nat) (tl : List Nat)
    (hiri : C.P.iriref .eof (c :: tl) = .ok r A) (hres : resolveURL C env r = some b) :
    stepFn C .eof .atBaseIRI x env (.rune c tl) = .ok { cur := some ⟨x, .atBaseDot b⟩, inp := A, env := env } := by
  simp [stepFn, hiri, hres]

theorem fn_sparqlBaseIRI (r b A : List Nat) (c : Nat) (tl : List Nat)
    (hiri : C.P.iriref .eof (c :: tl) = .ok r A) (hres : resolveURL C env r = some b) :
    stepFn C .eof .sparqlBaseIRI x env (.rune c tl) =
      .ok { cur := some ⟨x, .statement⟩, inp := A, env := { env with base := some b } } := by
  simp [stepFn, hiri, hres]

theorem fn_atBaseDot (b : List Nat) (tl : List Nat) :
    stepFn C .eof (.atBaseDot b) x env (.rune 0x2e tl) =
      .ok { cur := some ⟨x, .statement⟩, inp := tl, env := { env with base := some b } } := by
  simp [stepFn]

end top

/-- `c :: tl` starts with an IRIREF, a blank-node label or a prefixed name that the matching term
    reader takes for `t`, leaving `A`.  The scan functions tell the three apart by `c`. -/
inductive TermTok (C : Cfg) (env : Env) (t : TtlDoc.T) (A : List Nat) : Nat → List Nat → Prop
  | ref {tl : List Nat} (hv : Vis C 0x3c) (h : termIRIREF C .eof env (0x3c :: tl) = .ok t A env) : TermTok C env t A 0x3c tl
  | bn {tl : List Nat} (hv : Vis C 0x5f) (h : termBNode C .eof env (0x5f :: tl) = .ok t A env) : TermTok C env t A 0x5f tl
  | pn {c : Nat} {tl : List Nat} (hp : PNText C c tl)
      (h : termPName C .eof env (c :: tl) = .ok t A env) : TermTok C env t A c tl

/-- the frame that reads a subject token starting with `c` once more -/
def subjCont (c : Nat) : Cont := (Kind.ofRune c).cont

section tok
variable {x : Ectx} {env : Env} {t : TtlDoc.T} {A : List Nat} {c : Nat} {tl : List Nat}

theorem TermTok.vis (h : TermTok C env t A c tl) : Vis C c := by
  cases h with
  | ref hv => exact hv
  | bn hv => exact hv
  | pn hp => exact hp.vis

theorem kind_name (h : PNText C c tl) : Kind.ofRune c = .pname := by
  simp [Kind.ofRune, h.ne 0x3c (by decide) (by decide), h.nd.2.2]

theorem subjCont_name (h : PNText C c tl) : subjCont c = .subjPName := by rw [subjCont, kind_name h]; rfl

theorem TermTok.term (h : TermTok C env t A c tl) : (Kind.ofRune c).term C .eof env (c :: tl) = .ok t A env := by
  cases h with
  | ref _ h => exact h
  | bn _ h => exact h
  | pn hp h => rw [kind_name hp]; exact h

theorem fn_subjCont (h : TermTok C env t A c tl) :
    stepFn C .eof (subjCont c) x env (.rune c tl) = subjectTail x t A env := by
  rw [subjCont, Kind.stepFn, h.term]; rfl

/-- Turtle: `reader_scanStatement` only looks at the first rune of a subject token -/
theorem fn_statement_ttl_tok (htr : C.trig = false) (h : TermTok C env t A c tl) :
    stepFn C .eof .statement x env (.rune c tl) =
      .ok { cur := some ⟨x, subjCont c⟩, push := [⟨x, .statement⟩, ⟨x, .triplesEnd⟩], inp := c :: tl, env := env } := by
  cases h with
  | ref => simp [stepFn, stepStatementRune_punct, stepSubjectStart, htr, withSelf, subjCont, Kind.ofRune, Kind.cont]
  | bn => simp [stepFn, stepStatementRune_punct, stepSubjectStart, htr, withSelf, subjCont, Kind.ofRune, Kind.cont]
  | pn hp => simp [stepFn, stepStatementRune_pname x env hp, pnameStart, htr, withSelf, subjCont_name hp]

theorem fn_triples_tok (h : TermTok C env t A c tl) :
    stepFn C .eof .triples x env (.rune c tl) = .ok { cur := some ⟨x, subjCont c⟩, inp := c :: tl, env := env } := by
  cases h with
  | ref => simp [stepFn, stepTriples, subjCont, Kind.ofRune, Kind.cont]
  | bn => simp [stepFn, stepTriples, subjCont, Kind.ofRune, Kind.cont]
  | pn hp =>
    have n := hp.ne
    simp only [stepFn, stepTriples, n 0x3c (by decide) (by decide), hp.nd.2.2,
      n 0x5b (by decide) (by decide), n 0x28 (by decide) (by decide), if_false, hp.base, if_true, subjCont_name hp]

/-- TriG: the label-or-subject token is read at once -/
theorem fn_statement_trig_tok (htr : C.trig = true) (h : TermTok C env t A c tl) :
    stepFn C .eof .statement x env (.rune c tl) =
      .ok { cur := some ⟨x, .tgE1 t⟩, push := [⟨x, .statement⟩], inp := A, env := env } := by
  have : stepStatementRune C .eof x env c tl = labelOrSubject x (.ok t A env) := by
    cases h with
    | ref _ h => rw [stepStatementRune_punct _ _ _ _ (Or.inl rfl)]; simp only [stepSubjectStart, if_true, htr, h]
    | bn _ h => rw [stepStatementRune_punct _ _ _ _ (Or.inr (Or.inl rfl))]; simp [stepSubjectStart, htr, h]
    | pn hp h => rw [stepStatementRune_pname x env hp]; simp only [pnameStart, htr, if_true, h]
  simp [stepFn, this, labelOrSubject, withSelf]

theorem fn_graphLabel_tok (h : TermTok C env t A c tl) :
    stepFn C .eof .graphLabel x env (.rune c tl) =
      .ok { cur := some ⟨{ x with graph := some t }, .wrappedGraph⟩, inp := A, env := env } := by
  cases h with
  | ref _ h => simp [stepFn, h]
  | bn _ h => simp [stepFn, h]
  | pn hp h =>
    simp only [stepFn, hp.ne 0x5b (by decide) (by decide), hp.nd.2.2, hp.ne 0x3c (by decide) (by decide), if_false, h]

/-- a verb; a prefixed name that starts with `a` is told from the keyword by its second rune -/
theorem stepPOL_tok (h : TermTok C env t A c tl) (hbn : c ≠ 0x5f) : stepPOL C .eof x env c tl = polGo x t A env := by
  cases h with
  | ref _ h => simp only [stepPOL, if_true, h, polOfTerm]
  | bn => exact absurd rfl hbn
  | pn hp h =>
    simp only [stepPOL, hp.ne 0x3c (by decide) (by decide), if_false]
    by_cases ha : c = 0x61
    · subst ha
      obtain ⟨b, tl', rfl, hs, _⟩ := (hp.rest (by decide)).head hp.colon
      simp only [if_true, hs, Bool.not_false, h, polOfTerm]
    · simp only [ha, if_false, hp.base, if_true, h, polOfTerm]

/-- `reader_scan_Object` reads an IRIREF or a label at once; a prefixed name, unless it is taken
    for a boolean (`hsb`), is handed to `reader_scan_object_PrefixedName` -/
theorem fn_object_tok (h : TermTok C env t A c tl) (hsb : c = 0x74 ∨ c = 0x66 → C.P.boolean .eof (c :: tl) = .other) :
    stepFn C .eof .object x env (.rune c tl) = .ok { emit := some (mkStmt x t), inp := A, env := env } ∨
    (stepFn C .eof .object x env (.rune c tl) = .ok { cur := some ⟨x, .objectPName⟩, inp := c :: tl, env := env } ∧
      stepFn C .eof .objectPName x env (.rune c tl) = .ok { emit := some (mkStmt x t), inp := A, env := env }) := by
  cases h with
  | ref _ h => exact Or.inl (by simp only [stepFn, stepObject, if_true, h, emitOfTerm])
  | bn _ h => exact Or.inl (by simp [stepFn, stepObject, h, emitOfTerm])
  | pn hp h =>
    refine Or.inr ⟨?_, by simp only [stepFn, h, emitOfTerm]⟩
    have n := hp.ne
    obtain ⟨nd, nm, nu⟩ := hp.nd
    simp only [stepFn, stepObject, n 0x3c (by decide) (by decide), nu, n 0x28 (by decide) (by decide),
      n 0x5b (by decide) (by decide), n 0x22 (by decide) (by decide), n 0x27 (by decide) (by decide),
      n 0x2b (by decide) (by decide), nm, nd, n 0x2e (by decide) (by decide), if_false, or_self,
      hp.base.symm, if_true]
    split
    · next hc => simp only [hsb hc]
    · rfl

theorem TermTok.iri {i : List Nat} (h : TermTok C env (.iri i) A c tl) (hbn : c ≠ 0x5f) :
    (if c = 0x3c then iriIRIREF C .eof env (c :: tl) else iriPName C .eof env (c :: tl)) = .ok i A := by
  have key : ∀ r : IriRes, r.toTerm env = .ok (.iri i) A env → r = .ok i A := by
    intro r hr; cases r <;> simp_all [IriRes.toTerm]
  cases h with
  | ref _ h => exact key _ h
  | bn => exact absurd rfl hbn
  | pn hp h => rw [if_neg (hp.ne 0x3c (by decide) (by decide))]; exact key _ h

/-- a subject token is dispatched on its first rune (`hfn`) and then read by the frame for its class -/
theorem subj_run {inp : List Nat} {k0 : Cont} {push s : List Frame} (h : TermTok C env t A c tl)
    (hin : SkEq C inp (c :: tl))
    (hfn : stepFn C .eof k0 x env (.rune c tl) =
      .ok { cur := some ⟨x, subjCont c⟩, push := push, inp := c :: tl, env := env }) :
    Steps C .eof ⟨⟨x, k0⟩ :: s, inp, env⟩ []
      ⟨⟨{ x with subj := some t }, .polRequired⟩ :: ⟨{ x with subj := some t }, .polContinue⟩ :: (push.reverse ++ s), A, env⟩ := by
  have s2 := Steps.tok (s := push.reverse ++ s) (inp := c :: tl) SkEq.rfl' rfl h.vis
    ((fn_subjCont (x := x) h).trans (subjectTail_eq _ _ _ _)) (Steps.refl _)
  simpa using Steps.tok (s := s) hin rfl h.vis hfn (by simpa using s2)

theorem obj_run {inp : List Nat} {s : List Frame} (h : TermTok C env t A c tl)
    (hsb : c = 0x74 ∨ c = 0x66 → C.P.boolean .eof (c :: tl) = .other) (hin : SkEq C inp (c :: tl)) :
    Steps C .eof ⟨⟨x, .object⟩ :: s, inp, env⟩ [mkStmt x t] ⟨s, A, env⟩ := by
  rcases fn_object_tok (x := x) h hsb with h1 | ⟨h1, h2⟩
  · simpa using Steps.tok (s := s) hin rfl h.vis h1 (Steps.refl _)
  · have s2 := Steps.tok (s := s) (inp := c :: tl) SkEq.rfl' rfl h.vis h2 (Steps.refl _)
    simpa using Steps.tok (s := s) hin rfl h.vis h1 (by simpa using s2)

end tok

section dir
variable {x : Ectx} {s : List Frame} {env : Env} {inp A1 A2 A3 A4 : List Nat}

theorem run_atPrefix {p r b : List Nat} {c1 : Nat} {t1 t2 : List Nat}
    (hat : Vis C 0x40) (hlt : Vis C 0x3c) (hdot : Vis C 0x2e)
    (h0 : SkEq C inp (0x40 :: 0x70 :: (asc "refix" ++ A1)))
    (h1 : SkEq C A1 (c1 :: t1)) (hv1 : Vis C c1) (hns : C.P.pnameNS .eof (c1 :: t1) = .ok p A2)
    (h2 : SkEq C A2 (0x3c :: t2)) (hiri : C.P.iriref .eof (0x3c :: t2) = .ok r A3) (hres : resolveURL C env r = some b)
    (h3 : SkEq C A3 (0x2e :: A4)) :
    Steps C .eof ⟨⟨x, .statement⟩ :: s, inp, env⟩ []
      ⟨⟨x, .statement⟩ :: ⟨x, .statement⟩ :: s, A4, env.addPrefix p b⟩ := by
  have s4 := Steps.tok (s := ⟨x, .statement⟩ :: s) h3 rfl hdot (fn_atPrefixDot x env p b A4) (Steps.refl _)
  have s3 := Steps.tok (s := ⟨x, .statement⟩ :: s) h2 rfl hlt (fn_atPrefixIRI x env p r b A3 _ _ hiri hres) (by simpa using s4)
  have s2 := Steps.tok (s := ⟨x, .statement⟩ :: s) h1 rfl hv1 (fn_prefixNS true x env p A2 _ _ hns) (by simpa using s3)
  simpa using Steps.tok (s := s) h0 rfl hat (fn_statement_atprefix x env A1) (by simpa using s2)

theorem run_atBase {r b : List Nat} {t2 : List Nat}
    (hat : Vis C 0x40) (hlt : Vis C 0x3c) (hdot : Vis C 0x2e)
    (h0 : SkEq C inp (0x40 :: 0x62 :: (asc "ase" ++ A1)))
    (h2 : SkEq C A1 (0x3c :: t2)) (hiri : C.P.iriref .eof (0x3c :: t2) = .ok r A3) (hres : resolveURL C env r = some b)
    (h3 : SkEq C A3 (0x2e :: A4)) :
    Steps C .eof ⟨⟨x, .statement⟩ :: s, inp, env⟩ []
      ⟨⟨x, .statement⟩ :: ⟨x, .statement⟩ :: s, A4, { env with base := some b }⟩ := by
  have s3 := Steps.tok (s := ⟨x, .statement⟩ :: s) h3 rfl hdot (fn_atBaseDot x env b A4) (Steps.refl _)
  have s2 := Steps.tok (s := ⟨x, .statement⟩ :: s) h2 rfl hlt (fn_atBaseIRI x env r b A3 _ _ hiri hres) (by simpa using s3)
  simpa using Steps.tok (s := s) h0 rfl hat (fn_statement_atbase x env A1) (by simpa using s2)

theorem run_kwPrefix {p r b : List Nat} {n w c c1 : Nat} {tl t1 t2 : List Nat}
    (hlt : Vis C 0x3c) (h0 : SkEq C inp (c :: tl)) (hc : Vis C c)
    (hkw : TA.kwCase n (asc "PREFIX") ++ w :: A1 = c :: tl) (hw : C.isSpace w = true)
    (h1 : SkEq C A1 (c1 :: t1)) (hv1 : Vis C c1) (hns : C.P.pnameNS .eof (c1 :: t1) = .ok p A2)
    (h2 : SkEq C A2 (0x3c :: t2)) (hiri : C.P.iriref .eof (0x3c :: t2) = .ok r A3) (hres : resolveURL C env r = some b) :
    Steps C .eof ⟨⟨x, .statement⟩ :: s, inp, env⟩ []
      ⟨⟨x, .statement⟩ :: ⟨x, .statement⟩ :: s, A3, env.addPrefix p b⟩ := by
  have s3 := Steps.tok (s := ⟨x, .statement⟩ :: s) h2 rfl hlt (fn_sparqlPrefixIRI x env p r b A3 _ _ hiri hres) (Steps.refl _)
  have s2 := Steps.tok (s := ⟨x, .statement⟩ :: s) h1 rfl hv1 (fn_prefixNS false x env p A2 _ _ hns) (by simpa using s3)
  simpa using Steps.tok (s := s) h0 rfl hc (fn_statement_PREFIX x env n w A1 hw c tl hkw) (by simpa using s2)

theorem run_kwBase {r b : List Nat} {n w c : Nat} {tl t2 : List Nat}
    (hlt : Vis C 0x3c) (h0 : SkEq C inp (c :: tl)) (hc : Vis C c)
    (hkw : TA.kwCase n (asc "BASE") ++ w :: A1 = c :: tl) (hw : C.isSpace w = true ∨ w = 0x3c)
    (h2 : SkEq C (if w = 0x3c then w :: A1 else A1) (0x3c :: t2)) (hiri : C.P.iriref .eof (0x3c :: t2) = .ok r A3)
    (hres : resolveURL C env r = some b) :
    Steps C .eof ⟨⟨x, .statement⟩ :: s, inp, env⟩ []
      ⟨⟨x, .statement⟩ :: ⟨x, .statement⟩ :: s, A3, { env with base := some b }⟩ := by
  have s2 := Steps.tok (s := ⟨x, .statement⟩ :: s) h2 rfl hlt (fn_sparqlBaseIRI x env r b A3 _ _ hiri hres) (Steps.refl _)
  simpa using Steps.tok (s := s) h0 rfl hc (fn_statement_BASE x env n w A1 hw c tl hkw) (by simpa using s2)

end dir

end RdfModel.C08
