/-
  What the decoder reads back from `writeIRI`'s output (C02 `writeIRI_expand`): prefix compaction (Model/Prefix.lean),
  base relativisation (C13 `relativize_checked`) and the `<…>` fallback, composed with the token theorems.
-/
import RdfModel.Props.C02DocDefs
import RdfModel.Props.C02Tokens
import RdfModel.Proofs.C13Rel
import RdfModel.Proofs.Asc
namespace RdfModel.Proofs.C02Doc
open RdfModel RdfModel.Ttl RdfModel.TtlEnc RdfModel.C02 RdfModel.TtlDoc

/-- the decoder's environment agrees with the encoder's: same base, every mapping of the manager is
    what the decoder's table answers for its label -/
structure EnvOK (env : Env) (base : Option (List Nat)) (pm : Prefix.PM) (D : List Nat → Prop) : Prop where
  base : env.base = base
  /-- `D`: the labels the document declares (all of the table, or — buffered header — the used ones) -/
  pfx : ∀ m ∈ pm.ordered, D m.pfx → lookupPfx m.pfx env.prefixes = some m.expanded

theorem scalars_of_iriOK {v : List Nat} (h : iriOK v = true) : Scalars v := by
  intro c hc
  simp only [iriOK, List.all_eq_true, Bool.and_eq_true] at h
  exact (isScalarB_iff c).1 (h c hc).1

theorem rawOK_of_iriOK {v : List Nat} (h : iriOK v = true) : ∀ c ∈ v, Spec.TtlPrint.iriRawOK c = true := by
  intro c hc
  simp only [iriOK, List.all_eq_true, Bool.and_eq_true] at h
  exact (h c hc).2

theorem compactIn_spec (v : List Nat) : ∀ (ms : List Prefix.Mapping) (pr : Prefix.PrefixRef),
    Prefix.compactIn v ms = some pr → ∃ m ∈ ms, m.pfx = pr.pfx ∧ m.expanded ++ pr.reference = v
  | [], pr, h => by simp [Prefix.compactIn] at h
  | m :: ms, pr, h => by
    unfold Prefix.compactIn at h
    split at h
    · next hc =>
      injection h with h
      subst h
      refine ⟨m, List.mem_cons_self, rfl, ?_⟩
      simp only
      conv => rhs; rw [← List.take_append_drop m.expanded.length v]
      rw [hc.2]
    · obtain ⟨m', hm', h1, h2⟩ := compactIn_spec v ms pr h
      exact ⟨m', List.mem_cons_of_mem _ hm', h1, h2⟩

theorem localOK_of_format (T : Tables) (hT : DocTablesOK T) : ∀ (first : Bool) (loc out : List Nat),
    formatLocalFrom T first loc = some out → (∀ c ∈ loc, Spec.TtlPrint.iriRawOK c = true) →
    localOKFrom T first loc = true
  | _, [], _, _, _ => rfl
  | first, c :: rest, out, h, hraw => by
    unfold formatLocalFrom at h
    unfold localOKFrom
    have hc := hraw c List.mem_cons_self
    have hrest : ∀ x ∈ rest, Spec.TtlPrint.iriRawOK x = true := fun x hx => hraw x (List.mem_cons_of_mem _ hx)
    split at h
    · next h0 =>
      simp only [Option.map_eq_some_iff] at h
      obtain ⟨t, ht, _⟩ := h
      simp [h0, localOK_of_format T hT false rest t ht hrest]
    · next h1 =>
      have := hT.loc_pct first rest.isEmpty c h1
      rw [hc] at this
      cases this
    · next h2 =>
      simp only [Option.map_eq_some_iff] at h
      obtain ⟨t, ht, _⟩ := h
      simp [h2, localOK_of_format T hT false rest t ht hrest]
    · cases h

theorem rootRelative_mem (ri : Nat) (v r : List Nat) (h : Prefix.rootRelative ri v = .some r) : ∀ c ∈ r, c ∈ v := by
  unfold Prefix.rootRelative at h
  split at h
  · cases h
  · injection h with h; subst h; intro c hc; exact List.mem_of_mem_drop hc

theorem candidateAbs_mem (rb : Prefix.BaseIRI) (ri di : Nat) (v r : List Nat)
    (h : Prefix.candidateAbs rb ri di v = .some r) :
    ∀ c ∈ r, c ∈ v ∨ c = Spec.RFC3986Lite.cDot ∨ c = Spec.RFC3986Lite.cSlash := by
  unfold Prefix.candidateAbs at h
  simp only at h
  split at h
  · next o ho =>
    -- the switch on `v[resourceIndex]` produced an outcome; the splits follow the `if`s of `sw` in order
    subst h
    split at ho                 -- `resourceIndex < v.length`
    · split at ho               -- `n < resourceIndex`: panic
      · cases ho
      · split at ho             -- the base up to `resourceIndex` is a prefix of `v`
        · split at ho           -- `'#'`
          · split at ho         -- `v.length < directoryIndex`: panic
            · cases ho
            · injection ho with ho; injection ho with ho; subst ho
              intro c hc; exact Or.inl (List.mem_of_mem_drop hc)
          · split at ho         -- `'?'`
            · injection ho with ho; injection ho with ho; subst ho
              intro c hc; exact Or.inl (List.mem_of_mem_drop hc)
            · cases ho
        · cases ho
    · cases ho
  · -- no outcome from the switch: relative to the directory, else to the root
    split at h                  -- `directoryIndex ≤ v.length`
    · split at h                -- `n < directoryIndex`: panic
      · cases h
      · split at h              -- base and `v` agree up to `directoryIndex`
        · split at h            -- the rest is empty or starts with `?`/`#`: `./` in front
          · injection h with h; subst h
            intro c hc
            simp only [List.cons_append, List.nil_append, List.mem_cons] at hc
            rcases hc with rfl | rfl | hc
            · exact Or.inr (Or.inl rfl)
            · exact Or.inr (Or.inr rfl)
            · exact Or.inl (List.mem_of_mem_drop hc)
          · injection h with h; subst h
            intro c hc; exact Or.inl (List.mem_of_mem_drop hc)
        · intro c hc; exact Or.inl (rootRelative_mem _ _ _ h c hc)
    · intro c hc; exact Or.inl (rootRelative_mem _ _ _ h c hc)

theorem candidate_mem (rb : Prefix.BaseIRI) (v r : List Nat) (h : Prefix.candidate rb v = .some r) :
    ∀ c ∈ r, c ∈ v ∨ c = Spec.RFC3986Lite.cDot ∨ c = Spec.RFC3986Lite.cSlash := by
  unfold Prefix.candidate at h
  simp only at h
  split at h
  · next r' hr' =>
    injection h with h; subst h
    split at hr'
    · split at hr'
      · injection hr' with hr'; subst hr'; intro c hc; exact Or.inl (List.mem_of_mem_drop hc)
      · split at hr'
        · injection hr' with hr'; subst hr'; intro c hc; exact Or.inl (List.mem_of_mem_drop hc)
        · cases hr'
    · cases hr'
  · split at h
    · cases h
    · next ri di _ =>
      split at h
      · cases h
      · split at h
        · injection h with h; subst h; intro c hc; cases hc
        · exact candidateAbs_mem rb ri di v r h

theorem scalars_of_relativize (b v r : List Nat) (hv : Scalars v) (h : Prefix.relativize b v = .some r) : Scalars r := by
  obtain ⟨_, _, hc⟩ := Proofs.C13.relativize_checked b v r h
  intro c hcr
  rcases candidate_mem _ v r hc c hcr with h1 | h1 | h1
  · exact hv c h1
  · subst h1; decide
  · subst h1; decide


variable {C : Cfg} {T : Tables}

theorem iriIRIREF_text (hT : DocTablesOK T) (hC : CfgOK C T) (e : NQ.End) (env : Env) (r v rest : List Nat)
    (hr : Scalars r) (hres : resolveIRI C env r = some v) :
    iriIRIREF C e env (0x3c :: (formatIRI T false r ++ 0x3e :: rest)) = .ok v rest := by
  unfold iriIRIREF
  rw [hC.prod]
  simp only [Producers.real]
  rw [C02.iriref_roundtrip T hT.tok e false r hr rest]
  simp only [hres]

theorem iriPName_text (hT : DocTablesOK T) (hC : CfgOK C T) (e : NQ.End) (env : Env) (pfx loc out v rest : List Nat)
    (hp : prefixOK T pfx = true) (hps : Scalars pfx) (hs : Scalars loc) (hok : PNLocalOK T loc = true)
    (hout : format_PN_LOCAL T loc = some out) (hstop : LocalStop T e rest) (hex : env.expand pfx loc = some v) :
    iriPName C e env (pfx ++ 0x3a :: (out ++ rest)) = .ok v rest := by
  obtain ⟨out', h1, h2⟩ := C02.pname_roundtrip T hT.tok e pfx loc rest hp hps hs hok hstop
  rw [hout] at h1
  injection h1 with h1
  subst h1
  unfold iriPName
  rw [hC.prod]
  simp only [Producers.real]
  rw [h2]
  simp only [hex]

def decodeWritten (C : Cfg) (T : Tables) (e : NQ.End) (env : Env) (w : Written) (rest : List Nat) : IriRes :=
  match w with
  | .pname p _ out => iriPName C e env (p ++ 0x3a :: (out ++ rest))
  | .rel r => iriIRIREF C e env (0x3c :: (formatIRI T false r ++ 0x3e :: rest))
  | .full v => iriIRIREF C e env (0x3c :: (formatIRI T false v ++ 0x3e :: rest))

theorem labelSafe_parts {isSpace : Nat → Bool} {p : List Nat} (h : labelSafe isSpace T p = true) :
    prefixOK T p = true ∧ Scalars p ∧ (∀ c ∈ p, isSpace c = false) ∧
    (asc "true").isPrefixOf p = false ∧ (asc "false").isPrefixOf p = false := by
  simp only [labelSafe, Bool.and_eq_true, List.all_eq_true, Bool.not_eq_true'] at h
  obtain ⟨⟨⟨h1, h2⟩, h3⟩, h4⟩ := h
  exact ⟨h1, fun c hc => (isScalarB_iff c).1 (h2 c hc).1, fun c hc => (h2 c hc).2, h3, h4⟩

/-- how a reference is read under a base, by the statement machine (`resolveIRI`) and by the denotation
    of an abstract document (`TA.iriOf`) alike -/
def readRef (R : Option (List Nat) → List Nat → Option (List Nat)) (base : Option (List Nat)) (r : List Nat) :
    Option (List Nat) :=
  match base with
  | none => some r
  | some b => R (some b) r

section Writers
variable {β : Type} {c : Ctx β} {base : Option (List Nat)}

/-- The decision of `writeIRI` on an IRI of IRI characters: a prefixed name of one of the manager's
    mappings whose local part `format_PN_LOCAL` writes unchanged, or a reference — relative (C13
    `relativize_checked`) or the IRI in full (`stableUnder`) — that is read back under the base as the IRI.
    In particular it neither fails nor panics (C13 `relativize_no_panic` under `IndicesOK`). -/
theorem writeIRIForm_spec (hT : DocTablesOK T) (hC : CfgOK C T) (hcT : c.T = T)
    (hcb : c.base = base.map Prefix.newBaseIRI) (hbase : ∀ b, base = some b → baseOK b)
    (v : List Nat) (hv : iriTermOK c base v) :
    (∃ m ∈ c.pm.ordered, ∃ loc out, writeIRIForm c v = .ok (.pname m.pfx loc out) ∧ m.expanded ++ loc = v ∧
      m.pfx ∈ usedOfIRI c.pm v ∧ Scalars loc ∧ PNLocalOK T loc = true ∧ format_PN_LOCAL T loc = some out) ∨
    (∃ r, (writeIRIForm c v = .ok (.rel r) ∨ writeIRIForm c v = .ok (.full r)) ∧ Scalars r ∧
      readRef C.resolve base r = some v) := by
  have hsv : Scalars v := scalars_of_iriOK hv.1
  cases hcl : compactLocal c.T c.pm v with
  | some x =>
    obtain ⟨p, loc, out⟩ := x
    have hw : writeIRIForm c v = .ok (.pname p loc out) := by simp only [writeIRIForm, hcl]
    unfold compactLocal at hcl
    cases hcp : Prefix.compact c.pm v with
    | none => rw [hcp] at hcl; cases hcl
    | some pr =>
      rw [hcp] at hcl
      simp only [Option.map_eq_some_iff, Prod.mk.injEq] at hcl
      obtain ⟨out', hfmt, h1, h2, h3⟩ := hcl
      subst h1 h2 h3
      rw [hcT] at hfmt
      obtain ⟨m, hm, hmp, hmv⟩ := compactIn_spec v c.pm.ordered pr hcp
      have hin : ∀ x ∈ pr.reference, x ∈ v := fun x hx => by rw [← hmv]; exact List.mem_append_right _ hx
      rw [← hmp] at hw
      exact Or.inl ⟨m, hm, pr.reference, out', hw, hmv, by simp [usedOfIRI, hcp, hmp], fun x hx => hsv x (hin x hx),
        localOK_of_format T hT true _ _ hfmt (fun x hx => rawOK_of_iriOK hv.1 x (hin x hx)), hfmt⟩
  | none =>
    right
    cases hb : base with
    | none =>
      rw [hb] at hcb
      exact ⟨v, Or.inr (by simp only [writeIRIForm, hcl, hcb, Option.map_none]), hsv, rfl⟩
    | some b =>
      rw [hb] at hcb
      have hbok := hbase b hb
      cases hrel : Prefix.relativizeB (Prefix.newBaseIRI b) v with
      | panic => exact absurd hrel (Proofs.C13.relativize_no_panic_core b v hbok.2.2.2.1)
      | some r =>
        have hres : Prefix.goResolve b r = v := ((Proofs.C13.relativize_checked b v r hrel).2.1 hbok.2.2.1).2
        exact ⟨r, Or.inl (by simp only [writeIRIForm, hcl, hcb, Option.map_some, hrel]),
          scalars_of_relativize b v r hsv hrel, by simp only [readRef, hC.res_some, hres]⟩
      | none =>
        have hfull : writeIRIForm c v = .ok (.full v) := by simp only [writeIRIForm, hcl, hcb, Option.map_some, hrel]
        have hst := hv.2 hfull
        simp only [stableUnder, hb, beq_iff_eq] at hst
        exact ⟨v, Or.inr hfull, hsv, by simp only [readRef, hC.res_some, hst]⟩

theorem res_bind_ok {α γ : Type} {r : TtlEnc.Res α} {f : α → TtlEnc.Res γ} {b : γ} (h : r.bind f = .ok b) :
    ∃ a, r = .ok a ∧ f a = .ok b := by
  cases r with
  | ok a => exact ⟨a, rfl, h⟩
  | err => cases h
  | panic => cases h

theorem writeIRI_ok {v S : List Nat} (h : writeIRI c v = .ok S) :
    ∃ w, writeIRIForm c v = .ok w ∧ S = w.text c.T := by
  obtain ⟨w, hw, h⟩ := res_bind_ok (r := writeIRIForm c v) h
  injection h with h
  exact ⟨w, hw, h.symm⟩

theorem writeIRI_isOk (hT : DocTablesOK T) (hC : CfgOK C T) (hcT : c.T = T)
    (hcb : c.base = base.map Prefix.newBaseIRI) (hbase : ∀ b, base = some b → baseOK b)
    (v : List Nat) (hv : iriTermOK c base v) : ∃ t, writeIRI c v = .ok t := by
  rcases writeIRIForm_spec hT hC hcT hcb hbase v hv with ⟨_, _, _, _, hw, _⟩ | ⟨_, hw | hw, _⟩ <;>
    exact ⟨_, by rw [writeIRI, hw]; rfl⟩

/-- C02 `writeIRI_expand`, all three branches: under the same base / prefix environment the decoder
    reads the written form back as the original IRI. -/
theorem decode_writeIRI (hT : DocTablesOK T) (hC : CfgOK C T) (c : Ctx β) (hcT : c.T = T)
    (base : Option (List Nat)) (hcb : c.base = base.map Prefix.newBaseIRI) (hbase : ∀ b, base = some b → baseOK b)
    (hlab : ∀ m ∈ c.pm.ordered, labelSafe C.isSpace T m.pfx = true)
    (env : Env) (D : List Nat → Prop) (henv : EnvOK env base c.pm D) (v : List Nat) (hv : iriTermOK c base v)
    (hD : ∀ l ∈ usedOfIRI c.pm v, D l) (w : Written)
    (hw : writeIRIForm c v = .ok w) (e : NQ.End) (rest : List Nat) (hstop : LocalStop T e rest) :
    decodeWritten C T e env w rest = .ok v rest := by
  rcases writeIRIForm_spec hT hC hcT hcb hbase v hv with
    ⟨m, hm, loc, out, hw', hmv, hu, hsl, hok, hfmt⟩ | ⟨r, hw', hsr, hres⟩
  · obtain rfl : w = .pname m.pfx loc out := by rw [hw'] at hw; injection hw with hw; exact hw.symm
    obtain ⟨hpo, hps, _, _, _⟩ := labelSafe_parts (hlab m hm)
    exact iriPName_text hT hC e env m.pfx loc out v rest hpo hps hsl hok hfmt hstop
      (by simp [Env.expand, henv.pfx m hm (hD _ hu), hmv])
  · have hres' : resolveIRI C env r = some v := by rw [← henv.base] at hres; exact hres
    rcases hw' with hw' | hw' <;> rw [hw'] at hw <;> injection hw with hw <;> subst hw <;>
      exact iriIRIREF_text hT hC e env r v rest hsr hres'

theorem langString_not_shorthand : rdfLangString ≠ xsdBoolean ∧ rdfLangString ≠ xsdInteger ∧
    rdfLangString ≠ xsdDecimal ∧ rdfLangString ≠ xsdDouble :=
  ⟨asc_ne (by decide), asc_ne (by decide), asc_ne (by decide), asc_ne (by decide)⟩

theorem shorthand_ne_langString {dt lex : List Nat} (h : literalShorthand dt lex = true) : dt ≠ rdfLangString := by
  intro hdt
  rw [hdt] at h
  obtain ⟨h1, h2, h3, h4⟩ := langString_not_shorthand
  rcases C02.shorthand_datatypes _ _ h with h | h | h | h
  · exact h1 h
  · exact h2 h
  · exact h3 h
  · exact h4 h

/-- What `writeObject` writes for a well-formed object term, form by form. -/
inductive ObjForm (c : Ctx β) (base : Option (List Nat)) : Term β → List Nat → Prop
  | bnode (b : β) : ObjForm c base (.bnode b) (0x5f :: 0x3a :: c.label b)
  | iri {v text : List Nat} : iriTermOK c base v → writeIRI c v = .ok text → ObjForm c base (.iri v) text
  | bool {lex : List Nat} : literalShorthand xsdBoolean lex = true → ObjForm c base (.lit lex xsdBoolean none) lex
  | num {lex dt : List Nat} : literalShorthand dt lex = true → dt ≠ xsdBoolean → ObjForm c base (.lit lex dt none) lex
  | lang {lex tag : List Nat} : Scalars lex → langOK tag = true →
      ObjForm c base (.lit lex rdfLangString (some tag)) (formatLiteralLexicalForm c.T false lex ++ 0x40 :: tag)
  | plain {lex : List Nat} : Scalars lex →
      ObjForm c base (.lit lex xsdString none) (formatLiteralLexicalForm c.T false lex)
  | typed {lex dt d : List Nat} : Scalars lex → dt ≠ rdfLangString → dt ≠ rdfDirLangString → iriTermOK c base dt →
      writeIRI c dt = .ok d → usedOfObject c.pm (.lit lex dt none : Term β) = usedOfIRI c.pm dt →
      ObjForm c base (.lit lex dt none) (formatLiteralLexicalForm c.T false lex ++ 0x5e :: 0x5e :: d)

theorem writeObject_form (hw : ∀ v, iriTermOK c base v → ∃ t, writeIRI c v = .ok t) {o : Term β}
    (ho : objectOK c base o) : ∃ text, writeObject c o = .ok text ∧ ObjForm c base o text := by
  cases o with
  | bnode b => exact ⟨_, rfl, .bnode b⟩
  | iri v => obtain ⟨t, ht⟩ := hw v ho; exact ⟨t, ht, .iri ho ht⟩
  | lit lex dt lang =>
    obtain ⟨hlex, hl⟩ := ho
    by_cases hsh : literalShorthand dt lex = true
    · have hnl := shorthand_ne_langString hsh
      cases lang with
      | some t => exact absurd hl.1 hnl
      | none =>
        refine ⟨lex, by simp only [writeObject, hsh, ↓reduceIte], ?_⟩
        by_cases hb : dt = xsdBoolean
        · rw [hb] at hsh ⊢; exact .bool hsh
        · exact .num hsh hb
    · cases lang with
      | some tag =>
        obtain ⟨hdt, htag⟩ := hl
        rw [hdt] at hsh ⊢
        exact ⟨_, by simp only [writeObject, hsh, Bool.false_eq_true, ↓reduceIte], .lang hlex htag⟩
      | none =>
        obtain ⟨hnl, hnd, hdt⟩ := hl
        by_cases hxs : dt = xsdString
        · rw [hxs] at hsh hnl ⊢
          exact ⟨_, by simp only [writeObject, hsh, hnl, Bool.false_eq_true, ↓reduceIte], .plain hlex⟩
        · obtain ⟨d, hd⟩ := hw dt hdt
          exact ⟨_, by simp only [writeObject, hsh, hnl, hxs, Bool.false_eq_true, ↓reduceIte, hd, Res.map, Res.bind],
            .typed hlex hnl hnd hdt hd (by simp only [usedOfObject, hsh, hnl, hxs, Bool.false_eq_true, ↓reduceIte])⟩

theorem writeSubject_isOk (hw : ∀ v, iriTermOK c base v → ∃ t, writeIRI c v = .ok t) {s : Term β}
    (hs : subjectOK c base s) : ∃ t, writeSubject c s = .ok t := by
  cases s with
  | iri v => exact hw v hs
  | bnode b => exact ⟨_, rfl⟩
  | lit _ _ _ => exact hs.elim

theorem writePredicate_isOk (hw : ∀ v, iriTermOK c base v → ∃ t, writeIRI c v = .ok t) {p : List Nat}
    (hp : iriTermOK c base p) : ∃ t, writePredicate c p = .ok t := by
  unfold writePredicate
  split
  · exact ⟨_, rfl⟩
  · exact hw p hp

end Writers

end RdfModel.Proofs.C02Doc
