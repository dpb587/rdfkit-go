import RdfModel.Props.C05NQDefs
import RdfModel.Proofs.C01Consts
namespace RdfModel.Proofs.C05NQ
open RdfModel RdfModel.NQ RdfModel.C05NQ

theorem scanIRI_reads {T : Tables} {e : End} {st : SState} {inp acc v r : List Nat}
    (h : scanIRI T e st inp acc = .ok v r) :
    r.length < inp.length ∧ ∀ e' more, scanIRI T e' st (inp ++ more) acc = .ok v (r ++ more) := by
  fun_induction scanIRI T e st inp acc <;> simp_all [scanIRI] <;> omega

theorem scanLit_reads {T : Tables} {e : End} {st : SState} {inp acc v r : List Nat}
    (h : scanLit T e st inp acc = .ok v r) :
    r.length < inp.length ∧ ∀ e' more, scanLit T e' st (inp ++ more) acc = .ok v (r ++ more) := by
  fun_induction scanLit T e st inp acc <;> simp_all [scanLit] <;> omega

theorem langSecondary_reads {e : End} {inp acc v r : List Nat} (h : langSecondary e inp acc = .ok v r) :
    r.length ≤ inp.length ∧ (acc ≠ [] → v ≠ []) ∧
      ∀ e' more, langSecondary e' (inp ++ more) acc = .ok v (r ++ more) := by
  -- what `simp_all` leaves: the length fact in the two clauses that go on (letter or digit, `-`), and the clause that stops
  fun_induction langSecondary e inp acc <;> simp_all [langSecondary]
  · omega
  · omega
  · obtain ⟨rfl, rfl⟩ := h; simp [langSecondary, *]

theorem langPrimary_reads {e : End} {inp acc v r : List Nat} (h : langPrimary e inp acc = .ok v r) :
    r.length ≤ inp.length ∧ v ≠ [] ∧ ∀ e' more, langPrimary e' (inp ++ more) acc = .ok v (r ++ more) := by
  -- left over: the letter clause (length), the `-` clause (the second loop takes over), the clause that stops
  fun_induction langPrimary e inp acc <;> simp_all [langPrimary]
  · omega
  · have := langSecondary_reads h; simp at this; exact ⟨by omega, this.2.1, this.2.2⟩
  · obtain ⟨rfl, rfl⟩ := h; simp [langPrimary, *]

theorem bnFinish_reads {T : Tables} {acc rest l r : List Nat} (h : bnFinish T acc rest = .ok l r) :
    l.length + r.length = acc.length + rest.length ∧ (acc ≠ [] → l ≠ []) ∧
      ∀ more, bnFinish T acc (rest ++ more) = .ok l (r ++ more) := by
  -- every path through `bnFinish`: the error paths go, the three successes (trailing `.` handed back; label of
  -- two or more runes ending in PN_CHARS; single rune) are read off; left are the arithmetic of the first and the
  -- length test of the last on the longer rest
  unfold bnFinish at h ⊢
  repeat' split at h
  all_goals (try (simp at h; done))
  all_goals (simp only [R.ok.injEq] at h; obtain ⟨rfl, rfl⟩ := h; simp_all)
  · omega
  · intro _ hh; omega

theorem bnLoop_reads {T : Tables} {e : End} {inp acc l r : List Nat} (h : bnLoop T e inp acc = .ok l r) :
    l.length + r.length = acc.length + inp.length ∧ (acc ≠ [] → l ≠ []) ∧
      ∀ e' more, bnLoop T e' (inp ++ more) acc = .ok l (r ++ more) := by
  fun_induction bnLoop T e inp acc
  · cases h
  · next hc ih => have := ih h; simp at this ⊢; exact ⟨by omega, fun _ => this.2.1, fun e' more => by simp [bnLoop, hc, this.2.2]⟩
  · next hc =>
    have := bnFinish_reads h
    exact ⟨this.1, this.2.1, fun e' more => by simp only [List.cons_append, bnLoop, if_neg hc]; exact this.2.2 more⟩

theorem captureBNode_reads {T : Tables} {e : End} {inp l r : List Nat} (h : captureBNode T e inp = .ok l r) :
    l.length + r.length = inp.length ∧ l ≠ [] ∧ ∀ e' more, captureBNode T e' (inp ++ more) = .ok l (r ++ more) := by
  unfold captureBNode at h
  split at h
  · cases h
  · split at h
    · next hc =>
      have := bnLoop_reads h
      simp at this
      exact ⟨by simp; omega, this.2.1, fun e' more => by simp [captureBNode, hc, this.2.2]⟩
    · cases h

theorem captureIRI_ok {T : Tables} {urlOk : List Nat → Bool} {e : End} {inp v r : List Nat}
    (h : captureIRI T urlOk e inp = .ok v r) :
    (∃ dec, scanIRI T e .body inp [] = .ok dec r ∧ v = goString dec) ∧ urlOk v = true := by
  unfold captureIRI at h
  split at h
  · next dec rest hs =>
    simp only at h
    split at h
    · next hu => cases h; exact ⟨⟨dec, hs, rfl⟩, hu⟩
    · cases h
  · cases h

theorem captureIRI_reads {T : Tables} {urlOk : List Nat → Bool} {e : End} {inp v r : List Nat}
    (h : captureIRI T urlOk e inp = .ok v r) :
    r.length < inp.length ∧ ∀ e' more, captureIRI T urlOk e' (inp ++ more) = .ok v (r ++ more) :=
  let ⟨⟨_, hs, hv⟩, hu⟩ := captureIRI_ok h
  ⟨(scanIRI_reads hs).1, fun e' more => by subst hv; simp [captureIRI, (scanIRI_reads hs).2, hu]⟩

theorem captureLiteral_ok {β : Type} {T : Tables} {urlOk : List Nat → Bool} {e : End} {inp : List Nat}
    {v : Term β} {r : List Nat} (h : captureLiteral T urlOk e inp = .ok v r) :
    ∃ dec rest, scanLit T e .body inp [] = .ok dec rest ∧
      ((v = .lit (goString dec) xsdString none ∧ r = rest ∧ rest.head? ≠ some 0x40 ∧ rest.head? ≠ some 0x5e) ∨
       (∃ rest' tag, rest = 0x40 :: rest' ∧ langPrimary e rest' [] = .ok tag r ∧
          v = .lit (goString dec) rdfLangString (some tag)) ∨
       (∃ r2 dt, rest = 0x5e :: 0x5e :: 0x3c :: r2 ∧ captureIRI T urlOk e r2 = .ok dt r ∧
          dt ≠ rdfLangString ∧ dt ≠ rdfDirLangString ∧ v = .lit (goString dec) dt none)) := by
  unfold captureLiteral at h
  split at h
  · cases h
  next dec rest hs =>
  refine ⟨dec, rest, hs, ?_⟩
  cases rest with
  | nil => cases e <;> cases h; exact .inl ⟨rfl, rfl, nofun, nofun⟩
  | cons c rest' =>
    simp only at h
    split at h
    · next hc =>
      subst hc
      split at h
      · next tag r' hl => cases h; exact .inr (.inl ⟨_, _, rfl, hl, rfl⟩)
      · cases h
    split at h
    · next hc =>
      subst hc
      split at h; · cases h
      split at h; · cases h
      next hc1 =>
      split at h; · cases h
      split at h; · cases h
      next hc2 =>
      split at h
      · next dt r' hi =>
        split at h; · cases h
        next hne =>
        cases h
        cases Decidable.not_not.1 hc1
        cases Decidable.not_not.1 hc2
        exact .inr (.inr ⟨_, _, rfl, hi, fun hh => hne (.inl hh), fun hh => hne (.inr hh), rfl⟩)
      · cases h
    · next h1 h2 => cases h; exact .inl ⟨rfl, rfl, by simpa using h1, by simpa using h2⟩

/-- A literal read: the rest is not longer than the input, the value is well formed, and the same answer however the input goes on,
    provided something was left (at the end of the input a `@` or `^` might still have followed). -/
theorem captureLiteral_reads {T : Tables} {urlOk : List Nat → Bool} {e : End} {inp : List Nat}
    {v : Term (List Nat)} {r : List Nat} (h : captureLiteral T urlOk e inp = .ok v r) :
    r.length ≤ inp.length ∧ (∃ lex dt lang, v = .lit lex dt lang ∧ litOK urlOk dt lang) ∧
      (r ≠ [] → ∀ e' more, captureLiteral T urlOk e' (inp ++ more) = .ok v (r ++ more)) := by
  obtain ⟨dec, rest, hs, h⟩ := captureLiteral_ok h
  obtain ⟨h1, hx⟩ := scanLit_reads hs
  rcases h with ⟨rfl, rfl, h2, h3⟩ | ⟨rest', tag, rfl, hl, rfl⟩ | ⟨r2, dt, rfl, hi, hd1, hd2, rfl⟩
  · refine ⟨by omega, ⟨_, _, _, rfl, .inl rfl,
      ⟨fun h => absurd h C01.xsd_ne_lang, fun ⟨t, ht, _⟩ => nomatch ht⟩, C01.xsd_ne_dir⟩, fun hr e' more => ?_⟩
    cases r with
    | nil => exact absurd rfl hr
    | cons c r => simp_all [captureLiteral]
  · have := langPrimary_reads hl
    exact ⟨by simp only [List.length_cons] at h1; omega, ⟨_, _, _, rfl, .inr (.inl rfl),
      ⟨fun _ => ⟨tag, rfl, this.2.1⟩, fun _ => rfl⟩, C01.lang_ne_dir⟩,
      fun _ e' more => by simp [captureLiteral, hx, this.2.2]⟩
  · have := captureIRI_reads hi
    exact ⟨by simp only [List.length_cons] at h1; omega, ⟨_, _, _, rfl,
      .inr (.inr (captureIRI_ok hi).2), ⟨fun hh => absurd hh hd1, fun ⟨t, ht, _⟩ => nomatch ht⟩, hd2⟩,
      fun _ e' more => by simp [captureLiteral, hx, this.2, hd1, hd2]⟩

/-- What a position can yield. -/
def termShape (urlOk : List Nat → Bool) (pos : Pos) : Term (List Nat) → Prop
  | .iri v => urlOk v = true
  | .bnode l => pos.bnode = true ∧ l ≠ []
  | .lit _ dt lang => pos.literal = true ∧ litOK urlOk dt lang

theorem captureTerm_reads {T : Tables} {urlOk : List Nat → Bool} {e : End} {pos : Pos} {b : Bool}
    {inp : List Nat} {v : Term (List Nat)} {r : List Nat}
    (h : captureTerm T urlOk e pos b inp = .ok v r) :
    r.length < inp.length ∧ termShape urlOk pos v ∧
      (r ≠ [] → ∀ e' more, captureTerm T urlOk e' pos b (inp ++ more) = .ok v (r ++ more)) := by
  -- the error clauses go first, then the clauses that only skip (comment text, `#`) by the induction hypothesis;
  -- left, in the order of the definition: `<` (IRI), `_:` (label), `"` (literal), white space
  fun_induction captureTerm T urlOk e pos b inp
  all_goals (try (simp at h; done))
  all_goals (try (simp_all [captureTerm]; omega))
  · next hi =>
    cases h
    have := captureIRI_reads hi
    exact ⟨by simp; omega, (captureIRI_ok hi).2, fun _ e' more => by simp [captureTerm, this.2]⟩
  · next hp _ _ _ _ _ hb =>   -- `hp`: the opener test `c = '_' && pos.bnode`, `hb`: `captureBNode` succeeded
    cases h
    simp only [Bool.and_eq_true, decide_eq_true_eq] at hp
    have := captureBNode_reads hb
    exact ⟨by simp; omega, ⟨hp.2, this.2.1⟩, fun _ e' more => by simp_all [captureTerm]⟩
  · next hp =>
    simp only [Bool.and_eq_true, decide_eq_true_eq] at hp
    obtain ⟨hl, ⟨lex, dt, lang, rfl, hs⟩, hx⟩ := captureLiteral_reads h
    exact ⟨by simp; omega, ⟨hp.2, hs⟩, fun hr e' more => by simp_all [captureTerm]⟩
  · next h1 h2 h3 h4 h5 ih =>
    have := ih h
    refine ⟨by simp; omega, this.2.1, fun hr e' more => ?_⟩
    simp only [List.cons_append, captureTerm]
    rw [if_neg h1, if_neg h2, if_neg h3, if_neg h4, if_pos h5]
    exact this.2.2 hr e' more

theorem afterObject_reads {T : Tables} {e : End} {b : Bool} {inp : List Nat} {v : Option (List Nat)} {r : List Nat}
    (h : afterObject T e b inp = .ok v r) :
    r.length ≤ inp.length ∧ (v = none → r.length < inp.length) ∧
      ∀ e' more, afterObject T e' b (inp ++ more) = .ok (v.map (· ++ more)) (r ++ more) := by
  -- in the order of the definition: inside a comment (at its end / going on), `.`, `#`, white space, anything else
  fun_induction afterObject T e b inp <;> simp_all [afterObject]
  · omega
  · omega
  · obtain ⟨rfl, rfl⟩ := h; simp
  · omega
  · omega
  · obtain ⟨rfl, rfl⟩ := h; simp [afterObject, *]

theorem expectDot_reads {T : Tables} {e : End} {b : Bool} {inp r : List Nat} (h : expectDot T e b inp = .ok () r) :
    r.length < inp.length ∧ ∀ e' more, expectDot T e' b (inp ++ more) = .ok () (r ++ more) := by
  fun_induction expectDot T e b inp <;> simp_all [expectDot] <;> omega

theorem skipToStmt_reads {T : Tables} {b : Bool} {inp r : List Nat} (h : skipToStmt T b inp = some r) :
    r.length ≤ inp.length ∧ ∀ more, skipToStmt T b (inp ++ more) = some (r ++ more) := by
  -- inside a comment (at its end / going on), `#`, white space: the length; last the rune that starts a statement
  fun_induction skipToStmt T b inp <;> simp_all [skipToStmt]
  · omega
  · omega
  · omega
  · omega
  · subst h; simp [skipToStmt, *]

theorem toEOL_reads {T : Tables} {e : End} {b : Bool} {inp r : List Nat} (h : toEOL T e b inp = .start r) :
    r.length < inp.length ∧ ∀ e' more, toEOL T e' b (inp ++ more) = .start (r ++ more) := by
  fun_induction toEOL T e b inp <;> simp_all [toEOL] <;> omega

theorem captureTerm_ne {T : Tables} {urlOk : List Nat → Bool} {e : End} {pos : Pos} {b : Bool}
    {inp : List Nat} {v : Term (List Nat)} {r : List Nat}
    (h : captureTerm T urlOk e pos b inp = .ok v r) : inp ≠ [] := by
  rintro rfl; simp [captureTerm] at h

theorem afterObject_ne {T : Tables} {e : End} {b : Bool} {inp : List Nat} {v : Option (List Nat)}
    {r : List Nat} (h : afterObject T e b inp = .ok v r) : inp ≠ [] := by
  rintro rfl; simp [afterObject] at h

theorem expectDot_ne {T : Tables} {e : End} {b : Bool} {inp : List Nat}
    {r : List Nat} (h : expectDot T e b inp = .ok () r) : inp ≠ [] := by
  rintro rfl; simp [expectDot] at h

theorem statement_quad {T : Tables} {urlOk : List Nat → Bool} {e : End} {quads : Bool}
    {inp : List Nat} {q : Quad (List Nat)} {rest : List Nat}
    (h : statement T urlOk e quads inp = .quad q rest) :
    ∃ inp' s r1 p r2 o r3,
      skipToStmt T false inp = some inp' ∧
      captureTerm T urlOk e posSubject false inp' = .ok s r1 ∧
      captureTerm T urlOk e posPredicate false r1 = .ok p r2 ∧
      captureTerm T urlOk e posObject false r2 = .ok o r3 ∧
      ((quads = true ∧ afterObject T e false r3 = .ok none rest ∧ q = ⟨s, p, o, none⟩) ∨
       (quads = true ∧ ∃ x r4 g r5, afterObject T e false r3 = .ok (some x) r4 ∧
          captureTerm T urlOk e posSubject false r4 = .ok g r5 ∧
          expectDot T e false r5 = .ok () rest ∧ q = ⟨s, p, o, some g⟩) ∨
       (quads = false ∧ expectDot T e false r3 = .ok () rest ∧ q = ⟨s, p, o, none⟩)) := by
  unfold statement at h
  split at h
  · split at h <;> cases h
  next inp' hsk =>
  split at h; · cases h
  next s r1 hs =>
  split at h; · cases h
  next p r2 hp =>
  split at h; · cases h
  next o r3 ho =>
  refine ⟨inp', s, r1, p, r2, o, r3, hsk, hs, hp, ho, ?_⟩
  split at h
  · next hq =>
    split at h
    · cases h
    · next r4 ha => cases h; exact .inl ⟨hq, ha, rfl⟩
    · next x r4 ha =>
      split at h; · cases h
      next g r5 hg =>
      split at h; · cases h
      next r6 hd => cases h; exact .inr (.inl ⟨hq, x, r4, g, r5, ha, hg, hd, rfl⟩)
  · next hq =>
    split at h; · cases h
    next r4 hd => cases h; exact .inr (.inr ⟨by simpa using hq, hd, rfl⟩)

theorem nodeShape_of_subject {urlOk : List Nat → Bool} {t : Term (List Nat)}
    (h : termShape urlOk posSubject t) : nodeShape urlOk t := by
  cases t with
  | iri v => exact h
  | bnode l => exact h.2
  | lit l d t => exact absurd h.1 (by simp [posSubject])

theorem statement_reads {T : Tables} {urlOk : List Nat → Bool} {e : End} {quads : Bool}
    {inp rest : List Nat} {q : Quad (List Nat)} (h : statement T urlOk e quads inp = .quad q rest) :
    rest.length < inp.length ∧ WFShape urlOk quads q ∧
      ∀ e' more, statement T urlOk e' quads (inp ++ more) = .quad q (rest ++ more) := by
  obtain ⟨inp', s, r1, p, r2, o, r3, hsk, hs, hp, ho, hrest⟩ := statement_quad h
  obtain ⟨l0, x0⟩ := skipToStmt_reads hsk
  obtain ⟨l1, w1, x1⟩ := captureTerm_reads hs
  obtain ⟨l2, w2, x2⟩ := captureTerm_reads hp
  obtain ⟨l3, w3, x3⟩ := captureTerm_reads ho
  have h1 := nodeShape_of_subject w1
  have h2 : ∃ v, p = .iri v ∧ urlOk v = true := by
    cases p with
    | iri v => exact ⟨v, rfl, w2⟩
    | bnode l => exact absurd w2.1 (by simp [posPredicate])
    | lit l d t => exact absurd w2.1 (by simp [posPredicate])
  have h3 : objectShape urlOk o := by
    cases o with
    | iri v => exact w3
    | bnode l => exact w3.2
    | lit l d t => exact w3.2
  have x1 := x1 (captureTerm_ne hp)
  have x2 := x2 (captureTerm_ne ho)
  rcases hrest with ⟨rfl, ha, rfl⟩ | ⟨rfl, x, r4, g, r5, ha, hg, hd, rfl⟩ | ⟨rfl, hd, rfl⟩
  · obtain ⟨la, _, xa⟩ := afterObject_reads ha
    exact ⟨by omega, ⟨h1, h2, h3, nofun⟩, fun e' more => by
      simp only [statement, x0, x1, x2, x3 (afterObject_ne ha), xa, if_true, Option.map]⟩
  · obtain ⟨la, _, xa⟩ := afterObject_reads ha
    obtain ⟨lg, wg, xg⟩ := captureTerm_reads hg
    obtain ⟨ld, xd⟩ := expectDot_reads hd
    exact ⟨by omega, ⟨h1, h2, h3, fun g' hg' => by cases hg'; exact ⟨rfl, nodeShape_of_subject wg⟩⟩, fun e' more => by
      simp only [statement, x0, x1, x2, x3 (afterObject_ne ha), xa, xg (expectDot_ne hd), xd, if_true, Option.map]⟩
  · obtain ⟨ld, xd⟩ := expectDot_reads hd
    exact ⟨by omega, ⟨h1, h2, h3, nofun⟩, fun e' more => by
      simp only [statement, x0, x1, x2, x3 (expectDot_ne hd), xd, Bool.false_eq_true, if_false]⟩

/-- A statement yielded by `next` is yielded by `statement`: on the input itself at the first call,
    later on what follows the end of the previous statement's line. -/
theorem next_quad {T : Tables} {urlOk : List Nat → Bool} {e : End} {quads started : Bool}
    {inp rest : List Nat} {q : Quad (List Nat)} (h : next T urlOk e quads started inp = .quad q rest) :
    ∃ inp', statement T urlOk e quads inp' = .quad q rest ∧
      ((started = false ∧ inp' = inp) ∨ (started = true ∧ toEOL T e false inp = .start inp')) := by
  unfold next at h
  split at h
  · next hst =>
    split at h
    · cases h
    · cases h
    · next r ht => exact ⟨r, h, .inr ⟨hst, ht⟩⟩
  · next hst => exact ⟨inp, h, .inl ⟨by simpa using hst, rfl⟩⟩

theorem next_reads {T : Tables} {urlOk : List Nat → Bool} {e : End} {quads started : Bool}
    {inp rest : List Nat} {q : Quad (List Nat)} (h : next T urlOk e quads started inp = .quad q rest) :
    rest.length < inp.length ∧ WFShape urlOk quads q ∧
      ∀ e' more, next T urlOk e' quads started (inp ++ more) = .quad q (rest ++ more) := by
  obtain ⟨inp', hs, ⟨rfl, rfl⟩ | ⟨rfl, ht⟩⟩ := next_quad h
  · simpa only [next, Bool.false_eq_true, if_false] using statement_reads hs
  · obtain ⟨l, w, x⟩ := statement_reads hs
    obtain ⟨lt, xt⟩ := toEOL_reads ht
    exact ⟨by omega, w, fun e' more => by simp only [next, if_true, xt, x]⟩

theorem runFuel_forall {P : Quad (List Nat) → Prop} {T : Tables} {urlOk : List Nat → Bool} {e : End}
    {quads : Bool}
    (hP : ∀ started inp q rest, next T urlOk e quads started inp = .quad q rest → P q) :
    ∀ (fuel : Nat) (started : Bool) (inp : List Nat),
      ∀ q ∈ (runFuel T urlOk e quads fuel started inp).1, P q := by
  intro fuel
  induction fuel with
  | zero => intro _ _ q hq; simp [runFuel] at hq
  | succ f ih =>
    intro started inp q hq
    unfold runFuel at hq
    split at hq
    · simp at hq
    · simp at hq
    · next q' rest hn =>
      rcases List.mem_cons.1 hq with rfl | hq
      · exact hP _ _ _ _ hn
      · exact ih true rest q hq

theorem runFuel_verdict {V : Verdict → Prop} {T : Tables} {urlOk : List Nat → Bool} {e : End} {quads : Bool}
    (hdone : ∀ started inp, next T urlOk e quads started inp = .done → V .clean)
    (herr : ∀ x, V (.error x)) :
    ∀ (fuel : Nat) (started : Bool) (inp : List Nat), inp.length + 1 ≤ fuel →
      V (runFuel T urlOk e quads fuel started inp).2 := by
  intro fuel
  induction fuel with
  | zero => intro _ _ h; omega
  | succ f ih =>
    intro started inp hf
    unfold runFuel
    split
    · next hn => exact hdone _ _ hn
    · exact herr _
    · next q rest hn =>
      have := (next_reads hn).1
      exact ih true rest (by omega)

theorem next_extend (T : Tables) (urlOk : List Nat → Bool) (e e' : End) (quads started : Bool)
    (inp rest more : List Nat) (q : Quad (List Nat))
    (h : next T urlOk e quads started inp = .quad q rest) :
    next T urlOk e' quads started (inp ++ more) = .quad q (rest ++ more) :=
  (next_reads h).2.2 e' more

theorem runFuel_prefix (T : Tables) (urlOk : List Nat → Bool) (e e' : End) (quads : Bool)
    (more : List Nat) :
    ∀ (fuel fuel' : Nat) (started : Bool) (p : List Nat), (p ++ more).length + 1 ≤ fuel' →
      (runFuel T urlOk e quads fuel started p).1 <+:
        (runFuel T urlOk e' quads fuel' started (p ++ more)).1 := by
  intro fuel
  induction fuel with
  | zero => intro _ _ _ _; simp [runFuel]
  | succ f ih =>
    intro fuel' started p hf
    obtain ⟨f', rfl⟩ : ∃ f', fuel' = f' + 1 := ⟨fuel' - 1, by omega⟩
    rw [runFuel]
    split
    · simp
    · simp
    · next q rest hn =>
      have hsh := (next_reads hn).1
      rw [runFuel, next_extend T urlOk e e' quads started p rest more q hn]
      simp only
      have := ih f' true rest (by simp only [List.length_append] at hf ⊢; omega)
      exact List.prefix_cons_inj q |>.2 this

theorem prefix_monotone (T : Tables) (urlOk : List Nat → Bool) (e e' : End) (quads : Bool)
    (p more : List Nat) :
    (run T urlOk e quads p).1 <+: (run T urlOk e' quads (p ++ more)).1 :=
  runFuel_prefix T urlOk e e' quads more _ _ false p (Nat.le_refl _)

theorem done_only_on_blank (T : Tables) (urlOk : List Nat → Bool) (e : End) (quads : Bool)
    (inp : List Nat) (h : statement T urlOk e quads inp = .done) :
    e = .eof ∧ allBlank T inp = true := by
  unfold statement at h
  split at h
  · next hsk =>
    split at h
    · exact ⟨rfl, by simp [allBlank, hsk]⟩
    · simp at h
  · -- once a statement has begun, every path ends in `.quad` or `.fail`
    exfalso
    repeat' split at h
    all_goals simp at h

theorem toEOL_done (T : Tables) (e : End) (b : Bool) (inp : List Nat)
    (h : toEOL T e b inp = .done) : e = .eof := by
  fun_induction toEOL T e b inp
  all_goals (try (simp at h; done))
  all_goals (try (simp_all; done))

theorem next_done (T : Tables) (urlOk : List Nat → Bool) (e : End) (quads started : Bool)
    (inp : List Nat) (h : next T urlOk e quads started inp = .done) : e = .eof := by
  unfold next at h
  split at h
  · split at h
    · next ht => exact toEOL_done _ _ _ _ ht
    · simp at h
    · exact (done_only_on_blank _ _ _ _ _ h).1
  · exact (done_only_on_blank _ _ _ _ _ h).1

theorem ioerr_reported (T : Tables) (urlOk : List Nat → Bool) (quads : Bool) (inp : List Nat) :
    ∃ x, (run T urlOk .ioerr quads inp).2 = .error x :=
  runFuel_verdict (e := .ioerr) (V := fun v => ∃ x, v = .error x) (fun _ _ hn => nomatch next_done _ _ _ _ _ _ hn)
    (fun x => ⟨x, rfl⟩) _ false inp (Nat.le_refl _)

/-- A decoder that has returned false: error latched, or at a clean end of an `.eof` stream. -/
def Latched (e : End) (d : Dec) : Prop :=
  d.err.isSome = true ∨ (e = .eof ∧ d = ⟨[], none, none⟩)

theorem latched_of_false (T : Tables) (urlOk : List Nat → Bool) (e : End) (quads : Bool) (d : Dec)
    (h : (Dec.next T urlOk e quads d).2 = false) : Latched e (Dec.next T urlOk e quads d).1 := by
  unfold Dec.next at h ⊢
  split
  · next x he => exact Or.inl (by simp [he])
  · next he =>
    simp only [he] at h
    split
    · next hn => simp [hn] at h
    · next hn => exact Or.inr ⟨next_done _ _ _ _ _ _ hn, rfl⟩
    · exact Or.inl rfl

theorem next_of_latched (T : Tables) (urlOk : List Nat → Bool) (e : End) (quads : Bool) (d : Dec)
    (h : Latched e d) : Dec.next T urlOk e quads d = (d, false) := by
  rcases h with h | ⟨rfl, rfl⟩
  · unfold Dec.next
    split
    · rfl
    · next he => simp [he] at h
  · simp [Dec.next, NQ.next, statement, skipToStmt]

theorem nextN_of_latched (T : Tables) (urlOk : List Nat → Bool) (e : End) (quads : Bool) (n : Nat)
    (d : Dec) (h : Latched e d) : Dec.nextN T urlOk e quads n d = (d, false) := by
  induction n with
  | zero => exact next_of_latched _ _ _ _ _ h
  | succ n ih => simp only [Dec.nextN, next_of_latched _ _ _ _ _ h, ih]

end RdfModel.Proofs.C05NQ
