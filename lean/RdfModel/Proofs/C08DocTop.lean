import RdfModel.Proofs.C08DocRun
namespace RdfModel.C08
open RdfModel RdfModel.TA RdfModel.C02 RdfModel.Ttl RdfModel.Spec.TtlPrint RdfModel.TtlDoc

section
variable {T : Tables} (hT : TablesOK T) (hT2 : TablesOK2 T) {C : Cfg} (hC : CfgOK T C)
variable {ch : Choices} (hch : choicesOK ch = true)

include hT2 hC in
theorem pIri_follows (x : IriS) (hwf : iriWf T x = true) (i : Nat) (R : List Nat) :
    ∃ c r, Follows C (pIri ⟨T, ch⟩ i x R) c r ∧ ∀ d ∈ delims, d ≠ 0x3c → d ≠ 0x3a → c ≠ d := by
  cases x with
  | ref rr =>
    have htext := printIRIREF_text (ch.at i).cs rr (after T .punct (ch.at i) R)
    have htx : pIri ⟨T, ch⟩ i (.ref rr) R = _ := htext
    exact ⟨0x3c, _, htx ▸ follows_punct hT2 hC (by decide) _, fun d _ h _ hh => h hh.symm⟩
  | pn p l =>
    obtain ⟨out, lo, c0, tl0, hout, htext, _, hns, _⟩ := pname_text (ch.at i).cs hwf (after T .name (ch.at i) R)
    refine ⟨c0, tl0, ?_, fun d hd _ h => nameStart_ne hT2 hns hd h⟩
    rw [show pIri ⟨T, ch⟩ i (.pn p l) R = c0 :: tl0 by simp [pIri, iriText, iriKind, hout, htext]]
    exact follows_solid hT2 hC (nameStart_solid hT2 hns).1 (nameStart_solid hT2 hns).2 _

include hT2 hC in
theorem pVerb_follows (v : Verb) (hwf : verbWf T v = true) (i : Nat) (R : List Nat) :
    ∃ c r, Follows C (pVerb ⟨T, ch⟩ i v R) c r ∧ c ≠ 0x7b ∧ c ≠ 0x7d ∧ c ≠ 0x5d := by
  cases v with
  | a =>
    exact ⟨0x61, _, follows_solid hT2 hC (alpha_solid hT2 (c := 0x61) (by decide)).1 (by decide) _, by decide, by decide, by decide⟩
  | iri x0 =>
    obtain ⟨c, r, hf, hne⟩ := pIri_follows hT2 hC x0 hwf i R
    exact ⟨c, r, hf, hne _ (by decide) (by decide) (by decide), hne _ (by decide) (by decide) (by decide),
      hne _ (by decide) (by decide) (by decide)⟩

include hT2 hC in
theorem pPOs_follows (pos : List PO) (hne : pos ≠ []) (hfit : ∀ po ∈ pos, POFit T C ch po) (i : Nat) (R : List Nat) :
    ∃ c r, Follows C (pPOs ⟨T, ch⟩ i pos R) c r ∧ c ≠ 0x7b ∧ c ≠ 0x7d ∧ c ≠ 0x5d := by
  cases pos with
  | nil => exact absurd rfl hne
  | cons po pos' =>
    obtain ⟨v, os⟩ := po
    have hv := (hfit _ List.mem_cons_self).1
    cases pos' with
    | nil => simpa [pPOs, pPO] using pVerb_follows hT2 hC v hv i _
    | cons po' pos'' => simpa [pPOs, pPO] using pVerb_follows hT2 hC v hv i _

-- `Follows C R c r` and `c ≠ '{'` below are for TriG's one-token subjects only: `tgE1` looks at the rune after the
-- token to tell a subject from a graph label (`subjTop_tok`); `SubjAt` has no such premise.
/-- The run from the top-level scan function over a printed subject up to the point where the
    predicate-object list is read. -/
def SubjTopGood (T : Tables) (C : Cfg) (ch : Choices) (sj : Subj) : Prop :=
  ∀ (i : Nat) (x0 : Ectx) (s : List Frame) (inp R : List Nat) (c : Nat) (r : List Nat) (st st1 : DState) (sT : TermB)
    (qs : List QuadB),
    Follows C R c r → c ≠ 0x7b → x0.subj = none → x0.graph = none →
    dSubj C.resolve none st sj = some (sT, qs, st1) →
    SkEq C inp (pSubj ⟨T, ch⟩ i sj R) →
    ∃ (inp' : List Nat) (req : Bool) (x' xe : Ectx), SkEq C inp' R ∧ x'.subj = some (toT sT) ∧ x'.graph = none ∧
      (subjIsBnpl sj = true → req = false) ∧
      Steps C .eof ⟨⟨x0, .statement⟩ :: s, inp, envOf st⟩ (qs.map toStmt)
        ⟨⟨x', if req then .polRequired else .pol⟩ :: ⟨x', .polContinue⟩ :: ⟨xe, .triplesEnd⟩ :: ⟨x0, .statement⟩ :: s, inp',
          envOf st1⟩

theorem iri_notLit (i : List Nat) : ∀ a b c, (Term.iri i : TtlDoc.T) ≠ .lit a b c := by intro a b c h; cases h
theorem bnode_notLit (b : TtlDoc.BN) : ∀ a b' c, (Term.bnode b : TtlDoc.T) ≠ .lit a b' c := by intro a b' c h; cases h

/-- TriG reads an IRI or a label at the start of a statement before it can know whether it is a
    graph label or a subject; the frame `tgE1` decides on the token after it. -/
theorem trig_tok (htr : C.trig = true) {env : Env} {t : TtlDoc.T} {A inp tl0 : List Nat} {c0 : Nat}
    (h : TermTok C env t A c0 tl0) (x0 : Ectx) (s : List Frame) (hin : SkEq C inp (c0 :: tl0)) :
    Steps C .eof ⟨⟨x0, .statement⟩ :: s, inp, env⟩ [] ⟨⟨x0, .tgE1 t⟩ :: ⟨x0, .statement⟩ :: s, A, env⟩ := by
  simpa using Steps.tok (s := s) hin rfl h.vis (fn_statement_trig_tok htr h)
    (Steps.refl _)

include hT hT2 hC in
theorem trig_first (htr : C.trig = true) (lab : GLabel) (hwf : glabelWf T lab = true) (j : Nat) (x0 : Ectx)
    (s : List Frame) (inp R : List Nat) (st st1 : DState) (t : TermB)
    (hd : dLabel C.resolve st (some lab) = some (some t, st1))
    (hin : SkEq C inp (pLabel ⟨T, ch⟩ j (some lab) R)) :
    ∃ A, SkEq C A R ∧ Steps C .eof ⟨⟨x0, .statement⟩ :: s, inp, envOf st⟩ []
        ⟨⟨x0, .tgE1 (toT t)⟩ :: ⟨x0, .statement⟩ :: s, A, envOf st1⟩ := by
  cases lab with
  | iri x1 =>
    simp only [dLabel, Option.map_eq_some_iff, Prod.mk.injEq, Option.some.injEq] at hd
    obtain ⟨ii, hii, rfl, rfl⟩ := hd
    obtain ⟨c0, tl0, A, htx, hA, _, htok, _⟩ := iri_tok (ch := ch) hT hT2 hC x1 (by simpa [glabelWf] using hwf) st ii hii j R
    exact ⟨A, hA, trig_tok htr htok x0 s (by simpa [pLabel, htx] using hin)⟩
  | bn l =>
    simp only [dLabel, Option.some.injEq, Prod.mk.injEq] at hd
    obtain ⟨rfl, rfl⟩ := hd
    obtain ⟨tl0, A, htx, hA, htok⟩ := bn_tok (ch := ch) hT hT2 hC l (by simpa [glabelWf] using hwf) (envOf st) j R
    exact ⟨A, hA, trig_tok htr htok x0 s (by simpa [pLabel, htx] using hin)⟩
  | anon =>
    simp only [dLabel, Option.some.injEq, Prod.mk.injEq] at hd
    obtain ⟨rfl, rfl⟩ := hd
    have hA1 := after_skip_at T C ch .punct j (0x5d :: after T .punct (ch.at (j + 1)) R)
    refine ⟨_, after_skip_at T C ch .punct (j + 1) R, ?_⟩
    have s2 := Steps.fol (s := ⟨x0, .statement⟩ :: s) hA1 (follows_punct hT2 hC (by decide) _)
      (fn_tgBracket_close x0 (envOf st).fresh.2 (envOf st).fresh.1 _) (Steps.refl _)
    simpa [envOf_fresh] using Steps.punct hT2 hC (s := s) hin
      (show pLabel ⟨T, ch⟩ j (some .anon) R = 0x5b :: after T .punct (ch.at j) (0x5d :: after T .punct (ch.at (j + 1)) R) by
        simp [pLabel, pPunct])
      (by decide) (fn_statement_trig_bracket htr x0 (envOf st) _) (by simpa [envOf_fresh] using s2)

/-- a one-token subject at the top level: Turtle re-reads it in the frame for its class, TriG has
    read it already and `tgE1` sees that no `{` follows -/
theorem subjTop_tok {env : Env} {t : TtlDoc.T} {A inp tl0 R r : List Nat} {c0 c : Nat} (h : TermTok C env t A c0 tl0)
    (hlit : ∀ a b c, t ≠ .lit a b c) (x0 : Ectx) (s : List Frame) (hf : Follows C R c r) (h7b : c ≠ 0x7b)
    (hA : SkEq C A R) (hin : SkEq C inp (c0 :: tl0)) :
    ∃ inp' xe, SkEq C inp' R ∧ Steps C .eof ⟨⟨x0, .statement⟩ :: s, inp, env⟩ []
      ⟨⟨{ x0 with subj := some t }, .polRequired⟩ :: ⟨{ x0 with subj := some t }, .polContinue⟩ :: ⟨xe, .triplesEnd⟩ ::
        ⟨x0, .statement⟩ :: s, inp', env⟩ := by
  cases htr : C.trig with
  | false => exact ⟨A, x0, hA, by simpa using subj_run (s := s) h hin (fn_statement_ttl_tok htr h)⟩
  | true =>
    refine ⟨c :: r, { x0 with subj := some t }, hf.skEq, ?_⟩
    have s2 := Steps.fol (s := ⟨x0, .statement⟩ :: s) hA hf (fn_tgE1_subj x0 env t hlit c r h7b) (Steps.refl _)
    simpa using (trig_tok htr h x0 s hin).trans (by simpa using s2)

include hT hT2 hC in
theorem subjTop_iri (x1 : IriS) (hwf : iriWf T x1 = true) : SubjTopGood T C ch (.iri x1) := by
  intro i x0 s inp R c r st st1 sT qs hf h7b hxs hxg hd hin
  simp only [dSubj, dObj, Option.map_eq_some_iff, Prod.mk.injEq] at hd
  obtain ⟨ii, hii, rfl, rfl, rfl⟩ := hd
  obtain ⟨c0, tl0, A, htx, hA, _, htok, _⟩ := iri_tok (ch := ch) hT hT2 hC x1 hwf st ii hii i R
  obtain ⟨inp', xe, he, s1⟩ := subjTop_tok htok (iri_notLit ii) x0 s hf h7b hA
    (by simpa [pSubj, pObj, htx] using hin)
  exact ⟨inp', true, { x0 with subj := some (.iri ii) }, xe, he, rfl, hxg, by simp [subjIsBnpl], by simpa using s1⟩

include hT hT2 hC in
theorem subjTop_bn (l : List Nat) (hwf : labelWf T l = true) : SubjTopGood T C ch (.bn l) := by
  intro i x0 s inp R c r st st1 sT qs hf h7b hxs hxg hd hin
  simp only [dSubj, dObj, Option.some.injEq, Prod.mk.injEq] at hd
  obtain ⟨rfl, rfl, rfl⟩ := hd
  obtain ⟨tl0, A, htx, hA, htok⟩ := bn_tok (ch := ch) hT hT2 hC l hwf (envOf st) i R
  obtain ⟨inp', xe, he, s1⟩ := subjTop_tok htok (bnode_notLit _) x0 s hf h7b hA
    (by simpa [pSubj, pObj, htx] using hin)
  exact ⟨inp', true, { x0 with subj := some (.bnode (.lbl l)) }, xe, he, rfl, hxg, by simp [subjIsBnpl], by simpa using s1⟩

include hT2 hC in
theorem subjTop_anon : SubjTopGood T C ch .anon := by
  intro i x0 s inp R c r st st1 sT qs hf h7b hxs hxg hd hin
  simp only [dSubj, dObj, Option.some.injEq, Prod.mk.injEq] at hd
  obtain ⟨rfl, rfl, rfl⟩ := hd
  have hA1 := after_skip_at T C ch .punct i (0x5d :: after T .punct (ch.at (i + 1)) R)
  have hA2 := after_skip_at T C ch .punct (i + 1) R
  have htx : pSubj ⟨T, ch⟩ i .anon R = 0x5b :: after T .punct (ch.at i) (0x5d :: after T .punct (ch.at (i + 1)) R) := by
    simp [pSubj, pObj, pPunct]
  have hf5d : Follows C (0x5d :: after T .punct (ch.at (i + 1)) R) 0x5d (after T .punct (ch.at (i + 1)) R) :=
    follows_punct hT2 hC (by decide) _
  cases htr : C.trig with
  | false =>
    refine ⟨_, true, { x0 with subj := some (envOf st).fresh.1 }, { x0 with subj := some (envOf st).fresh.1 }, hA2, rfl, hxg, (by simp [subjIsBnpl]), ?_⟩
    have s2 := Steps.fol (s := ⟨x0, .statement⟩ :: s)
      hA1 hf5d (fn_subjAnon_close { x0 with subj := some (envOf st).fresh.1 } (envOf st).fresh.2 _) (Steps.refl _)
    have s1 := Steps.punct hT2 hC (s := s) hin htx
      (by decide) (fn_statement_ttl_bracket htr x0 (envOf st) _) (by simpa using s2)
    simpa [envOf_fresh] using s1
  | true =>
    refine ⟨c :: r, true, { x0 with subj := some (envOf st).fresh.1 }, { x0 with subj := some (envOf st).fresh.1 },
      hf.skEq, rfl, hxg, (by simp [subjIsBnpl]), ?_⟩
    have s3 := Steps.fol (s := ⟨x0, .statement⟩ :: s) hA2 hf
      (fn_tgE1_subj x0 (envOf st).fresh.2 (envOf st).fresh.1 (bnode_notLit _) c r h7b) (Steps.refl _)
    have s2 := Steps.fol (s := ⟨x0, .statement⟩ :: s)
      hA1 hf5d (fn_tgBracket_close x0 (envOf st).fresh.2 (envOf st).fresh.1 _) (by simpa using s3)
    have s1 := Steps.punct hT2 hC (s := s) hin htx
      (by decide) (fn_statement_trig_bracket htr x0 (envOf st) _) (by simpa using s2)
    simpa [envOf_fresh, toT, Term.map, toBN, DState.fresh, Env.fresh, envOf] using s1

/-- The run over one top-level statement `subject predicateObjectList .` -/
def StatementGood (T : Tables) (C : Cfg) (ch : Choices) (t : Triples) : Prop :=
  ∀ (i : Nat) (x0 : Ectx) (s : List Frame) (inp rest : List Nat) (st st' : DState) (qs : List QuadB),
    x0.subj = none → x0.graph = none →
    dTriples C.resolve none st t = some (qs, st') →
    SkEq C inp (pStatement ⟨T, ch⟩ i t rest) →
    ∃ inp', SkEq C inp' rest ∧
      Steps C .eof ⟨⟨x0, .statement⟩ :: s, inp, envOf st⟩ (qs.map toStmt) ⟨⟨x0, .statement⟩ :: s, inp', envOf st'⟩

include hT hT2 hC hch in
theorem statementGood (t : Triples) (hsj : SubjTopGood T C ch t.s) (hne : t.pos ≠ [] ∨ subjIsBnpl t.s = true)
    (hfit : ∀ po ∈ t.pos, POFit T C ch po) : StatementGood T C ch t := by
  intro i x0 s inp rest st st' qs hxs hxg hd hin
  simp only [dTriples] at hd
  cases hds : dSubj C.resolve none st t.s with
  | none => simp [hds] at hd
  | some res =>
    obtain ⟨sT, qs1, st1⟩ := res
    simp only [hds] at hd
    cases hdp : dPOs C.resolve sT none st1 t.pos with
    | none => simp [hdp] at hd
    | some res2 =>
      obtain ⟨qs2, st2⟩ := res2
      simp only [hdp, Option.some.injEq, Prod.mk.injEq] at hd
      obtain ⟨rfl, rfl⟩ := hd
      let j := i + triplesSlots t - 1
      have hfd : Follows C (pPunct ⟨T, ch⟩ j 0x2e rest) 0x2e (after T .punct (ch.at j) rest) :=
        follows_punct hT2 hC (by decide) _
      obtain ⟨c, r, hfv, h7b⟩ : ∃ c r, Follows C (pPOs ⟨T, ch⟩ (i + subjSlots t.s) t.pos (pPunct ⟨T, ch⟩ j 0x2e rest)) c r ∧ c ≠ 0x7b := by
        by_cases hpe : t.pos = []
        · rw [hpe]; exact ⟨0x2e, _, by simpa [pPOs] using hfd, by decide⟩
        · obtain ⟨c, r, h1, h2, _⟩ := pPOs_follows hT2 hC t.pos hpe hfit (i + subjSlots t.s) (pPunct ⟨T, ch⟩ j 0x2e rest)
          exact ⟨c, r, h1, h2⟩
      obtain ⟨inp1, req, x', xe, he1, hx's, hx'g, hbn, s1⟩ := hsj i x0 s inp _ c r st st1 sT qs1 hfv h7b hxs hxg hds
        (by simpa [pStatement, pTriples, j] using hin)
      obtain ⟨inp2, he2, s2⟩ := posGood hT hT2 hC hch t.pos hfit (i + subjSlots t.s) x'
        (⟨xe, .triplesEnd⟩ :: ⟨x0, .statement⟩ :: s) inp1 _ 0x2e _ none st1 st2 qs2 sT req hfd (Or.inl rfl) hx's (by simpa using hx'g)
        (fun hpe => hbn (by rcases hne with h | h; exact absurd hpe h; exact h)) hdp he1
      refine ⟨_, after_skip_at T C ch .punct j rest, ?_⟩
      have s3 : Steps C .eof ⟨⟨xe, .triplesEnd⟩ :: ⟨x0, .statement⟩ :: s, inp2, envOf st2⟩ []
          ⟨⟨x0, .statement⟩ :: s, after T .punct (ch.at j) rest, envOf st2⟩ := by
        simpa using Steps.fol (s := ⟨x0, .statement⟩ :: s) he2 hfd
          (fn_triplesEnd xe _ _) (Steps.refl _)
      have s23 := s2.trans s3
      rw [List.append_nil] at s23
      simpa using s1.trans s23

include hT2 hC in
theorem kwCase_head (n k : Nat) (ks R : List Nat) (hk : 0x41 ≤ k ∧ k ≤ 0x5a) :
    ∃ k0 ktl, kwCase n (k :: ks) ++ R = k0 :: ktl ∧ Vis C k0 := by
  have ha : isAlpha (if n % 2 = 1 then k + 0x20 else k) = true := by
    split <;> simp [isAlpha, NQ.isAlpha] <;> omega
  exact ⟨_, _, rfl, vis_solid hT2 hC (alpha_solid hT2 ha).1 (alpha_solid hT2 ha).2⟩

include hT hT2 hC hch in
/-- a directive leaves one more `.statement` frame than it found: `reader_scanStatement` pushes itself and the
    directive's last closure returns it again (Model/TurtleDoc, header: "each directive leaks one `reader_scanStatement` frame") -/
theorem dir_good (d : Dir) (hwf : dirWf T d = true) (i : Nat) (x0 : Ectx) (s : List Frame) (inp rest : List Nat)
    (st st' : DState) (hd : dDir C.resolve st d = some st') (hin : SkEq C inp (pDir ⟨T, ch⟩ i d rest)) :
    ∃ inp', SkEq C inp' rest ∧
      Steps C .eof ⟨⟨x0, .statement⟩ :: s, inp, envOf st⟩ [] ⟨⟨x0, .statement⟩ :: ⟨x0, .statement⟩ :: s, inp', envOf st'⟩ := by
  have hv : ∀ {c : Nat}, c ∈ delims ∧ isWsRune c = false ∧ c ≠ 0x23 → Vis C c := vis_punct hT2 hC
  have hsk := after_skip_at T C ch
  -- the two tokens of a directive that are not punctuation, each behind any text `A` that skips to it
  have hiri : ∀ j (rr R A : List Nat), scalarsB rr = true → SkEq C A (pIriRef ⟨T, ch⟩ j rr R) →
      SkEq C A (0x3c :: (printIriBody (ch.at j).cs rr ++ [0x3e] ++ after T .punct (ch.at j) R)) ∧
      C.P.iriref .eof (0x3c :: (printIriBody (ch.at j).cs rr ++ [0x3e] ++ after T .punct (ch.at j) R)) =
        .ok rr (after T .punct (ch.at j) R) := by
    intro j rr R A hrr hA
    rw [← printIRIREF_text]
    exact ⟨by simpa [pIriRef] using hA, iriref_print hT hC _ rr _ (scalars_of_B hrr)⟩
  have hns : ∀ j (p R A : List Nat), prefixOK2 T p = true ∧ scalarsB p = true → SkEq C A (pNs ⟨T, ch⟩ j p R) →
      ∃ c0 tl0, SkEq C A (c0 :: tl0) ∧ Vis C c0 ∧ C.P.pnameNS .eof (c0 :: tl0) = .ok p (after T .punct (ch.at j) R) := by
    intro j p R A hp hA
    obtain ⟨c0, tl0, h⟩ : ∃ c0 tl0, p ++ 0x3a :: after T .punct (ch.at j) R = c0 :: tl0 := by cases p <;> simp
    obtain ⟨h1, h2⟩ := nameStart_solid hT2 (prefix_head hp.1 _ c0 tl0 h)
    exact ⟨c0, tl0, by simpa [pNs, h] using hA, vis_solid hT2 hC h1 h2, h ▸ pnameNS_print hC p _ hp.1 (scalars_of_B hp.2)⟩
  cases d with
  | prefixAt p rr =>
    simp only [dDir, Option.map_eq_some_iff] at hd
    obtain ⟨b, hb, rfl⟩ := hd
    simp only [dirWf, Bool.and_eq_true] at hwf
    obtain ⟨c0, tl0, h1, hv1, hn⟩ := hns (i + 1) p _ _ hwf.1 (hsk .lang i _)
    obtain ⟨h2, hi⟩ := hiri (i + 2) rr (pPunct ⟨T, ch⟩ (i + 3) 0x2e rest) _ hwf.2 (hsk .punct (i + 1) _)
    exact ⟨_, hsk .punct (i + 3) rest, by
      simpa [envOf, Env.addPrefix] using run_atPrefix (env := envOf st) (hv (by decide)) (hv (by decide)) (hv (by decide))
        (by simpa [pDir, asc_atprefix] using hin) h1 hv1 hn h2 hi hb (hsk .punct (i + 2) _)⟩
  | baseAt rr =>
    simp only [dDir, Option.map_eq_some_iff] at hd
    obtain ⟨b, hb, rfl⟩ := hd
    obtain ⟨h2, hi⟩ := hiri (i + 1) rr (pPunct ⟨T, ch⟩ (i + 2) 0x2e rest) _ (by simpa [dirWf] using hwf) (hsk .lang i _)
    exact ⟨_, hsk .punct (i + 2) rest, by
      simpa [envOf] using run_atBase (env := envOf st) (hv (by decide)) (hv (by decide)) (hv (by decide))
        (by simpa [pDir, asc_atbase] using hin) h2 hi hb (hsk .punct (i + 1) _)⟩
  | prefixKw p rr =>
    simp only [dDir, Option.map_eq_some_iff] at hd
    obtain ⟨b, hb, rfl⟩ := hd
    simp only [dirWf, Bool.and_eq_true] at hwf
    rcases afterKw_form (T := T) (C := C) false (ch.at i) (slot_ok hch i) (pNs ⟨T, ch⟩ (i + 1) p (pIriRef ⟨T, ch⟩ (i + 2) rr rest))
      with ⟨w, tl, hform, hw, hskw⟩ | ⟨hlt, _⟩
    · obtain ⟨k0, ktl, hk, hks⟩ := kwCase_head hT2 hC (ch.at i).n 0x50 (asc "REFIX") (w :: tl) (by decide)
      rw [← asc_PREFIX] at hk
      obtain ⟨c0, tl0, h1, hv1, hn⟩ := hns (i + 1) p _ _ hwf.1 hskw
      obtain ⟨h2, hi⟩ := hiri (i + 2) rr rest _ hwf.2 (hsk .punct (i + 1) _)
      exact ⟨_, hsk .punct (i + 2) rest, by
        simpa [envOf, Env.addPrefix] using run_kwPrefix (env := envOf st) (hv (by decide))
          (show SkEq C inp (k0 :: ktl) by rw [← hk, ← hform]; simpa [pDir] using hin) hks hk (hC.ws w hw) h1 hv1 hn h2 hi hb⟩
    · cases hlt
  | baseKw rr =>
    simp only [dDir, Option.map_eq_some_iff] at hd
    obtain ⟨b, hb, rfl⟩ := hd
    have hrs : scalarsB rr = true := by simpa [dirWf] using hwf
    refine ⟨_, hsk .punct (i + 1) rest, ?_⟩
    rcases afterKw_form (T := T) (C := C) true (ch.at i) (slot_ok hch i) (pIriRef ⟨T, ch⟩ (i + 1) rr rest)
      with ⟨w, tl, hform, hw, hskw⟩ | ⟨_, hform⟩
    · obtain ⟨k0, ktl, hk, hks⟩ := kwCase_head hT2 hC (ch.at i).n 0x42 (asc "ASE") (w :: tl) (by decide)
      rw [← asc_BASE] at hk
      have hwne : w ≠ 0x3c := by intro hh; subst hh; simp [isWsRune] at hw
      obtain ⟨h2, hi⟩ := hiri (i + 1) rr rest _ hrs hskw
      simpa [envOf] using run_kwBase (env := envOf st) (hv (by decide))
        (show SkEq C inp (k0 :: ktl) by rw [← hk, ← hform]; simpa [pDir] using hin) hks hk (Or.inl (hC.ws w hw))
        (by rw [if_neg hwne]; exact h2) hi hb
    · obtain ⟨h2, hi⟩ := hiri (i + 1) rr rest _ hrs SkEq.rfl'
      obtain ⟨k0, ktl, hk, hks⟩ := kwCase_head hT2 hC (ch.at i).n 0x42 (asc "ASE")
        (0x3c :: (printIriBody (ch.at (i + 1)).cs rr ++ [0x3e] ++ after T .punct (ch.at (i + 1)) rest)) (by decide)
      rw [← asc_BASE] at hk
      simpa [envOf] using run_kwBase (env := envOf st) (hv (by decide))
        (show SkEq C inp (k0 :: ktl) by
          rw [← hk, ← printIRIREF_text]; simp only [pDir, hform] at hin; simpa [pIriRef] using hin) hks hk
        (Or.inr rfl) (by rw [if_pos rfl]; exact SkEq.rfl') hi hb

theorem steps_trans_nil {C : Cfg} {c1 c2 c3 : Conf} {ss : List Stmt} (h1 : Steps C .eof c1 ss c2) (h2 : Steps C .eof c2 [] c3) :
    Steps C .eof c1 ss c3 := by simpa using h1.trans h2

/-- The run from `reader_scan_triples` over a printed subject up to the predicate-object list. -/
def SubjBodyGood (T : Tables) (C : Cfg) (ch : Choices) (sj : Subj) : Prop :=
  ∀ (i : Nat) (xg : Ectx) (g : Option TermB) (s : List Frame) (inp R : List Nat) (st st1 : DState) (sT : TermB)
    (qs : List QuadB),
    xg.subj = none → xg.graph = g.map toT →
    dSubj C.resolve g st sj = some (sT, qs, st1) →
    SkEq C inp (pSubj ⟨T, ch⟩ i sj R) →
    ∃ (inp' : List Nat) (req : Bool) (x' : Ectx), SkEq C inp' R ∧ x'.subj = some (toT sT) ∧ x'.graph = g.map toT ∧
      (subjIsBnpl sj = true → req = false) ∧
      Steps C .eof ⟨⟨xg, .triples⟩ :: s, inp, envOf st⟩ (qs.map toStmt)
        ⟨⟨x', if req then .polRequired else .pol⟩ :: ⟨x', .polContinue⟩ :: s, inp', envOf st1⟩

/-- The same run from the scan function of either position — `reader_scanStatement` at the top level (`top`),
    `reader_scan_triples` in a block — for the subjects both read alike. -/
def SubjAt (T : Tables) (C : Cfg) (ch : Choices) (top : Bool) (sj : Subj) : Prop :=
  ∀ (i : Nat) (x : Ectx) (g : Option TermB) (s : List Frame) (inp R : List Nat) (st st1 : DState) (sT : TermB)
    (qs : List QuadB),
    x.subj = none → x.graph = g.map toT →
    dSubj C.resolve g st sj = some (sT, qs, st1) →
    SkEq C inp (pSubj ⟨T, ch⟩ i sj R) →
    ∃ (inp' : List Nat) (req : Bool) (x' xe : Ectx), SkEq C inp' R ∧ x'.subj = some (toT sT) ∧ x'.graph = g.map toT ∧
      (subjIsBnpl sj = true → req = false) ∧
      Steps C .eof ⟨⟨x, if top then .statement else .triples⟩ :: s, inp, envOf st⟩ (qs.map toStmt)
        ⟨⟨x', if req then .polRequired else .pol⟩ :: ⟨x', .polContinue⟩ ::
          (if top then ⟨xe, .triplesEnd⟩ :: ⟨x, .statement⟩ :: s else s), inp', envOf st1⟩

theorem SubjAt.top {T : Tables} {C : Cfg} {ch : Choices} {sj : Subj} (h : SubjAt T C ch true sj) : SubjTopGood T C ch sj := by
  intro i x0 s inp R c r st st1 sT qs _ _ hxs hxg hd hin
  simpa using h i x0 none s inp R st st1 sT qs hxs (by simpa using hxg) hd hin

theorem SubjAt.body {T : Tables} {C : Cfg} {ch : Choices} {sj : Subj} (h : SubjAt T C ch false sj) : SubjBodyGood T C ch sj := by
  intro i xg g s inp R st st1 sT qs hxs hxg hd hin
  obtain ⟨inp', req, x', _, h1, h2, h3, h4, s1⟩ := h i xg g s inp R st st1 sT qs hxs hxg hd hin
  exact ⟨inp', req, x', h1, h2, h3, h4, by simpa using s1⟩

include hT2 hC in
theorem subjAt_nil (top : Bool) : SubjAt T C ch top (.coll []) := by
  intro i x g s inp R st st1 sT qs hxs hxg hd hin
  simp only [dSubj, dObj, Option.some.injEq, Prod.mk.injEq] at hd
  obtain ⟨rfl, rfl, rfl⟩ := hd
  have hA1 := after_skip_at T C ch .punct i (0x29 :: after T .punct (ch.at (i + 1)) R)
  have htx : pSubj ⟨T, ch⟩ i (.coll []) R = 0x28 :: after T .punct (ch.at i) (0x29 :: after T .punct (ch.at (i + 1)) R) := by
    simp [pSubj, pObj, pPunct, pItems, itemsSlots]
  have hf := follows_punct hT2 hC (c := 0x29) (by decide) (after T .punct (ch.at (i + 1)) R)
  refine ⟨_, true, { x with subj := some (.iri TtlDoc.rdfNil) }, x, after_skip_at T C ch .punct (i + 1) R, rfl, hxg,
    (by simp [subjIsBnpl]), ?_⟩
  cases top with
  | true =>
    have s2 := Steps.fol (s := ⟨x, .statement⟩ :: s) hA1 hf
      (fn_parenTop_close x (envOf st).fresh.2 (envOf st).fresh.1 _) (Steps.refl _)
    simpa [envOf_fresh] using Steps.punct hT2 hC (s := s) hin htx (by decide) (fn_statement_paren x (envOf st) _) (by simpa [envOf_fresh] using s2)
  | false =>
    have s2 := Steps.fol (s := s) hA1 hf (fn_parenBlock_close x (envOf st).fresh.2 (envOf st).fresh.1 _) (Steps.refl _)
    simpa [envOf_fresh] using Steps.punct hT2 hC (s := s) hin htx (by decide) (fn_triples_paren x (envOf st) _) (by simpa [envOf_fresh] using s2)

/-- what `body_good` needs of one `triples` -/
structure TriplesFit (T : Tables) (C : Cfg) (ch : Choices) (t : Triples) : Prop where
  subj : SubjBodyGood T C ch t.s
  head : ∀ i R, ∃ c r, Follows C (pSubj ⟨T, ch⟩ i t.s R) c r ∧ c ≠ 0x7d
  ne : t.pos ≠ [] ∨ subjIsBnpl t.s = true
  fit : ∀ po ∈ t.pos, POFit T C ch po

include hT hT2 hC hch in
theorem triples_body (t : Triples) (hfit : TriplesFit T C ch t) (i : Nat) (xg : Ectx) (g : Option TermB) (s : List Frame)
    (inp R : List Nat) (c : Nat) (r : List Nat) (st st' : DState) (qs : List QuadB)
    (hxs : xg.subj = none) (hxg : xg.graph = g.map toT) (hf : Follows C R c r) (hc : c = 0x2e ∨ c = 0x7d)
    (hd : dTriples C.resolve g st t = some (qs, st')) (hin : SkEq C inp (pTriples ⟨T, ch⟩ i t R)) :
    ∃ inp', SkEq C inp' R ∧ Steps C .eof ⟨⟨xg, .triples⟩ :: s, inp, envOf st⟩ (qs.map toStmt) ⟨s, inp', envOf st'⟩ := by
  simp only [dTriples] at hd
  cases hds : dSubj C.resolve g st t.s with
  | none => simp [hds] at hd
  | some res =>
    obtain ⟨sT, qs1, st1⟩ := res
    simp only [hds] at hd
    cases hdp : dPOs C.resolve sT g st1 t.pos with
    | none => simp [hdp] at hd
    | some res2 =>
      obtain ⟨qs2, st2⟩ := res2
      simp only [hdp, Option.some.injEq, Prod.mk.injEq] at hd
      obtain ⟨rfl, rfl⟩ := hd
      obtain ⟨inp1, req, x', he1, hx's, hx'g, hbn, s1⟩ := hfit.subj i xg g s inp _ st st1 sT qs1 hxs hxg hds
        (by simpa [pTriples] using hin)
      obtain ⟨inp2, he2, s2⟩ := posGood hT hT2 hC hch t.pos hfit.fit (i + subjSlots t.s) x' s inp1 R c r g st1 st2 qs2 sT req hf
        (by rcases hc with h | h; exact Or.inl h; exact Or.inr (Or.inr h)) hx's hx'g
        (fun hpe => hbn (by rcases hfit.ne with h | h; exact absurd hpe h; exact h)) hdp he1
      exact ⟨inp2, he2, by simpa using s1.trans s2⟩

include hT hT2 hC hch in
/-- the body of a graph block, from `reader_scan_triplesBlock` to the closing `}` (left in the buffer) -/
theorem body_good (body : List Triples) (hfit : ∀ t ∈ body, TriplesFit T C ch t) : ∀ (i : Nat) (xg : Ectx) (g : Option TermB)
    (s : List Frame) (inp R : List Nat) (r : List Nat) (st st' : DState) (qs : List QuadB),
    xg.subj = none → xg.graph = g.map toT → Follows C R 0x7d r →
    dBody C.resolve g st body = some (qs, st') → SkEq C inp (pBody ⟨T, ch⟩ i body R) →
    ∃ inp', SkEq C inp' R ∧ Steps C .eof ⟨⟨xg, .triplesBlock⟩ :: s, inp, envOf st⟩ (qs.map toStmt) ⟨s, inp', envOf st'⟩ := by
  induction body with
  | nil =>
    intro i xg g s inp R r st st' qs hxs hxg hf hd hin
    simp only [dBody, Option.some.injEq, Prod.mk.injEq] at hd
    obtain ⟨rfl, rfl⟩ := hd
    refine ⟨0x7d :: r, hf.skEq, ?_⟩
    simpa using Steps.fol (s := s) (by simpa [pBody] using hin) hf
      (fn_triplesBlock_close xg _ r) (Steps.refl _)
  | cons t ts ih =>
    intro i xg g s inp R r st st' qs hxs hxg hf hd hin
    have ht := hfit t List.mem_cons_self
    simp only [dBody] at hd
    cases hdt : dTriples C.resolve g st t with
    | none => simp [hdt] at hd
    | some res =>
      obtain ⟨qs1, st1⟩ := res
      simp only [hdt] at hd
      cases hdb : dBody C.resolve g st1 ts with
      | none => simp [hdb] at hd
      | some res2 =>
        obtain ⟨qs2, st2⟩ := res2
        simp only [hdb, Option.some.injEq, Prod.mk.injEq] at hd
        obtain ⟨rfl, rfl⟩ := hd
        let j := i + triplesSlots t - 1
        have hdotf : ∀ R', Follows C (pPunct ⟨T, ch⟩ j 0x2e R') 0x2e (after T .punct (ch.at j) R') := fun R' =>
          follows_punct hT2 hC (by decide) _
        have hopen : ∀ (R' : List Nat) (inp0 : List Nat) (env : Env) {ss cf}, SkEq C inp0 (pTriples ⟨T, ch⟩ i t R') →
            (∀ inp1, SkEq C inp1 (pTriples ⟨T, ch⟩ i t R') →
              Steps C .eof ⟨⟨xg, .triples⟩ :: ⟨xg, .triplesBlockQuest⟩ :: s, inp1, env⟩ ss cf) →
            Steps C .eof ⟨⟨xg, .triplesBlock⟩ :: s, inp0, env⟩ ss cf := by
          intro R' inp0 env ss cf h0 hnext
          obtain ⟨c0, r0, hf0, hne0⟩ := ht.head i (pPOs ⟨T, ch⟩ (i + subjSlots t.s) t.pos R')
          have := Steps.fol (s := s) h0 (by simpa [pTriples] using hf0)
            (fn_triplesBlock_open xg _ c0 r0 hne0)
            (by simpa using hnext (c0 :: r0) (by rw [show pTriples ⟨T, ch⟩ i t R' = c0 :: r0 from by simpa [pTriples] using hf0.1]; exact SkEq.rfl'))
          simpa using this
        by_cases hlast : ts = [] ∧ (ch.at j).n % 2 ≠ 1
        · -- `t }`: the last triples, written without `.`
          obtain ⟨rfl, hodd⟩ := hlast
          simp only [dBody, Option.some.injEq, Prod.mk.injEq] at hdb
          obtain ⟨rfl, rfl⟩ := hdb
          refine ⟨0x7d :: r, hf.skEq, ?_⟩
          apply hopen R inp (envOf st) (by simpa [pBody, j, hodd] using hin)
          intro inp1 h1
          obtain ⟨inp2, he2, s2⟩ := triples_body hT hT2 hC hch t ht i xg g (⟨xg, .triplesBlockQuest⟩ :: s) inp1 R 0x7d r st st1 qs1
            hxs hxg hf (Or.inr rfl) hdt h1
          have s3 := Steps.fol (s := s) he2 hf (fn_triplesBlockQuest_close xg (envOf st1) r) (Steps.refl _)
          simpa using steps_trans_nil s2 (by simpa using s3)
        · -- `t . …`: after the `.` the block goes on as for `ts`, which may be empty
          have hin' : SkEq C inp (pTriples ⟨T, ch⟩ i t (pPunct ⟨T, ch⟩ j 0x2e (pBody ⟨T, ch⟩ (i + triplesSlots t) ts R))) := by
            cases ts with
            | nil =>
              have hodd : (ch.at j).n % 2 = 1 := by simpa using hlast
              simpa [pBody, pStatement, j, hodd] using hin
            | cons t' ts' => simpa [pBody, pStatement, j] using hin
          obtain ⟨inp3, he3, s4⟩ := ih (fun t2 ht2 => hfit t2 (List.mem_cons_of_mem _ ht2)) (i + triplesSlots t) xg g s
            (after T .punct (ch.at j) (pBody ⟨T, ch⟩ (i + triplesSlots t) ts R)) R r st1 st2 qs2 hxs hxg hf hdb
            (after_skip_at T C ch .punct j _)
          refine ⟨inp3, he3, ?_⟩
          apply hopen _ inp (envOf st) hin'
          intro inp1 h1
          obtain ⟨inp2, he2, s2⟩ := triples_body hT hT2 hC hch t ht i xg g (⟨xg, .triplesBlockQuest⟩ :: s) inp1 _ 0x2e _ st st1 qs1
            hxs hxg (hdotf _) (Or.inl rfl) hdt h1
          have s3 : Steps C .eof ⟨⟨xg, .triplesBlockQuest⟩ :: s, inp2, envOf st1⟩ (qs2.map toStmt) ⟨s, inp3, envOf st2⟩ := by
            simpa using Steps.fol (s := s) he2 (hdotf _)
              (fn_triplesBlockQuest_dot xg _ _) (by simpa using s4)
          simpa using s2.trans s3

include hT hT2 hC hch in
theorem graph_tail (body : List Triples) (hfit : ∀ t ∈ body, TriplesFit T C ch t) (j k : Nat) (xg : Ectx) (g : Option TermB)
    (S : List Frame) (inp rest : List Nat) (st st' : DState) (qs : List QuadB)
    (hxs : xg.subj = none) (hxg : xg.graph = g.map toT) (hd : dBody C.resolve g st body = some (qs, st'))
    (hin : SkEq C inp (pBody ⟨T, ch⟩ j body (pPunct ⟨T, ch⟩ k 0x7d rest))) :
    ∃ inp', SkEq C inp' rest ∧
      Steps C .eof ⟨⟨xg, .triplesBlock⟩ :: ⟨xg, .wrappedGraphEnd⟩ :: S, inp, envOf st⟩ (qs.map toStmt) ⟨S, inp', envOf st'⟩ := by
  have hfc : Follows C (pPunct ⟨T, ch⟩ k 0x7d rest) 0x7d (after T .punct (ch.at k) rest) :=
    follows_punct hT2 hC (by decide) _
  obtain ⟨inp1, he1, s1⟩ := body_good hT hT2 hC hch body hfit j xg g (⟨xg, .wrappedGraphEnd⟩ :: S) inp _ _ st st' qs hxs hxg hfc hd hin
  refine ⟨_, after_skip_at T C ch .punct k rest, ?_⟩
  have s2 : Steps C .eof ⟨⟨xg, .wrappedGraphEnd⟩ :: S, inp1, envOf st'⟩ [] ⟨S, after T .punct (ch.at k) rest, envOf st'⟩ := by
    simpa using Steps.fol (s := S) he1 hfc (fn_wrappedGraphEnd xg _ _)
      (Steps.refl _)
  exact steps_trans_nil s1 s2

include hT hT2 hC in
theorem label_top (htr : C.trig = true) (lab : GLabel) (hwf : glabelWf T lab = true) (j k : Nat) (x0 : Ectx) (s : List Frame)
    (inp R : List Nat) (st st1 : DState) (gt : Option TermB) (hxs : x0.subj = none)
    (hd : dLabel C.resolve st (some lab) = some (gt, st1))
    (hin : SkEq C inp (pLabel ⟨T, ch⟩ j (some lab) (pPunct ⟨T, ch⟩ k 0x7b R))) :
    ∃ (xg : Ectx), xg.subj = none ∧ xg.graph = gt.map toT ∧
      Steps C .eof ⟨⟨x0, .statement⟩ :: s, inp, envOf st⟩ []
        ⟨⟨xg, .triplesBlock⟩ :: ⟨xg, .wrappedGraphEnd⟩ :: ⟨x0, .statement⟩ :: s, after T .punct (ch.at k) R, envOf st1⟩ := by
  cases gt with
  | none => cases lab <;> simp [dLabel] at hd
  | some t =>
    obtain ⟨A, hA, s1⟩ := trig_first hT hT2 hC htr lab hwf j x0 s inp _ st st1 t hd hin
    refine ⟨{ x0 with graph := some (toT t) }, hxs, rfl, ?_⟩
    have s2 := Steps.fol (s := ⟨x0, .statement⟩ :: s) hA (follows_punct hT2 hC (by decide) _)
      (fn_tgE1_brace x0 (envOf st1) (toT t) _) (Steps.refl _)
    simpa using s1.trans (by simpa [pPunct] using s2)

include hT hT2 hC in
theorem label_kw (lab : GLabel) (hwf : glabelWf T lab = true) (j k : Nat) (x0 : Ectx) (S : List Frame)
    (inp R : List Nat) (st st1 : DState) (gt : Option TermB) (hxs : x0.subj = none)
    (hd : dLabel C.resolve st (some lab) = some (gt, st1))
    (hin : SkEq C inp (pLabel ⟨T, ch⟩ j (some lab) (pPunct ⟨T, ch⟩ k 0x7b R))) :
    ∃ (xg : Ectx), xg.subj = none ∧ xg.graph = gt.map toT ∧
      Steps C .eof ⟨⟨x0, .graphLabel⟩ :: S, inp, envOf st⟩ []
        ⟨⟨xg, .triplesBlock⟩ :: ⟨xg, .wrappedGraphEnd⟩ :: S, after T .punct (ch.at k) R, envOf st1⟩ := by
  have hfb : Follows C (pPunct ⟨T, ch⟩ k 0x7b R) 0x7b (after T .punct (ch.at k) R) :=
    follows_punct hT2 hC (by decide) _
  have hW : ∀ (xg : Ectx) (A : List Nat) (env : Env), SkEq C A (pPunct ⟨T, ch⟩ k 0x7b R) →
      Steps C .eof ⟨⟨xg, .wrappedGraph⟩ :: S, A, env⟩ []
        ⟨⟨xg, .triplesBlock⟩ :: ⟨xg, .wrappedGraphEnd⟩ :: S, after T .punct (ch.at k) R, env⟩ := by
    intro xg A env hA
    simpa using Steps.fol (s := S) hA hfb (fn_wrappedGraph xg env _) (Steps.refl _)
  have hT1 : ∀ {t : TtlDoc.T} {A tl0 : List Nat} {c0 : Nat}, TermTok C (envOf st) t A c0 tl0 →
      SkEq C A (pPunct ⟨T, ch⟩ k 0x7b R) → SkEq C inp (c0 :: tl0) →
      Steps C .eof ⟨⟨x0, .graphLabel⟩ :: S, inp, envOf st⟩ []
        ⟨⟨{ x0 with graph := some t }, .triplesBlock⟩ :: ⟨{ x0 with graph := some t }, .wrappedGraphEnd⟩ :: S,
          after T .punct (ch.at k) R, envOf st⟩ := by
    intro t A tl0 c0 htok hA h0
    simpa using Steps.tok (s := S) h0 rfl htok.vis (fn_graphLabel_tok htok)
      (by simpa using hW _ _ _ hA)
  cases lab with
  | iri x1 =>
    simp only [dLabel, Option.map_eq_some_iff, Prod.mk.injEq] at hd
    obtain ⟨ii, hii, rfl, rfl⟩ := hd
    obtain ⟨c0, tl0, A, htx, hA, _, htok, _⟩ := iri_tok (ch := ch) hT hT2 hC x1 (by simpa [glabelWf] using hwf) st ii hii j
      (pPunct ⟨T, ch⟩ k 0x7b R)
    exact ⟨{ x0 with graph := some (.iri ii) }, hxs, rfl, hT1 htok hA (by simpa [pLabel, htx] using hin)⟩
  | bn l =>
    simp only [dLabel, Option.some.injEq, Prod.mk.injEq] at hd
    obtain ⟨rfl, rfl⟩ := hd
    obtain ⟨tl0, A, htx, hA, htok⟩ := bn_tok (ch := ch) hT hT2 hC l (by simpa [glabelWf] using hwf) (envOf st) j
      (pPunct ⟨T, ch⟩ k 0x7b R)
    exact ⟨{ x0 with graph := some (.bnode (.lbl l)) }, hxs, rfl, hT1 htok hA (by simpa [pLabel, htx] using hin)⟩
  | anon =>
    simp only [dLabel, Option.some.injEq, Prod.mk.injEq] at hd
    obtain ⟨rfl, rfl⟩ := hd
    have hA1 := after_skip_at T C ch .punct j (0x5d :: after T .punct (ch.at (j + 1)) (pPunct ⟨T, ch⟩ k 0x7b R))
    have hA2 := after_skip_at T C ch .punct (j + 1) (pPunct ⟨T, ch⟩ k 0x7b R)
    refine ⟨{ x0 with graph := some (envOf st).fresh.1 }, hxs, rfl, ?_⟩
    have s2 := Steps.fol (s := S)
      hA1 (follows_punct hT2 hC (by decide) _)
      (fn_graphAnonClose x0 (envOf st) _) (by simpa using hW _ _ _ hA2)
    have s1 := Steps.punct hT2 hC (s := S) hin
      (show pLabel ⟨T, ch⟩ j (some .anon) (pPunct ⟨T, ch⟩ k 0x7b R) =
        0x5b :: after T .punct (ch.at j) (0x5d :: after T .punct (ch.at (j + 1)) (pPunct ⟨T, ch⟩ k 0x7b R)) by simp [pLabel, pPunct])
      (by decide) (fn_graphLabel_bracket x0 (envOf st) _) (by simpa using s2)
    simpa [envOf_fresh] using s1

/-- what `block_good` needs -/
def BlockFit (T : Tables) (C : Cfg) (ch : Choices) : Block → Prop
  | .dir d => dirWf T d = true
  | .triples t => SubjTopGood T C ch t.s ∧ (t.pos ≠ [] ∨ subjIsBnpl t.s = true) ∧ ∀ po ∈ t.pos, POFit T C ch po
  | .graph kw g body =>
    C.trig = true ∧ (match g with | none => kw = false | some l => glabelWf T l = true) ∧ ∀ t ∈ body, TriplesFit T C ch t

include hT hT2 hC hch in
/-- `s'`: `s` with the frame a directive leaves (`dir_good`), else `s` -/
theorem block_good (b : Block) (hfit : BlockFit T C ch b) (i : Nat) (x0 : Ectx) (s : List Frame) (inp rest : List Nat)
    (st st' : DState) (qs : List QuadB) (hxs : x0.subj = none) (hxg : x0.graph = none)
    (hd : dBlock C.resolve st b = some (qs, st')) (hin : SkEq C inp (pBlock ⟨T, ch⟩ i b rest)) :
    ∃ inp' s', SkEq C inp' rest ∧
      Steps C .eof ⟨⟨x0, .statement⟩ :: s, inp, envOf st⟩ (qs.map toStmt) ⟨⟨x0, .statement⟩ :: s', inp', envOf st'⟩ := by
  cases b with
  | dir d =>
    simp only [dBlock, Option.map_eq_some_iff, Prod.mk.injEq] at hd
    obtain ⟨st2, hd2, rfl, rfl⟩ := hd
    obtain ⟨inp', he, st1⟩ := dir_good hT hT2 hC hch d hfit i x0 s inp rest st st2 hd2 (by simpa [pBlock] using hin)
    exact ⟨inp', _, he, by simpa using st1⟩
  | triples t =>
    obtain ⟨h1, h2, h3⟩ := hfit
    obtain ⟨inp', he, st1⟩ := statementGood hT hT2 hC hch t h1 h2 h3 i x0 s inp rest st st' qs hxs hxg
      (by simpa [dBlock] using hd) (by simpa [pBlock] using hin)
    exact ⟨inp', s, he, st1⟩
  | graph kw g body =>
    obtain ⟨htr, hg, hbody⟩ := hfit
    simp only [dBlock] at hd
    cases hdl : dLabel C.resolve st g with
    | none => simp [hdl] at hd
    | some res =>
      obtain ⟨gt, st1⟩ := res
      simp only [hdl] at hd
      let jb := i + 2 + labelSlots g
      let kc := i + 2 + labelSlots g + bodySlots body
      cases g with
      | none =>
        simp only at hg
        subst hg
        simp only [dLabel, Option.some.injEq, Prod.mk.injEq] at hdl
        obtain ⟨rfl, rfl⟩ := hdl
        obtain ⟨inp', he, s2⟩ := graph_tail hT hT2 hC hch body hbody jb kc x0 none (⟨x0, .statement⟩ :: s)
          (after T .punct (ch.at (i + 1)) (pBody ⟨T, ch⟩ jb body (pPunct ⟨T, ch⟩ kc 0x7d rest))) rest st st' qs hxs (by simpa using hxg) hd
          (after_skip_at T C ch .punct (i + 1) _)
        refine ⟨inp', s, he, ?_⟩
        have s1 := Steps.punct hT2 hC (s := s) hin
          (show pBlock ⟨T, ch⟩ i (.graph false none body) rest =
            0x7b :: after T .punct (ch.at (i + 1)) (pBody ⟨T, ch⟩ jb body (pPunct ⟨T, ch⟩ kc 0x7d rest)) by
            simp [pBlock, pLabel, pPunct, labelSlots, jb, kc])
          (by decide) (fn_statement_trig_brace htr x0 (envOf st) _) (by simpa using s2)
        simpa using s1
      | some lab =>
        simp only at hg
        cases kw with
        | false =>
          obtain ⟨xg, hgs, hgg, s1⟩ := label_top hT hT2 hC htr lab hg (i + 1) (i + 1 + labelSlots (some lab)) x0 s inp
            (pBody ⟨T, ch⟩ jb body (pPunct ⟨T, ch⟩ kc 0x7d rest)) st st1 gt hxs hdl (by simpa [pBlock, jb, kc] using hin)
          obtain ⟨inp', he, s2⟩ := graph_tail hT hT2 hC hch body hbody jb kc xg gt (⟨x0, .statement⟩ :: s) _ rest st1 st' qs hgs hgg hd
            (after_skip .punct (ch.at (i + 1 + labelSlots (some lab))) _)
          exact ⟨inp', s, he, by simpa using s1.trans s2⟩
        | true =>
          rcases afterKw_form (T := T) (C := C) false (ch.at i) (slot_ok hch i) (pLabel ⟨T, ch⟩ (i + 1) (some lab)
              (pPunct ⟨T, ch⟩ (i + 1 + labelSlots (some lab)) 0x7b (pBody ⟨T, ch⟩ jb body (pPunct ⟨T, ch⟩ kc 0x7d rest))))
            with ⟨w, tl, hform, hw, hsk⟩ | ⟨hlt, _⟩
          · obtain ⟨xg, hgs, hgg, s2⟩ := label_kw hT hT2 hC lab hg (i + 1) (i + 1 + labelSlots (some lab)) x0
              (⟨x0, .statement⟩ :: s) tl (pBody ⟨T, ch⟩ jb body (pPunct ⟨T, ch⟩ kc 0x7d rest)) st st1 gt hxs hdl hsk
            obtain ⟨inp', he, s3⟩ := graph_tail hT hT2 hC hch body hbody jb kc xg gt (⟨x0, .statement⟩ :: s) _ rest st1 st' qs hgs hgg hd
              (after_skip .punct (ch.at (i + 1 + labelSlots (some lab))) _)
            refine ⟨inp', s, he, ?_⟩
            obtain ⟨k0, ktl, hk, hks⟩ := kwCase_head hT2 hC (ch.at i).n 0x47 (asc "RAPH") (w :: tl) (by decide)
            rw [← asc_GRAPH] at hk
            have s1 := Steps.tok (s := s) hin
              (show pBlock ⟨T, ch⟩ i (.graph true (some lab) body) rest = k0 :: ktl by
                rw [← hk, ← hform]; simp [pBlock, jb, kc])
              hks (fn_statement_GRAPH htr x0 (envOf st) _ w tl (hC.ws w hw) k0 ktl hk) (by simpa using s2.trans s3)
            simpa using s1
          · cases hlt

include hT hT2 hC hch in
theorem doc_good (doc : Doc) (hfit : ∀ b ∈ doc, BlockFit T C ch b) : ∀ (i : Nat) (x0 : Ectx) (s : List Frame) (inp : List Nat)
    (st st' : DState) (qs : List QuadB), x0.subj = none → x0.graph = none →
    dDoc C.resolve st doc = some (qs, st') → SkEq C inp (pBlocks ⟨T, ch⟩ i doc []) →
    Steps C .eof ⟨⟨x0, .statement⟩ :: s, inp, envOf st⟩ (qs.map toStmt) ⟨[], [], envOf st'⟩ := by
  induction doc with
  | nil =>
    intro i x0 s inp st st' qs _ _ hd hin
    simp only [dDoc, Option.some.injEq, Prod.mk.injEq] at hd
    obtain ⟨rfl, rfl⟩ := hd
    have : skipWs C .eof false inp = .end_ := by
      have : skipWs C .eof false inp = skipWs C .eof false [] := by simpa [pBlocks, SkEq] using hin
      rw [this]; rfl
    exact Steps.quiet (stepConf_end x0 s inp _ this) (Steps.refl _)
  | cons b bs ih =>
    intro i x0 s inp st st' qs hxs hxg hd hin
    simp only [dDoc] at hd
    cases hdb : dBlock C.resolve st b with
    | none => simp [hdb] at hd
    | some res =>
      obtain ⟨qs1, st1⟩ := res
      simp only [hdb] at hd
      cases hdr : dDoc C.resolve st1 bs with
      | none => simp [hdr] at hd
      | some res2 =>
        obtain ⟨qs2, st2⟩ := res2
        simp only [hdr, Option.some.injEq, Prod.mk.injEq] at hd
        obtain ⟨rfl, rfl⟩ := hd
        obtain ⟨inp1, s', he1, s1⟩ := block_good hT hT2 hC hch b (hfit b List.mem_cons_self) i x0 s inp _ st st1 qs1 hxs hxg hdb
          (by simpa [pBlocks] using hin)
        have s2 := ih (fun b2 hb2 => hfit b2 (List.mem_cons_of_mem _ hb2)) (i + blockSlots b) x0 s' inp1 st1 st2 qs2 hxs hxg hdr he1
        simpa using s1.trans s2

end
end RdfModel.C08
