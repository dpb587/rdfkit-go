/-
  Nothing here mentions an encoder; the namespace is `Proofs.C02Doc` because C02 nested-resource mode and C07 cite these
  names (`Proofs.C02Doc.WS`, `.Agree`, `.BSyn`, …) under it.
-/
import RdfModel.Props.C08DocDefs
namespace RdfModel.Proofs.C02Doc
open RdfModel RdfModel.Ttl RdfModel.Spec.TtlPrint

def WS (t : List Nat) : Prop := ∀ c ∈ t, c = 0x20 ∨ c = 0x09 ∨ c = 0x0a

theorem WS.append {a b : List Nat} (ha : WS a) (hb : WS b) : WS (a ++ b) := by
  intro c hc
  rcases List.mem_append.1 hc with h | h
  · exact ha c h
  · exact hb c h

def wsItem (c : Nat) : TA.LItem := if c = 0x09 then .ws 1 else if c = 0x0a then .ws 2 else .ws 0

/-- the layout items that render as the white-space text `t` -/
def wsLay (t : List Nat) : List TA.LItem := t.map wsItem

theorem renderItem_ws (b : Bool) (c : Nat) (h : c = 0x20 ∨ c = 0x09 ∨ c = 0x0a) : TA.renderItem b (wsItem c) = [c] := by
  rcases h with rfl | rfl | rfl <;> rfl

theorem renderLay_ws (b : Bool) : ∀ (t : List Nat), WS t → TA.renderLay b (wsLay t) = t
  | [], _ => rfl
  | [c], h => by
    simp only [wsLay, List.map_cons, List.map_nil, TA.renderLay]
    exact renderItem_ws b c (h c List.mem_cons_self)
  | c :: d :: t, h => by
    have ih := renderLay_ws b (d :: t) (fun x hx => h x (List.mem_cons_of_mem _ hx))
    simp only [wsLay, List.map_cons] at ih ⊢
    simp only [TA.renderLay]
    rw [ih, renderItem_ws false c (h c List.mem_cons_self)]
    rfl

variable {T : Tables}

theorem after_ws (k : TA.Prev) (s : TA.Slot) (t : List Nat) (h : WS t) (hne : t ≠ []) (hs : s.lay = wsLay t)
    (rest : List Nat) : TA.after T k s rest = t ++ rest := by
  unfold TA.after
  rw [hs, renderLay_ws _ t h]
  cases t with
  | nil => exact absurd rfl hne
  | cons c l => simp

theorem afterKw_ws (lt : Bool) (s : TA.Slot) (t : List Nat) (h : WS t) (hne : t ≠ []) (hs : s.lay = wsLay t)
    (hg : s.glue = false) (rest : List Nat) : TA.afterKw T lt s rest = t ++ rest := by
  unfold TA.afterKw
  rw [hg, hs, renderLay_ws _ t h]
  cases t with
  | nil => exact absurd rfl hne
  | cons c l =>
    have : TA.isWsRune c = true := by
      rcases h c List.mem_cons_self with rfl | rfl | rfl <;> rfl
    simp [this]

theorem after_punct_nil (s : TA.Slot) (hs : s.lay = []) (rest : List Nat) : TA.after T .punct s rest = rest := by
  unfold TA.after
  rw [hs]
  cases rest <;> simp [TA.renderLay, TA.clash]

/-- the slot of a token spelled with choices `cs` and followed by the white space `t` -/
def tokSlot (cs : List Choice) (t : List Nat) : TA.Slot := { lay := wsLay t, cs := cs }

/-- the choice list `ch` carries the slots `l` from position `i` on -/
def Agree (ch : TA.Choices) (i : Nat) (l : List TA.Slot) : Prop := ∀ k, k < l.length → ch.at (i + k) = l.getD k {}

theorem Agree.nil (ch : TA.Choices) (i : Nat) : Agree ch i [] := by intro k hk; cases hk

theorem agree_cons {ch : TA.Choices} {i : Nat} {s : TA.Slot} {l : List TA.Slot} :
    Agree ch i (s :: l) ↔ ch.at i = s ∧ Agree ch (i + 1) l := by
  constructor
  · intro h
    refine ⟨by simpa using h 0 (by simp), ?_⟩
    intro k hk
    have := h (k + 1) (by simpa using hk)
    simpa [Nat.add_assoc, Nat.add_comm 1 k] using this
  · rintro ⟨h0, h1⟩ k hk
    cases k with
    | zero => simpa using h0
    | succ k =>
      have := h1 k (by simpa using hk)
      simpa [Nat.add_assoc, Nat.add_comm 1 k] using this

theorem agree_append {ch : TA.Choices} {i : Nat} {a b : List TA.Slot} :
    Agree ch i (a ++ b) ↔ Agree ch i a ∧ Agree ch (i + a.length) b := by
  induction a generalizing i with
  | nil => simp [Agree.nil]
  | cons s a ih =>
    rw [List.cons_append, agree_cons, agree_cons, ih]
    simp only [List.length_cons, and_assoc]
    rw [show i + 1 + a.length = i + (a.length + 1) by omega]

def noGlue (l : List TA.Slot) : Prop := ∀ s ∈ l, s.glue = false

theorem noGlue_append {a b : List TA.Slot} : noGlue (a ++ b) ↔ noGlue a ∧ noGlue b := List.forall_mem_append

theorem noGlue_cons {s : TA.Slot} {l : List TA.Slot} : noGlue (s :: l) ↔ s.glue = false ∧ noGlue l :=
  List.forall_mem_cons

theorem noGlue_nil : noGlue [] := by intro s hs; cases hs

structure BItem where
  b : TA.Block
  sl : List TA.Slot
  text : List Nat

structure BSyn (T : Tables) (x : BItem) : Prop where
  wf : C08.blockWf T false x.b = true
  nb : C08.blockNoBoolPfx x.b = true
  len : x.sl.length = TA.blockSlots x.b
  ng : noGlue x.sl
  pr : ∀ (ch : TA.Choices) (i : Nat) (rest : List Nat), Agree ch i x.sl → TA.pBlock ⟨T, ch⟩ i x.b rest = x.text ++ rest

/-- the part of `BSyn` that printing needs: the slot count and the printed text -/
structure BPr (T : Tables) (x : BItem) : Prop where
  len : x.sl.length = TA.blockSlots x.b
  pr : ∀ (ch : TA.Choices) (i : Nat) (rest : List Nat), Agree ch i x.sl → TA.pBlock ⟨T, ch⟩ i x.b rest = x.text ++ rest

theorem BSyn.toBPr {x : BItem} (h : BSyn T x) : BPr T x := ⟨h.len, h.pr⟩

theorem pBlocks_text : ∀ (xs : List BItem), (∀ x ∈ xs, BPr T x) → ∀ (ch : TA.Choices) (i : Nat) (rest : List Nat),
    Agree ch i (xs.flatMap (·.sl)) → TA.pBlocks ⟨T, ch⟩ i (xs.map (·.b)) rest = xs.flatMap (·.text) ++ rest
  | [], _, _, _, _, _ => rfl
  | x :: xs, h, ch, i, rest, hag => by
    have hx := h x List.mem_cons_self
    simp only [List.flatMap_cons] at hag ⊢
    obtain ⟨h1, h2⟩ := agree_append.1 hag
    rw [hx.len] at h2
    simp only [List.map_cons, TA.pBlocks]
    rw [hx.pr ch i _ h1, pBlocks_text xs (fun y hy => h y (List.mem_cons_of_mem _ hy)) ch _ rest h2]
    simp

theorem agree_shift (l : List TA.Slot) : Agree (({} : TA.Slot) :: l) 1 l := by
  intro k _
  simp [TA.Choices.at, Nat.add_comm 1 k]

/-- blocks one after the other are a printed document; slot 0 carries no layout -/
theorem print_text (xs : List BItem) (h : ∀ x ∈ xs, BPr T x) :
    TA.print T (xs.map (·.b)) (({} : TA.Slot) :: xs.flatMap (·.sl)) = xs.flatMap (·.text) := by
  unfold TA.print
  rw [pBlocks_text xs h _ 1 [] (agree_shift _)]
  have : TA.Choices.at (({} : TA.Slot) :: xs.flatMap (·.sl)) 0 = {} := rfl
  rw [this, after_punct_nil _ rfl]
  simp

theorem doc_print (xs : List BItem) (h : ∀ x ∈ xs, BSyn T x) :
    TA.print T (xs.map (·.b)) (({} : TA.Slot) :: xs.flatMap (·.sl)) = xs.flatMap (·.text) ∧
    C08.docWf T false (xs.map (·.b)) = true ∧ C08.docNoBoolPfx (xs.map (·.b)) = true ∧
    C08.choicesOK (({} : TA.Slot) :: xs.flatMap (·.sl)) = true := by
  refine ⟨print_text xs fun x hx => (h x hx).toBPr, ?_, ?_, ?_⟩
  · simp only [C08.docWf, List.all_eq_true, List.mem_map]
    rintro _ ⟨x, hx, rfl⟩
    exact (h x hx).wf
  · simp only [C08.docNoBoolPfx, List.all_eq_true, List.mem_map]
    rintro _ ⟨x, hx, rfl⟩
    exact (h x hx).nb
  · simp only [C08.choicesOK, List.all_eq_true, List.mem_cons, List.mem_flatMap, C08.slotOK, Bool.not_eq_true']
    rintro s (rfl | ⟨x, hx, hs⟩)
    · rfl
    · exact (h x hx).ng s hs

end RdfModel.Proofs.C02Doc
