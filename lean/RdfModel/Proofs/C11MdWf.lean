import RdfModel.Proofs.C11MdBasic
namespace RdfModel.Mdd
open RdfModel RdfModel.Desc

/-- a literal as C06 wants it from this decoder: a datatype IRI, no language tag, hence neither rdf:langString nor
    rdf:dirLangString -/
def GoodLit : Term Nat → Prop
  | .lit _ dt lang => dt ≠ [] ∧ lang = none ∧ dt ≠ rdfLangString ∧ dt ≠ rdfDirLangString
  | _ => False

/-- hypothesis on the xsdobject mappers (property C20's subject): what they return is such a literal -/
def MapsWf (E : Env) : Prop := ∀ f ∈ E.timeMaps ++ E.meterMaps, ∀ v t, f v = some t → GoodLit t

def WfObj : Term Nat → Prop
  | .lit l dt lang => GoodLit (.lit l dt lang)
  | _ => True

/-- what the code guarantees about a predicate: rdf:type, or whatever the vocabulary resolver returned for a
    non-empty itemprop token (NOT necessarily an absolute IRI: the default resolver returns the token itself) -/
def PredOk (E : Env) (p : Bytes) : Prop := p = rdfType ∨ ∃ types tok, tok ≠ [] ∧ E.vocab types tok = some p

def WfStmt (E : Env) (t : Stmt) : Prop :=
  ((∃ v, t.s = .iri v) ∨ (∃ k, t.s = .bnode k)) ∧ PredOk E t.p ∧ WfObj t.o

def AllWf (E : Env) (st : St) : Prop := ∀ t ∈ st.out, WfStmt E t

theorem subj_term (s : Subj) : (∃ v, s.term = .iri v) ∨ (∃ k, s.term = .bnode k) := by
  cases s with
  | iri v => exact Or.inl ⟨v, rfl⟩
  | bn k => exact Or.inr ⟨k, rfl⟩

theorem subj_wfobj (s : Subj) : WfObj s.term := by
  cases s <;> simp [Subj.term, WfObj]

theorem xsdString_good (v : Bytes) : WfObj (strLit v) := by
  unfold strLit WfObj GoodLit
  exact ⟨xsdString_facts.1, rfl, xsdString_facts.2.1, xsdString_facts.2.2⟩

theorem emitAll_wf (E : Env) (s : Subj) (o : Term Nat) (ps : List Bytes) (st : St) (ho : WfObj o)
    (hp : ∀ p ∈ ps, PredOk E p) (h : AllWf E st) : AllWf E (emitAll s o ps st) := by
  rw [emitAll_out]
  intro t ht
  simp only [List.mem_append, List.mem_reverse, List.mem_map] at ht
  rcases ht with ⟨p, hpm, rfl⟩ | ht
  · exact ⟨subj_term s, hp p hpm, ho⟩
  · exact h t ht

theorem propNamesGo_ok (E : Env) (types : List Bytes) (toks known : List Bytes) :
    ∀ p ∈ propNamesGo E types toks known, PredOk E p := by
  induction toks generalizing known with
  | nil => intro p hp; simp [propNamesGo] at hp
  | cons tok rest ih =>
    intro p hp
    unfold propNamesGo at hp
    split at hp
    · exact ih _ p hp
    · rename_i hne
      split at hp
      · exact ih _ p hp
      · split at hp
        · exact ih _ p hp
        · rename_i q hq
          simp only [List.mem_cons] at hp
          rcases hp with rfl | hp
          · refine Or.inr ⟨types, tok, ?_, hq⟩
            intro h0; apply hne; simp [h0]
          · exact ih _ p hp

theorem propNames_ok (E : Env) (types : List Bytes) (attr : Bytes) : ∀ p ∈ propNames E types attr, PredOk E p :=
  propNamesGo_ok E types _ []

theorem firstMap_wf (v : Bytes) (fs : List (Bytes → Option (Term Nat)))
    (h : ∀ f ∈ fs, ∀ v t, f v = some t → GoodLit t) : WfObj (firstMap v fs) := by
  induction fs with
  | nil => exact xsdString_good v
  | cons f fs ih =>
    unfold firstMap
    split
    · rename_i t ht
      have := h f (by simp) v t ht
      cases t with
      | lit l d g => exact this
      | iri _ => exact this.elim
      | bnode _ => exact this.elim
    · exact ih (fun g hg => h g (by simp [hg]))

theorem iriValue_wf (E : Env) (v : Bytes) : WfObj (iriValue E v) := by
  unfold iriValue; split <;> simp [WfObj]

theorem laxOrText_wf (E : Env) (n : Node) : WfObj (laxOrText E n).1 := by
  unfold laxOrText
  repeat' split
  all_goals exact xsdString_good _

theorem itemValue_wf (E : Env) (hE : MapsWf E) (n : Node) : WfObj (itemValue E n).1 := by
  unfold itemValue
  split
  -- by kind, then by whether the attribute is there: absent gives the empty string (`xsdString_good`), present a plain string
  -- (content, value), `iriValue` (src, href, data) or the first mapper that answers (meter, time); `time` without datetime and
  -- every other element read the text (`laxOrText_wf`)
  all_goals first
    | exact laxOrText_wf E n
    | (split
       all_goals first
         | exact xsdString_good _
         | exact iriValue_wf E _
         | exact laxOrText_wf E n
         | exact firstMap_wf _ _ (fun f hf => hE f (by simp [hf]))
      )

theorem linkItem_wf (E : Env) (ctx : Ctx) (a : ItemAttrs) (next : Subj) (st : St) (h : AllWf E st) :
    AllWf E (linkItem E ctx a next st) := by
  unfold linkItem
  split
  · split
    · exact h
    · exact emitAll_wf E _ _ _ st (subj_wfobj next) (propNames_ok E _ _) h
  · exact h

theorem propElem_wf (E : Env) (hE : MapsWf E) (ctx : Ctx) (n : Node) (a : ItemAttrs) (st : St) (h : AllWf E st) :
    AllWf E (propElem E ctx n a st) := by
  unfold propElem
  split
  · split
    · exact h
    · simp only
      apply emitAll_wf E _ _ _ _ (itemValue_wf E hE n) (propNames_ok E _ _)
      split <;> exact h
  · exact h

theorem emitTypes_wf (E : Env) (s : Subj) (toks : List Bytes) (hne : ∀ tok ∈ toks, tok ≠ []) (st : St) (h : AllWf E st) :
    AllWf E (emitTypes E s toks st).2 := by
  rw [emitTypes_out E s toks hne]
  intro t ht
  simp only [List.mem_append, List.mem_reverse, List.mem_map] at ht
  rcases ht with ⟨ty, _, rfl⟩ | ht
  · exact ⟨subj_term s, Or.inl rfl, by simp [WfObj]⟩
  · exact h t ht

end RdfModel.Mdd
